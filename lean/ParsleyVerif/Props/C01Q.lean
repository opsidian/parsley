/-
  C01Q — the CLOSED WORLD of the translated parser core: theorems about the hand-written model become theorems about the
  mechanically translated source.

  Props/C01P.lean ties each TRANSLATED combinator closure (Generated/FactsCore.lean, regenerated from /repo on every
  run) to the matching case of the model's interpreter `run` — IF the world's `parse` agrees with `run cfg fuel` on the
  operands THEN the translated closure agrees with `run cfg (fuel+1)` on the combinator node.  What C01P leaves open is
  the closed-world composition.  It is done here.

  THE WORLD (Proofs/CoreWorld.lean).  For a configuration `cfg` (rules `cfg.env`, file, parameters of the terminals) and a
  root parser `root`, `gWorld cfg root : Nat → World Context` is defined by recursion on the fuel FROM THE TRANSLATED CODE:

    * a parser handle `hdl π` encodes a path `π` into the finite table `root :: cfg.env` (`[0]` = the root = `rootH`,
      `[k+1]` = the rule `cfg.env[k]` = `refH k`, `π ++ [i]` = the i-th operand of the node at `π`);
    * `(gWorld cfg root (fuel+1)).parse (hdl π)` runs the translated closure of the combinator found at `π`
      (`node`: Optional_parse, Any_parse, Choice_parse, Memoize_parse, LeftTrim_parse, RightTrim_parse, ReturnError_parse,
      Single_parse, SuppressError_parse, Empty_parse, End_parse; for the Sequence family the translated `Sequence_Parse`
      with fuel 2·fuel − 1 on the struct built by the translated SeqOf / SeqTry / SeqFirstOrAll / Many / Many1 / SepBy /
      SepBy1 and the translated setters Token / Name / HandleResult(ReturnSingle()) / Bind) over `gWorld cfg root fuel` and
      the handles of the operands; `ref k` (a parser variable, through which the grammar's recursion goes) calls the
      handle `refH k` in `gWorld cfg root fuel`;
    * the only leaves taken from the model are the terminals (`Terminal.parse`: C08's subject) and the reader's functions
      (`WorldRel` holds by construction; C10P ties them to the translated reader);
    * fuel 0 = out of fuel; a handle that names nothing = a Go panic.

  COVERED: EVERY constructor of `G` (term, empty, eof, ref, memo, any, choice, seq with its three kinds and all options —
  hence `G.sentence` —, many, sepBy, optional, name, ltrim, rtrim, single, suppress), for every grammar that is `Closed`:
  every `ref k` in the root and in the rules has `k < cfg.env.length`.  The exclusion is necessary and is a difference of
  REPRESENTATION only: calling a nil parser variable is a Go panic in the translated program, while the model reports it
  as an error value of kind `.panic` (`c01q_dangling_ref`).  `cfg.maxCalls = 0`: the model's work budget is off (the Go
  code has none).
-/
import ParsleyVerif.Proofs.CoreWorldTie
import ParsleyVerif.Props.C01P
import ParsleyVerif.Props.C02U
import ParsleyVerif.Props.C05
namespace PV
open PV.CoreTie PV.FactsCore PV.CW PV.WFT

/-- **what the closed world is.**  On the handle of a path that leads to the sub-parser `g`, the world with fuel+1 runs
    `CW.node … g` over the world with fuel; `node` is, constructor by constructor, the translated closure of the
    combinator applied to the handles of the operands.  Fuel 0 answers "out of fuel"; a handle that is not a path of the
    table is a Go panic. -/
theorem c01q_world_step (cfg : Cfg) (root : G) (fuel : Nat) (π : List Nat) :
    let W := gWorld cfg root fuel
    (∀ g, resolve (table cfg root) π = some g → (gWorld cfg root (fuel + 1)).parse (hdl π) = node cfg W fuel π g) ∧
    (resolve (table cfg root) π = none → ∀ m pos s, (gWorld cfg root (fuel + 1)).parse (hdl π) m pos s = .panic) ∧
    (∀ p m pos s, (gWorld cfg root 0).parse p m pos s = .nofuel) ∧
    (∀ t, node cfg W fuel π (.term t) = Terminal_parse cfg t) ∧
    node cfg W fuel π .empty = Empty_parse W ∧
    node cfg W fuel π .eof =
      End_parse W (CorePrelude.errors_New (CorePrelude.Go.str "was expecting the end of input")) ∧
    (∀ k, node cfg W fuel π (.ref k) = W.parse (refH k)) ∧
    (∀ idx b, node cfg W fuel π (.memo idx b) = Memoize_parse W (kidH π 0) (idx : Int)) ∧
    (∀ gs, node cfg W fuel π (.any gs) = Any_parse W (kidsH π gs.length)) ∧
    (∀ gs, node cfg W fuel π (.choice gs) = Choice_parse W (kidsH π gs.length)) ∧
    (∀ b, node cfg W fuel π (.optional b) = Optional_parse W (kidH π 0)) ∧
    (∀ b nm, node cfg W fuel π (.name b nm) = ReturnError_parse W (kidH π 0) (CorePrelude.NotFoundError nm)) ∧
    (∀ b mode, node cfg W fuel π (.ltrim b mode) = LeftTrim_parse W (kidH π 0) (modeCode mode)) ∧
    (∀ b mode, node cfg W fuel π (.rtrim b mode) = RightTrim_parse W (kidH π 0) (modeCode mode)) ∧
    (∀ b, node cfg W fuel π (.single b) = Single_parse W (kidH π 0)) ∧
    (∀ b, node cfg W fuel π (.suppress b) = SuppressError_parse W (kidH π 0)) ∧
    (∀ gs o m pos, node cfg W fuel π (.seq .seqOf gs o) m pos = (do
        let oS ← SeqOf W (kidsH π gs.length)
        let S ← CorePrelude.Go.deref oS
        let S ← applyOpts W o S
        Sequence_Parse W (2 * fuel - 1) S m pos)) ∧
    (∀ gs o m pos, node cfg W fuel π (.seq .seqTry gs o) m pos = (do
        let oS ← SeqTry W (kidsH π gs.length)
        let S ← CorePrelude.Go.deref oS
        let S ← applyOpts W o S
        Sequence_Parse W (2 * fuel - 1) S m pos)) ∧
    (∀ gs o m pos, node cfg W fuel π (.seq .seqFirstOrAll gs o) m pos = (do
        let oS ← SeqFirstOrAll W (kidsH π gs.length)
        let S ← CorePrelude.Go.deref oS
        let S ← applyOpts W o S
        Sequence_Parse W (2 * fuel - 1) S m pos)) ∧
    (∀ b o m pos, node cfg W fuel π (.many b true o) m pos = (do
        let oS ← Many W (kidH π 0)
        let S ← CorePrelude.Go.deref oS
        let S ← applyOpts W o S
        Sequence_Parse W (2 * fuel - 1) S m pos)) ∧
    (∀ b o m pos, node cfg W fuel π (.many b false o) m pos = (do
        let oS ← Many1 W (kidH π 0)
        let S ← CorePrelude.Go.deref oS
        let S ← applyOpts W o S
        Sequence_Parse W (2 * fuel - 1) S m pos)) ∧
    (∀ v sp o m pos, node cfg W fuel π (.sepBy v sp true o) m pos = (do
        let oS ← SepBy W (kidH π 0) (kidH π 1)
        let S ← CorePrelude.Go.deref oS
        let S ← applyOpts W o S
        Sequence_Parse W (2 * fuel - 1) S m pos)) ∧
    (∀ v sp o m pos, node cfg W fuel π (.sepBy v sp false o) m pos = (do
        let oS ← SepBy1 W (kidH π 0) (kidH π 1)
        let S ← CorePrelude.Go.deref oS
        let S ← applyOpts W o S
        Sequence_Parse W (2 * fuel - 1) S m pos)) ∧
    (∀ (o : SeqOpts) (S : Sequence), applyOpts W o S = (do
        let S ← (match o.token with
          | some t => do let r ← Sequence_Token W S t; pure r.1
          | none => pure S)
        let S ← (match o.name with
          | some nm => do let r ← Sequence_Name W S nm; pure r.1
          | none => pure S)
        let S ← (if o.single then (do
            let h ← ReturnSingle W
            let r ← Sequence_HandleResult W S (some h)
            pure r.1) else pure S)
        let r ← Sequence_Bind W S (eInterp o.interp)
        pure r.1)) := by
  refine ⟨fun g h => gWorld_parse_succ cfg root fuel π g h, fun h m pos s => ?_, fun _ _ _ _ => rfl,
    fun _ => rfl, rfl, rfl, fun _ => rfl, fun _ _ => rfl, fun _ => rfl, fun _ => rfl, fun _ => rfl, fun _ _ => rfl,
    fun _ _ => rfl, fun _ _ => rfl, fun _ => rfl, fun _ => rfl, fun _ _ _ _ => rfl, fun _ _ _ _ => rfl,
    fun _ _ _ _ => rfl, fun _ _ _ _ => rfl, fun _ _ _ _ => rfl, fun _ _ _ _ _ => rfl, fun _ _ _ _ _ => rfl, fun _ _ => rfl⟩
  show dispatch cfg root (gWorld cfg root fuel) fuel (hdl π) m pos s = _
  simp only [dispatch, hdl, Encodable.encodek, h]
  rfl

/-- **C01Q, closed world.**  For every configuration without work budget and every closed grammar (root + rules), at every
    fuel: the reader of `gWorld` is the model's file; the world's `parse` on the root handle agrees with `run cfg fuel root`,
    on the handle of the parser variable `k` with `run` on the rule `k`, and on the handle of ANY path with `run` on the
    sub-parser the path leads to. -/
theorem c01q_closed_world (cfg : Cfg) (h0 : cfg.maxCalls = 0) (root : G) (hc : Closed cfg root) (fuel : Nat) :
    WorldRel (gWorld cfg root fuel) cfg ∧
    Agrees (gWorld cfg root fuel) cfg fuel rootH root ∧
    (∀ k g, cfg.env[k]? = some g → Agrees (gWorld cfg root fuel) cfg fuel (refH k) g) ∧
    (∀ π g, resolve (table cfg root) π = some g → Agrees (gWorld cfg root fuel) cfg fuel (hdl π) g) :=
  ⟨gWorld_rel cfg root fuel, gWorld_root cfg h0 root hc fuel,
   fun k g hk => gWorld_agrees cfg h0 root hc fuel [k + 1] g (resolve_ref cfg root k g hk),
   gWorld_agrees cfg h0 root hc fuel⟩

/-- … spelled out: the outcome of the translated call corresponds (`Corr`: out of fuel on both sides, or the embedded
    (node, curtailing set, error) triple in a related state) to the outcome of `run` -/
theorem c01q_closed_world_run (cfg : Cfg) (h0 : cfg.maxCalls = 0) (root : G) (hc : Closed cfg root) (fuel : Nat)
    (m : IntMap) (c : Ctx) (pos : Nat) (s : Context) (st : St) (hm : CtxRel m c) (hs : StRel s st) :
    match run cfg fuel root c pos st with
    | none => (gWorld cfg root fuel).parse rootH m (pos : Int) s = .nofuel
    | some (o, st') => ∃ s', (gWorld cfg root fuel).parse rootH m (pos : Int) s = .ok (eOut o) s' ∧ StRel s' st' :=
  gWorld_root cfg h0 root hc fuel m c pos s st hm hs

/-- the step of the induction, in ANY world: `c01_translated_core` and `c01p_sequence_family` for all constructors at once -/
theorem c01q_step (W : World Context) (cfg : Cfg) (h0 : cfg.maxCalls = 0) (hw : WorldRel W cfg) (fuel : Nat)
    (π : List Nat) (g : G)
    (hkids : ∀ i k, (kids g)[i]? = some k → Agrees W cfg fuel (kidH π i) k)
    (href : ∀ k, g = .ref k → ∃ g', cfg.env[k]? = some g' ∧ Agrees W cfg fuel (refH k) g') :
    AgreesF (node cfg W fuel π g) cfg (fuel + 1) g :=
  node_agrees W cfg h0 hw fuel π g hkids href

/-- `Closed` is decidable by a structural checker -/
theorem c01q_closed_check (cfg : Cfg) (root : G) (h : closedB cfg.env root = true) : Closed cfg root :=
  closedB_sound cfg root h

/-- **why a dangling `ref` is excluded** (a difference of representation): with no rule 0, the parser variable `ref 0` is
    nil; the translated program PANICS when it is called, the model reports an error VALUE of kind `.panic` -/
theorem c01q_dangling_ref (cfg : Cfg) (h0 : cfg.maxCalls = 0) (henv : cfg.env = []) (fuel : Nat) (m : IntMap) (c : Ctx)
    (pos : Nat) (s : Context) (st : St) :
    (gWorld cfg (.ref 0) (fuel + 2)).parse rootH m (pos : Int) s = .panic ∧
    run cfg (fuel + 2) (.ref 0) c pos st = some (⟨.nil, [], some ⟨pos, .panic (tokOf "nil parser")⟩⟩, st) ∧
    ¬ Closed cfg (.ref 0) := by
  refine ⟨?_, ?_, fun hc => ?_⟩
  · have h1 := gWorld_parse_succ cfg (.ref 0) (fuel + 1) [0] (.ref 0) (resolve_root cfg _)
    have h2 : resolve (table cfg (.ref 0)) [0 + 1] = none := by simp [resolve, table, henv]
    show (gWorld cfg (.ref 0) (fuel + 1 + 1)).parse (hdl [0]) m (pos : Int) s = .panic
    rw [h1]
    exact (c01q_world_step cfg (.ref 0) fuel [0 + 1]).2.1 h2 m pos s
  · rw [run_succ0 h0]
    simp [runStep, henv]
  · have := G.All_self hc.root 0 rfl
    simp [henv] at this

/-- **parsley.Parse**, translated, over the closed world on the root handle IS the model's `parse`: same node, the error
    the model chooses (rendered symbolically, `eParseErr`), related final states; out of fuel exactly when the model is -/
theorem c01q_parse (cfg : Cfg) (h0 : cfg.maxCalls = 0) (root : G) (hc : Closed cfg root) (fuel : Nat)
    (s : Context) (st : St) (hs : StRel s st) :
    match parse cfg fuel root st with
    | none => Parse (gWorld cfg root fuel) rootH s = .nofuel
    | some po => ∃ s', Parse (gWorld cfg root fuel) rootH s = .ok (eRes po.res, eParseErr po.err) s' ∧ StRel s' po.st :=
  c01p_parse (gWorld cfg root fuel) cfg (gWorld_rel cfg root fuel) fuel rootH root
    (c01q_closed_world cfg h0 root hc fuel).2.1 s st hs

/-! Theorems of the model, transferred to the translated program.  The statements below mention the translated `Parse`,
    the world `gWorld` and the translated context only.
    `WellFormedCtx s` says that `s` is a context the translated program can be in: a fresh one (`exState`, what
    parsley.NewContext makes) or any one related to some state of the model. -/

/-- a translated context that shows some model state (call count, furthest error, result cache) -/
def CW.WellFormedCtx (s : Context) : Prop := ∃ st : St, StRel s st

theorem c01q_fresh_wellFormed : WellFormedCtx exState := ⟨{}, exState_rel⟩

/-! The transfers, for ANY family of worlds `Wf` whose reader is the model's file and whose `parse` agrees with `run` on the
    handle `p` of the root (`gWorld` here, `gWorldT` in Props/C01R.lean): each is `CoreTie.Parse_inv` and a theorem of the model. -/

theorem Transfer.no_panic {Wf : Nat → World Context} {cfg : Cfg} {p : Parser} {root : G}
    (hw : ∀ fuel, WorldRel (Wf fuel) cfg) (hp : ∀ fuel, Agrees (Wf fuel) cfg fuel p root)
    (fuel : Nat) (s : Context) (hs : WellFormedCtx s) : Parse (Wf fuel) p s ≠ .panic := by
  obtain ⟨st, hst⟩ := hs
  exact (Parse_inv (hw fuel) (hp fuel) hst).1

theorem Transfer.xor {Wf : Nat → World Context} {cfg : Cfg} {p : Parser} {root : G}
    (hw : ∀ fuel, WorldRel (Wf fuel) cfg) (hp : ∀ fuel, Agrees (Wf fuel) cfg fuel p root)
    (fuel : Nat) (s : Context) (hs : WellFormedCtx s) (n : CNode) (e : CCause) (s' : Context)
    (h : Parse (Wf fuel) p s = .ok (n, e) s') :
    (n.isNil = false ∧ e.isNil = true) ∨ (n.isNil = true ∧ e.isNil = false) := by
  obtain ⟨st, hst⟩ := hs
  obtain ⟨po, hq, rfl, rfl, -⟩ := (Parse_inv (hw fuel) (hp fuel) hst).2.2 n e s' h
  rcases c04_xor cfg fuel root st po hq with ⟨a, b, -⟩ | ⟨a, b, -⟩
  · left; rw [eRes_isNil, a, b]; exact ⟨rfl, rfl⟩
  · right
    rw [eRes_isNil, a]
    cases he : po.err with
    | none => simp [he] at b
    | some er => exact ⟨rfl, rfl⟩

theorem Transfer.terminates {Wf : Nat → World Context} {cfg : Cfg} {p : Parser} {root : G}
    (hw : ∀ fuel, WorldRel (Wf fuel) cfg) (hp : ∀ fuel, Agrees (Wf fuel) cfg fuel p root)
    (h0 : cfg.maxCalls = 0) (rx : Nat → Bool) (cert : WFCert) (hwf : wfT rx cert cfg.env root = true)
    (hrx : RxSound rx cfg.params) :
    ∃ F, ∀ fuel, F ≤ fuel → ∃ n e s', Parse (Wf fuel) p exState = .ok (n, e) s' := by
  obtain ⟨F, hF⟩ := c02u_terminates_parse rx cert cfg root hwf h0 hrx
  refine ⟨F, fun fuel hle => ?_⟩
  obtain ⟨po, hq⟩ := Option.isSome_iff_exists.1 (hF fuel hle)
  obtain ⟨s', e, -⟩ := (Parse_inv (hw fuel) (hp fuel) exState_rel).2.1 po hq
  exact ⟨_, _, s', e⟩

theorem Transfer.fuel_mono {Wf : Nat → World Context} {cfg : Cfg} {p : Parser} {root : G}
    (hw : ∀ fuel, WorldRel (Wf fuel) cfg) (hp : ∀ fuel, Agrees (Wf fuel) cfg fuel p root)
    (f1 f2 : Nat) (hle : f1 ≤ f2) (s : Context) (hs : WellFormedCtx s) (n : CNode) (e : CCause)
    (s1 : Context) (h : Parse (Wf f1) p s = .ok (n, e) s1) : ∃ s2, Parse (Wf f2) p s = .ok (n, e) s2 := by
  obtain ⟨st, hst⟩ := hs
  obtain ⟨po, hq, rfl, rfl, -⟩ := (Parse_inv (hw f1) (hp f1) hst).2.2 n e s1 h
  obtain ⟨s2, e2, -⟩ := (Parse_inv (hw f2) (hp f2) hst).2.1 po (parse_mono cfg f1 f2 hle root st po hq)
  exact ⟨s2, e2⟩

theorem Transfer.sound {Wf : Nat → World Context} {cfg : Cfg} {p : Parser} {root : G}
    (hw : ∀ fuel, WorldRel (Wf fuel) cfg) (hp : ∀ fuel, Agrees (Wf fuel) cfg fuel p root)
    (bodyOf : Nat → G) (henv : ∀ g' ∈ cfg.env, GOK bodyOf g') (hg : GOK bodyOf root) (fuel : Nat)
    (n : CNode) (e : CCause) (s' : Context) (h : Parse (Wf fuel) p exState = .ok (n, e) s') :
    ∃ r : Res, n = eRes r ∧ ∀ x ∈ r.alts, Derives cfg root (cfg.file.pos 0) x := by
  obtain ⟨po, hq, hn, -, -⟩ := (Parse_inv (hw fuel) (hp fuel) exState_rel).2.2 n e s' h
  exact ⟨po.res, hn, c01_sound_parse cfg bodyOf henv fuel root hg po hq⟩

/-- **no panic**: on a closed grammar the translated `Parse` never panics — no nil parser is called, no nil map is written,
    no index is out of range, no nil error is asked for its position, at any fuel, from any well-formed context -/
theorem c01q_no_panic (cfg : Cfg) (h0 : cfg.maxCalls = 0) (root : G) (hc : Closed cfg root) (fuel : Nat)
    (s : Context) (hs : WellFormedCtx s) : Parse (gWorld cfg root fuel) rootH s ≠ .panic :=
  Transfer.no_panic (gWorld_rel cfg root) (gWorld_root cfg h0 root hc) fuel s hs

/-- **C04 (node xor error), of the translated program**: whenever the translated `Parse` answers, it returns either a
    non-nil node and a nil error, or a nil node and a non-nil error -/
theorem c01q_xor (cfg : Cfg) (h0 : cfg.maxCalls = 0) (root : G) (hc : Closed cfg root) (fuel : Nat)
    (s : Context) (hs : WellFormedCtx s) (n : CNode) (e : CCause) (s' : Context)
    (h : Parse (gWorld cfg root fuel) rootH s = .ok (n, e) s') :
    (n.isNil = false ∧ e.isNil = true) ∨ (n.isNil = true ∧ e.isNil = false) :=
  Transfer.xor (gWorld_rel cfg root) (gWorld_root cfg h0 root hc) fuel s hs n e s' h

/-- **C02 (termination), of the translated program**: for a grammar certified by `wfT` (Spec/WFTrim.lean: every
    left-recursive cycle goes through a Memoize, no Many / SepBy over a nullable operand; `rx` says which Regexp
    terminals may match the empty string, `RxSound`) there is a fuel from which on the translated `Parse`, from a fresh
    context, ANSWERS — it does not return `nofuel` (nor panics) -/
theorem c01q_terminates (rx : Nat → Bool) (cert : WFCert) (cfg : Cfg) (h0 : cfg.maxCalls = 0) (root : G)
    (hc : Closed cfg root) (hwf : wfT rx cert cfg.env root = true) (hrx : RxSound rx cfg.params) :
    ∃ F, ∀ fuel, F ≤ fuel → ∃ n e s', Parse (gWorld cfg root fuel) rootH exState = .ok (n, e) s' :=
  Transfer.terminates (gWorld_rel cfg root) (gWorld_root cfg h0 root hc) h0 rx cert hwf hrx

/-- … with every Regexp treated as nullable: no hypothesis on the regexp engine, ParseFloat, ParseDuration or the file -/
theorem c01q_terminates_any_engine (cert : WFCert) (cfg : Cfg) (h0 : cfg.maxCalls = 0) (root : G)
    (hc : Closed cfg root) (hwf : wfT rxAll cert cfg.env root = true) :
    ∃ F, ∀ fuel, F ≤ fuel → ∃ n e s', Parse (gWorld cfg root fuel) rootH exState = .ok (n, e) s' :=
  c01q_terminates rxAll cert cfg h0 root hc hwf (rxSound_all cfg.params)

/-- **the fuel is not observable**: once the translated `Parse` answers, every larger fuel gives the same node and error -/
theorem c01q_fuel_mono (cfg : Cfg) (h0 : cfg.maxCalls = 0) (root : G) (hc : Closed cfg root) (f1 f2 : Nat)
    (hle : f1 ≤ f2) (s : Context) (hs : WellFormedCtx s) (n : CNode) (e : CCause) (s1 : Context)
    (h : Parse (gWorld cfg root f1) rootH s = .ok (n, e) s1) :
    ∃ s2, Parse (gWorld cfg root f2) rootH s = .ok (n, e) s2 :=
  Transfer.fuel_mono (gWorld_rel cfg root) (gWorld_root cfg h0 root hc) f1 f2 hle s hs n e s1 h

/-- **C01 soundness, of the translated program**: every tree the translated `Parse` returns from a fresh context — the
    node itself, or each element of the returned ast.NodeList — is the image of a tree that the grammar DERIVES
    (`Derives`, Spec/Derives.lean: the declarative meaning of the combinators) from the root at the start of the file.
    `GOK bodyOf`: the scope of `c01_sound` (each Memoize index wraps one parser, …). -/
theorem c01q_sound (cfg : Cfg) (h0 : cfg.maxCalls = 0) (root : G) (hc : Closed cfg root) (bodyOf : Nat → G)
    (henv : ∀ g' ∈ cfg.env, GOK bodyOf g') (hg : GOK bodyOf root) (fuel : Nat) (n : CNode) (e : CCause) (s' : Context)
    (h : Parse (gWorld cfg root fuel) rootH exState = .ok (n, e) s') :
    ∃ r : Res, n = eRes r ∧ ∀ x ∈ r.alts, Derives cfg root (cfg.file.pos 0) x :=
  Transfer.sound (gWorld_rel cfg root) (gWorld_root cfg h0 root hc) bodyOf henv hg fuel n e s' h

theorem c01q_arith_closed (cfg : Cfg) (henv : cfg.env = Garith.env) : Closed cfg Garith.root :=
  closedB_sound cfg Garith.root (by rw [henv]; decide)

/-- **the arithmetic grammar** (`Garith`, Spec/Arith.lean: expr / term left-recursive through Memoize, factor with
    parentheses, the root a Sentence) as handles over `gWorld`, for EVERY input file: the grammar is closed; the translated
    world agrees with `run` on the root and on the three rules at every fuel; the translated `Parse` is the model's; it
    never panics; from some fuel on it answers; every answer is a node xor an error; every returned tree is (the image
    of) `Sentence[e, EOF]` with `e` an expression tree that ends at the end of the input. -/
theorem c01q_arith (cfg : Cfg) (henv : cfg.env = Garith.env) (h0 : cfg.maxCalls = 0) :
    Closed cfg Garith.root ∧
    (∀ fuel, Agrees (gWorld cfg Garith.root fuel) cfg fuel rootH Garith.root ∧
      Agrees (gWorld cfg Garith.root fuel) cfg fuel (refH 0) Garith.expr ∧
      Agrees (gWorld cfg Garith.root fuel) cfg fuel (refH 1) Garith.term ∧
      Agrees (gWorld cfg Garith.root fuel) cfg fuel (refH 2) Garith.factor) ∧
    (∀ fuel, Parse (gWorld cfg Garith.root fuel) rootH exState ≠ .panic) ∧
    (∃ F, ∀ fuel, F ≤ fuel → ∃ n e s', Parse (gWorld cfg Garith.root fuel) rootH exState = .ok (n, e) s') ∧
    (∀ fuel n e s', Parse (gWorld cfg Garith.root fuel) rootH exState = .ok (n, e) s' →
      ((n.isNil = false ∧ e.isNil = true) ∨ (n.isNil = true ∧ e.isNil = false)) ∧
      ∃ r : Res, n = eRes r ∧
        ∀ x ∈ r.alts, ∃ t, IsExprTree cfg.file t ∧ Text.isEOF cfg.file t.rpos = true ∧ x = sentenceNode t) := by
  have hc := c01q_arith_closed cfg henv
  have hok : ∀ g' ∈ cfg.env, GOK Garith.bodyOf g' := by rw [henv]; exact c05_grammar_ok.1
  refine ⟨hc, fun fuel => ?_, fun fuel => c01q_no_panic cfg h0 _ hc fuel _ c01q_fresh_wellFormed, ?_, fun fuel n e s' h => ?_⟩
  · obtain ⟨-, hr, hk, -⟩ := c01q_closed_world cfg h0 Garith.root hc fuel
    exact ⟨hr, hk 0 _ (by rw [henv]; rfl), hk 1 _ (by rw [henv]; rfl), hk 2 _ (by rw [henv]; rfl)⟩
  · exact c01q_terminates_any_engine C02UNV.arithCert cfg h0 Garith.root hc (by rw [henv]; exact C02UNV.wfT_arith)
  · refine ⟨c01q_xor cfg h0 _ hc fuel _ c01q_fresh_wellFormed n e s' h, ?_⟩
    obtain ⟨r, hn, hd⟩ := c01q_sound cfg h0 _ hc Garith.bodyOf hok c05_grammar_ok.2 fuel n e s' h
    exact ⟨r, hn, fun x hx => c05_tree_shape cfg henv _ x (hd x hx)⟩

/-! ### TESTS (evaluated by the compiler — not proofs): the translated program RUNS

    `Data.IntSet_Union` and `cpUnion` are defined by well-founded recursion, so the kernel cannot evaluate Any / Choice;
    the compiled code can.  On "1+2*3" the translated `Parse` over `gWorld` returns the tree of 1+(2*3) after 204 calls of
    `RegisterCall` — node, error and call count are the model's (as `c01q_parse` proves for every input). -/

namespace CW

/-- the arithmetic rules over a file -/
def arithCfg (data : Text.Bytes) : Cfg :=
  { env := Garith.env, file := { name := "f", data := data, offset := 1 }, fileSet := {},
    params := { floatOk := fun _ => true, durErr := fun _ => none, regexp := fun _ _ => none } }

mutual
/-- a serialisation of translated nodes (they have no decidable equality) -/
def flat : CNode → List Int
  | .nil => [0]
  | .empty p => [1, p]
  | .eof p => [2, p]
  | .list l => 3 :: flatL l ++ [-1]
  | .nonterm t c p r i => 4 :: (t.length : Int) :: t.map Int.ofNat ++ p :: r :: (i.length : Int) :: i ++ flatL c ++ [-1]
  | .leaf t v p r => 5 :: (t.length : Int) :: t.map Int.ofNat ++ p :: r :: (v.length : Int) :: v
def flatL : List CNode → List Int
  | [] => []
  | n :: r => flat n ++ flatL r
end

/-- translated `Parse` over `gWorld` vs. the model's `parse`: same node, same error, same call count (or both out of fuel) -/
def sameAnswer (cfg : Cfg) (root : G) (fuel : Nat) : Bool :=
  match Parse (gWorld cfg root fuel) rootH exState, parse cfg fuel root with
  | .ok (n, e) s', some po =>
    flat n == flat (eRes po.res) && decide (e = eParseErr po.err) && decide (s'.callCount = (po.st.calls : Int))
  | .nofuel, none => true
  | _, _ => false

/-- the translated `Parse` answers with a node -/
def answersNode (cfg : Cfg) (root : G) (fuel : Nat) : Bool :=
  match Parse (gWorld cfg root fuel) rootH exState with
  | .ok (n, e) _ => !n.isNil && e.isNil
  | _ => false

/-- the translated `Parse` answers with an error -/
def answersErr (cfg : Cfg) (root : G) (fuel : Nat) : Bool :=
  match Parse (gWorld cfg root fuel) rootH exState with
  | .ok (n, e) _ => n.isNil && !e.isNil
  | _ => false

end CW

example (data : Text.Bytes) : (CW.arithCfg data).env = Garith.env ∧ (CW.arithCfg data).maxCalls = 0 := ⟨rfl, rfl⟩

-- "1+2*3": a tree; " ( 1 + 2 ) * 3 ": a tree; "1+": an error; fuel 10: out of fuel on both sides
#guard CW.answersNode (CW.arithCfg [49, 43, 50, 42, 51]) Garith.root 200
#guard CW.sameAnswer (CW.arithCfg [49, 43, 50, 42, 51]) Garith.root 200
#guard CW.answersNode (CW.arithCfg [32, 40, 32, 49, 32, 43, 32, 50, 32, 41, 32, 42, 32, 51, 32]) Garith.root 300
#guard CW.sameAnswer (CW.arithCfg [32, 40, 32, 49, 32, 43, 32, 50, 32, 41, 32, 42, 32, 51, 32]) Garith.root 300
#guard CW.answersErr (CW.arithCfg [49, 43]) Garith.root 200
#guard CW.sameAnswer (CW.arithCfg [49, 43]) Garith.root 200
#guard CW.sameAnswer (CW.arithCfg [49, 43, 50, 42, 51]) Garith.root 10

end PV
