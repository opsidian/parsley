/-
  C11P — the file set of parsley/file_set.go and text/position.go `Position.String`, about the functions TRANSLATED from
  the Go source.

  `factgen -out-prog` translates `NewFileSet`, `(*FileSet).AddFile`, `(*FileSet).Position` and `Position.String`
  statement by statement into Lean (Generated/FactsProg.lean, regenerated on every run; run-time
  Generated/ProgPrelude.lean).  The methods these functions call on the interface parsley.File (`SetOffset`, `Len`,
  `Position`) are dispatched to the translated methods of text.File — the one implementation the model has; `fs.files`
  is an owned list of file structs (struct pointers are owned values in this translation: the caller's view of a file
  after AddFile is the set's copy, `FS'.files`' last element); `AddFile(nil)` (the documented panic) is outside: the
  translated function takes a file.

  `FSRel st FS fs` (Proofs/TxtTieFileSet.lean): the translated set `FS`, read in state `st`, shows the model set `fs`
  (same `pos`; the offset slice reads as the model's offsets; files related one by one by `FileOk` = `FileRel` + the
  line cache absent or the model's line table; no file array is the offset slice's array).  `posObj` (Proofs/ProgTieText)
  says which opaque interface value stands for which model answer.  `c11_translated_functions` is the tie;
  `c11p_roundtrip`, `c11p_unknown` restate C11's statements (`c11_roundtrip`, `c11_unknown`, `c11_nopanic`) about the
  translated `Position` on every set built by the translated `NewFileSet` / `AddFile`.

  `(*FileSet).ErrorWithPosition` — the caller of `fs.Position`, the NilPosition answer and `Position.String` — is
  translated as well (progerr.go: error values observed through `Pos()` / `Error()`, fmt.Errorf as the formatted text, the
  call `pos.String()` dispatched on the dynamic type); its tie to the model's `errorWithPosition` is Props/C06Q.lean.
-/
import ParsleyVerif.Proofs.TxtTieFileSet
import ParsleyVerif.Props.C11
namespace PV.TxtTie
open PV.ProgPrelude PV.FactsProg PV.ProgTie

def c11pFunctions : List String := ["FileSet_AddFile", "FileSet_Position", "NewFileSet", "Position_String"]

/-- **The tie.**  Every file-set function asked for is translated and computes what the model computes. -/
theorem c11_translated_functions :
    c11pFunctions.all (fun f => FactsProg.translatedProg.contains f) = true ∧
    -- AddFile
    (∀ (st : ProgPrelude.St) (FS : FactsProg.FileSet) (fs : Text.FileSet) (F : FactsProg.File) (f : Text.File),
      FSRel st FS fs → FileOk st F f → Apart FS.offset.arr F →
      ∃ (FS' : FactsProg.FileSet) (st' : ProgPrelude.St),
        FileSet_AddFile FS F st = .ok FS' st' ∧ FSRel st' FS' (fs.addFile f).1 ∧ Only FS.offset.arr st st' ∧
        FS'.files = FS.files ++ [{ F with offset := FS.pos }]) ∧
    -- Position
    (∀ (st : ProgPrelude.St) (FS : FactsProg.FileSet) (fs : Text.FileSet) (p : Nat), FSRel st FS fs →
      (fs.position p = .panic → FileSet_Position FS p st = .panic) ∧
      (fs.position p ≠ .panic → ∃ (FS' : FactsProg.FileSet) (st' : ProgPrelude.St),
        FileSet_Position FS p st = .ok (FS', posObj (fs.position p)) st' ∧ FSRel st' FS' fs ∧
        Keeps st.arrays.length st st')) ∧
    -- NewFileSet
    (∀ (st : ProgPrelude.St) (Fs : List FactsProg.File) (fl : List Text.File), FilesRel st Fs fl →
      ∃ (FS : FactsProg.FileSet) (st' : ProgPrelude.St),
        NewFileSet Fs st = .ok FS st' ∧ FSRel st' FS (Text.buildFS fl) ∧ Keeps st.arrays.length st st') ∧
    -- Position.String
    (∀ (st : ProgPrelude.St) (name : String) (l c : Nat),
      Position_String { Filename := name, Line := l, Column := c } st =
        .ok (Go.lit (Text.PosResult.render (.at_ name l c))) st) :=
  ⟨by decide +kernel,
   fun st FS fs F f r ok ap => by
     obtain ⟨FS', st', a, b, c, d, _⟩ := (tie_AddFile st FS fs r F f ok ap).ok
     exact ⟨FS', st', a, b, c, d⟩,
   fun st FS fs p r => tie_FSPosition st FS fs r p,
   fun st Fs fl h => tie_NewFileSet st Fs fl h,
   fun st name l c => tie_PositionString st name l c⟩

/-- **round trip, about the translated code**: on a set that shows `buildFS files` (for instance the one the translated
    `NewFileSet` returns, `c11p_newFileSet`), the translated `Position` of every global position from a file's first byte
    through its end-of-file position answers that file's name and the line and column of the specification; the set
    stays related and nothing that existed is written -/
theorem c11p_roundtrip (st : ProgPrelude.St) (FS : FactsProg.FileSet) (files : List Text.File)
    (r : FSRel st FS (Text.buildFS files)) (i : Nat) (g : Text.File) (off : Nat)
    (hg : (Text.buildFS files).files[i]? = some g) (hoff : off ≤ g.len) :
    ∃ (FS' : FactsProg.FileSet) (st' : ProgPrelude.St),
      FileSet_Position FS (g.pos off) st =
        .ok (FS', .mk "text.Position" [((Text.lineCol g.data off).1 : Int), ((Text.lineCol g.data off).2 : Int)] [g.name] []) st' ∧
      FSRel st' FS' (Text.buildFS files) ∧ Keeps st.arrays.length st st' := by
  have hm := Text.c11_roundtrip files i g off hg hoff
  obtain ⟨FS', st', e, r', k⟩ := (tie_FSPosition st FS _ r (g.pos off)).2 (by rw [hm]; intro h; cases h)
  rw [hm] at e
  exact ⟨FS', st', e, r', k⟩

/-- … and `String()` of that answer is "name:line:column" ("line:column" for the empty name), as bytes -/
theorem c11p_roundtrip_string (st : ProgPrelude.St) (g : Text.File) (off : Nat) :
    Position_String { Filename := g.name, Line := ((Text.lineCol g.data off).1 : Int), Column := ((Text.lineCol g.data off).2 : Int) } st =
      .ok (Go.lit (if g.name ≠ "" then s!"{g.name}:{(Text.lineCol g.data off).1}:{(Text.lineCol g.data off).2}"
                    else s!"{(Text.lineCol g.data off).1}:{(Text.lineCol g.data off).2}")) st := by
  rw [tie_PositionString]
  rfl

/-- **unknown and no panic, about the translated code**: on such a set the translated `Position` never panics, for any
    position at all, and answers NilPosition exactly for position 0 and everything from `fs.pos` on -/
theorem c11p_unknown (st : ProgPrelude.St) (FS : FactsProg.FileSet) (files : List Text.File)
    (r : FSRel st FS (Text.buildFS files)) (p : Nat) :
    ∃ (FS' : FactsProg.FileSet) (o : Obj) (st' : ProgPrelude.St),
      FileSet_Position FS p st = .ok (FS', o) st' ∧ FSRel st' FS' (Text.buildFS files) ∧
      o = posObj ((Text.buildFS files).position p) ∧
      ((Text.buildFS files).position p = .unknown ↔ p = 0 ∨ (Text.buildFS files).pos ≤ p) := by
  obtain ⟨FS', st', e, r', _⟩ := (tie_FSPosition st FS _ r p).2 (Text.c11_nopanic files p)
  exact ⟨FS', _, st', e, r', rfl, Text.c11_unknown files p⟩

/-- the translated `NewFileSet` on translated files that show the model files returns a set that shows `buildFS files` -/
theorem c11p_newFileSet (st : ProgPrelude.St) (Fs : List FactsProg.File) (files : List Text.File) (h : FilesRel st Fs files) :
    ∃ (FS : FactsProg.FileSet) (st' : ProgPrelude.St),
      NewFileSet Fs st = .ok FS st' ∧ FSRel st' FS (Text.buildFS files) ∧ Keeps st.arrays.length st st' :=
  tie_NewFileSet st Fs files h

/-! non-vacuity: two files ("a\nb" named "x", and the empty file named "") in a concrete state; the translated
    NewFileSet, then Position of every global position 0 … 7 and `String()` of an answer, evaluated by the kernel -/

def c11pSt : ProgPrelude.St := { arrays := [[97, 10, 98], []], maps := [], grow := fun c => 2 * c + 1 }
def c11pF1 : FactsProg.File := { filename := "x", data := { arr := 0, off := 0, len := 3, cap := 3 }, lines := Go.nilSl, len := 3, offset := 1 }
def c11pF2 : FactsProg.File := { filename := "", data := { arr := 1, off := 0, len := 0, cap := 0 }, lines := Go.nilSl, len := 0, offset := 1 }
def c11pf1 : Text.File := { name := "x", data := [97, 10, 98], offset := 1 }
def c11pf2 : Text.File := { name := "", data := [], offset := 1 }

theorem c11p_example_rel : FilesRel c11pSt [c11pF1, c11pF2] [c11pf1, c11pf2] := by
  refine FilesRel.cons_iff.mpr ⟨⟨⟨by decide, rfl, rfl, rfl, rfl⟩, Or.inl rfl, by decide, fun h => by cases h⟩,
    FilesRel.cons_iff.mpr ⟨⟨⟨by decide, rfl, rfl, rfl, rfl⟩, Or.inl rfl, by decide, fun h => by cases h⟩, FilesRel.nil _⟩⟩

def c11pAnswers : List (String × List Int × List String) :=
  match NewFileSet [c11pF1, c11pF2] c11pSt with
  | .ok FS st =>
    (List.range 8).map (fun (p : Nat) => match FileSet_Position FS (p : Int) st with
      | .ok (_, .mk tag ints strs _) _ => (tag, ints, strs)
      | _ => ("panic", [], []))
  | _ => []

theorem c11p_example :
    c11pAnswers =
      [("parsley.nilPosition", [0], []),
       ("text.Position", [1, 1], ["x"]), ("text.Position", [1, 2], ["x"]), ("text.Position", [2, 1], ["x"]),
       ("text.Position", [2, 2], ["x"]),
       ("text.Position", [1, 1], [""]),
       ("parsley.nilPosition", [0], []), ("parsley.nilPosition", [0], [])] ∧
    (match Position_String { Filename := "x", Line := 2, Column := 1 } c11pSt with | .ok s _ => s | _ => []) =
      [120, 58, 50, 58, 49] ∧
    (match Position_String { Filename := "", Line := 12, Column := 3 } c11pSt with | .ok s _ => s | _ => []) =
      [49, 50, 58, 51] := by
  decide +kernel

/-! ### text.NewFile (text/file.go), translated

  `NewFile(filename, data)` is translated like the functions above (`FactsProg.NewFile`): `bytes.Replace(data, "\r\n", "\n",
  -1)` is the prelude's general replacement primitive `Go.bytesReplaceAll` (every non-overlapping occurrence from the left,
  the result in a fresh array), the struct literal gets Go's zero values for the fields it does not mention (`lines` nil,
  `len` 0), `f.len = len(f.data)` is a field write of the local struct; the parameter `filename` is only stored, so it is
  text (a Lean `String`, like the field it goes to). -/

/-- **NewFile, about the translated code**: for every heap state, every name and every data slice of that state (a header
    into an existing array, or an empty slice — nil included) showing the bytes `raw`, the translated `NewFile` answers (no
    panic) a file that shows the model's `Text.newFile name raw` (`FileOk`: its data reads as `normCRLF raw`, `len` is
    that many, `offset` is `Facts.newFileOffset`, the name is kept, the line cache is absent), the fields spelled out; every
    array that existed is unchanged (`Keeps`), and the data is a fresh array (or the nil slice, when `raw` is empty) -/
theorem c11p_newFile :
    FactsProg.translatedProg.contains "NewFile" = true ∧
    ∀ (st : ProgPrelude.St) (name : String) (D : ProgPrelude.Sl) (raw : List Nat),
      view st D = ints raw → (D.arr < st.arrays.length ∨ D.len = 0) →
      ∃ (F : FactsProg.File) (st' : ProgPrelude.St),
        NewFile name D st = .ok F st' ∧ FileOk st' F (Text.newFile name raw) ∧ F.lines = Go.nilSl ∧
        F.offset = (Facts.newFileOffset : Int) ∧ F.filename = name ∧
        view st' F.data = ints (Text.normCRLF raw) ∧ F.len = ((Text.normCRLF raw).length : Int) ∧
        Keeps st.arrays.length st st' ∧ (F.data.isNil = true ∨ st.arrays.length ≤ F.data.arr) :=
  ⟨by decide +kernel, fun st name D raw hv hD => tie_NewFile st name D raw hv hD⟩

/-- the prelude's general replacement, at old = "\r\n" and new = "\n", is the model's normalisation -/
theorem c11p_replace_is_normCRLF (raw : List Nat) :
    ProgPrelude.replaceAll [13, 10] [10] 0 (ints raw) = ints (Text.normCRLF raw) :=
  replaceAll_crlf raw

/-- … and a file made by the translated `NewFile` can be handed to the translated `NewFileSet` (`c11p_newFileSet`) -/
theorem c11p_newFile_filesRel (st : ProgPrelude.St) (name : String) (D : ProgPrelude.Sl) (raw : List Nat)
    (hv : view st D = ints raw) (hD : D.arr < st.arrays.length ∨ D.len = 0) :
    ∃ (F : FactsProg.File) (st' : ProgPrelude.St),
      NewFile name D st = .ok F st' ∧ FilesRel st' [F] [Text.newFile name raw] := by
  obtain ⟨F, st', e, ok, _⟩ := tie_NewFile st name D raw hv hD
  exact ⟨F, st', e, FilesRel.cons_iff.mpr ⟨ok, FilesRel.nil _⟩⟩

/-! non-vacuity: "a\r\nb\r\r\n" (array 0 of a two-array heap, behind a header with offset 1) becomes "a\nb\r\n"; the result
    is array 4 (after the two pattern arrays), array 0 is untouched; an input without "\r\n" is copied; the empty input
    gives the nil slice -/

def c11pNfSt : ProgPrelude.St := { arrays := [[0, 97, 13, 10, 98, 13, 13, 10, 7], [5]], maps := [], grow := fun c => 2 * c + 1 }

/-- the answer as (name, data as read, [lines is nil, len, offset, data is nil], array 0 afterwards) -/
def c11pNfRun (D : ProgPrelude.Sl) : Option (String × List Int × List Int × List Int) :=
  match NewFile "x" D c11pNfSt with
  | .ok F st' =>
    some (F.filename, view st' F.data,
      [if F.lines.isNil then 1 else 0, F.len, F.offset, if F.data.isNil then 1 else 0], ProgPrelude.cells st' 0)
  | _ => none

theorem c11p_newFile_example :
    view c11pNfSt { arr := 0, off := 1, len := 7, cap := 8 } = ints [97, 13, 10, 98, 13, 13, 10] ∧
    c11pNfRun { arr := 0, off := 1, len := 7, cap := 8 } =
      some ("x", [97, 10, 98, 13, 10], [1, 5, 1, 0], [0, 97, 13, 10, 98, 13, 13, 10, 7]) ∧
    c11pNfRun { arr := 1, off := 0, len := 1, cap := 1 } = some ("x", [5], [1, 1, 1, 0], [0, 97, 13, 10, 98, 13, 13, 10, 7]) ∧
    c11pNfRun Go.nilSl = some ("x", [], [1, 0, 1, 1], [0, 97, 13, 10, 98, 13, 13, 10, 7]) ∧
    (Text.newFile "x" [97, 13, 10, 98, 13, 13, 10]).data = [97, 10, 98, 13, 10] := by
  decide +kernel

end PV.TxtTie
