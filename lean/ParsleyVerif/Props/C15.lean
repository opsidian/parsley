/-
  C15 — IntSet and IntMap are persistent: correct values, never mutated in place.

  Property theorems only.  Model: ParsleyVerif/Model/Data.lean (slice heap + map heap, statement by
  statement transcription of data/intset.go and data/intmap.go); specification:
  ParsleyVerif/Spec/SetSpec.lean (strictly ascending lists / key-sorted association lists, each value
  computed once, purely, when created).
-/
import ParsleyVerif.Proofs.DataInv
namespace PV.Data

/-- the machine and the specification run in step: `step_refines` along core's rule for two folds over one list -/
theorem runOps_refines (grow : Nat → Nat) (ops : List Op) :
    Inv (runOps grow ops).1 (specRun ops).1 ∧ (runOps grow ops).2 = (specRun ops).2 :=
  List.foldl_rel (l := ops) (r := fun (p : St × List Out) (q : List AVal × List Out) => Inv p.1 q.1 ∧ p.2 = q.2)
    ⟨Inv.init, rfl⟩ fun op _ p q ⟨inv, e⟩ =>
      have r := step_refines grow p.1 q.1 inv op
      ⟨r.1, by show p.2 ++ [_] = q.2 ++ [_]; rw [e, r.2]⟩

/-- **C15 (refinement, every history, every growth policy).**  After any sequence of operations,
    applied to any previously produced values, every value in the pool — read in the FINAL heap —
    is exactly the value the plain set/map specification computed when it was created, and every
    operation returned what the specification returns.  Equality with the final heap for every
    earlier value is persistence: no operation ever changed a value obtained earlier. -/
theorem c15_refine (grow : Nat → Nat) (ops : List Op) :
    (runOps grow ops).1.pool.map (absVal (runOps grow ops).1) = (specRun ops).1 ∧
    (runOps grow ops).2 = (specRun ops).2 := by
  obtain ⟨inv, ho⟩ := runOps_refines grow ops
  exact ⟨inv.abs, ho⟩

/-- the growth policy of `append` is unobservable -/
theorem c15_grow_irrelevant (g1 g2 : Nat → Nat) (ops : List Op) :
    (runOps g1 ops).1.pool.map (absVal (runOps g1 ops).1) = (runOps g2 ops).1.pool.map (absVal (runOps g2 ops).1) ∧
    (runOps g1 ops).2 = (runOps g2 ops).2 := by
  rw [(c15_refine g1 ops).1, (c15_refine g2 ops).1, (c15_refine g1 ops).2, (c15_refine g2 ops).2]
  exact ⟨rfl, rfl⟩

/-- **C15 (order).**  Every set in the pool iterates in strictly ascending order (hence without
    duplicates) and every map has distinct keys, in every reachable state. -/
theorem c15_sorted (grow : Nat → Nat) (ops : List Op) (i : Nat) :
    (∀ s, (runOps grow ops).1.pool[i]? = some (Val.set s) → (view (runOps grow ops).1.heap s).Pairwise (· < ·)) ∧
    (∀ m, (runOps grow ops).1.pool[i]? = some (Val.map m) →
        ((mobj (runOps grow ops).1.maps m).map (·.1)).Pairwise (· < ·)) := by
  obtain ⟨inv, _⟩ := runOps_refines grow ops
  exact ⟨fun s h => (inv.setwf i s h).2, fun m h => (inv.mapwf i m h).2⟩

/-- the specification really is the plain set model: membership laws (with `c15_sorted` they pin the value down) -/
theorem c15_spec_membership (l a b : List Int) (v x : Int) (ha : a.Pairwise (· < ·)) (hb : b.Pairwise (· < ·)) :
    (x ∈ sInsert l v ↔ x ∈ l ∨ x = v) ∧ (x ∈ sUnion a b ↔ x ∈ a ∨ x ∈ b) :=
  ⟨mem_sInsert l v x, mem_sMerge a b x⟩

/-- the model can express the defect: with the pinned `Insert` (`i2 := i; i2.insertValue(val)`) an
    earlier value changes (D7: NewIntSet(1,1,3); Insert(2)) — so the theorems above are not artefacts
    of a model without aliasing. -/
theorem c15_pinned_insert_mutates :
    let ops := [Op.newSet [1, 1, 3], Op.insert 0 2]
    let st := (ops.foldl (fun (p : St × List Out) op => let (st', o) := stepPinned (fun c => 2 * c + 1) p.1 op; (st', p.2 ++ [o])) (({} : St), [])).1
    st.pool.map (absVal st) = [AVal.set [1, 2], AVal.set [1, 2, 3]] := by
  decide +kernel

/-- non-vacuity: a concrete history with shared values, and what it evaluates to -/
example :
    let ops := [Op.newSet [1, 1, 3], Op.insert 0 2, Op.union 0 1, Op.newMap [(1, 2)], Op.inc 3 1, Op.inc 3 5, Op.filter 5 0]
    (runOps (fun c => 2 * c + 1) ops).1.pool.map (absVal (runOps (fun c => 2 * c + 1) ops).1) =
      [.set [1, 3], .set [1, 2, 3], .set [1, 2, 3], .map [(1, 2)], .map [(1, 3)], .map [(1, 2), (5, 1)], .map [(1, 2)]] := by
  decide +kernel

/- (the bodies of IntSet.Insert / insertValue / Union and IntMap.Inc / Filter / clone are not compared as text: the whole data
   package is translated from the source on every run and proved equal to the model - Props/C15P.lean, built and audited by
   this property's check) -/

end PV.Data
