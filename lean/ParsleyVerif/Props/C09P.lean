/-
  C09P — the reader primitives of text/reader.go, about the functions TRANSLATED from the Go source.

  `factgen -out-prog` translates `ReadRune`, `MatchString`, `MatchWord`, `ReadRegexp`, `Readf` and `isWordCharacter`
  statement by statement into Lean (Generated/FactsProg.lean, regenerated from the repository on every run; run-time:
  the hand-written Generated/ProgPrelude.lean).  `c09_translated_functions` says that the hand-written model
  (Model/Text.lean) and the translation compute the same results for every position at or above the file's base offset,
  a Go run-time panic (`Res.panic`) exactly where the model says `none`; `c09p_bounds` / `c09p_inbounds` carry C09's
  bounds statements over to the translated code.

  * `FileRel st F f` (Proofs/ProgTieText.lean): the translated `File` struct `F`, read in state `st`, shows the model
    file `f`; `SlWF F.data`: its header is well formed (len ≤ cap, nil only when empty); `ByteFile f`: the content
    consists of bytes (< 256: `int8(ch) == int8(b)` in ReadRune is compared through `Go.wrap 8 true`).
  * a string argument is the list of its bytes (`ints str`); `[]byte(str)` allocates: results are stated in a state that
    `Grows` (fresh arrays appended, nothing that existed written) — `AgreesPB`, `AgreesPS`.
  * the regexp engine is the field `findIndex` of the world `X`; `EngineRel X expr engine` says it finds what the model's
    `engine` parameter finds; as in C09 the engine must answer a length within the rest.
  * `Readf`'s function argument is any translated function `f'` that computes the model function `fn` (`FnRel`);
    Props/C08P.lean proves that the translated `unquoteString` is such a function.
  WHERE THE GO CODE PANICS (and the translated code returns `Res.panic`): MatchString / MatchWord on the empty string
  (the documented panics), MatchWord on a word with a byte ≥ 0x80 (when the comparison reaches it), Readf when the
  function breaks its contract; below the base offset (outside these theorems) the cursor is negative and the first
  index or slice expression panics.
-/
import ParsleyVerif.Proofs.TxtTieReader
import ParsleyVerif.Props.C09
namespace PV.TxtTie
open PV.ProgPrelude PV.FactsProg PV.ProgTie

def c09pFunctions : List String :=
  ["isWordCharacter", "Reader_ReadRune", "Reader_MatchString", "Reader_MatchWord", "Reader_ReadRegexp", "Reader_Readf"]

/-- **The tie.**  Every reader primitive is translated and computes what the model computes, panics included. -/
theorem c09_translated_functions (st : ProgPrelude.St) (F : FactsProg.File) (f : Text.File) (rel : FileRel st F f)
    (wf : SlWF F.data) (hb : ByteFile f) :
    c09pFunctions.all (fun f => FactsProg.translatedProg.contains f) = true ∧
    (∀ b : Nat, isWordCharacter (b : Int) st = .ok (Text.isWordByte b) st) ∧
    (∀ p ch : Nat, f.offset ≤ p → Reader_ReadRune ⟨F⟩ p ch st = outPB (Text.readRune f p ch) st) ∧
    (∀ (p : Nat) (str : Text.Bytes), f.offset ≤ p →
      AgreesPB (Reader_MatchString ⟨F⟩ p (ints str) st) (Text.matchString f p str) st) ∧
    (∀ (p : Nat) (word : Text.Bytes), f.offset ≤ p →
      AgreesPB (Reader_MatchWord ⟨F⟩ p (ints word) st) (Text.matchWord f p word) st) ∧
    (∀ (X : Ext) (expr : Str) (engine : Text.Bytes → Option Nat), EngineRel X expr engine →
      (∀ r m, engine r = some m → m ≤ r.length) → ∀ p : Nat, f.offset ≤ p →
      AgreesPS (Reader_ReadRegexp X ⟨F⟩ p expr st) (Text.readRegexp engine f p) st) ∧
    (∀ (f' : Sl → M (Sl × Int)) (fn : Text.Bytes → Option Text.Bytes × Nat), FnRel f' fn → ∀ p : Nat, f.offset ≤ p →
      AgreesPS (Reader_Readf ⟨F⟩ p f' st) (Text.readf fn f p) st) :=
  ⟨by decide +kernel, fun b => tie_isWordCharacter st b, fun p ch h => tie_ReadRune st F f rel hb p ch h,
   fun p s h => tie_MatchString st F f rel p s h, fun p w h => tie_MatchWord st F f rel p w h,
   fun X e en hX hc p h => tie_ReadRegexp X e en hX hc st F f rel wf p h,
   fun f' fn hf p h => tie_Readf f' fn hf st F f rel wf p h⟩

/-- **bounds, about the translated code**: for a position in the file (first byte … end of file) every translated
    primitive returns — it does not panic —, on a match the new position is the old one plus the matched length and
    never exceeds the end of the file, on a mismatch the original position comes back; nothing that existed is written -/
theorem c09p_bounds (st : ProgPrelude.St) (F : FactsProg.File) (f : Text.File) (rel : FileRel st F f) (wf : SlWF F.data)
    (hb : ByteFile f) (pos : Nat) (h : Text.InFile f pos) :
    (∀ ch : Nat, ∃ (q : Nat) (b : Bool), Reader_ReadRune ⟨F⟩ pos ch st = .ok ((q : Int), b) st ∧
        (b = false → q = pos) ∧ pos ≤ q ∧ q ≤ f.offset + f.len) ∧
    (∀ s : Text.Bytes, s ≠ [] → ∃ (q : Nat) (b : Bool) (st' : ProgPrelude.St),
        Reader_MatchString ⟨F⟩ pos (ints s) st = .ok ((q : Int), b) st' ∧ Grows st st' ∧
        (b = false → q = pos) ∧ (b = true → q = pos + s.length) ∧ q ≤ f.offset + f.len) ∧
    (∀ w : Text.Bytes, w ≠ [] → (∀ x ∈ w, x < 0x80) → ∃ (q : Nat) (b : Bool) (st' : ProgPrelude.St),
        Reader_MatchWord ⟨F⟩ pos (ints w) st = .ok ((q : Int), b) st' ∧ Grows st st' ∧
        (b = false → q = pos) ∧ (b = true → q = pos + w.length) ∧ q ≤ f.offset + f.len) ∧
    (∀ (X : Ext) (expr : Str) (engine : Text.Bytes → Option Nat), EngineRel X expr engine →
      (∀ r m, engine r = some m → m ≤ r.length) → ∃ (q : Nat) (v : Sl) (st' : ProgPrelude.St),
        Reader_ReadRegexp X ⟨F⟩ pos expr st = .ok ((q : Int), v) st' ∧ Grows st st' ∧ pos ≤ q ∧ q ≤ f.offset + f.len ∧
        (v.isNil = true → q = pos)) := by
  obtain ⟨b1, b2, b3, _⟩ := Text.c09_bounds f pos h
  obtain ⟨i1, i2, i3, i4⟩ := Text.c09_inbounds f pos h
  -- each part is the tie followed by C09's statement about the model's answer
  refine ⟨fun ch => outPB_elim (tie_ReadRune st F f rel hb pos ch h.1) (i1 ch) (b1 ch),
    fun s hs => (tie_MatchString st F f rel pos s h.1).elim (i2 s hs) (fun q b => b2 s q b hs),
    fun w hw ha => (tie_MatchWord st F f rel pos w h.1).elim (i3 w hw ha) (fun q b => b3 w q b hw ha),
    fun X expr engine hX hc => ?_⟩
  obtain ⟨q, val, v, st', e, g, vr, hq, hv⟩ := (tie_ReadRegexp X expr engine hX hc st F f rel wf pos h.1).elim
    (Φ := fun q val => pos ≤ q ∧ q ≤ f.offset + f.len ∧ (val = none → q = pos)) (i4 engine hc) (fun q val hm => by
      rcases Text.readRegexp_cases engine f pos with e | e | ⟨m, _, _, e, hle⟩ <;> rw [e] at hm <;> cases hm
      · exact ⟨Nat.le_refl _, h.2, fun _ => rfl⟩
      · exact ⟨Nat.le_add_right .., hle, nofun⟩)
  exact ⟨q, v, st', e, g, hq, hv.1, fun hn => hv.2 (vr.eq_none hn)⟩

/-- **nothing outside the file is read, about the translated code**: for a position in the file no translated
    primitive panics (on an index or a slice bound), whatever the rune, the non-empty string, the non-empty ASCII word, the
    engine (that respects its contract) -/
theorem c09p_inbounds (st : ProgPrelude.St) (F : FactsProg.File) (f : Text.File) (rel : FileRel st F f) (wf : SlWF F.data)
    (hb : ByteFile f) (pos : Nat) (h : Text.InFile f pos) :
    (∀ ch : Nat, Reader_ReadRune ⟨F⟩ pos ch st ≠ .panic) ∧
    (∀ s : Text.Bytes, s ≠ [] → Reader_MatchString ⟨F⟩ pos (ints s) st ≠ .panic) ∧
    (∀ w : Text.Bytes, w ≠ [] → (∀ x ∈ w, x < 0x80) → Reader_MatchWord ⟨F⟩ pos (ints w) st ≠ .panic) ∧
    (∀ (X : Ext) (expr : Str) (engine : Text.Bytes → Option Nat), EngineRel X expr engine →
      (∀ r m, engine r = some m → m ≤ r.length) → Reader_ReadRegexp X ⟨F⟩ pos expr st ≠ .panic) := by
  obtain ⟨a1, a2, a3, a4⟩ := c09p_bounds st F f rel wf hb pos h
  refine ⟨fun ch => ?_, fun s hs => ?_, fun w hw ha => ?_, fun X e en hX hc => ?_⟩
  · obtain ⟨q, b, e, _⟩ := a1 ch; rw [e]; intro hh; cases hh
  · obtain ⟨q, b, st', e, _⟩ := a2 s hs; rw [e]; intro hh; cases hh
  · obtain ⟨q, b, st', e, _⟩ := a3 w hw ha; rw [e]; intro hh; cases hh
  · obtain ⟨q, v, st', e, _⟩ := a4 X e en hX hc; rw [e]; intro hh; cases hh

/-- **the documented panics, about the translated code**: MatchString and MatchWord on the empty string -/
theorem c09p_documented_panics (r : FactsProg.Reader) (p : Int) (st : ProgPrelude.St) :
    Reader_MatchString r p [] st = .panic ∧ Reader_MatchWord r p [] st = .panic := by
  constructor
  · unfold Reader_MatchString; rfl
  · unfold Reader_MatchWord; rfl

/-! non-vacuity: the file "aé \n" + "b" (bytes 97 C3 A9 32 10 98) at base offset 7 in a concrete state, evaluated by
    the kernel; a world whose engine matches one or more 'a'-or-non-ASCII bytes -/

def c09pSt : ProgPrelude.St := { arrays := [[97, 0xC3, 0xA9, 32, 10, 98]], maps := [], grow := fun c => 2 * c + 1 }
def c09pF : FactsProg.File :=
  { filename := "t", data := { arr := 0, off := 0, len := 6, cap := 6 }, lines := Go.nilSl, len := 6, offset := 7 }
def c09pf : Text.File := { name := "t", data := [97, 0xC3, 0xA9, 32, 10, 98], offset := 7 }
def c09pX : Ext :=
  { findIndex := fun _ bs => match (bs.takeWhile (fun b => b = 97 ∨ b ≥ 128)).length with | 0 => none | n + 1 => some (0, (n + 1 : Nat)),
    unquoteChar := fun _ _ => none }

theorem c09p_example_rel : FileRel c09pSt c09pF c09pf ∧ SlWF c09pF.data ∧ ByteFile c09pf ∧ Text.InFile c09pf 8 := by
  refine ⟨⟨by decide, rfl, rfl, rfl, rfl⟩, ⟨by decide, by decide⟩, ?_, ?_⟩
  · unfold ByteFile c09pf; decide
  · unfold Text.InFile Text.File.len c09pf; decide

theorem c09p_example :
    let run2 := fun (r : ProgPrelude.Res (Int × Bool)) => match r with | .ok a _ => some a | _ => none
    run2 (Reader_ReadRune ⟨c09pF⟩ 8 233 c09pSt) = some (10, true) ∧
    run2 (Reader_ReadRune ⟨c09pF⟩ 7 97 c09pSt) = some (8, true) ∧
    run2 (Reader_ReadRune ⟨c09pF⟩ 13 97 c09pSt) = some (13, false) ∧
    run2 (Reader_MatchString ⟨c09pF⟩ 10 [32, 10] c09pSt) = some (12, true) ∧
    run2 (Reader_MatchString ⟨c09pF⟩ 12 [98, 98] c09pSt) = some (12, false) ∧
    run2 (Reader_MatchWord ⟨c09pF⟩ 12 [98] c09pSt) = some (13, true) ∧
    run2 (Reader_MatchWord ⟨c09pF⟩ 7 [97] c09pSt) = some (8, true) ∧
    (match Reader_MatchWord ⟨c09pF⟩ 7 [0xC3] c09pSt with | .panic => true | _ => false) = true ∧
    (match Reader_ReadRegexp c09pX ⟨c09pF⟩ 7 [] c09pSt with
      | .ok (q, v) st' => (q, view st' v) | _ => (0, [])) = (10, [97, 0xC3, 0xA9]) := by
  decide +kernel

end PV.TxtTie
