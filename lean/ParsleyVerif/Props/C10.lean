/-
  C10 — Whitespace modes are enforced exactly and permitted whitespace is transparent.

  Property theorems only.  Model: `run` on `.ltrim` / `.rtrim` / `.term` / `.seq` and `parse`
  (ParsleyVerif/Model/Run.lean, transcribing text/trim.go, ast.SetReaderPos, combinator/seq.go,
  parsley/parse.go) over `skipWhitespaces` (Model/Text.lean).
  Specification: ParsleyVerif/Spec/TrimSpec.lean — `wsOk m ws` (the property's acceptance rule on the bytes
  `ws = rest f pos` at the cursor, through `wsRun` / `firstBreak` only), `wsFail m pos ws` (the mode's error
  and its position), token sequences (`Tok`, `Deco`, `weave`, `Adm`, `tokNodes`, `endPos`).

  A *token* is `.term t` for an arbitrary terminal `t`, constrained only by what `t.parse` answers at the
  position it is asked to parse; the transparency theorem uses single-byte `terminal.Rune` tokens.
  Every theorem holds for every configuration, left-recursion context and parser state; the driver's work
  budget is either absent (`maxCalls = 0`) or not yet exhausted.  `1 ≤ offset` is what every file of a
  parsley FileSet satisfies (positions start at 1; 0 is the `nlPos == 0` sentinel of SkipWhitespaces).
-/
import ParsleyVerif.Proofs.Trim
import ParsleyVerif.Generated.Facts
namespace PV
open PV.Text

/-! ### the vocabulary is what the property says -/

/-- the mode's error and its position: start of the run / first line break / end of the run.
    `firstBreak` really is the first line break of the run.  Last conjunct: spaces-and-newlines never rejects. -/
theorem c10_wsFail_spec (pos : Nat) (ws : Bytes) :
    wsFail .none pos ws = ⟨pos, .ws .noneErr⟩ ∧
    wsFail .forceNl pos ws = ⟨pos + wsRun ws, .ws .forceNlErr⟩ ∧
    (∀ i, firstBreak ws = some i →
      wsFail .spaces pos ws = ⟨pos + i, .ws .spacesErr⟩ ∧
      i < wsRun ws ∧ isBreak (ws.getD i 0) = true ∧ ∀ j, j < i → isBreak (ws.getD j 0) = false) ∧
    ¬ (¬ wsOk .spacesNl ws) := by
  refine ⟨rfl, rfl, ?_, fun h => h trivial⟩
  intro i h
  exact ⟨by simp [wsFail, h], firstBreak_spec ws i h⟩

/-- **accept**: the run satisfies the mode and the token matches right after it ⇒ LeftTrim returns the
    token's own node, untouched (its start is the token's first byte, not the start of the whitespace),
    no error, and the parser state is exactly what it was. -/
theorem c10_ltrim_accept (cfg : Cfg) (fuel : Nat) (t : Terminal) (m : WsMode) (ctx : Ctx) (pos : Nat) (st : St) (n : Node)
    (hf : 2 ≤ fuel) (hb : cfg.maxCalls = 0 ∨ st.calls ≤ cfg.maxCalls)
    (hin : InFile cfg.file pos) (hoff : 1 ≤ cfg.file.offset)
    (htok : t.parse cfg.params cfg.file (pos + wsRun (rest cfg.file pos)) = .node n)
    (hok : wsOk m (rest cfg.file pos)) :
    run cfg fuel (.ltrim (.term t) m) ctx pos st = some (⟨.one n, [], none⟩, st) ∧
    n.pos = pos + wsRun (rest cfg.file pos) := by
  obtain ⟨tok, v, r, rfl⟩ := Terminal.parse_node _ _ _ _ _ htok
  exact ⟨(run_deco_term cfg (.l m) t ctx pos st fuel _ hf hb (fun _ _ => hin) hoff htok).trans
    (congrArg (fun o => some (o, st)) (ltrimAt_ok _ pos m _ hok)), rfl⟩

/-- **reject**: the token would match, but the run violates the mode ⇒ no result, and the error is that
    mode's whitespace error at the start of the run / the first line break / the end of the run. -/
theorem c10_ltrim_reject (cfg : Cfg) (fuel : Nat) (t : Terminal) (m : WsMode) (ctx : Ctx) (pos : Nat) (st : St) (n : Node)
    (hf : 2 ≤ fuel) (hb : cfg.maxCalls = 0 ∨ st.calls ≤ cfg.maxCalls)
    (hin : InFile cfg.file pos) (hoff : 1 ≤ cfg.file.offset)
    (htok : t.parse cfg.params cfg.file (pos + wsRun (rest cfg.file pos)) = .node n)
    (hok : ¬ wsOk m (rest cfg.file pos)) :
    run cfg fuel (.ltrim (.term t) m) ctx pos st =
      some (⟨.nil, [], some (wsFail m pos (rest cfg.file pos))⟩, st) :=
  (run_deco_term cfg (.l m) t ctx pos st fuel _ hf hb (fun _ _ => hin) hoff htok).trans
    (congrArg (fun o => some (o, st)) ((ltrimAt_res ..).trans (if_neg hok)))

/-- **the token itself fails** with error `e` after the run.  Exactly what the model (trim.go) does:
    an accepted run hands on the token's error unchanged; with a pending whitespace error, a token error
    beyond the token's start is replaced by the whitespace error, a not-found error is moved back to the
    start of the whitespace (the whitespace error is dropped), any other error is handed on.
    The state only gains the ghost log entry of the failed terminal. -/
theorem c10_ltrim_token_fails (cfg : Cfg) (fuel : Nat) (t : Terminal) (m : WsMode) (ctx : Ctx) (pos : Nat) (st : St) (e : Err)
    (hf : 2 ≤ fuel) (hb : cfg.maxCalls = 0 ∨ st.calls ≤ cfg.maxCalls)
    (hin : InFile cfg.file pos) (hoff : 1 ≤ cfg.file.offset)
    (htok : t.parse cfg.params cfg.file (pos + wsRun (rest cfg.file pos)) = .err e) :
    run cfg fuel (.ltrim (.term t) m) ctx pos st =
      some (⟨.nil, [], some (
          if wsOk m (rest cfg.file pos) then e
          else if e.pos > pos + wsRun (rest cfg.file pos) then wsFail m pos (rest cfg.file pos)
          else if e.kind.isNotFound then ⟨pos, e.kind⟩
          else e)⟩, st.logEv cfg (.termFail e.pos e.kind)) := by
  refine (run_deco_term cfg (.l m) t ctx pos st fuel _ hf hb (fun _ _ => hin) hoff htok).trans
    (congrArg (fun o => some (o, _)) ((ltrimAt_err ..).trans ?_))
  simp only [apply_ite some, apply_ite (Out.mk Res.nil [])]

/-- the usual case of the above: the token reports "was expecting …" at its own position.  With an
    accepted run the error stays at the token's position; with a rejected run it is relocated to the
    start of the whitespace and replaces the whitespace error. -/
theorem c10_ltrim_token_notfound (cfg : Cfg) (fuel : Nat) (t : Terminal) (m : WsMode) (ctx : Ctx) (pos : Nat) (st : St) (e : Err)
    (hf : 2 ≤ fuel) (hb : cfg.maxCalls = 0 ∨ st.calls ≤ cfg.maxCalls)
    (hin : InFile cfg.file pos) (hoff : 1 ≤ cfg.file.offset)
    (htok : t.parse cfg.params cfg.file (pos + wsRun (rest cfg.file pos)) = .err e)
    (hpos : e.pos = pos + wsRun (rest cfg.file pos)) (hnf : e.kind.isNotFound = true) :
    run cfg fuel (.ltrim (.term t) m) ctx pos st =
      some (⟨.nil, [], some (if wsOk m (rest cfg.file pos) then e else ⟨pos, e.kind⟩)⟩,
            st.logEv cfg (.termFail e.pos e.kind)) := by
  rw [c10_ltrim_token_fails cfg fuel t m ctx pos st e hf hb hin hoff htok]
  rw [if_neg (show ¬ e.pos > pos + wsRun (rest cfg.file pos) by omega), if_pos hnf]

/-- **accept**: the token matches with node `n` and the run after it satisfies the mode ⇒ the result is
    `n` with only its end moved past the run; start, token and value are the token's own. -/
theorem c10_rtrim_accept (cfg : Cfg) (fuel : Nat) (t : Terminal) (m : WsMode) (ctx : Ctx) (pos : Nat) (st : St) (n : Node)
    (hf : 2 ≤ fuel) (hb : cfg.maxCalls = 0 ∨ st.calls ≤ cfg.maxCalls)
    (hin : InFile cfg.file n.rpos) (hoff : 1 ≤ cfg.file.offset)
    (htok : t.parse cfg.params cfg.file pos = .node n)
    (hok : wsOk m (rest cfg.file n.rpos)) :
    ∃ tok v, n = .term tok v pos n.rpos ∧
      run cfg fuel (.rtrim (.term t) m) ctx pos st =
        some (⟨.one (.term tok v pos (n.rpos + wsRun (rest cfg.file n.rpos))), [], none⟩, st) := by
  obtain ⟨tok, v, r, rfl⟩ := Terminal.parse_node _ _ _ _ _ htok
  exact ⟨tok, v, rfl, (run_deco_term cfg (.r m) t ctx pos st fuel _ hf hb nofun hoff htok).trans
    (congrArg (fun o => some (o, st)) ((rtrimOut_term _ m tok v pos r [] hin hoff).trans (if_pos hok)))⟩

/-- **reject**: the run after the token violates the mode ⇒ no result, and the mode's error at the end of
    the token (start of the run) / the first line break / the end of the run. -/
theorem c10_rtrim_reject (cfg : Cfg) (fuel : Nat) (t : Terminal) (m : WsMode) (ctx : Ctx) (pos : Nat) (st : St) (n : Node)
    (hf : 2 ≤ fuel) (hb : cfg.maxCalls = 0 ∨ st.calls ≤ cfg.maxCalls)
    (hin : InFile cfg.file n.rpos) (hoff : 1 ≤ cfg.file.offset)
    (htok : t.parse cfg.params cfg.file pos = .node n)
    (hok : ¬ wsOk m (rest cfg.file n.rpos)) :
    run cfg fuel (.rtrim (.term t) m) ctx pos st =
      some (⟨.nil, [], some (wsFail m n.rpos (rest cfg.file n.rpos))⟩, st) := by
  obtain ⟨tok, v, r, rfl⟩ := Terminal.parse_node _ _ _ _ _ htok
  exact (run_deco_term cfg (.r m) t ctx pos st fuel _ hf hb nofun hoff htok).trans
    (congrArg (fun o => some (o, st)) ((rtrimOut_term _ m tok v pos r [] hin hoff).trans (if_neg hok)))

/-- the token fails under RightTrim: a whitespace error is handed on unchanged; any other error is moved
    past the whitespace at the error's position, whatever the mode (exactly what trim.go does) -/
theorem c10_rtrim_token_fails (cfg : Cfg) (fuel : Nat) (t : Terminal) (m : WsMode) (ctx : Ctx) (pos : Nat) (st : St) (e : Err)
    (hf : 2 ≤ fuel) (hb : cfg.maxCalls = 0 ∨ st.calls ≤ cfg.maxCalls)
    (hin : e.kind.isWs = false → InFile cfg.file e.pos) (hoff : 1 ≤ cfg.file.offset)
    (htok : t.parse cfg.params cfg.file pos = .err e) :
    run cfg fuel (.rtrim (.term t) m) ctx pos st =
      some (⟨.nil, [], some (if e.kind.isWs then e else ⟨e.pos + wsRun (rest cfg.file e.pos), e.kind⟩)⟩,
            st.logEv cfg (.termFail e.pos e.kind)) :=
  (run_deco_term cfg (.r m) t ctx pos st fuel _ hf hb nofun hoff htok).trans
    (congrArg (fun o => some (o, _)) (rtrimOut_err _ m _ _ e hin hoff))

/-- RightTrim never moves a whitespace error of its operand, whatever the operand is (DESIGN.md, D10):
    in particular the error of a LeftTrim inside stays where the property puts it -/
theorem c10_rtrim_keeps_ws_error (cfg : Cfg) (fuel : Nat) (g : G) (m : WsMode) (ctx : Ctx) (pos : Nat) (st st' : St)
    (res : Res) (cp : List Nat) (e : Err)
    (hb : cfg.maxCalls = 0 ∨ st.calls ≤ cfg.maxCalls) (hoff : 1 ≤ cfg.file.offset)
    (hrun : run cfg fuel g ctx pos st = some (⟨res, cp, some e⟩, st')) (hws : e.kind.isWs = true) :
    run cfg (fuel + 1) (.rtrim g m) ctx pos st = some (⟨res, cp, some e⟩, st') := by
  rw [run_rtrim_out cfg _ _ m ctx pos st hb, hrun]
  exact congrArg (fun o => some (o, st')) (rtrimOut_wsErr _ m res cp e hoff hws)

/-- text.Trim(p) is RightTrim(LeftTrim(p, WsSpacesNl), WsSpacesNl) — the left trim inside — which is the
    term the harness builds for it -/
theorem c10_trim_def (g : G) : g.trim = .rtrim (.ltrim g .spacesNl) .spacesNl ∧ g.trim = (Deco.rl .spacesNl .spacesNl).apply g :=
  ⟨rfl, rfl⟩

/-! ### all five decorations, uniformly -/

/-- **accept**, any decoration `d` of a token: the token is looked for after the leading run if `d` trims
    on the left, at `pos` itself otherwise; if the left mode (if any) accepts the leading run and the right
    mode (if any) accepts the run after the token, the result is the token's own node — own start, token,
    value — with its end moved past the trailing run exactly when `d` trims on the right. -/
theorem c10_deco_accept (cfg : Cfg) (fuel : Nat) (d : Deco) (t : Terminal) (ctx : Ctx) (pos : Nat) (st : St) (n : Node)
    (hf : 3 ≤ fuel) (hb : cfg.maxCalls = 0 ∨ st.calls ≤ cfg.maxCalls)
    (hin : InFile cfg.file pos) (hoff : 1 ≤ cfg.file.offset)
    (htok : t.parse cfg.params cfg.file
      (pos + (match d.left with | some _ => wsRun (rest cfg.file pos) | none => 0)) = .node n)
    (hl : ∀ lm, d.left = some lm → wsOk lm (rest cfg.file pos))
    (hr : ∀ rm, d.right = some rm → InFile cfg.file n.rpos ∧ wsOk rm (rest cfg.file n.rpos)) :
    ∃ tok v, n = .term tok v (pos + (match d.left with | some _ => wsRun (rest cfg.file pos) | none => 0)) n.rpos ∧
      run cfg fuel (d.apply (.term t)) ctx pos st =
        some (⟨.one (.term tok v (pos + (match d.left with | some _ => wsRun (rest cfg.file pos) | none => 0))
                (n.rpos + (match d.right with | some _ => wsRun (rest cfg.file n.rpos) | none => 0))), [], none⟩, st) := by
  obtain ⟨tok, v, r, rfl⟩ := Terminal.parse_node _ _ _ _ _ htok
  exact ⟨tok, v, rfl, (run_deco_term cfg d t ctx pos st fuel _ (Nat.le_trans (Nat.succ_le_succ d.depth_le) hf) hb
    (fun _ _ => hin) hoff htok).trans (congrArg (fun o => some (o, st)) (Deco.out_accept _ pos d tok v _ r [] hoff hl hr))⟩

/-- Trim accepts any whitespace on both sides: the token found after the leading run keeps its own start
    and value, and its end moves past the trailing run. -/
theorem c10_trim (cfg : Cfg) (fuel : Nat) (t : Terminal) (ctx : Ctx) (pos : Nat) (st : St) (n : Node)
    (hf : 3 ≤ fuel) (hb : cfg.maxCalls = 0 ∨ st.calls ≤ cfg.maxCalls)
    (hin : InFile cfg.file pos) (hinr : InFile cfg.file n.rpos) (hoff : 1 ≤ cfg.file.offset)
    (htok : t.parse cfg.params cfg.file (pos + wsRun (rest cfg.file pos)) = .node n) :
    ∃ tok v, n = .term tok v (pos + wsRun (rest cfg.file pos)) n.rpos ∧
      run cfg fuel (G.trim (.term t)) ctx pos st =
        some (⟨.one (.term tok v (pos + wsRun (rest cfg.file pos)) (n.rpos + wsRun (rest cfg.file n.rpos))), [], none⟩, st) :=
  c10_deco_accept cfg fuel (.rl .spacesNl .spacesNl) t ctx pos st n hf hb hin hoff htok
    (fun _ h => by cases h; trivial) (fun _ h => by cases h; exact ⟨hinr, trivial⟩)

/-- **reject on the left**, every decoration with a left mode (`l`, `lr`, `rl`): the token would match after
    the leading run but the run violates the left mode ⇒ no result, and exactly the left mode's error at the
    property's position — also under an outer RightTrim (the D10 fix).
    For LeftTrim∘RightTrim the inner RightTrim has already looked at the trailing run: the statement needs
    that run to be accepted or the token to be non-empty (an empty token whose right mode rejects as well
    reports the right mode's error, see trim.go: `err.Pos() > pos`). -/
theorem c10_deco_reject_left (cfg : Cfg) (fuel : Nat) (d : Deco) (lm : WsMode) (t : Terminal) (ctx : Ctx) (pos : Nat) (st : St) (n : Node)
    (hf : 3 ≤ fuel) (hb : cfg.maxCalls = 0 ∨ st.calls ≤ cfg.maxCalls)
    (hin : InFile cfg.file pos) (hoff : 1 ≤ cfg.file.offset)
    (hd : d.left = some lm)
    (htok : t.parse cfg.params cfg.file (pos + wsRun (rest cfg.file pos)) = .node n)
    (hok : ¬ wsOk lm (rest cfg.file pos))
    (hlr : ∀ rm, d = .lr lm rm →
      InFile cfg.file n.rpos ∧ (pos + wsRun (rest cfg.file pos) < n.rpos ∨ wsOk rm (rest cfg.file n.rpos))) :
    run cfg fuel (d.apply (.term t)) ctx pos st =
      some (⟨.nil, [], some (wsFail lm pos (rest cfg.file pos))⟩, st) := by
  obtain ⟨tok, v, r, rfl⟩ := Terminal.parse_node _ _ _ _ _ htok
  exact (run_deco_term cfg d t ctx pos st fuel (.node (.term tok v _ r)) (Nat.le_trans (Nat.succ_le_succ d.depth_le) hf) hb
    (fun _ _ => hin) hoff (by rw [hd]; exact htok)).trans
    (congrArg (fun o => some (o, st)) (Deco.out_reject_left _ pos d lm tok v _ r hoff hd hok hlr))

/-- **reject on the right**, every decoration with a right mode (`r`, `lr`, `rl`): the left side is absent
    or accepts, the token matches with node `n`, and the run after it violates the right mode ⇒ no result, and
    exactly the right mode's error positioned relative to the end of the token. -/
theorem c10_deco_reject_right (cfg : Cfg) (fuel : Nat) (d : Deco) (rm : WsMode) (t : Terminal) (ctx : Ctx) (pos : Nat) (st : St) (n : Node)
    (hf : 3 ≤ fuel) (hb : cfg.maxCalls = 0 ∨ st.calls ≤ cfg.maxCalls)
    (hin : InFile cfg.file pos) (hinr : InFile cfg.file n.rpos) (hoff : 1 ≤ cfg.file.offset)
    (hd : d.right = some rm)
    (htok : t.parse cfg.params cfg.file
      (pos + (match d.left with | some _ => wsRun (rest cfg.file pos) | none => 0)) = .node n)
    (hl : ∀ lm, d.left = some lm → wsOk lm (rest cfg.file pos))
    (hok : ¬ wsOk rm (rest cfg.file n.rpos)) :
    run cfg fuel (d.apply (.term t)) ctx pos st =
      some (⟨.nil, [], some (wsFail rm n.rpos (rest cfg.file n.rpos))⟩, st) := by
  obtain ⟨tok, v, r, rfl⟩ := Terminal.parse_node _ _ _ _ _ htok
  exact (run_deco_term cfg d t ctx pos st fuel _ (Nat.le_trans (Nat.succ_le_succ d.depth_le) hf) hb
    (fun _ _ => hin) hoff htok).trans
    (congrArg (fun o => some (o, st)) (Deco.out_reject_right _ pos d rm tok v _ r hinr hoff hd hl hok))

/-- parsley.Parse returns a whitespace error as it is, even when the context's furthest error is further
    (for every other error the further context error would be preferred) -/
theorem c10_parse_reports_ws (cfg : Cfg) (fuel : Nat) (g : G) (st st' : St) (o : Out) (e : Err)
    (hrun : run cfg fuel g [] (cfg.file.pos 0) st = some (o, st'))
    (herr : o.err = some e) (hws : e.kind.isWs = true) :
    parse cfg fuel g st =
      some { res := .nil, err := some e, msg := some (failedPrefix ++ errorWithPosition cfg.fileSet e), st := st' } := by
  unfold parse
  simp only [hrun, herr, Option.isNone_some, Bool.and_false, Bool.false_eq_true, if_false, hws, Bool.not_true]

/-- instance: a left-trimmed token at the start of the file whose leading whitespace violates the mode —
    Parse reports exactly that mode's whitespace error, whatever error the context already holds -/
theorem c10_parse_ltrim_reject (cfg : Cfg) (fuel : Nat) (t : Terminal) (m : WsMode) (st : St) (n : Node)
    (hf : 2 ≤ fuel) (hb : cfg.maxCalls = 0 ∨ st.calls ≤ cfg.maxCalls) (hoff : 1 ≤ cfg.file.offset)
    (htok : t.parse cfg.params cfg.file (cfg.file.pos 0 + wsRun (rest cfg.file (cfg.file.pos 0))) = .node n)
    (hok : ¬ wsOk m (rest cfg.file (cfg.file.pos 0))) :
    (parse cfg fuel (.ltrim (.term t) m) st).map (fun p => (p.res.isNil, p.err)) =
      some (true, some (wsFail m (cfg.file.pos 0) (rest cfg.file (cfg.file.pos 0)))) := by
  have hin := pos0_inFile cfg.file
  rw [c10_parse_reports_ws cfg fuel _ st st _ _
    (c10_ltrim_reject cfg fuel t m [] _ st n hf hb hin hoff htok hok) rfl (wsFail_isWs _ _ _)]
  rfl

/-- **main theorem.**  A SeqOf of trim-decorated single-byte tokens (`Deco`: bare, LeftTrim, RightTrim,
    LeftTrim∘RightTrim, RightTrim∘LeftTrim — text.Trim is the last one with both modes spaces-and-newlines),
    any assignment of the four modes, run at any position where the input reads `weave g0 toks` (leading
    whitespace `g0`, then every token followed by its own whitespace string): if every gap satisfies every
    mode that looks at it (`Adm`), the parse succeeds without error, and the children are exactly
    `tokNodes`: one TerminalNode per token, see `c10_transparent_nodes`.  The root spans from the first
    token's own byte to the end of the last token (past its gap only if it is right-trimmed). -/
theorem c10_transparent (cfg : Cfg) (toks : List Tok) (o : SeqOpts) (g0 : Bytes) (ctx : Ctx) (pos : Nat) (st : St) (fuel : Nat)
    (hmc : cfg.maxCalls = 0) (hoff : 1 ≤ cfg.file.offset)
    (hne : toks ≠ []) (hsingle : o.single = false)
    (hwf : ∀ t ∈ toks, t.wf) (hg0 : ∀ b ∈ g0, isWs b = true)
    (hin : InFile cfg.file pos) (hrest : rest cfg.file pos = weave g0 toks)
    (hadm : Adm g0 toks) (hfuel : toks.length + 4 ≤ fuel) :
    run cfg fuel (.seq .seqOf (toks.map Tok.g) o) ctx pos st =
      some (⟨.one (.nt (o.token.getD seqTok) (tokNodes pos g0 toks) (pos + g0.length) (endPos pos g0 toks) o.interp), [], none⟩,
            { st with calls := st.calls + toks.length }) := by
  rw [run_seqOf_toks cfg hmc hoff toks o g0 ctx pos st fuel _ rfl hwf hg0 hrest hin hadm hfuel,
    handleResult_tokNodes _ _ _ _ _ hne hsingle]

/-- the same through parsley.Parse: the whole file is `weave g0 toks` ⇒ Parse returns that tree and no error -/
theorem c10_transparent_parse (cfg : Cfg) (toks : List Tok) (o : SeqOpts) (g0 : Bytes) (st : St) (fuel : Nat)
    (hmc : cfg.maxCalls = 0) (hoff : 1 ≤ cfg.file.offset)
    (hne : toks ≠ []) (hsingle : o.single = false)
    (hwf : ∀ t ∈ toks, t.wf) (hg0 : ∀ b ∈ g0, isWs b = true)
    (hdata : cfg.file.data = weave g0 toks)
    (hadm : Adm g0 toks) (hfuel : toks.length + 4 ≤ fuel) :
    parse cfg fuel (.seq .seqOf (toks.map Tok.g) o) st =
      some { res := .one (.nt (o.token.getD seqTok) (tokNodes cfg.file.offset g0 toks) (cfg.file.offset + g0.length)
                        (endPos cfg.file.offset g0 toks) o.interp),
             err := none, msg := none, st := { st with calls := st.calls + toks.length } } := by
  have hin := pos0_inFile cfg.file
  have hrest : rest cfg.file (cfg.file.pos 0) = weave g0 toks := by
    unfold rest File.pos; simp [hdata]
  exact parse_of_ok (c10_transparent cfg toks o g0 [] _ st fuel hmc hoff hne hsingle hwf hg0 hin hrest hadm hfuel) rfl rfl

/-- what the children are: the i-th child has the bare terminal's token and value whatever the gaps are,
    its `pos` is the position of the token's own first byte (the input byte at that position is the token's
    byte), and its end is one past that byte, plus its own gap exactly when it is right-trimmed. -/
theorem c10_transparent_nodes (pos : Nat) (g0 : Bytes) (toks : List Tok) :
    (tokNodes pos g0 toks).length = toks.length ∧
    (∀ i t, toks[i]? = some t →
      (tokNodes pos g0 toks)[i]? = some (.term (Utf8.encodeRune t.ch) (.rune t.ch)
        (pos + (weave g0 (toks.take i)).length)
        (pos + (weave g0 (toks.take i)).length + 1 + (match t.d.right with | some _ => t.gap.length | none => 0))) ∧
      (weave g0 toks)[(weave g0 (toks.take i)).length]? = some t.ch) ∧
    (tokNodes pos g0 toks).map Node.tv = toks.map (fun t => (Utf8.encodeRune t.ch, some (Val.rune t.ch))) :=
  ⟨tokNodes_length pos g0 toks,
   fun i t h => ⟨tokNodes_get pos g0 toks i t h, weave_byte g0 toks i t h⟩,
   tokNodes_tv pos g0 toks⟩

/-- **inserting permitted whitespace never changes a parse result**: the same decorated tokens with two
    different choices of whitespace (for instance: none at all), in two files at any offsets, both
    admissible for the modes — both parses succeed, with the same root token and interpreter and
    children that agree in number, token and value; only positions differ. -/
theorem c10_transparent_shape (cfg cfg' : Cfg) (toks toks' : List Tok) (o : SeqOpts) (g0 g0' : Bytes)
    (ctx ctx' : Ctx) (pos pos' : Nat) (st st' : St) (fuel : Nat)
    (hsame : toks.map (fun t => (t.ch, t.name, t.d)) = toks'.map (fun t => (t.ch, t.name, t.d)))
    (hne : toks ≠ []) (hsingle : o.single = false)
    (hmc : cfg.maxCalls = 0) (hoff : 1 ≤ cfg.file.offset)
    (hwf : ∀ t ∈ toks, t.wf) (hg0 : ∀ b ∈ g0, isWs b = true)
    (hin : InFile cfg.file pos) (hrest : rest cfg.file pos = weave g0 toks) (hadm : Adm g0 toks)
    (hmc' : cfg'.maxCalls = 0) (hoff' : 1 ≤ cfg'.file.offset)
    (hwf' : ∀ t ∈ toks', t.wf) (hg0' : ∀ b ∈ g0', isWs b = true)
    (hin' : InFile cfg'.file pos') (hrest' : rest cfg'.file pos' = weave g0' toks') (hadm' : Adm g0' toks')
    (hfuel : toks.length + 4 ≤ fuel) :
    ∃ kids kids' p r p' r' s s',
      run cfg fuel (.seq .seqOf (toks.map Tok.g) o) ctx pos st =
        some (⟨.one (.nt (o.token.getD seqTok) kids p r o.interp), [], none⟩, s) ∧
      run cfg' fuel (.seq .seqOf (toks.map Tok.g) o) ctx' pos' st' =
        some (⟨.one (.nt (o.token.getD seqTok) kids' p' r' o.interp), [], none⟩, s') ∧
      kids.map Node.tv = kids'.map Node.tv := by
  have hlen : toks'.length = toks.length := by
    have := congrArg List.length hsame; simpa using this.symm
  have hg : toks.map Tok.g = toks'.map Tok.g := by
    have := congrArg (List.map (fun (x : Nat × Bytes × Deco) => x.2.2.apply (.term (.rune x.1 x.2.1)))) hsame
    simp only [List.map_map, Function.comp_def] at this
    exact this
  have htv : toks.map (fun t => (Utf8.encodeRune t.ch, some (Val.rune t.ch))) =
      toks'.map (fun t => (Utf8.encodeRune t.ch, some (Val.rune t.ch))) := by
    have := congrArg (List.map (fun (x : Nat × Bytes × Deco) => (Utf8.encodeRune x.1, some (Val.rune x.1)))) hsame
    simpa [List.map_map, Function.comp_def] using this
  have hne' : toks' ≠ [] := by
    intro h; rw [h] at hlen; exact hne (List.eq_nil_of_length_eq_zero (by simpa using hlen.symm))
  refine ⟨tokNodes pos g0 toks, tokNodes pos' g0' toks', pos + g0.length, endPos pos g0 toks,
    pos' + g0'.length, endPos pos' g0' toks', { st with calls := st.calls + toks.length },
    { st' with calls := st'.calls + toks'.length },
    c10_transparent cfg toks o g0 ctx pos st fuel hmc hoff hne hsingle hwf hg0 hin hrest hadm hfuel, ?_, ?_⟩
  · rw [hg]
    exact c10_transparent cfg' toks' o g0' ctx' pos' st' fuel hmc' hoff' hne' hsingle hwf' hg0' hin' hrest' hadm' (by omega)
  · rw [tokNodes_tv, tokNodes_tv, htv]

/-! ### facts taken from the source (regenerated on every run) -/

theorem c10_facts : Facts.wsBytes = [32, 9, 10, 12] ∧ Facts.wsBreakBytes = [10, 12] := by decide

/-! ### non-vacuity: a concrete file, every hypothesis discharged, and the model evaluated -/

def c10Params : Params := { floatOk := fun _ => true, durErr := fun _ => none, regexp := fun _ _ => none }
/-- "a \n b" at base offset 1 -/
def c10File : File := { name := "t", data := [97, 32, 10, 32, 98], offset := 1 }
def c10Cfg : Cfg := { env := [], file := c10File, fileSet := {}, params := c10Params }
def c10A : Terminal := .rune 97 [39, 97, 39]
def c10B : Terminal := .rune 98 [39, 98, 39]

theorem c10_nv_in (p : Nat) (h : 1 ≤ p ∧ p ≤ 6) : InFile c10Cfg.file p := by
  unfold InFile File.len c10Cfg c10File; simpa using h

-- LeftTrim at position 2 (the run " \n " of length 3, first break at offset 1, then 'b' at 5)
example : wsRun (rest c10Cfg.file 2) = 3 ∧ firstBreak (rest c10Cfg.file 2) = some 1 := by decide
example : c10B.parse c10Cfg.params c10Cfg.file 5 = .node (.term [98] (.rune 98) 5 6) := rfl

example : run c10Cfg 2 (.ltrim (.term c10B) .spacesNl) [] 2 {} = some (⟨.one (.term [98] (.rune 98) 5 6), [], none⟩, {}) :=
  (c10_ltrim_accept c10Cfg 2 c10B .spacesNl [] 2 {} _ (by decide) (Or.inl rfl) (c10_nv_in 2 (by decide)) (by decide) rfl (by decide)).1


example : run c10Cfg 2 (.ltrim (.term c10B) .forceNl) [] 2 {} = some (⟨.one (.term [98] (.rune 98) 5 6), [], none⟩, {}) :=
  (c10_ltrim_accept c10Cfg 2 c10B .forceNl [] 2 {} _ (by decide) (Or.inl rfl) (c10_nv_in 2 (by decide)) (by decide) rfl (by decide)).1

-- rejected: none at the start of the run (2), spaces at the first line break (3); force-newline at the end of the run " " from 4 (5)
example : run c10Cfg 2 (.ltrim (.term c10B) .none) [] 2 {} = some (⟨.nil, [], some ⟨2, .ws .noneErr⟩⟩, {}) :=
  c10_ltrim_reject c10Cfg 2 c10B .none [] 2 {} _ (by decide) (Or.inl rfl) (c10_nv_in 2 (by decide)) (by decide) rfl (by decide)
example : run c10Cfg 2 (.ltrim (.term c10B) .spaces) [] 2 {} = some (⟨.nil, [], some ⟨3, .ws .spacesErr⟩⟩, {}) :=
  c10_ltrim_reject c10Cfg 2 c10B .spaces [] 2 {} _ (by decide) (Or.inl rfl) (c10_nv_in 2 (by decide)) (by decide) rfl (by decide)
example : run c10Cfg 2 (.ltrim (.term c10B) .forceNl) [] 4 {} = some (⟨.nil, [], some ⟨5, .ws .forceNlErr⟩⟩, {}) :=
  c10_ltrim_reject c10Cfg 2 c10B .forceNl [] 4 {} _ (by decide) (Or.inl rfl) (c10_nv_in 4 (by decide)) (by decide) rfl (by decide)

-- the same three, evaluated directly in the model
example : (run c10Cfg 2 (.ltrim (.term c10B) .none) [] 2 {}).map (fun p => (p.1.res.isNil, p.1.err)) = some (true, some ⟨2, .ws .noneErr⟩) ∧
    (run c10Cfg 2 (.ltrim (.term c10B) .spaces) [] 2 {}).map (fun p => (p.1.res.isNil, p.1.err)) = some (true, some ⟨3, .ws .spacesErr⟩) ∧
    (run c10Cfg 2 (.ltrim (.term c10B) .forceNl) [] 4 {}).map (fun p => (p.1.res.isNil, p.1.err)) = some (true, some ⟨5, .ws .forceNlErr⟩) := by
  decide

-- the token fails ('a' is asked for where 'b' stands): kept at 5 under an accepted run, moved to 2 under a rejected one
example : c10A.parse c10Cfg.params c10Cfg.file 5 = .err ⟨5, .notFound [39, 97, 39]⟩ := rfl
example : (run c10Cfg 2 (.ltrim (.term c10A) .spacesNl) [] 2 {}).map (fun p => p.1.err) = some (some ⟨5, .notFound [39, 97, 39]⟩) ∧
    (run c10Cfg 2 (.ltrim (.term c10A) .spaces) [] 2 {}).map (fun p => p.1.err) = some (some ⟨2, .notFound [39, 97, 39]⟩) := by
  constructor
  · rw [c10_ltrim_token_notfound c10Cfg 2 c10A .spacesNl [] 2 {} _ (by decide) (Or.inl rfl) (c10_nv_in 2 (by decide)) (by decide) rfl (by decide) rfl]
    rfl
  · rw [c10_ltrim_token_notfound c10Cfg 2 c10A .spaces [] 2 {} _ (by decide) (Or.inl rfl) (c10_nv_in 2 (by decide)) (by decide) rfl (by decide) rfl]
    rfl

-- RightTrim of 'a' at 1: the node (1,2) ends at 5 after the run, or is rejected at 2 / 3
example : c10A.parse c10Cfg.params c10Cfg.file 1 = .node (.term [97] (.rune 97) 1 2) := rfl
example : ∃ tok v, Node.term [97] (.rune 97) 1 2 = .term tok v 1 2 ∧
    run c10Cfg 2 (.rtrim (.term c10A) .forceNl) [] 1 {} = some (⟨.one (.term tok v 1 (2 + 3)), [], none⟩, {}) :=
  c10_rtrim_accept c10Cfg 2 c10A .forceNl [] 1 {} _ (by decide) (Or.inl rfl) (c10_nv_in 2 (by decide)) (by decide) rfl (by decide)
example : run c10Cfg 2 (.rtrim (.term c10A) .none) [] 1 {} = some (⟨.nil, [], some ⟨2, .ws .noneErr⟩⟩, {}) :=
  c10_rtrim_reject c10Cfg 2 c10A .none [] 1 {} (.term [97] (.rune 97) 1 2) (by decide) (Or.inl rfl) (c10_nv_in 2 (by decide)) (by decide) rfl (by decide)
example : run c10Cfg 2 (.rtrim (.term c10A) .spaces) [] 1 {} = some (⟨.nil, [], some ⟨3, .ws .spacesErr⟩⟩, {}) :=
  c10_rtrim_reject c10Cfg 2 c10A .spaces [] 1 {} (.term [97] (.rune 97) 1 2) (by decide) (Or.inl rfl) (c10_nv_in 2 (by decide)) (by decide) rfl (by decide)
example : (run c10Cfg 2 (.rtrim (.term c10A) .forceNl) [] 1 {}).map (fun p => (p.1.res.alts.map (fun n => (n.token, n.pos, n.rpos)), p.1.err)) =
    some ([([97], 1, 5)], none) := by decide

-- Parse prefers the whitespace error (at 2) to a further context error (at 5)
def c10CfgWs : Cfg := { c10Cfg with file := { name := "w", data := [32, 98], offset := 1 } }
example : (parse c10CfgWs 2 (.ltrim (.term c10B) .none) { ctxErr := some ⟨3, .notFound [120]⟩ }).map (fun p => (p.res.isNil, p.err)) =
    some (true, some ⟨1, .ws .noneErr⟩) :=
  c10_parse_ltrim_reject c10CfgWs 2 c10B .none _ (.term [98] (.rune 98) 2 3) (by decide) (Or.inl rfl) (by decide) rfl (by decide)


/-- a context error further than the whitespace error also arises inside a parse: the second alternative of
    Any gets as far as position 5 before failing, LeftTrim(none) then rejects the run at 2 -/
def c10Any : G := .seq .seqOf [.any [.term c10A, .seq .seqOf [.term c10A, .term (.rune 32 []), .term (.rune 10 []), .term (.rune 32 []), .term c10A] {}],
  .ltrim (.term c10B) .none] {}
example : (parse c10Cfg 9 c10Any).map (fun p => (p.err, p.st.ctxErr)) =
    some (some ⟨2, .ws .noneErr⟩, some ⟨5, .notFound [39, 97, 39]⟩) := by decide

-- transparency: "a \n b" under RightTrim(a, spaces-and-newlines) · LeftTrim(b, spaces), and under a · LeftTrim(RightTrim(b, none), force-newline)
def c10Toks1 : List Tok := [⟨97, [39, 97, 39], .r .spacesNl, [32, 10, 32]⟩, ⟨98, [39, 98, 39], .l .spaces, []⟩]
def c10Toks2 : List Tok := [⟨97, [39, 97, 39], .bare, [32, 10, 32]⟩, ⟨98, [39, 98, 39], .lr .forceNl .none, []⟩]
/-- the same tokens with no whitespace at all: "ab" -/
def c10Toks0 : List Tok := [⟨97, [39, 97, 39], .r .spacesNl, []⟩, ⟨98, [39, 98, 39], .l .spaces, []⟩]
def c10Cfg0 : Cfg := { c10Cfg with file := { name := "u", data := [97, 98], offset := 8 } }

theorem c10_nv_wf1 : ∀ t ∈ c10Toks1, t.wf := by
  intro t ht; simp only [c10Toks1, List.mem_cons, List.not_mem_nil, or_false] at ht
  rcases ht with rfl | rfl <;> (unfold Tok.wf; decide)
theorem c10_nv_wf2 : ∀ t ∈ c10Toks2, t.wf := by
  intro t ht; simp only [c10Toks2, List.mem_cons, List.not_mem_nil, or_false] at ht
  rcases ht with rfl | rfl <;> (unfold Tok.wf; decide)
theorem c10_nv_wf0 : ∀ t ∈ c10Toks0, t.wf := by
  intro t ht; simp only [c10Toks0, List.mem_cons, List.not_mem_nil, or_false] at ht
  rcases ht with rfl | rfl <;> (unfold Tok.wf; decide)
theorem c10_nv_adm1 : Adm [] c10Toks1 := by
  simp only [c10Toks1, Adm, Deco.left, Deco.right]; decide
theorem c10_nv_adm2 : Adm [] c10Toks2 := by
  simp only [c10Toks2, Adm, Deco.left, Deco.right]; decide
theorem c10_nv_adm0 : Adm [] c10Toks0 := by
  simp only [c10Toks0, Adm, Deco.left, Deco.right]; decide

example : run c10Cfg 6 (.seq .seqOf (c10Toks1.map Tok.g) {}) [] 1 {} =
    some (⟨.one (.nt seqTok [.term [97] (.rune 97) 1 5, .term [98] (.rune 98) 5 6] 1 6 .none), [], none⟩, { calls := 2 }) :=
  c10_transparent c10Cfg c10Toks1 {} [] [] 1 {} 6 rfl (by decide) (by decide) rfl c10_nv_wf1 (by simp) (c10_nv_in 1 (by decide)) rfl c10_nv_adm1 (by decide)
example : run c10Cfg 6 (.seq .seqOf (c10Toks2.map Tok.g) {}) [] 1 {} =
    some (⟨.one (.nt seqTok [.term [97] (.rune 97) 1 2, .term [98] (.rune 98) 5 6] 1 6 .none), [], none⟩, { calls := 2 }) :=
  c10_transparent c10Cfg c10Toks2 {} [] [] 1 {} 6 rfl (by decide) (by decide) rfl c10_nv_wf2 (by simp) (c10_nv_in 1 (by decide)) rfl c10_nv_adm2 (by decide)
example : run c10Cfg0 6 (.seq .seqOf (c10Toks1.map Tok.g) {}) [] 8 {} =
    some (⟨.one (.nt seqTok [.term [97] (.rune 97) 8 9, .term [98] (.rune 98) 9 10] 8 10 .none), [], none⟩, { calls := 2 }) :=
  c10_transparent c10Cfg0 c10Toks0 {} [] [] 8 {} 6 rfl (by decide) (by decide) rfl c10_nv_wf0 (by simp)
    (by unfold InFile File.len c10Cfg0; decide) rfl c10_nv_adm0 (by decide)
-- and a gap that violates a mode that looks at it is not admissible
example : ¬ Adm [] [⟨97, [39, 97, 39], .r .spaces, [32, 10, 32]⟩, ⟨98, [39, 98, 39], .bare, []⟩] := by
  simp only [Adm, Deco.left, Deco.right]; decide


-- "a \n b" and "ab" give the same tokens and values
example : ∃ kids kids' p r p' r' s s',
    run c10Cfg 6 (.seq .seqOf (c10Toks1.map Tok.g) {}) [] 1 {} = some (⟨.one (.nt seqTok kids p r .none), [], none⟩, s) ∧
    run c10Cfg0 6 (.seq .seqOf (c10Toks1.map Tok.g) {}) [] 8 {} = some (⟨.one (.nt seqTok kids' p' r' .none), [], none⟩, s') ∧
    kids.map Node.tv = kids'.map Node.tv :=
  c10_transparent_shape c10Cfg c10Cfg0 c10Toks1 c10Toks0 {} [] [] [] [] 1 8 {} {} 6 rfl (by decide) rfl
    rfl (by decide) c10_nv_wf1 (by simp) (c10_nv_in 1 (by decide)) rfl c10_nv_adm1
    rfl (by decide) c10_nv_wf0 (by simp) (by unfold InFile File.len c10Cfg0; decide) rfl c10_nv_adm0 (by decide)

-- Trim(b) at 2: own start 5, end 6 (end of file, empty trailing run)
example : ∃ tok v, Node.term [98] (.rune 98) 5 6 = .term tok v (2 + 3) 6 ∧
    run c10Cfg 3 (G.trim (.term c10B)) [] 2 {} = some (⟨.one (.term tok v (2 + 3) (6 + 0)), [], none⟩, {}) :=
  c10_trim c10Cfg 3 c10B [] 2 {} (.term [98] (.rune 98) 5 6) (by decide) (Or.inl rfl) (c10_nv_in 2 (by decide)) (c10_nv_in 6 (by decide)) (by decide) rfl

-- RightTrim outermost over a rejecting LeftTrim: the whitespace error stays at the start of the run (2), it is
-- not moved past the run (DESIGN.md, D10); through the theorem and evaluated directly
example : run c10Cfg 3 ((Deco.rl .none .spacesNl).apply (.term c10B)) [] 2 {} = some (⟨.nil, [], some ⟨2, .ws .noneErr⟩⟩, {}) :=
  c10_deco_reject_left c10Cfg 3 (.rl .none .spacesNl) .none c10B [] 2 {} (.term [98] (.rune 98) 5 6) (by decide) (Or.inl rfl)
    (c10_nv_in 2 (by decide)) (by decide) rfl rfl (by decide) (by intro rm h; cases h)
example : run c10Cfg 3 ((Deco.lr .spaces .spacesNl).apply (.term c10B)) [] 2 {} = some (⟨.nil, [], some ⟨3, .ws .spacesErr⟩⟩, {}) :=
  c10_deco_reject_left c10Cfg 3 (.lr .spaces .spacesNl) .spaces c10B [] 2 {} (.term [98] (.rune 98) 5 6) (by decide) (Or.inl rfl)
    (c10_nv_in 2 (by decide)) (by decide) rfl rfl (by decide)
    (by intro rm h; cases h; exact ⟨c10_nv_in 6 (by decide), Or.inl (by decide)⟩)
example : run c10Cfg 3 ((Deco.rl .spacesNl .spaces).apply (.term c10A)) [] 1 {} = some (⟨.nil, [], some ⟨3, .ws .spacesErr⟩⟩, {}) :=
  c10_deco_reject_right c10Cfg 3 (.rl .spacesNl .spaces) .spaces c10A [] 1 {} (.term [97] (.rune 97) 1 2) (by decide) (Or.inl rfl)
    (c10_nv_in 1 (by decide)) (c10_nv_in 2 (by decide)) (by decide) rfl rfl (by intro lm h; cases h; trivial) (by decide)
example : ∃ tok v, Node.term [98] (.rune 98) 5 6 = .term tok v (2 + 3) 6 ∧
    run c10Cfg 3 ((Deco.lr .forceNl .none).apply (.term c10B)) [] 2 {} = some (⟨.one (.term tok v (2 + 3) (6 + 0)), [], none⟩, {}) :=
  c10_deco_accept c10Cfg 3 (.lr .forceNl .none) c10B [] 2 {} (.term [98] (.rune 98) 5 6) (by decide) (Or.inl rfl)
    (c10_nv_in 2 (by decide)) (by decide) rfl (by intro lm h; cases h; decide)
    (by intro rm h; cases h; exact ⟨c10_nv_in 6 (by decide), by decide⟩)

-- the side condition of `c10_deco_reject_left` for LeftTrim∘RightTrim is needed: an EMPTY token (a regexp matching
-- the empty string) whose right mode rejects as well reports the right mode's error (5), not the left one (2)
example : (run { c10Cfg with params := { c10Params with regexp := fun _ _ => some (0, none) } } 3
      ((Deco.lr .none .forceNl).apply (.term (.regexp 0 [82] [114] false))) [] 2 {}).map (fun p => p.1.err) =
    some (some ⟨5, .ws .forceNlErr⟩) := by decide

/-- the model evaluated (model = trim.go):
    (1) RightTrim around a LeftTrim that rejected its run reports the whitespace error where LeftTrim put it,
        at the start of the run (2), not past it (5);
    (2) still outside the theorems' hypotheses: a force-newline LeftTrim after a right-trimmed token looks
        at an empty run and rejects (`Adm` demands that the left mode accepts the empty run there). -/
theorem c10_outside_the_theorems :
    (run c10Cfg 3 (.rtrim (.ltrim (.term c10B) .none) .spacesNl) [] 2 {}).map (fun p => p.1.err) = some (some ⟨2, .ws .noneErr⟩) ∧
    (run c10Cfg 6 (.seq .seqOf [.rtrim (.term c10A) .spacesNl, .ltrim (.term c10B) .forceNl] {}) [] 1 {}).map (fun p => p.1.err) =
      some (some ⟨5, .ws .forceNlErr⟩) := by decide

end PV
