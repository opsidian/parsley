/-
  C16 — the example JSON parser agrees with encoding/json on the supported subset.

  Model: `run` / `parse` / `evaluate` on the closed grammar `Gjson.env`, `Gjson.root` (Spec/Json.lean), the
  transcription of /repo/examples/json/json/parser.go under `Sentence(Trim(…))`:

      value  := Choice(String, Float, Integer, array, object, Bool("true","false"), Nil("null")).Name("value")
      array  := SeqOf('[', SepBy(LeftTrim(value, nl), LeftTrim(',', spaces)).Bind(Array),  LeftTrim(']', nl)).Bind(Select(1))
      kv     := SeqOf(String, LeftTrim(':', spaces), LeftTrim(value, nl))                  -- no interpreter
      object := SeqOf('{', SepBy(LeftTrim(kv, nl), LeftTrim(',', spaces)).Bind(Object), LeftTrim('}', nl)).Bind(Select(1))
      root   := Sentence(Trim(value))

  exactly the terms the harness sends to the model (stream C16G: the driver command `gclosed` compares the received
  grammar with these closed terms on every run; the differential stream C16 runs the REAL `json.NewParser()`
  against the model of this transcription and against encoding/json).

  Reference: `JVal` (null, bool, int64, decimal lexeme, string bytes, arrays, objects as member lists with
  duplicates), `jvalOf : Node → Option JVal`, `denote : JVal → V` (arrays in order; objects as Go maps to which
  the members are assigned in source order, so the LAST duplicate key wins: `c16_denote_obj`).

  PROVED (every input file, every fuel, every custom-interpreter table), of every tree the grammar derives and, through
  C01 soundness, of every tree `parse` returns: its SHAPE (`c16_tree_shape`, `c16_parse_tree`: `Sentence[t, EOF]`, `t` a JSON
  tree ending at the end of the input; `IsJsonTree`: literal leaves; `['[', SEP_BY/Array node, ']']` under Select(1) whose
  even children are JSON trees and odd children `,` leaves, never ending in `,`; the same for objects with key/value nodes
  `[STRING leaf with a string value, ':', JSON tree]`); its EVALUATION (`c16_eval_total`, `c16_value`: with fuel above the
  depth the VALUE `denote j` of the JSON value `j` it denotes — no error, none of the evaluator's panics: Object's type
  assertions `key.(string)`, `Children()[0]`, `[2]`, `nodes[i].(NonTerminalNode)` hold); and the same through `parse` /
  `evaluate` (`c16_evaluate`, `c16_no_panic`, `c16_value_partial`, `c16_reject_partial`: error xor value, a value only from a
  tree `Sentence[jsonTree, EOF]`, and it is `denote` of the JSON value that tree denotes).

  A TRAP, negation proved: "every JSON tree is `Node.EvalSafe`, so `c04_eval` gives no-panic" is FALSE —
  `c16_json_tree_not_evalSafe`: the key/value SEQ nodes carry NO interpreter (parser.go binds none; Object reads
  their children directly and never evaluates them), and `Node.EvalSafe` demands an interpreter at every
  non-terminal.  No-panic is therefore proved directly (`c16_eval_total`), not through `c04_eval`.

  The theorems of this file need neither completeness of `run` on the grammar nor a description of its language as
  byte strings.  The full statements of DESIGN.md stand in the files that build on this one: `c16_value_full`
  (Props/C16V.lean: every supported value under every admissible layout evaluates to `denote` of it),
  `c16_accept_iff`, `c16_accepted_tree`, `c16_rejects_outside` (Props/C16A.lean: the accepted language `JLang` as
  byte strings, exactly one tree, an error outside), `c16_decides` (Props/C16D.lean: with termination).

  NOT PROVED, outside Lean: that `denote v` is what encoding/json (UseNumber) decodes the rendered document to — a
  statement about an external library; the differential stream C16 checks it on every generated document.
-/
import ParsleyVerif.Proofs.JsonShape
import ParsleyVerif.Proofs.JsonEval
import ParsleyVerif.Proofs.JsonDec
import ParsleyVerif.Proofs.ArithShape
import ParsleyVerif.Props.C01
import ParsleyVerif.Props.C05
import ParsleyVerif.Props.C13
namespace PV
open PV.Text

/-! ### the grammar is within the scope of C01 soundness (it has no Memoize at all) -/

theorem c16_grammar_ok (bodyOf : Nat → G) : (∀ g' ∈ Gjson.env, GOK bodyOf g') ∧ GOK bodyOf Gjson.root := by
  refine ⟨?_, ?_⟩
  · intro g' hg'
    simp only [Gjson.env, List.mem_cons, List.not_mem_nil, or_false] at hg'
    subst hg'
    simp [GOK, G.All, AllList, LocalOK, Gjson.valueRule, Gjson.alts, Gjson.array, Gjson.object, Gjson.elems,
      Gjson.members, Gjson.keyValue, Gjson.comma, Gjson.value, Gjson.rn]
  · simp [GOK, G.All, AllList, LocalOK, Gjson.root, G.sentence]

theorem c16_value_trees (cfg : Cfg) (henv : cfg.env = Gjson.env) (pos : Nat) (x : Node)
    (h : Derives cfg (.ref 0) pos x) : IsJsonTree cfg.file x :=
  (derives_abs cfg (jsonR cfg.file) (json_closed cfg henv) h).ref_inv

/-- **C16 tree shape**: every derivation of the root is `Sentence[t, EOF]`, `t` a JSON tree ending at the end of
    the input -/
theorem c16_tree_shape (cfg : Cfg) (henv : cfg.env = Gjson.env) (pos : Nat) (x : Node)
    (h : Derives cfg Gjson.root pos x) :
    ∃ t, IsJsonTree cfg.file t ∧ isEOF cfg.file t.rpos = true ∧ x = sentenceNode t := by
  obtain ⟨y, hy, heof, hx⟩ := derives_sentence_inv cfg _ pos x h
  exact ⟨y, json_derives_trim cfg henv pos y hy, heof, hx⟩

/-- through C01 soundness: every tree `parse` returns is `Sentence[t, EOF]` over a JSON tree that ends at the end
    of the input -/
theorem c16_parse_tree (cfg : Cfg) (henv : cfg.env = Gjson.env) (fuel : Nat) (p : ParseOut)
    (h : parse cfg fuel Gjson.root = some p) :
    ∀ x ∈ p.res.alts, ∃ t, IsJsonTree cfg.file t ∧ isEOF cfg.file t.rpos = true ∧ x = sentenceNode t := by
  intro x hx
  have hok := c16_grammar_ok (fun _ => .empty)
  have henv' : ∀ g' ∈ cfg.env, GOK (fun _ => .empty) g' := by rw [henv]; exact hok.1
  exact c16_tree_shape cfg henv _ x (c01_sound_parse cfg _ henv' fuel _ hok.2 p h x hx)

theorem c16_jvalOf_total (f : File) (x : Node) (h : IsJsonTree f x) : ∃ j, jvalOf x = some j := by
  obtain ⟨j, hj, _⟩ := json_good (fun _ _ _ _ => .panic "") h
  exact ⟨j, hj⟩

/-- **C16 totality**: for every custom-interpreter table and every fuel a JSON tree evaluates to the value of the
    JSON value it denotes, or the fuel runs out (only when it does not exceed the depth): never an error, never
    one of the evaluator's panics ("missing interpreter", "node index is out of bounds", "index out of range",
    "interface conversion …") -/
theorem c16_eval_total (f : File) (x : Node) (h : IsJsonTree f x) (ce : CustomEval) (fuel : Nat) :
    ∃ j, jvalOf x = some j ∧
      (evalNode ce fuel x = .ok (denote j) ∨ (evalNode ce fuel x = .panic "out of fuel" ∧ fuel ≤ x.depth)) := by
  obtain ⟨j, hj, hev⟩ := json_good ce h
  exact ⟨j, hj, hev fuel⟩

/-- **C16 value**: with fuel above the depth, a JSON tree evaluates to `denote` of the JSON value it denotes -/
theorem c16_value (f : File) (x : Node) (h : IsJsonTree f x) (j : JVal) (hj : jvalOf x = some j) (ce : CustomEval)
    (fuel : Nat) (hd : x.depth < fuel) : evalNode ce fuel x = .ok (denote j) := by
  obtain ⟨j', hj', hev⟩ := c16_eval_total f x h ce fuel
  rw [hj] at hj'
  cases hj'
  rcases hev with h1 | ⟨_, h2⟩
  · exact h1
  · omega

/-- **FALSE**: "every JSON tree is `Node.EvalSafe`" — the tree of `{"a":1}` is a JSON tree and is
    not `EvalSafe` — its key/value node has no interpreter.  (Evaluation does not panic all the same:
    `c16_eval_total`; Object never evaluates the key/value node itself.) -/
theorem c16_json_tree_not_evalSafe :
    ∃ (f : File) (x : Node), IsJsonTree f x ∧ ¬ x.EvalSafe := by
  refine ⟨{ name := "f", data := [123, 34, 97, 34, 58, 49, 125], offset := 1 },
    .nt seqTok [.term [123] (.rune 123) 1 2,
      .nt sepByTok [.nt seqTok [.term (tokOf "STRING") (.str [97]) 2 5, .term [58] (.rune 58) 5 6,
        .term (tokOf "INTEGER") (.int 1) 6 7] 2 7 .none] 2 7 .object,
      .term [125] (.rune 125) 7 8] 1 8 (.select 1), ?_, ?_⟩
  · refine .obj ⟨1, 2, rfl, 2, by decide⟩ ⟨7, 8, rfl, 8, by decide⟩ (.inr rfl) ?_ ?_ ?_
    · intro i n hn hi
      match i, hi with
      | 1, _ => simp at hn
      | k + 2, _ => simp at hn
    · intro i n hn hi
      match i, hi with
      | 0, _ =>
        simp only [List.getElem?_cons_zero, Option.some.injEq] at hn
        subst hn
        exact ⟨_, _, _, _, _, _, _, _, _, rfl, 5, 6, rfl, 6, by decide⟩
      | k + 1, _ => simp at hn
    · intro i tk3 k0 colon v p3 q3 i3 hn hi
      match i, hi with
      | 0, _ =>
        simp only [List.getElem?_cons_zero, Option.some.injEq, Node.nt.injEq, List.cons.injEq, and_true] at hn
        obtain ⟨_, ⟨_, _, rfl⟩, _⟩ := hn
        exact .int
      | k + 1, _ => simp at hn
  · simp [Node.EvalSafe, EvalSafeList]

theorem denoteList_eq : ∀ l : List JVal, denoteList l = l.map denote
  | [] => by simp [denoteList]
  | j :: l => by simp [denoteList, denoteList_eq l]

theorem denotePairs_eq : ∀ l : List (Bytes × JVal), denotePairs l = l.map (fun kj => (kj.1, denote kj.2))
  | [] => by simp [denotePairs]
  | (k, j) :: l => by simp [denotePairs, denotePairs_eq l]

theorem c16_denote_arr (l : List JVal) : denote (.arr l) = .arr (l.map denote) := by
  simp [denote, denoteList_eq]

/-- objects: a map in which every key occurs once and answers with the value of the LAST member with that key -/
theorem c16_denote_obj (kvs : List (Bytes × JVal)) :
    ∃ m, denote (.obj kvs) = .obj m ∧ (m.map (·.1)).Nodup ∧
      ∀ k, mapGet m k = (kvs.reverse.find? (fun kj => kj.1 = k)).map (fun kj => denote kj.2) := by
  refine ⟨mapOfPairs (denotePairs kvs), by simp [denote], (c13_object_map _ []).2, fun k => ?_⟩
  rw [(c13_object_map _ k).1, denotePairs_eq, ← List.map_reverse, List.find?_map]
  simp [Function.comp_def]

theorem c16_denote_scalars (b : Bool) (i : Int) (l s : Bytes) :
    denote .null = .nil ∧ denote (.bool b) = .bool b ∧ denote (.int i) = .int i ∧ denote (.float l) = .float l ∧
    denote (.str s) = .str s := by
  simp [denote]

theorem sentenceNode_depth (t : Node) : (sentenceNode t).depth = t.depth + 1 := by
  simp [sentenceNode, Node.depth, depthAll]

/-- **C16, `evaluate` on the grammar** (DESIGN.md's `c16_value_partial`).  Either the parse fails and its error
    is the answer; or it returns a single tree `Sentence[t, EOF]`, `t` a JSON tree denoting `j`, and the answer is
    the value `denote j` (or out of fuel); or it returns several trees (not excluded here: that needs
    unambiguity) and the answer is the evaluator's "node does not have a value" error. -/
theorem c16_evaluate (cfg : Cfg) (henv : cfg.env = Gjson.env) (ce : CustomEval) (fuel : Nat) (out : EvaluateOut)
    (h : evaluate cfg ce fuel Gjson.root = some out) :
    ∃ p, parse cfg fuel Gjson.root = some p ∧
      ((∃ m, p.msg = some m ∧ out = .error m) ∨
       (p.msg = none ∧ ∃ t j, p.res = .one (sentenceNode t) ∧ IsJsonTree cfg.file t ∧ isEOF cfg.file t.rpos = true ∧
          jvalOf t = some j ∧ (out = .value (denote j) ∨ (out = .panic "out of fuel" ∧ fuel ≤ t.depth + 1))) ∨
       (p.msg = none ∧ ∃ n l, p.res = .list (n :: l) ∧
          out = .error (errorWithPosition cfg.fileSet ⟨n.pos, .other noValueMsg⟩))) := by
  obtain ⟨p, hp, hrej | ⟨hok, t, hres, ⟨ht, heof⟩, hout⟩ | hlist⟩ := evaluate_sentence_cases
    (T := fun t => IsJsonTree cfg.file t ∧ isEOF cfg.file t.rpos = true) h fun p hp x hx =>
      let ⟨t, a, b, c⟩ := c16_parse_tree cfg henv fuel p hp x hx; ⟨t, ⟨a, b⟩, c⟩
  · exact ⟨p, hp, .inl hrej⟩
  · cases fuel with
    | zero =>
      obtain ⟨j, hj⟩ := c16_jvalOf_total _ t ht
      exact ⟨p, hp, .inr (.inl ⟨hok, t, j, hres, ht, heof, hj, .inr ⟨hout, Nat.zero_le _⟩⟩)⟩
    | succ k =>
      rw [evalNode_sentenceNode] at hout
      obtain ⟨j, hj, hv | ⟨hv, hk⟩⟩ := c16_eval_total _ t ht ce k <;> rw [hv] at hout
      · exact ⟨p, hp, .inr (.inl ⟨hok, t, j, hres, ht, heof, hj, .inl hout⟩)⟩
      · exact ⟨p, hp, .inr (.inl ⟨hok, t, j, hres, ht, heof, hj, .inr ⟨hout, by omega⟩⟩)⟩
  · exact ⟨p, hp, .inr (.inr hlist)⟩

/-- **C16: `evaluate` never panics** on the JSON grammar, whatever the input (truncated, corrupted, trailing
    bytes, …) — the model's own "out of fuel" aside -/
theorem c16_no_panic (cfg : Cfg) (henv : cfg.env = Gjson.env) (ce : CustomEval) (fuel : Nat) (s : String)
    (h : evaluate cfg ce fuel Gjson.root = some (.panic s)) : s = "out of fuel" := by
  obtain ⟨p, _, hc⟩ := c16_evaluate cfg henv ce fuel _ h
  rcases hc with ⟨m, _, h1⟩ | ⟨_, t, j, _, _, _, _, h1⟩ | ⟨_, n, l, _, h1⟩
  · cases h1
  · rcases h1 with h2 | ⟨h2, _⟩
    · cases h2
    · cases h2; rfl
  · cases h1

/-- **C16: a value is `denote` of the JSON value denoted by the tree that was parsed**, and that tree spans the
    input to its end -/
theorem c16_value_partial (cfg : Cfg) (henv : cfg.env = Gjson.env) (ce : CustomEval) (fuel : Nat) (v : V)
    (h : evaluate cfg ce fuel Gjson.root = some (.value v)) :
    ∃ p t j, parse cfg fuel Gjson.root = some p ∧ p.res = .one (sentenceNode t) ∧ IsJsonTree cfg.file t ∧
      isEOF cfg.file t.rpos = true ∧ jvalOf t = some j ∧ v = denote j := by
  obtain ⟨p, hp, hc⟩ := c16_evaluate cfg henv ce fuel _ h
  rcases hc with ⟨m, _, h1⟩ | ⟨_, t, j, hres, ht, heof, hj, h1⟩ | ⟨_, n, l, _, h1⟩
  · cases h1
  · rcases h1 with h2 | ⟨h2, _⟩
    · cases h2; exact ⟨p, t, j, hp, hres, ht, heof, hj, rfl⟩
    · cases h2
  · cases h1

/-- **C16 reject (partial)**: `parse` gives exactly one of tree / error (C04); a tree is never anything but
    `Sentence[jsonTree, EOF]` with the JSON tree ending at the end of the input (no value from trailing input, none
    from a non-JSON shape); and `evaluate` then answers a value or an error, never a panic (`c16_no_panic`) -/
theorem c16_reject_partial (cfg : Cfg) (henv : cfg.env = Gjson.env) (fuel : Nat) (p : ParseOut)
    (h : parse cfg fuel Gjson.root = some p) :
    (p.res.isNil = true ∧ p.err.isSome ∧ p.msg.isSome) ∨
    (p.res.isNil = false ∧ p.err = none ∧ p.msg = none ∧ p.res.alts ≠ [] ∧
      ∀ x ∈ p.res.alts, ∃ t, IsJsonTree cfg.file t ∧ isEOF cfg.file t.rpos = true ∧ x = sentenceNode t) := by
  rcases c04_xor cfg fuel _ {} p h with h1 | h1
  · exact .inr ⟨h1.1, h1.2.1, h1.2.2, parse_sentence_alts_ne cfg _ fuel p h h1.2.2, c16_parse_tree cfg henv fuel p h⟩
  · exact .inl h1

/-! ### non-vacuity: the model's `evaluate`, run by the kernel on concrete files -/

def nvJsonCfg (src : Bytes) : Cfg :=
  let r := ({} : FileSet).addFile (newFile "f" src)
  { env := Gjson.env, file := r.2, fileSet := r.1,
    params := { floatOk := fun _ => true, durErr := fun _ => none, regexp := fun _ _ => none } }

def noCustom : CustomEval := fun _ _ _ _ => .panic "no custom interpreter"

/-- `{"a":[1,2.5,"x"],"a":null}` evaluates to the object with a ↦ null: the last duplicate key wins -/
example : evaluate (nvJsonCfg [123, 34, 97, 34, 58, 91, 49, 44, 50, 46, 53, 44, 34, 120, 34, 93, 44, 34, 97, 34, 58,
    110, 117, 108, 108, 125]) noCustom 1000 Gjson.root = some (.value (.obj [([97], .nil)])) :=
  outIsValue_sound (by decide +kernel)

/-- ` [1, 2.5 ,"x\n",true]` with whitespace where the modes allow it -/
example : evaluate (nvJsonCfg [32, 91, 49, 44, 32, 50, 46, 53, 32, 44, 34, 120, 92, 110, 34, 44, 116, 114, 117, 101, 93])
    noCustom 1000 Gjson.root = some (.value (.arr [.int 1, .float [50, 46, 53], .str [120, 10], .bool true])) :=
  outIsValue_sound (by decide +kernel)

/-- `{"k":{"b":-7},"":[]}` -/
example : evaluate (nvJsonCfg [123, 34, 107, 34, 58, 123, 34, 98, 34, 58, 45, 55, 125, 44, 34, 34, 58, 91, 93, 125])
    noCustom 1000 Gjson.root = some (.value (.obj [([107], .obj [([98], .int (-7))]), ([], .arr [])])) :=
  outIsValue_sound (by decide +kernel)

/-- truncation `[1,`, a missing separator `[1 2]`, trailing input `[1]]`: errors -/
example : evaluate (nvJsonCfg [91, 49, 44]) noCustom 1000 Gjson.root =
    some (.error (tokOf "failed to parse the input: was expecting value at f:1:4")) :=
  outIsError_sound (by decide +kernel)
example : evaluate (nvJsonCfg [91, 49, 32, 50, 93]) noCustom 1000 Gjson.root =
    some (.error (tokOf "failed to parse the input: was expecting \"]\" at f:1:4")) :=
  outIsError_sound (by decide +kernel)
example : evaluate (nvJsonCfg [91, 49, 93, 93]) noCustom 1000 Gjson.root =
    some (.error (tokOf "failed to parse the input: was expecting the end of input at f:1:4")) :=
  outIsError_sound (by decide +kernel)

/-- the reference side of the first example: the member list keeps both `a`s, `denote` keeps the last -/
example : denote (.obj [([97], .arr [.int 1, .float [50, 46, 53], .str [120]]), ([97], .null)]) = .obj [([97], .nil)] := by
  simp [denote, denotePairs, denoteList, mapOfPairs, objSet]

end PV
