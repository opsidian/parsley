/-
  C08Q — the TERMINAL PARSERS of text/terminal, about the closures TRANSLATED from the Go source.

  `factgen -out-term` translates, statement by statement, the function literals returned by `Rune`, `Op`, `Word`, `Bool`,
  `Nil`, `Integer`, `Float`, `Char`, `String`, `TimeDuration` and `Regexp` (rune.go, op.go, word.go, bool.go, nil.go,
  integer.go, float.go, char.go, string.go, time_duration.go, regexp.go) into Lean definitions `Rune_parse` … `Regexp_parse`
  (Generated/FactsTerm.lean, regenerated from the repository on every run; run-time: the hand-written
  Generated/TermPrelude.lean on top of Generated/CorePrelude.lean).  The variables a closure captures (the constructor's
  parameters and `notFoundErr`, `token`, computed before the `return`) are parameters of the generated function; the
  statements before the `return` are translated as `Rune_new` … `Regexp_new`, which answer those variables.  The typed
  node constructors (`NewIntegerNode` …, `ast.NewTerminalNode`) are prelude functions building a leaf of the dynamic node
  type with token and value attached.

  THE WORLD.  A closure calls the reader (`ReadRune`, `MatchString`, `MatchWord`, `ReadRegexp`, `ReadRegexpSubmatch`,
  `Readf(…, unquoteString)`) and four library functions (`strconv.ParseInt`, `ParseFloat`, `UnquoteChar`,
  `time.ParseDuration`) through the parameter `T : TWorld`.  The CONTRACTS (Proofs/TermTieBasics.lean):
    * `TWorldRel T cfg`: the reader's methods answer what the model's functions of Model/Text.lean answer on `cfg.file`,
      a Go panic exactly where the model says `none` (proved of the TRANSLATED reader in Props/C09P.lean, of the translated
      `unquoteString` in Props/C08P.lean); `ReadRegexp` with the TEXT of one of the five literal expressions — the printed
      syntax trees of Spec/Regex.lean — finds what the hand-written matcher finds (= the leftmost-first semantics of the
      expression: `c08_regex_integer` …); `ParseInt(lexeme, 0, 64)` on a lexeme of the integer syntax is `parseInt0`
      (= the mathematical value with the 64-bit range check: `c08_parseInt0_spec`); `ParseFloat(lexeme, 64)` fails exactly
      when `Params.floatOk` is false and `ParseDuration(lexeme)` fails with the text `Params.durErr` gives (their values stay
      symbolic — the lexeme —, as in the model); `UnquoteChar(s, '\'')` is `unquoteChar s 39` (`c08_unquoteChar_table`).
    * `RegexpRel T cfg id rx gi`: for the user expression the model calls `id`, written `rx` in the Go program and used with
      the group index `gi`: `ReadRegexp` / `ReadRegexpSubmatch` find the match `Params.regexp id` reports; the group `gi`
      of the submatches is the group whose value it reports, out of range when it reports none.
-/
import ParsleyVerif.Proofs.TermWorld
import ParsleyVerif.Props.C08
namespace PV
open PV.CoreTie PV.TermTie PV.FactsTerm PV.Text

/-- the closures (`X_parse`) and construction-time parts (`X_new`) the translator is asked for -/
def termFunctions : List String :=
  ["Rune_parse", "Op_parse", "Word_parse", "Bool_parse", "Nil_parse", "Integer_parse", "Float_parse", "Char_parse",
   "String_parse", "TimeDuration_parse", "Regexp_parse",
   "Rune_new", "Op_new", "Word_new", "Bool_new", "Nil_new", "Integer_new", "Float_new", "Char_new", "String_new",
   "TimeDuration_new", "Regexp_new"]

/-- everything asked for is translated -/
theorem c08q_all_translated :
    termFunctions.all (fun f => FactsTerm.translatedTerm.contains f) = true ∧ FactsTerm.untranslatedTerm = [] := by
  decide +kernel

/-- **The tie of the terminals.**  For every world within the contracts, every built-in terminal, every schema value,
    left-recursion context, position and state: the translated closure, instantiated with the terminal's construction
    parameters, computes the model's `Terminal.parse`:
      `.node n`  ↦  `.ok (eNode n, [], nil) s`   (the leaf with the model's token, value and positions; the state unchanged)
      `.err e`   ↦  `.ok (nil, [], eErr1 e) s`   (the model's error kind, message and position)
      `.panic _` ↦  `.panic`                      (a Go run-time panic) -/
theorem c08_translated_terminals {σ : Type} (T : TWorld) (cfg : Cfg) (hT : TWorldRel T cfg) (X : RxNames)
    (schema : CorePrelude.Opaque) (t : Terminal) (hX : RegexpOK T cfg X t) (m : IntMap) (pos : Nat) (s : σ) :
    CorrT (termClosure T X schema t m (pos : Int) s) s (t.parse cfg.params cfg.file pos) :=
  tie_terminal T cfg hT X schema t hX m pos s

/-- what `termClosure` is, terminal by terminal: the generated function applied to the construction parameters -/
theorem c08q_closure {σ : Type} (T : TWorld) (X : RxNames) (schema : CorePrelude.Opaque) :
    (∀ ch name, termClosure (σ := σ) T X schema (.rune ch name) = Rune_parse T (ch : Int) name) ∧
    (∀ op name, termClosure (σ := σ) T X schema (.op op name) = Op_parse T op name) ∧
    (∀ w v name, termClosure (σ := σ) T X schema (.word w v name) =
      Word_parse T schema w (eVal (.opaque v)) name (upperAscii w)) ∧
    (∀ ts fs, termClosure (σ := σ) T X schema (.bool ts fs) = Bool_parse T schema ts fs (CorePrelude.Go.str "boolean")) ∧
    (∀ w, termClosure (σ := σ) T X schema (.nil w) = Nil_parse T schema w w) ∧
    termClosure (σ := σ) T X schema .integer = Integer_parse T schema (CorePrelude.Go.str "integer value") ∧
    termClosure (σ := σ) T X schema .float = Float_parse T schema (CorePrelude.Go.str "float value") ∧
    (∀ bq, termClosure (σ := σ) T X schema (.string bq) = String_parse T schema bq (CorePrelude.Go.str "string literal")) ∧
    termClosure (σ := σ) T X schema .char = Char_parse T schema (CorePrelude.Go.str "char literal") ∧
    termClosure (σ := σ) T X schema .duration = TimeDuration_parse T schema (CorePrelude.Go.str "time duration") ∧
    (∀ id tok name g, termClosure (σ := σ) T X schema (.regexp id tok name g) =
      Regexp_parse T schema tok (X.text id) (X.group id g) name) :=
  ⟨fun _ _ => rfl, fun _ _ => rfl, fun _ _ _ => rfl, fun _ _ => rfl, fun _ => rfl, rfl, rfl, fun _ => rfl, rfl, rfl,
   fun _ _ _ _ => rfl⟩

/-- **the constructors.**  `X_new` is the translation of the statements of the constructor X before its `return` (they run
    once, when the grammar is built, and define the variables the closure captures); `termNew` runs `X_new` and answers
    the closure `X_parse` over what it computed.  For a terminal of the model with documented construction parameters whose
    recorded name is the one the constructor computes (`NamesOK`: strconv.Quote of the rune / operator / word; the model
    takes the quoted name as a parameter) the translated constructor RETURNS exactly the closure `termClosure` that
    `c08_translated_terminals` is about — in particular the messages "boolean", "integer value", "float value",
    "string literal", "char literal", "time duration" and Word's upper-cased token are the source's.  The documented panics
    of the constructors: the empty operator, word, true / false string, nil string. -/
theorem c08q_constructors {σ : Type} (T : TWorld) (cfg : Cfg) (hT : TWorldRel T cfg) (X : RxNames)
    (schema : CorePrelude.Opaque) (s : σ) :
    (∀ t : Terminal, t.WF → NamesOK T t → termNew T X schema t s = .ok (termClosure T X schema t) s) ∧
    Op_new T [] s = .panic ∧ (∀ v, Word_new T schema [] v s = .panic) ∧
    (∀ fs, Bool_new T schema [] fs s = .panic) ∧ (∀ ts, Bool_new T schema ts [] s = .panic) ∧
    Nil_new T schema [] s = .panic := by
  refine ⟨fun t wf hn => ?_, ?_, fun v => ?_, fun fs => ?_, fun ts => ?_, ?_⟩
  · cases t with
    | rune ch name =>
      cases (show name = _ from hn)
      simp [termNew, termClosure, Rune_new, closureStep, pureT, stringOfRune_nat]
    | op op name =>
      cases (show name = _ from hn)
      simp [termNew, termClosure, Op_new, closureStep, pureT, goStr_empty, show op ≠ [] from wf]
    | word w valId name =>
      cases (show name = _ from hn)
      obtain ⟨hw, ha⟩ : w ≠ [] ∧ _ := wf
      simp [termNew, termClosure, Word_new, closureStep, pureT, goStr_empty, hw, hT.toUpper w ha]
    | bool ts fs =>
      obtain ⟨⟨ht, -⟩, hf, -⟩ : (ts ≠ [] ∧ _) ∧ fs ≠ [] ∧ _ := wf
      simp [termNew, termClosure, Bool_new, closureStep, pureT, goStr_empty, ht, hf]
    | nil w =>
      obtain ⟨hw, -⟩ : w ≠ [] ∧ _ := wf
      simp [termNew, termClosure, Nil_new, closureStep, pureT, goStr_empty, hw]
    | _ => rfl
  · simp [Op_new, goStr_empty, GoM.bind_apply, panicT]
  · simp [Word_new, goStr_empty, GoM.bind_apply, panicT]
  · simp [Bool_new, goStr_empty, GoM.bind_apply, panicT]
  · simp [Bool_new, goStr_empty, GoM.bind_apply, panicT]
  · simp [Nil_new, goStr_empty, GoM.bind_apply, panicT]

/-- **the documented panics, about the translated closures**: the empty operator and the empty word (MatchString /
    MatchWord refuse the empty string), and terminal.Regexp with a group index the expression does not have — each a Go
    panic of the translated closure, at every position the reader accepts -/
theorem c08q_documented_panics {σ : Type} (T : TWorld) (cfg : Cfg) (hT : TWorldRel T cfg) (schema : CorePrelude.Opaque)
    (m : IntMap) (pos : Nat) (s : σ) :
    (∀ name, Op_parse T [] name m (pos : Int) s = .panic) ∧
    (∀ v name tok, Word_parse T schema [] v name tok m (pos : Int) s = .panic) ∧
    (∀ id tok name rx gi ml, RegexpRel T cfg id rx gi → gi ≠ 0 → InFile cfg.file pos → rest cfg.file pos ≠ [] →
      cfg.params.regexp id (rest cfg.file pos) = some (ml, none) → ml ≤ (rest cfg.file pos).length →
      Regexp_parse T schema tok rx gi name m (pos : Int) s = .panic) := by
  refine ⟨fun name => tie_Op T cfg hT [] name m pos s, fun v name tok => ?_,
    fun id tok name rx gi ml hR hne hin hr hp hml => ?_⟩
  · unfold Word_parse
    rw [hT.matchWord]
    rfl
  · have h := tie_Regexp T cfg schema id tok name rx gi true hR (by simp [hne]) m pos s
    have e : (Terminal.regexp id tok name true).parse cfg.params cfg.file pos = .panic "Capturing group is invalid" := by
      have h1 : ¬ pos < cfg.file.offset := by have := hin.1; omega
      have hlen := rest_length cfg.file pos hin
      have h2 : ¬ pos - cfg.file.offset ≥ cfg.file.len := by
        intro hge
        apply hr
        unfold rest
        exact List.drop_eq_nil_of_le (by unfold File.len at hge; omega)
      unfold rest at hp hml
      have h3 : ¬ (pos - cfg.file.offset + ml > cfg.file.data.length) := by
        rw [List.length_drop] at hml
        unfold File.len at h2
        omega
      simp [Terminal.parse, readRegexp, h1, h2, hp, h3]
    rw [e] at h
    exact h

/-- **in the parser core's vocabulary** (Props/C01P.lean): (1) wherever the model's terminal does not panic, the translated
    closure corresponds to `run cfg (fuel+1) (.term t)`; (2) the leaf `termLeaf` — the translated closure, a Go panic
    inside it reported as the model reports it (an error value of kind panic) — agrees with `run` on the terminal at EVERY
    position; (3) where the closure does not panic the leaf is the closure -/
theorem c08q_leaf (T : TWorld) (cfg : Cfg) (h0 : cfg.maxCalls = 0) (hT : TWorldRel T cfg) (X : RxNames)
    (schema : CorePrelude.Opaque) (t : Terminal) (hX : RegexpOK T cfg X t) (fuel : Nat) :
    (∀ (m : IntMap) (c : Ctx) (pos : Nat) (s : FactsCore.Context) (st : St), StRel s st →
      (∀ site, t.parse cfg.params cfg.file pos ≠ .panic site) →
      Corr (termClosure T X schema t m (pos : Int) s) (run cfg (fuel + 1) (.term t) c pos st)) ∧
    AgreesF (termLeaf cfg T X schema t) cfg (fuel + 1) (.term t) ∧
    (∀ (m : IntMap) (pos : Int) (s : FactsCore.Context), termClosure T X schema t m pos s ≠ .panic →
      termLeaf cfg T X schema t m pos s = termClosure T X schema t m pos s) := by
  refine ⟨fun m c pos s st hs hnp => ?_, tie_leaf T cfg h0 hT X schema t hX fuel,
    fun m pos s h => leaf_eq_of_not_panic cfg T X schema t m pos s h⟩
  have h := tie_terminal T cfg hT X schema t hX m pos s
  rw [run_succ0 h0, runStep, termStep]
  revert h hnp
  rcases t.parse cfg.params cfg.file pos with n | e | site <;> intro hnp h
  · exact ⟨s, h, hs⟩
  · exact ⟨s, h, hs.logEv cfg _⟩
  · exact absurd rfl (hnp site)

/-- **C08 totality, of the translated closures**: for every terminal with documented construction parameters, every file,
    every position in it, every ParseFloat / ParseDuration behaviour, every in-bounds regexp engine that has the capturing
    group the terminal was built with, the translated closure RETURNS: a leaf with a nil error, or a nil node with an error;
    the curtailing set is empty and the state untouched.  Never a panic, never out of fuel. -/
theorem c08q_total {σ : Type} (T : TWorld) (cfg : Cfg) (hT : TWorldRel T cfg) (X : RxNames) (schema : CorePrelude.Opaque)
    (t : Terminal) (hX : RegexpOK T cfg X t) (m : IntMap) (pos : Nat) (s : σ)
    (h : InFile cfg.file pos) (wf : t.WF) (hl : cfg.params.LenOk t) (hg : cfg.params.GroupOk t) :
    ∃ (n : CNode) (e : CErr), termClosure T X schema t m (pos : Int) s = .ok (n, [], e) s ∧
      ((n.isNil = false ∧ e.isNil = true) ∨ (n.isNil = true ∧ e.isNil = false)) := by
  have hc := tie_terminal T cfg hT X schema t hX m pos s
  cases hp : t.parse cfg.params cfg.file pos with
  | node n => rw [hp] at hc; exact ⟨_, _, hc, .inl ⟨eNode_isNil n, rfl⟩⟩
  | err e => rw [hp] at hc; exact ⟨_, _, hc, .inr ⟨rfl, rfl⟩⟩
  | panic site => exact absurd hp (c08_total cfg.params cfg.file t pos site h wf hl hg)

/-- without `GroupOk` the only panic is the documented one of terminal.Regexp: the expression matched but has no capturing
    group with the requested index -/
theorem c08q_panic_only_missing_group {σ : Type} (T : TWorld) (cfg : Cfg) (hT : TWorldRel T cfg) (X : RxNames)
    (schema : CorePrelude.Opaque) (t : Terminal) (hX : RegexpOK T cfg X t) (m : IntMap) (pos : Nat) (s : σ)
    (h : InFile cfg.file pos) (wf : t.WF) (hl : cfg.params.LenOk t)
    (hp : termClosure T X schema t m (pos : Int) s = .panic) :
    ∃ id tok name ml, t = .regexp id tok name true ∧ rest cfg.file pos ≠ [] ∧
      cfg.params.regexp id (rest cfg.file pos) = some (ml, none) := by
  have hc := tie_terminal T cfg hT X schema t hX m pos s
  cases hq : t.parse cfg.params cfg.file pos with
  | node n | err e => rw [hq, hp] at hc; cases hc
  | panic site => exact (c08_panic_only_missing_group cfg.params cfg.file t pos site h wf hl hq).2

/-- **C08 node span, of the translated closures** (`c08_node_span`): a node a translated closure returns is a leaf that
    starts at the position the closure was called at and ends inside the file -/
theorem c08q_node_span {σ : Type} (T : TWorld) (cfg : Cfg) (hT : TWorldRel T cfg) (X : RxNames) (schema : CorePrelude.Opaque)
    (t : Terminal) (hX : RegexpOK T cfg X t) (m : IntMap) (pos : Nat) (s s' : σ) (n : CNode) (cp : IntSet) (e : CErr)
    (h : InFile cfg.file pos) (wf : t.WF) (hl : cfg.params.LenOk t)
    (hr : termClosure T X schema t m (pos : Int) s = .ok (n, cp, e) s') (hn : n.isNil = false) :
    ∃ (tok : Bytes) (v : CorePrelude.Opaque) (rp : Nat), n = .leaf tok v (pos : Int) (rp : Int) ∧ pos ≤ rp ∧
      rp ≤ cfg.file.offset + cfg.file.len ∧ cp = [] ∧ e = .nil ∧ s' = s := by
  have hc := tie_terminal T cfg hT X schema t hX m pos s
  cases hq : t.parse cfg.params cfg.file pos with
  | node nd =>
    rw [hq] at hc
    cases (show _ = _ from hc).symm.trans hr
    have hw := Terminal.parse_within cfg.params cfg.file t pos h
    rw [hq] at hw
    obtain ⟨tok, v, r, rfl, b, c⟩ := hw
    exact ⟨tok, eVal v, r, rfl, b, c, rfl, rfl, rfl⟩
  | err er =>
    rw [hq] at hc
    cases (show _ = _ from hc).symm.trans hr
    cases hn
  | panic site =>
    rw [hq] at hc
    cases (show _ = _ from hc).symm.trans hr

/-! ### non-vacuity: a world within the contracts, and the translated closures RUN

    `CWT.tWorld cfg` (Proofs/TermWorld.lean) is built from the configuration (the model's file functions, `parseInt0`, the
    parameters) and satisfies `TWorldRel` and `RegexpRel` for every configuration — so every hypothesis of the theorems
    above is satisfiable, for every file and every engine.  On the file `12.5 "a\tb" 0x1F` (base offset 1) the translated
    closures are evaluated by the kernel. -/

theorem c08q_nonvacuous (cfg : Cfg) :
    TWorldRel (CWT.tWorld cfg) cfg ∧ (∀ t, RegexpOK (CWT.tWorld cfg) cfg CWT.cwNames t) :=
  ⟨CWT.tWorld_rel cfg, CWT.tWorld_regexpOK cfg⟩

def c08qCfg : Cfg :=
  { env := [], file := { name := "t", data := [49, 50, 46, 53, 32, 34, 97, 92, 116, 98, 34, 32, 48, 120, 49, 70], offset := 1 },
    fileSet := {}, params := { floatOk := fun _ => true, durErr := fun _ => none, regexp := fun _ _ => none } }

/-- what a closure answers: (token, value, pos, readerPos) of the leaf, or the position of the error -/
def c08qShow (r : CorePrelude.Res Unit (CNode × IntSet × CErr)) : Option (Bytes × List Int × Int × Int) ⊕ Option Int :=
  match r with
  | .ok (.leaf tok v p rp, _, _) _ => .inl (some (tok, v, p, rp))
  | .ok (_, _, .mk p _) _ => .inr (some p)
  | _ => .inr none

theorem c08q_example :
    -- Float at 1: "12.5", the symbolic value is the lexeme; Integer at 1: refused because of the '.' look-ahead
    c08qShow (Float_parse (CWT.tWorld c08qCfg) [] [] [] 1 ()) = .inl (some (tokOf "FLOAT", [3, 49, 50, 46, 53], 1, 5)) ∧
    c08qShow (Integer_parse (CWT.tWorld c08qCfg) [] [] [] 1 ()) = .inr (some 1) ∧
    -- String at 6: "a\tb" with the escape decoded
    c08qShow (String_parse (CWT.tWorld c08qCfg) [] false [] [] 6 ()) = .inl (some (tokOf "STRING", [1, 97, 9, 98], 6, 12)) ∧
    -- Integer at 13: 0x1F = 31
    c08qShow (Integer_parse (CWT.tWorld c08qCfg) [] [] [] 13 ()) = .inl (some (tokOf "INTEGER", [2, 31], 13, 17)) ∧
    -- Op with the empty operator: the documented panic
    c08qShow (Op_parse (CWT.tWorld c08qCfg) [] [] [] 1 ()) = .inr none := by
  refine ⟨?_, ?_, ?_, ?_, ?_⟩ <;> decide +kernel

end PV
