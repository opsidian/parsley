/-
  C07 — a returned result is never modified afterwards (slice level).

  Property theorems only.  Model: ParsleyVerif/Model/Slice.lean (heap of node objects, heap of arrays, slice
  headers, `append` with an arbitrary growth policy; AppendNode, NodeList.Append, the result handler's copy,
  Memoize's clip/store/hit, SetReaderPos transcribed statement by statement; a pool of previously returned
  values so that values with a shared history are operated on again).  Lemmas: Proofs/Slice*.lean.

  The discipline assumed (it is part of the machine, not a hypothesis of the theorems): a list handle that the
  memo table does not hold is *linear* — the operation that extends it (appendNode / nlAppend / optionalAppend on
  it as first operand), hands it on (AppendNode(nil, x)), stores it (memoStore) or trims it (setReaderPos)
  consumes its pool entry, and operations on consumed entries are rejected.  That is how Any, Optional, seq,
  Memoize and RightTrim use their local variable (`res = ast.AppendNode(res, res2)`).  Handles held by the memo
  table are shared and never consumed; `memoStore` clips them.  `c07_pinned_corrupts` shows that without the
  clip the very same discipline does NOT give the property (defect D1).

  `Held s h`: `h` is the handle of some pool entry of `s` (live or consumed) or of some memo entry.
-/
import ParsleyVerif.Proofs.SliceRun
import ParsleyVerif.Generated.FactsAst
namespace PV.Slice

/-- **C07 (frame, append family; every history, every growth policy).**  In any reachable state (reached by
    ANY history `pre`, SetReaderPos included), for any continuation `ops` that contains no SetReaderPos, every
    handle that was ever returned (pool, live or consumed) or is held by the memo table reads exactly the same
    after `ops` as before: token, value, positions, children recursively, list membership. -/
theorem c07_frame (grow : Nat → Nat) (pre ops : List Op) (hops : ∀ op ∈ ops, op.isTrim = false)
    (h : Handle) (hh : Held (run grow pre {}) h) :
    render (run grow ops (run grow pre {})) h = render (run grow pre {}) h := by
  obtain ⟨top, inv⟩ := reachable_inv grow pre
  exact run_frame grow ops hops inv hh

/-- **C07 (returned renderings).**  Record every value when it is put into the pool together with what it
    reads at that moment; at the end of any history without SetReaderPos every recorded value still reads
    what was recorded. -/
theorem c07_returned (grow : Nat → Nat) (ops : List Op) (hops : ∀ op ∈ ops, op.isTrim = false) :
    ∀ p ∈ (runTrace grow ops ({}, [])).2, render (runTrace grow ops ({}, [])).1 p.1 = p.2 := by
  intro p hp
  exact ((runTrace_ok grow ops hops Inv.init (fun q hq => by simp at hq)) p hp).2

/-- the recorded values of `c07_returned` are exactly the values ever put into the pool, in order -/
theorem c07_returned_complete (grow : Nat → Nat) (ops : List Op) :
    (runTrace grow ops ({}, [])).2.map (·.1) = (runTrace grow ops ({}, [])).1.pool.map (·.h) :=
  runTrace_complete grow ops Inv.init rfl

/-- **C07 (asking again).**  After a successful `memoStore key i` in any reachable state, and any continuation
    without SetReaderPos, `memoHit key` succeeds and returns the very handle the store returned, and it reads the
    same as when it was stored. -/
theorem c07_memo_stable (grow : Nat → Nat) (pre ops : List Op) (key i : Nat)
    (hops : ∀ op ∈ ops, op.isTrim = false)
    (hst : (step grow (run grow pre {}) (Op.memoStore key i)).2 = Out.none) :
    ∃ h, (step grow (run grow pre {}) (Op.memoStore key i)).1.pool.getLast? = some ⟨h, true⟩ ∧
      (step grow (run grow ops (step grow (run grow pre {}) (Op.memoStore key i)).1) (Op.memoHit key)).1.pool.getLast? = some ⟨h, true⟩ ∧
      (step grow (run grow ops (step grow (run grow pre {}) (Op.memoStore key i)).1) (Op.memoHit key)).2 = Out.none ∧
      render (step grow (run grow ops (step grow (run grow pre {}) (Op.memoStore key i)).1) (Op.memoHit key)).1 h =
        render (step grow (run grow pre {}) (Op.memoStore key i)).1 h := by
  obtain ⟨top, inv⟩ := reachable_inv grow pre
  exact memo_stable grow inv key i ops hops hst

/-- **C07 around known finding D5 (partial: SetReaderPos only on unshared values).**  If every SetReaderPos of
    the continuation is applied to a pool entry that is `unshared` at that moment (decidable on the state:
    nothing it writes is visible through another live pool entry or through the memo table), then every pool
    entry that is still live at the end, and every memo entry, reads the same as before the continuation.
    The full statement (no hypothesis on sharing) is false: `c07_trim_shared_mutates`. -/
theorem c07_trim_partial (grow : Nat → Nat) (pre ops : List Op) (hd : Disciplined grow (run grow pre {}) ops) :
    (∀ (k : Nat) (e e' : Entry), (run grow pre {}).pool[k]? = some e →
      (run grow ops (run grow pre {})).pool[k]? = some e' → e'.live = true →
      render (run grow ops (run grow pre {})) e.h = render (run grow pre {}) e.h) ∧
    (∀ kv ∈ (run grow pre {}).memo, render (run grow ops (run grow pre {})) kv.2 = render (run grow pre {}) kv.2) := by
  obtain ⟨top, inv⟩ := reachable_inv grow pre
  exact run_disciplined grow ops inv hd

/-- one SetReaderPos in any reachable state changes only what handles that can see the trimmed objects read -/
theorem c07_trim_local (grow : Nat → Nat) (pre : List Op) (i d : Nat) (h h' : Handle)
    (hg : (run grow pre {}).get i = some h) (hh : Held (run grow pre {}) h')
    (na : affected (run grow pre {}) (trimNodes (run grow pre {}) h) (trimArr h) h' = false) :
    render (step grow (run grow pre {}) (Op.setReaderPos i d)).1 h' = render (run grow pre {}) h' := by
  obtain ⟨top, inv⟩ := reachable_inv grow pre
  exact step_render grow inv _ hh fun _ _ _ e hg' => by cases e; cases hg.symm.trans hg'; exact na

/-- the simplification of the model is justified: in every reachable state no array cell holds a list (so
    NodeList.Append / NodeList.SetReaderPos never recurse into a nested list) and every pointer cell points to
    an existing node -/
theorem c07_cells_flat (grow : Nat → Nat) (ops : List Op) (a : Nat) (c : Handle)
    (hc : c ∈ cells (run grow ops {}).arrs a) :
    (∀ sl, c ≠ Handle.list sl) ∧ (∀ m, c = Handle.ptr m → m < (run grow ops {}).nodes.length) := by
  obtain ⟨top, inv⟩ := reachable_inv grow ops
  have := inv.cellok a c hc
  cases c with
  | list sl => exact absurd this (by simp [CellOK])
  | ptr m => exact ⟨by intro sl; simp, fun m' h => by cases h; exact this⟩
  | _ => exact ⟨by intro sl; simp, by intro m h; cases h⟩

/-- in every reachable state a list that anybody holds is non-empty and has no nil element (so
    `NodeList.SetReaderPos` never calls `ast.SetReaderPos(nil, …)`, which would panic in Go and which the model
    does not represent) -/
theorem c07_lists_wellformed (grow : Nat → Nat) (ops : List Op) (sl : Slice)
    (hh : Held (run grow ops {}) (Handle.list sl)) :
    0 < sl.len ∧ Handle.nil ∉ view (run grow ops {}).arrs sl := by
  obtain ⟨top, inv⟩ := reachable_inv grow ops
  have hw := hh.hwf inv
  exact ⟨hw.2.1, hw.2.2.2⟩

/-- `combinator.Optional` appends the empty alternative with `ast.AppendNode(result, EmptyNode(pos))` - what `Op.optionalAppend`
    transcribes (a structural fact regenerated from the repository on every run; the body as a whole is tied by translation at
    value level: Props/C01P.lean, built by this property's check) -/
theorem c07_source_facts :
    FactsAst.optionalAppendNodeCalls = ["node,empty"] :=
  rfl

/-- Go's doubling growth for small slices -/
def goGrow (c : Nat) : Nat := 2 * c

/-- **D1 regression witness.**  With the pinned `Memoize` (no clip) the same machine, under the same linear
    discipline, corrupts a returned value: a memoized three element list (capacity 4) is handed to two
    consumers, each appends one node; the second append overwrites the last element of the first consumer's
    result.  No SetReaderPos is involved. -/
theorem c07_pinned_corrupts :
    ∃ (pre ops : List Op) (h : Handle), (∀ op ∈ pre ++ ops, op.isTrim = false) ∧
      Held (runPinned goGrow pre {}) h ∧
      render (runPinned goGrow ops (runPinned goGrow pre {})) h ≠ render (runPinned goGrow pre {}) h :=
  ⟨[.newTerm 1 0 0 1, .newTerm 2 0 1 2, .newTerm 3 0 2 3, .newTerm 4 0 3 4, .newTerm 5 0 3 5,
    .appendNode 0 1, .appendNode 5 2, .memoStore 0 6, .memoHit 0, .memoHit 0, .appendNode 8 3],
   [.appendNode 9 4],
   Handle.list ⟨2, 4, 4⟩,
   by decide +kernel, Or.inl ⟨⟨Handle.list ⟨2, 4, 4⟩, true⟩, by decide +kernel, rfl⟩, by decide +kernel⟩

/-- the same history on the machine with the clip: nothing changes (an instance of `c07_frame`, by evaluation) -/
example :
    let pre : List Op := [.newTerm 1 0 0 1, .newTerm 2 0 1 2, .newTerm 3 0 2 3, .newTerm 4 0 3 4, .newTerm 5 0 3 5,
      .appendNode 0 1, .appendNode 5 2, .memoStore 0 6, .memoHit 0, .memoHit 0, .appendNode 8 3]
    let s := run goGrow pre {}
    let s' := run goGrow [.appendNode 9 4] s
    s.pool.map (fun e => render s' e.h) = s.pool.map (fun e => render s e.h) ∧
    render s' ((s'.pool.getD 11 default).h) =
      [.listOpen, .term 1 0 0 1, .term 2 0 1 2, .term 3 0 2 3, .term 5 0 3 5, .close] ∧
    render s' ((s'.pool.getD 10 default).h) =
      [.listOpen, .term 1 0 0 1, .term 2 0 1 2, .term 3 0 2 3, .term 4 0 3 4, .close] := by
  decide +kernel

/-- **Known finding D5, witness.**  SetReaderPos on a memoized (shared) value changes what an earlier holder
    and the memo table read: the unrestricted frame statement is false for SetReaderPos.  (Memoize(a) asked
    bare, then under RightTrim at the same position.) -/
theorem c07_trim_shared_mutates :
    ∃ (pre : List Op) (i d : Nat) (h : Handle), Held (run goGrow pre {}) h ∧ unshared (run goGrow pre {}) i = false ∧
      render (step goGrow (run goGrow pre {}) (Op.setReaderPos i d)).1 h ≠ render (run goGrow pre {}) h :=
  ⟨[.newTerm 1 0 0 2, .memoStore 0 0, .memoHit 0], 2, 2, Handle.ptr 0,
   Or.inr ⟨(0, Handle.ptr 0), by decide +kernel, rfl⟩, by decide +kernel, by decide +kernel⟩

/-- non-vacuity of `c07_trim_partial`: a disciplined history with an effective SetReaderPos (on a list whose
    elements nobody else holds any more), next to a memoized list that keeps reading the same -/
example :
    let pre : List Op := [.newTerm 1 0 0 1, .newTerm 2 0 0 2, .appendNode 0 1, .memoStore 0 2,
      .newTerm 3 0 0 1, .newEmpty 0, .appendNode 4 5, .drop 4]
    let ops : List Op := [.setReaderPos 6 2, .memoHit 0, .optionalAppend 8 7]
    let s := run goGrow pre {}
    let s' := run goGrow ops s
    Disciplined goGrow s ops ∧
    render s ((s.pool.getD 6 default).h) = [.listOpen, .term 3 0 0 1, .empty 0, .close] ∧
    render s' ((s'.pool.getD 7 default).h) = [.listOpen, .term 3 0 0 3, .empty 2, .close] ∧
    render s' ((s'.pool.getD 9 default).h) = [.listOpen, .term 1 0 0 1, .term 2 0 0 2, .empty 7, .close] ∧
    render s' ((s'.pool.getD 3 default).h) = [.listOpen, .term 1 0 0 1, .term 2 0 0 2, .close] := by
  exact ⟨disciplinedB_sound _ _ _ (by decide +kernel), by decide +kernel, by decide +kernel, by decide +kernel, by decide +kernel⟩

/-- non-vacuity of `c07_frame`: lists extended in place (spare capacity), a sequence frame whose buffer is
    overwritten after a result was produced, nested non-terminals; evaluated -/
example :
    let ops : List Op := [.newTerm 1 0 0 1, .newTerm 2 0 1 2, .newTerm 3 0 1 3, .seqNew,
      .seqBufWrite 0 0 0, .seqBufWrite 0 1 1, .seqResult 0 2 9 0 false,
      .seqBufWrite 0 1 2, .seqResult 0 2 9 0 false, .appendNode 3 4, .optionalAppend 5 0, .optionalAppend 6 0]
    let s := run goGrow ops {}
    s.pool.map (fun e => (e.live, render s e.h)) =
      [(true, [.term 1 0 0 1]), (true, [.term 2 0 1 2]), (true, [.term 3 0 1 3]),
       (true, [.ntOpen 9 0 2, .term 1 0 0 1, .term 2 0 1 2, .close]),
       (true, [.ntOpen 9 0 3, .term 1 0 0 1, .term 3 0 1 3, .close]),
       (false, [.listOpen, .ntOpen 9 0 2, .term 1 0 0 1, .term 2 0 1 2, .close, .ntOpen 9 0 3, .term 1 0 0 1, .term 3 0 1 3, .close, .close]),
       (false, [.listOpen, .ntOpen 9 0 2, .term 1 0 0 1, .term 2 0 1 2, .close, .ntOpen 9 0 3, .term 1 0 0 1, .term 3 0 1 3, .close, .empty 0, .close]),
       (true, [.listOpen, .ntOpen 9 0 2, .term 1 0 0 1, .term 2 0 1 2, .close, .ntOpen 9 0 3, .term 1 0 0 1, .term 3 0 1 3, .close, .empty 0, .close])] := by
  decide +kernel

/-- what the machine transcribes is what the source says (regenerated from the repository on every run into
    Generated/FactsAst.lean):
    * ast.SetReaderPos and the SetReaderPos methods of the node kinds and of lists are TRANSLATED at heap level on every run
      (Generated/FactsAst.lean, namespace PV.FactsAstProg: node structs on a heap, a list as a slice of node handles, the
      call-back applied in place) and the machine's `setRP` / `Op.setReaderPos` is PROVED to compute what the translated
      functions compute, and nothing else (Props/C07P.lean, `c07_translated_setReaderPos`, `…_op`, `…_frame`, built and
      audited with this property); here only that all of them were translated on this run.
    * ast.AppendNode and (*NodeList).Append — the heart of this property: `append` into the spare capacity of a shared
      backing array — are TRANSLATED at heap level on every run as well (same namespace: the pointer receiver written
      through, the type switch, the flattening loop, the EMPTY scan with its early return, `append` in place when len < cap
      and by the growth policy otherwise) and the machine's `appendNodeCore` / `nlAppend` / `Op.appendNode` /
      `Op.optionalAppend` / `Op.nlAppend` are PROVED to compute what the translated functions compute, header and heap
      (Props/C07P.lean, `c07_translated_appendNode`, `c07_translated_nodeListAppend`, `c07_translated_append`,
      `c07_translated_append_frame`; the clip fact `c07p_clipped_append_fresh` and the D1 witness
      `c07p_unclipped_append_corrupts` are stated there about the translated code); here only that both were translated on
      this run.
    * the copying result handler and the sequence buffer write of parseNext — whose bodies
      are translated at value level on every run and proved equal to the model's functions (Props/C01P.lean,
      `c01p_context_cache_append`, `c01p_sequence_machinery`, built and audited with this property) — by their SLICE-LEVEL
      skeleton: the calls of append / copy / make, the slice literals and slice expressions, the element writes and the calls
      of the list primitives, in source order, local variables abstracted (helpers of the package looked through).  That is
      what the slice-level machine needs beyond the value semantics, and a restructuring of the control flow (type switch vs.
      assertion chain, an extracted helper, a renamed variable, an early return) does not change it, while an added, removed,
      reordered or retargeted allocation / copy / in-place write does.
    * Memoize with its capacity clip before the store (structural; the clip may stand in a helper), Any, Optional. -/
theorem c07_source_facts_ast :
    "AppendNode" ∈ FactsAstProg.translatedAst ∧
    "SetReaderPos" ∈ FactsAstProg.translatedAst ∧
    "NodeList_Append" ∈ FactsAstProg.translatedAst ∧
    "NodeList_SetReaderPos" ∈ FactsAstProg.translatedAst ∧
    "TerminalNode_SetReaderPos" ∈ FactsAstProg.translatedAst ∧
    "NonTerminalNode_SetReaderPos" ∈ FactsAstProg.translatedAst ∧
    FactsAst.seqResultHandlerSliceOps = ["_:=make([]parsley.Node,_)", "copy(_,_)"] ∧
    FactsAst.seqParseNextSliceOps = ["_.nodes=append(_.nodes,_)", "_.nodes[_]=_"] ∧
    FactsAst.memoizeClips = true ∧ FactsAst.memoizeClipsBeforeSave = true ∧
    FactsAst.anyAppendNodeCalls = ["node,node"] ∧ FactsAst.optionalAppendNodeCalls = ["node,empty"] :=
  ⟨by decide +kernel, by decide +kernel, by decide +kernel, by decide +kernel, by decide +kernel, by decide +kernel, rfl, rfl, rfl, rfl, rfl, rfl⟩

end PV.Slice
