/-
  C02 — Every memoized grammar terminates with bounded re-entry per position.

  Model: ParsleyVerif/Model/Run.lean.  The ghost field `St.active` is the stack of memoized bodies that
  are running (pushed when Memoize starts its wrapped parser, popped when it returns); the ghost event
  `Ev.body idx pos d` is logged each time the body of Memoize `idx` starts at `pos`, `d` being the number
  of activations of `(idx, pos)` on the stack including the new one.  The correspondence run compares
  these maxima, per (parser, position), with probes placed inside every Memoize of the real library.

  Proved here, for EVERY grammar over the combinator set (no well-formedness hypothesis), every input and
  every fuel for which `run` answers:

  * `c02_reentry`   no memoized parser is ever active more than `remaining input + 2` times at one position;
  * `c02_balanced`  every call leaves the activation stack as it found it;
  * `c02_fuel_mono` fuel bounds recursion depth only: once `run` answers, every larger fuel gives the same
                    answer (so "terminates" means: some fuel suffices).

  TERMINATION itself (`c02_terminates`: for every grammar accepted by the decidable certificate `wf` some
  fuel suffices, from every reachable state — a fuel per call, not one uniform in context and state) is proved
  in Props/C02T.lean.  On every run the harness also
  executes every generated certified grammar on the real library under a stack limit, a timeout and an
  activation probe that aborts when the bound is exceeded.
-/
import ParsleyVerif.Proofs.RunPos
import ParsleyVerif.Proofs.RunMono
import ParsleyVerif.Proofs.FactsTie
namespace PV
open PV.Text

theorem c02_slack : Facts.curtailSlack ≤ 1 := by decide

/-- **C02 re-entry bound**, from any state a parse can reach (`Pre`) -/
theorem c02_reentry_from (cfg : Cfg) (g : G) (hs : Scope cfg g) (fuel : Nat) (ctx : Ctx) (pos : Nat) (st : St)
    (o : Out) (st' : St) (hpre : Pre cfg ctx pos st) (h : run cfg fuel g ctx pos st = some (o, st')) :
    ∀ idx p d, Ev.body idx p d ∈ st'.log → d ≤ remaining cfg.file p + 2 := by
  intro idx p d hm
  have := (run_pos cfg hs.env fuel g ctx pos st o st' hs.root hpre h).stOK.log idx p d hm
  have := c02_slack
  omega

/-- **C02 re-entry bound** for a whole parse -/
theorem c02_reentry (cfg : Cfg) (g : G) (hs : Scope cfg g) (fuel : Nat) (o : Out) (st' : St)
    (h : run cfg fuel g [] (cfg.file.pos 0) {} = some (o, st')) :
    ∀ idx p d, Ev.body idx p d ∈ st'.log → d ≤ remaining cfg.file p + 2 := by
  exact c02_reentry_from cfg g hs fuel [] _ {} o st' (.initial cfg) h

/-- the number logged with a body event is the number of live activations of that parser at that
    position, counted on the activation stack at the moment the body starts -/
theorem c02_depth_is_count (act : List (Nat × Nat)) (idx pos : Nat) :
    actCount ((idx, pos) :: act) idx pos = (act.filter (fun a => a.1 == idx && a.2 == pos)).length + 1 := by
  simp [actCount]

theorem c02_balanced (cfg : Cfg) (g : G) (hs : Scope cfg g) (fuel : Nat) (ctx : Ctx) (pos : Nat) (st : St)
    (o : Out) (st' : St) (hpre : Pre cfg ctx pos st) (h : run cfg fuel g ctx pos st = some (o, st')) :
    st'.active = st.active :=
  run_active h

theorem c02_fuel_mono (cfg : Cfg) (f1 f2 : Nat) (hle : f1 ≤ f2) (g : G) (ctx : Ctx) (pos : Nat) (st : St)
    (x : Out × St) (h : run cfg f1 g ctx pos st = some x) : run cfg f2 g ctx pos st = some x :=
  run_mono cfg f1 f2 hle g ctx pos st x h

/-- non-vacuity: `P → P b | a` on "abb": the body of `P` is active 5 = remaining + 2 times at the
    first byte — the bound is attained —, by evaluation of the model -/
def nv2Cfg : Cfg :=
  { env := [.memo 0 (.any [.seq .seqOf [.ref 0, .term (.rune 98 [34, 98, 34])] {}, .term (.rune 97 [34, 97, 34])])],
    file := { name := "f", data := [97, 98, 98], offset := 1 }, fileSet := {},
    params := { floatOk := fun _ => true, durErr := fun _ => none, regexp := fun _ _ => none } }

def bodyDepths : List Ev → List (Nat × Nat)
  | [] => []
  | .body _ p d :: r => (p, d) :: bodyDepths r
  | _ :: r => bodyDepths r

example : ((run nv2Cfg 40 (.ref 0) [] 1 {}).map (fun r => bodyDepths r.2.log)) = some [(1, 5), (1, 4), (1, 3), (1, 2), (1, 1)] := by
  decide

/-- Remaining, TRANSLATED from the Go source on every run, is the model's (Generated/FactsFn.lean, Proofs/FactsTie.lean).
    The curtailment test of Memoize and the context-reset test of the sequence are tied with the whole functions they
    stand in: Props/C01P.lean `c01_translated_core` (Memoize), `c01p_sequence_machinery` (parseNext), built and audited
    with this property. -/
theorem c02_translated_conditions :
    (∀ f pos, remaining f pos = FactsFn.remaining f.len pos f.offset) :=
  tie_remaining

theorem c02_facts : Facts.curtailSlack = 1 := rfl

end PV
