/-
  C17 — Work stays polynomial on unambiguous grammars, left-recursive or not.        (claimed PARTIAL)

  Model: ParsleyVerif/Model/Run.lean.  `St.calls` is the counter behind `Context.RegisterCall`; its three
  call sites are Any (per alternative), Choice (per alternative tried) and `(*sequence).parse` (per element
  invocation): `St.regCall`.

  PROVED for all grammars: the call count is a function of (grammar, environment, input) — the same for every fuel that
  answers, with the event log on or off, wherever the file is placed in a file set (`c17_det*`) — and the accounting identity
  (`c17_accounting`, `c17_any`, `c17_choice`, `c17_seqfam`).  PROVED for EVERY input length, as theorems about the model's run
  by induction over its left spine and not by evaluation: the exact counts of the harness's families 1, 5, 6
  (harness/cmd/corr/c17.go) and what doubling the input does to them (`c17_closed_*`, `c17_double_*`); families 2, 3, 4, 7, 8
  are in Props/C17B.lean.

  AT FIXED LENGTHS: `c17_closed_PbA_upto` (n = 1..24), `c17_hidden_upto` (family 4, n = 1..16: (n² + 11n + 20)/2) and
  `c17_mutual_upto` (family 3, k = 0..8: 3k² + 18k + 22) are the closed forms for every length (`pba_parse`,
  `C17b.hid_parse`, `C17b.mut_parse`) read off at those lengths, in the form `(count, success)` that the correspondence
  run prints.  EVALUATION BY THE KERNEL: the suite's value 298 at n = 20 (main_test.go) and the non-vacuity examples.  Family 2
  (arith) cannot be evaluated by the kernel (`cpUnion` is defined by well-founded recursion, and there it unites two
  non-empty sets).

  NOT PROVED: the general statement `c17_calls_bound_STATEMENT` (kept below as a comment).  The closed forms of the
  families arith, mutual and hidden are stated in Props/C17B.lean.  For growth on other grammars the evidence is
  the correspondence run: the compiled model and the implementation agree on every call count at every
  length exercised, and calls(2n)/calls(n) ≤ 16 is checked on both — bounded exploration.
-/
import ParsleyVerif.Proofs.CallsAcct
import ParsleyVerif.Proofs.CallsPbA
import ParsleyVerif.Proofs.CallsFam
import ParsleyVerif.Proofs.CallsOther
import ParsleyVerif.Proofs.CallsMutual
import ParsleyVerif.Proofs.CallsGhost
import ParsleyVerif.Proofs.RunMono
import ParsleyVerif.Props.C12
import ParsleyVerif.Generated.Facts
namespace PV
open PV.Text PV.C17

/-- any two fuels that answer give the same answer altogether (`fuel` bounds the recursion depth of the model
    only; it is not an input of the modelled code) -/
theorem c17_det_full (cfg : Cfg) (f1 f2 : Nat) (g : G) (p1 p2 : ParseOut)
    (h1 : parse cfg f1 g = some p1) (h2 : parse cfg f2 g = some p2) : p1 = p2 :=
  parse_det cfg f1 f2 g {} p1 p2 h1 h2

/-- **same count for every fuel that answers** -/
theorem c17_det (cfg : Cfg) (f1 f2 : Nat) (g : G) (p1 p2 : ParseOut)
    (h1 : parse cfg f1 g = some p1) (h2 : parse cfg f2 g = some p2) : p1.st.calls = p2.st.calls := by
  rw [c17_det_full cfg f1 f2 g p1 p2 h1 h2]

/-- what a closed form of the families (`pba_parse`, `br_parse`, …) says, without its fuel and the result -/
theorem c17_some_fuel {cfg : Cfg} {F N : Nat} {g : G}
    (hq : ∃ q, parse cfg F g = some q ∧ q.err = none ∧ q.res.isNil = false ∧ q.st.calls = N) :
    ∃ fuel p, parse cfg fuel g = some p ∧ p.err = none ∧ p.st.calls = N :=
  let ⟨p, h1, h2, _, h4⟩ := hq
  ⟨F, p, h1, h2, h4⟩

/-- … and a closed form shown at one fuel holds at every fuel that answers (`c17_det_full`) -/
theorem c17_every_fuel {cfg : Cfg} {F N : Nat} {g : G}
    (hq : ∃ q, parse cfg F g = some q ∧ q.err = none ∧ q.res.isNil = false ∧ q.st.calls = N) (fuel : Nat) (p : ParseOut)
    (h : parse cfg fuel g = some p) : p.err = none ∧ p.res.isNil = false ∧ p.st.calls = N := by
  obtain ⟨q, h1, h2⟩ := hq
  rw [c17_det_full cfg fuel F g p q h h1]
  exact h2

/-- the same for `run` from any state, any left-recursion context -/
theorem c17_det_run (cfg : Cfg) (f1 f2 : Nat) (g : G) (ctx : Ctx) (pos : Nat) (st : St) (o1 o2 : Out) (s1 s2 : St)
    (h1 : run cfg f1 g ctx pos st = some (o1, s1)) (h2 : run cfg f2 g ctx pos st = some (o2, s2)) :
    s1.calls = s2.calls := by
  rcases Nat.le_total f1 f2 with h | h
  · have := run_mono cfg f1 f2 h _ _ _ _ _ h1
    rw [h2] at this; cases this; rfl
  · have := run_mono cfg f2 f1 h _ _ _ _ _ h2
    rw [h1] at this; cases this; rfl

/-- **the ghost flag** (whether the model keeps its event log — there is no such thing in the Go code) is
    not observable: same result, error, message and call count with the flag set either way -/
theorem c17_det_ghost (cfg : Cfg) (b : Bool) (fuel : Nat) (g : G) :
    (parse { cfg with ghost := b } fuel g).map (fun p => (p.res, p.err, p.msg, p.st.calls)) =
      (parse cfg fuel g).map (fun p => (p.res, p.err, p.msg, p.st.calls)) := by
  have h1 := parse_ghost cfg fuel g {}
  have h2 := parse_ghost { cfg with ghost := b } fuel g {}
  rw [show noLog {} = ({} : St) from rfl] at h1 h2
  have e : ({ ({ cfg with ghost := b } : Cfg) with ghost := false } : Cfg) = { cfg with ghost := false } := rfl
  rw [e, h1] at h2
  have := congrArg (Option.map (fun p : ParseOut => (p.res, p.err, p.msg, p.st.calls))) h2
  simp only [Option.map_map] at this
  cases hp : parse cfg fuel g <;> cases hq : parse { cfg with ghost := b } fuel g <;>
    simp only [hp, hq, Option.map_some, Option.map_none] at this ⊢
  · cases this
  · cases this
  · simp only [Function.comp, Option.some.injEq] at this ⊢
    exact this.symm

/-- **the base offset of the file** (where it was placed in its file set) does not influence the count
    (from C12: `c12_run_calls`) -/
theorem c17_det_offset (b : Nat) (cfg : Cfg) (hoff : 1 ≤ cfg.file.offset) (fuel : Nat) (g : G) :
    (parse (shiftCfg b cfg) fuel g).map (·.st.calls) = (parse cfg fuel g).map (·.st.calls) := by
  have hp : ∀ (c : Cfg) (st : St), (parse c fuel g st).map (·.st.calls) =
      (run c fuel g [] (c.file.pos 0) st).map (·.2.calls) := by
    intro c st
    rw [parse_eq, Option.map_map]
    congr 1
    funext x
    dsimp only [Function.comp]
    split <;> rfl
  rw [hp, hp]
  have := c12_run_calls b cfg hoff fuel g [] (cfg.file.pos 0) {}
  rw [show St.shift b {} = ({} : St) from rfl] at this
  have e : (shiftCfg b cfg).file.pos 0 = cfg.file.pos 0 + b := by
    simp only [shiftCfg, shiftFile, File.pos]; omega
  rw [e]
  have := congrArg (Option.map Prod.snd) this
  simpa [Option.map_map, Function.comp_def] using this

/-- the counter never goes down: `cost st st'` is the number of calls a run made -/
theorem c17_calls_mono (cfg : Cfg) (fuel : Nat) (g : G) (ctx : Ctx) (pos : Nat) (st : St) (o : Out) (st' : St)
    (h : run cfg fuel g ctx pos st = some (o, st')) : st.calls ≤ st'.calls ∧ st'.calls = st.calls + cost st st' := by
  have := run_calls_le cfg fuel g ctx pos st o st' h
  exact ⟨this, by unfold cost; omega⟩

/-- **what makes no call**: terminals, Empty, End; a cache hit (the stored outcome is returned); a
    curtailment; a dangling reference.  **What passes the calls of its sub-parser through**: a reference,
    Memoize on a miss (the body runs once, from a state with the same count), Optional, Name, ReturnSingle,
    SuppressError, the trims. -/
theorem c17_accounting (cfg : Cfg) (fuel : Nat) (ctx : Ctx) (pos : Nat) (st : St) (o : Out) (st' : St) :
    (∀ t, run cfg (fuel + 1) (.term t) ctx pos st = some (o, st') → cost st st' = 0) ∧
    (run cfg (fuel + 1) .empty ctx pos st = some (o, st') → cost st st' = 0) ∧
    (run cfg (fuel + 1) .eof ctx pos st = some (o, st') → cost st st' = 0) ∧
    (∀ idx body e, cacheGet st.cache idx pos ctx = some e →
      run cfg (fuel + 1) (.memo idx body) ctx pos st = some (o, st') →
      cost st st' = 0 ∧ o = ⟨e.res, e.cp, e.err⟩) ∧
    (∀ idx body, cacheGet st.cache idx pos ctx = none →
      ctx.get idx > remaining cfg.file pos + Facts.curtailSlack →
      run cfg (fuel + 1) (.memo idx body) ctx pos st = some (o, st') →
      cost st st' = 0 ∧ o = ⟨.nil, [idx], none⟩) ∧
    (∀ idx body, cacheGet st.cache idx pos ctx = none →
      ¬ ctx.get idx > remaining cfg.file pos + Facts.curtailSlack →
      run cfg (fuel + 1) (.memo idx body) ctx pos st = some (o, st') →
      ∃ st1 st2, st1.calls = st.calls ∧ st1.cache = st.cache ∧
        run cfg fuel body (ctx.inc idx) pos st1 = some (o, st2) ∧ cost st st' = cost st1 st2) ∧
    (∀ k, run cfg (fuel + 1) (.ref k) ctx pos st = some (o, st') →
      (∃ g', cfg.env[k]? = some g' ∧ run cfg fuel g' ctx pos st = some (o, st')) ∨
      (cfg.env[k]? = none ∧ cost st st' = 0)) ∧
    (∀ g, run cfg (fuel + 1) (.optional g) ctx pos st = some (o, st') →
      ∃ o1, run cfg fuel g ctx pos st = some (o1, st')) ∧
    (∀ g nm, run cfg (fuel + 1) (.name g nm) ctx pos st = some (o, st') →
      ∃ o1, run cfg fuel g ctx pos st = some (o1, st')) ∧
    (∀ g, run cfg (fuel + 1) (.single g) ctx pos st = some (o, st') →
      ∃ o1, run cfg fuel g ctx pos st = some (o1, st')) ∧
    (∀ g, run cfg (fuel + 1) (.suppress g) ctx pos st = some (o, st') →
      ∃ o1, run cfg fuel g ctx pos st = some (o1, st')) ∧
    (∀ g m, run cfg (fuel + 1) (.rtrim g m) ctx pos st = some (o, st') →
      ∃ o1, run cfg fuel g ctx pos st = some (o1, st')) ∧
    (∀ g m, run cfg (fuel + 1) (.ltrim g m) ctx pos st = some (o, st') →
      ∃ o1 st1, run cfg fuel g ctx (skipWhitespaces cfg.file pos m).1 st = some (o1, st1) ∧
        cost st st' = cost st st1) := by
  have z : ∀ {a b : St}, b.calls = a.calls → cost a b = 0 := by
    intro a b h; unfold cost; omega
  -- a one-child combinator makes no call of its own: its operand's run, and the state that run left
  have wrap : ∀ (g : G) (w : Wrap), g.wrap cfg.file pos = some w → run cfg (fuel + 1) g ctx pos st = some (o, st') →
      ∃ o1, run cfg fuel w.child ctx w.cpos st = some (o1, st') := by
    intro g w hw h
    obtain ⟨o1, st1, a, hx⟩ := runStep_wrap_some hw (run_some_step h)
    cases hx
    exact ⟨o1, a⟩
  refine ⟨fun t h => z (calls_term cfg _ fuel ctx pos st o st' t (run_some_step h)),
    fun h => z (calls_empty cfg _ fuel ctx pos st o st' (run_some_step h)),
    fun h => z (calls_eof cfg _ fuel ctx pos st o st' (run_some_step h)),
    fun idx body e hc h => ?_, fun idx body hc hcur h => ?_, fun idx body hc hcur h => ?_,
    fun k h => ?_,
    fun g h => wrap _ _ rfl h, fun g nm h => wrap _ _ rfl h, fun g h => wrap _ _ rfl h,
    fun g h => wrap _ _ rfl h, fun g m h => wrap _ _ rfl h,
    fun g m h => ?_⟩
  · obtain ⟨a, b⟩ := calls_memo_hit cfg _ fuel ctx pos st o st' idx body e hc (run_some_step h)
    exact ⟨z a, b⟩
  · obtain ⟨a, b⟩ := calls_memo_curtail cfg _ fuel ctx pos st o st' idx body hc hcur (run_some_step h)
    exact ⟨z a, b⟩
  · obtain ⟨st1, st2, a, b, c, d⟩ := calls_memo_body cfg _ fuel ctx pos st o st' idx body hc hcur (run_some_step h)
    exact ⟨st1, st2, a, b, c, by unfold cost; rw [d, a]⟩
  · rcases calls_ref cfg _ fuel ctx pos st o st' k (run_some_step h) with h | ⟨a, b⟩
    · exact .inl h
    · exact .inr ⟨a, z b⟩
  · obtain ⟨o1, a⟩ := wrap _ _ rfl h
    exact ⟨o1, st', a, rfl⟩

/-- **Any**: every alternative is invoked once, in order, at the same position with the same context;
    `cost = |alternatives| + Σ cost(alternative i)` (`Inv.cost i` is the cost of the sub-parser's own run:
    `Inv.cost_eq`) -/
theorem c17_any (cfg : Cfg) (fuel : Nat) (ctx : Ctx) (pos : Nat) (st : St) (o : Out) (st' : St) (gs : List G)
    (h : run cfg (fuel + 1) (.any gs) ctx pos st = some (o, st')) :
    ∃ invs : List Inv, invs.map Inv.g = gs ∧
      (∀ i ∈ invs, i.ok (run cfg fuel) ∧ i.ctx = ctx ∧ i.pos = pos) ∧
      cost st st' = gs.length + (invs.map Inv.cost).sum := by
  obtain ⟨invs, a, b, c⟩ := calls_any cfg _ fuel ctx pos st o st' gs (run_some_step h)
  exact ⟨invs, a, b, by rw [c.cost (run_grow cfg fuel) fun i hi => (b i hi).1, ← a, List.length_map]⟩

/-- **Choice**: the alternatives are invoked in order up to the first that matches (all of them when none
    does); `cost = |alternatives tried| + Σ cost(alternative i)` -/
theorem c17_choice (cfg : Cfg) (fuel : Nat) (ctx : Ctx) (pos : Nat) (st : St) (o : Out) (st' : St) (gs : List G)
    (h : run cfg (fuel + 1) (.choice gs) ctx pos st = some (o, st')) :
    ∃ invs : List Inv, invs.map Inv.g <+: gs ∧
      (∀ i ∈ invs, i.ok (run cfg fuel) ∧ i.ctx = ctx ∧ i.pos = pos) ∧
      cost st st' = invs.length + (invs.map Inv.cost).sum ∧
      (o.res.isNil = true → invs.length = gs.length) := by
  obtain ⟨invs, a, b, c, d⟩ := calls_choice cfg _ fuel ctx pos st o st' gs (run_some_step h)
  exact ⟨invs, a, b, c.cost (run_grow cfg fuel) fun i hi => (b i hi).1, fun hn => by rw [← d hn, List.length_map]⟩

/-- **the Sequence family** (SeqOf, SeqTry, SeqFirstOrAll, Many, SepBy — one piece of code):
    `cost = |element invocations| + Σ cost(invocation i)`, every invoked parser being an element of the
    sequence -/
theorem c17_seqfam (cfg : Cfg) (fuel : Nat) (ctx : Ctx) (pos : Nat) (st : St) (o : Out) (st' : St)
    (g : G) (sh : SeqShape) (hs : g.shape = some sh)
    (h : run cfg (fuel + 1) g ctx pos st = some (o, st')) :
    ∃ invs : List Inv, (∀ i ∈ invs, i.ok (run cfg fuel) ∧ ∃ d, sh.lookup d = some i.g) ∧
      cost st st' = invs.length + (invs.map Inv.cost).sum := by
  obtain ⟨invs, a, b⟩ := calls_seqfam cfg _ fuel ctx pos st o st' g sh hs (run_some_step h)
  exact ⟨invs, a, b.cost (run_grow cfg fuel) fun i hi => (a i hi).1⟩

/-- an invocation is: `RegisterCall`, then the sub-parser's run; its cost is that run's cost -/
theorem c17_inv (r : RunFn) (i : Inv) :
    (i.ok r ↔ r i.g i.ctx i.pos i.st.regCall = some (i.o, i.st')) ∧ i.st.regCall.calls = i.st.calls + 1 ∧
    i.cost = cost i.st.regCall i.st' :=
  ⟨Iff.rfl, rfl, rfl⟩

/-- family 1 as the harness builds it (harness/cmd/corr/c17.go): grammar table, file `a b^(n-1)` at base
    offset 1 -/
theorem c17_pbaCfg (n : Nat) :
    (pbaCfg n).env = [.memo 0 (.any [.seq .seqOf [.ref 0, .term (.rune 98 [34, 98, 34])] {},
                                      .term (.rune 97 [34, 97, 34])])] ∧
    (pbaCfg n).file.data = 97 :: List.replicate (n - 1) 98 ∧ (pbaCfg n).file.offset = 1 ∧
    (pbaCfg n).maxCalls = 0 :=
  ⟨rfl, rfl, rfl, rfl⟩

/-- **THEOREM (all n ≥ 1)**: `Sentence(P)` on `a b^(n-1)` succeeds with exactly (n² + 9n + 16)/2 calls -/
theorem c17_closed_PbA (n : Nat) (hn : 1 ≤ n) :
    ∃ fuel p, parse (pbaCfg n) fuel (G.sentence (.ref 0)) = some p ∧ p.err = none ∧
      p.st.calls = (n * n + 9 * n + 16) / 2 :=
  c17_some_fuel (pba_parse (pbaCfg_is n) hn)

/-- … for every fuel that answers, and for every configuration with this grammar table and this file (any
    ghost flag, file set, terminal parameters); the result is not nil -/
theorem c17_closed_PbA_all (n : Nat) (hn : 1 ≤ n) (cfg : Cfg) (hc : IsPbA n cfg) (fuel : Nat) (p : ParseOut)
    (h : parse cfg fuel (G.sentence (.ref 0)) = some p) :
    p.err = none ∧ p.res.isNil = false ∧ p.st.calls = pbaCalls n :=
  c17_every_fuel (pba_parse hc hn) fuel p h

theorem c17_pbaCalls (n : Nat) : pbaCalls n = (n * n + 9 * n + 16) / 2 := rfl

/-- **THEOREM (all n)**: on the closed form, doubling the input multiplies the count by at most 4 -/
theorem c17_double_PbA (n : Nat) : pbaCalls (2 * n) ≤ 4 * pbaCalls n ∧ pbaCalls (2 * n) ≤ 16 * pbaCalls n := by
  have e : (2 * n) * (2 * n) = 4 * (n * n) := by
    rw [Nat.mul_mul_mul_comm]
  unfold pbaCalls
  rw [e]
  generalize n * n = q
  omega

/-- the closed form is quadratic: at most 13 n² for n ≥ 1 (degree 2 ≤ 4) -/
theorem c17_quadratic_PbA (n : Nat) (hn : 1 ≤ n) : pbaCalls n ≤ 13 * (n * n) := by
  have : n ≤ n * n := Nat.le_mul_self n
  unfold pbaCalls
  generalize n * n = q at *
  omega

/-- … connected to the runs: for n ≥ 1 the run on the input of length 2n makes at most 4 times (hence at most
    16 times) the calls of the run on the input of length n -/
theorem c17_double_PbA_parse (n : Nat) (hn : 1 ≤ n) (f1 f2 : Nat) (p1 p2 : ParseOut)
    (h1 : parse (pbaCfg n) f1 (G.sentence (.ref 0)) = some p1)
    (h2 : parse (pbaCfg (2 * n)) f2 (G.sentence (.ref 0)) = some p2) :
    p2.st.calls ≤ 4 * p1.st.calls ∧ p2.st.calls ≤ 16 * p1.st.calls := by
  rw [(c17_closed_PbA_all n hn _ (pbaCfg_is n) f1 p1 h1).2.2,
    (c17_closed_PbA_all (2 * n) (by omega) _ (pbaCfg_is (2 * n)) f2 p2 h2).2.2]
  exact c17_double_PbA n

/-- family 5 as the harness builds it: `S → ( S ) | a` memoized, file `(^k a )^k` at base offset 1 -/
theorem c17_brCfg (k : Nat) :
    (brCfg k).env = [.memo 0 (.any [.seq .seqOf [.term (.rune 40 [34, 40, 34]), .ref 0, .term (.rune 41 [34, 41, 34])] {},
                                     .term (.rune 97 [34, 97, 34])])] ∧
    (brCfg k).file.data = List.replicate k 40 ++ [97] ++ List.replicate k 41 ∧ (brCfg k).file.offset = 1 ∧
    (brCfg k).maxCalls = 0 :=
  ⟨rfl, by simp [brCfg, brFile, brData], rfl, rfl⟩

/-- **THEOREM (all k)**: `Sentence(S)` on `(^k a )^k` succeeds with exactly 5k + 5 calls -/
theorem c17_closed_brackets (k : Nat) :
    ∃ fuel p, parse (brCfg k) fuel (G.sentence (.ref 0)) = some p ∧ p.err = none ∧ p.st.calls = 5 * k + 5 :=
  c17_some_fuel (br_parse (brCfg_is k))

theorem c17_closed_brackets_all (k : Nat) (cfg : Cfg) (hc : IsBr k cfg) (fuel : Nat) (p : ParseOut)
    (h : parse cfg fuel (G.sentence (.ref 0)) = some p) :
    p.err = none ∧ p.res.isNil = false ∧ p.st.calls = 5 * k + 5 :=
  c17_every_fuel (br_parse hc) fuel p h

/-- the harness's input of length parameter `n` has `k = (n-1)/2` bracket pairs; doubling `n` at most doubles
    the count (all n ≥ 1) -/
theorem c17_double_brackets (n : Nat) (hn : 1 ≤ n) :
    brCalls ((2 * n - 1) / 2) ≤ 2 * brCalls ((n - 1) / 2) := by
  unfold brCalls; omega

/-- family 6 as the harness builds it: `SepBy('a', ',')`, file `a (,a)^k` at base offset 1 -/
theorem c17_sepCfg (k : Nat) :
    (sepCfg k).env = [.sepBy (.term (.rune 97 [34, 97, 34])) (.term (.rune 44 [34, 44, 34])) false {}] ∧
    (sepCfg k).file.data = 97 :: (List.replicate k [44, 97]).flatten ∧ (sepCfg k).file.offset = 1 ∧
    (sepCfg k).maxCalls = 0 :=
  ⟨rfl, sepData_eq k, rfl, rfl⟩

/-- **THEOREM (all k)**: `Sentence(L)` on `a (,a)^k` succeeds with exactly 2k + 4 calls -/
theorem c17_closed_seplist (k : Nat) :
    ∃ fuel p, parse (sepCfg k) fuel (G.sentence (.ref 0)) = some p ∧ p.err = none ∧ p.st.calls = 2 * k + 4 :=
  c17_some_fuel (sep_parse (sepCfg_is k))

theorem c17_closed_seplist_all (k : Nat) (cfg : Cfg) (hc : IsSep k cfg) (fuel : Nat) (p : ParseOut)
    (h : parse cfg fuel (G.sentence (.ref 0)) = some p) :
    p.err = none ∧ p.res.isNil = false ∧ p.st.calls = 2 * k + 4 :=
  c17_every_fuel (sep_parse hc) fuel p h

theorem c17_double_seplist (n : Nat) (hn : 1 ≤ n) :
    sepCalls ((2 * n - 1) / 2) ≤ 2 * sepCalls ((n - 1) / 2) := by
  unfold sepCalls; omega

/-- non-vacuity (evaluation): 7 bracket pairs → 40 calls; 7 separators → 18 calls -/
example : (parse (brCfg 7) 100 (G.sentence (.ref 0))).map (fun p => (p.st.calls, p.err.isNone)) = some (40, true) := by
  decide +kernel
example : (parse (sepCfg 7) 100 (G.sentence (.ref 0))).map (fun p => (p.st.calls, p.err.isNone)) = some (18, true) := by
  decide +kernel

/-- `c17_closed_PbA` at n = 1 … 24, at the fuel `4n + 12` at which `pba_parse` shows that the run answers -/
theorem c17_closed_PbA_upto : ∀ n ∈ List.range' 1 24,
    (parse (pbaCfg n) (4 * n + 12) (G.sentence (.ref 0))).map (fun p => (p.st.calls, p.err.isNone)) =
      some ((n * n + 9 * n + 16) / 2, true) := by
  intro n hn
  obtain ⟨p, h1, h2, _, h4⟩ := pba_parse (pbaCfg_is n) (List.mem_range'_1.mp hn).1
  rw [h1, Option.map_some, h2, h4]
  rfl

theorem famCalls_of_parse {env : List G} {data : Bytes} {f1 f2 c : Nat} {p : ParseOut}
    (h : parse (famCfg env data) f1 (G.sentence (.ref 0)) = some p) (hle : f1 ≤ f2) (he : p.err = none)
    (hc : p.st.calls = c) : famCalls env data f2 = some (c, true) := by
  rw [famCalls, parse_mono _ f1 f2 hle _ _ p h, Option.map_some, he, hc]
  rfl

/-- … and at whatever fuel `famCalls` answers, it reports what holds of every run that answers -/
theorem famCalls_eq {env : List G} {data : Bytes} {c : Nat}
    (hall : ∀ fuel p, parse (famCfg env data) fuel (G.sentence (.ref 0)) = some p →
      p.err = none ∧ p.res.isNil = false ∧ p.st.calls = c)
    {fuel : Nat} {r : Nat × Bool} (h : famCalls env data fuel = some r) : r = (c, true) := by
  unfold famCalls at h
  cases hp : parse (famCfg env data) fuel (G.sentence (.ref 0)) with
  | none => rw [hp] at h; cases h
  | some p =>
    rw [hp] at h
    obtain ⟨a, _, b⟩ := hall fuel p hp
    cases h
    show (p.st.calls, p.err.isNone) = _
    rw [a, b]; rfl

/-- family 4 (hidden left recursion `P → x? P b | a`, input `a b^(n-1)`) at n = 1 … 16: (n² + 11n + 20)/2 calls, from the
    closed form for every n (`C17b.hid_parse`, Proofs/CallsPbA.lean) -/
theorem c17_hidden_upto : ∀ n ∈ List.range' 1 16,
    famCalls hiddenEnv (hiddenInput n) (6 * n + 20) = some ((n * n + 11 * n + 20) / 2, true) := by
  intro n hn
  obtain ⟨p, h1, h2, _, h4⟩ := C17b.hid_parse (C17b.hidCfg_is n) (List.mem_range'_1.mp hn).1
  exact famCalls_of_parse h1 (by omega) h2 h4

/-- family 3 (mutually left-recursive pair `A → B a | x ; B → A b | y`, input `x (ba)^k`) at k = 0 … 8: 3k² + 18k + 22
    calls, from the closed form for every k (`C17b.mut_parse`, Proofs/CallsMutual.lean) -/
theorem c17_mutual_upto : ∀ k ∈ List.range' 0 9,
    famCalls mutualEnv (mutualInput k) (40 * k + 60) = some (3 * k * k + 18 * k + 22, true) := by
  intro k _
  obtain ⟨p, h1, h2, _, h4⟩ := C17b.mut_parse (C17b.mutCfg_is k)
  exact famCalls_of_parse h1 (by omega) h2 h4

/-- non-vacuity: the suite's value (main_test.go: 298 calls for `a` + 19 `b`) -/
example : (parse (pbaCfg 20) 100 (G.sentence (.ref 0))).map (fun p => (p.st.calls, p.err.isNone)) = some (298, true) := by
  decide +kernel

example : pbaCalls 20 = 298 ∧ pbaCalls 5 = 43 ∧ pbaCalls 10 = 103 ∧ pbaCalls 40 = 988 ∧ pbaCalls 80 = 3568 ∧
    pbaCalls 160 = 13528 := by decide

/-- non-vacuity of the accounting: Any over two terminals at the start of "abb" costs exactly 2 -/
example : (run (pbaCfg 3) 5 (.any [.term (.rune 98 []), .term (.rune 97 [])]) [] 1 {}).map (fun r => cost {} r.2) = some 2 := by
  decide +kernel

/- Memoize, ResultCache, Any, Choice, the Sequence machinery, ReturnError, SetError and Parse are translated from the source
   on every run, and the model is PROVED to agree with the translation (Props/C01P.lean, built and audited by this
   property's check); an equivalent rewrite of the source does not break that tie.  The curtailment slack is the one
   constant taken from the source directly (Generated/Facts.lean, regenerated on every run). -/
theorem c17_facts : Facts.curtailSlack = 1 := rfl

/-
  **The general bound — full statement, NOT proved**:

    theorem c17_calls_bound_STATEMENT (cfg) (g) (H : every result list the run produces has at most one
        entry per end position) (h : parse cfg fuel g = some p) :
        p.st.calls ≤ C(|env|, |g|) * (n + 1)^4          where n = cfg.file.len

  and the doubling ratio for every unambiguous grammar (needs matching lower bounds).  The correspondence run
  compares the model's and the implementation's counts at every length exercised.
-/

end PV
