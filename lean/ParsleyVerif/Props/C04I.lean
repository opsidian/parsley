/-
  C04 — the Sentence IFF, end to end, for certified grammars of the monotone fragment.

  Puts together: termination (Props/C02T.lean), soundness (Props/C04.lean / C01.lean) and completeness
  (Props/C01C.lean).  For every grammar `g` over {terminals, Empty, references, Memoize, Any, SeqOf, Optional}
  that the termination certificate `wf` accepts (direct, indirect, hidden left recursion included), every input and
  every sufficiently large fuel:

      parsley.Parse(Sentence(g)) succeeds   ⟺   some derivation of g consumes the entire input,

  and then the returned tree starts at the first byte and ends at end of input.
-/
import ParsleyVerif.Props.C04
import ParsleyVerif.Props.C01C
import ParsleyVerif.Props.C02T
namespace PV
open PV.Text

/-- the hypotheses under which all three ingredients apply -/
structure IffScope (cfg : Cfg) (cert : WFCert) (bodyOf : Nat → G) (g : G) : Prop where
  wf : wf cert cfg.env (G.sentence g) = true
  term : C02Scope cfg (G.sentence g)
  envC : ∀ g' ∈ cfg.env, CScope cfg bodyOf g'
  rootC : CScope cfg bodyOf g
  gokS : GOK bodyOf (G.sentence g)

theorem c04_sentence_iff (cfg : Cfg) (cert : WFCert) (bodyOf : Nat → G) (g : G) (hs : IffScope cfg cert bodyOf g) :
    ∃ F, ∀ fuel, F ≤ fuel → ∃ p, parse cfg fuel (G.sentence g) = some p ∧
      ((p.err = none ∧ p.res.alts ≠ []) ↔ ∃ x, Derives cfg g (cfg.file.pos 0) x ∧ x.rpos = cfg.hi) ∧
      (p.err = none → ∀ x ∈ p.res.alts, x.pos = cfg.file.pos 0 ∧ x.rpos = cfg.hi) := by
  obtain ⟨F, hF⟩ := c02_terminates_parse cert cfg (G.sentence g) hs.wf hs.term
  refine ⟨F, fun fuel hle => ?_⟩
  have hsome := hF fuel hle
  cases hp : parse cfg fuel (G.sentence g) with
  | none => rw [hp] at hsome; simp at hsome
  | some p =>
    have hscope : Scope cfg (G.sentence g) :=
      ⟨G.sentence_core hs.rootC.core, fun g' hg' => (hs.envC g' hg').core⟩
    have henvG : ∀ g' ∈ cfg.env, GOK bodyOf g' := fun g' hg' => (hs.envC g' hg').gok
    refine ⟨p, rfl, ⟨?_, ?_⟩, ?_⟩
    · rintro ⟨hok, _⟩
      exact c04_sentence_only_if cfg bodyOf g hscope henvG hs.gokS fuel p hp hok
    · intro hex
      exact c01_sentence_complete_parse cfg bodyOf hs.envC g hs.rootC fuel p hp hex
    · intro _ x hx
      obtain ⟨h1, h2, _⟩ := c04_sentence_sound cfg bodyOf g hscope henvG hs.gokS fuel p hp x hx
      exact ⟨h1, h2⟩

/-- non-vacuity: the hypotheses hold for the left-recursive `P → P b | a` (memoized) on any configuration with that
    environment, e.g. the one of Props/C01.lean on "abb" — so for it `Parse(Sentence(P))` succeeds exactly when the
    input is in a b* -/
theorem c04_iff_scope_example : IffScope nvCfg (C02NV.certOne [] [0]) (fun _ => nvBody) (.ref 0) := by
  refine ⟨by decide, ⟨?_, ?_, rfl⟩, nv_scope, nv_root _ _, ?_⟩
  · show (G.seq .seqOf [G.ref 0, .eof] { interp := .select 0 }).Core (TermOK nvCfg)
    simp [G.Core, CoreList]
  · intro g' hg'
    simp only [nvCfg, nvEnv, List.mem_singleton] at hg'
    subst hg'
    simp only [G.Core, CoreList, and_true, true_and]
    exact ⟨termOK_rune _ _ _, termOK_rune _ _ _⟩
  · simp [GOK, G.All, AllList, LocalOK, G.sentence]

example : ∃ F, ∀ fuel, F ≤ fuel → ∃ p, parse nvCfg fuel (G.sentence (.ref 0)) = some p ∧ p.err = none := by
  obtain ⟨F, hF⟩ := c04_sentence_iff nvCfg _ _ _ c04_iff_scope_example
  refine ⟨F, fun fuel hle => ?_⟩
  obtain ⟨p, hp, hiff, _⟩ := hF fuel hle
  exact ⟨p, hp, (hiff.mpr ⟨nvABB, (nv_trees nvABB).mpr (by simp), rfl⟩).1⟩

end PV
