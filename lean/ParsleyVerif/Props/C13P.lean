/-
  C13P — the TREE PASSES, about the functions TRANSLATED from the Go source.

  `factgen -out-tree` translates, statement by statement, parsley.Walk / StaticCheck / Transform (parsley/walk.go,
  static_check.go, transform.go), the Walk / StaticCheck / Transform / Children / Schema … methods of ast.NonTerminalNode,
  ast.NodeList, ast.EmptyNode, ast.TerminalNode, parser.EndNode, and the interpreters of ast/interpreter into Lean
  definitions (Generated/FactsTree.lean, regenerated from the repository on every run; run-time: the hand-written
  Generated/TreePrelude.lean).  In the translation a `*ast.NonTerminalNode` is an ADDRESS into a heap and the passes write
  the heap in place (`n.schema = …`, `n.children[i] = …`), as the Go code does; type tests (`node.(Walkable)`,
  `n.interpreter.(parsley.StaticChecker)` …) are tests of the dynamic type, with the set of implementing types computed
  from the method sets on every run; user-defined checkers / transformers are fields of a WORLD parameter.

  Vocabulary (Proofs/TreeTieBasics.lean, TreeTieAbs.lean).  `Sk`: the shape of a tree lying in a heap (addresses of the
  non-terminals, node values of the leaves, node lists); `Shaped h sk`: the heap holds it; `sk.addrs.Nodup`: the tree does
  not share cells; `sk.post`: the node values in post-order; `absT E h sk`: the model tree (`PV.Walk.T`) the heap shows
  (`E.key` names node values, `E.icode` interpreter values; schemas via `decS`); `visit f l`: call `f` on the nodes of `l`
  in order and stop after the first `true`; `sk.fuel`: recursion depth needed (fuel is a bound only: nothing below
  answers "out of fuel").
-/
import ParsleyVerif.Proofs.TreeTieTransform
namespace PV
open PV.TreeTie PV.FactsTree
open PV.Walk (T ICap Checker Transformer walk check transform postorder)

/-- the functions of the tree passes the translator is asked for -/
def treePassFunctions : List String :=
  ["Walk", "NodeList_Walk", "StaticCheck", "NonTerminalNode_StaticCheck", "Transform", "NonTerminalNode_Transform",
   "NonTerminalNode_Children", "NonTerminalNode_Schema", "NodeList_Schema", "EmptyNode_Schema", "EndNode_Schema",
   "TerminalNode_Schema", "selectInterpreter_StaticCheck"]

/-- everything asked for is translated, and the dynamic types behind the type tests are the expected ones -/
theorem c13p_all_translated :
    treePassFunctions.all (fun f => FactsTree.translatedTree.contains f) = true ∧ FactsTree.untranslatedTree = [] ∧
    FactsTree.typeTests =
      ["parsley.LiteralNode: *ast.TerminalNode",
       "parsley.NodeTransformer: ",
       "parsley.NonLiteralNode: parser.EndNode, *ast.NonTerminalNode",
       "parsley.NonTerminalNode: *ast.NonTerminalNode",
       "parsley.StaticCheckable: *ast.NonTerminalNode",
       "parsley.StaticChecker: interpreter.selectInterpreter",
       "parsley.Transformable: *ast.NonTerminalNode",
       "parsley.Walkable: ast.NodeList"] :=
  ⟨by decide +kernel, rfl, rfl⟩

/-- **Walk, translated** — (1) for every call-back that does not change which cells there are nor their `children`
    (it may write everything else: StaticCheck's call-back stores schemas), Walk calls it on the nodes of the tree in
    post-order and stops after the first `true`; (2) with the call-back that records the node's id and answers `stop id`:
    the model's `walk` — same result, same sequence of calls. -/
theorem c13_translated_walk (W : TW) (sk : Sk) (fuel : Nat) (s : TSt) (hs : Shaped s.heap sk) (hfu : sk.fuel ≤ fuel) :
    (∀ f : TN → TM Bool, KidStable f → Walk W fuel sk.node f s = visit f sk.post s) ∧
    (∀ (E : Enc) (stop : Nat → Bool),
      Walk W fuel sk.node (logStop E.key stop) s =
        .ok (walk stop (absT E s.heap sk)).2 { s with ext := s.ext ++ (walk stop (absT E s.heap sk)).1.map Int.ofNat }) :=
  ⟨fun f hf => walk_visit W f hf sk fuel s hs hfu, fun E stop => tie_Walk W E stop sk fuel s hs hfu⟩

/-- **every node once, in order** (about the sequence the translated Walk follows): its ids are the model tree's
    post-order; they are a rearrangement of the pre-order enumeration of the nodes; with distinct ids every node's id
    occurs exactly once; and a call-back that never answers `true` is called on all of it -/
theorem c13_translated_visits (W : TW) (E : Enc) (sk : Sk) (fuel : Nat) (s : TSt) (hs : Shaped s.heap sk)
    (hfu : sk.fuel ≤ fuel) :
    sk.post.map E.key = postorder (absT E s.heap sk) ∧
    (sk.post.map E.key).Perm (absT E s.heap sk).ids ∧
    ((absT E s.heap sk).ids.Nodup → (sk.post.map E.key).Nodup) ∧
    (∀ f : TN → TM Bool, KidStable f → (∀ n ∈ sk.post, ∀ s1 b s2, f n s1 = .ok b s2 → b = false) →
      ∀ b s', Walk W fuel sk.node f s = .ok b s' → b = false) := by
  have hp := (postorder_abs E s.heap sk).symm
  refine ⟨hp, hp ▸ PV.Walk.postorder_perm _, fun hnd => hp ▸ (PV.Walk.postorder_perm _).nodup_iff.mpr hnd, ?_⟩
  intro f hf hfalse b s' hw
  rw [walk_visit W f hf sk fuel s hs hfu] at hw
  clear hp hs hfu
  generalize sk.post = l at hfalse hw
  induction l generalizing s with
  | nil => simp [visit] at hw; exact hw.1
  | cons n r ih =>
    simp only [visit] at hw
    obtain ⟨b1, s1, hx, hw⟩ := GoM.bind_eq_ok hw
    cases hfalse n (by simp) s b1 s1 hx
    simp at hw
    exact ih s1 (fun m hm => hfalse m (by simp [hm])) hw

/-- **StaticCheck, translated, is the model's `check`** — on every tree-shaped heap, with every checker behaviour
    (`CheckWorld`: user-defined checkers answer what the model's `chk` answers and do not write the store; the library's
    own checker interpreter.Select is `chk` on its numbers): the error returned is the model's first error; afterwards
    the heap shows the model's annotated tree (every schema the checkers returned before the first error is STORED in
    its cell, nothing else changed); cells outside the tree are untouched; one escaped variable was allocated. -/
theorem c13_translated_check (W : TW) (E : Enc) (uctx : TValue) (caps : Nat → ICap) (chk : Checker) (sk : Sk) (fuel : Nat)
    (s : TSt) (cw : CheckWorld W E uctx caps chk s.heap sk) (hs : Shaped s.heap sk) (hnd : sk.addrs.Nodup)
    (hfu : sk.fuel ≤ fuel) :
    ∃ s', StaticCheck W fuel uctx sk.node s = .ok (encErrO (check caps chk (absT E s.heap sk)).2) s' ∧
      absT E s'.heap sk = (check caps chk (absT E s.heap sk)).1 ∧
      Shaped s'.heap sk ∧ (∀ b, b ∉ sk.addrs → s'.heap b = s.heap b) ∧
      s'.vars = s.vars ++ [.err (encErrO (check caps chk (absT E s.heap sk)).2)] ∧
      s'.userCtx = s.userCtx ∧ s'.ext = s.ext :=
  tie_StaticCheck W E uctx caps chk sk fuel s cw hs hnd hfu

/-- **Transform, translated, is the model's `transform`** — on every tree-shaped heap, with every transformer behaviour
    satisfying the contract `TrOut` (an error: the model's error code, the cells outside the tree untouched; a success: a
    tree-shaped part of the new heap that shows the model's result, made of cells of the old tree or of fresh ones, the
    other cells untouched): Transform satisfies the same contract against the model's `transform`.  In particular the
    children are transformed BEFORE the result is assembled, left to right, and the first error aborts. -/
theorem c13_translated_transform (W : TW) (E : Enc) (uctx : TValue) (caps : Nat → ICap) (tr : Transformer)
    (tw : TransformWorld W E uctx caps tr) (sk : Sk) (fuel : Nat) (s : TSt) (hs : Shaped s.heap sk) (hnd : sk.addrs.Nodup)
    (hfu : 2 * sk.fuel ≤ fuel) :
    TrOut E s sk (Transform W fuel uctx sk.node s) (transform caps tr (absT E s.heap sk)) :=
  tie_Transform W E uctx caps tr tw sk fuel s hs hnd hfu

theorem c13_translated_passes (W : TW) (E : Enc) (uctx : TValue) (sk : Sk) (fuel : Nat) (s : TSt) (hs : Shaped s.heap sk)
    (hnd : sk.addrs.Nodup) (hfu : 2 * sk.fuel ≤ fuel) :
    (∀ f : TN → TM Bool, KidStable f → Walk W fuel sk.node f s = visit f sk.post s) ∧
    (∀ stop : Nat → Bool,
      Walk W fuel sk.node (logStop E.key stop) s =
        .ok (walk stop (absT E s.heap sk)).2 { s with ext := s.ext ++ (walk stop (absT E s.heap sk)).1.map Int.ofNat }) ∧
    (∀ (caps : Nat → ICap) (chk : Checker), CheckWorld W E uctx caps chk s.heap sk →
      ∃ s', StaticCheck W fuel uctx sk.node s = .ok (encErrO (check caps chk (absT E s.heap sk)).2) s' ∧
        absT E s'.heap sk = (check caps chk (absT E s.heap sk)).1 ∧ Shaped s'.heap sk ∧
        (∀ b, b ∉ sk.addrs → s'.heap b = s.heap b)) ∧
    (∀ (caps : Nat → ICap) (tr : Transformer), TransformWorld W E uctx caps tr →
      TrOut E s sk (Transform W fuel uctx sk.node s) (transform caps tr (absT E s.heap sk))) := by
  have hfu1 : sk.fuel ≤ fuel := by omega
  refine ⟨fun f hf => walk_visit W f hf sk fuel s hs hfu1, fun stop => tie_Walk W E stop sk fuel s hs hfu1, ?_, ?_⟩
  · intro caps chk cw
    obtain ⟨s', h1, h2, h3, h4, _⟩ := tie_StaticCheck W E uctx caps chk sk fuel s cw hs hnd hfu1
    exact ⟨s', h1, h2, h3, h4⟩
  · intro caps tr tw
    exact tie_Transform W E uctx caps tr tw sk fuel s hs hnd hfu

/-- **interpreter.Select's StaticCheck, translated**: the schema of child `i` (nil for ast.EmptyNode, parser.EndNode and
    ast.NodeList, the stored schema of a terminal / non-terminal), the documented panic when `i` is out of range; the store
    is not written -/
theorem c13p_select_check (W : TW) (i : Int) (u : TValue) (a : PV.TreePrelude.Ptr) (s : TSt) (c : TCell) (hc : s.heap a = some c) :
    selectInterpreter_StaticCheck W ⟨i⟩ u (.ref a) s =
      match (if 0 ≤ i ∧ i < (c.children.length : Int) then (c.children[i.toNat]?).bind (childSchema s.heap) else none) with
      | some v => .ok (v, PV.CorePrelude.Err.nil) s
      | none => .panic :=
  tie_Select_StaticCheck W i u a s c hc

/-! ### non-vacuity: a heap with four non-terminals (one without interpreter over a terminal, a Select node, a node list
    whose first item is a non-terminal with a user-defined checker / transformer, and an empty non-terminal with another
    one), a world whose checkers / transformers succeed or fail (`bad`), the model parameters they realise -/

theorem c13p_nonvacuous (bad : Bool) (u : TValue) :
    CheckWorld (Ex.world bad) Ex.enc u Ex.caps (Ex.chk bad) Ex.st.heap Ex.root ∧
    TransformWorld (Ex.world bad) Ex.enc u Ex.caps (Ex.tr bad) ∧
    Shaped Ex.st.heap Ex.root ∧ Ex.root.addrs.Nodup ∧ Ex.root.addrs = [1, 2, 3, 4] ∧ Ex.root.fuel = 5 ∧
    absT Ex.enc Ex.st.heap Ex.root =
      .nt 1 none none [.leaf 110, .nt 2 (some 0) none [.leaf 112, .leaf 113],
        .list 50 [.nt 3 (some 3) none [.leaf 114], .leaf 111], .nt 4 (some 4) none []] ∧
    Ex.root.post.map Ex.enc.key = [110, 112, 113, 2, 114, 3, 50, 4, 1] :=
  ⟨Ex.checkWorld bad u, Ex.transformWorld bad u, Ex.shaped, Ex.nodup, by decide, by decide, by rfl, by decide⟩

/-- on the example: a failing checker — the translated StaticCheck returns the model's error 9 (raised at node 3, the
    first checker in post-order after Select at node 2), the heap afterwards shows the model's tree; a succeeding one —
    no error, and the schemas are stored -/
theorem c13p_example :
    (∃ s', StaticCheck (Ex.world true) 5 .nil (.ref 1) Ex.st = .ok (encErr 9) s' ∧
      absT Ex.enc s'.heap Ex.root = (check Ex.caps (Ex.chk true) (absT Ex.enc Ex.st.heap Ex.root)).1) ∧
    (∃ s', StaticCheck (Ex.world false) 5 .nil (.ref 1) Ex.st = .ok .nil s' ∧
      absT Ex.enc s'.heap Ex.root =
        .nt 1 none none [.leaf 110, .nt 2 (some 0) none [.leaf 112, .leaf 113],
          .list 50 [.nt 3 (some 3) (some 42) [.leaf 114], .leaf 111], .nt 4 (some 4) (some 42) []]) := by
  constructor
  · obtain ⟨s', h1, h2, _⟩ := tie_StaticCheck (Ex.world true) Ex.enc .nil Ex.caps (Ex.chk true) Ex.root 5 Ex.st
      (Ex.checkWorld true .nil) Ex.shaped Ex.nodup (by decide)
    refine ⟨s', ?_, h2⟩
    rw [show (PV.TreePrelude.Node.ref 1 : TN) = Ex.root.node from rfl, h1]
    rfl
  · obtain ⟨s', h1, h2, _⟩ := tie_StaticCheck (Ex.world false) Ex.enc .nil Ex.caps (Ex.chk false) Ex.root 5 Ex.st
      (Ex.checkWorld false .nil) Ex.shaped Ex.nodup (by decide)
    refine ⟨s', ?_, h2.trans (by rfl)⟩
    rw [show (PV.TreePrelude.Node.ref 1 : TN) = Ex.root.node from rfl, h1]
    rfl

end PV
