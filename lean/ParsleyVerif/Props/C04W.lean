/-
  C04 — the Sentence IFF WITH THE WHITESPACE TRIMS under left recursion.

    "Parse returns a node or an error, never neither; a Sentence-rooted parse succeeds iff the grammar derives
     the WHOLE input."

  With the loose reading `Derives` of the trims the IF half is false (`c04s_trim_iff_false`, Props/C04S.lean).
  Props/C01W.lean is about the EXACT meaning of the trims, `DerivesW` (Spec/DerivesW.lean: LeftTrim skips the
  maximal whitespace run and the mode must accept it; RightTrim moves each tree's reader position past the maximal
  run after it and the mode must accept that run), and proves soundness and completeness for it on the fragment

      term, empty, ref, memo, any, seqOf, optional  +  ltrim, rtrim     (every whitespace mode; left recursion over
                                                                       Memoize, also THROUGH a LeftTrim)

  under the scope conditions that exclude the three deviations of text/trim.go (findings F1, F2 and the D9 family of
  Props/C01W.lean).  This file composes:

    Props/C01W.lean   `c01w_sound` (every tree `run` returns is a `DerivesW`),
                      `c01w_sentence_complete_parse` (a `DerivesW` that consumes the input ⟹ Sentence succeeds),
    Props/C02U.lean   `c02u_terminates_parse` (termination with trims, certificate `wfT`),
    Props/C04.lean    `c04_xor` (node xor error),
    `parse_sentence_sound` (Proofs/Sentence.lean)  soundness taken THROUGH the wrapper `SeqOf(g, End)` — `End` is outside the fragment —
                      with the returned TREE.

  * `c04_sentence_sound_w`     a success of `Parse(Sentence(g))` returns at least one tree, and every returned tree is
        `SEQ[y, EOF(hi)]` from `y.pos` to `hi` with interpreter Select(0), where `y` is an EXACT derivation of `g` from
        the first position that ends at the end of the input `hi`.
        (`c04_sentence_sound_w_eof`: the same under the soundness scope `WScopeS` alone — nothing asked of the
        terminals — with "`End` matches at `y.rpos`" in place of `y.rpos = hi`: a terminal that is not `TermGood` may
        report a reader position beyond the file, and `End` matches there too.)
  * `c04_sentence_iff_trim_answered`   for EVERY fuel with which `Parse` answers: success ⟺ some exact derivation of
        `g` consumes the entire input; the trees; node xor error.  No termination certificate.
  * `c04_sentence_iff_trim`    end to end: with a termination certificate `wfT` there is a fuel from which on `Parse`
        answers, and the above holds of every answer.
  * non-vacuity:  `c04w_lt_iff`     `P → LeftTrim(P) 'b' | 'a'` (memoized; left recursion THROUGH a LeftTrim), EVERY input;
                  `c04w_lt_accept`  "  abb" accepted (from the derivation `lt_derives` of Props/C01W.lean);
                  `c04w_lt_reject`  "  ab a" rejected: ONE evaluation of the model decides that no exact derivation of
                                    `P` consumes it;
                  `c04w_arith_iff`  the arithmetic grammar (every token under `text.Trim`, two left-recursive memoized
                                    rules), EVERY input, any offset, any ParseFloat / regexp engine;
                  `c04w_arith_accept`  "1 + 2 " accepted.
-/
import ParsleyVerif.Props.C04S
import ParsleyVerif.Props.C01W
namespace PV
open PV.Text PV.C1T PV.WFT

namespace S04W

theorem scopeS_of {cfg : Cfg} {bodyOf : Nat → G} {g : G} (h : WScopeS cfg bodyOf g) : ScopeS cfg bodyOf g :=
  ⟨h.frag, h.sound, h.gok⟩

theorem parse_success (cfg : Cfg) (bodyOf : Nat → G) (henv : ∀ g' ∈ cfg.env, WScopeS cfg bodyOf g')
    (g : G) (hs : WScopeS cfg bodyOf g) (fuel : Nat) (p : ParseOut)
    (h : parse cfg fuel (G.sentence g) = some p) (hnone : p.err = none) :
    p.res.alts ≠ [] ∧ ∀ x ∈ p.res.alts, SentW cfg g (cfg.file.pos 0) x :=
  parse_sentence_sound cfg g (CacheS cfg bodyOf) (DerivesW cfg g _) (fun _ _ => cacheAll_of_eq) (fun _ he => nomatch he)
    (fun fuel st o st' hC hr =>
      have hs := run_soundW cfg bodyOf (fun g' hg' => scopeS_of (henv g' hg')) fuel g [] _ st o st' (scopeS_of hs) hC hr
      ⟨hs.1, hs.2.2⟩)
    fuel p h hnone

end S04W

open S04W

/-- **C04 with trims, the ONLY-IF half, soundness scope alone** (`WScopeS`: the fragment with trims, one parser per
    Memoize index, LeftTrim with a rejecting mode over an `ErrFree` operand; nothing is asked of the terminals).
    A success of `Parse(Sentence(g))` returns at least one tree, and every returned tree is the Sentence node over an
    EXACT derivation `y` of `g` from the first position after which `End` matches. -/
theorem c04_sentence_sound_w_eof (cfg : Cfg) (bodyOf : Nat → G) (henv : ∀ g' ∈ cfg.env, WScopeS cfg bodyOf g')
    (g : G) (hs : WScopeS cfg bodyOf g) (fuel : Nat) (p : ParseOut)
    (h : parse cfg fuel (G.sentence g) = some p) (hnone : p.err = none) :
    p.res.alts ≠ [] ∧ ∀ x ∈ p.res.alts, ∃ y, DerivesW cfg g (cfg.file.pos 0) y ∧ isEOF cfg.file y.rpos = true ∧
      x = .nt seqTok [y, .eof y.rpos] y.pos y.rpos (.select 0) :=
  parse_success cfg bodyOf henv g hs fuel p h hnone

/-- **C04 with trims, the ONLY-IF half with the trees.**  `g` and every rule in the soundness scope `WScopeS`, and
    terminals that stay inside the file (`TermsW`, C08's subject — what `WScope` asks).  If `Parse(Sentence(g))`
    succeeds, it returns at least one tree, and every returned tree is `SEQ[y, EOF(hi)]` from `y.pos` to the end of
    the input `hi`, interpreter Select(0), where `y` is an EXACT derivation of `g` from the first position
    (`DerivesW`: maximal whitespace runs, accepted by the modes) that ends at `hi`.  (With a LeftTrim at the top,
    `y.pos` — the root's start — lies after the leading whitespace.) -/
theorem c04_sentence_sound_w (cfg : Cfg) (bodyOf : Nat → G)
    (henv : ∀ g' ∈ cfg.env, WScopeS cfg bodyOf g' ∧ TermsW cfg g')
    (g : G) (hs : WScopeS cfg bodyOf g) (ht : TermsW cfg g) (fuel : Nat) (p : ParseOut)
    (h : parse cfg fuel (G.sentence g) = some p) (hnone : p.err = none) :
    p.res.alts ≠ [] ∧ ∀ x ∈ p.res.alts, ∃ y, DerivesW cfg g (cfg.file.pos 0) y ∧ y.rpos = cfg.hi ∧
      x = .nt seqTok [y, .eof cfg.hi] y.pos cfg.hi (.select 0) := by
  obtain ⟨hne, hall⟩ := parse_success cfg bodyOf (fun g' hg' => (henv g' hg').1) g hs fuel p h hnone
  refine ⟨hne, fun x hx => ?_⟩
  obtain ⟨y, hy, he, hxe⟩ := hall x hx
  obtain ⟨b1, b2, _⟩ := derivesW_pos cfg (fun g' hg' => (henv g' hg').2) hy ht (c01_pre_initial cfg).1
  have hhi : y.rpos = cfg.hi := S04.isEOF_eq_hi he b1 b2
  exact ⟨y, hy, hhi, by rw [hxe, hhi]⟩

/-- **C04, Sentence iff WITH the whitespace trims under left recursion, partial correctness**: for EVERY fuel with
    which `Parse` answers.  `g` and every rule in both scopes of Props/C01W.lean (`WScope`: the fragment with trims —
    RightTrim over an `ErrFree` operand, a rejecting mode only over a token —, one parser per Memoize index,
    terminals inside the file; `SoundW`: LeftTrim with a rejecting mode over an `ErrFree` operand).  No termination
    certificate.  Success ⟺ some EXACT derivation of `g` from the first position ends at the end of the input; the
    trees of a success; a node or an error, never neither, never both. -/
theorem c04_sentence_iff_trim_answered (cfg : Cfg) (bodyOf : Nat → G)
    (henv : ∀ g' ∈ cfg.env, WScope cfg bodyOf g' ∧ SoundW cfg g')
    (g : G) (hs : WScope cfg bodyOf g) (hss : SoundW cfg g) (fuel : Nat) (p : ParseOut)
    (h : parse cfg fuel (G.sentence g) = some p) :
    (p.err = none ↔ ∃ x, DerivesW cfg g (cfg.file.pos 0) x ∧ x.rpos = cfg.hi) ∧
    (p.err = none → p.res.alts ≠ [] ∧ ∀ x ∈ p.res.alts, ∃ y, DerivesW cfg g (cfg.file.pos 0) y ∧ y.rpos = cfg.hi ∧
      x = .nt seqTok [y, .eof cfg.hi] y.pos cfg.hi (.select 0)) ∧
    ((p.res.isNil = false ∧ p.err = none ∧ p.msg = none) ∨ (p.res.isNil = true ∧ p.err.isSome ∧ p.msg.isSome)) := by
  have hsound := c04_sentence_sound_w cfg bodyOf
    (fun g' hg' => ⟨⟨(henv g' hg').1.frag, (henv g' hg').2, (henv g' hg').1.gok⟩, (henv g' hg').1.terms⟩)
    g ⟨hs.frag, hss, hs.gok⟩ hs.terms fuel p h
  refine ⟨⟨fun hnone => ?_, fun hex => ?_⟩, hsound, c04_xor cfg fuel _ {} p h⟩
  · obtain ⟨hne, hall⟩ := hsound hnone
    obtain ⟨x, hx⟩ := List.exists_mem_of_ne_nil _ hne
    obtain ⟨y, hy, hhi, _⟩ := hall x hx
    exact ⟨y, hy, hhi⟩
  · exact (c01w_sentence_complete_parse cfg bodyOf (fun g' hg' => (henv g' hg').1) g hs fuel p h hex).1

/-- **C04, Sentence iff WITH the whitespace trims under left recursion, end to end**, with the exact trim meaning
    `DerivesW` in place of the loose `Derives` for which it is false.  `g` and every rule in both scopes of Props/C01W.lean; `wcert` a termination
    certificate (decidable check `wfT rx`; `RxSound`: a Regexp the certificate declares non-nullable never matches
    the empty string; the driver's work budget is off — the hypotheses of Props/C02U.lean).  Then there is a fuel
    from which on `Parse(Sentence(g))` answers, succeeds exactly when some exact derivation of `g` consumes the
    entire input, a success returns Sentence nodes over such derivations, and a failure carries an error. -/
theorem c04_sentence_iff_trim (wcert : WFCert) (rx : Nat → Bool) (cfg : Cfg) (bodyOf : Nat → G)
    (henv : ∀ g' ∈ cfg.env, WScope cfg bodyOf g' ∧ SoundW cfg g')
    (g : G) (hs : WScope cfg bodyOf g) (hss : SoundW cfg g)
    (hwf : wfT rx wcert cfg.env g = true) (hbudget : cfg.maxCalls = 0) (hrx : RxSound rx cfg.params) :
    ∃ F, ∀ fuel, F ≤ fuel → ∃ p, parse cfg fuel (G.sentence g) = some p ∧
      (p.err = none ↔ ∃ x, DerivesW cfg g (cfg.file.pos 0) x ∧ x.rpos = cfg.hi) ∧
      (p.err = none → p.res.alts ≠ [] ∧ ∀ x ∈ p.res.alts, ∃ y, DerivesW cfg g (cfg.file.pos 0) y ∧ y.rpos = cfg.hi ∧
        x = .nt seqTok [y, .eof cfg.hi] y.pos cfg.hi (.select 0)) ∧
      ((p.res.isNil = false ∧ p.err = none ∧ p.msg = none) ∨ (p.res.isNil = true ∧ p.err.isSome ∧ p.msg.isSome)) :=
  S04.sentence_eventually wcert rx cfg g hwf hbudget hrx (c04_sentence_iff_trim_answered cfg bodyOf henv g hs hss)

/-- … with every Regexp treated as nullable: no hypothesis on the regexp engine -/
theorem c04_sentence_iff_trim_any_engine (wcert : WFCert) (cfg : Cfg) (bodyOf : Nat → G)
    (henv : ∀ g' ∈ cfg.env, WScope cfg bodyOf g' ∧ SoundW cfg g')
    (g : G) (hs : WScope cfg bodyOf g) (hss : SoundW cfg g)
    (hwf : wfT rxAll wcert cfg.env g = true) (hbudget : cfg.maxCalls = 0) :
    ∃ F, ∀ fuel, F ≤ fuel → ∃ p, parse cfg fuel (G.sentence g) = some p ∧
      (p.err = none ↔ ∃ x, DerivesW cfg g (cfg.file.pos 0) x ∧ x.rpos = cfg.hi) ∧
      (p.err = none → p.res.alts ≠ [] ∧ ∀ x ∈ p.res.alts, ∃ y, DerivesW cfg g (cfg.file.pos 0) y ∧ y.rpos = cfg.hi ∧
        x = .nt seqTok [y, .eof cfg.hi] y.pos cfg.hi (.select 0)) ∧
      ((p.res.isNil = false ∧ p.err = none ∧ p.msg = none) ∨ (p.res.isNil = true ∧ p.err.isSome ∧ p.msg.isSome)) :=
  c04_sentence_iff_trim wcert rxAll cfg bodyOf henv g hs hss hwf hbudget (rxSound_all cfg.params)

namespace S04W
open PV.C1TNV

/-- the configuration of Props/C01W.lean with the input as a parameter (`ltD [32, 32, 97, 98, 98]` is `ltCfg`) -/
def ltD (data : Bytes) : Cfg := c1tCfg [.memo 0 ltBody] data

theorem ltD_scope (data : Bytes) : ∀ g' ∈ (ltD data).env, WScope (ltD data) (fun _ => ltBody) g' ∧ SoundW (ltD data) g' :=
  lt_scope_of (ltD data) rfl

/-- the termination certificate: Memoize index 0, nothing nullable -/
def ltW : WFCert := PV.certOf [] [] [] [0]

theorem ltD_wf (data : Bytes) : wfT rxAll ltW (ltD data).env (.ref 0) = true := by
  show wfT rxAll ltW [.memo 0 ltBody] (.ref 0) = true
  decide

end S04W

open PV.C1TNV in
/-- **the theorem instantiated on `P → LeftTrim(P) 'b' | 'a'`, EVERY input** (file at offset 1): from some fuel on
    `Parse(Sentence(P))` answers, and succeeds exactly when an exact derivation of `P` — the recursive `P` reached
    across skipped whitespace, with the left-recursion counters carried — ends at `1 + length of the input` -/
theorem c04w_lt_iff (data : Bytes) :
    ∃ F, ∀ fuel, F ≤ fuel → ∃ p, parse (ltD data) fuel (G.sentence (.ref 0)) = some p ∧
      (p.err = none ↔ ∃ x, DerivesW (ltD data) (.ref 0) 1 x ∧ x.rpos = 1 + data.length) ∧
      (p.err = none → p.res.alts ≠ [] ∧ ∀ x ∈ p.res.alts, ∃ y, DerivesW (ltD data) (.ref 0) 1 y ∧ y.rpos = 1 + data.length ∧
        x = .nt seqTok [y, .eof (1 + data.length)] y.pos (1 + data.length) (.select 0)) ∧
      ((p.res.isNil = false ∧ p.err = none ∧ p.msg = none) ∨ (p.res.isNil = true ∧ p.err.isSome ∧ p.msg.isSome)) :=
  c04_sentence_iff_trim_any_engine ltW (ltD data) (fun _ => ltBody) (ltD_scope data) (.ref 0)
    (c1t_root _ _ 0).1 (c1t_root (ltD data) (fun _ => ltBody) 0).2 (ltD_wf data) rfl

open PV.C1TNV in
/-- ACCEPTED, derived from the theorem: "  abb" has the exact derivation `((a b) b)` of Props/C01W.lean (`lt_derives`:
    the inner `P` reached across the two blanks), which ends at 6 — so `Parse(Sentence(P))` succeeds for every
    large fuel, and every tree it returns is the Sentence node over an exact derivation that starts at 3 or later -/
theorem c04w_lt_accept :
    ∃ F, ∀ fuel, F ≤ fuel → ∃ p, parse ltCfg fuel (G.sentence (.ref 0)) = some p ∧ p.err = none ∧ p.res.alts ≠ [] ∧
      ∀ x ∈ p.res.alts, ∃ y, DerivesW ltCfg (.ref 0) 1 y ∧ y.rpos = 6 ∧ x = .nt seqTok [y, .eof 6] y.pos 6 (.select 0) := by
  obtain ⟨F, hF⟩ := c04w_lt_iff [32, 32, 97, 98, 98]
  refine ⟨F, fun fuel hle => ?_⟩
  obtain ⟨p, hp, hiff, hroot, _⟩ := hF fuel hle
  have hnone : p.err = none := hiff.mpr ⟨ltABB, lt_derives, rfl⟩
  exact ⟨p, hp, hnone, (hroot hnone).1, (hroot hnone).2⟩

open PV.C1TNV in
/-- REJECTED, derived from the theorem in the other direction (`S04.rejects_of_eval`): on "  ab a" ONE evaluation of
    the model fails, hence NO exact derivation of `P` consumes "  ab a" — a statement about an inductive relation
    over all trees, decided by running the parser —, and `Parse` fails, with an error, for every large fuel -/
theorem c04w_lt_reject :
    (¬ ∃ x, DerivesW (ltD [32, 32, 97, 98, 32, 97]) (.ref 0) 1 x ∧ x.rpos = 7) ∧
    ∃ F, ∀ fuel, F ≤ fuel → ∃ p, parse (ltD [32, 32, 97, 98, 32, 97]) fuel (G.sentence (.ref 0)) = some p ∧
      p.res.isNil = true ∧ p.err.isSome ∧ p.msg.isSome :=
  S04.rejects_of_eval 60 (by decide +kernel) (c04w_lt_iff [32, 32, 97, 98, 32, 97])

open PV.C1TNV in
/-- **the theorem instantiated on the arithmetic grammar, for EVERY input** — any file, any base offset, any
    ParseFloat / ParseDuration / regexp engine: from some fuel on `Parse(Sentence(expr))` answers, and succeeds
    exactly when an exact derivation of `expr` (blanks, tabs and line breaks allowed around every token, maximal
    runs) consumes the entire input; a success returns the Sentence node over such a derivation -/
theorem c04w_arith_iff (cfg : Cfg) (henv : cfg.env = Garith.env) (hbudget : cfg.maxCalls = 0) :
    ∃ F, ∀ fuel, F ≤ fuel → ∃ p, parse cfg fuel Garith.root = some p ∧
      (p.err = none ↔ ∃ x, DerivesW cfg (.ref 0) (cfg.file.pos 0) x ∧ x.rpos = cfg.hi) ∧
      (p.err = none → p.res.alts ≠ [] ∧ ∀ x ∈ p.res.alts, ∃ y, DerivesW cfg (.ref 0) (cfg.file.pos 0) y ∧ y.rpos = cfg.hi ∧
        x = .nt seqTok [y, .eof cfg.hi] y.pos cfg.hi (.select 0)) ∧
      ((p.res.isNil = false ∧ p.err = none ∧ p.msg = none) ∨ (p.res.isNil = true ∧ p.err.isSome ∧ p.msg.isSome)) :=
  c04_sentence_iff_trim_any_engine C02UNV.arithCert cfg Garith.bodyOf (arith_scopeW cfg henv) (.ref 0)
    (c1t_root _ _ 0).1 (c1t_root cfg Garith.bodyOf 0).2
    (by rw [henv, ← S04.wfT_sentence]; exact C02UNV.wfT_arith) hbudget

theorem c04w_arith_iff_answered (cfg : Cfg) (henv : cfg.env = Garith.env) (fuel : Nat) (p : ParseOut)
    (h : parse cfg fuel Garith.root = some p) :
    (p.err = none ↔ ∃ x, DerivesW cfg (.ref 0) (cfg.file.pos 0) x ∧ x.rpos = cfg.hi) ∧
    (p.err = none → p.res.alts ≠ [] ∧ ∀ x ∈ p.res.alts, ∃ y, DerivesW cfg (.ref 0) (cfg.file.pos 0) y ∧ y.rpos = cfg.hi ∧
      x = .nt seqTok [y, .eof cfg.hi] y.pos cfg.hi (.select 0)) ∧
    ((p.res.isNil = false ∧ p.err = none ∧ p.msg = none) ∨ (p.res.isNil = true ∧ p.err.isSome ∧ p.msg.isSome)) :=
  c04_sentence_iff_trim_answered cfg Garith.bodyOf (PV.C1TNV.arith_scopeW cfg henv) (.ref 0)
    (PV.C1TNV.c1t_root _ _ 0).1 (PV.C1TNV.c1t_root cfg Garith.bodyOf 0).2 fuel p h

open PV.C1TNV in
/-- ACCEPTED, derived from the theorem: "1 + 2 " has the exact derivation `arTree` of Props/C01W.lean (every leaf's
    reader position past the blanks after it), which ends at 7 -/
theorem c04w_arith_accept :
    ∃ F, ∀ fuel, F ≤ fuel → ∃ p, parse arCfg fuel Garith.root = some p ∧ p.err = none ∧ p.res.alts ≠ [] ∧
      ∀ x ∈ p.res.alts, ∃ y, DerivesW arCfg (.ref 0) 1 y ∧ y.rpos = 7 ∧ x = .nt seqTok [y, .eof 7] y.pos 7 (.select 0) := by
  obtain ⟨F, hF⟩ := c04w_arith_iff arCfg rfl rfl
  refine ⟨F, fun fuel hle => ?_⟩
  obtain ⟨p, hp, hiff, hroot, _⟩ := hF fuel hle
  have hnone : p.err = none := hiff.mpr ⟨arTree, ar_derives, rfl⟩
  exact ⟨p, hp, hnone, (hroot hnone).1, (hroot hnone).2⟩

end PV
