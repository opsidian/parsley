/-
  C05 — the CONVERSE: "ill-formed input is rejected".

    "The classic left-recursive arithmetic grammar evaluates like a reference evaluator; ill-formed input is
     rejected."

  Props/C05V.lean proves the first half for the closed grammar `Garith`: every well-formed expression `e : PExpr`
  (`e.WF 0`) rendered with any admissible whitespace `ws` parses to the expected tree and evaluates to the reference
  answer.  This file proves the second half, for every configuration over `Garith.env` (any file, any base offset
  ≥ 1, any fuel):

  a node is returned only when the file IS `render e ws` for a well-formed `e` and an admissible `ws`, and then it is
  `Sentence[tree of e, EOF]` (`c05_accepts_only_expressions`, `c05_accept_iff`); otherwise every answering parse returns
  an error (`c05_rejects_ill_formed`); with termination, from some fuel on `parse` decides the class and `Evaluate`
  returns the reference outcome or the error's text (`c05_decides`; `c05_decides_text` for the configuration built from
  RAW text by `text.NewFile`, where the class is "`normCRLF raw` is a rendering": see the observation below).  The class has
  a parser-free characterisation (`c05_rendering_iff_tree`), through which the non-vacuity examples `1 +`, `(1`, `1 2`,
  `)`, the empty text, `1 + * 2` are shown not to be renderings (`c05_nv_reject_*`).

  THE ACCEPTED CLASS IS EXACTLY `WF 0` + `Admissible`:
  * literals: `LitOK lex` = `Lang.isInt lex` (`[-+]?([1-9][0-9]*|0[xX][0-9a-fA-F]+|0[0-7]*)`: signs, hex and
    octal included) ∧ value in [−2⁶³, 2⁶³).  By `c08_integer_value` the Integer terminal returns a node iff the
    LONGEST prefix in that syntax is not followed by `.` and is in range; out of range is the error "invalid integer
    value", which makes the parse fail.  The longest-prefix and the `.` conditions cost nothing in the converse
    (the accepted lexeme is whatever the terminal consumed), and in the forward direction `c05_parse_text`
    shows they hold in every rendering (a literal is followed by whitespace, an operator, `)` or the end);
  * whitespace: `WsOK` = bytes 32, 9, 10, 12 = exactly `Facts.wsBytes`, what `SkipWhitespaces(WsSpacesNl)` skips
    (NOT 13, NOT 11);
  * shape: `T` has the same stratification as `WF` (left operand at the operator's level, right operand one
    level up), so the parser accepts exactly the texts whose parenthesisation is the one their structure needs.
  One observation at the RAW-text level: `text.NewFile` replaces CR LF by LF before the parser sees the bytes, so
  the raw text `1 +\r\n2` is accepted although byte 13 is not whitespace for the parser (a lone CR is rejected):
  `c05_nv_crlf_accepted`, `c05_nv_lone_cr_rejected`.

  Route: `c05_returned_exact` (soundness for the fragment with `Trim`, read exactly) gives an exact tree `y` with
  `isEOF y.rpos`; `A05Acc.T_toCst` (Proofs/A05AccInv.lean) inverts exact trees rule by rule into a `Cst` whose
  text is the consumed input; `A05Acc.render_of_cst` turns the `Cst` into a `PExpr` + whitespace function.
-/
import ParsleyVerif.Proofs.A05AccReject
import ParsleyVerif.Proofs.Reads
namespace PV
open PV.Text PV.A05 PV.A05Acc

/-- **parser-free characterisation of the accepted class**: the file is `render e ws` for a stratified `e` with
    int64 literals and admissible `ws` iff an exact expression tree (`A05.T`: the two terminals `Trim(Integer)`,
    `Trim(Rune)` and the three rules, nothing else) spans it from the first byte to the end -/
theorem c05_rendering_iff_tree (cfg : Cfg) (henv : cfg.env = Garith.env) (hoff : 1 ≤ cfg.file.offset) :
    (∃ (e : PExpr) (ws : Nat → Bytes), e.WF 0 ∧ Admissible ws ∧ cfg.file.data = render e ws) ↔
      ∃ y, T cfg.params cfg.file 0 (cfg.file.pos 0) y ∧ isEOF cfg.file y.rpos = true := by
  constructor
  · rintro ⟨e, ws, he, hws, hd⟩
    have hin := input_of_rendering cfg henv hoff e ws he hws hd
    exact ⟨_, hin.treeT, hin.tree_eof⟩
  · rintro ⟨y, hy, heof⟩
    obtain ⟨ws0, e, hin, _⟩ := input_of_tree cfg henv hoff y hy heof
    obtain ⟨pe, ws, h1, h2, h3, _⟩ := rendering_of_input hin
    exact ⟨pe, ws, h1, h2, h3⟩

/-- **C05, accepted ⟹ well-formed**: whenever `parse` on the arithmetic grammar answers with a node, the file is
    the rendering of a well-formed expression under admissible whitespace, and the node is `Sentence[tree, EOF]`
    for the tree of that expression -/
theorem c05_accepts_only_expressions (cfg : Cfg) (henv : cfg.env = Garith.env) (hoff : 1 ≤ cfg.file.offset)
    (fuel : Nat) (p : ParseOut) (h : parse cfg fuel Garith.root = some p) (herr : p.err = none) :
    ∃ (e : PExpr) (ws : Nat → Bytes), e.WF 0 ∧ Admissible ws ∧ cfg.file.data = render e ws ∧
      p.res = .one (sentenceNode ((e.layout ws 1).1.tree (cfg.file.offset + (ws 0).length))) := by
  obtain ⟨y, hy, heof, hres⟩ := tree_of_accept cfg henv fuel p h herr
  obtain ⟨ws0, c, hin, hyc⟩ := input_of_tree cfg henv hoff y hy heof
  obtain ⟨e, ws, h1, h2, h3, h4, h5⟩ := rendering_of_input hin
  refine ⟨e, ws, h1, h2, h3, ?_⟩
  rw [hres, hyc, h4, h5]
  rfl

theorem arith_reads (cfg : Cfg) (henv : cfg.env = Garith.env) (hoff : 1 ≤ cfg.file.offset) (h0 : cfg.maxCalls = 0) :
    Reads cfg Garith.root
      (∃ (e : PExpr) (ws : Nat → Bytes), e.WF 0 ∧ Admissible ws ∧ cfg.file.data = render e ws) where
  sound := fun fuel p h herr => by
    obtain ⟨e, ws, h1, h2, h3, _⟩ := c05_accepts_only_expressions cfg henv hoff fuel p h herr
    exact ⟨e, ws, h1, h2, h3⟩
  complete := fun ⟨e, ws, he, hws, hd⟩ => by
    obtain ⟨F, hF⟩ := c05_parse_full (input_of_rendering cfg henv hoff e ws he hws hd) h0
    obtain ⟨p, hp, _, herr, _⟩ := hF F (Nat.le_refl _)
    exact ⟨F, p, hp, herr⟩

/-- **C05, accepted ⟺ well-formed** (work budget of the driver disabled, as in `c05_terminates`) -/
theorem c05_accept_iff (cfg : Cfg) (henv : cfg.env = Garith.env) (hoff : 1 ≤ cfg.file.offset) (h0 : cfg.maxCalls = 0) :
    (∃ fuel p, parse cfg fuel Garith.root = some p ∧ p.err = none) ↔
      ∃ (e : PExpr) (ws : Nat → Bytes), e.WF 0 ∧ Admissible ws ∧ cfg.file.data = render e ws :=
  (arith_reads cfg henv hoff h0).accept_iff

/-- **C05, ill-formed ⟹ rejected**: if the file is not the rendering of a well-formed expression, every answer of
    `parse` is an error: no node, an error value, an error text -/
theorem c05_rejects_ill_formed (cfg : Cfg) (henv : cfg.env = Garith.env) (hoff : 1 ≤ cfg.file.offset)
    (hill : ¬ ∃ (e : PExpr) (ws : Nat → Bytes), e.WF 0 ∧ Admissible ws ∧ cfg.file.data = render e ws)
    (fuel : Nat) (p : ParseOut) (h : parse cfg fuel Garith.root = some p) :
    p.res = .nil ∧ ∃ er, p.err = some er ∧ p.msg = some (failedPrefix ++ errorWithPosition cfg.fileSet er) := by
  cases herr : p.err with
  | none =>
    obtain ⟨e, ws, h1, h2, h3, _⟩ := c05_accepts_only_expressions cfg henv hoff fuel p h herr
    exact (hill ⟨e, ws, h1, h2, h3⟩).elim
  | some er =>
    refine ⟨?_, er, rfl, (parse_msg_form cfg fuel _ {} p er h herr).1⟩
    obtain ⟨o, st1, _, ⟨_, _, _, h4, _⟩ | ⟨_, h3, _⟩⟩ := parse_answer cfg fuel _ {} p h
    · rw [herr] at h4; cases h4
    · exact h3

/-- **C05, the decision**: from some fuel on `parse` answers, and
    * it answers with a node iff the file is a rendering;
    * for every rendering `(e, ws)` of the file the node is `Sentence[tree of e, EOF]` and `Evaluate` returns the
      reference outcome of `e` (value, or "division by zero" at the `/`);
    * if the file is not a rendering, the answer is an error and `Evaluate` returns its text -/
theorem c05_decides (cfg : Cfg) (henv : cfg.env = Garith.env) (hoff : 1 ≤ cfg.file.offset) (h0 : cfg.maxCalls = 0) :
    ∃ F, ∀ fuel, F ≤ fuel → ∃ p, parse cfg fuel Garith.root = some p ∧
      (p.err = none ↔ ∃ (e : PExpr) (ws : Nat → Bytes), e.WF 0 ∧ Admissible ws ∧ cfg.file.data = render e ws) ∧
      (∀ (e : PExpr) (ws : Nat → Bytes), e.WF 0 → Admissible ws → cfg.file.data = render e ws →
        p.res = .one (sentenceNode ((e.layout ws 1).1.tree (cfg.file.offset + (ws 0).length))) ∧ p.err = none ∧
        evaluate cfg arithCustom fuel Garith.root =
          some (embedV cfg.fileSet (refEval ((e.layout ws 1).1.toExpr (cfg.file.offset + (ws 0).length))))) ∧
      ((¬ ∃ (e : PExpr) (ws : Nat → Bytes), e.WF 0 ∧ Admissible ws ∧ cfg.file.data = render e ws) →
        p.res = .nil ∧ ∃ er, p.err = some er ∧
          evaluate cfg arithCustom fuel Garith.root = some (.error (failedPrefix ++ errorWithPosition cfg.fileSet er))) := by
  obtain ⟨F0, hF0⟩ := c05_terminates cfg henv hoff h0
  -- enough fuel to evaluate the tree, if there is one
  have hD : ∃ D, ∀ (e : PExpr) (ws : Nat → Bytes), e.WF 0 → Admissible ws → cfg.file.data = render e ws →
      ((e.layout ws 1).1.tree (start cfg (ws 0))).depth ≤ D := by
    by_cases hex : ∃ (e : PExpr) (ws : Nat → Bytes), e.WF 0 ∧ Admissible ws ∧ cfg.file.data = render e ws
    · obtain ⟨e1, ws1, he1, hws1, hd1⟩ := hex
      refine ⟨((e1.layout ws1 1).1.tree (start cfg (ws1 0))).depth, fun e ws he hws hd => ?_⟩
      have hin1 := input_of_rendering cfg henv hoff e1 ws1 he1 hws1 hd1
      have hin := input_of_rendering cfg henv hoff e ws he hws hd
      have := T_unique hoff (pos0_inFile cfg.file) hin.treeT hin1.treeT (by rw [hin.tree_end, hin1.tree_end])
      rw [this]
      exact Nat.le_refl _
    · exact ⟨0, fun e ws he hws hd => (hex ⟨e, ws, he, hws, hd⟩).elim⟩
  obtain ⟨D, hD⟩ := hD
  refine ⟨max F0 (D + 2), fun fuel hle => ?_⟩
  obtain ⟨p, hp⟩ := hF0 fuel (by omega)
  refine ⟨p, hp, (arith_reads cfg henv hoff h0).answer_iff fuel p hp, fun e ws he hws hd => ?_, fun hill => ?_⟩
  · have hin := input_of_rendering cfg henv hoff e ws he hws hd
    obtain ⟨h1, h2, _⟩ := hin.parse_root fuel p hp
    have hdep := hD e ws he hws hd
    exact ⟨h1, h2, c05_evaluate_of_parse hin fuel p hp (by omega)⟩
  · obtain ⟨h1, er, h2, h3⟩ := c05_rejects_ill_formed cfg henv hoff hill fuel p hp
    refine ⟨h1, er, h2, ?_⟩
    simp only [evaluate, hp, h3]

/-- **C05, the decision on raw text**: `nvArithCfg raw` is the configuration `text.NewFile` + `FileSet.AddFile`
    build from the bytes `raw`; the parser sees `normCRLF raw` (CR LF replaced by LF) -/
theorem c05_decides_text (raw : Bytes) :
    ∃ F, ∀ fuel, F ≤ fuel → ∃ p, parse (nvArithCfg raw) fuel Garith.root = some p ∧
      (p.err = none ↔ ∃ (e : PExpr) (ws : Nat → Bytes), e.WF 0 ∧ Admissible ws ∧ normCRLF raw = render e ws) ∧
      (∀ (e : PExpr) (ws : Nat → Bytes), e.WF 0 → Admissible ws → normCRLF raw = render e ws →
        p.res = .one (sentenceNode ((e.layout ws 1).1.tree (1 + (ws 0).length))) ∧ p.err = none ∧
        evaluate (nvArithCfg raw) arithCustom fuel Garith.root =
          some (embedV (nvArithCfg raw).fileSet (refEval ((e.layout ws 1).1.toExpr (1 + (ws 0).length))))) ∧
      ((¬ ∃ (e : PExpr) (ws : Nat → Bytes), e.WF 0 ∧ Admissible ws ∧ normCRLF raw = render e ws) →
        p.res = .nil ∧ ∃ er, p.err = some er ∧
          evaluate (nvArithCfg raw) arithCustom fuel Garith.root =
            some (.error (failedPrefix ++ errorWithPosition (nvArithCfg raw).fileSet er))) :=
  c05_decides (nvArithCfg raw) rfl (Nat.le_refl 1) rfl

end PV

/-! ### non-vacuity

  (a) the accepting side: `c05_accepts_only_expressions` applies to the parse `c05_parse_text` produces on the
      first text of Props/C05V.lean (`c05_nv_accepts`);
  (b) the rejecting side: six ill-formed texts.  For each one the premise of `c05_rejects_ill_formed` ("not a
      rendering") is discharged through `c05_rendering_iff_tree` by showing that no exact tree starting at the first
      byte reaches the end of the file — a few steps of inversion on `A05.T` with the terminals evaluated on the
      concrete file by the kernel (`rfl` / `decide`; no run of the parser). -/

namespace PV.A05Acc
open PV PV.Text PV.A05

def isNode : TermOut → Bool
  | .node _ => true
  | _ => false

theorem not_node {t : TermOut} (h : isNode t = false) : ∀ n, t ≠ .node n := by
  intro n hn; rw [hn] at h; cases h

def Rejected (cfg : Cfg) : Prop :=
  (¬ ∃ (e : PExpr) (ws : Nat → Bytes), e.WF 0 ∧ Admissible ws ∧ cfg.file.data = render e ws) ∧
  (∀ fuel p, parse cfg fuel Garith.root = some p →
    p.res = .nil ∧ ∃ er, p.err = some er ∧ p.msg = some (failedPrefix ++ errorWithPosition cfg.fileSet er)) ∧
  (∃ F, ∀ fuel, F ≤ fuel → ∃ p er, parse cfg fuel Garith.root = some p ∧ p.err = some er ∧
    evaluate cfg arithCustom fuel Garith.root = some (.error (failedPrefix ++ errorWithPosition cfg.fileSet er)))

theorem rejected_of_no_tree (cfg : Cfg) (henv : cfg.env = Garith.env) (hoff : 1 ≤ cfg.file.offset)
    (h0 : cfg.maxCalls = 0)
    (hno : ∀ y, T cfg.params cfg.file 0 (cfg.file.pos 0) y → isEOF cfg.file y.rpos = false) : Rejected cfg := by
  have hill : ¬ ∃ (e : PExpr) (ws : Nat → Bytes), e.WF 0 ∧ Admissible ws ∧ cfg.file.data = render e ws := by
    intro hex
    obtain ⟨y, hy, he⟩ := (c05_rendering_iff_tree cfg henv hoff).mp hex
    rw [hno y hy] at he; cases he
  refine ⟨hill, c05_rejects_ill_formed cfg henv hoff hill, ?_⟩
  obtain ⟨F, hF⟩ := c05_decides cfg henv hoff h0
  refine ⟨F, fun fuel hle => ?_⟩
  obtain ⟨p, hp, _, _, h3⟩ := hF fuel hle
  obtain ⟨_, er, h4, h5⟩ := h3 hill
  exact ⟨p, er, hp, h4, h5⟩

/-- `1 +` -/
def illA : Cfg := nvArithCfg [49, 32, 43]
/-- `(1` -/
def illB : Cfg := nvArithCfg [40, 49]
/-- `1 2` -/
def illC : Cfg := nvArithCfg [49, 32, 50]
/-- `)` -/
def illD : Cfg := nvArithCfg [41]
/-- the empty text -/
def illE : Cfg := nvArithCfg []
/-- `1 + * 2` -/
def illF : Cfg := nvArithCfg [49, 32, 43, 32, 42, 32, 50]

theorem illA_no_tree : ∀ y, T illA.params illA.file 0 (illA.file.pos 0) y → isEOF illA.file y.rpos = false := by
  have hoff : 1 ≤ illA.file.offset := by decide
  have h0 : LitAt illA.params illA.file (illA.file.pos 0) (intLeaf 1 1 3) := ⟨intLeaf 1 1 2, rfl, rfl⟩
  have hall := T_only_lit_op hoff (pos0_inFile _) h0 (q2 := 4) (by unfold InFile; decide) (by decide)
    (by unfold InFile; decide) (not_node (by rfl)) (by decide)
  intro y hy
  rw [hall 0 y hy]; decide

theorem illC_no_tree : ∀ y, T illC.params illC.file 0 (illC.file.pos 0) y → isEOF illC.file y.rpos = false := by
  have hoff : 1 ≤ illC.file.offset := by decide
  have h0 : LitAt illC.params illC.file (illC.file.pos 0) (intLeaf 1 1 3) := ⟨intLeaf 1 1 2, rfl, rfl⟩
  have hall := T_only_lit_noop hoff (pos0_inFile _) h0 (by unfold InFile; decide) (by decide)
  intro y hy
  rw [hall 0 y hy]; decide

theorem illF_no_tree : ∀ y, T illF.params illF.file 0 (illF.file.pos 0) y → isEOF illF.file y.rpos = false := by
  have hoff : 1 ≤ illF.file.offset := by decide
  have h0 : LitAt illF.params illF.file (illF.file.pos 0) (intLeaf 1 1 3) := ⟨intLeaf 1 1 2, rfl, rfl⟩
  have hall := T_only_lit_op hoff (pos0_inFile _) h0 (q2 := 5) (by unfold InFile; decide) (by decide)
    (by unfold InFile; decide) (not_node (by rfl)) (by decide)
  intro y hy
  rw [hall 0 y hy]; decide

theorem illB_no_tree : ∀ y, T illB.params illB.file 0 (illB.file.pos 0) y → isEOF illB.file y.rpos = false := by
  have hoff : 1 ≤ illB.file.offset := by decide
  have hq1 : InFile illB.file (illB.file.pos 0) := pos0_inFile _
  have hq2 : InFile illB.file 2 := by unfold InFile; decide
  have hq3 : InFile illB.file 3 := by unfold InFile; decide
  intro y hy
  refine (T_none hq1 (not_node (by rfl)) ?_ _ _ hy).elim
  intro lp e rp h1 h2 h3
  obtain ⟨_, hlp⟩ := RuneAtQ.concrete hoff h1 hq1 (by omega)
  have e1 : sk illB.file (sk illB.file (illB.file.pos 0) + 1) = 2 := by decide
  rw [e1] at hlp
  rw [hlp] at h2
  have h0 : LitAt illB.params illB.file 2 (intLeaf 1 2 3) := ⟨intLeaf 1 2 3, rfl, rfl⟩
  have he := T_only_lit_noop hoff hq2 h0 hq3 (by decide) 0 e h2
  subst he
  replace h3 : RuneAtQ illB.params illB.file 41 3 rp := h3
  obtain ⟨hh, _⟩ := RuneAtQ.concrete hoff h3 hq3 (by omega)
  have e3 : (rest illB.file (sk illB.file 3)).head? = none := by decide
  rw [e3] at hh; cases hh

theorem illD_no_tree : ∀ y, T illD.params illD.file 0 (illD.file.pos 0) y → isEOF illD.file y.rpos = false := by
  have hoff : 1 ≤ illD.file.offset := by decide
  have hq1 : InFile illD.file (illD.file.pos 0) := pos0_inFile _
  intro y hy
  exact (T_none hq1 (not_node (by rfl)) (no_paren hoff hq1 (by decide)) _ _ hy).elim

theorem illE_no_tree : ∀ y, T illE.params illE.file 0 (illE.file.pos 0) y → isEOF illE.file y.rpos = false := by
  have hoff : 1 ≤ illE.file.offset := by decide
  have hq1 : InFile illE.file (illE.file.pos 0) := pos0_inFile _
  intro y hy
  exact (T_none hq1 (not_node (by rfl)) (no_paren hoff hq1 (by decide)) _ _ hy).elim

/-! CR LF: the raw text `1 +\r\n2` and the raw text `1 +\r2` -/

def crlfE : PExpr := .bin .add (.lit [49]) (.lit [50])
def crlfWs : Nat → Bytes
  | 1 => [32]
  | 2 => [10]
  | _ => []

theorem crlfWs_ok : Admissible crlfWs := by
  intro i b hb
  unfold crlfWs at hb
  split at hb <;> simp at hb <;> (try subst hb) <;> decide

theorem crlfE_wf : crlfE.WF 0 := by
  simp only [crlfE, PExpr.WF, Op.level, LitOK]
  decide

/-- `1 +\r2` -/
def illG : Cfg := nvArithCfg [49, 32, 43, 13, 50]

theorem illG_no_tree : ∀ y, T illG.params illG.file 0 (illG.file.pos 0) y → isEOF illG.file y.rpos = false := by
  have hoff : 1 ≤ illG.file.offset := by decide
  have h0 : LitAt illG.params illG.file (illG.file.pos 0) (intLeaf 1 1 3) := ⟨intLeaf 1 1 2, rfl, rfl⟩
  have hall := T_only_lit_op hoff (pos0_inFile _) h0 (q2 := 4) (by unfold InFile; decide) (by decide)
    (by unfold InFile; decide) (not_node (by rfl)) (by decide)
  intro y hy
  rw [hall 0 y hy]; decide

end PV.A05Acc

namespace PV
open PV.Text PV.A05 PV.A05Acc

/-- (a) the hypotheses of `c05_accepts_only_expressions` are satisfiable: the parse of
    " 1 + 2*(3 -4)/ 0x10 \t- -7" that `c05_parse_text` produces answers with a node -/
theorem c05_nv_accepts : ∃ fuel p, parse (nvArithCfg (render nvE1 nvWs)) fuel Garith.root = some p ∧ p.err = none ∧
    ∃ (e : PExpr) (ws : Nat → Bytes), e.WF 0 ∧ Admissible ws ∧ (nvArithCfg (render nvE1 nvWs)).file.data = render e ws := by
  obtain ⟨F, hF⟩ := c05_parse_text nvE1 nvWs nvWs_ok nvE1_wf
  obtain ⟨p, hp, _, herr, _⟩ := hF F (Nat.le_refl _)
  obtain ⟨e, ws, h1, h2, h3, _⟩ := c05_accepts_only_expressions _ rfl (Nat.le_refl 1) F p hp herr
  exact ⟨F, p, hp, herr, e, ws, h1, h2, h3⟩

/-- (b) `1 +` -/
theorem c05_nv_reject_dangling_operator : Rejected illA := rejected_of_no_tree _ rfl (by decide) rfl illA_no_tree
/-- `(1` -/
theorem c05_nv_reject_unclosed_paren : Rejected illB := rejected_of_no_tree _ rfl (by decide) rfl illB_no_tree
/-- `1 2` -/
theorem c05_nv_reject_two_literals : Rejected illC := rejected_of_no_tree _ rfl (by decide) rfl illC_no_tree
/-- `)` -/
theorem c05_nv_reject_close_paren : Rejected illD := rejected_of_no_tree _ rfl (by decide) rfl illD_no_tree
/-- the empty text -/
theorem c05_nv_reject_empty : Rejected illE := rejected_of_no_tree _ rfl (by decide) rfl illE_no_tree
/-- `1 + * 2` -/
theorem c05_nv_reject_two_operators : Rejected illF := rejected_of_no_tree _ rfl (by decide) rfl illF_no_tree

/-- the raw text `1 +\r\n2` (CR LF between the tokens) is ACCEPTED with value 3 although 13 is not a whitespace byte
    of the parser: `text.NewFile` has replaced CR LF by LF -/
theorem c05_nv_crlf_accepted : ∃ F, ∀ fuel, F ≤ fuel →
    evaluate (nvArithCfg [49, 32, 43, 13, 10, 50]) arithCustom fuel Garith.root = some (.value (.int 3)) := by
  obtain ⟨F, hF⟩ := c05_decides_text [49, 32, 43, 13, 10, 50]
  refine ⟨F, fun fuel hle => ?_⟩
  obtain ⟨p, _, _, h2, _⟩ := hF fuel hle
  obtain ⟨_, _, h3⟩ := h2 crlfE crlfWs crlfE_wf crlfWs_ok (by decide)
  rw [h3]
  rfl

/-- a lone CR is not whitespace: `1 +\r2` is rejected -/
theorem c05_nv_lone_cr_rejected : Rejected illG := rejected_of_no_tree _ rfl (by decide) rfl illG_no_tree

end PV

namespace PV.A05Acc
def parseIsErr (o : Option ParseOut) : Bool :=
  match o with
  | some p => p.err.isSome && p.res.isNil
  | none => false
end PV.A05Acc

namespace PV
open PV.Text PV.A05 PV.A05Acc

/-! the model itself on the same texts, run by the interpreter at build time (tests, not theorems) -/
#guard parseIsErr (parse illA 1000 Garith.root)
#guard parseIsErr (parse illB 1000 Garith.root)
#guard parseIsErr (parse illC 1000 Garith.root)
#guard parseIsErr (parse illD 1000 Garith.root)
#guard parseIsErr (parse illE 1000 Garith.root)
#guard parseIsErr (parse illF 1000 Garith.root)
#guard parseIsErr (parse illG 1000 Garith.root)
#guard outIsInt (evaluate (nvArithCfg [49, 32, 43, 13, 10, 50]) arithCustom 1000 Garith.root) 3
#guard outIsErr (evaluate illA arithCustom 1000 Garith.root) (tokOf "failed to parse the input: was expecting \"(\" at f:1:4")

end PV
