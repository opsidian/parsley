/-
  C02 — Every memoized grammar terminates with bounded re-entry per position:
  the termination theorem of Props/C02T.lean WITHOUT its two limits.

  Props/C02T.lean proves termination for grammars accepted by the decidable certificate `wf` (Spec/WF.lean)
  (a) without the whitespace trims and (b) over terminals that consume whenever they succeed, shown for Rune
  and non-empty Op only.  Here:

  * the certificate is `wfT rx cert env root` (Spec/WFTrim.lean) = `wf` with terminals not assumed to
    consume: a Regexp with expression id `i` may be empty iff `rx i`; NO other terminal may be empty.
    `wfT rxNone = wf` on every grammar (`c02u_agrees_wf`).  The trims are treated as `wf` treats them
    syntactically (LeftTrim(p) / RightTrim(p) may be empty iff p may; their left references are p's) and this
    is proved SOUND for the model as it is: LeftTrim passes the left-recursion context on UNCHANGED to the
    position after the whitespace (Model/Run.lean, case `ltrim` — it is not reset when whitespace was skipped);
  * `c02u_terminates` / `_parse` / `_auto`: for EVERY configuration (any file, file set, ParseFloat, ParseDuration),
    EVERY grammar over the whole combinator set with `wfT … = true`, every input and every state a parse can be
    in there is a fuel from which on `run` / `parse` answers.  Hypotheses besides the check: the driver's work
    budget is off, and `RxSound rx cfg.params` — the regexp engine never reports an empty match for an expression
    the certificate declares non-nullable; with `rx := rxAll` (every Regexp may be empty) that hypothesis is
    void (`c02u_terminates_any_engine`);
  * `c02u_terminal_consumes` (item 1): every built-in terminal other than Regexp — Rune, Op, Word, Bool, Nil,
    Integer, Float, String, Char, TimeDuration — consumes at least one byte whenever it returns a node, for ALL
    construction parameters (`c02u_termCons`: they are `TermCons`).  The terminals that CAN succeed without
    consuming are exactly the Regexp terminals (`c02u_regexp_can_be_empty`); the empty Op / Word / Bool / Nil
    word never returns a node at all — it is the documented panic of MatchString / MatchWord
    (`c02u_empty_word_never_matches`) —, so nothing is lost by treating them as consuming;
  * `c02u_reentry` / `c02u_balanced`: the re-entry bound of Props/C02.lean (`c02_reentry` is stated for trim-free
    grammars over `TermGood` terminals) for EVERY grammar, trims and all terminals included, no hypothesis;
  * instances: `wfT` accepts the JSON grammar `Gjson` and the arithmetic grammar `Garith` (`decide`), hence
    `c02u_json_terminates` (C16V has termination on well-formed documents only) and `c02u_arith_terminates`
    on EVERY input.

  No grammar shape with trims was found on which the model diverges although the certificate of its
  trim-erased form passes: the certificate of a grammar and of its trim-erased form coincide, and the theorem
  holds for both.
-/
import ParsleyVerif.Proofs.WFTHalts
import ParsleyVerif.Spec.Json
import ParsleyVerif.Spec.Arith
namespace PV
open PV.Text PV.WFT

/-- with no Regexp declared nullable the extended certificate IS `wf` (Spec/WF.lean), on every grammar -/
theorem c02u_agrees_wf (cert : WFCert) (env : List G) (root : G) : wfT rxNone cert env root = wf cert env root :=
  wfT_false cert env root

def c02u_wfT_decidable (rx : Nat → Bool) (cert : WFCert) (env : List G) (g : G) :
    Decidable (wfT rx cert env g = true) := inferInstance

/-- **every built-in terminal**, for all construction parameters, every ParseFloat / ParseDuration answer and every
    regexp engine: a node it returns at a position of the file is a terminal leaf starting at the call position
    and ending inside the file, and — unless the terminal is a Regexp — at least one byte wide -/
theorem c02u_terminal_consumes (cfg : Cfg) (t : Terminal) (pos : Nat) (n : Node) (hin : InFile cfg.file pos)
    (hn : t.parse cfg.params cfg.file pos = .node n) :
    (∃ tok v r, n = .term tok v pos r) ∧ n.pos = pos ∧ pos ≤ n.rpos ∧ n.rpos ≤ cfg.hi ∧
    ((∀ id tok name g, t ≠ .regexp id tok name g) → pos < n.rpos) := by
  obtain ⟨tok, v, r, rfl, h1, h2, h3⟩ := termLeaf_all rxAll cfg (rxSound_all cfg.params) t pos n hin hn
  refine ⟨⟨tok, v, r, rfl⟩, rfl, h1, h2, fun hne => h3 ?_⟩
  cases t with
  | regexp id tok' name g => exact absurd rfl (hne id tok' name g)
  | _ => rfl

/-- … in the vocabulary of Props/C02T.lean: every built-in terminal other than Regexp is `TermCons` -/
theorem c02u_termCons (cfg : Cfg) (t : Terminal) (hne : ∀ id tok name g, t ≠ .regexp id tok name g) :
    TermCons cfg t :=
  fun pos n hin hn => (c02u_terminal_consumes cfg t pos n hin hn).2.2.2.2 hne

/-- a Regexp is `TermCons` exactly under the claim about its expression -/
theorem c02u_termCons_regexp (cfg : Cfg) (id : Nat) (tok name : Bytes) (g : Bool)
    (h : ∀ r m gv, r ≠ [] → cfg.params.regexp id r = some (m, gv) → 0 < m) :
    TermCons cfg (.regexp id tok name g) := by
  intro pos n hin hn
  have hrx : RxSound (fun i => decide (i ≠ id)) cfg.params := by
    intro i r m gv hi hr hp
    have : i = id := by simpa using hi
    subst this
    exact h r m gv hr hp
  obtain ⟨_, _, r, rfl, _, _, h3⟩ := termLeaf_all _ cfg hrx (.regexp id tok name g) pos n hin hn
  exact h3 (by simp [termNullable])

/-- the terminals that CAN succeed without consuming are the Regexp terminals: an engine that reports an empty
    match (e.g. `\b`, `a*`) yields a node of width 0 (C08, `c08_regexp_empty_match`) -/
theorem c02u_regexp_can_be_empty :
    let P : Params := { floatOk := fun _ => true, durErr := fun _ => none, regexp := fun _ _ => some (0, none) }
    let f : File := { name := "", data := [97], offset := 1 }
    InFile f 1 ∧ Terminal.parse P f (.regexp 0 [82] [] false) 1 = .node (.term [82] (.str []) 1 1) :=
  ⟨by unfold InFile File.len; decide, rfl⟩

/-- the empty Op / Word / Nil / Bool word never returns a node (MatchString / MatchWord panic on the empty string) -/
theorem c02u_empty_word_never_matches (P : Params) (f : File) (pos : Nat) (n : Node) (name : Bytes) (v : Nat) :
    Terminal.parse P f (.op [] name) pos ≠ .node n ∧ Terminal.parse P f (.word [] v name) pos ≠ .node n ∧
    Terminal.parse P f (.nil []) pos ≠ .node n ∧ Terminal.parse P f (.bool [] []) pos ≠ .node n := by
  simp [Terminal.parse, matchString, matchWord]

/-- **C02 termination, trims and all built-in terminals included.**  `GoodT` describes the states a parse can
    be in (it holds of the fresh context — `c02u_initial` — and is preserved by every call — `c02u_preserved`). -/
theorem c02u_terminates (rx : Nat → Bool) (cert : WFCert) (cfg : Cfg) (g : G)
    (hwf : wfT rx cert cfg.env g = true) (hbudget : cfg.maxCalls = 0) (hrx : RxSound rx cfg.params)
    (ctx : Ctx) (pos : Nat) (st : St) (hgood : GoodT cert cfg ctx pos st) :
    ∃ F, ∀ fuel, F ≤ fuel → (run cfg fuel g ctx pos st).isSome = true := by
  obtain ⟨henv, hg⟩ := EnvT_of_wfT rx cert cfg g hwf hbudget hrx
  exact answers_from (WFT.halts_all rx cert cfg henv g hg ctx pos st hgood)

theorem c02u_initial (cert : WFCert) (cfg : Cfg) : GoodT cert cfg [] (cfg.file.pos 0) {} :=
  GoodT_initial cert cfg

theorem c02u_preserved (rx : Nat → Bool) (cert : WFCert) (cfg : Cfg) (g : G)
    (hwf : wfT rx cert cfg.env g = true) (hbudget : cfg.maxCalls = 0) (hrx : RxSound rx cfg.params)
    (fuel : Nat) (ctx : Ctx) (pos : Nat) (st : St) (o : Out) (st' : St)
    (hgood : GoodT cert cfg ctx pos st) (h : run cfg fuel g ctx pos st = some (o, st')) :
    GoodT cert cfg ctx pos st' := by
  obtain ⟨henv, hg⟩ := EnvT_of_wfT rx cert cfg g hwf hbudget hrx
  have hpost := run_T rx cert cfg henv.weak fuel g ctx pos st o st' hg.weak hgood h
  exact ⟨hgood.1, by rw [hpost.active]; exact hgood.2.1, hpost.st⟩

/-- soundness of `mayBeEmptyT`, the semantic half of the certificate — with the trims the results need not
    START at the call position, but their reader position lies between it and the end of the file, and strictly
    after it for a parser the certificate says cannot be empty -/
theorem c02u_mayBeEmpty_sound (rx : Nat → Bool) (cert : WFCert) (cfg : Cfg) (g : G)
    (hwf : wfT rx cert cfg.env g = true) (hbudget : cfg.maxCalls = 0) (hrx : RxSound rx cfg.params)
    (fuel : Nat) (ctx : Ctx) (pos : Nat) (st : St) (o : Out) (st' : St)
    (hgood : GoodT cert cfg ctx pos st) (h : run cfg fuel g ctx pos st = some (o, st')) :
    ∀ x ∈ o.res.alts, pos ≤ x.rpos ∧ x.rpos ≤ cfg.hi ∧ (mayBeEmptyT rx cert g = false → x.rpos > pos) := by
  obtain ⟨henv, hg⟩ := EnvT_of_wfT rx cert cfg g hwf hbudget hrx
  have hpost := run_T rx cert cfg henv.weak fuel g ctx pos st o st' hg.weak hgood h
  intro x hx
  have hb := (hpost.res x hx).bounds
  have hge := loOf_ge (mayBeEmptyT rx cert g) pos
  refine ⟨by omega, hb.2, fun hne => ?_⟩
  rw [hne] at hb
  have : pos + 1 ≤ x.rpos := hb.1
  omega

/-- **C02 termination of `parsley.Parse`** from a fresh context -/
theorem c02u_terminates_parse (rx : Nat → Bool) (cert : WFCert) (cfg : Cfg) (g : G)
    (hwf : wfT rx cert cfg.env g = true) (hbudget : cfg.maxCalls = 0) (hrx : RxSound rx cfg.params) :
    ∃ F, ∀ fuel, F ≤ fuel → (parse cfg fuel g).isSome = true := by
  obtain ⟨F, hF⟩ := c02u_terminates rx cert cfg g hwf hbudget hrx [] (cfg.file.pos 0) {} (c02u_initial cert cfg)
  exact ⟨F, fun fuel hle => parse_isSome_of_run cfg g fuel (hF fuel hle)⟩

/-- … with every Regexp treated as nullable: NO hypothesis on the regexp engine, on ParseFloat, on ParseDuration,
    on the construction parameters of the terminals, on the file -/
theorem c02u_terminates_any_engine (cert : WFCert) (cfg : Cfg) (g : G)
    (hwf : wfT rxAll cert cfg.env g = true) (hbudget : cfg.maxCalls = 0) :
    ∃ F, ∀ fuel, F ≤ fuel → (parse cfg fuel g).isSome = true :=
  c02u_terminates_parse rxAll cert cfg g hwf hbudget (rxSound_all cfg.params)

/-- … with the certificate COMPUTED (`wfAutoT`: least nullability, longest-path ranks) -/
theorem c02u_terminates_auto (rx : Nat → Bool) (cfg : Cfg) (g : G) (hwf : wfAutoT rx cfg.env g = true)
    (hbudget : cfg.maxCalls = 0) (hrx : RxSound rx cfg.params) :
    ∃ F, ∀ fuel, F ≤ fuel → (parse cfg fuel g).isSome = true :=
  c02u_terminates_parse rx (autoCertT rx cfg.env g) cfg g hwf hbudget hrx

/-- the theorem of Props/C02T.lean is the special case: a grammar accepted by `wf` terminates, trims or not,
    whenever its Regexp terminals never match the empty string (no `Core`, no `TermGood` / `TermCons` scope) -/
theorem c02u_terminates_wf (cert : WFCert) (cfg : Cfg) (g : G)
    (hwf : wf cert cfg.env g = true) (hbudget : cfg.maxCalls = 0) (hrx : RxSound rxNone cfg.params) :
    ∃ F, ∀ fuel, F ≤ fuel → (parse cfg fuel g).isSome = true :=
  c02u_terminates_parse rxNone cert cfg g (by rw [c02u_agrees_wf]; exact hwf) hbudget hrx

/-- **C02 re-entry bound** from any state a parse can reach, EVERY grammar (trims, all terminals, no certificate) -/
theorem c02u_reentry_from (cfg : Cfg) (g : G) (fuel : Nat) (ctx : Ctx) (pos : Nat) (st : St) (o : Out) (st' : St)
    (hgood : GoodT topCert cfg ctx pos st) (h : run cfg fuel g ctx pos st = some (o, st')) :
    (∀ idx p d, Ev.body idx p d ∈ st'.log → d ≤ remaining cfg.file p + 2) ∧ st'.active = st.active := by
  have hpost := run_T rxAll topCert cfg (EnvM_top cfg) fuel g ctx pos st o st' (GWM_top g) hgood h
  refine ⟨fun idx p d hm => ?_, hpost.active⟩
  have := hpost.st.log idx p d hm
  have hs : Facts.curtailSlack ≤ 1 := by decide
  omega

/-- **C02 re-entry bound** for a whole parse: no memoized parser is ever active more than `remaining input + 2`
    times at one position — every grammar, every input, every fuel for which `run` answers -/
theorem c02u_reentry (cfg : Cfg) (g : G) (fuel : Nat) (o : Out) (st' : St)
    (h : run cfg fuel g [] (cfg.file.pos 0) {} = some (o, st')) :
    ∀ idx p d, Ev.body idx p d ∈ st'.log → d ≤ remaining cfg.file p + 2 :=
  (c02u_reentry_from cfg g fuel [] _ {} o st' (c02u_initial topCert cfg) h).1

theorem c02u_balanced (cfg : Cfg) (g : G) (fuel : Nat) (ctx : Ctx) (pos : Nat) (st : St) (o : Out) (st' : St)
    (hgood : GoodT topCert cfg ctx pos st) (h : run cfg fuel g ctx pos st = some (o, st')) :
    st'.active = st.active :=
  run_active h

namespace C02UNV

/-- the JSON grammar needs no Memoize: no rule is nullable, no left reference -/
def jsonCert : WFCert := certOf [] [] [] []
/-- the arithmetic grammar: Memoize indexes 0 (expr) and 1 (term); left references only under them -/
def arithCert : WFCert := certOf [] [] [] [0, 1]

theorem wfT_json : wfT rxAll jsonCert Gjson.env Gjson.root = true := by decide +kernel
theorem wfT_arith : wfT rxAll arithCert Garith.env Garith.root = true := by decide +kernel

end C02UNV

/-- **the example JSON parser terminates on EVERY input** (any file, any ParseFloat) -/
theorem c02u_json_terminates (cfg : Cfg) (henv : cfg.env = Gjson.env) (hbudget : cfg.maxCalls = 0) :
    ∃ F, ∀ fuel, F ≤ fuel → (parse cfg fuel Gjson.root).isSome = true :=
  c02u_terminates_any_engine C02UNV.jsonCert cfg Gjson.root (by rw [henv]; exact C02UNV.wfT_json) hbudget

/-- **the arithmetic parser terminates on EVERY input** (no condition on the base offset, cf. `c05_terminates`) -/
theorem c02u_arith_terminates (cfg : Cfg) (henv : cfg.env = Garith.env) (hbudget : cfg.maxCalls = 0) :
    ∃ F, ∀ fuel, F ≤ fuel → (parse cfg fuel Garith.root).isSome = true :=
  c02u_terminates_any_engine C02UNV.arithCert cfg Garith.root (by rw [henv]; exact C02UNV.wfT_arith) hbudget

/-! ### non-vacuity, and what the certificate excludes -/

namespace C02UNV

def ch (c : Nat) : G := .term (.rune c [34, c, 34])
def trim (g : G) : G := .rtrim (.ltrim g .spacesNl) .spacesNl
def certM (memos : List Nat) : WFCert := certOf [] [] [] memos

/-- `P → LeftTrim(P) b | a`, memoized: left recursion THROUGH a LeftTrim -/
def envTrimLR : List G := [.memo 0 (.any [.seq .seqOf [.ltrim (.ref 0) .spacesNl, ch 98] {}, ch 97])]
def envTrimBad : List G := [.any [.seq .seqOf [.ltrim (.ref 0) .spacesNl, ch 98] {}, ch 97]]
def manyTrimOpt : G := .many (trim (.optional (ch 97))) true {}
def manyRx : G := .many (.term (.regexp 0 [82] [114] false)) true {}

def mkCfg (env : List G) (data : Bytes) (rxEngine : Nat → Bytes → Option (Nat × Option Bytes)) : Cfg :=
  { env := env, file := { name := "f", data := data, offset := 1 }, fileSet := {},
    params := { floatOk := fun _ => true, durErr := fun _ => none, regexp := rxEngine } }

theorem wfT_trimLR : wfT rxAll (certM [0]) envTrimLR (G.sentence (trim (.ref 0))) = true := by decide

theorem wfAutoT_ok : wfAutoT rxAll envTrimLR (G.sentence (trim (.ref 0))) = true ∧
    wfAutoT rxAll Gjson.env Gjson.root = true ∧ wfAutoT rxAll Garith.env Garith.root = true := by decide +kernel

/-- the hypotheses of `c02u_terminates_any_engine` are satisfiable by a left-recursive grammar with trims:
    it terminates on EVERY input -/
theorem trimLR_terminates (data : Bytes) (e : Nat → Bytes → Option (Nat × Option Bytes)) :
    ∃ F, ∀ fuel, F ≤ fuel → (parse (mkCfg envTrimLR data e) fuel (G.sentence (trim (.ref 0)))).isSome = true :=
  c02u_terminates_any_engine (certM [0]) (mkCfg envTrimLR data e) _ wfT_trimLR rfl

/-- un-memoized left recursion through a LeftTrim has NO certificate (the trim does not hide the left call) -/
theorem wfT_trimBad_fails (rx : Nat → Bool) (c : WFCert) : wfT rx c envTrimBad (.ref 0) = false := by
  simp [wfT, envTrimBad, wfRuleT, leftRefsT, leftRefsAllT, leftRefsSeqT, List.range, List.range.loop]

theorem wfT_manyTrimOpt_fails (rx : Nat → Bool) (c : WFCert) (env : List G) : wfT rx c env manyTrimOpt = false := by
  simp [wfT, manyTrimOpt, trim, wfLocalT, mayBeEmptyT]

/-- Many over a Regexp: rejected when the expression may be empty, accepted when the certificate claims it cannot -/
theorem wfT_manyRx : (∀ c env, wfT rxAll c env manyRx = false) ∧ wfT rxNone (certM []) [] manyRx = true := by
  refine ⟨fun c env => ?_, by decide⟩
  simp [wfT, manyRx, wfLocalT, mayBeEmptyT, termNullable, rxAll]

/-- … and indeed the model never answers on them: `P → LeftTrim(P) b | a` without Memoize on " ab",
    `Many(Trim(Optional('a')))` on "b", and — showing that `RxSound` cannot be dropped — `Many(Regexp)` with an
    engine that matches the empty string on "a", run out of every small fuel -/
theorem bad_no_answer :
    (run (mkCfg envTrimBad [32, 97, 98] (fun _ _ => none)) 50 (.ref 0) [] 1 {}).isNone = true ∧
    (run (mkCfg envTrimBad [32, 97, 98] (fun _ _ => none)) 100 (.ref 0) [] 1 {}).isNone = true ∧
    (run (mkCfg [] [98] (fun _ _ => none)) 50 manyTrimOpt [] 1 {}).isNone = true ∧
    (run (mkCfg [] [98] (fun _ _ => none)) 100 manyTrimOpt [] 1 {}).isNone = true ∧
    (run (mkCfg [] [97] (fun _ _ => some (0, none))) 50 manyRx [] 1 {}).isNone = true ∧
    (run (mkCfg [] [97] (fun _ _ => some (0, none))) 100 manyRx [] 1 {}).isNone = true := by
  have h : (run (mkCfg envTrimBad [32, 97, 98] (fun _ _ => none)) 100 (.ref 0) [] 1 {}).isNone = true ∧
      (run (mkCfg [] [98] (fun _ _ => none)) 100 manyTrimOpt [] 1 {}).isNone = true ∧
      (run (mkCfg [] [97] (fun _ _ => some (0, none))) 100 manyRx [] 1 {}).isNone = true := by decide +kernel
  exact ⟨run_isNone_of_le _ (by decide) _ _ _ _ h.1, h.1, run_isNone_of_le _ (by decide) _ _ _ _ h.2.1, h.2.1,
    run_isNone_of_le _ (by decide) _ _ _ _ h.2.2, h.2.2⟩

def bodyDepths : List Ev → List (Nat × Nat)
  | [] => []
  | .body _ p d :: r => (p, d) :: bodyDepths r
  | _ :: r => bodyDepths r

/-- the certified grammar answers, on " abb" from `P` itself: `P` at position 1 skips the blank inside its own body, so
    LeftTrim calls `P` at position 2 with the counter of `P` already at 1 (not reset): there the body is entered
    4 = remaining + 1 times, whereas on "abb" without the blank it is entered 5 = remaining + 2 times — the bound
    of `c02u_reentry` is respected, the curtailment only comes one step earlier, and both parses are found -/
theorem trimLR_answers :
    ((run (mkCfg envTrimLR [32, 97, 98, 98] (fun _ _ => none)) 60 (.ref 0) [] 1 {}).map
      (fun r => (r.1.res.alts.map Node.rpos, bodyDepths r.2.log))) =
      some ([5, 4], [(2, 4), (2, 3), (2, 2), (2, 1), (1, 1)]) ∧
    ((run (mkCfg envTrimLR [97, 98, 98] (fun _ _ => none)) 60 (.ref 0) [] 1 {}).map
      (fun r => (r.1.res.alts.map Node.rpos, bodyDepths r.2.log))) =
      some ([4, 3, 2], [(1, 5), (1, 4), (1, 3), (1, 2), (1, 1)]) := by decide +kernel

end C02UNV

end PV
