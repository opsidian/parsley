/-
  C01 / C02 / C04 with the BUILT-IN terminals: the hypothesis `TermGood` of the positional theorems is
  discharged by C08 for every built-in literal parser whose construction parameters are in the documented
  domain (`Terminal.WF`) and whose external regexp engine respects its contract (`LenOk`, `GroupOk`).
  So for grammars over the combinator set whose leaves are ANY of rune, op, word, bool, nil, integer, float,
  string, char, duration, regexp — not only single-byte runes — the span, re-entry and Sentence theorems hold.
  (`TermGood` in fact holds of EVERY terminal, outside that domain too: `termGood_all`, Proofs/TermProgram.lean — the
  model answers a panic, not a node, when an engine overshoots.  `BuiltinOK` below asks more than the proofs use.)
-/
import ParsleyVerif.Props.C01
import ParsleyVerif.Props.C02
import ParsleyVerif.Props.C08
namespace PV
open PV.Text

/-- a built-in terminal used within its documented domain -/
def BuiltinOK (cfg : Cfg) (t : Terminal) : Prop := t.WF ∧ cfg.params.LenOk t ∧ cfg.params.GroupOk t

theorem CoreList_monoT {P Q : Terminal → Prop} (h : ∀ t, P t → Q t) : ∀ gs : List G, CoreList P gs → CoreList Q gs :=
  fun _ hc => CoreList_iff.mpr fun g hg => G.Core_mono h g (CoreList_iff.mp hc g hg)

theorem scope_of_builtin (cfg : Cfg) (g : G) (hroot : g.Core (BuiltinOK cfg))
    (henv : ∀ g' ∈ cfg.env, g'.Core (BuiltinOK cfg)) : Scope cfg g :=
  ⟨G.Core_mono (fun t ht => c08_termGood cfg t ht.1 ht.2.1 ht.2.2) g hroot,
   fun g' hg' => G.Core_mono (fun t ht => c08_termGood cfg t ht.1 ht.2.1 ht.2.2) g' (henv g' hg')⟩

/-- **C01 spans for grammars over any built-in terminals** -/
theorem c01_spans_builtin (cfg : Cfg) (g : G) (hroot : g.Core (BuiltinOK cfg))
    (henv : ∀ g' ∈ cfg.env, g'.Core (BuiltinOK cfg)) (fuel : Nat) (o : Out) (st' : St)
    (h : run cfg fuel g [] (cfg.file.pos 0) {} = some (o, st')) :
    ∀ x ∈ o.res.alts, x.pos = cfg.file.pos 0 ∧ x.WF cfg.hi ∧ x.spell cfg.file = slice cfg.file (cfg.file.pos 0) x.rpos := by
  intro x hx
  obtain ⟨h1, h2, _, _, h5⟩ := c01_spans cfg g (scope_of_builtin cfg g hroot henv) fuel [] _ {} o st' (c01_pre_initial cfg) h x hx
  exact ⟨h1, h2, h5⟩

/-- **C02 re-entry bound for grammars over any built-in terminals** -/
theorem c02_reentry_builtin (cfg : Cfg) (g : G) (hroot : g.Core (BuiltinOK cfg))
    (henv : ∀ g' ∈ cfg.env, g'.Core (BuiltinOK cfg)) (fuel : Nat) (o : Out) (st' : St)
    (h : run cfg fuel g [] (cfg.file.pos 0) {} = some (o, st')) :
    ∀ idx p d, Ev.body idx p d ∈ st'.log → d ≤ remaining cfg.file p + 2 :=
  c02_reentry cfg g (scope_of_builtin cfg g hroot henv) fuel o st' h

/-- non-vacuity: every kind of built-in terminal is admissible for the configuration of Props/C01.lean (whose regexp
    parameter never matches) -/
example : ∀ t ∈ [Terminal.integer, .float, .string true, .char, .duration, .rune 233 [], .op [43] [], .bool [116] [102],
    .regexp 0 [] [] true], BuiltinOK nvCfg t := by
  intro t ht
  simp only [List.mem_cons, List.mem_nil_iff, or_false] at ht
  rcases ht with rfl | rfl | rfl | rfl | rfl | rfl | rfl | rfl | rfl <;>
    simp [BuiltinOK, Terminal.WF, Params.LenOk, Params.GroupOk, nvCfg]

end PV
