/-
  C01P — the PARSER CORE, about the functions TRANSLATED from the Go source.

  `factgen -out-core` translates, statement by statement, the parse closures of combinator/*.go, parser/*.go and
  text/trim.go, parsley/context.go, parsley/result_cache.go, parsley/parse.go and ast.AppendNode / NodeList.Append into
  Lean definitions (Generated/FactsCore.lean, regenerated from the repository on every run; run-time: the hand-written
  Generated/CorePrelude.lean).  The theorems below tie every case of the hand-written interpreter `run`
  (Model/Run.lean) to the translated function it transcribes.

  Vocabulary (Proofs/CoreTieBasics.lean).  `eOut`: the model's answer read as a translated (node, curtailing set, error)
  triple; `CtxRel m c`: the translated left-recursion context holds the model context's counters; `StRel s st`: the translated
  `parsley.Context` shows the model state (call count, furthest error, result cache; ghost fields ignored);
  `Corr x y`: the translated outcome `x` is the model outcome `y` (fuel exhausted on both sides, or the embedded triple in
  a related state).  A `parsley.Parser` value is an abstract handle; calling it is the world's `parse`.

    Agrees W cfg fuel p g  :=  ∀ m c pos s st, CtxRel m c → StRel s st →
                                 Corr (W.parse p m pos s) (run cfg fuel g c pos st)
    AgreesF f cfg fuel g   :=  the same for a translated parse function `f` in place of `W.parse p`

  Every combinator tie has the form: IF the world's `parse` agrees with `run cfg fuel` on the operands (`Agrees`), THEN
  the translated closure agrees with `run cfg (fuel+1)` on the combinator node (`AgreesF`).  Further hypotheses, where
  present: `cfg.maxCalls = 0` (the model's work budget is off — the Go code has none); `WorldRel W cfg` (the world's reader
  answers what the model's file functions answer; C10P proves these equations of the TRANSLATED reader).
-/
import ParsleyVerif.Proofs.CoreTieCache
import ParsleyVerif.Proofs.CoreTieTrim
import ParsleyVerif.Proofs.CoreTieParse
import ParsleyVerif.Proofs.CoreTieSeqCtor
namespace PV
open PV.CoreTie PV.FactsCore

/-- the functions of the core the translator is asked for -/
def coreFunctions : List String :=
  ["Context_RegisterCall", "Context_SetError", "Context_Error", "ResultCache_Save", "ResultCache_Get",
   "NodeList_Append", "AppendNode", "Optional_parse", "Single_parse", "SuppressError_parse", "ReturnError_parse",
   "Empty_parse", "End_parse", "Any_parse", "Choice_parse", "Memoize_parse", "LeftTrim_parse", "RightTrim_parse", "Parse",
   "seqDefaultResultHandler_parse", "sequence_parse", "sequence_parseNext", "sequence_Parse", "Sequence_Parse", "Seq", "SeqOf",
   "SeqTry", "SeqFirstOrAll", "newMany", "newSepBy", "ReturnSingle", "Sequence_Name", "Sequence_Token", "Sequence_HandleResult",
   "Sequence_Bind", "Many", "Many1", "SepBy", "SepBy1"]

/-- everything asked for is translated -/
theorem c01p_all_translated :
    coreFunctions.all (fun f => FactsCore.translatedCore.contains f) = true ∧ FactsCore.untranslatedCore = [] := by
  decide +kernel

/-- **The context, the cache, AppendNode** — translated vs. model, for every state -/
theorem c01p_context_cache_append (W : World Context) (s : Context) (st : St) (rel : StRel s st) :
    (∃ s', Context_RegisterCall W s = .ok () s' ∧ StRel s' st.regCall) ∧
    (∀ e, ∃ s', Context_SetError W (eErr e) s = .ok () s' ∧ StRel s' (st.setError e)) ∧
    Context_Error W s = .ok (eErr st.ctxErr) s ∧
    (∀ (idx pos : Nat) (m : IntMap) (ctx : Ctx), CtxRel m ctx →
      match cacheGet st.cache idx pos ctx with
      | none => ResultCache_Get W s.resultCache idx pos m s = .ok (none, false) s
      | some e => ∃ r, ResultCache_Get W s.resultCache idx pos m s = .ok (some r, true) s ∧ ResultRel r e) ∧
    (∀ (r : Result) (e : CacheEntry), ResultRel r e →
      ∃ rc', ResultCache_Save W s.resultCache e.idx e.pos (some r) s = .ok rc' s ∧ CacheRel rc' (cacheSave st.cache e)) ∧
    (∀ a b : Res, AppendNode W (eRes a) (eRes b) s = .ok (eRes (appendNode a b)) s) ∧
    (∀ (nl : List Node) (b : Res), b.isNil = false →
      NodeList_Append W (nl.map eNode) (eRes b) s = .ok ((nlAppend nl b).map eNode) s) :=
  ⟨tie_RegisterCall W s st rel, tie_SetError W s st rel, tie_Error W s st rel,
   fun idx pos m ctx hm => tie_Get W s.resultCache st.cache rel.cache idx pos m ctx hm s,
   fun r e hr => tie_Save W s.resultCache st.cache rel.cache r e hr s,
   fun a b => tie_AppendNode W a b s, fun nl b hb => tie_NodeList_Append W nl b hb s⟩

/-- **The tie of the combinators.**  For every world, configuration without work budget and fuel:
    the translated closure of each combinator agrees with `run` at fuel+1 on the combinator's node, provided the world's
    `parse` agrees with `run` at that fuel on the operands. -/
theorem c01_translated_core (W : World Context) (cfg : Cfg) (h0 : cfg.maxCalls = 0) (fuel : Nat) :
    (∀ p g, Agrees W cfg fuel p g → AgreesF (Optional_parse W p) cfg (fuel + 1) (.optional g)) ∧
    (∀ p g, Agrees W cfg fuel p g → AgreesF (Single_parse W p) cfg (fuel + 1) (.single g)) ∧
    (∀ p g, Agrees W cfg fuel p g → AgreesF (SuppressError_parse W p) cfg (fuel + 1) (.suppress g)) ∧
    (∀ p g nm, Agrees W cfg fuel p g →
      AgreesF (ReturnError_parse W p (CorePrelude.NotFoundError nm)) cfg (fuel + 1) (.name g nm)) ∧
    AgreesF (Empty_parse W) cfg (fuel + 1) .empty ∧
    (WorldRel W cfg →
      AgreesF (End_parse W (CorePrelude.errors_New (CorePrelude.Go.str "was expecting the end of input"))) cfg (fuel + 1) .eof) ∧
    (∀ ps gs, AgreesAll W cfg fuel ps gs → AgreesF (Any_parse W ps) cfg (fuel + 1) (.any gs)) ∧
    (∀ ps gs, AgreesAll W cfg fuel ps gs → AgreesF (Choice_parse W ps) cfg (fuel + 1) (.choice gs)) ∧
    (WorldRel W cfg → ∀ p g (idx : Nat), Agrees W cfg fuel p g →
      AgreesF (Memoize_parse W p (idx : Int)) cfg (fuel + 1) (.memo idx g)) ∧
    (WorldRel W cfg → ∀ p g mode, Agrees W cfg fuel p g →
      AgreesF (LeftTrim_parse W p (modeCode mode)) cfg (fuel + 1) (.ltrim g mode)) ∧
    (WorldRel W cfg → ∀ p g mode, Agrees W cfg fuel p g →
      AgreesF (RightTrim_parse W p (modeCode mode)) cfg (fuel + 1) (.rtrim g mode)) :=
  ⟨fun p g => tie_Optional W cfg h0 fuel p g, fun p g => tie_Single W cfg h0 fuel p g,
   fun p g => tie_SuppressError W cfg h0 fuel p g, fun p g nm => tie_ReturnError W cfg h0 fuel p g nm,
   tie_Empty W cfg h0 fuel, fun hw => tie_End W cfg h0 hw fuel,
   fun ps gs => tie_Any W cfg h0 fuel ps gs, fun ps gs => tie_Choice W cfg h0 fuel ps gs,
   fun hw p g idx => tie_Memoize W cfg h0 hw fuel p g idx,
   fun hw p g mode => tie_LeftTrim W cfg h0 hw fuel p g mode, fun hw p g mode => tie_RightTrim W cfg h0 hw fuel p g mode⟩

/-- **parsley.Parse**, translated, is the model's `parse` (transformation and static check off): same node, the returned
    `error` is `fmt.Errorf("failed to parse the input: %w", fs.ErrorWithPosition(e))` for exactly the model's choice of `e`
    (the rendering of the message is not translated: the value is kept symbolic), related final states. -/
theorem c01p_parse (W : World Context) (cfg : Cfg) (hw : WorldRel W cfg) (fuel : Nat) (p : Parser) (g : G)
    (hp : Agrees W cfg fuel p g) (s : Context) (st : St) (hs : StRel s st) :
    match parse cfg fuel g st with
    | none => Parse W p s = .nofuel
    | some po => ∃ s', Parse W p s = .ok (eRes po.res, eParseErr po.err) s' ∧ StRel s' po.st :=
  tie_Parse W cfg hw fuel p g hp s st hs

/-- **The value-level data package is C15's specification**: the functions the translated core calls for
    `cp.Union`, `data.NewIntSet`, `leftRecCtx.Get / Inc / Filter` are the specification functions that Props/C15P.lean
    proves of the TRANSLATED slice/map-level functions, and on related contexts they compute the model's
    `cpUnion`, `Ctx.get`, `Ctx.inc`, `Ctx.filter`. -/
theorem c01p_data_value_level :
    (∀ a b, CorePrelude.Data.IntSet_Union a b = Data.sMerge a b) ∧
    (∀ vs, CorePrelude.Data.NewIntSet vs = Data.sOfList vs) ∧
    (∀ m k, CorePrelude.Data.IntMap_Get m k = (Data.mget m k).getD 0) ∧
    (∀ m k, CorePrelude.Data.IntMap_Inc m k = Data.mInc m k) ∧
    (∀ m keys, CorePrelude.Data.IntMap_Filter m keys = Data.mFilter m keys) ∧
    (∀ a b : List Nat, eSet (cpUnion a b) = CorePrelude.Data.IntSet_Union (eSet a) (eSet b)) ∧
    CtxRel CorePrelude.Data.EmptyIntMap [] ∧
    (∀ m c, CtxRel m c → ∀ k : Nat, CorePrelude.Data.IntMap_Get m k = (c.get k : Nat)) ∧
    (∀ m c, CtxRel m c → ∀ k : Nat, CtxRel (CorePrelude.Data.IntMap_Inc m k) (c.inc k)) ∧
    (∀ m c, CtxRel m c → ∀ cp : List Nat, CtxRel (CorePrelude.Data.IntMap_Filter m (eSet cp)) (c.filter cp)) :=
  ⟨union_spec, newIntSet_spec, get_spec, inc_spec, filter_spec, eSet_union, CtxRel.nil,
   fun _ _ r k => r.get k, fun _ _ r k => r.inc k, fun _ _ r cp => r.filter cp⟩

/-- **The Sequence machinery.**  `sequence.parse` / `sequence.parseNext` are mutually recursive in Go; the
    translation gives them a fuel argument.  For a translated struct `s0` whose static fields show the shape `sh`
    (`Static`: token, interpreter, look-up agreeing with `run cfg fuel` on every operand, length check, result handler =
    the model's `handleResult`), the translated `sequence.parse` with fuel 2·f − 1 simulates the model's `seqParse` with
    fuel f — same early-exit flag, related `SeqSt` (curtailing parsers, result list, furthest error) and context state,
    out of fuel exactly when the model is; the node buffer `s.nodes` agrees with the model's `nodes` on its first `depth`
    entries before and after (`SimB`).  The result handler `seqDefaultResultHandler` is tied to `handleResult`. -/
theorem c01p_sequence_machinery (W : World Context) (cfg : Cfg) (fuel : Nat) (sh : SeqShape) (s0 : sequence)
    (S : Static W cfg fuel sh s0) :
    (∀ f, PSim W cfg fuel sh s0 (2 * f - 1) f) ∧
    (∀ (pos : Nat) (nodes : List Node) (s : Context),
      seqDefaultResultHandler_parse W sh.single pos sh.token (nodes.map eNode) (eInterp sh.interp) s =
        .ok (eNode (handleResult sh pos nodes)) s) :=
  ⟨seq_parse_sim W cfg fuel sh s0 S, tie_handler W sh⟩

/-- **(*Sequence).Parse**: on a translated `Sequence` struct showing the shape of a parser `g` of the Sequence
    family (`SeqStatic`), the translated Parse with fuel 2·fuel − 1 agrees with `run cfg (fuel+1) g`; and the translated
    constructors and setters build such structs: SeqOf / SeqTry / SeqFirstOrAll over operands that agree pairwise, newMany
    (Many, Many1), newSepBy (SepBy, SepBy1), Name / Token / Bind / HandleResult(ReturnSingle()). -/
theorem c01p_sequence_family (W : World Context) (cfg : Cfg) (h0 : cfg.maxCalls = 0) (fuel : Nat) :
    (∀ g sh S, g.shape = some sh → SeqStatic W cfg fuel sh S →
      AgreesF (Sequence_Parse W (2 * fuel - 1) S) cfg (fuel + 1) g) ∧
    (∀ ps gs s, AgreesAll W cfg fuel ps gs → (∀ p ∈ ps, p.isNil = false) →
      (∃ S sh, SeqOf W ps s = .ok (some S) s ∧ (G.seq .seqOf gs {}).shape = some sh ∧ SeqStatic W cfg fuel sh S) ∧
      (∃ S sh, SeqTry W ps s = .ok (some S) s ∧ (G.seq .seqTry gs {}).shape = some sh ∧ SeqStatic W cfg fuel sh S) ∧
      (∃ S sh, SeqFirstOrAll W ps s = .ok (some S) s ∧ (G.seq .seqFirstOrAll gs {}).shape = some sh ∧
        SeqStatic W cfg fuel sh S)) ∧
    (∀ p g ae s, Agrees W cfg fuel p g → p.isNil = false →
      ∃ S sh, newMany W p ae s = .ok (some S) s ∧ (G.many g ae {}).shape = some sh ∧ SeqStatic W cfg fuel sh S) ∧
    (∀ pv psep gv gsep ae s, Agrees W cfg fuel pv gv → Agrees W cfg fuel psep gsep → pv.isNil = false → psep.isNil = false →
      ∃ S sh, newSepBy W pv psep ae s = .ok (some S) s ∧ (G.sepBy gv gsep ae {}).shape = some sh ∧
        SeqStatic W cfg fuel sh S) ∧
    (∀ sh S s, SeqStatic W cfg fuel sh S →
      (∀ nm, ∃ S', Sequence_Name W S nm s = .ok (S', some S') s ∧ SeqStatic W cfg fuel { sh with name := some nm } S') ∧
      (∀ t, ∃ S', Sequence_Token W S t s = .ok (S', some S') s ∧ SeqStatic W cfg fuel { sh with token := t } S') ∧
      (∀ i, ∃ S', Sequence_Bind W S (eInterp i) s = .ok (S', some S') s ∧ SeqStatic W cfg fuel { sh with interp := i } S') ∧
      (∃ S', Sequence_HandleResult W S (some (seqDefaultResultHandler_parse W true)) s = .ok (S', some S') s ∧
        SeqStatic W cfg fuel { sh with single := true } S')) :=
  ⟨fun g sh S hg hS => tie_Sequence_Parse W cfg h0 fuel g sh hg S hS,
   fun ps gs s hall hnn => tie_SeqOf W cfg fuel ps gs hall hnn s,
   fun p g ae s hp hnn => tie_newMany W cfg fuel p g ae hp hnn s,
   fun pv psep gv gsep ae s hv hs hnv hns => tie_newSepBy W cfg fuel pv psep gv gsep ae hv hs hnv hns s,
   fun sh S s h => tie_setters W cfg fuel sh S h s⟩

/-- **combinator.Sentence** = `SeqOf(p, parser.End()).Bind(interpreter.Select(0))` (its one-line body builds a parser VALUE
    from a function literal, which is outside the translated subset; the composition it denotes is tied): for a handle
    `pe` on which the world runs the translated `parser.End`, the translated SeqOf followed by the translated Bind yields a
    struct on which the translated Parse agrees with `run` on `G.sentence g`. -/
theorem c01p_sentence (W : World Context) (cfg : Cfg) (h0 : cfg.maxCalls = 0) (fuel : Nat) (p pe : Parser) (g : G)
    (hp : Agrees W cfg fuel p g) (he : Agrees W cfg fuel pe .eof) (hnp : p.isNil = false) (hne : pe.isNil = false)
    (s : Context) :
    ∃ S0 S, SeqOf W [p, pe] s = .ok (some S0) s ∧ Sequence_Bind W S0 (eInterp (.select 0)) s = .ok (S, some S) s ∧
      AgreesF (Sequence_Parse W (2 * fuel - 1) S) cfg (fuel + 1) g.sentence := by
  obtain ⟨⟨S0, sh, e1, hsh, hst⟩, -, -⟩ := tie_SeqOf W cfg fuel [p, pe] [g, .eof] (.cons hp (.cons he .nil))
    (by intro q hq; simp at hq; rcases hq with rfl | rfl <;> assumption) s
  obtain ⟨-, -, hb, -⟩ := tie_setters W cfg fuel sh S0 hst s
  obtain ⟨S, e2, hst2⟩ := hb (.select 0)
  refine ⟨S0, S, e1, e2, tie_Sequence_Parse W cfg h0 fuel g.sentence { sh with interp := .select 0 } ?_ S hst2⟩
  simp only [G.shape, Option.some.injEq] at hsh
  subst hsh
  rfl

def exMode (m : Int) : Text.WsMode :=
  if m = 0 then .none else if m = 1 then .spaces else if m = 3 then .forceNl else .spacesNl

/-- the reader of a configuration, and no parser -/
def exWorld0 (cfg : Cfg) : World Context :=
  { parse := fun _ _ _ => CorePrelude.Go.panic,
    Reader_Remaining := fun p => (Text.remaining cfg.file p.toNat : Nat),
    Reader_IsEOF := fun p => Text.isEOF cfg.file p.toNat,
    Reader_Pos := fun i => (cfg.file.pos i.toNat : Nat),
    Reader_SkipWhitespaces := fun p m =>
      (((Text.skipWhitespaces cfg.file p.toNat (exMode m)).1 : Nat), eErr (wsToErr (Text.skipWhitespaces cfg.file p.toNat (exMode m)).2)),
    Transform := fun _ n => (n, .nil),
    StaticCheck := fun _ _ => .nil }

/-- the same reader; the handle 0 runs the translated parser.Empty, the handle 1 the translated parser.End -/
def exWorld (cfg : Cfg) : World Context :=
  { exWorld0 cfg with
    parse := fun p m pos => match p with
      | .mk 0 => Empty_parse (exWorld0 cfg) m pos
      | .mk 1 => End_parse (exWorld0 cfg) (CorePrelude.errors_New (CorePrelude.Go.str "was expecting the end of input")) m pos
      | _ => CorePrelude.Go.panic }

/-- a fresh context, as parsley.NewContext makes it -/
def exState : Context :=
  { reader := (), resultCache := CorePrelude.Go.mkMap, err := .nil, callCount := 0, transformationEnabled := false,
    staticCheckEnabled := false, userCtx := [] }

theorem exState_rel : StRel exState {} :=
  ⟨rfl, rfl, ⟨rfl, fun idx m h => by simp [exState, CorePrelude.Go.mkMap, CorePrelude.Map.find] at h,
    fun idx pos => by simp [cacheFind, lookup, exState, CorePrelude.Go.mkMap, CorePrelude.Map.find]⟩, rfl, rfl⟩

theorem exWorld0_rel (cfg : Cfg) : WorldRel (exWorld0 cfg) cfg :=
  ⟨fun p => by simp [exWorld0], fun p => by simp [exWorld0], by simp [exWorld0],
   fun p m => by cases m <;> simp [exWorld0, exMode, modeCode]⟩

theorem exWorld_rel (cfg : Cfg) : WorldRel (exWorld cfg) cfg :=
  ⟨(exWorld0_rel cfg).remaining, (exWorld0_rel cfg).isEOF, (exWorld0_rel cfg).pos0, (exWorld0_rel cfg).skipWs⟩

/-- **non-vacuity**: in the world `exWorld cfg` (any configuration without work budget) the operand hypotheses of
    `c01_translated_core`, `c01p_parse`, `c01p_sentence` hold for the handles 0 (parser.Empty) and 1 (parser.End) at every
    positive fuel, the state relation holds of a fresh context — so the translated Any, Choice, Memoize, Optional, Trim, Parse
    and Sentence over them are tied to `run` unconditionally. -/
theorem c01p_nonvacuous (cfg : Cfg) (h0 : cfg.maxCalls = 0) (fuel : Nat) :
    WorldRel (exWorld cfg) cfg ∧ StRel exState {} ∧
    Agrees (exWorld cfg) cfg (fuel + 1) (.mk 0) .empty ∧ Agrees (exWorld cfg) cfg (fuel + 1) (.mk 1) .eof ∧
    AgreesF (Any_parse (exWorld cfg) [.mk 0, .mk 1]) cfg (fuel + 2) (.any [.empty, .eof]) ∧
    AgreesF (Choice_parse (exWorld cfg) [.mk 1, .mk 0]) cfg (fuel + 2) (.choice [.eof, .empty]) ∧
    AgreesF (Memoize_parse (exWorld cfg) (.mk 1) (7 : Nat)) cfg (fuel + 2) (.memo 7 .eof) ∧
    AgreesF (LeftTrim_parse (exWorld cfg) (.mk 1) (modeCode .spacesNl)) cfg (fuel + 2) (.ltrim .eof .spacesNl) ∧
    (∀ s, ∃ S0 S, SeqOf (exWorld cfg) [.mk 0, .mk 1] s = .ok (some S0) s ∧
      Sequence_Bind (exWorld cfg) S0 (eInterp (.select 0)) s = .ok (S, some S) s ∧
      AgreesF (Sequence_Parse (exWorld cfg) (2 * (fuel + 1) - 1) S) cfg (fuel + 2) (G.sentence .empty)) := by
  have a0 : Agrees (exWorld cfg) cfg (fuel + 1) (.mk 0) .empty := tie_Empty (exWorld0 cfg) cfg h0 fuel
  have a1 : Agrees (exWorld cfg) cfg (fuel + 1) (.mk 1) .eof := tie_End (exWorld0 cfg) cfg h0 (exWorld0_rel cfg) fuel
  exact ⟨exWorld_rel cfg, exState_rel, a0, a1,
    tie_Any _ cfg h0 _ _ _ (.cons a0 (.cons a1 .nil)), tie_Choice _ cfg h0 _ _ _ (.cons a1 (.cons a0 .nil)),
    tie_Memoize _ cfg h0 (exWorld_rel cfg) _ _ _ 7 a1, tie_LeftTrim _ cfg h0 (exWorld_rel cfg) _ _ _ .spacesNl a1,
    fun s => c01p_sentence _ cfg h0 _ _ _ _ a0 a1 rfl rfl s⟩

def exCfgEmpty : Cfg :=
  { env := [], file := { name := "f", data := [], offset := 1 }, fileSet := {},
    params := { floatOk := fun _ => true, durErr := fun _ => none, regexp := fun _ _ => none } }

/-- the translated functions RUN: `Optional(End)` on the file "a" at its start (no match: the EMPTY node together with
    End's error) and `Memoize(End)` on the empty file (the EOF node, stored in the cache with an empty context), evaluated
    by the kernel.  (`Data.IntSet_Union`, like the model's `cpUnion`, is defined by well-founded recursion, so the kernel
    cannot evaluate Any / Choice; they are covered by `c01p_nonvacuous`.) -/
theorem c01p_example :
    (match Optional_parse (exWorld { exCfgEmpty with file := { name := "f", data := [97], offset := 1 } }) (.mk 1) [] 1 exState with
      | .ok (.empty 1, [], .mk 1 (.other 0 _)) s' => s'.callCount
      | _ => -1) = 0 ∧
    (match Memoize_parse (exWorld exCfgEmpty) (.mk 1) 7 [] 1 exState with
      | .ok (.eof 1, [], .nil) s' => (match lookup s'.resultCache 7 1 with | some (some r) => r.LeftRecCtx | _ => [(0, 0)])
      | _ => [(1, 1)]) = [] := by
  decide

end PV
