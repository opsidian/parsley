/-
  C13 — Tree passes reach every node once, in the documented order.

  Model: ParsleyVerif/Model/Walk.lean (`walk`, `check`, `transform` over trees `T` with terminal / EMPTY leaves,
  non-terminals of any arity and `ast.NodeList`s; the behaviour of callbacks, checkers and transformers is a
  function parameter, so a failure can be injected at any node) and ParsleyVerif/Model/Eval.lean (`evalNode`).
  Specification: ParsleyVerif/Spec/Postorder.lean.
  Domain of every theorem: all trees, all callbacks / checkers / transformers / capability assignments.
-/
import ParsleyVerif.Proofs.Walk
namespace PV.Walk

/-- **Walk**: the callback is called on the nodes in post-order, up to and including the first node on which
    it returns true, and Walk returns whether there was such a node -/
theorem c13_walk (stop : Nat → Bool) (t : T) :
    walk stop t = (takeThrough stop (postorder t), (postorder t).any stop) :=
  walk_spec stop t

theorem c13_takeThrough {α} (p : α → Bool) (l : List α) :
    takeThrough p l = l.takeWhile (fun a => !p a) ++ (l.dropWhile (fun a => !p a)).head?.toList ∧
    takeThrough p l <+: l :=
  ⟨takeThrough_eq p l, takeThrough_prefix p l⟩

/-- `kids` of a list is its first item only. -/
theorem c13_postorder (t : T) (cs : List T) :
    postorder t = t.kids.flatMap postorder ++ [t.id] ∧ postorderAll cs = cs.flatMap postorder :=
  ⟨postorder_eq t, postorderAll_eq_flatMap cs⟩

theorem c13_walk_once (stop : Nat → Bool) (t : T) (h : ∀ i ∈ postorder t, stop i = false) :
    walk stop t = (postorder t, false) := by
  have : (postorder t).any stop = false := by
    rw [List.any_eq_false]; intro i hi; simp [h i hi]
  rw [c13_walk, this, takeThrough_of_none _ _ this]

/-- that sequence holds every node exactly once: it is a rearrangement of the pre-order enumeration `T.ids`
    (so every id occurs as often as there are nodes carrying it), its members are exactly the ids of the nodes
    of the tree, and if the ids are distinct every node's id occurs exactly once -/
theorem c13_walk_every_node (t : T) :
    (postorder t).Perm t.ids ∧
    (∀ i, (postorder t).count i = t.ids.count i) ∧
    (∀ i, i ∈ postorder t ↔ ∃ n, Sub n t ∧ n.id = i) ∧
    (t.ids.Nodup → (postorder t).Nodup ∧ ∀ n, Sub n t → (postorder t).count n.id = 1) := by
  have hp := postorder_perm t
  have hm : ∀ i, i ∈ postorder t ↔ ∃ n, Sub n t ∧ n.id = i := fun i =>
    ⟨sub_of_mem_postorder i t, fun ⟨n, hn, hi⟩ => hi ▸ mem_postorder_of_sub hn⟩
  refine ⟨hp, hp.count_eq, hm, fun hnd => ?_⟩
  have hnd' := hp.nodup_iff.mpr hnd
  refine ⟨hnd', fun n hn => ?_⟩
  rw [hnd'.count, if_pos (mem_postorder_of_sub hn)]

/-- **Walk stops immediately**: if Walk returns true then the trace ends with the first node satisfying the
    callback; no node after it (`post`) is visited -/
theorem c13_walk_stops (stop : Nat → Bool) (t : T) (h : (walk stop t).2 = true) :
    ∃ pre x post, postorder t = pre ++ x :: post ∧ (∀ y ∈ pre, stop y = false) ∧ stop x = true ∧
      (walk stop t).1 = pre ++ [x] := by
  rw [c13_walk] at h ⊢
  exact takeThrough_of_some stop (postorder t) h

/-- and if Walk returns false no visited node satisfied the callback and every node was visited -/
theorem c13_walk_completes (stop : Nat → Bool) (t : T) (h : (walk stop t).2 = false) :
    (walk stop t).1 = postorder t ∧ ∀ y ∈ postorder t, stop y = false := by
  rw [c13_walk] at h ⊢
  refine ⟨takeThrough_of_none _ _ h, ?_⟩
  intro y hy
  have := List.any_eq_false.mp h y hy
  simpa using this

/-- **StaticCheck is bottom-up**: the result (annotated tree on success, else the error) is that of
    `checkSpec`, in which a node's checker is called after the whole subtree below the node has been checked and
    is given the node *carrying the checked children*; what it returns is stored as the node's schema -/
theorem c13_check_order (caps : Nat → ICap) (chk : Checker) (t : T) :
    checkSpec caps chk t =
      match check caps chk t with
      | (t', none) => .ok t'
      | (_, some e) => .error e := by
  rw [(checkSpec_eq caps chk).1]
  rcases check caps chk t with ⟨_, _ | _⟩ <;> rfl

theorem c13_checkSpecAll (caps : Nat → ICap) (chk : Checker) (cs : List T) :
    checkSpecAll caps chk cs = cs.mapM (checkSpec caps chk) := by
  induction cs with
  | nil => simp [checkSpecAll]
  | cons c cs ih => simp [checkSpecAll, ih]

/-- **first error, by position**: with `verdicts t` the outcomes of the nodes' checks in post-order, StaticCheck
    returns the first error among them, and the tree it leaves behind is the one in which exactly the nodes
    before that position have been checked: the failing node and every node after it keep their old schema.
    (Without an error the position is the number of nodes: everything has been checked.) -/
theorem c13_check_first_error (caps : Nat → ICap) (chk : Checker) (t : T) :
    check caps chk t =
      (checkedPrefix caps chk ((verdicts caps chk t).findIdx Option.isSome) t,
       (verdicts caps chk t).findSome? id) :=
  (check_pos caps chk).1 t

/-- the same, spelled out for a failing check: `n` is a position in the post-order sequence, the check at
    position `n` gave the returned error, every check before it succeeded, and only they were recorded -/
theorem c13_check_first_error_pos (caps : Nat → ICap) (chk : Checker) (t : T) (e : Nat)
    (h : (check caps chk t).2 = some e) :
    ∃ n, n < (postorder t).length ∧ (verdicts caps chk t)[n]? = some (some e) ∧
      (∀ j, j < n → (verdicts caps chk t)[j]? = some none) ∧
      (check caps chk t).1 = checkedPrefix caps chk n t := by
  rw [(check_pos caps chk).1] at h ⊢
  simp only at h
  have h1 := firstBad_of_some _ e h
  rw [(verdicts_length caps chk).1] at h1
  obtain ⟨h2, h3⟩ := first_spec _ e h
  exact ⟨_, h1, h2, h3, rfl⟩

/-- How to read `checkedPrefix n`: `verdicts` is aligned with `postorder`, and `n` saturates at the number of nodes. -/
theorem c13_checkedPrefix (caps : Nat → ICap) (chk : Checker) (t : T) :
    (verdicts caps chk t).length = (postorder t).length ∧
    checkedPrefix caps chk 0 t = t ∧
    (∀ n, (postorder t).length ≤ n → checkedPrefix caps chk n t = checkedPrefix caps chk (postorder t).length t) :=
  ⟨(verdicts_length caps chk).1 t, (checkedPrefix_zero caps chk).1 t, (checkedPrefix_sat caps chk).1 t⟩

/-- **schemas are recorded**: after a successful StaticCheck every non-terminal whose interpreter is a
    StaticChecker carries the schema the checker returned for that node with its final children, and every
    other node (and everything besides schemas, and the items of a list after the first) is unchanged -/
theorem c13_check_records (caps : Nat → ICap) (chk : Checker) (t : T) (h : (check caps chk t).2 = none) :
    Recorded caps chk t (check caps chk t).1 := by
  apply (recorded_of_checkSpec caps chk).1
  rw [(checkSpec_eq caps chk).1]
  rcases hc : check caps chk t with ⟨t', _ | e⟩
  · rfl
  · rw [hc] at h; cases h

theorem c13_recordedAll (caps : Nat → ICap) (chk : Checker) (cs cs' : List T) :
    RecordedAll caps chk cs cs' ↔ cs.length = cs'.length ∧ ∀ p ∈ cs.zip cs', Recorded caps chk p.1 p.2 := by
  induction cs generalizing cs' with
  | nil => cases cs' <;> simp [RecordedAll]
  | cons c cs ih =>
    cases cs' with
    | nil => simp [RecordedAll]
    | cons c' cs' =>
      simp only [RecordedAll, List.cons.injEq, ih, List.length_cons, List.zip_cons_cons, List.mem_cons]
      constructor
      · rintro ⟨_, _, ⟨rfl, rfl⟩, h1, h2, h3⟩
        refine ⟨by omega, ?_⟩
        rintro p (rfl | hp)
        · exact h1
        · exact h3 p hp
      · rintro ⟨h1, h2⟩
        exact ⟨c', cs', ⟨rfl, rfl⟩, h2 _ (.inl rfl), by omega, fun p hp => h2 p (.inr hp)⟩

/-- **Transform** is `transformSpec`; spelled out in `c13_transform_cases`. -/
theorem c13_transform (caps : Nat → ICap) (tr : Transformer) (t : T) :
    transform caps tr t = transformSpec caps tr t :=
  (transform_spec caps tr).1 t

/-- Without the specification function: a transformer-capable interpreter gets that very node
    (children untouched) and its answer is the result; otherwise the children are transformed from left to
    right (`mapM`: the first error aborts) and put back; leaves and lists are returned as they are -/
theorem c13_transform_cases (caps : Nat → ICap) (tr : Transformer) :
    (∀ i interp schema cs, transform caps tr (.nt i interp schema cs) =
      match capable (·.transformer) caps interp with
      | some k => tr k (.nt i interp schema cs)
      | none => (.nt i interp schema ·) <$> cs.mapM (transform caps tr)) ∧
    (∀ i, transform caps tr (.leaf i) = .ok (.leaf i)) ∧
    (∀ i items, transform caps tr (.list i items) = .ok (.list i items)) := by
  refine ⟨fun i interp schema cs => ?_, fun i => by simp [transform], fun i items => by simp [transform]⟩
  have : transform caps tr = transformSpec caps tr := funext (transform_spec caps tr).1
  rw [this, transformSpec, transformSpecAll_eq_mapM]
  rfl

theorem c13_capable (has : ICap → Bool) (caps : Nat → ICap) (interp : Option Nat) (k : Nat) :
    capable has caps interp = some k ↔ interp = some k ∧ has (caps k) = true := Option.filter_eq_some_iff

/-! ### non-vacuity: a tree with leaves, a list (only its first item is visited), non-terminals with and
    without interpreter / capabilities, an empty non-terminal; failures injected at different nodes -/

def nvTree : T :=
  .nt 10 (some 1) none [.leaf 1, .nt 5 (some 2) (some 77) [.leaf 2, .leaf 3], .list 7 [.nt 6 none none [.leaf 4], .leaf 99], .nt 8 (some 3) none []]

example : postorder nvTree = [1, 2, 3, 5, 4, 6, 7, 8, 10] := by decide
example : nvTree.ids = [10, 1, 5, 2, 3, 7, 6, 4, 8] := by decide
example : walk (fun i => i == 6) nvTree = ([1, 2, 3, 5, 4, 6], true) := by decide
example : walk (fun _ => false) nvTree = ([1, 2, 3, 5, 4, 6, 7, 8, 10], false) := by decide

/-- interpreters 1 and 2 are checkers, 2 and 3 are transformers -/
def nvCaps : Nat → ICap := fun k => ⟨k == 1 || k == 2, k == 2 || k == 3⟩
/-- the checker answers with 100·(its id) + the number of children that already carry a schema; `bad` fails -/
def nvChk (bad : Nat) : Checker := fun k n =>
  if n.id = bad then .error (1000 + n.id) else .ok (some (100 * k + (n.kids.filter (fun c => c.schema.isSome)).length))

example : check nvCaps (nvChk 0) nvTree =
    (.nt 10 (some 1) (some 101) [.leaf 1, .nt 5 (some 2) (some 200) [.leaf 2, .leaf 3], .list 7 [.nt 6 none none [.leaf 4], .leaf 99], .nt 8 (some 3) none []], none) := by
  rfl
example : check nvCaps (nvChk 5) nvTree = (nvTree, some 1005) := by rfl
example : check nvCaps (nvChk 10) nvTree =
    (.nt 10 (some 1) none [.leaf 1, .nt 5 (some 2) (some 200) [.leaf 2, .leaf 3], .list 7 [.nt 6 none none [.leaf 4], .leaf 99], .nt 8 (some 3) none []], some 1010) := by
  rfl
example : verdicts nvCaps (nvChk 10) nvTree = [none, none, none, none, none, none, none, none, some 1010] := by decide

def nvTr (bad : Nat) : Transformer := fun k n => if n.id = bad then .error (2000 + n.id) else .ok (.leaf (k * 1000 + n.id))
example : transform nvCaps (nvTr 0) nvTree =
    .ok (.nt 10 (some 1) none [.leaf 1, .leaf 2005, .list 7 [.nt 6 none none [.leaf 4], .leaf 99], .leaf 3008]) := by rfl
example : transform nvCaps (nvTr 8) nvTree = .error 2008 := by rfl
end PV.Walk

namespace PV
open PV.Text

/-- **the interpreter gets exactly that node**: its children and position, and an evaluator for the nodes below -/
theorem c13_eval_custom (ce : CustomEval) (fuel : Nat) (tok : Bytes) (cs : List Node) (pos rpos id : Nat) :
    evalNode ce (fuel + 1) (.nt tok cs pos rpos (.custom id)) = ce id cs pos (evalNode ce fuel) := by
  simp [evalNode]

/-- Select(i): the value of child `i` (the documented panic if there is none) -/
theorem c13_eval_select (ce : CustomEval) (fuel : Nat) (tok : Bytes) (cs : List Node) (pos rpos i : Nat) :
    evalNode ce (fuel + 1) (.nt tok cs pos rpos (.select i)) =
      match cs[i]? with
      | some c => evalNode ce fuel c
      | none => .panic "node index is out of bounds" := by
  simp only [evalNode]
  cases cs[i]? <;> rfl

/-- Array: the children at indices 0, 2, 4, … are evaluated from left to right, the first failure aborts -/
theorem c13_eval_array (ce : CustomEval) (fuel : Nat) (tok : Bytes) (cs : List Node) (pos rpos : Nat) :
    evalNode ce (fuel + 1) (.nt tok cs pos rpos .array) =
      match evalSeq (evalNode ce fuel) (everySecond cs) with
      | .ok vs => .ok (.arr vs)
      | .error e => e := by
  simp only [evalNode, evalArray_spec]
  cases evalSeq (evalNode ce fuel) (everySecond cs) <;> simp [EvalOut.ofExcept]

/-- Object: from the children at indices 0, 2, 4, … (each a non-terminal) child 0 is the key and child 2 the
    value, evaluated in this order from left to right, the first failure aborts; the result is the map to
    which the pairs have been assigned in this order -/
theorem c13_eval_object (ce : CustomEval) (fuel : Nat) (tok : Bytes) (cs : List Node) (pos rpos : Nat) :
    evalNode ce (fuel + 1) (.nt tok cs pos rpos .object) =
      match kvSeq (evalNode ce fuel) (everySecond cs) with
      | .ok kvs => .ok (.obj (mapOfPairs kvs))
      | .error e => e := by
  simp only [evalNode, evalObject_spec]
  cases kvSeq (evalNode ce fuel) (everySecond cs) <;> simp [EvalOut.ofExcept, mapOfPairs]

theorem c13_eval_other (ce : CustomEval) (fuel : Nat) (tok : Bytes) (cs : List Node) (v : Val) (pos rpos : Nat) :
    evalNode ce (fuel + 1) (.term tok v pos rpos) = .ok v.toV ∧
    evalNode ce (fuel + 1) (.empty pos) = .err pos noValueMsg ∧
    evalNode ce (fuel + 1) (.eof pos) = .ok .nil ∧
    evalNode ce (fuel + 1) (.nt tok cs pos rpos .nilI) = .ok .nil ∧
    evalNode ce (fuel + 1) (.nt tok cs pos rpos .none) = .panic "missing interpreter for node" := by
  simp [evalNode]

theorem c13_everySecond {α} (l : List α) :
    (everySecond l).length = (l.length + 1) / 2 ∧ ∀ j, (everySecond l)[j]? = l[2 * j]? :=
  ⟨everySecond_length l, everySecond_getElem? l⟩

/-- later duplicate keys overwrite: the map answers for `k` with the value of the *last* pair whose key is
    `k` (and with nothing if there is none); and it holds every key once -/
theorem c13_object_map (kvs : List (Bytes × V)) (k : Bytes) :
    mapGet (mapOfPairs kvs) k = (kvs.reverse.find? (fun kv => kv.1 = k)).map (·.2) ∧
    ((mapOfPairs kvs).map (·.1)).Nodup := by
  refine ⟨?_, foldl_objSet_nodup kvs [] (by simp)⟩
  rw [mapOfPairs, mapGet_foldl]
  cases kvs.reverse.find? (fun kv => decide (kv.1 = k)) <;> simp [mapGet]

/-- fuel is only a recursion bound: any fuel above the nesting depth gives the same value (for custom
    interpreters that use the evaluator they are given only on nodes below their node) -/
theorem c13_eval_fuel (ce : CustomEval) (hce : CustomLocal ce) (fuel fuel' : Nat) (t : Node)
    (h : t.depth < fuel) (h' : t.depth < fuel') : evalNode ce fuel t = evalNode ce fuel' t := by
  induction fuel generalizing fuel' t with
  | zero => omega
  | succ a ih =>
    cases fuel' with
    | zero => omega
    | succ b =>
      cases t with
      | term _ _ _ _ => rfl
      | empty _ => rfl
      | eof _ => rfl
      | nt tok cs pos rpos interp =>
        simp only [Node.depth] at h h'
        have agree : ∀ c, c.depth ≤ depthAll cs → evalNode ce a c = evalNode ce b c :=
          fun c hc => ih b c (by omega) (by omega)
        cases interp with
        | none => rfl
        | nilI => rfl
        | select i =>
          simp only [evalNode]
          cases hi : cs[i]? with
          | none => rfl
          | some c => exact agree c (depth_le_depthAll (List.mem_of_getElem? hi))
        | array =>
          simp only [evalNode]
          exact evalArray_congr _ _ cs [] (fun c hc => agree c (depth_le_depthAll hc))
        | object =>
          simp only [evalNode]
          exact evalObject_congr _ _ (depthAll cs) (fun c hc => agree c (by omega)) cs [] (Nat.le_refl _)
        | custom id =>
          simp only [evalNode]
          exact hce id cs pos _ _ agree

theorem c13_depth (tok : Bytes) (cs : List Node) (pos rpos : Nat) (i : Interp) (c : Node) (h : c ∈ cs) :
    c.depth < (Node.nt tok cs pos rpos i).depth := by
  have := depth_le_depthAll h
  simp only [Node.depth]; omega

/-- at the root: a single node is evaluated; an `ast.NodeList` has no value (ErrNoValue at its first node) -/
theorem c13_eval_root (ce : CustomEval) (fuel : Nat) (n : Node) (l : List Node) :
    evalRes ce fuel (.one n) = evalNode ce fuel n ∧ evalRes ce fuel (.list (n :: l)) = .err n.pos noValueMsg :=
  ⟨rfl, rfl⟩

/-! ### non-vacuity -/

def nvInt (i : Int) (p : Nat) : Node := .term [] (.int i) p (p + 1)
def nvStr (s : Bytes) (p : Nat) : Node := .term [] (.str s) p (p + 1)
def nvSep (p : Nat) : Node := .term [44] (.rune 44) p (p + 1)
def nvKV (k : Bytes) (v : Int) (p : Nat) : Node := .nt [] [nvStr k p, nvSep (p + 1), nvInt v (p + 2)] p (p + 3) .none
/-- custom interpreter 7: number of children; custom interpreter 8: the value of the last child -/
def nvCe : CustomEval := fun id cs pos ev =>
  if id = 7 then .ok (.int cs.length) else match cs.getLast? with | some c => ev c | none => .err pos []

def nvArr : Node := .nt [] [nvInt 1 0, nvSep 1, nvInt 2 2, nvSep 3, .nt [] [nvInt 5 4, nvInt 6 5] 4 6 (.custom 8)] 0 6 .array
example : evalNode nvCe 3 nvArr = .ok (.arr [.int 1, .int 2, .int 6]) := by rfl
example : evalNode nvCe 3 (.nt [] [nvInt 1 0, .empty 1, .empty 2, nvSep 3, nvInt 4 4] 0 5 .array) = .err 2 noValueMsg := by rfl
example : evalNode nvCe 3 (.nt [] [nvKV [97] 1 0, nvSep 3, nvKV [98] 2 4, nvSep 7, nvKV [97] 3 8] 0 11 .object)
    = .ok (.obj [([97], .int 3), ([98], .int 2)]) := by
  rfl
example : evalNode nvCe 2 (.nt [] [nvInt 1 0, nvInt 2 1] 0 2 (.select 1)) = .ok (.int 2) := by rfl
example : evalNode nvCe 2 (.nt [] [nvInt 1 0, nvInt 2 1] 0 2 (.custom 7)) = .ok (.int 2) := by rfl
example : nvArr.depth = 2 := by decide
example : CustomLocal nvCe := by
  intro id cs pos ev ev' h
  unfold nvCe
  split
  · rfl
  · cases hl : cs.getLast? with
    | none => rfl
    | some c => exact h c (depth_le_depthAll (List.mem_of_getLast? hl))
example : everySecond [0, 1, 2, 3, 4] = [0, 2, 4] := by decide
end PV
