/-
  C04 — Parse yields a node or an error, never neither; Sentence means whole input.

  Model: `parse` (parsley.Parse: the error preference rule, the synthesised error of fix D3),
  `evaluate` / `evalNode` (parsley.Evaluate, EvaluateNode, the interpreters with their panics as explicit
  outcomes), `G.sentence` (combinator.Sentence = SeqOf(p, End) with Select(0)).

  * `parse_answer`       `parse` in terms of the run it wraps (Proofs/RunBasics.lean);
  * `c04_xor`            for EVERY grammar, input, fuel and initial state: exactly one of node / error;
  * `c04_sentence_sound` a Sentence-rooted success starts at the first byte, ends at end of input, and its
                         first child is a derivation of the wrapped parser consuming the whole input;
  * `c04_sentence_only_if` hence: Sentence succeeds ONLY IF some derivation consumes the entire input;
  * `c04_eval`           Evaluate never panics on a tree whose non-terminals all carry an applicable
                         interpreter (Select within range, Object over key/value nodes with string keys,
                         Array, Nil, custom interpreters that do not panic themselves);
  * `c04_eval_needs_interpreter` without an interpreter it does (the documented panic) — the hypothesis
                         is not idle.

  The IF direction of the Sentence iff: Props/C01C.lean for the monotone fragment
  (`c01_sentence_complete_parse`: whenever Parse answers and a derivation consumes the whole input, it
  succeeds; with `c02_terminates_parse` it does answer — composed in Props/C04I.lean), Props/C04S.lean (stratified
  grammars; Memoize-free grammars), Props/C04W.lean (the whitespace trims).  It is false for Name / Single over
  Optional (known finding D9); outside the proved fragments the harness's derivation oracle decides it on every run
  (bounded exploration).
-/
import ParsleyVerif.Proofs.EvalPanics
import ParsleyVerif.Generated.Facts
namespace PV
open PV.Text

/-- **C04 (node xor error)** — all grammars, all inputs, any initial state -/
theorem c04_xor (cfg : Cfg) (fuel : Nat) (g : G) (st : St) (p : ParseOut) (h : parse cfg fuel g st = some p) :
    (p.res.isNil = false ∧ p.err = none ∧ p.msg = none) ∨ (p.res.isNil = true ∧ p.err.isSome ∧ p.msg.isSome) := by
  obtain ⟨o, st1, _, ⟨h1, _, h3, h4, h5⟩ | ⟨_, h2, h3, h4⟩⟩ := parse_answer cfg fuel g st p h
  · exact .inl ⟨by rw [h3]; exact h1, h4, h5⟩
  · exact .inr ⟨by rw [h2]; rfl, h3, h4⟩

namespace S04

theorem parse_cases (cfg : Cfg) (fuel : Nat) (g : G) (p : ParseOut) (h : parse cfg fuel g = some p) :
    ∃ o st1, run cfg fuel g [] (cfg.file.pos 0) {} = some (o, st1) ∧
      (p.err = none ↔ (o.res.isNil = false ∧ o.err = none)) ∧ (p.err = none → p.res = o.res) := by
  obtain ⟨o, st1, hr, ⟨h1, h2, h3, h4, _⟩ | ⟨h1, _, h3, _⟩⟩ := parse_answer cfg fuel g {} p h
  · exact ⟨o, st1, hr, ⟨fun _ => ⟨h1, h2⟩, fun _ => h4⟩, fun _ => h3⟩
  · exact ⟨o, st1, hr, ⟨fun hc => (by rw [hc] at h3; cases h3), fun hc => absurd hc h1⟩, fun hc => (by rw [hc] at h3; cases h3)⟩

theorem isEOF_eq_hi {cfg : Cfg} {p : Nat} (he : isEOF cfg.file p = true) (hlo : cfg.file.pos 0 ≤ p) (hhi : p ≤ cfg.hi) :
    p = cfg.hi := by
  have h2 : p - cfg.file.offset ≥ cfg.file.len := by simpa [isEOF] using he
  have h3 : cfg.file.offset ≤ p := by simpa [File.pos] using hlo
  unfold Cfg.hi at hhi ⊢
  omega

end S04

/-- **C04 (Sentence, soundness)**: the returned tree starts at the first byte, ends at the end of the
    input, and wraps a derivation of `g` that consumes the whole input -/
theorem c04_sentence_sound (cfg : Cfg) (bodyOf : Nat → G) (g : G) (hs : Scope cfg (G.sentence g))
    (henv : ∀ g' ∈ cfg.env, GOK bodyOf g') (hg : GOK bodyOf (G.sentence g))
    (fuel : Nat) (p : ParseOut) (h : parse cfg fuel (G.sentence g) = some p) :
    ∀ x ∈ p.res.alts, x.pos = cfg.file.pos 0 ∧ x.rpos = cfg.hi ∧
      ∃ y, Derives cfg g (cfg.file.pos 0) y ∧ y.rpos = cfg.hi ∧
        x = .nt seqTok [y, .eof cfg.hi] (cfg.file.pos 0) cfg.hi (.select 0) := by
  obtain ⟨o, st1, hr, ⟨_, _, h3, _, _⟩ | ⟨_, h3, _⟩⟩ := parse_answer cfg fuel _ {} p h <;> rw [h3]
  · have hsnd := (run_sound cfg bodyOf henv fuel _ [] _ {} o st1 hg (by intro e he; cases he) hr).1
    have hpos := (run_pos cfg hs.env fuel _ [] _ {} o st1 hs.root (.initial cfg) hr).nodes
    intro x hx
    obtain ⟨y, hy, heof, hxe⟩ := derives_sentence_inv cfg g _ x (hsnd x hx)
    obtain ⟨hxp, hxw⟩ := hpos x hx
    have hb := Node.WF_bounds cfg.hi x hxw
    have hyr : y.rpos = cfg.hi :=
      S04.isEOF_eq_hi heof (by rw [show y.rpos = x.rpos by rw [hxe]; rfl]; omega)
        (by rw [show y.rpos = x.rpos by rw [hxe]; rfl]; exact hb.2)
    have hyp : y.pos = cfg.file.pos 0 := by
      have h1 : x.pos = y.pos := by rw [hxe]; rfl
      rw [← h1]; exact hxp
    refine ⟨hxp, ?_, y, hy, hyr, ?_⟩
    · rw [hxe]; exact hyr
    · rw [hxe, hyr, hyp]
  · intro x hx; cases hx

/-- **C04 (Sentence succeeds only if some derivation consumes the entire input)** -/
theorem c04_sentence_only_if (cfg : Cfg) (bodyOf : Nat → G) (g : G) (hs : Scope cfg (G.sentence g))
    (henv : ∀ g' ∈ cfg.env, GOK bodyOf g') (hg : GOK bodyOf (G.sentence g))
    (fuel : Nat) (p : ParseOut) (h : parse cfg fuel (G.sentence g) = some p) (hok : p.err = none) :
    ∃ y, Derives cfg g (cfg.file.pos 0) y ∧ y.rpos = cfg.hi := by
  obtain ⟨o, st1, hr, hiff, hres⟩ := S04.parse_cases cfg fuel _ p h
  have hne := S04.sentence_alts_ne cfg g fuel _ {} o st1 hr (hiff.mp hok).1
  rw [← hres hok] at hne
  obtain ⟨x, hx⟩ := List.exists_mem_of_ne_nil _ hne
  obtain ⟨_, _, y, hy, hyr, _⟩ := c04_sentence_sound cfg bodyOf g hs henv hg fuel p h x hx
  exact ⟨y, hy, hyr⟩

/-- **C04 (Evaluate never panics given applicable interpreters)**: the only `.panic` the model's evaluator
    can answer is its own "out of fuel" -/
theorem c04_eval (ce : CustomEval)
    (hce : ∀ id cs pos ev, (∀ c ∈ cs, NoRealPanic (ev c)) → NoRealPanic (ce id cs pos ev))
    (fuel : Nat) (x : Node) (hx : x.EvalSafe) : ∀ s, evalNode ce fuel x = .panic s → s = "out of fuel" :=
  evalNode_noPanic ce hce fuel x hx

/-- the root handed over by Evaluate: a single node is evaluated, a list of alternatives has no value (an
    error, not a panic) -/
theorem c04_eval_root (ce : CustomEval)
    (hce : ∀ id cs pos ev, (∀ c ∈ cs, NoRealPanic (ev c)) → NoRealPanic (ce id cs pos ev))
    (fuel : Nat) (r : Res) (hr : ∀ x ∈ r.alts, x.EvalSafe) (hne : r.alts ≠ []) :
    ∀ s, evalRes ce fuel r = .panic s → s = "out of fuel" := by
  intro s h
  cases r with
  | nil => simp [Res.alts] at hne
  | one n => exact evalNode_noPanic ce hce fuel n (hr n (by simp [Res.alts])) s h
  | list l =>
    cases l with
    | nil => simp [Res.alts] at hne
    | cons n l' => simp [evalRes] at h

/-- the hypothesis is not idle: a non-terminal without interpreter panics (the documented panic) -/
theorem c04_eval_needs_interpreter (ce : CustomEval) :
    evalNode ce 5 (.nt seqTok [] 1 1 .none) = .panic "missing interpreter for node" := rfl

/-- non-vacuity: an EvalSafe tree (Array over a Select and an Object with a string key) -/
example : (Node.nt seqTok [.nt seqTok [.term [97] (.int 1) 1 2] 1 2 (.select 0), .term [44] (.rune 44) 2 3,
    .nt seqTok [.nt seqTok [.term [34] (.str [107]) 3 4, .term [58] (.rune 58) 4 5, .term [49] (.int 2) 5 6] 3 6 .nilI] 3 6 .object]
    1 6 .array).EvalSafe := by
  simp [Node.EvalSafe, EvalSafeList, ObjShape, KvShape]

/- The tie of `parse`, Memoize, ResultCache, Any, Choice, the Sequence machinery, ReturnError and SetError to the
   source: the functions are translated from the source on every run and the model is PROVED to agree with the
   translation (Props/C01P.lean, built and audited by this property's check). -/

end PV
