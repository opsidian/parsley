/-
  C03 — Memoize is transparent, deterministic and evaluates at most once per position.

  Model: ParsleyVerif/Model/Run.lean (`run`, case `.memo idx body`: ResultCache.Get, the curtailment test,
  the body under `leftRecCtx.Inc`, ResultCache.Save with `leftRecCtx.Filter(cp)`).  Ghost log `St.log`:
  `Ev.body idx pos depth` each time a memoized body starts (depth = activations of that parser at that
  position on the stack, this one included), `Ev.hit`, `Ev.curtail`.  `G.strip` (Spec/Strip.lean) removes
  Memoize wrappers; `stripAll` removes all of them.

  Hypotheses, decided per run by the harness on the model's log and on the probes of the real code:
    `NoCurtail log`  — no curtail event;      `NoReentry log` — every body event has depth 1.
  Both hold for left-recursion-free grammars (a memoized body that is not left-recursive is never entered
  while it is running at the same position, so its counter is 0 on entry and nothing is curtailed): Props/C03L.lean
  derives the two from the decidable certificate `lrf` (`c03_lrf_no_reentry`).

  PROVED, for every grammar over the whole combinator set (whitespace trims included), every input, every
  fuel for which `run` answers, every call budget:

  * `c03_deterministic`, `c03_deterministic_run` — `parse` / `run` are functions and their answer does not
      depend on the fuel: two parses from a fresh context agree on results, error, message, call count,
      cache and ghost log;
  * `c03_index_renaming`, `c03_index_renaming_parse` — renaming the Memoize indexes by an order-preserving
      map (a grammar built again) gives the same results, errors, error text and call count, for every
      grammar (no hypothesis on left recursion);
  * `c03_hit_is_free` — a cache hit returns the stored results, curtailing set and error verbatim,
      registers no call and leaves cache, furthest error and activation stack alone;
  * `c03_once` — under `NoCurtail` and `NoReentry`, from a fresh context every memoized body is started at
      most once per position; `c03_completed_is_cached` — and afterwards every lookup of it hits, whatever
      the left-recursion context; `c03_no_curtail` — under `NoCurtail` alone every returned curtailing set
      and every stored context is empty;
  * `c03_state_independent` — a Memoize-free grammar never reads the left-recursion context, the cache or
      the call count: from any two states it returns the same results and error and moves the furthest
      error position by the same amount;
  * `c03_memo_placement_irrelevant` — two grammars that differ only in where Memoize is placed agree;
  * `c03_transparent`, `c03_transparent_from`, `c03_transparent_parse` — for every grammar in which each
      Memoize index wraps one parser (`MemoWF`), the run with the wrappers and the run without them (each
      with any fuel that answers) return the same results and the same error, leave the furthest recorded
      error at the same position, and the memoized run registers no more calls.  Only `NoCurtail` is
      needed (not `NoReentry`).

  FALSE, with a witness (`c03_parse_message_not_transparent`): the TEXT of the error `parsley.Parse`
  returns is not preserved.  When the parser returns no error of its own, Parse reports the context's
  furthest error; `SetError` replaces the recorded error by a later one at the SAME position (`>=`), and a
  cache hit skips the `SetError` calls of the sub-parse, so the memoized and the un-memoized grammar can end
  with different errors at the same position ("was expecting \"x\"" vs "was expecting \"b\"").  This is
  why the property speaks of the POSITION of the furthest error only.
-/
import ParsleyVerif.Proofs.MemoOnce
import ParsleyVerif.Proofs.MemoSim
import ParsleyVerif.Proofs.MemoRename
import ParsleyVerif.Proofs.RunMono
import ParsleyVerif.Generated.Facts
namespace PV
open PV.Text

/-- the answer of `run` does not depend on the fuel, once there is one -/
theorem c03_deterministic_run (cfg : Cfg) (f1 f2 : Nat) (g : G) (ctx : Ctx) (pos : Nat) (st : St) (x1 x2 : Out × St)
    (h1 : run cfg f1 g ctx pos st = some x1) (h2 : run cfg f2 g ctx pos st = some x2) : x1 = x2 := by
  have e1 := run_mono cfg f1 (max f1 f2) (Nat.le_max_left ..) g ctx pos st x1 h1
  have e2 := run_mono cfg f2 (max f1 f2) (Nat.le_max_right ..) g ctx pos st x2 h2
  rw [e1] at e2
  exact Option.some.inj e2

/-- **C03 determinism**: repeating a parse with a fresh context reproduces the results, the error, its
    text, the call count, the cache and the ghost log (all fields of `ParseOut`), whatever fuel each
    repetition was given -/
theorem c03_deterministic (cfg : Cfg) (f1 f2 : Nat) (g : G) (p1 p2 : ParseOut)
    (h1 : parse cfg f1 g = some p1) (h2 : parse cfg f2 g = some p2) : p1 = p2 :=
  parse_det cfg f1 f2 g {} p1 p2 h1 h2

def renCfg (ρ : Nat → Nat) (cfg : Cfg) : Cfg := { cfg with env := cfg.env.map (G.ren ρ) }

/-- **C03 index renaming**: a grammar built again draws other parser indexes (order preserved); `run` on
    the renamed grammar is `run` on the original one with the indexes renamed — the results, the returned
    error, the furthest error and the call count are the same values (`renOS` only touches `Out.cp`, the
    cache keys, the activation stack and the ghost log).  For EVERY grammar, left-recursive ones included. -/
theorem c03_index_renaming (ρ : Nat → Nat) (hρ : Mono ρ) (cfg : Cfg) (fuel : Nat) (g : G) (ctx : Ctx) (pos : Nat) (st : St) :
    run (renCfg ρ cfg) fuel (g.ren ρ) (Ctx.ren ρ ctx) pos (st.ren ρ) = (run cfg fuel g ctx pos st).map (renOS ρ) :=
  run_ren hρ cfg (renCfg ρ cfg) ⟨rfl, rfl, rfl, rfl, rfl⟩ fuel g ctx pos st

theorem c03_index_renaming_observables (ρ : Nat → Nat) (x : Out × St) :
    (renOS ρ x).1.res = x.1.res ∧ (renOS ρ x).1.err = x.1.err ∧ (renOS ρ x).2.calls = x.2.calls ∧
    (renOS ρ x).2.ctxErr = x.2.ctxErr ∧ (renOS ρ x).1.cp = x.1.cp.map ρ ∧ (renOS ρ x).2.log = x.2.log.map (Ev.ren ρ) :=
  ⟨rfl, rfl, rfl, rfl, rfl, rfl⟩

/-- … and `parsley.Parse` from a fresh context returns the same node or the same error with the same text -/
theorem c03_index_renaming_parse (ρ : Nat → Nat) (hρ : Mono ρ) (cfg : Cfg) (fuel : Nat) (g : G) :
    parse (renCfg ρ cfg) fuel (g.ren ρ) = (parse cfg fuel g).map (fun p => { p with st := p.st.ren ρ }) := by
  have h := c03_index_renaming ρ hρ cfg fuel g [] (cfg.file.pos 0) {}
  rw [show Ctx.ren ρ [] = [] from rfl, show St.ren ρ {} = {} from rfl] at h
  simp only [parse]
  rw [show (renCfg ρ cfg).file = cfg.file from rfl, show (renCfg ρ cfg).fileSet = cfg.fileSet from rfl, h]
  rcases run cfg fuel g [] (cfg.file.pos 0) {} with _ | ⟨o, st1⟩
  · rfl
  · simp only [Option.map_some, renOS]
    have e1 : (o.ren ρ).res = o.res := rfl
    have e2 : (o.ren ρ).err = o.err := rfl
    rw [e1, e2, St.ren_ctxErr]
    split <;> rfl

/-- **C03 hit**: when ResultCache.Get answers, Memoize returns the stored result, curtailing set and error,
    and the context is untouched: same cache, same furthest error, same call count, same activation stack;
    only the ghost log grows by `Ev.hit` -/
theorem c03_hit_is_free (cfg : Cfg) (fuel idx : Nat) (body : G) (ctx : Ctx) (pos : Nat) (st : St) (e : CacheEntry)
    (hb : ¬ (cfg.maxCalls ≠ 0 ∧ st.calls > cfg.maxCalls)) (h : cacheGet st.cache idx pos ctx = some e) :
    run cfg (fuel + 1) (.memo idx body) ctx pos st = some (⟨e.res, e.cp, e.err⟩, st.logEv cfg (.hit idx pos)) ∧
    (st.logEv cfg (.hit idx pos)).cache = st.cache ∧ (st.logEv cfg (.hit idx pos)).ctxErr = st.ctxErr ∧
    (st.logEv cfg (.hit idx pos)).calls = st.calls ∧ (st.logEv cfg (.hit idx pos)).active = st.active ∧
    (cfg.ghost = true → (st.logEv cfg (.hit idx pos)).log = .hit idx pos :: st.log) ∧
    e ∈ st.cache ∧ e.idx = idx ∧ e.pos = pos := by
  obtain ⟨h1, h2, h3, h4, _⟩ := logEv_fields st cfg (.hit idx pos)
  refine ⟨?_, h1, h2, h3, h4, fun hg => by rw [logEv_ghost hg], cacheGet_some h⟩
  rw [run_succ, if_neg hb]
  exact memoStep_hit cfg _ body h

theorem oinv_empty (K : Prop) : OInv K {} :=
  ⟨(by intro e he; cases he), (fun _ _ _ => by simp [bodyRuns]), (fun _ i p h => by simp [bodyRuns] at h)⟩

/-- **C03 once**: in a parse from a fresh context in which nothing was curtailed and no memoized body was
    re-entered, every memoized body was started at most once per input position -/
theorem c03_once (cfg : Cfg) (hgh : cfg.ghost = true) (fuel : Nat) (g : G) (ctx : Ctx) (pos : Nat) (o : Out) (st' : St)
    (h : run cfg fuel g ctx pos {} = some (o, st')) (hnc : NoCurtail st'.log) (hnr : NoReentry st'.log) :
    ∀ idx p, bodyRuns st'.log idx p ≤ 1 :=
  (run_once True cfg hgh fuel g ctx pos {} o st' h ⟨hnc, fun _ => hnr⟩ (oinv_empty True)).inv.once trivial

/-- … because once a body has run, its entry answers every later lookup, under every left-recursion
    context (the entry was stored with an empty context) -/
theorem c03_completed_is_cached (cfg : Cfg) (hgh : cfg.ghost = true) (fuel : Nat) (g : G) (ctx : Ctx) (pos : Nat)
    (o : Out) (st' : St) (h : run cfg fuel g ctx pos {} = some (o, st')) (hnc : NoCurtail st'.log)
    (hnr : NoReentry st'.log) (idx p : Nat) (hb : bodyRuns st'.log idx p = 1) (ctx' : Ctx) :
    ∃ e, cacheGet st'.cache idx p ctx' = some e := by
  have hp := run_once True cfg hgh fuel g ctx pos {} o st' h ⟨hnc, fun _ => hnr⟩ (oinv_empty True)
  cases hp.inv.done trivial idx p hb with
  | inl ha => rw [hp.active] at ha; cases ha
  | inr hk => exact cacheGet_of_hasKey hp.inv.ent hk ctx'

/-- when nothing is curtailed, no curtailing set is ever returned and every entry is stored with an empty
    left-recursion context (`NoReentry` is not needed for this) -/
theorem c03_no_curtail (cfg : Cfg) (hgh : cfg.ghost = true) (fuel : Nat) (g : G) (ctx : Ctx) (pos : Nat) (o : Out)
    (st' : St) (h : run cfg fuel g ctx pos {} = some (o, st')) (hnc : NoCurtail st'.log) :
    o.cp = [] ∧ (∀ e ∈ st'.cache, e.ctx = [] ∧ e.cp = []) ∧ st'.active = [] := by
  have hp := run_once False cfg hgh fuel g ctx pos {} o st' h ⟨hnc, fun k => k.elim⟩ (oinv_empty False)
  exact ⟨hp.cp, hp.inv.ent, hp.active⟩

def stripCfg (cfg : Cfg) : Cfg := { cfg with env := cfg.env.map stripAll }

theorem stripCfg_ok (cfg : Cfg) : StripCfg cfg (stripCfg cfg) := ⟨rfl, rfl, rfl⟩

/-- a grammar without Memoize (`bo` is irrelevant) -/
def NoMemo (g : G) : Prop := g.All (MemoOK False (fun _ => .empty))

theorem c03_strip_noMemo (g : G) : NoMemo (stripAll g) := noMemo_stripAll _ g

/-- **state independence**: a Memoize-free grammar run from two different left-recursion contexts and two
    different context states (cache, furthest error, call count, log — anything) with any two fuels
    returns the same results and the same error, and raises the furthest-error position by the same `M` -/
theorem c03_state_independent (cfg0 : Cfg) (henv : ∀ g' ∈ cfg0.env, NoMemo g') (g : G) (hg : NoMemo g)
    (f1 f2 : Nat) (c1 c2 : Ctx) (pos : Nat) (s1 s2 : St) (o1 o2 : Out) (s1' s2' : St)
    (h1 : run cfg0 f1 g c1 pos s1 = some (o1, s1')) (h2 : run cfg0 f2 g c2 pos s2 = some (o2, s2')) :
    o1.res = o2.res ∧ o1.err = o2.err ∧ ∃ M, pn s1' = max (pn s1) M ∧ pn s2' = max (pn s2) M :=
  indep cfg0 _ henv g f1 c1 pos s1 o1 s1' f2 c2 s2 o2 s2' hg h1 h2

/-- **C03 transparency**, general form: the memoized run starts with an empty cache, the un-memoized one
    anywhere with the furthest error at the same position; left-recursion contexts and fuels arbitrary -/
theorem c03_transparent_from (cfg : Cfg) (bodyOf : Nat → G) (hgh : cfg.ghost = true)
    (henv : ∀ g' ∈ cfg.env, MemoWF bodyOf g') (g : G) (hg : MemoWF bodyOf g)
    (f f0 : Nat) (ctx ctx0 : Ctx) (pos : Nat) (st st0 : St) (o o0 : Out) (st' st0' : St)
    (hcache : st.cache = []) (hpn : pn st = pn st0)
    (h : run cfg f g ctx pos st = some (o, st'))
    (h0 : run (stripCfg cfg) f0 (stripAll g) ctx0 pos st0 = some (o0, st0'))
    (hnc : NoCurtail st'.log) :
    o.res = o0.res ∧ o.err = o0.err ∧ pn st' = pn st0' ∧ st'.calls + st0.calls ≤ st0'.calls + st.calls :=
  run_transparent cfg (stripCfg cfg) bodyOf (stripCfg_ok cfg) hgh henv g hg f f0 ctx ctx0 pos st st0 o o0 st' st0'
    hcache hpn h h0 hnc

/-- **C03 transparency**: wrapping any sub-parsers in Memoize changes nothing observable except the call
    count.  `g` is the grammar with the chosen wrappers, `stripAll g` / `stripCfg cfg` the grammar without;
    both parses start from a fresh context.  (`NoReentry` is not needed.) -/
theorem c03_transparent (cfg : Cfg) (bodyOf : Nat → G) (hgh : cfg.ghost = true)
    (henv : ∀ g' ∈ cfg.env, MemoWF bodyOf g') (g : G) (hg : MemoWF bodyOf g)
    (f f0 : Nat) (pos : Nat) (o o0 : Out) (st' st0' : St)
    (h : run cfg f g [] pos {} = some (o, st'))
    (h0 : run (stripCfg cfg) f0 (stripAll g) [] pos {} = some (o0, st0'))
    (hnc : NoCurtail st'.log) :
    o.res = o0.res ∧ o.err = o0.err ∧ o.cp = [] ∧
    st'.ctxErr.map Err.pos = st0'.ctxErr.map Err.pos ∧ st'.calls ≤ st0'.calls := by
  obtain ⟨h1, h2, h3, h4⟩ := c03_transparent_from cfg bodyOf hgh henv g hg f f0 [] [] pos {} {} o o0 st' st0'
    rfl rfl h h0 hnc
  refine ⟨h1, h2, (c03_no_curtail cfg hgh f g [] pos o st' h hnc).1, (pe_eq_iff _ _).mp h3, ?_⟩
  simpa using h4

/-- the node `parsley.Parse` returns and the position of the error it returns, as a function of the root parser's
    result and error and the POSITION of the furthest error (`pos0`: the start of the file) -/
def parseView (pos0 : Nat) (res : Res) (err : Option Err) (far : Option Nat) : Res × Option Nat :=
  if res.isNil && err.isNone then (.nil, some (far.getD pos0))
  else match err with
    | none => (res, none)
    | some e => (.nil, some (match far with | some p => if !e.kind.isWs && p > e.pos then p else e.pos | none => e.pos))

theorem parse_view {cfg : Cfg} {fuel : Nat} {g : G} {st0 : St} {p : ParseOut} (h : parse cfg fuel g st0 = some p) :
    ∃ o st, run cfg fuel g [] (cfg.file.pos 0) st0 = some (o, st) ∧ p.st = st ∧
      (p.res, p.err.map Err.pos) = parseView (cfg.file.pos 0) o.res o.err (st.ctxErr.map Err.pos) := by
  unfold parse at h
  rcases hr : run cfg fuel g [] (cfg.file.pos 0) st0 with _ | ⟨o, st⟩
  · simp only [hr] at h; cases h
  · refine ⟨o, st, rfl, ?_⟩
    simp only [hr] at h
    unfold parseView
    by_cases hq : (o.res.isNil && o.err.isNone) = true
    · simp only [hq, ↓reduceIte] at h ⊢
      cases hce : st.ctxErr with
      | none => simp only [hce] at h; cases h; exact ⟨rfl, rfl⟩
      | some ce =>
        simp only [hce, Nat.lt_irrefl, ↓reduceIte, ite_self] at h
        cases h; exact ⟨rfl, rfl⟩
    · simp only [hq, Bool.false_eq_true, ↓reduceIte] at h ⊢
      cases he : o.err with
      | none => simp only [he] at h; cases h; exact ⟨rfl, rfl⟩
      | some e =>
        simp only [he] at h
        cases hce : st.ctxErr with
        | none => simp only [hce, ite_self] at h; cases h; exact ⟨rfl, rfl⟩
        | some ce =>
          simp only [hce] at h
          cases h
          refine ⟨rfl, ?_⟩
          cases hw : e.kind.isWs
          · by_cases hp : ce.pos > e.pos <;> simp [hp, hw]
          · simp [hw]

/-- … and for `parsley.Parse`: the same node, or an error at the same position -/
theorem c03_transparent_parse (cfg : Cfg) (bodyOf : Nat → G) (hgh : cfg.ghost = true)
    (henv : ∀ g' ∈ cfg.env, MemoWF bodyOf g') (g : G) (hg : MemoWF bodyOf g)
    (f f0 : Nat) (p p0 : ParseOut)
    (h : parse cfg f g = some p) (h0 : parse (stripCfg cfg) f0 (stripAll g) = some p0)
    (hnc : NoCurtail p.st.log) :
    p.res = p0.res ∧ p.err.map Err.pos = p0.err.map Err.pos ∧ p.st.calls ≤ p0.st.calls := by
  obtain ⟨o, st1, hr, hst, hv⟩ := parse_view h
  obtain ⟨o0, st01, hr0, hst0, hv0⟩ := parse_view h0
  rw [hst] at hnc
  obtain ⟨t1, t2, _, t4, t5⟩ := c03_transparent cfg bodyOf hgh henv g hg f f0 _ o o0 st1 st01 hr hr0 hnc
  rw [t1, t2, t4] at hv
  have e := hv.trans hv0.symm
  rw [hst, hst0]
  exact ⟨congrArg Prod.fst e, congrArg Prod.snd e, t5⟩

/-- which sub-parsers are memoized, and under which indexes, is irrelevant: two grammars that differ only in
    their Memoize wrappers (same grammar once the wrappers are removed) return the same results and error
    and leave the furthest error at the same position — whenever the wrapper-free grammar answers at all -/
theorem c03_memo_placement_irrelevant (cfg1 cfg2 : Cfg) (bo1 bo2 : Nat → G)
    (hgh1 : cfg1.ghost = true) (hgh2 : cfg2.ghost = true)
    (hfile : cfg2.file = cfg1.file) (hparams : cfg2.params = cfg1.params)
    (henvs : cfg2.env.map stripAll = cfg1.env.map stripAll)
    (henv1 : ∀ g' ∈ cfg1.env, MemoWF bo1 g') (henv2 : ∀ g' ∈ cfg2.env, MemoWF bo2 g')
    (g1 g2 : G) (hg1 : MemoWF bo1 g1) (hg2 : MemoWF bo2 g2) (hstrip : stripAll g2 = stripAll g1)
    (f1 f2 f0 pos : Nat) (o1 o2 o0 : Out) (s1 s2 s0 : St)
    (h1 : run cfg1 f1 g1 [] pos {} = some (o1, s1)) (h2 : run cfg2 f2 g2 [] pos {} = some (o2, s2))
    (h0 : run (stripCfg cfg1) f0 (stripAll g1) [] pos {} = some (o0, s0))
    (hnc1 : NoCurtail s1.log) (hnc2 : NoCurtail s2.log) :
    o1.res = o2.res ∧ o1.err = o2.err ∧ s1.ctxErr.map Err.pos = s2.ctxErr.map Err.pos := by
  obtain ⟨a1, a2, a3, _⟩ := run_transparent cfg1 (stripCfg cfg1) bo1 (stripCfg_ok cfg1) hgh1 henv1 g1 hg1 f1 f0 [] [] pos
    {} {} o1 o0 s1 s0 rfl rfl h1 h0 hnc1
  have hc2 : StripCfg cfg2 (stripCfg cfg1) := ⟨hfile.symm, hparams.symm, henvs.symm⟩
  rw [← hstrip] at h0
  obtain ⟨b1, b2, b3, _⟩ := run_transparent cfg2 (stripCfg cfg1) bo2 hc2 hgh2 henv2 g2 hg2 f2 f0 [] [] pos
    {} {} o2 o0 s2 s0 rfl rfl h2 h0 hnc2
  exact ⟨by rw [a1, b1], by rw [a2, b2], (pe_eq_iff _ _).mp (by rw [show pe s1.ctxErr = pn s1 from rfl, a3, ← b3]; rfl)⟩

theorem c03_facts : Facts.curtailSlack = 1 := rfl

/-! ### non-vacuity -/

def c03t (c : Nat) : G := .term (.rune c [34, c, 34])

def c03Cfg (data : List Nat) : Cfg :=
  { env := [], file := { name := "f", data := data, offset := 1 }, fileSet := {},
    params := { floatOk := fun _ => true, durErr := fun _ => none, regexp := fun _ _ => none } }

/-- `A → memo₀ (a | b)`, `S → A x | A y`: on "ay" the second alternative asks for `A` at the position where
    the first one already ran it -/
def c03A : G := .memo 0 (.any [c03t 97, c03t 98])
def c03S : G := .any [.seq .seqOf [c03A, c03t 120] {}, .seq .seqOf [c03A, c03t 121] {}]

theorem c03S_wf : MemoWF (fun _ => .any [c03t 97, c03t 98]) c03S := by
  simp [MemoWF, c03S, c03A, c03t, G.All, AllList, MemoOK]

/-- the memoized parse: one tree ending after "ay", no error, 8 calls, furthest error at position 2 -/
example : ((run (c03Cfg [97, 121]) 20 c03S [] 1 {}).map (fun r =>
      (r.1.res.alts.map Node.rpos, r.1.err, r.2.calls, r.2.ctxErr.map Err.pos)))
    = some ([3], none, 8, some 2) := by decide +kernel

/-- … in which the body of `A` was started once at position 1, its second use was a hit, nothing was
    curtailed and nothing re-entered -/
example : ((run (c03Cfg [97, 121]) 20 c03S [] 1 {}).map (fun r =>
      (bodyRuns r.2.log 0 1, r.2.log.any (fun e => match e with | .hit 0 1 => true | _ => false),
        decide (NoCurtail r.2.log), decide (NoReentry r.2.log))))
    = some (1, true, true, true) := by decide +kernel

/-- the same grammar without the wrapper: same tree, same error, same furthest-error position — and 10
    calls, strictly more -/
example : ((run (stripCfg (c03Cfg [97, 121])) 20 (stripAll c03S) [] 1 {}).map (fun r =>
      (r.1.res.alts.map Node.rpos, r.1.err, r.2.calls, r.2.ctxErr.map Err.pos)))
    = some ([3], none, 10, some 2) := by decide +kernel

/-- the theorem applies to this pair of runs (its hypotheses are satisfiable): the trees are equal -/
example (o o0 : Out) (st' st0' : St) (h : run (c03Cfg [97, 121]) 20 c03S [] 1 {} = some (o, st'))
    (h0 : run (stripCfg (c03Cfg [97, 121])) 20 (stripAll c03S) [] 1 {} = some (o0, st0'))
    (hnc : NoCurtail st'.log) : o.res = o0.res ∧ st'.calls ≤ st0'.calls :=
  have t := c03_transparent (c03Cfg [97, 121]) _ rfl (by intro g' hg'; cases hg') c03S c03S_wf 20 20 1 o o0 st' st0' h h0 hnc
  ⟨t.1, t.2.2.2.2⟩

/-- the hypotheses of `c03_once` are not always true: `P → memo₀ (P b | a)` re-enters and curtails -/
example : ((run { c03Cfg [97, 98] with env := [.memo 0 (.any [.seq .seqOf [.ref 0, c03t 98] {}, c03t 97])] }
      40 (.ref 0) [] 1 {}).map (fun r => (decide (NoCurtail r.2.log), decide (NoReentry r.2.log), bodyRuns r.2.log 0 1)))
    = some (false, false, 4) := by decide +kernel

/-! ### what is NOT preserved: the text of the error Parse reports -/

/-- `A → memo₀ (a b | a)`, `X → a x | a`, `S → Suppress (A c | X d | A e)` on "a".
    `A` records "expecting b" at position 2, `X` replaces it by "expecting x" at the same position
    (`SetError` uses `>=`); the third alternative re-runs `A` in the un-memoized grammar (recording
    "expecting b" again) and hits the cache in the memoized one (recording nothing). -/
def c03WA : G := .memo 0 (.any [.seq .seqOf [c03t 97, c03t 98] {}, c03t 97])
def c03WX : G := .any [.seq .seqOf [c03t 97, c03t 120] {}, c03t 97]
def c03W : G :=
  .suppress (.any [.seq .seqOf [c03WA, c03t 99] {}, .seq .seqOf [c03WX, c03t 100] {}, .seq .seqOf [c03WA, c03t 101] {}])

theorem c03W_wf : MemoWF (fun _ => .any [.seq .seqOf [c03t 97, c03t 98] {}, c03t 97]) c03W := by
  simp [MemoWF, c03W, c03WA, c03WX, c03t, G.All, AllList, MemoOK]

/-- **the error Parse returns is NOT identical**: same position, different error (hence different text) -/
theorem c03_parse_message_not_transparent :
    (parse (c03Cfg [97]) 30 c03W).map (fun p => (p.err, decide (NoCurtail p.st.log), decide (NoReentry p.st.log)))
      = some (some ⟨2, .notFound [34, 120, 34]⟩, true, true) ∧
    (parse (stripCfg (c03Cfg [97])) 30 (stripAll c03W)).map (fun p => p.err)
      = some (some ⟨2, .notFound [34, 98, 34]⟩) := by
  constructor <;> decide +kernel


end PV
