/-
  C01R — the CLOSED WORLD of the translated parser core with TRANSLATED TERMINALS.

  Props/C01Q.lean builds `gWorld cfg root` from the translated combinator closures (Generated/FactsCore.lean) and proves
  that it agrees with the model's `run` on every closed grammar.  Its terminal leaf `Terminal_parse` — the parser of a
  `G.term t` — is TAKEN FROM THE MODEL (`pure (eOut (Terminal.parse …))`).  Here that leaf runs the closure
  translated from text/terminal/*.go (Generated/FactsTerm.lean; Props/C08Q.lean):

    * `gWorldT cfg root : Nat → World Context` (Proofs/TermWorld.lean) is `gWorld` with one case changed: on the handle of
      a path that leads to `G.term t` it runs `leafT cfg t` = the TRANSLATED closure of the terminal's constructor
      (`Rune_parse`, `Op_parse`, `Word_parse`, `Bool_parse`, `Nil_parse`, `Integer_parse`, `Float_parse`, `Char_parse`,
      `String_parse`, `TimeDuration_parse`, `Regexp_parse`) applied to the terminal's construction parameters, over the
      world `tWorld cfg` of the terminals;
    * `tWorld cfg` is built from the configuration: the reader's methods are the model's file functions
      (Model/Text.lean; Props/C09P.lean ties them to the translated reader, Props/C08P.lean `unquoteString`), the library
      functions are the parameters of Model/Terminal.lean (`parseInt0`, `floatOk`, `durErr`, `unquoteChar`, `regexp`, the
      five hand-written matchers for the five literal expressions).  It satisfies the contracts of Props/C08Q.lean by
      construction (`c08q_nonvacuous`).
    * A Go panic INSIDE a terminal closure (below the file's base offset, the empty Op / Word, an invalid capturing group)
      is reported as the model reports it — an error value of kind panic (`panicAsValue`) — because `Agrees` compares values;
      as for the dangling parser variable of C01Q this is a difference of representation.  `c01r_leaf_is_closure`: for
      documented construction parameters and a position in the file nothing is relabelled, the leaf IS the closure.

  No leaf of `gWorldT` is taken from the model except the reader's functions and the library parameters.
-/
import ParsleyVerif.Props.C01Q
import ParsleyVerif.Props.C08Q
namespace PV
open PV.CoreTie PV.FactsCore PV.CW PV.CWT PV.WFT PV.TermTie

/-- **what the closed world with translated terminals is.**  On the handle of a path that leads to `g` the world with
    fuel+1 runs `nodeT … g` over the world with fuel; on a terminal that is the translated closure of the terminal's
    constructor over `tWorld cfg` (a panic inside it reported the model's way), on every other constructor it is `CW.node`
    (the translated combinator closure: `c01q_world_step`).  Fuel 0 answers "out of fuel"; a handle that is not a path of
    the table is a Go panic. -/
theorem c01r_world_step (cfg : Cfg) (root : G) (fuel : Nat) (π : List Nat) :
    let W := gWorldT cfg root fuel
    (∀ g, resolve (table cfg root) π = some g → (gWorldT cfg root (fuel + 1)).parse (hdl π) = nodeT cfg W fuel π g) ∧
    (resolve (table cfg root) π = none → ∀ m pos s, (gWorldT cfg root (fuel + 1)).parse (hdl π) m pos s = .panic) ∧
    (∀ p m pos s, (gWorldT cfg root 0).parse p m pos s = .nofuel) ∧
    (∀ t m pos, nodeT cfg W fuel π (.term t) m pos =
      panicAsValue (panicSite cfg t pos.toNat) pos (termClosure (tWorld cfg) cwNames [] t m pos)) ∧
    (∀ g, (∀ t, g ≠ .term t) → nodeT cfg W fuel π g = node cfg W fuel π g) := by
  refine ⟨fun g h => gWorldT_parse_succ cfg root fuel π g h, fun h m pos s => ?_, fun _ _ _ _ => rfl,
    fun _ _ _ => rfl, fun g hg => nodeT_of_not_term cfg _ fuel π g hg⟩
  show dispatchT cfg root (gWorldT cfg root fuel) fuel (hdl π) m pos s = _
  simp only [dispatchT, hdl, Encodable.encodek, h]
  rfl

/-- **C01R, closed world.**  The statement of `c01q_closed_world`, about the world whose terminal leaves run the translated
    closures: for every configuration without work budget and every closed grammar (root + rules), at every fuel: the
    reader of `gWorldT` is the model's file; the world's `parse` on the root handle agrees with `run cfg fuel root`, on the
    handle of the parser variable `k` with `run` on the rule `k`, and on the handle of ANY path with `run` on the
    sub-parser the path leads to. -/
theorem c01r_closed_world (cfg : Cfg) (h0 : cfg.maxCalls = 0) (root : G) (hc : Closed cfg root) (fuel : Nat) :
    WorldRel (gWorldT cfg root fuel) cfg ∧
    Agrees (gWorldT cfg root fuel) cfg fuel rootH root ∧
    (∀ k g, cfg.env[k]? = some g → Agrees (gWorldT cfg root fuel) cfg fuel (refH k) g) ∧
    (∀ π g, resolve (table cfg root) π = some g → Agrees (gWorldT cfg root fuel) cfg fuel (hdl π) g) :=
  ⟨gWorldT_rel cfg root fuel, gWorldT_agrees cfg h0 root hc fuel [0] root (resolve_root cfg root),
   fun k g hk => gWorldT_agrees cfg h0 root hc fuel [k + 1] g (resolve_ref cfg root k g hk),
   gWorldT_agrees cfg h0 root hc fuel⟩

theorem c01r_closed_world_run (cfg : Cfg) (h0 : cfg.maxCalls = 0) (root : G) (hc : Closed cfg root) (fuel : Nat)
    (m : IntMap) (c : Ctx) (pos : Nat) (s : Context) (st : St) (hm : CtxRel m c) (hs : StRel s st) :
    match run cfg fuel root c pos st with
    | none => (gWorldT cfg root fuel).parse rootH m (pos : Int) s = .nofuel
    | some (o, st') => ∃ s', (gWorldT cfg root fuel).parse rootH m (pos : Int) s = .ok (eOut o) s' ∧ StRel s' st' :=
  (c01r_closed_world cfg h0 root hc fuel).2.1 m c pos s st hm hs

/-- the step of the induction, in ANY world: C01P's ties for the combinators, C08Q's for the terminals -/
theorem c01r_step (W : World Context) (cfg : Cfg) (h0 : cfg.maxCalls = 0) (hw : WorldRel W cfg) (fuel : Nat)
    (π : List Nat) (g : G)
    (hkids : ∀ i k, (kids g)[i]? = some k → Agrees W cfg fuel (kidH π i) k)
    (href : ∀ k, g = .ref k → ∃ g', cfg.env[k]? = some g' ∧ Agrees W cfg fuel (refH k) g') :
    AgreesF (nodeT cfg W fuel π g) cfg (fuel + 1) g :=
  nodeT_agrees W cfg h0 hw fuel π g hkids href

/-- **the leaf is the closure**: for a terminal with documented construction parameters, an engine within its contract
    and a position in the file, the terminal leaf of `gWorldT` is the translated closure itself — it returns, nothing is
    relabelled -/
theorem c01r_leaf_is_closure (cfg : Cfg) (t : Terminal) (m : IntMap) (pos : Nat) (s : Context)
    (h : Text.InFile cfg.file pos) (wf : t.WF) (hl : cfg.params.LenOk t) (hg : cfg.params.GroupOk t) :
    leafT cfg t m (pos : Int) s = termClosure (tWorld cfg) cwNames [] t m (pos : Int) s ∧
    ∃ n e, leafT cfg t m (pos : Int) s = .ok (n, [], e) s := by
  obtain ⟨n, e, hr, -⟩ := c08q_total (tWorld cfg) cfg (tWorld_rel cfg) cwNames [] t (tWorld_regexpOK cfg t) m pos s h wf hl hg
  have hl' : leafT cfg t m (pos : Int) s = termClosure (tWorld cfg) cwNames [] t m (pos : Int) s :=
    leaf_eq_of_not_panic cfg _ _ _ t m _ s (by rw [hr]; exact fun h => nomatch h)
  exact ⟨hl', n, e, by rw [hl', hr]⟩

/-- **parsley.Parse**, translated, over the closed world with translated terminals IS the model's `parse` -/
theorem c01r_parse (cfg : Cfg) (h0 : cfg.maxCalls = 0) (root : G) (hc : Closed cfg root) (fuel : Nat)
    (s : Context) (st : St) (hs : StRel s st) :
    match parse cfg fuel root st with
    | none => Parse (gWorldT cfg root fuel) rootH s = .nofuel
    | some po => ∃ s', Parse (gWorldT cfg root fuel) rootH s = .ok (eRes po.res, eParseErr po.err) s' ∧ StRel s' po.st :=
  c01p_parse (gWorldT cfg root fuel) cfg (gWorldT_rel cfg root fuel) fuel rootH root
    (c01r_closed_world cfg h0 root hc fuel).2.1 s st hs

/-- **no panic** escapes the translated `Parse` on a closed grammar (a panic inside a terminal closure is an error value of
    the leaf: see the header; for documented terminals inside the file there is none, `c01r_leaf_is_closure`) -/
theorem c01r_no_panic (cfg : Cfg) (h0 : cfg.maxCalls = 0) (root : G) (hc : Closed cfg root) (fuel : Nat)
    (s : Context) (hs : WellFormedCtx s) : Parse (gWorldT cfg root fuel) rootH s ≠ .panic :=
  Transfer.no_panic (gWorldT_rel cfg root) (fun fuel => (c01r_closed_world cfg h0 root hc fuel).2.1) fuel s hs

/-- **C04 (node xor error)** -/
theorem c01r_xor (cfg : Cfg) (h0 : cfg.maxCalls = 0) (root : G) (hc : Closed cfg root) (fuel : Nat)
    (s : Context) (hs : WellFormedCtx s) (n : CNode) (e : CCause) (s' : Context)
    (h : Parse (gWorldT cfg root fuel) rootH s = .ok (n, e) s') :
    (n.isNil = false ∧ e.isNil = true) ∨ (n.isNil = true ∧ e.isNil = false) :=
  Transfer.xor (gWorldT_rel cfg root) (fun fuel => (c01r_closed_world cfg h0 root hc fuel).2.1) fuel s hs n e s' h

/-- **C02 (termination)** -/
theorem c01r_terminates (rx : Nat → Bool) (cert : WFCert) (cfg : Cfg) (h0 : cfg.maxCalls = 0) (root : G)
    (hc : Closed cfg root) (hwf : wfT rx cert cfg.env root = true) (hrx : RxSound rx cfg.params) :
    ∃ F, ∀ fuel, F ≤ fuel → ∃ n e s', Parse (gWorldT cfg root fuel) rootH exState = .ok (n, e) s' :=
  Transfer.terminates (gWorldT_rel cfg root) (fun fuel => (c01r_closed_world cfg h0 root hc fuel).2.1) h0 rx cert hwf hrx

/-- **the fuel is not observable** -/
theorem c01r_fuel_mono (cfg : Cfg) (h0 : cfg.maxCalls = 0) (root : G) (hc : Closed cfg root) (f1 f2 : Nat)
    (hle : f1 ≤ f2) (s : Context) (hs : WellFormedCtx s) (n : CNode) (e : CCause) (s1 : Context)
    (h : Parse (gWorldT cfg root f1) rootH s = .ok (n, e) s1) :
    ∃ s2, Parse (gWorldT cfg root f2) rootH s = .ok (n, e) s2 :=
  Transfer.fuel_mono (gWorldT_rel cfg root) (fun fuel => (c01r_closed_world cfg h0 root hc fuel).2.1) f1 f2 hle s hs n e s1 h

/-- **C01 soundness** -/
theorem c01r_sound (cfg : Cfg) (h0 : cfg.maxCalls = 0) (root : G) (hc : Closed cfg root) (bodyOf : Nat → G)
    (henv : ∀ g' ∈ cfg.env, GOK bodyOf g') (hg : GOK bodyOf root) (fuel : Nat) (n : CNode) (e : CCause) (s' : Context)
    (h : Parse (gWorldT cfg root fuel) rootH exState = .ok (n, e) s') :
    ∃ r : Res, n = eRes r ∧ ∀ x ∈ r.alts, Derives cfg root (cfg.file.pos 0) x :=
  Transfer.sound (gWorldT_rel cfg root) (fun fuel => (c01r_closed_world cfg h0 root hc fuel).2.1) bodyOf henv hg fuel n e s' h

/-- **the arithmetic grammar** (`Garith`: numbers are `terminal.Integer`, operators and parentheses `terminal.Rune`) over
    `gWorldT`, for EVERY input file: closed; the world agrees with `run` on the root and the three rules at every fuel; the
    translated `Parse` never panics, answers from some fuel on, and every answer is a node xor an error -/
theorem c01r_arith (cfg : Cfg) (henv : cfg.env = Garith.env) (h0 : cfg.maxCalls = 0) :
    Closed cfg Garith.root ∧
    (∀ fuel, Agrees (gWorldT cfg Garith.root fuel) cfg fuel rootH Garith.root ∧
      Agrees (gWorldT cfg Garith.root fuel) cfg fuel (refH 0) Garith.expr ∧
      Agrees (gWorldT cfg Garith.root fuel) cfg fuel (refH 1) Garith.term ∧
      Agrees (gWorldT cfg Garith.root fuel) cfg fuel (refH 2) Garith.factor) ∧
    (∀ fuel, Parse (gWorldT cfg Garith.root fuel) rootH exState ≠ .panic) ∧
    (∃ F, ∀ fuel, F ≤ fuel → ∃ n e s', Parse (gWorldT cfg Garith.root fuel) rootH exState = .ok (n, e) s') ∧
    (∀ fuel n e s', Parse (gWorldT cfg Garith.root fuel) rootH exState = .ok (n, e) s' →
      (n.isNil = false ∧ e.isNil = true) ∨ (n.isNil = true ∧ e.isNil = false)) := by
  have hc := c01q_arith_closed cfg henv
  refine ⟨hc, fun fuel => ?_, fun fuel => c01r_no_panic cfg h0 _ hc fuel _ c01q_fresh_wellFormed, ?_,
    fun fuel n e s' h => c01r_xor cfg h0 _ hc fuel _ c01q_fresh_wellFormed n e s' h⟩
  · obtain ⟨-, hr, hk, -⟩ := c01r_closed_world cfg h0 Garith.root hc fuel
    exact ⟨hr, hk 0 _ (by rw [henv]; rfl), hk 1 _ (by rw [henv]; rfl), hk 2 _ (by rw [henv]; rfl)⟩
  · exact c01r_terminates rxAll C02UNV.arithCert cfg h0 Garith.root hc (by rw [henv]; exact C02UNV.wfT_arith)
      (rxSound_all cfg.params)

/-! ### TESTS (evaluated by the compiler — not proofs): the translated program, terminals included, RUNS -/

namespace CWT

/-- translated `Parse` over `gWorldT` vs. the model's `parse`: same node, same error, same call count (or both out of fuel) -/
def sameAnswerT (cfg : Cfg) (root : G) (fuel : Nat) : Bool :=
  match Parse (gWorldT cfg root fuel) rootH exState, parse cfg fuel root with
  | .ok (n, e) s', some po =>
    CW.flat n == CW.flat (eRes po.res) && decide (e = eParseErr po.err) && decide (s'.callCount = (po.st.calls : Int))
  | .nofuel, none => true
  | _, _ => false

def answersNodeT (cfg : Cfg) (root : G) (fuel : Nat) : Bool :=
  match Parse (gWorldT cfg root fuel) rootH exState with
  | .ok (n, e) _ => !n.isNil && e.isNil
  | _ => false

def answersErrT (cfg : Cfg) (root : G) (fuel : Nat) : Bool :=
  match Parse (gWorldT cfg root fuel) rootH exState with
  | .ok (n, e) _ => n.isNil && !e.isNil
  | _ => false

end CWT

-- "1+2*3": a tree; " ( 1 + 2 ) * 3 ": a tree; "1+": an error; "1.5": an error (Integer refuses a float); fuel 10: out of fuel
#guard CWT.answersNodeT (CW.arithCfg [49, 43, 50, 42, 51]) Garith.root 200
#guard CWT.sameAnswerT (CW.arithCfg [49, 43, 50, 42, 51]) Garith.root 200
#guard CWT.answersNodeT (CW.arithCfg [32, 40, 32, 49, 32, 43, 32, 50, 32, 41, 32, 42, 32, 51, 32]) Garith.root 300
#guard CWT.sameAnswerT (CW.arithCfg [32, 40, 32, 49, 32, 43, 32, 50, 32, 41, 32, 42, 32, 51, 32]) Garith.root 300
#guard CWT.answersErrT (CW.arithCfg [49, 43]) Garith.root 200
#guard CWT.sameAnswerT (CW.arithCfg [49, 43]) Garith.root 200
#guard CWT.answersErrT (CW.arithCfg [49, 46, 53]) Garith.root 200
#guard CWT.sameAnswerT (CW.arithCfg [49, 46, 53]) Garith.root 200
#guard CWT.sameAnswerT (CW.arithCfg [49, 43, 50, 42, 51]) Garith.root 10

end PV
