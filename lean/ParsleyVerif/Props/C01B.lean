/-
  C01, third part — the NON-MONOTONE operators:

    "… with Choice, Many, SepBy, SeqTry and SeqFirstOrAll following their documented first-match /
     longest-path rules."

  Props/C01.lean proves that every returned tree is a derivation of the MONOTONE reading `Derives` (Choice
  read as Any, repetitions allowed to stop anywhere) and Props/C01C.lean proves completeness for the monotone
  fragment.  Here:

  Specification (Spec/BigStep.lean): `Big cfg g pos R e` — parser `g` at `pos` yields EXACTLY the ordered
  result `R` (`e`: an error is returned next to it) — a cache-free, context-free, fuel-free big-step
  relation written from the operators' documentation: Any merges all alternatives in order (AppendNode),
  Choice takes the first alternative with a result, the Sequence family emits a chain of element results
  only where it cannot be extended and its length is accepted (`BigSeq`), Name / Single drop a result that
  comes with an error (D9).

  Theorems:
  * `c01_bigstep`            every run from the empty context and state in which nothing was curtailed computes
                             `Big` — for the whole combinator set (LeftTrim in mode WsSpacesNl);
    `c01_bigstep_from`       the same from any left-recursion context and any cache that satisfies the
                             invariant "every entry is the exact result of its parser at its position",
                             which is preserved;
    `c01_bigstep_memofree`   without Memoize nothing is ever curtailed: the theorem holds of EVERY run;
  * `big_functional`         `Big` is deterministic, so (`c01_bigstep_exact`) the run's result is THE meaning;
  * `c01_big_derives`        every exact result is a derivation of the monotone reading;
  * the documented rules, as statements about `Big`:
    `c01_choice_first_match` / `c01_choice_first_match_intro` / `c01_choice_none`,
    `c01_seq_longest` (every Sequence-family parser), `c01_many_longest`, `c01_seqtry_rule`,
    `c01_seqfirstorall_rule`, `c01_sepby_odd`, `c01_seqof_full`, `c01_any_two`, `c01_name_drops_optional` (D9).

  SCOPE ("stratified").  `Big` is an inductive definition — a least fixpoint.  A parser that reaches itself
  at the same position without consuming input (left recursion, cyclic rules) has no `Big` result at all, and
  every run of such a parser curtails; its results are produced by the curtailment iteration, which is a
  fixpoint construction that the non-monotone operators do not have in general.  So the exact theorem is
  about runs without curtailment (hypothesis `NoCurtail st'.log`, decidable on every run, implied by the
  absence of Memoize — `c01_bigstep_memofree` — and by left-recursion-freeness, C03); for left-recursive
  grammars the monotone theorems of C01 / C01C speak about the monotone part.
-/
import ParsleyVerif.Proofs.BigStepFun
import ParsleyVerif.Proofs.BigStepRun
import ParsleyVerif.Proofs.BigStepRules
namespace PV
open PV.Text

/-- **C01, exact semantics, general form**: from ANY left-recursion context and any state whose cache
    holds exact results, a run in which nothing was curtailed returns exactly the big-step result, with an
    error iff the semantics says so, and leaves a cache of exact results. -/
theorem c01_bigstep_from (cfg : Cfg) (hgh : cfg.ghost = true) (bodyOf : Nat → G)
    (henv : ∀ g' ∈ cfg.env, Big.InScope bodyOf g') (g : G) (hg : Big.InScope bodyOf g)
    (fuel : Nat) (ctx : Ctx) (pos : Nat) (st : St) (o : Out) (st' : St)
    (hst : Big.CacheBig cfg bodyOf st) (h : run cfg fuel g ctx pos st = some (o, st')) (hnc : NoCurtail st'.log) :
    Big cfg g pos o.res o.err.isSome ∧ Big.CacheBig cfg bodyOf st' :=
  Big.run_big cfg hgh bodyOf henv fuel g ctx pos st o st' hg h hnc hst

/-- **C01, exact semantics**: a run from the empty context and the empty state in which nothing was
    curtailed computes `Big`. -/
theorem c01_bigstep (cfg : Cfg) (hgh : cfg.ghost = true) (bodyOf : Nat → G)
    (henv : ∀ g' ∈ cfg.env, Big.InScope bodyOf g') (g : G) (hg : Big.InScope bodyOf g)
    (fuel : Nat) (pos : Nat) (o : Out) (st' : St)
    (h : run cfg fuel g [] pos {} = some (o, st')) (hnc : NoCurtail st'.log) :
    Big cfg g pos o.res o.err.isSome :=
  (c01_bigstep_from cfg hgh bodyOf henv g hg fuel [] pos {} o st' (by intro e he; cases he) h hnc).1

theorem big_functional {cfg : Cfg} {g : G} {pos : Nat} {R₁ R₂ : Res} {e₁ e₂ : Bool}
    (h₁ : Big cfg g pos R₁ e₁) (h₂ : Big cfg g pos R₂ e₂) : R₁ = R₂ ∧ e₁ = e₂ :=
  big_fun h₁ h₂

theorem c01_bigstep_exact (cfg : Cfg) (hgh : cfg.ghost = true) (bodyOf : Nat → G)
    (henv : ∀ g' ∈ cfg.env, Big.InScope bodyOf g') (g : G) (hg : Big.InScope bodyOf g)
    (fuel : Nat) (pos : Nat) (o : Out) (st' : St)
    (h : run cfg fuel g [] pos {} = some (o, st')) (hnc : NoCurtail st'.log) (R : Res) (e : Bool) :
    Big cfg g pos R e ↔ (R = o.res ∧ e = o.err.isSome) := by
  have hb := c01_bigstep cfg hgh bodyOf henv g hg fuel pos o st' h hnc
  constructor
  · intro h2; exact big_functional h2 hb
  · rintro ⟨rfl, rfl⟩; exact hb

theorem c01_bigstep_agree (cfg : Cfg) (hgh : cfg.ghost = true) (bodyOf : Nat → G)
    (henv : ∀ g' ∈ cfg.env, Big.InScope bodyOf g') (g : G) (hg : Big.InScope bodyOf g) (pos : Nat)
    (f₁ f₂ : Nat) (c₁ c₂ : Ctx) (s₁ s₂ : St) (o₁ o₂ : Out) (s₁' s₂' : St)
    (hs₁ : Big.CacheBig cfg bodyOf s₁) (hs₂ : Big.CacheBig cfg bodyOf s₂)
    (h₁ : run cfg f₁ g c₁ pos s₁ = some (o₁, s₁')) (h₂ : run cfg f₂ g c₂ pos s₂ = some (o₂, s₂'))
    (n₁ : NoCurtail s₁'.log) (n₂ : NoCurtail s₂'.log) : o₁.res = o₂.res ∧ o₁.err.isSome = o₂.err.isSome :=
  big_functional (c01_bigstep_from cfg hgh bodyOf henv g hg f₁ c₁ pos s₁ o₁ s₁' hs₁ h₁ n₁).1
    (c01_bigstep_from cfg hgh bodyOf henv g hg f₂ c₂ pos s₂ o₂ s₂' hs₂ h₂ n₂).1

/-- a grammar without Memoize is in scope if it uses LeftTrim only in mode WsSpacesNl -/
def Big.PlainLocal : G → Prop
  | .memo _ _ => False
  | .ltrim _ m => m = .spacesNl
  | _ => True

theorem Big.all_imp {P Q : G → Prop} (hpq : ∀ g, P g → Q g) : ∀ g : G, g.All P → g.All Q :=
  G.All_imp hpq

theorem Big.allList_imp {P Q : G → Prop} (hpq : ∀ g, P g → Q g) : ∀ gs : List G, AllList P gs → AllList Q gs :=
  fun _ h => AllList_iff.mpr fun g hg => G.All_imp hpq g (AllList_iff.mp h g hg)

def Big.Plain (g : G) : Prop := g.All Big.PlainLocal

theorem Big.Plain.inScope {g : G} (h : Big.Plain g) (bodyOf : Nat → G) : Big.InScope bodyOf g :=
  Big.all_imp (fun g hg => by cases g <;> simp_all [Big.PlainLocal, Big.OKLocal]) g h

/-- a grammar without Memoize needs no reason why Memoize is faithful -/
def Big.plainWalk (cfg : Cfg) (henv : ∀ g' ∈ cfg.env, Big.Plain g') : Big.Walk cfg where
  Sc g _ _ := Big.Plain g
  Fr g _ _ := Big.Plain g
  I _ := True
  N _ := True
  K := False
  i_frame _ _ := trivial
  n_grow _ _ := trivial
  ref _ hk := henv _ (List.mem_of_getElem? hk)
  any hg hm := AllList_mem hg.2 _ hm
  choice hg hm := AllList_mem hg.2 _ hm
  wrap hg hw := hg.wrap hw
  ltrim hg := G.All_self hg
  fr_init hg _ := hg
  fr_call hg hs hl := shape_lookup_all hg hs _ _ hl
  fr_next hg _ _ _ _ := hg
  memo := by intro r _ _ i b ctx pos st o st' hg; exact (G.All_self hg).elim

/-- every answering run of a Memoize-free grammar computes `Big`: from any state and any left-recursion context, with the
    ghost log on or off -/
theorem Big.run_plain (cfg : Cfg) (henv : ∀ g' ∈ cfg.env, Big.Plain g') (g : G) (hg : Big.Plain g) (fuel : Nat) (ctx : Ctx)
    (pos : Nat) (st : St) (o : Out) (st' : St) (h : run cfg fuel g ctx pos st = some (o, st')) :
    Big cfg g pos o.res o.err.isSome :=
  ((Big.plainWalk cfg henv).run_ok fuel g ctx pos st o st' hg h trivial trivial).1

/-- **without Memoize the theorem is unconditional**: nothing is ever curtailed, so EVERY run of a
    Memoize-free grammar (any left-recursion context) computes the big-step semantics -/
theorem c01_bigstep_memofree (cfg : Cfg) (hgh : cfg.ghost = true) (henv : ∀ g' ∈ cfg.env, Big.Plain g')
    (g : G) (hg : Big.Plain g) (fuel : Nat) (ctx : Ctx) (pos : Nat) (o : Out) (st' : St)
    (h : run cfg fuel g ctx pos {} = some (o, st')) : Big cfg g pos o.res o.err.isSome :=
  Big.run_plain cfg henv g hg fuel ctx pos {} o st' h

theorem c01_big_derives (cfg : Cfg) (g : G) (pos : Nat) (R : Res) (e : Bool) (h : Big cfg g pos R e) :
    ∀ x ∈ R.alts, Derives cfg g pos x :=
  Big.big_derives h

theorem c01_any_two (cfg : Cfg) (a b : G) (pos : Nat) (R : Res) (e : Bool) :
    Big cfg (.any [a, b]) pos R e ↔
      ∃ Ra ea Rb eb, Big cfg a pos Ra ea ∧ Big cfg b pos Rb eb ∧ R = appendNode Ra Rb ∧
        e = (R.isNil && (ea || eb)) := by
  constructor
  · intro h
    cases h with
    | any h he =>
      cases h with
      | cons ha ht =>
        cases ht with
        | cons hb ht2 =>
          cases ht2
          exact ⟨_, _, _, _, ha, hb, by simp [appendNode], by rw [he]; simp⟩
    | seqfam hs => cases hs
  · rintro ⟨Ra, ea, Rb, eb, ha, hb, rfl, rfl⟩
    refine .any (e := ea || (eb || false)) (.cons ha (.cons hb ?_)) (by simp)
    have : appendNode (appendNode .nil Ra) Rb = appendNode Ra Rb := by simp [appendNode]
    rw [this]
    exact .nil

namespace Big

theorem choice_inv {cfg : Cfg} : ∀ {gs : List G} {pos : Nat} {R : Res} {e : Bool}, BigChoice cfg gs pos R e →
    (R.isNil = false → ∃ gs₁ g gs₂ e0, gs = gs₁ ++ g :: gs₂ ∧ (∀ g' ∈ gs₁, ∃ e', Big cfg g' pos .nil e') ∧
      Big cfg g pos R e0 ∧ e = false) ∧
    (R.isNil = true → ∀ g ∈ gs, ∃ e', Big cfg g pos .nil e') := by
  intro gs
  induction gs with
  | nil => intro pos R e h; cases h; exact ⟨fun h => (nomatch h), fun _ _ hg => (nomatch hg)⟩
  | cons g gs ih =>
    intro pos R e h
    cases h with
    | hit h hn => exact ⟨fun _ => ⟨[], g, gs, _, rfl, (fun _ hg => by cases hg), h, rfl⟩, fun h1 => by rw [hn] at h1; cases h1⟩
    | skip h ht =>
      rename_i e1 e2
      obtain ⟨i1, i2⟩ := ih ht
      refine ⟨fun hn => ?_, fun hn g' hg' => ?_⟩
      · obtain ⟨gs₁, g0, gs₂, e0, rfl, hall, hb, he⟩ := i1 hn
        refine ⟨g :: gs₁, g0, gs₂, e0, rfl, ?_, hb, by rw [hn, he]; rfl⟩
        intro g' hg'
        cases hg' with
        | head => exact ⟨e1, h⟩
        | tail _ hm => exact hall g' hm
      · cases hg' with
        | head => exact ⟨e1, h⟩
        | tail _ hm => exact i2 hn g' hm

theorem choice_intro {cfg : Cfg} {pos : Nat} {g : G} {gs₂ : List G} {R : Res} {e0 : Bool}
    (hb : Big cfg g pos R e0) (hn : R.isNil = false) :
    ∀ gs₁ : List G, (∀ g' ∈ gs₁, ∃ e', Big cfg g' pos .nil e') → BigChoice cfg (gs₁ ++ g :: gs₂) pos R false
  | [], _ => .hit hb hn
  | g1 :: gs₁, hall => by
    obtain ⟨e1, h1⟩ := hall g1 (List.mem_cons_self ..)
    have := BigChoice.skip h1 (choice_intro (gs₂ := gs₂) hb hn gs₁ (fun g' hg' => hall g' (List.mem_cons_of_mem _ hg')))
    simpa [hn] using this

end Big

/-- **Choice returns the result of the first alternative that has one, and nothing of the later ones**:
    a non-nil result of `Choice(gs)` is the exact result of some alternative `g`, every alternative BEFORE `g`
    yields nothing, and the alternatives after `g` play no role. -/
theorem c01_choice_first_match (cfg : Cfg) (gs : List G) (pos : Nat) (R : Res) (e : Bool)
    (h : Big cfg (.choice gs) pos R e) (hn : R.isNil = false) :
    ∃ gs₁ g gs₂ e0, gs = gs₁ ++ g :: gs₂ ∧ (∀ g' ∈ gs₁, ∃ e', Big cfg g' pos .nil e') ∧ Big cfg g pos R e0 ∧
      e = false := by
  cases h with
  | choice h => exact (Big.choice_inv h).1 hn
  | seqfam hs => cases hs

/-- … conversely: if the alternatives before `g` yield nothing and `g` yields `R ≠ nil`, then `Choice` yields
    exactly `R` — WHATEVER the later alternatives `gs₂` are (they need not even have a meaning) -/
theorem c01_choice_first_match_intro (cfg : Cfg) (gs₁ : List G) (g : G) (gs₂ : List G) (pos : Nat) (R : Res) (e0 : Bool)
    (hpre : ∀ g' ∈ gs₁, ∃ e', Big cfg g' pos .nil e') (hb : Big cfg g pos R e0) (hn : R.isNil = false) :
    Big cfg (.choice (gs₁ ++ g :: gs₂)) pos R false :=
  .choice (Big.choice_intro hb hn gs₁ hpre)

theorem c01_choice_none (cfg : Cfg) (gs : List G) (pos : Nat) (e : Bool) (h : Big cfg (.choice gs) pos .nil e) :
    ∀ g ∈ gs, ∃ e', Big cfg g pos .nil e' := by
  cases h with
  | choice h => exact (Big.choice_inv h).2 rfl
  | seqfam hs => cases hs

/-- **the longest-path rule, for every Sequence-family parser** (SeqOf, SeqTry, SeqFirstOrAll, Many, SepBy):
    every returned tree is the tree of a chain of exact element results (`Big.Chain`: each node is an
    alternative of the exact result of its element where the previous node ended) whose length the length
    check accepts and which CANNOT BE EXTENDED (`Big.Blocked`: the next element does not exist or yields
    nothing at the end of the chain).  No proper prefix of an extensible chain is ever returned. -/
theorem c01_seq_longest (cfg : Cfg) (g : G) (sh : SeqShape) (hs : g.shape = some sh) (pos : Nat) (R : Res) (e : Bool)
    (h : Big cfg g pos R e) :
    ∀ x ∈ R.alts, ∃ chain, x = handleResult sh (endOf pos chain) chain ∧ Big.Chain cfg sh 0 pos chain ∧
      sh.lenCheck chain.length = true ∧ Big.Blocked cfg sh chain.length (endOf pos chain) :=
  Big.seqfam_maximal h hs

/-- **Many never returns a proper prefix of a chain it could extend**: at the end of every returned chain
    the item yields nothing (and the chain is non-empty unless the empty match is allowed) -/
theorem c01_many_longest (cfg : Cfg) (g : G) (ae : Bool) (o : SeqOpts) (sh : SeqShape)
    (hs : (G.many g ae o).shape = some sh) (pos : Nat) (R : Res) (e : Bool) (h : Big cfg (.many g ae o) pos R e) :
    ∀ x ∈ R.alts, ∃ chain, x = handleResult sh (endOf pos chain) chain ∧ Big.Chain cfg sh 0 pos chain ∧
      (ae = true ∨ chain ≠ []) ∧ ∃ e', Big cfg g (endOf pos chain) .nil e' := by
  intro x hx
  obtain ⟨chain, h1, h2, h3, h4⟩ := c01_seq_longest cfg _ sh hs pos R e h x hx
  cases hs
  refine ⟨chain, h1, h2, ?_, ?_⟩
  · simp only [Bool.or_eq_true, decide_eq_true_eq] at h3
    cases h3 with
    | inl h => exact .inl h
    | inr h => exact .inr (by intro hc; rw [hc] at h; simp at h)
  · cases h4 with
    | inl h => simp at h
    | inr h =>
      obtain ⟨g', e', hl, hb⟩ := h
      simp only [Option.some.injEq] at hl
      subst hl
      exact ⟨e', hb⟩

/-- **SeqTry**: every returned tree is a chain of 1 … l element results that stops only where it must: at
    the last element, or where the next element yields nothing -/
theorem c01_seqtry_rule (cfg : Cfg) (gs : List G) (o : SeqOpts) (sh : SeqShape)
    (hs : (G.seq .seqTry gs o).shape = some sh) (pos : Nat) (R : Res) (e : Bool)
    (h : Big cfg (.seq .seqTry gs o) pos R e) :
    ∀ x ∈ R.alts, ∃ chain, x = handleResult sh (endOf pos chain) chain ∧ Big.Chain cfg sh 0 pos chain ∧
      0 < chain.length ∧ chain.length ≤ gs.length ∧
      (chain.length = gs.length ∨ ∃ g' e', gs[chain.length]? = some g' ∧ Big cfg g' (endOf pos chain) .nil e') := by
  intro x hx
  obtain ⟨chain, h1, h2, h3, h4⟩ := c01_seq_longest cfg _ sh hs pos R e h x hx
  cases hs
  simp only [Bool.and_eq_true, decide_eq_true_eq] at h3
  refine ⟨chain, h1, h2, h3.1, h3.2, ?_⟩
  cases h4 with
  | inl h =>
    simp only [List.getElem?_eq_none_iff] at h
    exact .inl (by omega)
  | inr h => exact .inr h

/-- **SeqFirstOrAll**: only the first element alone or all elements — and the first alone only if the
    second yields nothing after it (never when the chain could be extended) -/
theorem c01_seqfirstorall_rule (cfg : Cfg) (gs : List G) (o : SeqOpts) (sh : SeqShape)
    (hs : (G.seq .seqFirstOrAll gs o).shape = some sh) (pos : Nat) (R : Res) (e : Bool)
    (h : Big cfg (.seq .seqFirstOrAll gs o) pos R e) :
    ∀ x ∈ R.alts, ∃ chain, x = handleResult sh (endOf pos chain) chain ∧ Big.Chain cfg sh 0 pos chain ∧
      (chain.length = 1 ∨ chain.length = gs.length) ∧
      (gs.length ≤ chain.length ∨ ∃ g' e', gs[chain.length]? = some g' ∧ Big cfg g' (endOf pos chain) .nil e') := by
  intro x hx
  obtain ⟨chain, h1, h2, h3, h4⟩ := c01_seq_longest cfg _ sh hs pos R e h x hx
  cases hs
  simp only [Bool.or_eq_true, beq_iff_eq] at h3
  refine ⟨chain, h1, h2, h3, ?_⟩
  cases h4 with
  | inl h =>
    simp only [List.getElem?_eq_none_iff] at h
    exact .inl h
  | inr h => exact .inr h

/-- **SeqOf**: only full chains -/
theorem c01_seqof_full (cfg : Cfg) (gs : List G) (o : SeqOpts) (sh : SeqShape)
    (hs : (G.seq .seqOf gs o).shape = some sh) (pos : Nat) (R : Res) (e : Bool)
    (h : Big cfg (.seq .seqOf gs o) pos R e) :
    ∀ x ∈ R.alts, ∃ chain, x = handleResult sh (endOf pos chain) chain ∧ Big.Chain cfg sh 0 pos chain ∧
      chain.length = gs.length := by
  intro x hx
  obtain ⟨chain, h1, h2, h3, _⟩ := c01_seq_longest cfg _ sh hs pos R e h x hx
  cases hs
  exact ⟨chain, h1, h2, by simpa using h3⟩

/-- **SepBy never returns a chain that ends with a separator** (odd lengths only, or the empty match), and
    never one that could be extended: after a returned chain `v s v … v` the SEPARATOR yields nothing.
    (Consequence of the two together: on an input with a dangling separator, `v s v s`, the chain `v s v` is
    not returned — it can be extended — and `v s v s` is not returned either — even length: SepBy yields
    nothing there; see `Big.ex_sepBy_dangling`.) -/
theorem c01_sepby_odd (cfg : Cfg) (v s : G) (ae : Bool) (o : SeqOpts) (sh : SeqShape)
    (hs : (G.sepBy v s ae o).shape = some sh) (pos : Nat) (R : Res) (e : Bool)
    (h : Big cfg (.sepBy v s ae o) pos R e) :
    ∀ x ∈ R.alts, ∃ chain, x = handleResult sh (endOf pos chain) chain ∧ Big.Chain cfg sh 0 pos chain ∧
      ((chain = [] ∧ ae = true ∧ ∃ e', Big cfg v pos .nil e') ∨
       (chain.length % 2 = 1 ∧ ∃ e', Big cfg s (endOf pos chain) .nil e')) := by
  intro x hx
  obtain ⟨chain, h1, h2, h3, h4⟩ := c01_seq_longest cfg _ sh hs pos R e h x hx
  cases hs
  refine ⟨chain, h1, h2, ?_⟩
  simp only [Bool.or_eq_true, Bool.and_eq_true, beq_iff_eq] at h3
  cases h4 with
  | inl h => simp only at h; split at h <;> cases h
  | inr h =>
    obtain ⟨g', e', hl, hb⟩ := h
    simp only at hl
    cases h3 with
    | inl h3 =>
      have hc : chain = [] := List.length_eq_zero_iff.mp h3.1
      subst hc
      simp only [List.length_nil, Nat.zero_mod, beq_self_eq_true, ↓reduceIte, Option.some.injEq] at hl
      subst hl
      exact .inl ⟨rfl, h3.2, e', by simpa [endOf] using hb⟩
    | inr h3 =>
      have : (chain.length % 2 == 0) = false := by simp [h3]
      simp only [this, Bool.false_eq_true, ↓reduceIte, Option.some.injEq] at hl
      subst hl
      exact .inr ⟨h3, e', hb⟩

/-! ### Name over Optional (known finding D9), as the semantics sees it -/

/-- when `g` fails with an error, `Optional(g)` yields the empty match NEXT TO that error, and `Name` drops
    it: the exact result of `Name(Optional(g))` is nothing, although its monotone reading derives EMPTY -/
theorem c01_name_drops_optional (cfg : Cfg) (g : G) (nm : Bytes) (pos : Nat) (h : Big cfg g pos .nil true) :
    Big cfg (.name (.optional g) nm) pos .nil true ∧ Derives cfg (.name (.optional g) nm) pos (.empty pos) :=
  ⟨.name (.optional h) rfl rfl, .name .optNone⟩

/-! ### non-vacuity: the rules on concrete grammars

  Each example is obtained TWICE where it is short: from one evaluation of the model through the theorem
  (`Big.of_eval` = `c01_bigstep`), and/or by hand from the rules.  The file starts at offset 1, so "ab"
  occupies positions 1 and 2 and ends at 3.  All of these were replayed on the Go library. -/

namespace Big

def exT (c : Nat) : G := .term (.rune c [34, c, 34])
def exCfg (data : List Nat) (env : List G := []) : Cfg :=
  { env := env, file := { name := "f", data := data, offset := 1 }, fileSet := {},
    params := { floatOk := fun _ => true, durErr := fun _ => none, regexp := fun _ _ => none } }

def exEval (cfg : Cfg) (fuel : Nat) (g : G) (pos : Nat) : Option (Res × Bool × Bool) :=
  (run cfg fuel g [] pos {}).map (fun r => (r.1.res, r.1.err.isSome, decide (NoCurtail r.2.log)))

theorem of_eval {cfg : Cfg} (hgh : cfg.ghost = true) (bodyOf : Nat → G) (henv : ∀ g' ∈ cfg.env, InScope bodyOf g')
    {g : G} (hg : InScope bodyOf g) {fuel pos : Nat} {R : Res} {e : Bool}
    (h : exEval cfg fuel g pos = some (R, e, true)) : Big cfg g pos R e := by
  unfold exEval at h
  cases hr : run cfg fuel g [] pos {} with
  | none => rw [hr] at h; cases h
  | some r =>
    obtain ⟨o, st'⟩ := r
    rw [hr] at h
    simp only [Option.map_some, Option.some.injEq, Prod.mk.injEq, decide_eq_true_eq] at h
    obtain ⟨rfl, rfl, hnc⟩ := h
    exact c01_bigstep cfg hgh bodyOf henv g hg fuel pos o st' hr hnc

theorem of_eval_closed {data : List Nat} {g : G} (hg : InScope (fun _ => .empty) g) {fuel pos : Nat} {R : Res} {e : Bool}
    (h : exEval (exCfg data) fuel g pos = some (R, e, true)) : Big (exCfg data) g pos R e :=
  of_eval rfl _ (by intro g hg; cases hg) hg h

def nA (p : Nat) : Node := .term [97] (.rune 97) p (p + 1)
def nB (p : Nat) : Node := .term [98] (.rune 98) p (p + 1)
def nC (p : Nat) : Node := .term [99] (.rune 99) p (p + 1)
def nComma (p : Nat) : Node := .term [44] (.rune 44) p (p + 1)

/-! #### Choice(a, a b) on "ab": only `a` — first match; Any returns both -/

def exAB : G := .seq .seqOf [exT 97, exT 98] {}

theorem ex_choice_first : Big (exCfg [97, 98]) (.choice [exT 97, exAB]) 1 (.one (nA 1)) false :=
  of_eval_closed (by simp [InScope, G.All, AllList, OKLocal, exT, exAB]) (fuel := 10) (by rfl)

/-- the same by hand: the first alternative matches, the second is not consulted -/
theorem ex_choice_first_by_rules : Big (exCfg [97, 98]) (.choice [exT 97, exAB]) 1 (.one (nA 1)) false :=
  .choice (.hit (.termOk rfl) rfl)

/-- … while the longer match exists: Any returns both, in order -/
theorem ex_any_both : Big (exCfg [97, 98]) (.any [exT 97, exAB]) 1
    (.list [nA 1, .nt seqTok [nA 1, nB 2] 1 3 .none]) false :=
  of_eval_closed (by simp [InScope, G.All, AllList, OKLocal, exT, exAB]) (fuel := 10) (by rfl)

/-- with the alternatives swapped Choice returns the longer one: the ORDER decides, not the length -/
theorem ex_choice_order : Big (exCfg [97, 98]) (.choice [exAB, exT 97]) 1
    (.one (.nt seqTok [nA 1, nB 2] 1 3 .none)) false :=
  of_eval_closed (by simp [InScope, G.All, AllList, OKLocal, exT, exAB]) (fuel := 10) (by rfl)

/-! #### Many(a) on "aaa": only the full chain — no proper prefix -/

theorem ex_many_longest : Big (exCfg [97, 97, 97]) (.many (exT 97) true {}) 1
    (.one (.nt manyTok [nA 1, nA 2, nA 3] 1 4 .none)) false :=
  of_eval_closed (by simp [InScope, G.All, OKLocal, exT]) (fuel := 12) (by rfl)

/-- and by `big_functional` no other result — in particular no shorter chain — is a meaning of Many(a) here -/
theorem ex_many_only (R : Res) (e : Bool) (h : Big (exCfg [97, 97, 97]) (.many (exT 97) true {}) 1 R e) :
    R.alts.map Node.rpos = [4] := by
  obtain ⟨rfl, _⟩ := big_functional h ex_many_longest
  rfl

/-! #### SepBy(a, ',') -/

/-- on "a,a;" the chain `a , a` (odd length; the separator fails after it) -/
theorem ex_sepBy : Big (exCfg [97, 44, 97, 59]) (.sepBy (exT 97) (exT 44) true {}) 1
    (.one (.nt sepByTok [nA 1, nComma 2, nA 3] 1 4 .none)) false :=
  of_eval_closed (by simp [InScope, G.All, OKLocal, exT]) (fuel := 12) (by rfl)

/-- on "a,a," — a dangling separator — NOTHING: `a , a` can be extended by the comma, so it is not emitted
    (longest path), and `a , a ,` has even length.  SepBy does not "stop before the dangling comma". -/
theorem ex_sepBy_dangling : Big (exCfg [97, 44, 97, 44]) (.sepBy (exT 97) (exT 44) true {}) 1 .nil true :=
  of_eval_closed (by simp [InScope, G.All, OKLocal, exT]) (fuel := 12) (by rfl)

/-! #### SeqFirstOrAll(a, b, c): length 1 or 3, and length 1 only if `b` fails -/

def exABC (k : SeqKind) : G := .seq k [exT 97, exT 98, exT 99] {}

theorem ex_firstOrAll_all : Big (exCfg [97, 98, 99]) (exABC .seqFirstOrAll) 1
    (.one (.nt seqTok [nA 1, nB 2, nC 3] 1 4 .none)) false :=
  of_eval_closed (by simp [InScope, G.All, AllList, OKLocal, exT, exABC]) (fuel := 12) (by rfl)

theorem ex_firstOrAll_first : Big (exCfg [97, 120]) (exABC .seqFirstOrAll) 1
    (.one (.nt seqTok [nA 1] 1 2 .none)) false :=
  of_eval_closed (by simp [InScope, G.All, AllList, OKLocal, exT, exABC]) (fuel := 12) (by rfl)

/-- FINDING (documentation vs code): on "abx" the first element matches and not all do, and the result is
    NOTHING — the chain `a b` is the longest path, its length 2 is rejected, and the shorter chain `a` is not
    emitted because it could be extended.  The doc comment of SeqFirstOrAll ("If it can't match all parsers,
    but it can match the first one it will return with the result of the first one") promises `a` here; the
    documentation of `Seq` ("lenCheck should return true if the longest possible match is valid"), from
    which `Big` is written, and the code agree with each other. -/
theorem ex_firstOrAll_neither : Big (exCfg [97, 98, 120]) (exABC .seqFirstOrAll) 1 .nil true :=
  of_eval_closed (by simp [InScope, G.All, AllList, OKLocal, exT, exABC]) (fuel := 12) (by rfl)

/-- SeqTry on the same input returns `a b` — and only that, not `a` -/
theorem ex_seqTry : Big (exCfg [97, 98, 120]) (exABC .seqTry) 1
    (.one (.nt seqTok [nA 1, nB 2] 1 3 .none)) false :=
  of_eval_closed (by simp [InScope, G.All, AllList, OKLocal, exT, exABC]) (fuel := 12) (by rfl)

/-! #### with Memoize: the second use of the rule at the same position is a cache hit -/

def exMemoEnv : List G := [.memo 0 (exT 97)]
def exMemoG : G := .any [.seq .seqOf [.ref 0, exT 98] {}, .seq .seqOf [.ref 0, exT 99] {}]

theorem ex_memo_hit : Big (exCfg [97, 99] exMemoEnv) exMemoG 1 (.one (.nt seqTok [nA 1, nC 2] 1 3 .none)) false :=
  of_eval rfl (fun _ => exT 97)
    (by intro g hg; simp only [exCfg, exMemoEnv, List.mem_singleton] at hg; subst hg
        simp [InScope, G.All, OKLocal, exT])
    (by simp [InScope, G.All, AllList, OKLocal, exT, exMemoG]) (fuel := 12) (by rfl)

/-- the log of that run: one body, one hit, no curtailment -/
example : (run (exCfg [97, 99] exMemoEnv) 12 exMemoG [] 1 {}).map (fun r => (bodyRuns r.2.log 0 1, decide (NoCurtail r.2.log)))
    = some (1, true) := by decide +kernel

/-! #### left recursion is outside `Big` — and outside the hypothesis: every such run curtails -/

def exLR : G := .seq .seqOf [.ref 0, exT 98] {}
def exLRBody : G := .any [exLR, exT 97]
/-- `P → P b | a` on "abb" (C01's example) -/
def exLRCfg : Cfg := exCfg [97, 98, 98] [.memo 0 exLRBody]

/-- the run curtails, so `c01_bigstep` does not speak about it (C01 / C01C do: three trees) … -/
example : (run exLRCfg 40 (.ref 0) [] 1 {}).map (fun r => (r.1.res.alts.map Node.rpos, decide (NoCurtail r.2.log)))
    = some ([4, 3, 2], false) := by decide +kernel

theorem ex_lr_all :
    (∀ g pos R e, Big exLRCfg g pos R e → (g = .ref 0 ∨ g = .memo 0 exLRBody ∨ g = exLRBody ∨ g = exLR) → False) ∧
    (∀ gs pos acc R e, BigAny exLRCfg gs pos acc R e → (∃ rest, gs = exLR :: rest) → False) ∧
    (∀ gs pos R e, BigChoice exLRCfg gs pos R e → True) ∧
    (∀ sh depth nodes pos em stop e, BigSeq exLRCfg sh depth nodes pos em stop e →
      (depth = 0 ∧ sh.lookup 0 = some (.ref 0)) → False) ∧
    (∀ sh depth nodes alts em stop e, BigAlts exLRCfg sh depth nodes alts em stop e → True) := by
  apply Big.induction
  case ref =>
    intro k g pos R e hk _ ih hg
    have h0 : k = 0 := by rcases hg with hg | hg | hg | hg <;> cases hg; rfl
    subst h0
    simp only [exLRCfg, exCfg, List.getElem?_cons_zero, Option.some.injEq] at hk
    exact ih (.inr (.inl hk.symm))
  case refNone =>
    intro k pos hk hg
    have h0 : k = 0 := by rcases hg with hg | hg | hg | hg <;> cases hg; rfl
    subst h0
    simp [exLRCfg, exCfg] at hk
  case memo =>
    intro i g pos R e _ ih hg
    have h0 : g = exLRBody := by rcases hg with hg | hg | hg | hg <;> cases hg; rfl
    exact ih (.inr (.inr (.inl h0)))
  case any =>
    intro gs pos R e e' _ _ ih hg
    have h0 : gs = [exLR, exT 97] := by rcases hg with hg | hg | hg | hg <;> cases hg; rfl
    exact ih ⟨_, h0⟩
  case seqfam =>
    intro g sh pos em stop e R e' hs _ _ _ ih hg
    rcases hg with hg | hg | hg | hg
    · subst hg; cases hs
    · subst hg; cases hs
    · subst hg; cases hs
    · subst hg
      have hl : sh.lookup 0 = some (.ref 0) := by
        simp only [exLR, G.shape, Option.some.injEq] at hs
        rw [← hs]; rfl
      exact ih ⟨rfl, hl⟩
  case anyNil => intro pos acc hg; obtain ⟨_, hg⟩ := hg; cases hg
  case anyCons =>
    intro g gs pos acc R1 e1 R e2 _ _ ih _ hg
    obtain ⟨rest, hg⟩ := hg
    injection hg with h1 _
    exact ih (.inr (.inr (.inr h1)))
  case last => intro sh depth nodes pos hl hd; rw [hd.1, hd.2] at hl; cases hl
  case fail =>
    intro sh depth nodes pos g e hl _ ih hd
    rw [hd.1, hd.2] at hl
    injection hl with hl
    exact ih (.inl hl.symm)
  case step =>
    intro sh depth nodes pos g R e1 em stop e2 hl _ _ _ ih _ hd
    rw [hd.1, hd.2] at hl
    injection hl with hl
    exact ih (.inl hl.symm)
  case choiceNil | hit | skip | altsNil | stop | next => intros; exact True.intro
  -- the remaining rules are about a parser that is none of the four
  all_goals intros; rename_i hg; rcases hg with hg | hg | hg | hg <;> cases hg

theorem ex_lr_any : ∀ {gs : List G} {pos : Nat} {acc R : Res} {e : Bool}, BigAny exLRCfg gs pos acc R e →
    (∃ rest, gs = exLR :: rest) → False :=
  fun h => ex_lr_all.2.1 _ _ _ _ _ h

theorem ex_lr_seq : ∀ {sh : SeqShape} {depth : Nat} {nodes : List Node} {pos : Nat} {em : List Node} {stop e : Bool},
    BigSeq exLRCfg sh depth nodes pos em stop e → (depth = 0 ∧ sh.lookup 0 = some (.ref 0)) → False :=
  fun h => ex_lr_all.2.2.2.1 _ _ _ _ _ _ _ h

/-- … and `P` has NO big-step meaning (at any position): a derivation of `Big (ref 0)` would contain a
    strictly smaller derivation of `Big (ref 0)` at the same position (through the first element of `P b`) -/
theorem ex_leftrec_no_meaning (pos : Nat) (R : Res) (e : Bool) : ¬ Big exLRCfg (.ref 0) pos R e :=
  fun h => ex_lr_all.1 _ _ _ _ h (.inl rfl)

end Big

end PV
