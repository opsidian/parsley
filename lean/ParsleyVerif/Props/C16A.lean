/-
  C16, the CONVERSE of the full value theorem (Props/C16V.lean) — "the example JSON parser accepts NOTHING ELSE":
  the byte-level reject statement (Props/C16.lean has the partial form `c16_reject_partial`, which does not say
  which byte strings are rejected).

  The language.  `JLang P data` (Spec/J16AccLang.lean): `data = lead ++ d.render ++ trail` for a document `d :
  AccDoc` with `d.OK P`, between whitespace of the class `WsNlF`; `data` is `cfg.file.data`, the bytes AFTER text.NewFile's
  CR LF → LF (`normCRLF`): the raw text `[1,\r\n2]` is accepted, a lone CR is not.  It is the EXACT language of
  `Sentence(Trim(value))` over `Gjson` and it is LARGER than the supported subset (`JV.Supported` of
  Spec/JsonRender.lean) — the list of the extra forms is the list of places where the example parser is more
  liberal than encoding/json (`c16_supported_in_lang`: ⊇; `c16_more_liberal`: ≠):

    1. FORM FEED (0x0C) is whitespace wherever LF is (before values, keys, closers, around the document);
    2. integers `[-+]?(?:[1-9][0-9]*|0[xX][0-9a-fA-F]+|0[0-7]*)` in int64 range: a `+` sign, hexadecimal,
       leading zeros read as OCTAL (`017` = 15, `00`, `-0`);
    3. floats `[-+]?[0-9]*\.[0-9]+(?:[eE][-+]?[0-9]+)?`: a `+` sign, no integer part (`.5`), leading zeros
       (`007.5`) — but still no `1e5`, `1.`;
    4. strings (`IsStrElem`): raw control characters other than CR / LF (TAB, NUL, …), `\a`, `\v`, `\xHH` (the
       CODE POINT U+00HH: `"\x80"` is the two bytes C2 80), `\UHHHHHHHH`, octal `\ooo` — but still no `\/`, no
       `\'`, no surrogate escapes, no invalid UTF-8;
    (nothing else: `true false null`, `[ ]`, `{ }`, `,`, `:` as in JSON; no LF / FF before `,` and `:`).

  PROVED (every configuration with the grammar's rules, a file at ANY base offset ≥ 1, any fuel): when `parse` returns a
  node, every returned tree is `Sentence[rootTree …, EOF]` of a document of the language whose rendering IS the file's data
  and denotes the document's value (`c16_accepts_only_renderings`, no hypothesis on the work budget); without a work budget
  it is exactly that ONE tree and `evaluate` answers `denote d.val` (`c16_accepted_tree`, `c16_accepted_value`); the FORWARD
  direction holds for every document of the language, not only for `JV.Supported` (`c16_parse_acc`, `c16_value_acc`);
  hence `c16_accept_iff`, and outside the language every answer is an error (`c16_rejects_outside`).  The supported subset
  is inside the language, strictly (`c16_supported_in_lang`; `c16_more_liberal`: by the witness `+1`).  Non-vacuity: concrete
  documents in / outside the language, proved from the DEFINITION of the language (not by running the model), the theorems
  applied to them, and `#guard` cross-checks of the model labelled as tests.

  Route.  (1) `J16Acc.run_soundW` (Proofs/J16AccSound.lean): a refinement of C01's soundness for grammars
  without Memoize / Optional — every returned tree is a `DerivesW` derivation, whose LeftTrim rule records that
  the skipped whitespace is acceptable in the trim's mode (C01's `Derives` is the monotone reading and drops
  that: with it `[1<LF>,2]` could not be excluded).  (2) inversion of `DerivesW` over the closed term `Gjson`
  (Proofs/J16AccInv.lean), the terminals through C08's byte specifications.  (3) the forward direction for the
  exact class (Proofs/J16AccFwd.lean) and fuel monotonicity give the uniqueness of the returned tree.
-/
import ParsleyVerif.Proofs.J16AccInv
import ParsleyVerif.Proofs.J16AccEx
import ParsleyVerif.Props.C16V
import ParsleyVerif.Proofs.Reads
namespace PV
open PV.Text

/-! ### the grammar is within the scope of the refined soundness theorem: no Memoize, no Optional -/

theorem c16_grammar_strict : (∀ g' ∈ Gjson.env, J16Acc.Strict g') ∧ J16Acc.Strict Gjson.root := by
  refine ⟨?_, ?_⟩
  · intro g' hg'
    simp only [Gjson.env, List.mem_cons, List.not_mem_nil, or_false] at hg'
    subst hg'
    simp [J16Acc.Strict, G.All, AllList, J16Acc.StrictLocal, Gjson.valueRule, Gjson.alts, Gjson.array, Gjson.object,
      Gjson.elems, Gjson.members, Gjson.keyValue, Gjson.comma, Gjson.value, Gjson.rn]
  · simp [J16Acc.Strict, G.All, AllList, J16Acc.StrictLocal, Gjson.root, G.sentence]

/-- **C16, the converse**: if `parse` returns a node, EVERY returned tree is `Sentence[rootTree …, EOF]` for a
    document `d` of the accepted language, the file's data is exactly `lead ++ d.render ++ trail`, and the tree
    denotes `d.val`.  Any fuel, any work budget, any parameters. -/
theorem c16_accepts_only_renderings (cfg : Cfg) (henv : cfg.env = Gjson.env) (hoff : 1 ≤ cfg.file.offset)
    (fuel : Nat) (p : ParseOut) (h : parse cfg fuel Gjson.root = some p) (hok : p.err = none) :
    p.res.alts ≠ [] ∧
    ∀ x ∈ p.res.alts, ∃ lead d trail, WsNlF lead ∧ WsNlF trail ∧ AccDoc.OK cfg.params d ∧
      cfg.file.data = renderAcc lead d trail ∧
      x = sentenceNode (J16Acc.rootTree cfg.file.offset lead d trail) ∧
      jvalOf (J16Acc.rootTree cfg.file.offset lead d trail) = some d.val := by
  refine ⟨?_, ?_⟩
  · rcases c04_xor cfg fuel _ {} p h with h1 | h1
    · exact parse_sentence_alts_ne cfg _ fuel p h h1.2.2
    · rw [hok] at h1; simp at h1
  · intro x hx
    have hstrict : ∀ g' ∈ cfg.env, J16Acc.Strict g' := by rw [henv]; exact c16_grammar_strict.1
    have hd := J16Acc.parse_soundW cfg (J16Acc.jR cfg) (J16Acc.jR_closed hoff henv) hstrict fuel Gjson.root
      c16_grammar_strict.2 {} p h x hx
    obtain ⟨lead, d, trail, h1, h2, h3, h4, h5⟩ := J16Acc.root_inv hoff hd
    exact ⟨lead, d, trail, h1, h2, h3, h4, h5, J16Acc.jval_rootTree _ _ _ _⟩

/-- **C16, the parse, exact class**: on every document of the language `parse` returns exactly
    `Sentence[rootTree …, EOF]`, for all sufficiently large fuel (extends `c16_parse_full`) -/
theorem c16_parse_acc (cfg : Cfg) (henv : cfg.env = Gjson.env) (hmc : cfg.maxCalls = 0) (hoff : 1 ≤ cfg.file.offset)
    (lead : Bytes) (d : AccDoc) (trail : Bytes) (hd : d.OK cfg.params) (hlead : WsNlF lead) (htrail : WsNlF trail)
    (hdata : cfg.file.data = renderAcc lead d trail) :
    ∃ F, ∀ fuel, F ≤ fuel → ∃ st, parse cfg fuel Gjson.root =
      some { res := .one (sentenceNode (J16Acc.rootTree cfg.file.offset lead d trail)), err := none, msg := none, st := st } :=
  J16.parse_of_succ (J16Acc.root_ok ⟨henv, hmc, hoff⟩ lead d trail hd hlead htrail hdata)

/-- **C16, the value, exact class**: `evaluate` answers the value the document denotes (extends `c16_value_full`) -/
theorem c16_value_acc (cfg : Cfg) (henv : cfg.env = Gjson.env) (hmc : cfg.maxCalls = 0) (hoff : 1 ≤ cfg.file.offset)
    (lead : Bytes) (d : AccDoc) (trail : Bytes) (hd : d.OK cfg.params) (hlead : WsNlF lead) (htrail : WsNlF trail)
    (hdata : cfg.file.data = renderAcc lead d trail) (ce : CustomEval) :
    ∃ F, ∀ fuel, F ≤ fuel → evaluate cfg ce fuel Gjson.root = some (.value (denote d.val)) :=
  J16.evaluate_of_succ henv ce (J16Acc.jval_rootTree _ lead d trail)
    (J16Acc.root_ok ⟨henv, hmc, hoff⟩ lead d trail hd hlead htrail hdata)

/-- **C16, the converse, with the tree**: (no work budget) if `parse` returns a node then the file's data is the
    rendering of a document of the language and `parse` returned exactly the ONE tree `Sentence[rootTree …, EOF]` -/
theorem c16_accepted_tree (cfg : Cfg) (henv : cfg.env = Gjson.env) (hmc : cfg.maxCalls = 0) (hoff : 1 ≤ cfg.file.offset)
    (fuel : Nat) (p : ParseOut) (h : parse cfg fuel Gjson.root = some p) (hok : p.err = none) :
    ∃ lead d trail, WsNlF lead ∧ WsNlF trail ∧ AccDoc.OK cfg.params d ∧ cfg.file.data = renderAcc lead d trail ∧
      p.res = .one (sentenceNode (J16Acc.rootTree cfg.file.offset lead d trail)) ∧ p.msg = none ∧
      jvalOf (J16Acc.rootTree cfg.file.offset lead d trail) = some d.val := by
  obtain ⟨hne, hall⟩ := c16_accepts_only_renderings cfg henv hoff fuel p h hok
  obtain ⟨x, hx⟩ := List.exists_mem_of_ne_nil _ hne
  obtain ⟨lead, d, trail, h1, h2, h3, h4, _, h6⟩ := hall x hx
  obtain ⟨F, hF⟩ := c16_parse_acc cfg henv hmc hoff lead d trail h3 h1 h2 h4
  obtain ⟨st, hbig⟩ := hF (max F fuel) (Nat.le_max_left _ _)
  have hmono := parse_mono cfg fuel (max F fuel) (Nat.le_max_right _ _) Gjson.root {} p h
  rw [hbig] at hmono
  cases hmono
  exact ⟨lead, d, trail, h1, h2, h3, h4, rfl, rfl, h6⟩

/-- … and `evaluate` answers the value that document denotes (for every fuel above the tree's depth) -/
theorem c16_accepted_value (cfg : Cfg) (henv : cfg.env = Gjson.env) (hmc : cfg.maxCalls = 0) (hoff : 1 ≤ cfg.file.offset)
    (fuel : Nat) (p : ParseOut) (h : parse cfg fuel Gjson.root = some p) (hok : p.err = none) (ce : CustomEval) :
    ∃ lead d trail, WsNlF lead ∧ WsNlF trail ∧ AccDoc.OK cfg.params d ∧ cfg.file.data = renderAcc lead d trail ∧
      ((J16Acc.rootTree cfg.file.offset lead d trail).depth + 2 ≤ fuel →
        evaluate cfg ce fuel Gjson.root = some (.value (denote d.val))) := by
  obtain ⟨lead, d, trail, h1, h2, h3, h4, h5, h6, h7⟩ := c16_accepted_tree cfg henv hmc hoff fuel p h hok
  exact ⟨lead, d, trail, h1, h2, h3, h4, fun hfuel => J16.evaluate_of_parse henv ce h7 hfuel h h5 h6⟩

theorem json_sound (cfg : Cfg) (henv : cfg.env = Gjson.env) (hoff : 1 ≤ cfg.file.offset) (fuel : Nat) (p : ParseOut)
    (h : parse cfg fuel Gjson.root = some p) (hok : p.err = none) : JLang cfg.params cfg.file.data := by
  obtain ⟨hne, hall⟩ := c16_accepts_only_renderings cfg henv hoff fuel p h hok
  obtain ⟨x, hx⟩ := List.exists_mem_of_ne_nil _ hne
  obtain ⟨lead, d, trail, h1, h2, h3, h4, _⟩ := hall x hx
  exact ⟨lead, d, trail, h1, h2, h3, h4⟩

theorem json_reads (cfg : Cfg) (henv : cfg.env = Gjson.env) (hmc : cfg.maxCalls = 0) (hoff : 1 ≤ cfg.file.offset) :
    Reads cfg Gjson.root (JLang cfg.params cfg.file.data) where
  sound := json_sound cfg henv hoff
  complete := fun ⟨lead, d, trail, h1, h2, h3, h4⟩ => by
    obtain ⟨F, hF⟩ := c16_parse_acc cfg henv hmc hoff lead d trail h3 h1 h2 h4
    obtain ⟨st, hp⟩ := hF F (Nat.le_refl _)
    exact ⟨F, _, hp, rfl⟩

/-- **C16, the language of the example parser**: it accepts an input iff the input is in `JLang` -/
theorem c16_accept_iff (cfg : Cfg) (henv : cfg.env = Gjson.env) (hmc : cfg.maxCalls = 0) (hoff : 1 ≤ cfg.file.offset) :
    (∃ fuel p, parse cfg fuel Gjson.root = some p ∧ p.err = none) ↔ JLang cfg.params cfg.file.data :=
  (json_reads cfg henv hmc hoff).accept_iff

/-- **C16 reject**: an input outside the language is rejected — whenever `parse` answers, it answers an error
    (no node, an error, its message).  Any fuel, any work budget. -/
theorem c16_rejects_outside (cfg : Cfg) (henv : cfg.env = Gjson.env) (hoff : 1 ≤ cfg.file.offset)
    (hout : ¬ JLang cfg.params cfg.file.data) (fuel : Nat) (p : ParseOut) (h : parse cfg fuel Gjson.root = some p) :
    p.res.isNil = true ∧ p.err.isSome ∧ p.msg.isSome :=
  rejects_of_sound (json_sound cfg henv hoff) hout fuel p h

/-- … and `evaluate` answers that error: never a value, never a panic -/
theorem c16_evaluate_rejects (cfg : Cfg) (henv : cfg.env = Gjson.env) (hoff : 1 ≤ cfg.file.offset)
    (hout : ¬ JLang cfg.params cfg.file.data) (ce : CustomEval) (fuel : Nat) (out : EvaluateOut)
    (h : evaluate cfg ce fuel Gjson.root = some out) : ∃ m, out = .error m := by
  obtain ⟨p, hp, hc⟩ := c16_evaluate cfg henv ce fuel out h
  have hrej := c16_rejects_outside cfg henv hoff hout fuel p hp
  rcases hc with ⟨m, _, h1⟩ | ⟨hm, _⟩ | ⟨hm, _⟩
  · exact ⟨m, h1⟩
  · rw [hm] at hrej; simp at hrej
  · rw [hm] at hrej; simp at hrej


/-- every rendering of the supported subset (Props/C16V.lean) is in the language: the document itself, read as a
    document of the language (`JDoc.toAcc`, Proofs/J16Doc.lean) -/
theorem c16_supported_in_lang (P : Params) (lead : Bytes) (v : JV) (l : Layout) (trail : Bytes) (hv : v.Supported)
    (hl : l.Adm) (hlead : WsNl lead) (htrail : WsNl trail) (hf : v.FloatsOk P) : JLang P (renderJ lead v l trail) :=
  ⟨lead, (v.decorate l).toAcc, trail, J16Acc.wsNl_wsNlF hlead, J16Acc.wsNl_wsNlF htrail,
    J16.toAcc_ok P _ (J16.decorate_ok v l hv hl) (J16.decorate_floats P v l hf),
    by rw [renderJ, renderDoc, renderAcc, J16.toAcc_render]⟩

namespace J16Acc

theorem jdoc_head_ne_plus : ∀ (d : JDoc), d.OK → ∃ c t, d.render = c :: t ∧ c ≠ 43
  | .null, _ => ⟨110, _, rfl, by omega⟩
  | .bool true, _ => ⟨116, _, rfl, by omega⟩
  | .bool false, _ => ⟨102, _, rfl, by omega⟩
  | .int i, _ => by
    obtain ⟨c, r, hcr, hc⟩ := J16.int_head i
    exact ⟨c, r, hcr, by omega⟩
  | .dec x, hd => by
    obtain ⟨c, r, hcr, hc⟩ := J16.dec_head x hd
    exact ⟨c, r, hcr, by omega⟩
  | .str _, _ => ⟨34, _, rfl, by omega⟩
  | .arr .nil _, _ => ⟨91, _, rfl, by omega⟩
  | .arr (.cons _ _ _ _) _, _ => ⟨91, _, rfl, by omega⟩
  | .obj .nil _, _ => ⟨123, _, rfl, by omega⟩
  | .obj (.cons _ _ _ _ _ _ _) _, _ => ⟨123, _, rfl, by omega⟩

end J16Acc

/-- **the example parser is more liberal than the supported subset**: `+1` is in its language (it evaluates to the
    integer 1: `c16_ex_plus1_value`) and is not the rendering of any supported value (encoding/json rejects it) -/
theorem c16_more_liberal (P : Params) :
    JLang P [43, 49] ∧
    ¬ ∃ lead v l trail, WsNl lead ∧ JV.Supported v ∧ Layout.Adm l ∧ [43, 49] = renderJ lead v l trail := by
  refine ⟨⟨[], .lit (.int [43, 49]), [], J16Acc.wsNlF_nil, J16Acc.wsNlF_nil, ⟨by unfold Lang.IsInt; decide, by decide, by decide⟩, rfl⟩, ?_⟩
  rintro ⟨lead, v, l, trail, hlead, hv, hl, he⟩
  obtain ⟨c, t, hct, hc⟩ := J16Acc.jdoc_head_ne_plus _ (J16.decorate_ok v l hv hl)
  simp only [renderJ, renderDoc, hct] at he
  cases lead with
  | nil =>
    simp only [List.nil_append, List.cons_append, List.cons.injEq] at he
    exact hc he.1.symm
  | cons b r =>
    simp only [List.cons_append, List.cons.injEq] at he
    have := hlead b (by simp)
    omega


/-! ### non-vacuity

    Membership / non-membership in the language is proved from its definition (Proofs/J16AccEx.lean); the
    theorems above are then applied to the configuration of Props/C16.lean (`nvJsonCfg`: the bytes handed to
    text.NewFile, the file added to a fresh file set, a ParseFloat that accepts everything).  The `#guard` lines at
    the end RUN the model on the same inputs: they are tests, not proofs. -/

/-- the parameters of `nvJsonCfg` -/
def c16_P : Params := { floatOk := fun _ => true, durErr := fun _ => none, regexp := fun _ _ => none }

/-- a document of the SUPPORTED subset is in the language: ` [1, 2.5 ,"x\n",true]` (Props/C16V.lean) -/
theorem c16_ex_supported_in :
    JLang c16_P [32, 91, 49, 44, 32, 50, 46, 53, 32, 44, 34, 120, 92, 110, 34, 44, 116, 114, 117, 101, 93] := by
  have h := c16_supported_in_lang c16_P [32] j16_exV j16_exL [] j16_ex_supported.1 j16_ex_supported.2.1
    j16_ex_supported.2.2.1 j16_ex_supported.2.2.2 (by simp [j16_exV, JV.FloatsOk, JVs.FloatsOk, c16_P])
  rwa [j16_ex_render] at h

/-- forms OUTSIDE the supported subset that are in the language, with the values the parser computes:
    `0x1F` is 31 -/
theorem c16_ex_hex_value (ce : CustomEval) :
    ∃ F, ∀ fuel, F ≤ fuel → evaluate (nvJsonCfg [48, 120, 49, 70]) ce fuel Gjson.root = some (.value (.int 31)) :=
  c16_value_acc (nvJsonCfg [48, 120, 49, 70]) rfl rfl (Nat.le_refl 1) [] (.lit (.int [48, 120, 49, 70])) []
    ⟨J16Acc.isInt_dec (by decide), by decide, by decide⟩ J16Acc.wsNlF_nil J16Acc.wsNlF_nil rfl ce

/-- `017` is 15 (a leading zero means OCTAL; encoding/json rejects the document) -/
theorem c16_ex_octal_value (ce : CustomEval) :
    ∃ F, ∀ fuel, F ≤ fuel → evaluate (nvJsonCfg [48, 49, 55]) ce fuel Gjson.root = some (.value (.int 15)) :=
  c16_value_acc (nvJsonCfg [48, 49, 55]) rfl rfl (Nat.le_refl 1) [] (.lit (.int [48, 49, 55])) []
    ⟨J16Acc.isInt_dec (by decide), by decide, by decide⟩ J16Acc.wsNlF_nil J16Acc.wsNlF_nil rfl ce

/-- `+1` is 1 -/
theorem c16_ex_plus1_value (ce : CustomEval) :
    ∃ F, ∀ fuel, F ≤ fuel → evaluate (nvJsonCfg [43, 49]) ce fuel Gjson.root = some (.value (.int 1)) :=
  c16_value_acc (nvJsonCfg [43, 49]) rfl rfl (Nat.le_refl 1) [] (.lit (.int [43, 49])) []
    ⟨J16Acc.isInt_dec (by decide), by decide, by decide⟩ J16Acc.wsNlF_nil J16Acc.wsNlF_nil rfl ce

/-- `-.5e3` is the float with that lexeme -/
theorem c16_ex_float_value (ce : CustomEval) :
    ∃ F, ∀ fuel, F ≤ fuel →
      evaluate (nvJsonCfg [45, 46, 53, 101, 51]) ce fuel Gjson.root = some (.value (.float [45, 46, 53, 101, 51])) :=
  c16_value_acc (nvJsonCfg [45, 46, 53, 101, 51]) rfl rfl (Nat.le_refl 1) [] (.lit (.flt [45, 46, 53, 101, 51])) []
    ⟨J16Acc.isFloat_dec (by decide), rfl⟩ J16Acc.wsNlF_nil J16Acc.wsNlF_nil rfl ce

/-- `"\x41\a<TAB>"` is the string `A`, BEL, TAB -/
theorem c16_ex_str_value (ce : CustomEval) :
    ∃ F, ∀ fuel, F ≤ fuel →
      evaluate (nvJsonCfg [34, 92, 120, 52, 49, 92, 97, 9, 34]) ce fuel Gjson.root = some (.value (.str [65, 7, 9])) :=
  c16_value_acc (nvJsonCfg [34, 92, 120, 52, 49, 92, 97, 9, 34]) rfl rfl (Nat.le_refl 1) []
    (.lit (.str [92, 120, 52, 49, 92, 97, 9] [65, 7, 9])) [] J16Acc.ex_body J16Acc.wsNlF_nil J16Acc.wsNlF_nil rfl ce

/-- `[1,<FF>2]`: the form feed is whitespace -/
theorem c16_ex_ff_value (ce : CustomEval) :
    ∃ F, ∀ fuel, F ≤ fuel →
      evaluate (nvJsonCfg [91, 49, 44, 12, 50, 93]) ce fuel Gjson.root = some (.value (.arr [.int 1, .int 2])) := by
  have h := c16_value_acc (nvJsonCfg [91, 49, 44, 12, 50, 93]) rfl rfl (Nat.le_refl 1) [] J16Acc.exFFDoc []
    (J16Acc.ex_ff_ok _) J16Acc.wsNlF_nil J16Acc.wsNlF_nil rfl ce
  have hd : denote J16Acc.exFFDoc.val = .arr [.int 1, .int 2] := by
    have e1 : Lang.intValue [49] = 1 := by decide
    have e2 : Lang.intValue [50] = 2 := by decide
    simp only [J16Acc.exFFDoc, AccDoc.val, AccItems.vals, AccLit.jval, denote, denoteList, e1, e2]
  rwa [hd] at h

/-- OUTSIDE the language ⟹ an error, for every fuel for which `parse` answers: `[1,]` -/
theorem c16_ex_trailing_comma_rejected (fuel : Nat) (p : ParseOut)
    (h : parse (nvJsonCfg [91, 49, 44, 93]) fuel Gjson.root = some p) : p.res.isNil = true ∧ p.err.isSome ∧ p.msg.isSome :=
  c16_rejects_outside (nvJsonCfg [91, 49, 44, 93]) rfl (Nat.le_refl 1) (J16Acc.ex_trailing_comma_out _) fuel p h

/-- `1e5` (a float needs a fraction) -/
theorem c16_ex_1e5_rejected (fuel : Nat) (p : ParseOut)
    (h : parse (nvJsonCfg [49, 101, 53]) fuel Gjson.root = some p) : p.res.isNil = true ∧ p.err.isSome ∧ p.msg.isSome :=
  c16_rejects_outside (nvJsonCfg [49, 101, 53]) rfl (Nat.le_refl 1) (J16Acc.ex_1e5_out _) fuel p h

/-- `[1<LF>,2]` (no line break before `,`) is rejected although `[1,<LF>2]` is in the language: the whitespace modes
    are part of the language — this is what C01's monotone `Derives` cannot see -/
theorem c16_ex_nl_before_comma_rejected (fuel : Nat) (p : ParseOut)
    (h : parse (nvJsonCfg [91, 49, 10, 44, 50, 93]) fuel Gjson.root = some p) :
    p.res.isNil = true ∧ p.err.isSome ∧ p.msg.isSome :=
  c16_rejects_outside (nvJsonCfg [91, 49, 10, 44, 50, 93]) rfl (Nat.le_refl 1) (J16Acc.ex_nl_before_comma_out _) fuel p h

theorem c16_ex_nl_after_comma_in : JLang c16_P [91, 49, 44, 10, 50, 93] := J16Acc.ex_nl_after_comma _

/-- `{"a" 1}` (the colon is missing) -/
theorem c16_ex_missing_colon_rejected (fuel : Nat) (p : ParseOut)
    (h : parse (nvJsonCfg [123, 34, 97, 34, 32, 49, 125]) fuel Gjson.root = some p) :
    p.res.isNil = true ∧ p.err.isSome ∧ p.msg.isSome :=
  c16_rejects_outside (nvJsonCfg [123, 34, 97, 34, 32, 49, 125]) rfl (Nat.le_refl 1) (J16Acc.ex_missing_colon_out _) fuel p h

/-- `"\q"` (not an escape of the table); `evaluate` answers an error for every custom-interpreter table -/
theorem c16_ex_bad_escape_rejected (ce : CustomEval) (fuel : Nat) (out : EvaluateOut)
    (h : evaluate (nvJsonCfg [34, 92, 113, 34]) ce fuel Gjson.root = some out) : ∃ m, out = .error m :=
  c16_evaluate_rejects (nvJsonCfg [34, 92, 113, 34]) rfl (Nat.le_refl 1) (J16Acc.ex_bad_escape_out _) ce fuel out h

/-! #### TESTS (the model is RUN on the inputs above; cross-checks, not proofs) -/

def c16_isErr (o : Option EvaluateOut) : Bool := match o with | some (.error _) => true | _ => false

#guard outIsValue (evaluate (nvJsonCfg [48, 120, 49, 70]) noCustom 1000 Gjson.root) (.int 31)
#guard outIsValue (evaluate (nvJsonCfg [48, 49, 55]) noCustom 1000 Gjson.root) (.int 15)
#guard outIsValue (evaluate (nvJsonCfg [43, 49]) noCustom 1000 Gjson.root) (.int 1)
#guard outIsValue (evaluate (nvJsonCfg [45, 46, 53, 101, 51]) noCustom 1000 Gjson.root) (.float [45, 46, 53, 101, 51])
#guard outIsValue (evaluate (nvJsonCfg [34, 92, 120, 52, 49, 92, 97, 9, 34]) noCustom 1000 Gjson.root) (.str [65, 7, 9])
#guard outIsValue (evaluate (nvJsonCfg [91, 49, 44, 12, 50, 93]) noCustom 1000 Gjson.root) (.arr [.int 1, .int 2])
#guard outIsValue (evaluate (nvJsonCfg [91, 49, 44, 10, 50, 93]) noCustom 1000 Gjson.root) (.arr [.int 1, .int 2])
#guard c16_isErr (evaluate (nvJsonCfg [91, 49, 44, 93]) noCustom 1000 Gjson.root)
#guard c16_isErr (evaluate (nvJsonCfg [49, 101, 53]) noCustom 1000 Gjson.root)
#guard c16_isErr (evaluate (nvJsonCfg [91, 49, 10, 44, 50, 93]) noCustom 1000 Gjson.root)
#guard c16_isErr (evaluate (nvJsonCfg [123, 34, 97, 34, 32, 49, 125]) noCustom 1000 Gjson.root)
#guard c16_isErr (evaluate (nvJsonCfg [34, 92, 113, 34]) noCustom 1000 Gjson.root)
-- more of the boundary, tests only: `08` (octal digit), `1.`, `"\/"`, a raw LF in a string, `[1 ,2]` (space before `,`: fine)
#guard c16_isErr (evaluate (nvJsonCfg [48, 56]) noCustom 1000 Gjson.root)
#guard c16_isErr (evaluate (nvJsonCfg [49, 46]) noCustom 1000 Gjson.root)
#guard c16_isErr (evaluate (nvJsonCfg [34, 92, 47, 34]) noCustom 1000 Gjson.root)
#guard c16_isErr (evaluate (nvJsonCfg [34, 10, 34]) noCustom 1000 Gjson.root)
#guard outIsValue (evaluate (nvJsonCfg [91, 49, 32, 44, 50, 93]) noCustom 1000 Gjson.root) (.arr [.int 1, .int 2])

end PV
