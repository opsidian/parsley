/-
  C08 — Built-in literal parsers are total and agree with Go's conversions.

  Property theorems only.  Model: ParsleyVerif/Model/Terminal.lean (`Terminal.parse`, every terminal of
  text/terminal/*.go written with the reader primitives of Model/Text.lean; outcomes `.node`, `.err`,
  `.panic site`).  Specification: Spec/TerminalSpec.lean (`Terminal.spec`, over the bytes from the position
  to the end of the file; `Terminal.WF`, `Params.LenOk`, `Params.GroupOk`), Spec/Lang.lean (the documented
  syntax of the literals as languages, `longestPrefix`, `intValue`), Spec/LangString.lean (escape table,
  string body), Spec/Regex.lean (a generic leftmost-first regular-expression semantics and the five
  expressions as syntax trees whose printed text is the source text).  Domain: `InFile f pos` (first byte … end of file), construction parameters in their
  documented domain (`Terminal.WF`), ANY bytes (no UTF-8 validity, no `< 256` assumption), ANY
  `strconv.ParseFloat` / `time.ParseDuration` answer (`P.floatOk`, `P.durErr` are arbitrary functions), any
  regexp engine whose reported match length lies inside the bytes it was given (`Params.LenOk`; an empty
  match, length 0, is allowed and yields a node of width 0 exactly as reader.go's ReadRegexp does — the
  getPattern check "expression must not match the empty input" is a precondition on the expression, outside
  this model, and does not exclude empty matches on a non-empty rest, e.g. `\b`).
-/
import ParsleyVerif.Proofs.TerminalValue
import ParsleyVerif.Proofs.TermProgram
import ParsleyVerif.Spec.Core
import ParsleyVerif.Proofs.LangChar
import ParsleyVerif.Proofs.LangDuration
import ParsleyVerif.Generated.Facts
namespace PV
open PV.Text

/-! ## every terminal = its byte-level specification -/

/-- the whole behaviour: node, error, kind, message, positions, value -/
theorem c08_spec (P : Params) (f : File) (t : Terminal) (pos : Nat)
    (h : InFile f pos) (wf : t.WF) (hl : P.LenOk t) :
    Terminal.parse P f t pos = Terminal.spec P (rest f pos) pos t :=
  parse_eq_spec P f t pos h wf hl

/-- without `GroupOk` the only panic is the documented one of terminal.Regexp: the expression matched but
    has no capturing group with the requested index -/
theorem c08_panic_only_missing_group (P : Params) (f : File) (t : Terminal) (pos : Nat) (s : String)
    (h : InFile f pos) (wf : t.WF) (hl : P.LenOk t) (hp : Terminal.parse P f t pos = .panic s) :
    s = "Capturing group is invalid" ∧
    ∃ id tok name m, t = .regexp id tok name true ∧ rest f pos ≠ [] ∧ P.regexp id (rest f pos) = some (m, none) :=
  Terminal.spec_panic P _ pos t s (c08_spec P f t pos h wf hl ▸ hp)

/-- **never panics**: for every terminal with documented construction parameters, every file, every
    position in it, every ParseFloat/ParseDuration behaviour, every in-bounds regexp engine that has the
    capturing group the terminal was built with -/
theorem c08_total (P : Params) (f : File) (t : Terminal) (pos : Nat) (s : String)
    (h : InFile f pos) (wf : t.WF) (hl : P.LenOk t) (hg : P.GroupOk t) :
    Terminal.parse P f t pos ≠ .panic s := by
  intro hp
  obtain ⟨_, id, tok, name, m, rfl, _, hm⟩ := c08_panic_only_missing_group P f t pos s h wf hl hp
  cases hg _ m none hm

/-- that panic is reachable (an engine that matches one byte and has no group 1) -/
theorem c08_missing_group_panics :
    let P : Params := { floatOk := fun _ => true, durErr := fun _ => none, regexp := fun _ r => if r = [] then none else some (1, none) }
    let f : File := { name := "", data := [97], offset := 1 }
    InFile f 1 ∧ P.LenOk (.regexp 0 [] [] true) ∧
    Terminal.parse P f (.regexp 0 [] [] true) 1 = .panic "Capturing group is invalid" := by
  refine ⟨by unfold InFile File.len; decide, ?_, rfl⟩
  intro r m g hr
  simp only at hr
  split at hr
  · cases hr
  · rename_i hne
    cases hr
    cases r with
    | nil => exact absurd rfl hne
    | cons _ _ => simp

/-- outside `Terminal.WF`: the empty operator / word is the documented panic of MatchString / MatchWord,
    a non-ASCII word byte the documented panic of MatchWord -/
theorem c08_outside_wf_panics :
    let P : Params := { floatOk := fun _ => true, durErr := fun _ => none, regexp := fun _ _ => none }
    let f : File := { name := "", data := [0xC3, 0xA9], offset := 1 }
    Terminal.parse P f (.op [] []) 1 = .panic "MatchString" ∧
    Terminal.parse P f (.word [] 0 []) 1 = .panic "MatchWord" ∧
    Terminal.parse P f (.word [0xC3, 0xA9] 0 []) 1 = .panic "MatchWord" :=
  ⟨rfl, rfl, rfl⟩

/-- **unquoteString respects the contract of Readf** (string.go as fixed) on every non-empty input: it
    consumes at most the input, the value is not longer than what was consumed, and the answer is (nil, 0) or
    (value, > 0); so neither panic of Readf is reachable from terminal.String -/
theorem c08_unquoteString_contract (b : Bytes) (hb : b ≠ []) :
    (unquoteString b).2 ≤ b.length ∧ ((unquoteString b).1.getD []).length ≤ (unquoteString b).2 ∧
    (((unquoteString b).1 = none ∧ (unquoteString b).2 = 0) ∨
     ((unquoteString b).1.isSome = true ∧ 0 < (unquoteString b).2)) :=
  unquoteString_contract b hb

/-- a node starts at the offset and ends inside the file -/
theorem c08_node_span (P : Params) (f : File) (t : Terminal) (pos : Nat) (n : Node)
    (h : InFile f pos) (wf : t.WF) (hl : P.LenOk t) (hn : Terminal.parse P f t pos = .node n) :
    n.pos = pos ∧ pos ≤ n.rpos ∧ n.rpos ≤ f.offset + f.len := by
  have := Terminal.parse_within P f t pos h
  rw [hn] at this
  obtain ⟨_, _, _, rfl, h1, h2⟩ := this
  exact ⟨rfl, h1, h2⟩

/-- an error is positioned between the offset and the end of the file -/
theorem c08_err_pos (P : Params) (f : File) (t : Terminal) (pos : Nat) (e : Err)
    (h : InFile f pos) (wf : t.WF) (hl : P.LenOk t) (he : Terminal.parse P f t pos = .err e) :
    pos ≤ e.pos ∧ e.pos ≤ f.offset + f.len := by
  have := Terminal.parse_within P f t pos h
  rwa [he] at this

/-! ## lexeme and value, terminal by terminal
    `rest f pos` are the bytes from the offset to the end of the file; a node `.term tok val pos (pos + k)`
    has the lexeme `(rest f pos).take k`. -/

/-- Rune: found iff `ReadRune` finds it (`runeW`, characterised below); token = string(ch), value = ch -/
theorem c08_rune_node (P : Params) (f : File) (pos ch : Nat) (name : Bytes) (n : Node) (h : InFile f pos) :
    Terminal.parse P f (.rune ch name) pos = .node n ↔
      ∃ w, runeW ch (rest f pos) = some w ∧ n = .term (Utf8.encodeRune ch) (.rune ch) pos (pos + w) := by
  rw [c08_spec P f (.rune ch name) pos h True.intro True.intro]; exact spec_rune_node P _ pos ch name n

/-- a Unicode scalar value other than U+FFFD is found exactly when its UTF-8 encoding is next, and that
    encoding is the lexeme -/
theorem c08_rune_scalar (ch : Nat) (l : Bytes) (hv : Utf8.ValidScalar ch) (hne : ch ≠ Utf8.runeError) :
    runeW ch l = if Utf8.encodeRune ch <+: l then some (Utf8.encodeRune ch).length else none := by
  unfold runeW
  by_cases hc : ch < 0x80
  · rw [if_pos hc, show Utf8.encodeRune ch = [ch] from if_pos hc]
    exact ite_congr (propext List.singleton_prefix_iff_head?_eq_some.symm) (fun _ => rfl) (fun _ => rfl)
  · rw [if_neg hc]
    by_cases hp : Utf8.encodeRune ch <+: l
    · obtain ⟨hl, hd⟩ := decode_of_prefix hv hp
      rw [if_pos ⟨hl, by rw [hd]⟩, if_pos hp, hd]
    · rw [if_neg hp, if_neg]
      exact fun ⟨hl, hd⟩ => (prefix_of_decode hl hd).elim (fun h => hne h.1) (fun h => hp h.2)

/-- U+FFFD is found when EF BF BD is next (3 bytes) and ALSO on any byte that does not start a valid
    UTF-8 sequence: then one byte is consumed although the node's token is EF BF BD -/
theorem c08_rune_replacement (l : Bytes) :
    runeW Utf8.runeError l =
      if Utf8.encodeRune Utf8.runeError <+: l then some 3
      else if l ≠ [] ∧ Utf8.decodeRune l = (Utf8.runeError, 1) then some 1 else none := by
  unfold runeW
  rw [if_neg (by unfold Utf8.runeError; omega)]
  by_cases hp : Utf8.encodeRune Utf8.runeError <+: l
  · obtain ⟨hl, hd⟩ := decode_of_prefix runeError_valid hp
    rw [if_pos ⟨hl, by rw [hd]⟩, if_pos hp, hd]
    rfl
  · rw [if_neg hp]
    by_cases hc : l ≠ [] ∧ (Utf8.decodeRune l).1 = Utf8.runeError
    · obtain ⟨-, hi⟩ := (prefix_of_decode hc.1 hc.2).resolve_right (fun h => hp h.2)
      rw [if_pos hc, if_pos ⟨hc.1, hi⟩, hi]
    · rw [if_neg hc, if_neg (fun h => hc ⟨h.1, by rw [h.2]⟩)]

/-- a surrogate or a value above U+10FFFF is never found -/
theorem c08_rune_not_scalar (ch : Nat) (l : Bytes) (h : ¬ Utf8.ValidScalar ch) : runeW ch l = none := by
  unfold runeW
  have hc : ¬ ch < 0x80 := by intro hc; apply h; unfold Utf8.ValidScalar; omega
  rw [if_neg hc, if_neg]
  exact fun ⟨hl, hd⟩ => (prefix_of_decode hl hd).elim (fun h' => h (h'.1 ▸ runeError_valid)) (fun h' => h h'.1)

/-- Op: lexeme = the operator, value = the operator -/
theorem c08_op_node (P : Params) (f : File) (pos : Nat) (s name : Bytes) (n : Node) (h : InFile f pos) (hs : s ≠ []) :
    Terminal.parse P f (.op s name) pos = .node n ↔
      (rest f pos).take s.length = s ∧ s.length ≤ (rest f pos).length ∧ n = .term s (.str s) pos (pos + s.length) := by
  rw [c08_spec P f (.op s name) pos h hs True.intro, spec_op_node, List.prefix_iff_eq_take]
  constructor
  · rintro ⟨h1, h2⟩; exact ⟨h1.symm, by rw [h1]; simp [List.length_take]; omega, h2⟩
  · rintro ⟨h1, _, h2⟩; exact ⟨h1.symm, h2⟩

/-- Word: lexeme = the word, followed by a non-word byte or the end of input; token = upper-cased word -/
theorem c08_word_node (P : Params) (f : File) (pos : Nat) (w : Bytes) (v : Nat) (name : Bytes) (n : Node)
    (h : InFile f pos) (wf : (Terminal.word w v name).WF) :
    Terminal.parse P f (.word w v name) pos = .node n ↔
      w <+: rest f pos ∧ (((rest f pos).drop w.length).head?.all fun d => !isWordByte d) = true ∧
      n = .term (upperAscii w) (.opaque v) pos (pos + w.length) := by
  rw [c08_spec P f (.word w v name) pos h wf True.intro, spec_word_node, wordAt_iff, and_assoc]

/-- Nil -/
theorem c08_nil_node (P : Params) (f : File) (pos : Nat) (w : Bytes) (n : Node)
    (h : InFile f pos) (wf : (Terminal.nil w).WF) :
    Terminal.parse P f (.nil w) pos = .node n ↔
      w <+: rest f pos ∧ (((rest f pos).drop w.length).head?.all fun d => !isWordByte d) = true ∧
      n = .term (tokOf "NIL") .nil pos (pos + w.length) := by
  rw [c08_spec P f (.nil w) pos h wf True.intro, spec_nil_node, wordAt_iff, and_assoc]

/-- Bool: the true word is tried first -/
theorem c08_bool_node (P : Params) (f : File) (pos : Nat) (t e : Bytes) (n : Node)
    (h : InFile f pos) (wf : (Terminal.bool t e).WF) :
    Terminal.parse P f (.bool t e) pos = .node n ↔
      (wordAt t (rest f pos) = true ∧ n = .term (tokOf "BOOL") (.bool true) pos (pos + t.length)) ∨
      (wordAt t (rest f pos) = false ∧ wordAt e (rest f pos) = true ∧
        n = .term (tokOf "BOOL") (.bool false) pos (pos + e.length)) := by
  rw [c08_spec P f (.bool t e) pos h wf True.intro, spec_bool_node]

/-- `wordAt w l`: `w` is a prefix of `l` and the next byte, if any, is not a word byte -/
theorem c08_wordAt (w l : Bytes) :
    wordAt w l = true ↔ (w <+: l ∧ ((l.drop w.length).head?.all fun d => !isWordByte d) = true) :=
  wordAt_iff w l

/-- Integer, node: the lexeme is what the integer expression matches, the next byte is not `.`, and the
    value is ParseInt(lexeme, 0, 64) -/
theorem c08_integer_node (P : Params) (f : File) (pos : Nat) (n : Node) (h : InFile f pos) :
    Terminal.parse P f .integer pos = .node n ↔
      ∃ k v, integerMatch (rest f pos) = some k ∧ ((rest f pos).drop k).head? ≠ some 46 ∧
        parseInt0 ((rest f pos).take k) = some v ∧ n = .term (tokOf "INTEGER") (.int v) pos (pos + k) := by
  rw [c08_spec P f .integer pos h True.intro True.intro]; exact integerSpec_node _ pos n

/-- Integer, error: "was expecting integer value" at the offset when nothing matches or a `.` follows the
    lexeme; "invalid integer value" at the offset (no panic) when the value does not fit in 64 bits -/
theorem c08_integer_err (P : Params) (f : File) (pos : Nat) (e : Err) (h : InFile f pos) :
    Terminal.parse P f .integer pos = .err e ↔
      (e = ⟨pos, .notFound (tokOf "integer value")⟩ ∧
        (integerMatch (rest f pos) = none ∨
         ∃ k, integerMatch (rest f pos) = some k ∧ ((rest f pos).drop k).head? = some 46)) ∨
      (e = ⟨pos, .other (tokOf "invalid integer value")⟩ ∧
        ∃ k, integerMatch (rest f pos) = some k ∧ ((rest f pos).drop k).head? ≠ some 46 ∧
          parseInt0 ((rest f pos).take k) = none) := by
  rw [c08_spec P f .integer pos h True.intro True.intro]; exact TermOut.err_of_graph (integerSpec_graph _ pos) e

/-- Float, for EVERY ParseFloat: node with the lexeme as value exactly when ParseFloat accepts the lexeme -/
theorem c08_float_node (P : Params) (f : File) (pos : Nat) (n : Node) (h : InFile f pos) :
    Terminal.parse P f .float pos = .node n ↔
      ∃ k, floatMatch (rest f pos) = some k ∧ P.floatOk ((rest f pos).take k) = true ∧
        n = .term (tokOf "FLOAT") (.float ((rest f pos).take k)) pos (pos + k) := by
  rw [c08_spec P f .float pos h True.intro True.intro]; exact floatSpec_node P _ pos n

theorem c08_float_err (P : Params) (f : File) (pos : Nat) (e : Err) (h : InFile f pos) :
    Terminal.parse P f .float pos = .err e ↔
      (e = ⟨pos, .notFound (tokOf "float value")⟩ ∧ floatMatch (rest f pos) = none) ∨
      (e = ⟨pos, .other (tokOf "invalid float value")⟩ ∧
        ∃ k, floatMatch (rest f pos) = some k ∧ P.floatOk ((rest f pos).take k) = false) := by
  rw [c08_spec P f .float pos h True.intro True.intro]; exact TermOut.err_of_graph (floatSpec_graph P _ pos) e

/-- TimeDuration, for EVERY ParseDuration: node exactly when ParseDuration accepts the lexeme, otherwise its
    error text at the offset -/
theorem c08_duration_node (P : Params) (f : File) (pos : Nat) (n : Node) (h : InFile f pos) :
    Terminal.parse P f .duration pos = .node n ↔
      ∃ k, durationMatch (rest f pos) = some k ∧ P.durErr ((rest f pos).take k) = none ∧
        n = .term (tokOf "TIME_DURATION") (.dur ((rest f pos).take k)) pos (pos + k) := by
  rw [c08_spec P f .duration pos h True.intro True.intro]; exact TermOut.node_of_graph (durationSpec_graph P _ pos) n

theorem c08_duration_err (P : Params) (f : File) (pos : Nat) (e : Err) (h : InFile f pos) :
    Terminal.parse P f .duration pos = .err e ↔
      (e = ⟨pos, .notFound (tokOf "time duration")⟩ ∧ durationMatch (rest f pos) = none) ∨
      (∃ k msg, durationMatch (rest f pos) = some k ∧ P.durErr ((rest f pos).take k) = some msg ∧
        e = ⟨pos, .other msg⟩) := by
  rw [c08_spec P f .duration pos h True.intro True.intro]; exact TermOut.err_of_graph (durationSpec_graph P _ pos) e

/-- Char: `'` body `'` where body is what the char expression matches, and the value is the code point the
    body denotes (`Lang.charValue`: escape table; a raw UTF-8 sequence denotes its rune, an invalid byte U+FFFD) -/
theorem c08_char_node (P : Params) (f : File) (pos : Nat) (n : Node) (h : InFile f pos) :
    Terminal.parse P f .char pos = .node n ↔
      ∃ r k v, rest f pos = 39 :: r ∧ charMatch r = some k ∧ (r.drop k).head? = some 39 ∧
        Lang.charValue (r.take k) = some v ∧ n = .term (tokOf "CHAR") (.rune v) pos (pos + 1 + k + 1) := by
  rw [c08_spec P f .char pos h True.intro True.intro]; exact charSpec_node _ pos n

/-- String: quote, body, the same quote.  Double-quoted body and value: `Lang.strBody`; back-quoted
    (only if allowed): the longest run of bytes other than the back-quote, verbatim -/
theorem c08_string_node (P : Params) (f : File) (pos : Nat) (bq : Bool) (n : Node) (h : InFile f pos) :
    Terminal.parse P f (.string bq) pos = .node n ↔
      ∃ q r, rest f pos = q :: r ∧ (q = 34 ∨ (q = 96 ∧ bq = true)) ∧
        ((r.head? = some q ∧ n = .term (tokOf "STRING") (.str []) pos (pos + 2)) ∨
         (r.head? ≠ some q ∧ r ≠ [] ∧
          ∃ v k, (if q = 34 then Lang.strBody r else backquoteBody r) = (v, k) ∧ (r.drop k).head? = some q ∧
            n = .term (tokOf "STRING") (.str (v.getD [])) pos (pos + 1 + k + 1))) := by
  rw [c08_spec P f (.string bq) pos h True.intro True.intro]; exact stringSpec_node bq _ pos n

/-- the lexeme of the char and string nodes above: opening quote, the `k` body bytes, the closing quote -/
theorem c08_quoted_lexeme (q : Nat) (r : Bytes) (k : Nat) (h : (r.drop k).head? = some q) :
    (q :: r).take (1 + k + 1) = q :: (r.take k ++ [q]) := by
  have e : 1 + k + 1 = (k + 1) + 1 := by omega
  rw [e, List.take_succ_cons, List.take_add_one]
  rw [List.head?_drop] at h
  rw [h]; rfl

/-- Regexp, for EVERY in-bounds engine: the lexeme is the engine's match (possibly empty), the value is the
    match or the requested group; at the end of input nothing is found even if the expression matches "" -/
theorem c08_regexp_node (P : Params) (f : File) (pos id : Nat) (tok name : Bytes) (g : Bool) (n : Node)
    (h : InFile f pos) (hl : P.LenOk (.regexp id tok name g)) :
    Terminal.parse P f (.regexp id tok name g) pos = .node n ↔
      rest f pos ≠ [] ∧ ∃ m gv, P.regexp id (rest f pos) = some (m, gv) ∧
        ((g = false ∧ n = .term tok (.str ((rest f pos).take m)) pos (pos + m)) ∨
         (g = true ∧ ∃ gb, gv = some gb ∧ n = .term tok (.str gb) pos (pos + m))) := by
  rw [c08_spec P f (.regexp id tok name g) pos h True.intro hl]; exact regexpSpec_node P id tok name g _ pos n

/-- an empty match (length 0) of the user expression is a match: reader.go returns an empty non-nil slice and
    terminal.Regexp builds a node of width 0 — the parser succeeds without consuming input -/
theorem c08_regexp_empty_match (P : Params) (f : File) (pos id : Nat) (tok name : Bytes) (g : Option Bytes)
    (h : InFile f pos) (hl : P.LenOk (.regexp id tok name false)) (hne : rest f pos ≠ [])
    (hm : P.regexp id (rest f pos) = some (0, g)) :
    Terminal.parse P f (.regexp id tok name false) pos = .node (.term tok (.str []) pos pos) :=
  (c08_regexp_node P f pos id tok name false _ h hl).mpr ⟨hne, 0, g, hm, Or.inl ⟨rfl, by simp⟩⟩

/-- … except at the end of the input, where ReadRegexp does not consult the engine at all -/
theorem c08_regexp_at_eof (P : Params) (f : File) (pos id : Nat) (tok name : Bytes) (g : Bool)
    (h : InFile f pos) (hl : P.LenOk (.regexp id tok name g)) (he : rest f pos = []) :
    Terminal.parse P f (.regexp id tok name g) pos = .err ⟨pos, .notFound name⟩ := by
  rw [c08_spec P f (.regexp id tok name g) pos h True.intro hl]
  simp only [Terminal.spec, regexpSpec, he, if_true, nf]

/-- parameters and files for the concrete examples (base offset 7) -/
def nvP : Params := { floatOk := fun l => l.length < 6, durErr := fun l => if l.length < 4 then none else some [63], regexp := fun _ _ => none }
def nvF (data : Bytes) : File := { name := "t", data := data, offset := 7 }

/-- **parseInt0_spec**: on a lexeme of the integer syntax ParseInt(·, 0, 64) answers `v` iff `v` is the
    mathematical value of the literal (sign, base 16 after `0x`/`0X`, base 8 after another leading `0`, else
    base 10; positional) and −2⁶³ ≤ v < 2⁶³; otherwise it is the range error -/
theorem c08_parseInt0_spec (l : Bytes) (h : Lang.IsInt l) (v : Int) :
    parseInt0 l = some v ↔ (v = Lang.intValue l ∧ -(2 : Int) ^ 63 ≤ v ∧ v < (2 : Int) ^ 63) :=
  parseInt0_spec l h v

/-- strconv.UnquoteChar as modelled = the escape table: the rune is the code point of the element at the head
    of the input, the tail is the input without the element -/
theorem c08_unquoteChar_table (s : Bytes) (q : Nat) (hq : q = 34 ∨ q = 39) :
    unquoteChar s q = (Lang.escElem q s).map (fun p => (p.1, s.drop p.2)) :=
  unquoteChar_eq s q hq

/-- the acceptance test of terminal.Char (`tail == "" && err == nil`) = the body is exactly one element -/
theorem c08_char_value (body : Bytes) (v : Nat) :
    unquoteChar body 39 = some (v, []) ↔ Lang.charValue body = some v :=
  unquoteChar_charValue body v

/-- the second loop of unquoteString: for each element, in order, the UTF-8 encoding of ITS CODE POINT is
    appended (not the byte an `\x` or octal escape spells), and the elements' widths are consumed -/
theorem c08_unquoteLoop_value (fuel : Nat) (str res : Bytes) :
    unquoteLoop fuel str res =
      (res ++ (Lang.strElems fuel str).flatMap (fun e => Utf8.encodeRune e.1),
       str.drop ((Lang.strElems fuel str).map (·.2)).sum) :=
  unquoteLoop_eq fuel str res

/-- the bound on the number of elements (the input length) is never what stops the loop -/
theorem c08_strElems_complete (n : Nat) (l : Bytes) (h : l.length ≤ n) :
    Lang.strElem (l.drop ((Lang.strElems n l).map (·.2)).sum) = none := by
  fun_induction Lang.strElems n l with
  | case1 l => rw [List.length_eq_zero_iff.mp (Nat.le_zero.mp h)]; rfl
  | case2 n l he => exact he
  | case3 n l c w he ih =>
    have hw := strElem_width l c w he
    have := ih (by rw [List.length_drop]; omega)
    rwa [List.drop_drop] at this

/-- unquoteString = the documented body reader: the run of plain bytes verbatim, then the elements re-encoded -/
theorem c08_unquoteString_value (r : Bytes) : unquoteString r = Lang.strBody r :=
  unquoteString_eq r

/-- `\xHH` in a string denotes the code point 16·H + H … -/
theorem c08_escape_x_codepoint (h1 h2 : Nat) (t : Bytes) (hh1 : Lang.hexDigit h1 = true) (hh2 : Lang.hexDigit h2 = true) :
    Lang.strElem (92 :: 120 :: h1 :: h2 :: t) = some (Lang.digitValue h1 * 16 + Lang.digitValue h2, 4) := by
  have he : Lang.escElem 34 (92 :: 120 :: h1 :: h2 :: t) = Lang.hexEscape 2 true (h1 :: h2 :: t) := rfl
  have hx : Lang.hexEscape 2 true (h1 :: h2 :: t) = some (Lang.digitValue h1 * 16 + Lang.digitValue h2, 4) := by
    unfold Lang.hexEscape
    rw [if_pos ⟨by simp, by simp [hh1, hh2], Or.inl rfl⟩]
    simp [Lang.digitsValue]
  rw [strElem_not_nl _ (by simp), he, hx]
  simp only []
  rw [if_neg (by omega)]

/-- … so `"\x80"` is the two bytes C2 80, and `"\377"` the two bytes C3 BF -/
theorem c08_escape_x80_two_bytes :
    unquoteString [92, 120, 56, 48, 34] = (some [0xC2, 0x80], 4) ∧
    unquoteString [92, 51, 55, 55, 34] = (some [0xC3, 0xBF], 4) :=
  ⟨rfl, rfl⟩

/-- **no raw line break in a double-quoted body** (string.go as fixed): the bytes the body reader consumes
    never contain a raw LF or CR, for every input -/
theorem c08_string_body_no_raw_linebreak (r : Bytes) :
    ∀ b ∈ r.take (unquoteString r).2, b ≠ 10 ∧ b ≠ 13 := by
  rw [unquoteString_eq]; exact strBody_clean r

/-- … hence the lexeme of a double-quoted String node (quote, body, quote) never contains a raw LF or CR -/
theorem c08_string_no_raw_linebreak (P : Params) (f : File) (pos : Nat) (bq : Bool) (n : Node)
    (h : InFile f pos) (hq : (rest f pos).head? = some 34)
    (hn : Terminal.parse P f (.string bq) pos = .node n) :
    ∀ b ∈ (rest f pos).take (n.rpos - pos), b ≠ 10 ∧ b ≠ 13 := by
  obtain ⟨q, r, hl, _, hc⟩ := (c08_string_node P f pos bq n h).mp hn
  rw [hl] at hq ⊢
  simp only [List.head?_cons, Option.some.injEq] at hq
  subst hq
  rcases hc with ⟨hd, hnode⟩ | ⟨_, _, v, k, hb, hd, hnode⟩
  · subst hnode
    have e : (Node.term (tokOf "STRING") (.str []) pos (pos + 2)).rpos - pos = 2 := by
      show pos + 2 - pos = 2; omega
    rw [e]
    cases r with
    | nil => simp at hd
    | cons c t =>
      simp only [List.head?_cons, Option.some.injEq] at hd
      subst hd
      exact clean_cons (by omega) (clean_cons (by omega) clean_nil)
  · subst hnode
    have e : (Node.term (tokOf "STRING") (.str (v.getD [])) pos (pos + 1 + k + 1)).rpos - pos = 1 + k + 1 := by
      show pos + 1 + k + 1 - pos = 1 + k + 1; omega
    rw [e, c08_quoted_lexeme 34 r k hd]
    simp only [if_true] at hb
    have hk : k = (Lang.strBody r).2 := by rw [hb]
    have hbody : Clean (r.take k) := by rw [hk]; exact strBody_clean r
    exact clean_cons (by omega) (clean_append hbody (clean_cons (by omega) clean_nil))

/-- a line break inside a string literal, after an escape or a multi-byte rune (`"a\t<LF>"`, `"é<LF>"`): `was expecting '"'` at the line break -/
theorem c08_string_linebreak_examples :
    Terminal.parse nvP (nvF [34, 97, 92, 116, 10, 34]) (.string false) 7
      = .err ⟨11, .other (tokOf "was expecting '" ++ [34] ++ tokOf "'")⟩ ∧
    Terminal.parse nvP (nvF [34, 0xC3, 0xA9, 10, 34]) (.string false) 7
      = .err ⟨10, .other (tokOf "was expecting '" ++ [34] ++ tokOf "'")⟩ ∧
    unquoteString [97, 92, 116, 10, 34] = (some [97, 9], 3) ∧ unquoteString [0xC3, 0xA9, 10, 34] = (some [0xC3, 0xA9], 2) :=
  ⟨rfl, rfl, rfl, rfl⟩

/-! ## the lexeme is the longest literal of the documented syntax
    `Lang.isInt`, `Lang.isFloat`, `Lang.isDuration`, `Lang.isCharBody`, `Lang.isBackquoteBody` (Spec/Lang.lean) are
    the documented languages, written without any scanning order; the matchers of the model are the
    transcription of what Go's leftmost-first engine does on the five expressions. -/

/-- meaning of `longestPrefix L l = some k`: the prefix of length `k` is in `L` and no longer prefix is -/
theorem c08_longestPrefix_some (L : Bytes → Bool) (l : Bytes) (k : Nat) :
    Lang.longestPrefix L l = some k ↔
      k ≤ l.length ∧ L (l.take k) = true ∧ ∀ j, k < j → j ≤ l.length → L (l.take j) = false :=
  longestPrefix_some

/-- meaning of `longestPrefix L l = none`: no prefix (not even the empty one) is in `L` -/
theorem c08_longestPrefix_none (L : Bytes → Bool) (l : Bytes) :
    Lang.longestPrefix L l = none ↔ ∀ j, j ≤ l.length → L (l.take j) = false :=
  longestPrefix_none

theorem c08_lang_integer (l : Bytes) : integerMatch l = Lang.longestPrefix Lang.isInt l := integerMatch_eq_longest l
theorem c08_lang_float (l : Bytes) : floatMatch l = Lang.longestPrefix Lang.isFloat l := floatMatch_eq_longest l
theorem c08_lang_duration (l : Bytes) : durationMatch l = Lang.longestPrefix Lang.isDuration l := durationMatch_eq_longest l
theorem c08_lang_char (l : Bytes) : charMatch l = Lang.longestPrefix Lang.isCharBody l := charMatch_eq_longest l
theorem c08_lang_backquote (l : Bytes) : backquoteMatch l = Lang.longestPrefix Lang.isBackquoteBody l :=
  backquoteMatch_eq_longest l

/-- what leftmost-first gives on the integer expression: after the optional sign the alternatives
    `[1-9][0-9]*`, `0[xX][0-9a-fA-F]+`, `0[0-7]*` are tried in the order written, the first that matches wins
    with its greedy (longest) match … -/
theorem c08_leftmost_first_integer (l : Bytes) :
    integerMatch l =
      (Lang.firstSome [Lang.longestPrefix Lang.decimalLit (l.drop (signLen l)),
        Lang.longestPrefix Lang.hexLit (l.drop (signLen l)),
        Lang.longestPrefix Lang.octalLit (l.drop (signLen l))]).map (signLen l + ·) := by
  rw [munch_dec.longest, munch_hex.longest, munch_oct.longest, integerMatch_eq]
  show (scIntBody _).map _ = _
  unfold scIntBody
  cases scDec (l.drop (signLen l)) <;> cases scHex (l.drop (signLen l)) <;> cases scOct (l.drop (signLen l)) <;> rfl

/-- … and where two alternatives match (`0x1F`: hex 4 bytes, octal 1 byte) the earlier one is the longer one,
    which is why first-match and longest-match coincide for this expression -/
theorem c08_hex_before_octal (b : Bytes) (h o : Nat) (hh : Lang.longestPrefix Lang.hexLit b = some h)
    (ho : Lang.longestPrefix Lang.octalLit b = some o) : o = 1 ∧ o < h :=
  hex_before_octal b h o hh ho

/-- the duration units: the first unit of `ns|us|µs|μs|ms|s|m|h`, in the order written, that is a prefix
    (`ms` is listed before `s` and `m`) — and that is also the longest unit that is a prefix -/
theorem c08_leftmost_first_units (l : Bytes) :
    unitLen l = (Lang.firstSome (Lang.units.map (fun u => if u <+: l then some u.length else none))).getD 0 ∧
    Lang.longestPrefix Lang.isUnit l = if unitLen l > 0 then some (unitLen l) else none := by
  refine ⟨?_, longestPrefix_isUnit l⟩
  rw [firstSome_units]
  split
  · rfl
  · simp only [Option.getD_none]; omega

/-- the char expression: the first alternative, in the order written, that has a prefix of the input in it -/
theorem c08_leftmost_first_char (l : Bytes) :
    charMatch l =
      Lang.firstSome [Lang.longestPrefix Lang.isSimpleEscape l, Lang.longestPrefix (Lang.isHexEscape 120 2) l,
        Lang.longestPrefix (Lang.isHexEscape 117 4) l, Lang.longestPrefix (Lang.isHexEscape 85 8) l,
        Lang.longestPrefix Lang.isOneRuneNotQuote l] := by
  rw [munch_simpleEscape.longest, (munch_hexEscape 120 2).longest, (munch_hexEscape 117 4).longest,
    (munch_hexEscape 85 8).longest, munch_rune.longest, charMatch_eq]
  unfold scChar
  cases scEsc escLetters Rx.Sc.eps l <;> cases scEsc (fun c => decide (c = 120)) (Rx.Sc.rep 2 Lang.hexDigit) l <;>
    cases scEsc (fun c => decide (c = 117)) (Rx.Sc.rep 4 Lang.hexDigit) l <;>
    cases scEsc (fun c => decide (c = 85)) (Rx.Sc.rep 8 Lang.hexDigit) l <;> cases scRune l <;> rfl

/-- the iteration bound of the duration matcher (the input length) is never what stops it -/
theorem c08_durItems_fuel (f1 f2 : Nat) (l : Bytes) (h1 : l.length ≤ f1) (h2 : l.length ≤ f2) :
    durItems f1 l = durItems f2 l :=
  durItems_fuel f1 f2 l h1 h2

/-! ## the matchers are Go's leftmost-first semantics of the five expressions
    Spec/Regex.lean: `Rx.Re.run` lists ALL match lengths in the order a backtracking (Perl-like) matcher tries
    them — earlier alternative first, one more iteration first — and `Rx.Re.first` is the first of them, which
    is what a leftmost-first engine reports for an expression anchored at the start.  The five expressions are
    surface-syntax trees (`Rx.integerSx` …); classes carry their items as data, from which both the printed
    text and the byte predicate are computed. -/

/-- the five trees print as the expressions of the Go source (regenerated facts) -/
theorem c08_regex_source :
    String.ofList Rx.integerSx.src = Facts.integerRegexp ∧ String.ofList Rx.floatSx.src = Facts.floatRegexp ∧
    String.ofList Rx.charSx.src = Facts.charRegexp ∧ String.ofList Rx.durationSx.src = Facts.durationRegexp ∧
    String.ofList Rx.backquoteSx.src = Facts.backquoteRegexp :=
  ⟨Rx.integerSx_src, Rx.floatSx_src, Rx.charSx_src, Rx.durationSx_src, Rx.backquoteSx_src⟩

theorem c08_regex_integer (l : Bytes) : integerMatch l = Rx.integerRe.first l :=
  (integerMatch_eq l).trans (munch_integer.first _ l (Nat.le_refl _)).symm
theorem c08_regex_float (l : Bytes) : floatMatch l = Rx.floatRe.first l :=
  (floatMatch_eq l).trans (munch_float.first _ l (Nat.le_refl _)).symm
theorem c08_regex_duration (l : Bytes) : durationMatch l = Rx.durationRe.first l :=
  (durationMatch_eq l).trans (munch_duration.first _ l (Nat.le_refl _)).symm
theorem c08_regex_char (l : Bytes) : charMatch l = Rx.charRe.first l :=
  (charMatch_eq l).trans (munch_char.first _ l (Nat.le_refl _)).symm
theorem c08_regex_backquote (l : Bytes) : backquoteMatch l = Rx.backquoteRe.first l :=
  (munch_backquote.first _ l (Nat.le_refl _)).symm

/-- the ordered candidate list is exactly the (unordered, fuel-free, textbook) language of the expression … -/
theorem c08_regex_run_language (r : Rx.Re) (f : Nat) (l : Bytes) (k : Nat) (h : l.length ≤ f) :
    k ∈ r.run f l ↔ Rx.Re.Matches r l k :=
  Rx.mem_run_iff r f l k h

/-- … so `first` answers a match, and answers nothing only when nothing matches -/
theorem c08_regex_first (r : Rx.Re) (l : Bytes) :
    (∀ k, r.first l = some k → Rx.Re.Matches r l k) ∧ (r.first l = none ↔ ∀ k, ¬ Rx.Re.Matches r l k) :=
  ⟨fun k h => Rx.first_matches r l k h, Rx.first_none_iff r l⟩

/-- for the five expressions leftmost-first = longest: two independent specifications agree -/
theorem c08_first_eq_longest (l : Bytes) :
    Rx.integerRe.first l = Lang.longestPrefix Lang.isInt l ∧ Rx.floatRe.first l = Lang.longestPrefix Lang.isFloat l ∧
    Rx.durationRe.first l = Lang.longestPrefix Lang.isDuration l ∧ Rx.charRe.first l = Lang.longestPrefix Lang.isCharBody l ∧
    Rx.backquoteRe.first l = Lang.longestPrefix Lang.isBackquoteBody l :=
  ⟨munch_integer.first_eq_longest l, munch_float.first_eq_longest l, munch_duration.first_eq_longest l,
   munch_char.first_eq_longest l, munch_backquote.first_eq_longest l⟩

/-- **Integer, everything together**: a node is returned iff the longest prefix of the rest in the integer
    syntax is not followed by `.` and its mathematical value fits in 64 bits; the node spans exactly that
    prefix and carries exactly that value -/
theorem c08_integer_value (P : Params) (f : File) (pos : Nat) (n : Node) (h : InFile f pos) :
    Terminal.parse P f .integer pos = .node n ↔
      ∃ k, Lang.longestPrefix Lang.isInt (rest f pos) = some k ∧ ((rest f pos).drop k).head? ≠ some 46 ∧
        -(2 : Int) ^ 63 ≤ Lang.intValue ((rest f pos).take k) ∧ Lang.intValue ((rest f pos).take k) < (2 : Int) ^ 63 ∧
        n = .term (tokOf "INTEGER") (.int (Lang.intValue ((rest f pos).take k))) pos (pos + k) := by
  rw [c08_integer_node P f pos n h, integerMatch_eq_longest]
  constructor
  · rintro ⟨k, v, hm, hd, hp, hn⟩
    obtain ⟨h1, h2, h3⟩ := (parseInt0_spec _ (longestPrefix_mem hm) v).mp hp
    subst h1
    exact ⟨k, hm, hd, h2, h3, hn⟩
  · rintro ⟨k, hm, hd, h2, h3, hn⟩
    exact ⟨k, _, hm, hd, (parseInt0_spec _ (longestPrefix_mem hm) _).mpr ⟨rfl, h2, h3⟩, hn⟩

/-- **out of range**: "invalid integer value" at the offset — not a panic — exactly when the literal's
    mathematical value is outside [−2⁶³, 2⁶³) -/
theorem c08_integer_out_of_range (P : Params) (f : File) (pos : Nat) (h : InFile f pos) :
    Terminal.parse P f .integer pos = .err ⟨pos, .other (tokOf "invalid integer value")⟩ ↔
      ∃ k, Lang.longestPrefix Lang.isInt (rest f pos) = some k ∧ ((rest f pos).drop k).head? ≠ some 46 ∧
        ¬ (-(2 : Int) ^ 63 ≤ Lang.intValue ((rest f pos).take k) ∧ Lang.intValue ((rest f pos).take k) < (2 : Int) ^ 63) := by
  rw [c08_integer_err P f pos _ h, integerMatch_eq_longest]
  have hnone : ∀ k, Lang.longestPrefix Lang.isInt (rest f pos) = some k →
      (parseInt0 ((rest f pos).take k) = none ↔
        ¬ (-(2 : Int) ^ 63 ≤ Lang.intValue ((rest f pos).take k) ∧ Lang.intValue ((rest f pos).take k) < (2 : Int) ^ 63)) := by
    intro k hm
    -- no answer iff no `v` is the answer: `parseInt0_spec` says which `v` are
    rw [← Option.not_isSome_iff_eq_none, Option.isSome_iff_exists]
    simp only [parseInt0_spec _ (longestPrefix_mem hm), exists_eq_left]
  constructor
  · rintro (⟨he, _⟩ | ⟨_, k, hm, hd, hp⟩)
    · simp only [Err.mk.injEq, true_and, reduceCtorEq] at he
    · exact ⟨k, hm, hd, (hnone k hm).mp hp⟩
  · rintro ⟨k, hm, hd, hr⟩
    exact Or.inr ⟨rfl, k, hm, hd, (hnone k hm).mpr hr⟩

/-- Float: the lexeme is the longest prefix in the float syntax; value and acceptance are ParseFloat's, for every ParseFloat -/
theorem c08_float_value (P : Params) (f : File) (pos : Nat) (n : Node) (h : InFile f pos) :
    Terminal.parse P f .float pos = .node n ↔
      ∃ k, Lang.longestPrefix Lang.isFloat (rest f pos) = some k ∧ P.floatOk ((rest f pos).take k) = true ∧
        n = .term (tokOf "FLOAT") (.float ((rest f pos).take k)) pos (pos + k) := by
  rw [c08_float_node P f pos n h, floatMatch_eq_longest]

/-- TimeDuration: the lexeme is the longest prefix in the duration syntax; for every ParseDuration -/
theorem c08_duration_value (P : Params) (f : File) (pos : Nat) (n : Node) (h : InFile f pos) :
    Terminal.parse P f .duration pos = .node n ↔
      ∃ k, Lang.longestPrefix Lang.isDuration (rest f pos) = some k ∧ P.durErr ((rest f pos).take k) = none ∧
        n = .term (tokOf "TIME_DURATION") (.dur ((rest f pos).take k)) pos (pos + k) := by
  rw [c08_duration_node P f pos n h, durationMatch_eq_longest]

/-- Char: `'`, the longest prefix in the char-body syntax, `'`; the value is the code point the body denotes -/
theorem c08_char_value_node (P : Params) (f : File) (pos : Nat) (n : Node) (h : InFile f pos) :
    Terminal.parse P f .char pos = .node n ↔
      ∃ r k v, rest f pos = 39 :: r ∧ Lang.longestPrefix Lang.isCharBody r = some k ∧ (r.drop k).head? = some 39 ∧
        Lang.charValue (r.take k) = some v ∧ n = .term (tokOf "CHAR") (.rune v) pos (pos + 1 + k + 1) := by
  rw [c08_char_node P f pos n h]
  simp only [charMatch_eq_longest]

/-- the body of a back-quoted string: the longest non-empty run of bytes other than the back-quote, verbatim -/
theorem c08_backquote_body (r : Bytes) :
    backquoteBody r = match Lang.longestPrefix Lang.isBackquoteBody r with
      | none => (none, 0)
      | some k => (some (r.take k), k) := by
  unfold backquoteBody; rw [backquoteMatch_eq_longest]
  cases Lang.longestPrefix Lang.isBackquoteBody r <;> rfl

/-- the facts the model takes from the source (regenerated on every run): the five expressions handed to
    ReadRegexp, the body of terminal.Integer (look-ahead for '.', ParseInt base 0 / 64 bit, error instead of
    panic) and the body of unquoteString as fixed -/
theorem c08_facts :
    Facts.integerRegexp = "[-+]?(?:[1-9][0-9]*|0[xX][0-9a-fA-F]+|0[0-7]*)" ∧
    Facts.floatRegexp = "[-+]?[0-9]*\\.[0-9]+(?:[eE][-+]?[0-9]+)?" ∧
    Facts.charRegexp = "\\\\[abfnrtv']|\\\\x[0-9a-fA-F]{2,2}|\\\\u[0-9a-fA-F]{4,4}|\\\\U[0-9a-fA-F]{8,8}|[^']" ∧
    Facts.durationRegexp = "[-+]?(?:[0-9]+(?:\\.[0-9]+)?(?:ns|us|µs|μs|ms|s|m|h))+" ∧
    Facts.backquoteRegexp = "[^`]+" :=
  ⟨rfl, rfl, rfl, rfl, rfl⟩

/-! ## non-vacuity: concrete files (base offset 7), evaluated by the kernel -/

example : InFile (nvF [49, 50]) 8 ∧ (Terminal.rune 233 []).WF ∧ (Terminal.word [110, 105, 108] 0 []).WF ∧
    ¬ (Terminal.op [] []).WF ∧ ¬ (Terminal.word [0xC3] 0 []).WF := by
  unfold InFile File.len nvF; decide

/-- "9223372036854775808": out of range, an error at the offset, not a panic; "-9223372036854775808" is the minimum -/
example : Terminal.parse nvP (nvF [57,50,50,51,51,55,50,48,51,54,56,53,52,55,55,53,56,48,56]) .integer 7
    = .err ⟨7, .other (tokOf "invalid integer value")⟩ := rfl
example : Terminal.parse nvP (nvF [45,57,50,50,51,51,55,50,48,51,54,56,53,52,55,55,53,56,48,56]) .integer 7
    = .node (.term (tokOf "INTEGER") (.int (-9223372036854775808)) 7 27) := rfl
/-- "-0x1F." is refused (a '.' follows), "-0x1F " is −31, "0x" is 0 followed by x, "0789" is 07 -/
example : Terminal.parse nvP (nvF [45,48,120,49,70,46]) .integer 7 = .err ⟨7, .notFound (tokOf "integer value")⟩ := rfl
example : Terminal.parse nvP (nvF [45,48,120,49,70,32]) .integer 7 = .node (.term (tokOf "INTEGER") (.int (-31)) 7 12) := rfl
example : Terminal.parse nvP (nvF [48,120]) .integer 7 = .node (.term (tokOf "INTEGER") (.int 0) 7 8) := rfl
example : Terminal.parse nvP (nvF [48,55,56,57]) .integer 7 = .node (.term (tokOf "INTEGER") (.int 7) 7 9) := rfl
/-- float "1.5e3x" accepted by this ParseFloat, "1.5e+30" refused by it: error at the offset -/
example : Terminal.parse nvP (nvF [49,46,53,101,51,120]) .float 7 = .node (.term (tokOf "FLOAT") (.float [49,46,53,101,51]) 7 12) := rfl
example : Terminal.parse nvP (nvF [49,46,53,101,43,51,48]) .float 7 = .err ⟨7, .other (tokOf "invalid float value")⟩ := rfl
/-- duration "1ms" / "1.5h3m" with this ParseDuration -/
example : Terminal.parse nvP (nvF [49,109,115,32]) .duration 7 = .node (.term (tokOf "TIME_DURATION") (.dur [49,109,115]) 7 10) := rfl
example : Terminal.parse nvP (nvF [49,46,53,104,51,109]) .duration 7 = .err ⟨7, .other [63]⟩ := rfl
/-- string with the invalid byte FF: the body stops before it, error positioned there -/
example : Terminal.parse nvP (nvF [34,97,255,98,34]) (.string false) 7
    = .err ⟨9, .other (tokOf "was expecting '" ++ [34] ++ tokOf "'")⟩ := rfl
/-- unterminated and ill-escaped strings, back-quoted string -/
example : Terminal.parse nvP (nvF [34,97,98]) (.string false) 7 = .err ⟨10, .other (tokOf "was expecting '" ++ [34] ++ tokOf "'")⟩ := rfl
example : Terminal.parse nvP (nvF [34,92,113,34]) (.string false) 7 = .err ⟨8, .other (tokOf "was expecting '" ++ [34] ++ tokOf "'")⟩ := rfl
example : Terminal.parse nvP (nvF [34,92,120,56,48,34]) (.string false) 7 = .node (.term (tokOf "STRING") (.str [0xC2, 0x80]) 7 13) := rfl
example : Terminal.parse nvP (nvF [96,97,10,96]) (.string true) 7 = .node (.term (tokOf "STRING") (.str [97, 10]) 7 11) := rfl
/-- char: 'é', '\x41', the lone invalid byte FF (value U+FFFD), a surrogate escape, two characters -/
example : Terminal.parse nvP (nvF [39,0xC3,0xA9,39]) .char 7 = .node (.term (tokOf "CHAR") (.rune 233) 7 11) := rfl
example : Terminal.parse nvP (nvF [39,92,120,52,49,39]) .char 7 = .node (.term (tokOf "CHAR") (.rune 65) 7 13) := rfl
example : Terminal.parse nvP (nvF [39,255,39]) .char 7 = .node (.term (tokOf "CHAR") (.rune 0xFFFD) 7 10) := rfl
example : Terminal.parse nvP (nvF [39,92,117,68,56,48,48,39]) .char 7 = .err ⟨15, .other (tokOf "invalid character value")⟩ := rfl
example : Terminal.parse nvP (nvF [39,97,98,39]) .char 7 = .err ⟨9, .other (tokOf "was expecting \"'\"")⟩ := rfl
/-- rune U+FFFD on the invalid byte FF: one byte consumed, token EF BF BD -/
example : Terminal.parse nvP (nvF [255]) (.rune 0xFFFD []) 7 = .node (.term [0xEF, 0xBF, 0xBD] (.rune 0xFFFD) 7 8) := rfl
/-- word boundary: `true` does not match `truex`; at the end of the file it does -/
example : Terminal.parse nvP (nvF [116,114,117,101,120]) (.bool [116,114,117,101] [102]) 7 = .err ⟨7, .notFound (tokOf "boolean")⟩ := rfl
example : Terminal.parse nvP (nvF [120,116,114,117,101]) (.bool [116,114,117,101] [102]) 8 = .node (.term (tokOf "BOOL") (.bool true) 8 12) := rfl

/-! ## for the parser-core theorems -/

/-- every built-in terminal with documented construction parameters is `TermGood` (Spec/Core.lean): at every
    position of the file a returned node is a terminal leaf starting at the call position and lying within the
    file, a returned error is positioned between the call position and the end of the file -/
theorem c08_termGood (cfg : Cfg) (t : Terminal) (wf : t.WF) (hl : cfg.params.LenOk t) (_hg : cfg.params.GroupOk t) :
    TermGood cfg t :=
  termGood_all cfg t

theorem termGood_rune (cfg : Cfg) (ch : Nat) (name : Bytes) : TermGood cfg (.rune ch name) :=
  termGood_all cfg _

end PV
