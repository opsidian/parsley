/-
  C17B — the call count of the harness's families 2 (arith), 3 (mutual), 4 (hidden), 7 (PbPcA) and 8 (arith2)
  (harness/cmd/corr/c17.go) for EVERY input length: inductions over the left spines of the run, not evaluations.

  PROVED.  Families 3, 4, 7: the parse succeeds with EXACTLY the closed form (`c17_closed_*`), and doubling the input
  multiplies it by at most 4 (`c17_double_*`).  Family 2, on EVERY input `1 o₁ 1 … o_k 1` with operators in {*, +}: EXACTLY
  `arCalls ops` calls, an explicit sum over the terms of the input (`c17_arCalls`), between (36k² + 85k + 51)/8 and
  5 (n+2)², n = 2k+1, hence an input with at most 2k+1 operators makes at most 16 times the calls of ANY input with k
  operators; the harness's input of every length parameter is such an input (`c17_arith_harness`).  Family 8, on every input with operators in {+, -, *, /}:
  `arCalls2 ops` calls in the spine of `E` (exact, explicit) plus 1 + (the position of the spanning alternative, between
  1 and k+1) for Sentence; at most 7 (n+2)²; doubling ≤ 16.

  BOUNDED (kernel evaluation of the PROVED closed form, which the kernel can evaluate although it cannot evaluate
  the model on this family): `c17_arith_pinned` — the counts of family 2 at the harness's lengths 5 … 128.

  NOT PROVED: the exact position of the spanning alternative in family 8 (so its count is determined up to a window
  of width k, not as a value) and the general statement `c17_calls_bound_STATEMENT` of Props/C17.lean.
-/
import ParsleyVerif.Props.C17
import ParsleyVerif.Proofs.CallsPbA
import ParsleyVerif.Proofs.CallsMutual
import ParsleyVerif.Proofs.CallsPbPc
import ParsleyVerif.Proofs.CallsArith1
import ParsleyVerif.Proofs.CallsArith2
namespace PV
open PV.Text PV.C17 PV.C17b

/-- family 4 as the harness builds it (harness/cmd/corr/c17.go) — the configuration of `c17_hidden_upto` —
    grammar table, file `a b^(n-1)` at base offset 1 -/
theorem c17_hidCfg (n : Nat) :
    hidCfg n = famCfg hiddenEnv (hiddenInput n) ∧
    (hidCfg n).env = [.memo 0 (.any [.seq .seqOf [.optional (.term (.rune 120 [34, 120, 34])), .ref 0,
                                                  .term (.rune 98 [34, 98, 34])] {},
                                      .term (.rune 97 [34, 97, 34])])] ∧
    (hidCfg n).file.data = 97 :: List.replicate (n - 1) 98 ∧ (hidCfg n).file.offset = 1 ∧
    (hidCfg n).maxCalls = 0 :=
  ⟨rfl, rfl, rfl, rfl, rfl⟩

/-- **THEOREM (all n ≥ 1)**: `Sentence(P)` on `a b^(n-1)` succeeds with exactly (n² + 11n + 20)/2 calls -/
theorem c17_closed_hidden (n : Nat) (hn : 1 ≤ n) :
    ∃ fuel p, parse (hidCfg n) fuel (G.sentence (.ref 0)) = some p ∧ p.err = none ∧
      p.st.calls = (n * n + 11 * n + 20) / 2 :=
  c17_some_fuel (hid_parse (hidCfg_is n) hn)

/-- … for every fuel that answers, and for every configuration with this grammar table and this file (any
    ghost flag, file set, terminal parameters); the result is not nil -/
theorem c17_closed_hidden_all (n : Nat) (hn : 1 ≤ n) (cfg : Cfg) (hc : IsHid n cfg) (fuel : Nat) (p : ParseOut)
    (h : parse cfg fuel (G.sentence (.ref 0)) = some p) :
    p.err = none ∧ p.res.isNil = false ∧ p.st.calls = hidCalls n :=
  c17_every_fuel (hid_parse hc hn) fuel p h

theorem c17_hidCalls (n : Nat) : hidCalls n = (n * n + 11 * n + 20) / 2 := rfl

/-- the pair `famCalls` reports (the form the correspondence run prints), for every n ≥ 1 and every fuel that
    answers -/
theorem c17_hidden_famCalls (n : Nat) (hn : 1 ≤ n) (fuel : Nat) (r : Nat × Bool)
    (h : famCalls hiddenEnv (hiddenInput n) fuel = some r) : r = ((n * n + 11 * n + 20) / 2, true) :=
  famCalls_eq (c17_closed_hidden_all n hn (hidCfg n) (hidCfg_is n)) h

/-- **doubling** (all n): on the closed form, at most 4 times the calls -/
theorem c17_double_hidden (n : Nat) : hidCalls (2 * n) ≤ 4 * hidCalls n ∧ hidCalls (2 * n) ≤ 16 * hidCalls n := by
  have e : (2 * n) * (2 * n) = 4 * (n * n) := by rw [Nat.mul_mul_mul_comm]
  unfold hidCalls
  rw [e]
  generalize n * n = q
  omega

/-- the closed form is quadratic: at most 16 n² for n ≥ 1 -/
theorem c17_quadratic_hidden (n : Nat) (hn : 1 ≤ n) : hidCalls n ≤ 16 * (n * n) := by
  have : n ≤ n * n := Nat.le_mul_self n
  unfold hidCalls
  generalize n * n = q at *
  omega

/-- … connected to the runs -/
theorem c17_double_hidden_parse (n : Nat) (hn : 1 ≤ n) (f1 f2 : Nat) (p1 p2 : ParseOut)
    (h1 : parse (hidCfg n) f1 (G.sentence (.ref 0)) = some p1)
    (h2 : parse (hidCfg (2 * n)) f2 (G.sentence (.ref 0)) = some p2) :
    p2.st.calls ≤ 4 * p1.st.calls ∧ p2.st.calls ≤ 16 * p1.st.calls := by
  rw [(c17_closed_hidden_all n hn _ (hidCfg_is n) f1 p1 h1).2.2,
    (c17_closed_hidden_all (2 * n) (by omega) _ (hidCfg_is (2 * n)) f2 p2 h2).2.2]
  exact c17_double_hidden n

/-- family 3 as the harness builds it — the configuration of `c17_mutual_upto` -/
theorem c17_mutCfg (k : Nat) :
    mutCfg k = famCfg mutualEnv (mutualInput k) ∧
    (mutCfg k).env = [.memo 0 (.any [.seq .seqOf [.ref 1, .term (.rune 97 [34, 97, 34])] {}, .term (.rune 120 [34, 120, 34])]),
                      .memo 1 (.any [.seq .seqOf [.ref 0, .term (.rune 98 [34, 98, 34])] {}, .term (.rune 121 [34, 121, 34])])] ∧
    (mutCfg k).file.data = 120 :: (List.replicate k [98, 97]).flatten ∧ (mutCfg k).file.offset = 1 ∧
    (mutCfg k).maxCalls = 0 :=
  ⟨rfl, rfl, rfl, rfl, rfl⟩

/-- **THEOREM (all k)**: `Sentence(A)` on `x (ba)^k` succeeds with exactly 3k² + 18k + 22 calls -/
theorem c17_closed_mutual (k : Nat) :
    ∃ fuel p, parse (mutCfg k) fuel (G.sentence (.ref 0)) = some p ∧ p.err = none ∧
      p.st.calls = 3 * k * k + 18 * k + 22 :=
  c17_some_fuel (mut_parse (mutCfg_is k))

theorem c17_closed_mutual_all (k : Nat) (cfg : Cfg) (hc : IsMut k cfg) (fuel : Nat) (p : ParseOut)
    (h : parse cfg fuel (G.sentence (.ref 0)) = some p) :
    p.err = none ∧ p.res.isNil = false ∧ p.st.calls = mutCalls k :=
  c17_every_fuel (mut_parse hc) fuel p h

theorem c17_mutCalls (k : Nat) : mutCalls k = 3 * k * k + 18 * k + 22 := rfl

theorem c17_mutual_famCalls (k : Nat) (fuel : Nat) (r : Nat × Bool)
    (h : famCalls mutualEnv (mutualInput k) fuel = some r) : r = (3 * k * k + 18 * k + 22, true) :=
  famCalls_eq (c17_closed_mutual_all k (mutCfg k) (mutCfg_is k)) h

/-- **doubling**: the harness's input of length parameter `n` has `k = (n-1)/2` pairs `ba`; the input of length
    parameter `2n` has `(2n-1)/2` pairs; at most 4 times the calls (all n ≥ 1) -/
theorem c17_double_mutual (n : Nat) (hn : 1 ≤ n) :
    mutCalls ((2 * n - 1) / 2) ≤ 4 * mutCalls ((n - 1) / 2) ∧ mutCalls ((2 * n - 1) / 2) ≤ 16 * mutCalls ((n - 1) / 2) := by
  -- (2n-1)/2 = n-1 ≤ 2·((n-1)/2) + 1
  have key : ∀ j : Nat, mutCalls (2 * j + 1) ≤ 4 * mutCalls j := by
    intro j
    unfold mutCalls
    have e1 : 3 * (2 * j + 1) * (2 * j + 1) = 12 * (j * j) + 12 * j + 3 := by
      rw [Nat.mul_assoc, Nat.add_mul, Nat.mul_add, Nat.mul_add, Nat.mul_mul_mul_comm]; omega
    have e2 : 3 * j * j = 3 * (j * j) := Nat.mul_assoc 3 j j
    rw [e1, e2]
    generalize j * j = q
    omega
  have mono : ∀ a b : Nat, a ≤ b → mutCalls a ≤ mutCalls b := by
    intro a b hab
    unfold mutCalls
    have : 3 * a * a ≤ 3 * b * b := Nat.mul_le_mul (Nat.mul_le_mul_left 3 hab) hab
    omega
  have h1 : mutCalls ((2 * n - 1) / 2) ≤ 4 * mutCalls ((n - 1) / 2) :=
    Nat.le_trans (mono _ (2 * ((n - 1) / 2) + 1) (by omega)) (key _)
  exact ⟨h1, by omega⟩

theorem c17_double_mutual_parse (n : Nat) (hn : 1 ≤ n) (f1 f2 : Nat) (p1 p2 : ParseOut)
    (h1 : parse (mutCfg ((n - 1) / 2)) f1 (G.sentence (.ref 0)) = some p1)
    (h2 : parse (mutCfg ((2 * n - 1) / 2)) f2 (G.sentence (.ref 0)) = some p2) :
    p2.st.calls ≤ 4 * p1.st.calls ∧ p2.st.calls ≤ 16 * p1.st.calls := by
  rw [(c17_closed_mutual_all _ _ (mutCfg_is _) f1 p1 h1).2.2, (c17_closed_mutual_all _ _ (mutCfg_is _) f2 p2 h2).2.2]
  exact c17_double_mutual n hn

/-- family 7 as the harness builds it (harness/cmd/corr/c17.go, "PbPcA"): grammar table, file `a` followed by
    `"bc"[i%2]` for i = 1 … n-1 (`a c b c b …`) at base offset 1 -/
theorem c17_pbpcCfg (n : Nat) :
    (pbpcCfg n).env = [.memo 0 (.any [.seq .seqOf [.ref 0, .term (.rune 98 [34, 98, 34])] {},
                                       .seq .seqOf [.ref 0, .term (.rune 99 [34, 99, 34])] {},
                                       .term (.rune 97 [34, 97, 34])])] ∧
    (pbpcCfg n).file.data = 97 :: (List.range' 1 (n - 1)).map (fun i => if i % 2 = 0 then 98 else 99) ∧
    (pbpcCfg n).file.offset = 1 ∧ (pbpcCfg n).maxCalls = 0 ∧ (pbpcCfg n).ghost = false :=
  ⟨rfl, rfl, rfl, rfl, rfl⟩

/-- **THEOREM (all n ≥ 1)**: `Sentence(P)` on `a c b c b …` (length n) succeeds with exactly
    n² + 8n + 12 calls for odd n and n² + 8n + 11 + n/2 calls for even n.  (In every activation the second
    alternative `P c` reads the inner activation's result from the cache; for even n Sentence tries `End`
    after the n/2 - 1 prefixes ending in `b` before it reaches the one that spans the input.) -/
theorem c17_closed_PbPcA (n : Nat) (hn : 1 ≤ n) :
    ∃ fuel p, parse (pbpcCfg n) fuel (G.sentence (.ref 0)) = some p ∧ p.err = none ∧
      p.st.calls = n * n + 8 * n + 12 + (if n % 2 = 0 then n / 2 - 1 else 0) :=
  c17_some_fuel (pbpc_parse (pbpcCfg_is n) hn)

theorem c17_closed_PbPcA_all (n : Nat) (hn : 1 ≤ n) (cfg : Cfg) (hc : IsPbPc n cfg) (fuel : Nat) (p : ParseOut)
    (h : parse cfg fuel (G.sentence (.ref 0)) = some p) :
    p.err = none ∧ p.res.isNil = false ∧ p.st.calls = pbpcCalls n :=
  c17_every_fuel (pbpc_parse hc hn) fuel p h

theorem c17_pbpcCalls (n : Nat) :
    pbpcCalls n = n * n + 8 * n + 12 + (if n % 2 = 0 then n / 2 - 1 else 0) := rfl

/-- **doubling** (all n ≥ 1): at most 4 times the calls -/
theorem c17_double_PbPcA (n : Nat) (hn : 1 ≤ n) :
    pbpcCalls (2 * n) ≤ 4 * pbpcCalls n ∧ pbpcCalls (2 * n) ≤ 16 * pbpcCalls n := by
  have e : (2 * n) * (2 * n) = 4 * (n * n) := by rw [Nat.mul_mul_mul_comm]
  have h : pbpcCalls (2 * n) ≤ 4 * pbpcCalls n := by
    unfold pbpcCalls
    rw [e, if_pos (by omega)]
    omega
  exact ⟨h, by omega⟩

/-- the closed form is quadratic: at most 22 n² -/
theorem c17_quadratic_PbPcA (n : Nat) (hn : 1 ≤ n) : pbpcCalls n ≤ 22 * (n * n) := by
  have : n ≤ n * n := Nat.le_mul_self n
  unfold pbpcCalls
  generalize n * n = q at *
  split <;> omega

theorem c17_double_PbPcA_parse (n : Nat) (hn : 1 ≤ n) (f1 f2 : Nat) (p1 p2 : ParseOut)
    (h1 : parse (pbpcCfg n) f1 (G.sentence (.ref 0)) = some p1)
    (h2 : parse (pbpcCfg (2 * n)) f2 (G.sentence (.ref 0)) = some p2) :
    p2.st.calls ≤ 4 * p1.st.calls ∧ p2.st.calls ≤ 16 * p1.st.calls := by
  rw [(c17_closed_PbPcA_all n hn _ (pbpcCfg_is n) f1 p1 h1).2.2,
    (c17_closed_PbPcA_all (2 * n) (by omega) _ (pbpcCfg_is (2 * n)) f2 p2 h2).2.2]
  exact c17_double_PbPcA n hn

/-- family 2 as the harness builds it, on the input `1 o₁ 1 … o_k 1` for an arbitrary operator string `ops` -/
theorem c17_arCfg (ops : List Nat) :
    arCfg ops = famCfg arithEnv (arData ops) ∧
    (arCfg ops).env = [
      .memo 0 (.any [.seq .seqOf [.ref 0, .term (.rune 43 [34, 43, 34]), .ref 1] {}, .ref 1]),
      .memo 1 (.any [.seq .seqOf [.ref 1, .term (.rune 42 [34, 42, 34]), .ref 2] {}, .ref 2]),
      .any [.term (.rune 49 [34, 49, 34]),
            .seq .seqOf [.term (.rune 40 [34, 40, 34]), .ref 0, .term (.rune 41 [34, 41, 34])] {}]] ∧
    (arCfg ops).file.data = 49 :: ops.flatMap (fun o => [o, 49]) ∧ (arCfg ops).file.offset = 1 ∧
    (arCfg ops).maxCalls = 0 :=
  ⟨rfl, rfl, rfl, rfl, rfl⟩

/-- **THEOREM (every operator string over {*, +}, every length)**: `Sentence(expr)` on `1 o₁ 1 … o_k 1` succeeds
    with EXACTLY `arCalls ops` calls — an explicit function of the operator string (`c17_arCalls`) — and that is
    at most (2k+3)(9k+11) + 2.  (The model of the run: Proofs/CallsArith.lean; every `term` behind a `+` is
    computed once — a left spine of its own — and read from the cache afterwards.) -/
theorem c17_closed_arith (ops : List Nat) (hops : ∀ o ∈ ops, o = 42 ∨ o = 43) :
    ∃ fuel p, parse (arCfg ops) fuel (G.sentence (.ref 0)) = some p ∧ p.err = none ∧
      p.st.calls = arCalls ops ∧ p.st.calls ≤ (2 * ops.length + 3) * (9 * ops.length + 11) + 2 := by
  obtain ⟨p, h1, h2, _, h4, h5⟩ := ar_ops_parse ops hops
  exact ⟨_, p, h1, h2, h4, h5⟩

/-- … for every fuel that answers -/
theorem c17_closed_arith_all (ops : List Nat) (hops : ∀ o ∈ ops, o = 42 ∨ o = 43) (fuel : Nat) (p : ParseOut)
    (h : parse (arCfg ops) fuel (G.sentence (.ref 0)) = some p) :
    p.err = none ∧ p.res.isNil = false ∧ p.st.calls = arCalls ops :=
  c17_every_fuel (let ⟨q, h1, h2, h3, h4, _⟩ := ar_ops_parse ops hops; ⟨q, h1, h2, h3, h4⟩) fuel p h

/-- the count, spelled out: with the terms 0 … s of the input (the maximal runs of `*`; term `i` has `r i` stars and
    starts at position `2·pre i + 1`, `pre i = Σ_{i'<i} (r i' + 1)`), per level j < 2k+3 of the spine of `expr`:
    3 + (the ends of the first min(j, s+1) terms) + (the `+` behind them); for every term the first run of `term`
    (2k+3-2·pre i levels; level j costs 6 + min(j, r+1) + 4·min(j, r)); 2 for Sentence -/
theorem c17_arCalls (ops : List Nat) :
    arCalls ops =
      let r := rfOf (split ops)
      let s := (split ops).length - 1
      let k := ops.length
      ((List.range (2 * k + 3)).map (fun j => 3 + pre r (min j (s + 1)) + min j s)).sum +
        firstRunsX k r (s + 1) + 2 := rfl

theorem c17_arCalls_levels (r j : Nat) :
    tcLevels r (j + 1) = tcLevels r j + 6 + min j (r + 1) + 4 * min (min j (r + 1)) r := rfl

/-- **quadratic** in the length n = 2k+1 of the input: 2·calls ≤ (n+2)(9n+13) + 4, hence calls ≤ 5 (n+2)² -/
theorem c17_quadratic_arith (ops : List Nat) (hops : ∀ o ∈ ops, o = 42 ∨ o = 43) :
    2 * arCalls ops ≤ ((arData ops).length + 2) * (9 * (arData ops).length + 13) + 4 ∧
    arCalls ops ≤ 5 * (((arData ops).length + 2) * ((arData ops).length + 2)) := by
  obtain ⟨p, _, _, _, h4, h5⟩ := ar_ops_parse ops hops
  rw [h4, Lv.lin_mul 2 3 9 11] at h5
  rw [arData_length ops, show 2 * ops.length + 1 + 2 = 2 * ops.length + 3 by omega,
    show 9 * (2 * ops.length + 1) + 13 = 18 * ops.length + 22 by omega, Lv.lin_mul 2 3 18 22, Lv.lin_mul 2 3 2 3]
  omega

/-- **the harness's inputs** (every length parameter n): the parse succeeds and makes at most 5 (len + 2)² calls,
    exactly `arCalls` of its operator string -/
theorem c17_arith_harness (n : Nat) (fuel : Nat) (p : ParseOut)
    (h : parse (famCfg arithEnv (arithInput n)) fuel (G.sentence (.ref 0)) = some p) :
    p.err = none ∧ p.res.isNil = false ∧
    p.st.calls ≤ 5 * (((arithInput n).length + 2) * ((arithInput n).length + 2)) ∧
    ∃ ops, (∀ o ∈ ops, o = 42 ∨ o = 43) ∧ arithInput n = arData ops ∧ p.st.calls = arCalls ops := by
  have h1 := harnessOp_ok (n / 2)
  rw [arithInput_eq n] at h ⊢
  obtain ⟨a, b, c⟩ := c17_closed_arith_all _ h1 fuel p h
  exact ⟨a, b, by rw [c]; exact (c17_quadratic_arith _ h1).2, _, h1, rfl, c⟩

/-- a LOWER bound of the same order: 8·calls ≥ 36k² + 85k + 51 -/
theorem c17_arith_lower (ops : List Nat) (hops : ∀ o ∈ ops, o = 42 ∨ o = 43) :
    36 * (ops.length * ops.length) + 85 * ops.length + 51 ≤ 8 * arCalls ops :=
  arCalls_ge ops hops

/-- **doubling, every pair of inputs**: an input with at most 2k+1 operators — at most twice the length of the
    other (n = 2k+1), plus one — makes at most 16 times the calls of ANY input with k operators -/
theorem c17_double_arith (ops ops' : List Nat) (hops : ∀ o ∈ ops, o = 42 ∨ o = 43) (hops' : ∀ o ∈ ops', o = 42 ∨ o = 43)
    (hk : ops'.length ≤ 2 * ops.length + 1) (f1 f2 : Nat) (p1 p2 : ParseOut)
    (h1 : parse (arCfg ops) f1 (G.sentence (.ref 0)) = some p1)
    (h2 : parse (arCfg ops') f2 (G.sentence (.ref 0)) = some p2) :
    p2.st.calls ≤ 16 * p1.st.calls := by
  rw [(c17_closed_arith_all ops hops f1 p1 h1).2.2, (c17_closed_arith_all ops' hops' f2 p2 h2).2.2]
  exact ar_double ops ops' hops hops' hk

/-- **doubling on the harness's inputs, EVERY length parameter n**: the run on `arithInput (2n)` makes at most 16
    times the calls of the run on `arithInput n` -/
theorem c17_double_arith_harness (n : Nat) (f1 f2 : Nat) (p1 p2 : ParseOut)
    (h1 : parse (famCfg arithEnv (arithInput n)) f1 (G.sentence (.ref 0)) = some p1)
    (h2 : parse (famCfg arithEnv (arithInput (2 * n))) f2 (G.sentence (.ref 0)) = some p2) :
    p2.st.calls ≤ 16 * p1.st.calls := by
  rw [arithInput_eq] at h1 h2
  rw [(c17_closed_arith_all _ (harnessOp_ok _) f1 p1 h1).2.2, (c17_closed_arith_all _ (harnessOp_ok _) f2 p2 h2).2.2]
  exact ar_double_harness n

/-- the operator string of the harness's input of length parameter `n` -/
def harnessOps (n : Nat) : List Nat :=
  (List.range ((arithInput n).length / 2)).map fun i => (arithInput n).getD (2 * i + 1) 0

theorem harnessOps_eq (n : Nat) : harnessOps n = Lv.hOps harnessOp (n / 2) := by
  rw [harnessOps, arithInput_eq]
  exact Lv.arData_ops _

/-- **the harness's lengths** — the counts the correspondence run records for family 2, as kernel-checked values
    of the proved closed form (the kernel cannot evaluate the MODEL on this family: `cpUnion`), and the doubling
    ratio ≤ 16 on every pair (n, 2n) of the harness's lengths -/
theorem c17_arith_pinned :
    (∀ n ∈ [5, 8, 12, 16, 24, 32, 48, 64, 96, 128],
      (∀ o ∈ harnessOps n, o = 42 ∨ o = 43) ∧ arithInput n = arData (harnessOps n)) ∧
    [5, 8, 12, 16, 24, 32, 48, 64, 96, 128].map (fun n => arCalls (harnessOps n)) =
      [146, 336, 606, 956, 1871, 3094, 6477, 11096, 24042, 41932] ∧
    (∀ n ∈ [8, 12, 16, 24, 32, 48, 64], arCalls (harnessOps (2 * n)) ≤ 16 * arCalls (harnessOps n)) := by
  refine ⟨fun n _ => ?_, ?_, fun n _ => ?_⟩
  · rw [harnessOps_eq]
    exact ⟨harnessOp_ok _, arithInput_eq n⟩
  · simp only [harnessOps_eq]
    decide +kernel
  · rw [harnessOps_eq, harnessOps_eq]
    exact ar_double_harness n

/-- … connected to the runs -/
theorem c17_arith_pinned_parse (n : Nat) (hn : n ∈ [5, 8, 12, 16, 24, 32, 48, 64, 96, 128]) (fuel : Nat) (p : ParseOut)
    (h : parse (famCfg arithEnv (arithInput n)) fuel (G.sentence (.ref 0)) = some p) :
    p.err = none ∧ p.st.calls = arCalls (harnessOps n) := by
  obtain ⟨h1, h2⟩ := c17_arith_pinned.1 n hn
  rw [h2] at h
  obtain ⟨a, _, c⟩ := c17_closed_arith_all _ h1 fuel p h
  exact ⟨a, c⟩

/-- family 8 as the harness builds it, on the input `1 o₁ 1 … o_k 1` for an arbitrary operator string `ops` -/
theorem c17_ar2Cfg (ops : List Nat) :
    ar2Cfg ops = famCfg arith2Env (arData ops) ∧
    (ar2Cfg ops).env = [
      .memo 0 (.any [.seq .seqOf [.ref 0, .term (.rune 43 [34, 43, 34]), .ref 1] {},
                     .seq .seqOf [.ref 0, .term (.rune 45 [34, 45, 34]), .ref 1] {}, .ref 1]),
      .memo 1 (.any [.seq .seqOf [.ref 1, .term (.rune 42 [34, 42, 34]), .ref 2] {},
                     .seq .seqOf [.ref 1, .term (.rune 47 [34, 47, 34]), .ref 2] {}, .ref 2]),
      .any [.term (.rune 49 [34, 49, 34]),
            .seq .seqOf [.term (.rune 40 [34, 40, 34]), .ref 0, .term (.rune 41 [34, 41, 34])] {}]] ∧
    (ar2Cfg ops).file.data = 49 :: ops.flatMap (fun o => [o, 49]) ∧ (ar2Cfg ops).file.offset = 1 ∧
    (ar2Cfg ops).maxCalls = 0 :=
  ⟨rfl, rfl, rfl, rfl, rfl⟩

/-- the harness's input of length parameter n: `1` and the operators `+ - * /` in turn (harness/cmd/corr/c17.go) -/
theorem c17_arith2Input : arith2Input 1 = [49] ∧ arith2Input 8 = [49, 43, 49, 45, 49, 42, 49, 47, 49] ∧
    arith2Input 9 = arith2Input 8 := by decide

/-- **THEOREM (every operator string over {+, -, *, /}, every length)**: `Sentence(E)` on `1 o₁ 1 … o_k 1` succeeds;
    it makes `arCalls2 ops` calls in the spine of `E` (an explicit function of the operator string: `c17_arCalls2`),
    one for the element of Sentence and one `End` per alternative of `E` up to the one that spans the input (between
    1 and k+1 of them — the alternatives come out in an order that depends on the operators); at most
    (2k+3)(13k+17) + k + 2 in all -/
theorem c17_closed_arith2 (ops : List Nat) (hops : ∀ o ∈ ops, o = 42 ∨ o = 47 ∨ o = 43 ∨ o = 45) :
    ∃ fuel p, parse (ar2Cfg ops) fuel (G.sentence (.ref 0)) = some p ∧ p.err = none ∧
      arCalls2 ops + 2 ≤ p.st.calls ∧ p.st.calls ≤ arCalls2 ops + ops.length + 2 ∧
      p.st.calls ≤ (2 * ops.length + 3) * (13 * ops.length + 17) + ops.length + 2 := by
  obtain ⟨p, h1, h2, _, h4, h5, h6⟩ := ar2_ops_parse ops hops
  exact ⟨_, p, h1, h2, h4, h5, h6⟩

theorem c17_closed_arith2_all (ops : List Nat) (hops : ∀ o ∈ ops, o = 42 ∨ o = 47 ∨ o = 43 ∨ o = 45) (fuel : Nat)
    (p : ParseOut) (h : parse (ar2Cfg ops) fuel (G.sentence (.ref 0)) = some p) :
    p.err = none ∧ p.res.isNil = false ∧ arCalls2 ops + 2 ≤ p.st.calls ∧ p.st.calls ≤ arCalls2 ops + ops.length + 2 ∧
    p.st.calls ≤ (2 * ops.length + 3) * (13 * ops.length + 17) + ops.length + 2 := by
  obtain ⟨q, h1, h2, h3, h4, h5, h6⟩ := ar2_ops_parse ops hops
  rw [c17_det_full _ fuel _ _ p q h h1]
  exact ⟨h2, h3, h4, h5, h6⟩

/-- the count of the spine of `E`, spelled out (terms: the maximal runs of `*`, `/`): per level j < 2k+3:
    5 + 2·(the ends of the first min(j, s+1) terms) + (the `+`, `-` behind them); for every term the first run of `T`
    (level j costs 8 + 2·min(j, r+1) + 4·min(j, r)) -/
theorem c17_arCalls2 (ops : List Nat) :
    arCalls2 ops =
      let r := rfOf (split2 ops)
      let s := (split2 ops).length - 1
      let k := ops.length
      ((List.range (2 * k + 3)).map (fun j => 5 + 2 * pre r (min j (s + 1)) + min j s)).sum +
        firstRunsX2 k r (s + 1) := rfl

theorem c17_arCalls2_levels (r j : Nat) :
    tcLevels2 r (j + 1) = tcLevels2 r j + 8 + 2 * min j (r + 1) + 4 * min (min j (r + 1)) r := rfl

/-- **quadratic** in the length n = 2k+1 of the input: at most 7 (n+2)² calls -/
theorem c17_quadratic_arith2 (ops : List Nat) (hops : ∀ o ∈ ops, o = 42 ∨ o = 47 ∨ o = 43 ∨ o = 45) (fuel : Nat)
    (p : ParseOut) (h : parse (ar2Cfg ops) fuel (G.sentence (.ref 0)) = some p) :
    p.st.calls ≤ 7 * (((arData ops).length + 2) * ((arData ops).length + 2)) := by
  have h6 := (c17_closed_arith2_all ops hops fuel p h).2.2.2.2
  rw [Lv.lin_mul 2 3 13 17] at h6
  rw [arData_length ops, show 2 * ops.length + 1 + 2 = 2 * ops.length + 3 by omega, Lv.lin_mul 2 3 2 3]
  omega

/-- **doubling, every pair of inputs**: an input with at most 2k+1 operators makes at most 16 times the calls of ANY
    input with k operators -/
theorem c17_double_arith2 (ops ops' : List Nat) (hops : ∀ o ∈ ops, o = 42 ∨ o = 47 ∨ o = 43 ∨ o = 45)
    (hops' : ∀ o ∈ ops', o = 42 ∨ o = 47 ∨ o = 43 ∨ o = 45) (hk : ops'.length ≤ 2 * ops.length + 1)
    (f1 f2 : Nat) (p1 p2 : ParseOut)
    (h1 : parse (ar2Cfg ops) f1 (G.sentence (.ref 0)) = some p1)
    (h2 : parse (ar2Cfg ops') f2 (G.sentence (.ref 0)) = some p2) :
    p2.st.calls ≤ 16 * p1.st.calls :=
  ar2_double ops ops' hops hk _ _ (c17_closed_arith2_all ops hops f1 p1 h1).2.2.1
    (c17_closed_arith2_all ops' hops' f2 p2 h2).2.2.2.2

/-- **the harness's inputs, EVERY length parameter n**: the parse succeeds with at most 7 (len + 2)² calls, and the run
    on the input of length parameter 2n makes at most 16 times the calls of the run on the input of parameter n -/
theorem c17_arith2_harness (n : Nat) (fuel : Nat) (p : ParseOut)
    (h : parse (famCfg arith2Env (arith2Input n)) fuel (G.sentence (.ref 0)) = some p) :
    p.err = none ∧ p.res.isNil = false ∧
    p.st.calls ≤ 7 * (((arith2Input n).length + 2) * ((arith2Input n).length + 2)) := by
  rw [arith2Input_eq n] at h ⊢
  obtain ⟨a, b, _⟩ := c17_closed_arith2_all _ (hOps2_ok _) fuel p h
  exact ⟨a, b, c17_quadratic_arith2 _ (hOps2_ok _) fuel p h⟩

theorem c17_double_arith2_harness (n : Nat) (f1 f2 : Nat) (p1 p2 : ParseOut)
    (h1 : parse (famCfg arith2Env (arith2Input n)) f1 (G.sentence (.ref 0)) = some p1)
    (h2 : parse (famCfg arith2Env (arith2Input (2 * n))) f2 (G.sentence (.ref 0)) = some p2) :
    p2.st.calls ≤ 16 * p1.st.calls := by
  rw [arith2Input_eq] at h1 h2
  exact c17_double_arith2 _ _ (hOps2_ok _) (hOps2_ok _)
    (by simp only [Lv.hOps, List.length_map, List.length_range]; omega) f1 f2 p1 p2 h1 h2

/-- non-vacuity (evaluation, independent of the proofs): n = 9 → 100 calls; k = 4 → 142 calls -/
example : (parse (hidCfg 9) 100 (G.sentence (.ref 0))).map (fun p => (p.st.calls, p.err.isNone)) = some (100, true) := by
  decide +kernel
example : (parse (mutCfg 4) 200 (G.sentence (.ref 0))).map (fun p => (p.st.calls, p.err.isNone)) = some (142, true) := by
  decide +kernel
example : hidCalls 9 = 100 ∧ mutCalls 4 = 142 := by decide

end PV
