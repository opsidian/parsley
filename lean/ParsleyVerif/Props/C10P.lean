/-
  C10P — the reader's whitespace skipping and position arithmetic (and the file's line table), about the functions
  TRANSLATED from the Go source.

  `factgen -out-prog` translates text/reader.go `SkipWhitespaces`, `Remaining`, `IsEOF`, `Pos` and text/file.go
  `setLines`, `Pos`, `Position`, `Len`, `SetOffset`, statement by statement, into Lean definitions
  (Generated/FactsProg.lean, regenerated from the repository on every run; run-time: the hand-written
  Generated/ProgPrelude.lean).  `c10_translated_functions` says that the hand-written model (Model/Text.lean) and the
  translation compute the same results; `c10p_skipWhitespaces` carries the byte-level specification of C09/C10
  (`wsRun`, `wsVerdict` on the bytes at the cursor) over to the translated function itself.

  `FileRel st F f`: the translated `File` struct `F`, read in state `st`, shows the model file `f` (its byte slice reads
  as the model's bytes; `len`, `offset`, `filename` agree).  Positions are `Nat` in the model, `Int` in the translation;
  the domain is the model's: `offset ≤ pos`.  Interface values (a `parsley.Error`, a `parsley.Position`) are opaque
  records in the translation (`Obj`); `errObj` / `posObj` say which record stands for which model answer.
-/
import ParsleyVerif.Proofs.TxtTieFileSet
import ParsleyVerif.Proofs.Reader
namespace PV.ProgTie
open PV.ProgPrelude PV.FactsProg

/-- **The tie.**  Every text-package function asked for is translated and computes what the model computes. -/
theorem c10_translated_functions (st : St) (F : FactsProg.File) (f : Text.File) (rel : FileRel st F f) :
    textFunctions.all (fun f => FactsProg.translatedProg.contains f) = true ∧
    (∀ p : Nat, f.offset ≤ p → p - f.offset ≤ f.len →
      Reader_Remaining ⟨F⟩ p st = .ok ((Text.remaining f p : Nat) : Int) st) ∧
    (∀ p : Nat, f.offset ≤ p → Reader_IsEOF ⟨F⟩ p st = .ok (Text.isEOF f p) st) ∧
    (∀ cur : Nat, Reader_Pos ⟨F⟩ cur st = .ok ((f.pos cur : Nat) : Int) st ∧
      File_Pos F cur st = .ok ((f.pos cur : Nat) : Int) st) ∧
    (∀ (p : Nat) (mode : Text.WsMode), f.offset ≤ p →
      Reader_SkipWhitespaces ⟨F⟩ p (modeCode mode) st =
        .ok (((Text.skipWhitespaces f p mode).1 : Int), errObj (Text.skipWhitespaces f p mode).2) st) :=
  ⟨tie_text_translated, fun p h1 h2 => tie_Remaining st F f rel p h1 h2, fun p h1 => tie_IsEOF st F f rel p h1,
   fun cur => tie_Pos st F f rel cur, fun p mode h1 => tie_SkipWhitespaces st F f rel p h1 mode⟩

/-- **The tie, file side.**  `setLines` builds the model's line table (in a fresh array, writing to nothing that
    existed); `Position` answers what the model answers — never a panic —, fills the line cache on first use and keeps
    the relation to the model file. -/
theorem c10_translated_file (h : Data.Heap) (mh : Data.MHeap) (g : Nat → Nat) (F : FactsProg.File) (f : Text.File)
    (rel : FileRel ⟨h, mh, g⟩ F f) (hd : F.data.arr < h.length) :
    (∃ (L : Data.Slice) (h' : Data.Heap),
      File_setLines F ⟨h, mh, g⟩ = .ok { F with lines := sl L } ⟨h', mh, g⟩ ∧
      Data.view h' L = f.lines.map Int.ofNat ∧ Data.SWF h' L ∧ Data.Frame h.length h h') ∧
    (∀ (p : Nat), LinesInv ⟨h, mh, g⟩ F f →
      f.position p ≠ .panic ∧
      ∃ (F' : FactsProg.File) (h' : Data.Heap),
        File_Position F p ⟨h, mh, g⟩ = .ok (F', posObj (f.position p)) ⟨h', mh, g⟩ ∧
        FileRel ⟨h', mh, g⟩ F' f ∧ LinesInv ⟨h', mh, g⟩ F' f ∧ Data.Frame h.length h h') :=
  ⟨by
    obtain ⟨F', st', e, L, rfl, v, w, k, -, n, o, he⟩ := (TxtTie.tie_setLines ⟨h, mh, g⟩ F f rel hd).ok
    rw [k.state_eq] at e v w he
    obtain ⟨hsl, wd⟩ := w.toData o n he
    rw [hsl] at e v
    exact ⟨_, _, e, by rw [← view_sl _ mh g]; exact v, wd, k.frame⟩,
   fun p inv => by
    obtain ⟨⟨F', po⟩, st', e, hpo, r, i, k, -⟩ := (TxtTie.tie_Position ⟨h, mh, g⟩ F f rel hd inv p).ok
    dsimp only at hpo r i
    subst hpo
    rw [k.state_eq] at e r i
    exact ⟨Text.File.position_ne_panic f p, F', _, e, r, i, k.frame⟩⟩

/-- **SkipWhitespaces (translated)** moves past exactly the whitespace run at the cursor and reports exactly the
    mode's verdict on the bytes there (C09/C10's byte-level specification), changing nothing. -/
theorem c10p_skipWhitespaces (st : St) (F : FactsProg.File) (f : Text.File) (rel : FileRel st F f) (p : Nat)
    (mode : Text.WsMode) (h : Text.InFile f p) (hoff : 1 ≤ f.offset) :
    Reader_SkipWhitespaces ⟨F⟩ p (modeCode mode) st =
      .ok (((p + Text.wsRun (Text.rest f p) : Nat) : Int), errObj (Text.wsVerdict mode p (Text.rest f p))) st := by
  rw [tie_SkipWhitespaces st F f rel p h.1 mode, Text.skipWhitespaces_spec f p mode h hoff]

/-- non-vacuity: a concrete file ("a \n\tb", offset 1) in a concrete state, evaluated by the kernel: whitespace
    skipping in the four modes from position 2, and a position lookup that fills the line cache -/
theorem c10p_example :
    let st : St := { arrays := [[97, 32, 10, 9, 98]], maps := [], grow := fun c => 2 * c + 1 }
    let F : FactsProg.File := { filename := "x", data := { arr := 0, off := 0, len := 5, cap := 5 }, lines := Go.nilSl, len := 5, offset := 1 }
    let run := fun (m : Int) => match Reader_SkipWhitespaces ⟨F⟩ 2 m st with
      | .ok (q, e) _ => (q, e.isNil) | _ => (0, false)
    (run 0, run 1, run 2, run 3) = ((5, false), (5, false), (5, true), (5, true)) ∧
    (match File_Position F 4 st with
      | .ok (F', .mk tag ints strs _) st' => (tag, ints, strs, view st' F'.lines) | _ => ("", [], [], [])) =
      ("text.Position", [2, 2], ["x"], [0, 3]) := by
  decide +kernel

end PV.ProgTie
