/-
  C08P — text/terminal/string.go `unquoteString`, about the function TRANSLATED from the Go source.

  `factgen -out-prog` translates the 48-line body of `unquoteString` (the scan for the first special byte, then the
  rune-by-rune loop around strconv.UnquoteChar) statement by statement into Lean (Generated/FactsProg.lean:
  `unquoteString`, `unquoteString_loop1`, `unquoteString_loop2`; two fuelled loops over the array heap of
  Generated/ProgPrelude.lean, `make`, `append(res, b[0:i]...)`, `append(res, string(ch)...)`, `string(b[i:])`).
  strconv.UnquoteChar is NOT given a meaning by the prelude: it is the field `unquoteChar` of the world `X : Ext`, and
  `UnquoteRel X` is the assumption that, for the quote `"`, it answers what the model's transcription
  (Model/Terminal.lean `unquoteChar`) answers.

  `c08_translated_unquoteString`: under that assumption the translated function computes the model's `unquoteString`
  (`FnRel`: on every non-nil, well-formed slice showing non-empty bytes `bs` it returns — never a panic, never out of
  fuel, writing to nothing that existed — a slice showing `(unquoteString bs).1` (nil for `none`) and the length
  `(unquoteString bs).2`).  Hence (`c08p_readf_unquoteString`) `tr.Readf(pos, unquoteString)` as translated is the
  model's `readf unquoteString` and never reaches either panic of Readf, and (`c08p_no_raw_linebreak`) the bytes the
  translated function consumes never contain a raw CR or LF.
-/
import ParsleyVerif.Proofs.TxtTieUnquote
import ParsleyVerif.Props.C08
import ParsleyVerif.Props.C09P
namespace PV.TxtTie
open PV.ProgPrelude PV.FactsProg PV.ProgTie

/-- **The tie.**  `unquoteString` is translated (both loops), and for every world whose UnquoteChar is the model's it
    computes the model's `unquoteString`. -/
theorem c08_translated_unquoteString :
    FactsProg.translatedProg.contains "unquoteString" = true ∧
    ∀ (X : Ext), UnquoteRel X → FnRel (FactsProg.unquoteString X) PV.unquoteString :=
  ⟨by decide +kernel, fun X hX => tie_unquoteString X hX⟩

/-- the same, spelled out: the outcome of the translated function on a slice `s` that shows the non-empty bytes `bs` -/
theorem c08p_unquoteString (X : Ext) (hX : UnquoteRel X) (st : ProgPrelude.St) (s : Sl) (bs : Text.Bytes)
    (hv : view st s = ints bs) (hl : s.len = bs.length) (hne : bs ≠ []) (hnil : s.isNil = false) (hcap : s.len ≤ s.cap) :
    ∃ (v : Sl) (st' : ProgPrelude.St),
      FactsProg.unquoteString X s st = .ok (v, ((PV.unquoteString bs).2 : Int)) st' ∧ Grows st st' ∧
      (match (PV.unquoteString bs).1 with
        | none => v.isNil = true ∧ v.len = 0
        | some val => v.isNil = false ∧ view st' v = ints val ∧ v.len = val.length) := by
  obtain ⟨v, st', e, g, vr⟩ := tie_unquoteString X hX st s bs hv hl hne hnil hcap
  refine ⟨v, st', e, g, ?_⟩
  cases h : (PV.unquoteString bs).1 with
  | none => rw [h] at vr; exact vr
  | some val => rw [h] at vr; exact vr

/-- **Readf(pos, unquoteString), translated**: it is the model's `readf unquoteString` for every position at or above
    the base offset, and for a position in the file it returns — neither panic of Readf is reachable — a position in
    [pos, end of file] -/
theorem c08p_readf_unquoteString (X : Ext) (hX : UnquoteRel X) (st : ProgPrelude.St) (F : FactsProg.File) (f : Text.File)
    (rel : FileRel st F f) (wf : SlWF F.data) (p : Nat) :
    (f.offset ≤ p → AgreesPS (Reader_Readf ⟨F⟩ p (FactsProg.unquoteString X) st) (Text.readf PV.unquoteString f p) st) ∧
    (Text.InFile f p → ∃ (q : Nat) (v : Sl) (st' : ProgPrelude.St),
      Reader_Readf ⟨F⟩ p (FactsProg.unquoteString X) st = .ok ((q : Int), v) st' ∧ Grows st st' ∧
      p ≤ q ∧ q ≤ f.offset + f.len ∧ (v.isNil = true → q = p)) := by
  have tie := fun h => tie_Readf _ _ (tie_unquoteString X hX) st F f rel wf p h
  refine ⟨tie, fun h => ?_⟩
  -- the tie, then what C09 and the contract of `unquoteString` say about the model's answer
  have h2 := h.2
  have hrl := Text.rest_length f p h
  have hm : ∃ q val, Text.readf PV.unquoteString f p = some (q, val) ∧ p ≤ q ∧ q ≤ f.offset + f.len ∧ (val = none → q = p) := by
    rw [Text.c09_readf PV.unquoteString f p h]
    by_cases hr : Text.rest f p = []
    · exact ⟨p, none, by rw [if_pos hr], Nat.le_refl _, h2, fun _ => rfl⟩
    · obtain ⟨c1, c2, c3⟩ := unquoteString_contract (Text.rest f p) hr
      rw [if_neg hr]
      rcases c3 with ⟨c3, c4⟩ | ⟨c3, c4⟩
      · exact ⟨p, none, by rw [if_pos c4, c3]; rfl, Nat.le_refl _, h2, fun _ => rfl⟩
      · refine ⟨_, _, by rw [if_neg (by omega), if_neg (by omega)], by omega, by omega, fun hn => ?_⟩
        rw [hn] at c3; cases c3
  obtain ⟨q0, val0, e0, hq0⟩ := hm
  obtain ⟨q, val, v, st', e, g, vr, hq⟩ := (tie h.1).elim (Φ := fun q val => p ≤ q ∧ q ≤ f.offset + f.len ∧ (val = none → q = p))
    (by rw [e0]; exact nofun) (fun q val hm => by rw [e0] at hm; cases hm; exact hq0)
  exact ⟨q, v, st', e, g, hq.1, hq.2.1, fun hn => hq.2.2 (vr.eq_none hn)⟩

/-- **no raw line break (string.go as fixed), translated**: the bytes the translated function consumes never contain a
    raw LF or CR — the count it returns is the model's, for which C08 proves it -/
theorem c08p_no_raw_linebreak (X : Ext) (hX : UnquoteRel X) (st : ProgPrelude.St) (s : Sl) (bs : Text.Bytes)
    (hv : view st s = ints bs) (hl : s.len = bs.length) (hne : bs ≠ []) (hnil : s.isNil = false) (hcap : s.len ≤ s.cap) :
    ∃ (v : Sl) (n : Nat) (st' : ProgPrelude.St), FactsProg.unquoteString X s st = .ok (v, (n : Int)) st' ∧
      n ≤ bs.length ∧ ∀ b ∈ bs.take n, b ≠ 10 ∧ b ≠ 13 := by
  obtain ⟨v, st', e, _, _⟩ := tie_unquoteString X hX st s bs hv hl hne hnil hcap
  exact ⟨v, _, st', e, (unquoteString_contract bs hne).1, c08_string_body_no_raw_linebreak bs⟩

/-! non-vacuity: a world whose UnquoteChar IS the model's transcription satisfies `UnquoteRel`; with it the translated
    function is run by the kernel on `ab\tc"x` (an escape), on `ab` LF `c` (a raw line break ends the literal) and on
    `"` (nothing before the quote) -/

def modelExt : Ext :=
  { findIndex := fun _ _ => none,
    unquoteChar := fun s q => (PV.unquoteChar (s.map Int.toNat) q.toNat).map (fun r => ((r.1 : Int), false, ints r.2)) }

theorem c08p_modelExt_rel : UnquoteRel modelExt := by
  intro s
  have e : (34 : Int).toNat = 34 := rfl
  simp only [modelExt, ints_toNat, e, Option.map_map]
  cases PV.unquoteChar s 34 <;> rfl

def c08pRun (bytes : List Int) : Option (List Int × Int) :=
  let st : ProgPrelude.St := { arrays := [bytes], maps := [], grow := fun c => 2 * c + 1 }
  match FactsProg.unquoteString modelExt { arr := 0, off := 0, len := bytes.length, cap := bytes.length } st with
  | .ok (v, n) st' => some (view st' v, n)
  | _ => none

theorem c08p_example :
    c08pRun [97, 98, 92, 116, 99, 34, 120] = some ([97, 98, 9, 99], 5) ∧
    c08pRun [97, 98, 10, 99] = some ([97, 98], 2) ∧
    c08pRun [92, 110, 13, 99] = some ([10], 2) ∧
    c08pRun [34] = some ([], 0) := by
  decide +kernel

end PV.TxtTie
