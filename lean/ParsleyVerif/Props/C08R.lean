/-
  C08R — the typed LEAF NODE TYPES of text/terminal and ast.TerminalNode, about the definitions TRANSLATED from the Go source.

  `factgen -out-term` (harness/cmd/factgen/prognode.go) translates, from the repository's current source on every run, the
  struct declarations BoolNode, CharNode, FloatNode, IntegerNode, NilNode, OpNode, StringNode, TimeDurationNode
  (text/terminal/*.go) and TerminalNode (ast/terminal_node.go), their constructors `NewX` and their methods Token, Schema,
  Value, Pos, ReaderPos, SetReaderPos into the namespace `PV.FactsTerm.Src` of Generated/FactsTerm.lean (a `*T` is the
  structure's value; SetReaderPos answers the new content of the receiver's cell).  They have two hand-written
  counterparts: the prelude constructors of Generated/TermPrelude.lean that the translated closures call (Props/C08Q.lean) and the model's
  `Node.term tok val pos rpos` (Model/Node.lean).

  Every theorem is about INPUT / OUTPUT behaviour — what the methods answer on what the constructor built — for ALL
  argument values; nothing mentions a field of a struct.

  PROVED, for each node type X (x = bool, char, float, integer, nil, op, string, timeDuration, terminal)
    * `c08r_all_translated`   everything asked for is translated, nothing is refused;
    * `c08r_x_accessors`      on `NewX(args)`: Token() is the type's constant (the operator for OpNode, the argument for
                              TerminalNode), Schema() the schema argument (nil for OpNode), Value() the value argument with
                              its dynamic type (nil for NilNode, the operator for OpNode), Pos() / ReaderPos() the two
                              position arguments IN THAT ORDER;
    * `c08r_x_setReaderPos`   on ANY node n of the type: after n.SetReaderPos(f), ReaderPos() is f(n.ReaderPos()) and Token,
                              Schema, Value, Pos are unchanged;
    * `c08r_x_prelude`        the leaf the node's methods describe — `.leaf Token() Value() Pos() ReaderPos()` — of
                              `NewX(args)` IS the prelude constructor `TermPrelude.NewX args` the translated closures call: the
                              hand-written constructors of the prelude are consequences of the source;
    * `c08r_x_model`          and it IS the encoding `eNode` of the model's `Node.term` with the type's token and value: the
                              fields pos / rpos / token / value of Model/Node.lean are what Pos() / ReaderPos() / Token() /
                              Value() of the Go types answer.
-/
import ParsleyVerif.Proofs.TermTieBasics
namespace PV
open PV.CoreTie PV.TermTie PV.FactsTerm

/-- the constructors and methods the translator is asked for -/
def c08r_nodeFunctions : List String :=
  (["BoolNode", "CharNode", "FloatNode", "IntegerNode", "NilNode", "OpNode", "StringNode", "TimeDurationNode", "TerminalNode"].map
    (fun t => ["New" ++ t, t ++ "_Token", t ++ "_Schema", t ++ "_Value", t ++ "_Pos", t ++ "_ReaderPos", t ++ "_SetReaderPos"])).flatten

/-- everything asked for is translated -/
theorem c08r_all_translated :
    c08r_nodeFunctions.all (fun f => FactsTerm.translatedNodes.contains f) = true ∧ FactsTerm.untranslatedNodes = [] := by
  decide +kernel

def c08r_boolLeaf (n : Src.BoolNode) : CNode := .leaf (Src.BoolNode_Token n) (Src.BoolNode_Value n) (Src.BoolNode_Pos n) (Src.BoolNode_ReaderPos n)

theorem c08r_bool_accessors (schema : CorePrelude.Opaque) (value : Bool) (pos readerPos : Int) :
    Src.BoolNode_Token (Src.NewBoolNode schema value pos readerPos) = CorePrelude.Go.str "BOOL" ∧
    Src.BoolNode_Schema (Src.NewBoolNode schema value pos readerPos) = schema ∧
    Src.BoolNode_Value (Src.NewBoolNode schema value pos readerPos) = TermPrelude.Val.ofBool value ∧
    Src.BoolNode_Pos (Src.NewBoolNode schema value pos readerPos) = pos ∧
    Src.BoolNode_ReaderPos (Src.NewBoolNode schema value pos readerPos) = readerPos :=
  ⟨rfl, rfl, rfl, rfl, rfl⟩

theorem c08r_bool_setReaderPos (n : Src.BoolNode) (f : Int → Int) :
    Src.BoolNode_ReaderPos (Src.BoolNode_SetReaderPos n f) = f (Src.BoolNode_ReaderPos n) ∧
    Src.BoolNode_Pos (Src.BoolNode_SetReaderPos n f) = Src.BoolNode_Pos n ∧
    Src.BoolNode_Token (Src.BoolNode_SetReaderPos n f) = Src.BoolNode_Token n ∧
    Src.BoolNode_Value (Src.BoolNode_SetReaderPos n f) = Src.BoolNode_Value n ∧
    Src.BoolNode_Schema (Src.BoolNode_SetReaderPos n f) = Src.BoolNode_Schema n :=
  ⟨rfl, rfl, rfl, rfl, rfl⟩

theorem c08r_bool_prelude (schema : CorePrelude.Opaque) (value : Bool) (pos readerPos : Int) :
    c08r_boolLeaf (Src.NewBoolNode schema value pos readerPos) = TermPrelude.NewBoolNode schema value pos readerPos := rfl

theorem c08r_bool_model (schema : CorePrelude.Opaque) (value : Bool) (pos rpos : Nat) :
    c08r_boolLeaf (Src.NewBoolNode schema value (pos : Int) (rpos : Int)) = eNode (.term (tokOf "BOOL") (Val.bool value) pos rpos) := rfl

def c08r_charLeaf (n : Src.CharNode) : CNode := .leaf (Src.CharNode_Token n) (Src.CharNode_Value n) (Src.CharNode_Pos n) (Src.CharNode_ReaderPos n)

theorem c08r_char_accessors (schema : CorePrelude.Opaque) (value : Int) (pos readerPos : Int) :
    Src.CharNode_Token (Src.NewCharNode schema value pos readerPos) = CorePrelude.Go.str "CHAR" ∧
    Src.CharNode_Schema (Src.NewCharNode schema value pos readerPos) = schema ∧
    Src.CharNode_Value (Src.NewCharNode schema value pos readerPos) = TermPrelude.Val.ofRune value ∧
    Src.CharNode_Pos (Src.NewCharNode schema value pos readerPos) = pos ∧
    Src.CharNode_ReaderPos (Src.NewCharNode schema value pos readerPos) = readerPos :=
  ⟨rfl, rfl, rfl, rfl, rfl⟩

theorem c08r_char_setReaderPos (n : Src.CharNode) (f : Int → Int) :
    Src.CharNode_ReaderPos (Src.CharNode_SetReaderPos n f) = f (Src.CharNode_ReaderPos n) ∧
    Src.CharNode_Pos (Src.CharNode_SetReaderPos n f) = Src.CharNode_Pos n ∧
    Src.CharNode_Token (Src.CharNode_SetReaderPos n f) = Src.CharNode_Token n ∧
    Src.CharNode_Value (Src.CharNode_SetReaderPos n f) = Src.CharNode_Value n ∧
    Src.CharNode_Schema (Src.CharNode_SetReaderPos n f) = Src.CharNode_Schema n :=
  ⟨rfl, rfl, rfl, rfl, rfl⟩

theorem c08r_char_prelude (schema : CorePrelude.Opaque) (value : Int) (pos readerPos : Int) :
    c08r_charLeaf (Src.NewCharNode schema value pos readerPos) = TermPrelude.NewCharNode schema value pos readerPos := rfl

theorem c08r_char_model (schema : CorePrelude.Opaque) (value : Nat) (pos rpos : Nat) :
    c08r_charLeaf (Src.NewCharNode schema (value : Int) (pos : Int) (rpos : Int)) = eNode (.term (tokOf "CHAR") (Val.rune value) pos rpos) := rfl

def c08r_floatLeaf (n : Src.FloatNode) : CNode := .leaf (Src.FloatNode_Token n) (Src.FloatNode_Value n) (Src.FloatNode_Pos n) (Src.FloatNode_ReaderPos n)

theorem c08r_float_accessors (schema : CorePrelude.Opaque) (value : TermPrelude.Float64) (pos readerPos : Int) :
    Src.FloatNode_Token (Src.NewFloatNode schema value pos readerPos) = CorePrelude.Go.str "FLOAT" ∧
    Src.FloatNode_Schema (Src.NewFloatNode schema value pos readerPos) = schema ∧
    Src.FloatNode_Value (Src.NewFloatNode schema value pos readerPos) = TermPrelude.Val.ofFloat64 value ∧
    Src.FloatNode_Pos (Src.NewFloatNode schema value pos readerPos) = pos ∧
    Src.FloatNode_ReaderPos (Src.NewFloatNode schema value pos readerPos) = readerPos :=
  ⟨rfl, rfl, rfl, rfl, rfl⟩

theorem c08r_float_setReaderPos (n : Src.FloatNode) (f : Int → Int) :
    Src.FloatNode_ReaderPos (Src.FloatNode_SetReaderPos n f) = f (Src.FloatNode_ReaderPos n) ∧
    Src.FloatNode_Pos (Src.FloatNode_SetReaderPos n f) = Src.FloatNode_Pos n ∧
    Src.FloatNode_Token (Src.FloatNode_SetReaderPos n f) = Src.FloatNode_Token n ∧
    Src.FloatNode_Value (Src.FloatNode_SetReaderPos n f) = Src.FloatNode_Value n ∧
    Src.FloatNode_Schema (Src.FloatNode_SetReaderPos n f) = Src.FloatNode_Schema n :=
  ⟨rfl, rfl, rfl, rfl, rfl⟩

theorem c08r_float_prelude (schema : CorePrelude.Opaque) (value : TermPrelude.Float64) (pos readerPos : Int) :
    c08r_floatLeaf (Src.NewFloatNode schema value pos readerPos) = TermPrelude.NewFloatNode schema value pos readerPos := rfl

theorem c08r_float_model (schema : CorePrelude.Opaque) (lex : List Nat) (pos rpos : Nat) :
    c08r_floatLeaf (Src.NewFloatNode schema (lex.map Int.ofNat) (pos : Int) (rpos : Int)) = eNode (.term (tokOf "FLOAT") (Val.float lex) pos rpos) := rfl

def c08r_integerLeaf (n : Src.IntegerNode) : CNode := .leaf (Src.IntegerNode_Token n) (Src.IntegerNode_Value n) (Src.IntegerNode_Pos n) (Src.IntegerNode_ReaderPos n)

theorem c08r_integer_accessors (schema : CorePrelude.Opaque) (value : Int) (pos readerPos : Int) :
    Src.IntegerNode_Token (Src.NewIntegerNode schema value pos readerPos) = CorePrelude.Go.str "INTEGER" ∧
    Src.IntegerNode_Schema (Src.NewIntegerNode schema value pos readerPos) = schema ∧
    Src.IntegerNode_Value (Src.NewIntegerNode schema value pos readerPos) = TermPrelude.Val.ofInt64 value ∧
    Src.IntegerNode_Pos (Src.NewIntegerNode schema value pos readerPos) = pos ∧
    Src.IntegerNode_ReaderPos (Src.NewIntegerNode schema value pos readerPos) = readerPos :=
  ⟨rfl, rfl, rfl, rfl, rfl⟩

theorem c08r_integer_setReaderPos (n : Src.IntegerNode) (f : Int → Int) :
    Src.IntegerNode_ReaderPos (Src.IntegerNode_SetReaderPos n f) = f (Src.IntegerNode_ReaderPos n) ∧
    Src.IntegerNode_Pos (Src.IntegerNode_SetReaderPos n f) = Src.IntegerNode_Pos n ∧
    Src.IntegerNode_Token (Src.IntegerNode_SetReaderPos n f) = Src.IntegerNode_Token n ∧
    Src.IntegerNode_Value (Src.IntegerNode_SetReaderPos n f) = Src.IntegerNode_Value n ∧
    Src.IntegerNode_Schema (Src.IntegerNode_SetReaderPos n f) = Src.IntegerNode_Schema n :=
  ⟨rfl, rfl, rfl, rfl, rfl⟩

theorem c08r_integer_prelude (schema : CorePrelude.Opaque) (value : Int) (pos readerPos : Int) :
    c08r_integerLeaf (Src.NewIntegerNode schema value pos readerPos) = TermPrelude.NewIntegerNode schema value pos readerPos := rfl

theorem c08r_integer_model (schema : CorePrelude.Opaque) (value : Int) (pos rpos : Nat) :
    c08r_integerLeaf (Src.NewIntegerNode schema value (pos : Int) (rpos : Int)) = eNode (.term (tokOf "INTEGER") (Val.int value) pos rpos) := rfl

def c08r_stringLeaf (n : Src.StringNode) : CNode := .leaf (Src.StringNode_Token n) (Src.StringNode_Value n) (Src.StringNode_Pos n) (Src.StringNode_ReaderPos n)

theorem c08r_string_accessors (schema : CorePrelude.Opaque) (value : List Nat) (pos readerPos : Int) :
    Src.StringNode_Token (Src.NewStringNode schema value pos readerPos) = CorePrelude.Go.str "STRING" ∧
    Src.StringNode_Schema (Src.NewStringNode schema value pos readerPos) = schema ∧
    Src.StringNode_Value (Src.NewStringNode schema value pos readerPos) = TermPrelude.Val.ofString value ∧
    Src.StringNode_Pos (Src.NewStringNode schema value pos readerPos) = pos ∧
    Src.StringNode_ReaderPos (Src.NewStringNode schema value pos readerPos) = readerPos :=
  ⟨rfl, rfl, rfl, rfl, rfl⟩

theorem c08r_string_setReaderPos (n : Src.StringNode) (f : Int → Int) :
    Src.StringNode_ReaderPos (Src.StringNode_SetReaderPos n f) = f (Src.StringNode_ReaderPos n) ∧
    Src.StringNode_Pos (Src.StringNode_SetReaderPos n f) = Src.StringNode_Pos n ∧
    Src.StringNode_Token (Src.StringNode_SetReaderPos n f) = Src.StringNode_Token n ∧
    Src.StringNode_Value (Src.StringNode_SetReaderPos n f) = Src.StringNode_Value n ∧
    Src.StringNode_Schema (Src.StringNode_SetReaderPos n f) = Src.StringNode_Schema n :=
  ⟨rfl, rfl, rfl, rfl, rfl⟩

theorem c08r_string_prelude (schema : CorePrelude.Opaque) (value : List Nat) (pos readerPos : Int) :
    c08r_stringLeaf (Src.NewStringNode schema value pos readerPos) = TermPrelude.NewStringNode schema value pos readerPos := rfl

theorem c08r_string_model (schema : CorePrelude.Opaque) (value : List Nat) (pos rpos : Nat) :
    c08r_stringLeaf (Src.NewStringNode schema value (pos : Int) (rpos : Int)) = eNode (.term (tokOf "STRING") (Val.str value) pos rpos) := rfl

def c08r_timeDurationLeaf (n : Src.TimeDurationNode) : CNode := .leaf (Src.TimeDurationNode_Token n) (Src.TimeDurationNode_Value n) (Src.TimeDurationNode_Pos n) (Src.TimeDurationNode_ReaderPos n)

theorem c08r_timeDuration_accessors (schema : CorePrelude.Opaque) (value : TermPrelude.Duration) (pos readerPos : Int) :
    Src.TimeDurationNode_Token (Src.NewTimeDurationNode schema value pos readerPos) = CorePrelude.Go.str "TIME_DURATION" ∧
    Src.TimeDurationNode_Schema (Src.NewTimeDurationNode schema value pos readerPos) = schema ∧
    Src.TimeDurationNode_Value (Src.NewTimeDurationNode schema value pos readerPos) = TermPrelude.Val.ofDuration value ∧
    Src.TimeDurationNode_Pos (Src.NewTimeDurationNode schema value pos readerPos) = pos ∧
    Src.TimeDurationNode_ReaderPos (Src.NewTimeDurationNode schema value pos readerPos) = readerPos :=
  ⟨rfl, rfl, rfl, rfl, rfl⟩

theorem c08r_timeDuration_setReaderPos (n : Src.TimeDurationNode) (f : Int → Int) :
    Src.TimeDurationNode_ReaderPos (Src.TimeDurationNode_SetReaderPos n f) = f (Src.TimeDurationNode_ReaderPos n) ∧
    Src.TimeDurationNode_Pos (Src.TimeDurationNode_SetReaderPos n f) = Src.TimeDurationNode_Pos n ∧
    Src.TimeDurationNode_Token (Src.TimeDurationNode_SetReaderPos n f) = Src.TimeDurationNode_Token n ∧
    Src.TimeDurationNode_Value (Src.TimeDurationNode_SetReaderPos n f) = Src.TimeDurationNode_Value n ∧
    Src.TimeDurationNode_Schema (Src.TimeDurationNode_SetReaderPos n f) = Src.TimeDurationNode_Schema n :=
  ⟨rfl, rfl, rfl, rfl, rfl⟩

theorem c08r_timeDuration_prelude (schema : CorePrelude.Opaque) (value : TermPrelude.Duration) (pos readerPos : Int) :
    c08r_timeDurationLeaf (Src.NewTimeDurationNode schema value pos readerPos) = TermPrelude.NewTimeDurationNode schema value pos readerPos := rfl

theorem c08r_timeDuration_model (schema : CorePrelude.Opaque) (lex : List Nat) (pos rpos : Nat) :
    c08r_timeDurationLeaf (Src.NewTimeDurationNode schema (lex.map Int.ofNat) (pos : Int) (rpos : Int)) = eNode (.term (tokOf "TIME_DURATION") (Val.dur lex) pos rpos) := rfl

def c08r_nilLeaf (n : Src.NilNode) : CNode := .leaf (Src.NilNode_Token n) (Src.NilNode_Value n) (Src.NilNode_Pos n) (Src.NilNode_ReaderPos n)

theorem c08r_nil_accessors (schema : CorePrelude.Opaque) (pos readerPos : Int) :
    Src.NilNode_Token (Src.NewNilNode schema pos readerPos) = CorePrelude.Go.str "NIL" ∧
    Src.NilNode_Schema (Src.NewNilNode schema pos readerPos) = schema ∧
    Src.NilNode_Value (Src.NewNilNode schema pos readerPos) = TermPrelude.Val.nil ∧
    Src.NilNode_Pos (Src.NewNilNode schema pos readerPos) = pos ∧
    Src.NilNode_ReaderPos (Src.NewNilNode schema pos readerPos) = readerPos :=
  ⟨rfl, rfl, rfl, rfl, rfl⟩

theorem c08r_nil_setReaderPos (n : Src.NilNode) (f : Int → Int) :
    Src.NilNode_ReaderPos (Src.NilNode_SetReaderPos n f) = f (Src.NilNode_ReaderPos n) ∧
    Src.NilNode_Pos (Src.NilNode_SetReaderPos n f) = Src.NilNode_Pos n ∧
    Src.NilNode_Token (Src.NilNode_SetReaderPos n f) = Src.NilNode_Token n ∧
    Src.NilNode_Value (Src.NilNode_SetReaderPos n f) = Src.NilNode_Value n ∧
    Src.NilNode_Schema (Src.NilNode_SetReaderPos n f) = Src.NilNode_Schema n :=
  ⟨rfl, rfl, rfl, rfl, rfl⟩

theorem c08r_nil_prelude (schema : CorePrelude.Opaque) (pos readerPos : Int) :
    c08r_nilLeaf (Src.NewNilNode schema pos readerPos) = TermPrelude.NewNilNode schema pos readerPos := rfl

theorem c08r_nil_model (schema : CorePrelude.Opaque) (pos rpos : Nat) :
    c08r_nilLeaf (Src.NewNilNode schema (pos : Int) (rpos : Int)) = eNode (.term (tokOf "NIL") (Val.nil) pos rpos) := rfl

def c08r_opLeaf (n : Src.OpNode) : CNode := .leaf (Src.OpNode_Token n) (Src.OpNode_Value n) (Src.OpNode_Pos n) (Src.OpNode_ReaderPos n)

theorem c08r_op_accessors (value : List Nat) (pos readerPos : Int) :
    Src.OpNode_Token (Src.NewOpNode value pos readerPos) = value ∧
    Src.OpNode_Schema (Src.NewOpNode value pos readerPos) = TermPrelude.Val.nil ∧
    Src.OpNode_Value (Src.NewOpNode value pos readerPos) = TermPrelude.Val.ofString value ∧
    Src.OpNode_Pos (Src.NewOpNode value pos readerPos) = pos ∧
    Src.OpNode_ReaderPos (Src.NewOpNode value pos readerPos) = readerPos :=
  ⟨rfl, rfl, rfl, rfl, rfl⟩

theorem c08r_op_setReaderPos (n : Src.OpNode) (f : Int → Int) :
    Src.OpNode_ReaderPos (Src.OpNode_SetReaderPos n f) = f (Src.OpNode_ReaderPos n) ∧
    Src.OpNode_Pos (Src.OpNode_SetReaderPos n f) = Src.OpNode_Pos n ∧
    Src.OpNode_Token (Src.OpNode_SetReaderPos n f) = Src.OpNode_Token n ∧
    Src.OpNode_Value (Src.OpNode_SetReaderPos n f) = Src.OpNode_Value n ∧
    Src.OpNode_Schema (Src.OpNode_SetReaderPos n f) = Src.OpNode_Schema n :=
  ⟨rfl, rfl, rfl, rfl, rfl⟩

theorem c08r_op_prelude (value : List Nat) (pos readerPos : Int) :
    c08r_opLeaf (Src.NewOpNode value pos readerPos) = TermPrelude.NewOpNode value pos readerPos := rfl

theorem c08r_op_model (value : List Nat) (pos rpos : Nat) :
    c08r_opLeaf (Src.NewOpNode value (pos : Int) (rpos : Int)) = eNode (.term value (Val.str value) pos rpos) := rfl

def c08r_terminalLeaf (n : Src.TerminalNode) : CNode := .leaf (Src.TerminalNode_Token n) (Src.TerminalNode_Value n) (Src.TerminalNode_Pos n) (Src.TerminalNode_ReaderPos n)

theorem c08r_terminal_accessors (schema : CorePrelude.Opaque) (token : List Nat) (value : CorePrelude.Opaque) (pos readerPos : Int) :
    Src.TerminalNode_Token (Src.NewTerminalNode schema token value pos readerPos) = token ∧
    Src.TerminalNode_Schema (Src.NewTerminalNode schema token value pos readerPos) = schema ∧
    Src.TerminalNode_Value (Src.NewTerminalNode schema token value pos readerPos) = value ∧
    Src.TerminalNode_Pos (Src.NewTerminalNode schema token value pos readerPos) = pos ∧
    Src.TerminalNode_ReaderPos (Src.NewTerminalNode schema token value pos readerPos) = readerPos :=
  ⟨rfl, rfl, rfl, rfl, rfl⟩

theorem c08r_terminal_setReaderPos (n : Src.TerminalNode) (f : Int → Int) :
    Src.TerminalNode_ReaderPos (Src.TerminalNode_SetReaderPos n f) = f (Src.TerminalNode_ReaderPos n) ∧
    Src.TerminalNode_Pos (Src.TerminalNode_SetReaderPos n f) = Src.TerminalNode_Pos n ∧
    Src.TerminalNode_Token (Src.TerminalNode_SetReaderPos n f) = Src.TerminalNode_Token n ∧
    Src.TerminalNode_Value (Src.TerminalNode_SetReaderPos n f) = Src.TerminalNode_Value n ∧
    Src.TerminalNode_Schema (Src.TerminalNode_SetReaderPos n f) = Src.TerminalNode_Schema n :=
  ⟨rfl, rfl, rfl, rfl, rfl⟩

theorem c08r_terminal_prelude (schema : CorePrelude.Opaque) (token : List Nat) (value : CorePrelude.Opaque) (pos readerPos : Int) :
    c08r_terminalLeaf (Src.NewTerminalNode schema token value pos readerPos) = TermPrelude.NewTerminalNode schema token value pos readerPos := rfl

theorem c08r_terminal_model (schema : CorePrelude.Opaque) (token : List Nat) (value : Val) (pos rpos : Nat) :
    c08r_terminalLeaf (Src.NewTerminalNode schema token (eVal value) (pos : Int) (rpos : Int)) = eNode (.term token (value) pos rpos) := rfl

/-- all nine node types at once: what the translated closures' prelude constructors build is what the source's constructors
    and methods say -/
theorem c08r_prelude_constructors :
    (∀ s v p r, c08r_boolLeaf (Src.NewBoolNode s v p r) = TermPrelude.NewBoolNode s v p r) ∧
    (∀ s v p r, c08r_charLeaf (Src.NewCharNode s v p r) = TermPrelude.NewCharNode s v p r) ∧
    (∀ s v p r, c08r_floatLeaf (Src.NewFloatNode s v p r) = TermPrelude.NewFloatNode s v p r) ∧
    (∀ s v p r, c08r_integerLeaf (Src.NewIntegerNode s v p r) = TermPrelude.NewIntegerNode s v p r) ∧
    (∀ s p r, c08r_nilLeaf (Src.NewNilNode s p r) = TermPrelude.NewNilNode s p r) ∧
    (∀ v p r, c08r_opLeaf (Src.NewOpNode v p r) = TermPrelude.NewOpNode v p r) ∧
    (∀ s v p r, c08r_stringLeaf (Src.NewStringNode s v p r) = TermPrelude.NewStringNode s v p r) ∧
    (∀ s v p r, c08r_timeDurationLeaf (Src.NewTimeDurationNode s v p r) = TermPrelude.NewTimeDurationNode s v p r) ∧
    (∀ s t v p r, c08r_terminalLeaf (Src.NewTerminalNode s t v p r) = TermPrelude.NewTerminalNode s t v p r) :=
  ⟨c08r_bool_prelude, c08r_char_prelude, c08r_float_prelude, c08r_integer_prelude, c08r_nil_prelude, c08r_op_prelude,
   c08r_string_prelude, c08r_timeDuration_prelude, c08r_terminal_prelude⟩

end PV
