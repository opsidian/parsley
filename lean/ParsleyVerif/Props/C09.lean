/-
  C09 — Text reader primitives match a byte-level specification and stay in bounds.

  Model: ParsleyVerif/Model/Text.lean (each primitive with its own `cur = pos - offset` and guards, every
  slice index through `[i]?`, `none` = Go run-time panic).  Specification: ParsleyVerif/Spec/ReaderSpec.lean
  (directly over `rest f pos`, the bytes from the position to the end of the file).
  Domain of every theorem: `InFile f pos` (first byte … end of file), any base offset ≥ 1 where the
  `nlPos == 0` sentinel of SkipWhitespaces matters, arguments in each primitive's documented domain.
-/
import ParsleyVerif.Proofs.Reader
import ParsleyVerif.Proofs.Utf8
import ParsleyVerif.Proofs.FactsTieText
namespace PV.Text

/-- ReadRune, ASCII rune -/
theorem c09_readRune_ascii (f : File) (pos ch : Nat) (h : InFile f pos) (hc : ch < 0x80) :
    readRune f pos ch = some (if (rest f pos).head? = some ch then (pos + 1, true) else (pos, false)) :=
  readRune_ascii f pos ch h hc

/-- ReadRune, multi-byte rune: the decoded rune at the cursor must be the one asked for -/
theorem c09_readRune_multibyte (f : File) (pos ch : Nat) (h : InFile f pos) (hc : ¬ ch < 0x80) :
    readRune f pos ch = some (if rest f pos ≠ [] ∧ (Utf8.decodeRune (rest f pos)).1 = ch
      then (pos + (Utf8.decodeRune (rest f pos)).2, true) else (pos, false)) :=
  readRune_multibyte f pos ch h hc

/-- the decoder used there is the inverse of the encoder on every Unicode scalar value -/
theorem c09_decode_encode (c : Nat) (t : Bytes) (h : Utf8.ValidScalar c) :
    Utf8.decodeRune (Utf8.encodeRune c ++ t) = (c, (Utf8.encodeRune c).length) :=
  Utf8.decode_encode c t h

theorem c09_matchString (f : File) (pos : Nat) (s : Bytes) (h : InFile f pos) (hs : s ≠ []) :
    matchString f pos s = some (if s <+: rest f pos then (pos + s.length, true) else (pos, false)) :=
  matchString_spec f pos s h hs

theorem c09_matchWord (f : File) (pos : Nat) (w : Bytes) (h : InFile f pos) (hw : w ≠ []) (ha : ∀ b ∈ w, b < 0x80) :
    matchWord f pos w = some (if w <+: rest f pos ∧ ((rest f pos).drop w.length).head?.all (fun d => !isWordByte d)
      then (pos + w.length, true) else (pos, false)) :=
  matchWord_spec f pos w h hw ha

/-- ReadRegexp for ANY engine that returns a match length within the rest -/
theorem c09_readRegexp (engine : Bytes → Option Nat) (f : File) (pos : Nat) (h : InFile f pos)
    (hc : ∀ r m, engine r = some m → m ≤ r.length) :
    readRegexp engine f pos = some (
      if rest f pos = [] then (pos, none) else
      match engine (rest f pos) with
      | none => (pos, none)
      | some m => (pos + m, some ((rest f pos).take m))) :=
  readRegexp_spec engine f pos h hc

/-- Readf for ANY custom function: the documented contract decides between a result and the documented panic -/
theorem c09_readf (fn : Bytes → Option Bytes × Nat) (f : File) (pos : Nat) (h : InFile f pos) :
    readf fn f pos =
      if rest f pos = [] then some (pos, none) else
      if (fn (rest f pos)).2 = 0 then (if (fn (rest f pos)).1.isSome then none else some (pos, none))
      else if (fn (rest f pos)).2 < ((fn (rest f pos)).1.getD []).length ∨ (fn (rest f pos)).2 > (rest f pos).length then none
      else some (pos + (fn (rest f pos)).2, (fn (rest f pos)).1) :=
  readf_spec fn f pos h

theorem c09_skipWhitespaces (f : File) (pos : Nat) (m : WsMode) (h : InFile f pos) (hoff : 1 ≤ f.offset) :
    skipWhitespaces f pos m = (pos + wsRun (rest f pos), wsVerdict m pos (rest f pos)) :=
  skipWhitespaces_spec f pos m h hoff

theorem c09_remaining (f : File) (pos : Nat) (h : InFile f pos) : remaining f pos = (rest f pos).length :=
  remaining_spec f pos h

theorem c09_isEOF (f : File) (pos : Nat) (h : InFile f pos) : isEOF f pos = true ↔ rest f pos = [] :=
  isEOF_spec f pos h

/-- **bounds**: on a match the new position is the old one plus the matched length and never exceeds the
    end of the file; on a mismatch the original position is returned -/
theorem c09_bounds (f : File) (pos : Nat) (h : InFile f pos) :
    (∀ ch p b, readRune f pos ch = some (p, b) → (b = false → p = pos) ∧ pos ≤ p ∧ p ≤ f.offset + f.len) ∧
    (∀ s p b, s ≠ [] → matchString f pos s = some (p, b) → (b = false → p = pos) ∧ (b = true → p = pos + s.length) ∧ p ≤ f.offset + f.len) ∧
    (∀ w p b, w ≠ [] → (∀ x ∈ w, x < 0x80) → matchWord f pos w = some (p, b) →
        (b = false → p = pos) ∧ (b = true → p = pos + w.length) ∧ p ≤ f.offset + f.len) ∧
    (∀ m, 1 ≤ f.offset → pos ≤ (skipWhitespaces f pos m).1 ∧ (skipWhitespaces f pos m).1 ≤ f.offset + f.len) := by
  refine ⟨?_, ?_, ?_, ?_⟩
  · intro ch p b hr
    rcases readRune_cases f pos ch with e | e | ⟨w, e, _, hle⟩ <;> rw [e] at hr <;> cases hr
    · exact ⟨fun _ => rfl, Nat.le_refl _, h.2⟩
    · exact ⟨nofun, Nat.le_add_right .., hle⟩
  · intro s p b _ hr
    rcases matchString_cases f pos s with e | e | ⟨e, _, hle⟩ <;> rw [e] at hr <;> cases hr
    · exact ⟨fun _ => rfl, nofun, h.2⟩
    · exact ⟨nofun, fun _ => rfl, hle⟩
  · intro w p b _ _ hr
    rcases matchWord_cases f pos w with e | e | ⟨e, _, hle⟩ <;> rw [e] at hr <;> cases hr
    · exact ⟨fun _ => rfl, nofun, h.2⟩
    · exact ⟨nofun, fun _ => rfl, hle⟩
  · intro m hoff
    rw [skipWhitespaces_spec f pos m h hoff]
    exact ⟨Nat.le_add_right _ _, (inFile_advance h (wsRun_le _)).2⟩

/-- **nothing outside the file is read**: on the domain no primitive evaluates an index outside the
    data (the model answers `none` exactly when the Go code would panic on an index) -/
theorem c09_inbounds (f : File) (pos : Nat) (h : InFile f pos) :
    (∀ ch, readRune f pos ch ≠ none) ∧
    (∀ s, s ≠ [] → matchString f pos s ≠ none) ∧
    (∀ w, w ≠ [] → (∀ x ∈ w, x < 0x80) → matchWord f pos w ≠ none) ∧
    (∀ engine, (∀ r m, engine r = some m → m ≤ r.length) → readRegexp engine f pos ≠ none) := by
  refine ⟨?_, ?_, ?_, ?_⟩
  · intro ch
    by_cases hc : ch < 0x80
    · exact readRune_ascii f pos ch h hc ▸ Option.some_ne_none _
    · exact readRune_multibyte f pos ch h hc ▸ Option.some_ne_none _
  · exact fun s hs => matchString_spec f pos s h hs ▸ Option.some_ne_none _
  · exact fun w hw ha => matchWord_spec f pos w h hw ha ▸ Option.some_ne_none _
  · exact fun e hc => readRegexp_spec e f pos h hc ▸ Option.some_ne_none _

/-- non-vacuity: a concrete file at a non-default base offset, a position inside it, and what the primitives answer -/
def nvFile : File := { name := "t", data := [97, 32, 10, 0xC3, 0xA9], offset := 7 }
example : InFile nvFile 8 := by unfold InFile File.len nvFile; decide
example : skipWhitespaces nvFile 8 .spaces = (10, some (9, .spacesErr)) ∧ readRune nvFile 10 233 = some (12, true) ∧
    matchWord nvFile 7 [97] = some (8, true) ∧ remaining nvFile 10 = 2 := by
  decide +kernel

/-- the facts the model takes from the source (regenerated on every run) -/
theorem c09_facts :
    Facts.wsBytes = [32, 9, 10, 12] ∧ Facts.wsBreakBytes = [10, 12] ∧
    Facts.regexpWrap = "\"^(?:\"+expr+\")\"" :=
  ⟨by decide, by decide, rfl⟩

/- Tie to the source: ReadRune, MatchString, MatchWord, ReadRegexp and Readf are translated from text/reader.go on every
   run and proved to compute what the model computes, panics included (`c09_translated_functions`, Props/C09P.lean);
   SkipWhitespaces, Remaining, IsEOF and Pos likewise (`c10_translated_functions`, Props/C10P.lean).  Both modules are
   built and audited by this property's check, so an equivalent rewrite of the source does not alarm. -/

/-- the expressions of Remaining, IsEOF and isWordCharacter, TRANSLATED from the Go source on every run
    (Generated/FactsFn.lean), are the model's definitions -/
theorem c09_translated_expressions :
    (∀ f pos, remaining f pos = FactsFn.remaining f.len pos f.offset) ∧
    (∀ f pos, isEOF f pos = FactsFn.isEOF f.len pos f.offset) ∧
    (∀ b, isWordByte b = FactsFn.isWordCharacter b) :=
  ⟨PV.tie_remaining, PV.tie_isEOF, PV.tie_isWordByte⟩

end PV.Text
