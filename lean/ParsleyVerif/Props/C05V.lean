/-
  C05 — the FULL value theorem:

    "For the classic left-recursive arithmetic grammar (expr → expr (+ or -) term | term, term → term (* or /) factor |
     factor, parentheses, signed integer literals, free whitespace) Evaluate returns, for every well-formed
     expression, the value a reference evaluator computes with left-associative operators and the usual
     precedence; division by zero is reported with the position of the operator."

  Model: `run` / `parse` / `evaluate` (Model/Run.lean, Model/Eval.lean) on the closed grammar `Garith`
  (Spec/Arith.lean), custom interpreter `arithCustom`, reference evaluator `refEval`.

  INPUTS.  `A05.Cst` (Proofs/A05Syntax.lean) is an expression together with its layout — every token carries the
  whitespace that follows it; `Cst.WF 0 e`: the operands of an operator of level `j` are of level `j` (left) and
  `j + 1` (right) — i.e. `e` is written with exactly the parentheses its structure needs —, every literal is in
  the integer syntax `[-+]?([1-9][0-9]*|0[xX][0-9a-fA-F]+|0[0-7]*)` with a value in [−2⁶³, 2⁶³), every
  whitespace chunk consists of the bytes 32, 9, 10, 12.  `A05.Input cfg ws0 e`: the grammar is `Garith.env`, the
  file (any base offset ≥ 1) holds `ws0 ++ e.render`.  `PExpr` / `render e ws` below is the same with the
  whitespace given separately (`ws i` follows token `i`, `ws 0` precedes the first token).
  `e.tree p`: the left-nested tree; `e.toExpr p`: the abstract expression with the positions of its operator bytes.

  PROVED, for every such input and every base offset, from three ingredients: (1) EXISTENCE — the tree of `e` has a
  derivation, also a curtailed one from the empty context (the counters never exceed the remaining input along the left
  spine); (2) completeness of `run` on the fragment with trims (Props/C01W.lean); (3) UNAMBIGUITY on EVERY input — two exact
  trees with the same start and the same end are equal, "exact" meaning that the trims are read as the code executes them
  (`A05.T`; under the monotone `Derives` of Spec/Derives.lean the tree of `e` is NOT the only one as soon as the text
  contains a space, `c05_derives_not_unique`; what `run` returns on the root is always exact, `c05_returned_exact`).  With
  termination on EVERY input (the certificate with trims of Props/C02U.lean): from some fuel on `parse` answers exactly
  `Sentence[e.tree, EOF]` and `evaluate` the reference value, or "division by zero" rendered at the position of the
  offending `/` (`c05_value_full`; `c05_value_text` for the plain syntax `PExpr` on the configuration that `text.NewFile` +
  `FileSet.AddFile` build from the raw text).  The theorems exclude both an ambiguity and a lost parse.
-/
import ParsleyVerif.Proofs.A05Arith
import ParsleyVerif.Props.C02U
import ParsleyVerif.Proofs.FileSet
namespace PV.A05
open PV.Text

/-- a reference outcome as an answer of `Evaluate`: the value, or "division by zero" with its rendered position -/
def embedV (fs : FileSet) : Except Nat Int → EvaluateOut
  | .ok v => .value (.int v)
  | .error q => .error (errorWithPosition fs ⟨q, .other (tokOf "division by zero")⟩)

end PV.A05

namespace PV
open PV.Text PV.A05

section
variable {cfg : Cfg} {ws0 : Bytes} {e : Cst}

/-- **(1) existence**: the text of a well-formed expression has the expected derivation -/
theorem c05_derivation (hin : Input cfg ws0 e) :
    Derives cfg Garith.root (cfg.file.pos 0) (sentenceNode (e.tree (start cfg ws0))) := by
  have h1 : Derives cfg (.ref 0) (cfg.file.pos 0) (e.tree (start cfg ws0)) := hin.dc.toDerives
  have := Derives.seqfam (cfg := cfg) (g := Garith.root) (pos := cfg.file.pos 0)
    (nodes := [e.tree (start cfg ws0), .eof (e.tree (start cfg ws0)).rpos]) rfl
    (.cons rfl h1 (.cons rfl (.eof hin.tree_eof) .nil)) rfl
  simpa [handleResult, sentenceNode, Node.rpos] using this

/-- the same as a CURTAILED derivation from the empty left-recursion context: the premises of the `memo` rule
    (`counter ≤ remaining input + curtailSlack`) hold along the left spine -/
theorem c05_derivation_curtailed (hin : Input cfg ws0 e) :
    DC cfg zeroC (.ref 0) (cfg.file.pos 0) (e.tree (start cfg ws0)) ∧
    isEOF cfg.file (e.tree (start cfg ws0)).rpos = true ∧
    exprOf (e.tree (start cfg ws0)) = some (e.toExpr (start cfg ws0)) :=
  ⟨hin.dc, hin.tree_eof, e.exprOf_tree _⟩

end

/-- **(3) unambiguity of the arithmetic grammar, on every input**: exact trees (`A05.T`: level 0 = expr, 1 = term,
    2 = factor; the trims read as executed) with the same start and the same end are equal -/
theorem c05_unambiguous (P : Params) (f : File) (hoff : 1 ≤ f.offset) (q : Nat) (hq : InFile f q) (ka kb : Nat)
    (a b : Node) (ha : T P f ka q a) (hb : T P f kb q b) (he : a.rpos = b.rpos) : a = b :=
  T_unique hoff hq ha hb he

/-- the comparison behind it: of two exact trees with the same start, the one that ends no later is a CUT of the
    other (go down left spines, cut right operands) -/
theorem c05_cut (P : Params) (f : File) (hoff : 1 ≤ f.offset) (q : Nat) (hq : InFile f q) (ka kb : Nat)
    (a b : Node) (ha : T P f ka q a) (hb : T P f kb q b) (he : a.rpos ≤ b.rpos) : Cut a b :=
  T.cut hoff _ (Nat.le_refl _) hq ha hb he

/-- everything `run` returns on the root — on every input, for every fuel — is `Sentence[y, EOF]` around an EXACT
    expression tree `y` that ends at the end of the input -/
theorem c05_returned_exact (cfg : Cfg) (henv : cfg.env = Garith.env) (fuel : Nat) (o : Out) (st' : St)
    (h : run cfg fuel Garith.root [] (cfg.file.pos 0) {} = some (o, st')) :
    ∀ x ∈ o.res.alts, ∃ y, T cfg.params cfg.file 0 (cfg.file.pos 0) y ∧ isEOF cfg.file y.rpos = true ∧
      x = sentenceNode y :=
  run_soundT cfg henv fuel o st' h

section
variable {cfg : Cfg} {ws0 : Bytes} {e : Cst}

/-- **(1)+(2)+(3), partial correctness**: for every fuel at which `parse` answers, it returns exactly one tree,
    the tree of `e`, and no error -/
theorem c05_parse_full_partial (hin : Input cfg ws0 e) (fuel : Nat) (p : ParseOut)
    (h : parse cfg fuel Garith.root = some p) :
    p.res = .one (sentenceNode (e.tree (start cfg ws0))) ∧ p.err = none ∧ p.msg = none :=
  hin.parse_root fuel p h

end

/-- **termination on every input** (work budget of the driver disabled): from some fuel on `parse` answers -/
theorem c05_terminates (cfg : Cfg) (henv : cfg.env = Garith.env) (hoff : 1 ≤ cfg.file.offset) (h0 : cfg.maxCalls = 0) :
    ∃ F, ∀ fuel, F ≤ fuel → ∃ p, parse cfg fuel Garith.root = some p := by
  obtain ⟨F, hF⟩ := c02u_arith_terminates cfg henv h0
  exact ⟨F, fun fuel hle => Option.isSome_iff_exists.mp (hF fuel hle)⟩

section
variable {cfg : Cfg} {ws0 : Bytes} {e : Cst}

/-- **the parser returns the tree of `e` and only that tree** -/
theorem c05_parse_full (hin : Input cfg ws0 e) (h0 : cfg.maxCalls = 0) :
    ∃ F, ∀ fuel, F ≤ fuel → ∃ p, parse cfg fuel Garith.root = some p ∧
      p.res = .one (sentenceNode (e.tree (start cfg ws0))) ∧ p.err = none ∧ p.msg = none := by
  obtain ⟨F, hF⟩ := c05_terminates cfg hin.env hin.off h0
  refine ⟨F, fun fuel hle => ?_⟩
  obtain ⟨p, hp⟩ := hF fuel hle
  exact ⟨p, hp, hin.parse_root fuel p hp⟩

theorem c05_evaluate_of_parse (hin : Input cfg ws0 e) (fuel : Nat) (p : ParseOut)
    (hp : parse cfg fuel Garith.root = some p) (hfuel : (e.tree (start cfg ws0)).depth + 1 < fuel) :
    evaluate cfg arithCustom fuel Garith.root = some (embedV cfg.fileSet (refEval (e.toExpr (start cfg ws0)))) := by
  obtain ⟨hres, _, hmsg⟩ := hin.parse_root fuel p hp
  rw [evaluate_one hp hmsg hres (parse_one_tree hin.env hp hres).1 (e.exprOf_tree _) hfuel]
  cases refEval (e.toExpr (start cfg ws0)) <;> rfl

/-- **C05 value theorem, partial correctness**: whenever `evaluate` answers (with fuel above the depth of the
    tree) the answer is the reference outcome -/
theorem c05_value_full_partial (hin : Input cfg ws0 e) (fuel : Nat) (out : EvaluateOut)
    (h : evaluate cfg arithCustom fuel Garith.root = some out) (hfuel : (e.tree (start cfg ws0)).depth + 1 < fuel) :
    out = embedV cfg.fileSet (refEval (e.toExpr (start cfg ws0))) := by
  cases hp : parse cfg fuel Garith.root with
  | none => simp [evaluate, hp] at h
  | some p =>
    rw [c05_evaluate_of_parse hin fuel p hp hfuel] at h
    injection h with h; exact h.symm

/-- **C05, the full value theorem**: from some fuel on, `Evaluate` on the text of a well-formed expression answers
    the value the reference evaluator computes (left-associative operators, `*` `/` before `+` `-`, int64
    wrap-around, truncated division) — or, for a division by zero, the error "division by zero" rendered by the
    file set at the position of that `/` -/
theorem c05_value_full (hin : Input cfg ws0 e) (h0 : cfg.maxCalls = 0) :
    ∃ F, ∀ fuel, F ≤ fuel →
      evaluate cfg arithCustom fuel Garith.root = some (embedV cfg.fileSet (refEval (e.toExpr (start cfg ws0)))) := by
  obtain ⟨F, hF⟩ := c05_terminates cfg hin.env hin.off h0
  refine ⟨max F ((e.tree (start cfg ws0)).depth + 2), fun fuel hle => ?_⟩
  obtain ⟨p, hp⟩ := hF fuel (by omega)
  exact c05_evaluate_of_parse hin fuel p hp (by omega)

/-- the position of a reported division by zero is the position of a `/` byte of the text -/
theorem c05_div_zero_at (hin : Input cfg ws0 e) (q : Nat) (hq : refEval (e.toExpr (start cfg ws0)) = .error q) :
    RuneAt cfg.file 47 q ∧ DivLeafAt cfg.file (e.tree (start cfg ws0)) q := by
  have ht : IsExprTree cfg.file (e.tree (start cfg ws0)) :=
    arith_derives_tree cfg hin.env 0 (by omega) _ _ hin.dc.toDerives
  have hdiv := c05_ref_error_at _ _ ht _ (e.exprOf_tree _) q hq
  have h3 : RuneAt cfg.file 47 q := by
    obtain ⟨_, _, h3⟩ := hdiv
    exact h3
  exact ⟨h3, hdiv⟩

end

/-! ### why (3) is stated for exact trees: `Derives` itself is not unambiguous

  `Derives` (Spec/Derives.lean) is the monotone reading of the combinators; its rule `rtrimKeep` allows the leaf
  whose end was not moved past the whitespace.  On "1 " the root therefore has no second derivation (the kept leaf
  ends before the space, where `End` does not match) — but on "1 +2" it has: the literal may keep its end at the
  space, the operator's left trim skips the space again. -/

/-- the file "1 +2" (base offset 1) -/
def ambCfg : Cfg := nvArithCfg [49, 32, 43, 50]

/-- on the text "1 +2" the relation `Derives` has a second tree for the root: the same shape, the literal `1`
    ending at 2 instead of 3 -/
theorem c05_derives_not_unique :
    ∃ x y, x ≠ y ∧ Derives (nvArithCfg [49, 32, 43, 50]) Garith.root 1 x ∧ Derives (nvArithCfg [49, 32, 43, 50]) Garith.root 1 y := by
  show ∃ x y, x ≠ y ∧ Derives ambCfg Garith.root 1 x ∧ Derives ambCfg Garith.root 1 y
  have hint : ∀ (p : Nat) (x : Node), Terminal.parse ambCfg.params ambCfg.file .integer (skipWhitespaces ambCfg.file p .spacesNl).1 = .node x →
      Derives ambCfg (.ref 2) p (setRposNode ambCfg.file .spacesNl x none).1 := by
    intro p x hx
    exact .ref (g := Garith.factor) rfl (.any (g := Garith.trim (.term .integer)) (by simp) (.rtrimMove (.ltrim (.term hx))))
  have hkeep : ∀ (p : Nat) (x : Node), Terminal.parse ambCfg.params ambCfg.file .integer (skipWhitespaces ambCfg.file p .spacesNl).1 = .node x →
      Derives ambCfg (.ref 2) p x := by
    intro p x hx
    exact .ref (g := Garith.factor) rfl (.any (g := Garith.trim (.term .integer)) (by simp) (.rtrimKeep (.ltrim (.term hx))))
  have up : ∀ p x, Derives ambCfg (.ref 2) p x → Derives ambCfg (.ref 1) p x := fun p x h =>
    .ref (g := Garith.term) rfl (.memo (.any (g := .ref 2) (by simp) h))
  have up0 : ∀ p x, Derives ambCfg (.ref 1) p x → Derives ambCfg (.ref 0) p x := fun p x h =>
    .ref (g := Garith.expr) rfl (.memo (.any (g := .ref 1) (by simp) h))
  have h1m : Derives ambCfg (.ref 0) 1 (intLeaf 1 1 3) := up0 _ _ (up _ _ (hint 1 (intLeaf 1 1 2) rfl))
  have h1k : Derives ambCfg (.ref 0) 1 (intLeaf 1 1 2) := up0 _ _ (up _ _ (hkeep 1 (intLeaf 1 1 2) rfl))
  have hopm : Derives ambCfg Garith.addop 3 (opLeaf 43 3 4) :=
    .any (g := Garith.trim (Garith.rn 43)) (by simp) (.rtrimMove (x := opLeaf 43 3 4) (.ltrim (.term rfl)))
  have hopk : Derives ambCfg Garith.addop 2 (opLeaf 43 3 4) :=
    .any (g := Garith.trim (Garith.rn 43)) (by simp) (.rtrimMove (x := opLeaf 43 3 4) (.ltrim (.term rfl)))
  have h2 : Derives ambCfg (.ref 1) 4 (intLeaf 2 4 5) := up _ _ (hint 4 (intLeaf 2 4 5) rfl)
  have mk : ∀ l, Derives ambCfg (.ref 0) 1 l → Derives ambCfg Garith.addop l.rpos (opLeaf 43 3 4) →
      Derives ambCfg Garith.root 1 (sentenceNode (binNode l (opLeaf 43 3 4) (intLeaf 2 4 5))) := by
    intro l hl hop
    have hseq := Derives.seqfam (cfg := ambCfg) (g := Garith.exprSeq) (pos := 1)
      (nodes := [l, opLeaf 43 3 4, intLeaf 2 4 5]) rfl (.cons rfl hl (.cons rfl hop (.cons rfl h2 .nil))) rfl
    have hex : Derives ambCfg (.ref 0) 1 (binNode l (opLeaf 43 3 4) (intLeaf 2 4 5)) :=
      .ref (g := Garith.expr) rfl (.memo (.any (g := Garith.exprSeq) (by simp) hseq))
    exact Derives.seqfam (cfg := ambCfg) (g := Garith.root) (pos := 1)
      (nodes := [binNode l (opLeaf 43 3 4) (intLeaf 2 4 5), .eof 5]) rfl
      (.cons rfl hex (.cons rfl (.eof rfl) .nil)) rfl
  refine ⟨_, _, ?_, mk _ h1m hopm, mk _ h1k hopk⟩
  simp [sentenceNode, binNode, intLeaf]

end PV

namespace PV.A05
open PV.Text

/-- expressions without layout: the whitespace is given separately (`layout`, `render` below) -/
inductive PExpr
  | lit (lex : Bytes)
  | bin (o : Op) (l r : PExpr)
  | paren (e : PExpr)
deriving Repr, Inhabited

namespace PExpr

/-- well-formed at precedence level `n`: stratified, literals in the integer syntax and within int64 -/
def WF : Nat → PExpr → Prop
  | _, .lit lex => LitOK lex
  | n, .bin o l r => n ≤ o.level ∧ l.WF o.level ∧ r.WF (o.level + 1)
  | _, .paren e => e.WF 0

/-- lay the expression out: the tokens are numbered in text order from `i`; token `k` is followed by `ws k`.
    Returns the laid-out expression and the number of the next token. -/
def layout : PExpr → (Nat → Bytes) → Nat → Cst × Nat
  | .lit lex, ws, i => (.lit lex (ws i), i + 1)
  | .bin o l r, ws, i =>
    let a := l.layout ws i
    let b := r.layout ws (a.2 + 1)
    (.bin o a.1 (ws a.2) b.1, b.2)
  | .paren e, ws, i =>
    let a := e.layout ws (i + 1)
    (.paren (ws i) a.1 (ws a.2), a.2 + 1)

theorem layout_WF (e : PExpr) (ws : Nat → Bytes) (hws : ∀ i, WsOK (ws i)) :
    ∀ n i, e.WF n → (e.layout ws i).1.WF n := by
  induction e with
  | lit lex => intro n i h; exact ⟨h, hws i⟩
  | bin o l r ihl ihr => intro n i h; exact ⟨h.1, ihl _ _ h.2.1, hws _, ihr _ _ h.2.2⟩
  | paren e ih => intro n i h; exact ⟨hws _, ih _ _ h, hws _⟩

end PExpr

/-- the text: `ws 0`, then the tokens of `e`, token `k ≥ 1` followed by `ws k` -/
def render (e : PExpr) (ws : Nat → Bytes) : Bytes := ws 0 ++ (e.layout ws 1).1.render

def Admissible (ws : Nat → Bytes) : Prop := ∀ i, WsOK (ws i)

/-! no byte 13 occurs in a rendered text, so `text.NewFile` (which replaces "\r\n") leaves it unchanged -/

theorem ws_no13 {ws : Bytes} (h : WsOK ws) : 13 ∉ ws := by
  intro hm
  have := h 13 hm
  revert this; decide

theorem lit_no13 {lex : Bytes} (h : LitOK lex) : 13 ∉ lex := by
  intro hm
  obtain ⟨b, r, rfl, hb⟩ := isInt_head h.1
  cases hm with
  | head => omega
  | tail _ hm' =>
    have := isInt_tail h.1 13 hm'
    unfold IntTail at this
    revert this; decide

theorem render_no13 (e : Cst) : ∀ n, e.WF n → 13 ∉ e.render := by
  induction e with
  | lit lex ws =>
    intro n h
    simp only [Cst.render, List.mem_append, not_or]
    exact ⟨lit_no13 h.1, ws_no13 h.2⟩
  | bin o l ws r ihl ihr =>
    intro n h
    simp only [Cst.render, List.mem_append, List.mem_cons, not_or]
    exact ⟨ihl _ h.2.1, by cases o <;> decide, ws_no13 h.2.2.1, ihr _ h.2.2.2⟩
  | paren ws1 e ws2 ih =>
    intro n h
    simp only [Cst.render, List.mem_append, List.mem_cons, not_or]
    exact ⟨by decide, ws_no13 h.1, ih _ h.2.1, by decide, ws_no13 h.2.2⟩

end PV.A05

namespace PV
open PV.Text PV.A05

theorem c05_input_of_text (e : PExpr) (ws : Nat → Bytes) (hws : Admissible ws) (he : e.WF 0) :
    Input (nvArithCfg (render e ws)) (ws 0) (e.layout ws 1).1 := by
  have hwf := e.layout_WF ws hws 0 1 he
  have hn : normCRLF (render e ws) = render e ws := by
    refine normCRLF_no13 _ ?_
    simp only [render, List.mem_append, not_or]
    exact ⟨ws_no13 (hws 0), render_no13 _ 0 hwf⟩
  refine ⟨rfl, Nat.le_refl 1, ?_, hws 0, hwf⟩
  show normCRLF (render e ws) = _
  rw [hn]; rfl

/-- **C05, the full value theorem on raw text**: for every stratified expression `e` and every admissible
    whitespace placement `ws`, from some fuel on `Evaluate` on `render e ws` answers the reference outcome of `e`
    (operator positions: those of the operator bytes in the text, base offset 1) -/
theorem c05_value_text (e : PExpr) (ws : Nat → Bytes) (hws : Admissible ws) (he : e.WF 0) :
    ∃ F, ∀ fuel, F ≤ fuel →
      evaluate (nvArithCfg (render e ws)) arithCustom fuel Garith.root =
        some (embedV (nvArithCfg (render e ws)).fileSet
          (refEval ((e.layout ws 1).1.toExpr (1 + (ws 0).length)))) :=
  c05_value_full (c05_input_of_text e ws hws he) rfl

theorem c05_parse_text (e : PExpr) (ws : Nat → Bytes) (hws : Admissible ws) (he : e.WF 0) :
    ∃ F, ∀ fuel, F ≤ fuel → ∃ p, parse (nvArithCfg (render e ws)) fuel Garith.root = some p ∧
      p.res = .one (sentenceNode ((e.layout ws 1).1.tree (1 + (ws 0).length))) ∧ p.err = none ∧ p.msg = none :=
  c05_parse_full (c05_input_of_text e ws hws he) rfl

end PV

namespace PV.A05
open PV.Text

/-! ### non-vacuity: ` 1 + 2*(3 -4)/ 0x10 - -7` and `8 / (2- 2)` -/

def nvWs : Nat → Bytes
  | 0 => [32]
  | 1 => [32]
  | 2 => [32]
  | 6 => [32]
  | 10 => [32]
  | 11 => [32, 9]
  | 12 => [32]
  | _ => []

/-- `1 + 2*(3-4)/0x10 - -7` -/
def nvE1 : PExpr :=
  .bin .sub (.bin .add (.lit [49]) (.bin .div (.bin .mul (.lit [50]) (.paren (.bin .sub (.lit [51]) (.lit [52])))) (.lit [48, 120, 49, 48])))
    (.lit [45, 55])

theorem nvWs_ok : Admissible nvWs := by
  intro i b hb
  unfold nvWs at hb
  split at hb <;> simp at hb <;> (try rcases hb with rfl | rfl) <;> (try subst hb) <;> decide

theorem nvE1_wf : nvE1.WF 0 := by
  simp only [nvE1, PExpr.WF, Op.level, LitOK]
  decide

example : render nvE1 nvWs = tokOf " 1 + 2*(3 -4)/ 0x10 \t- -7" := by decide +kernel
example : refEval ((nvE1.layout nvWs 1).1.toExpr 2) = .ok 8 := by rfl

end PV.A05

namespace PV
open PV.Text PV.A05

/-- the theorem, instantiated: `Evaluate` on " 1 + 2*(3 -4)/ 0x10 \t- -7" answers 8 (2*(3-4)/16 = 0 by truncation) -/
theorem c05_nv_value1 : ∃ F, ∀ fuel, F ≤ fuel →
    evaluate (nvArithCfg (render nvE1 nvWs)) arithCustom fuel Garith.root = some (.value (.int 8)) := by
  obtain ⟨F, hF⟩ := c05_value_text nvE1 nvWs nvWs_ok nvE1_wf
  refine ⟨F, fun fuel hle => ?_⟩
  rw [hF fuel hle]
  have : refEval ((nvE1.layout nvWs 1).1.toExpr (1 + (nvWs 0).length)) = .ok 8 := by rfl
  rw [this]; rfl

end PV

namespace PV.A05
open PV.Text

/-- `8 / (2- 2)`: division by zero at the `/` (position 3 = f:1:3) -/
def nvE2 : PExpr := .bin .div (.lit [56]) (.paren (.bin .sub (.lit [50]) (.lit [50])))
def nvWs2 : Nat → Bytes
  | 1 => [32]
  | 2 => [32]
  | 5 => [32]
  | _ => []

theorem nvWs2_ok : Admissible nvWs2 := by
  intro i b hb
  unfold nvWs2 at hb
  split at hb <;> simp at hb <;> (try subst hb) <;> decide

theorem nvE2_wf : nvE2.WF 0 := by
  simp only [nvE2, PExpr.WF, Op.level, LitOK]
  decide

end PV.A05

namespace PV
open PV.Text PV.A05

theorem c05_nv_value2 : ∃ F, ∀ fuel, F ≤ fuel →
    evaluate (nvArithCfg (render nvE2 nvWs2)) arithCustom fuel Garith.root =
      some (.error (tokOf "division by zero at f:1:3")) := by
  obtain ⟨F, hF⟩ := c05_value_text nvE2 nvWs2 nvWs2_ok nvE2_wf
  refine ⟨F, fun fuel hle => ?_⟩
  rw [hF fuel hle]
  have : refEval ((nvE2.layout nvWs2 1).1.toExpr (1 + (nvWs2 0).length)) = .error 3 := by rfl
  rw [this]
  have herr : errorWithPosition (nvArithCfg (render nvE2 nvWs2)).fileSet ⟨3, .other (tokOf "division by zero")⟩ =
      tokOf "division by zero at f:1:3" := by decide +kernel
  simp only [embedV, herr]

/-! the model itself on the same texts, run by the interpreter at build time (tests, not theorems) -/
#guard outIsInt (evaluate (nvArithCfg (render nvE1 nvWs)) arithCustom 1000 Garith.root) 8
#guard outIsErr (evaluate (nvArithCfg (render nvE2 nvWs2)) arithCustom 1000 Garith.root) (tokOf "division by zero at f:1:3")
#guard resIsOne (parse (nvArithCfg (render nvE1 nvWs)) 1000 Garith.root)
  (fun x => toString (repr x) == toString (repr (sentenceNode ((nvE1.layout nvWs 1).1.tree 2))))

end PV
