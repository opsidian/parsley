/-
  C01 — Parse results equal the grammar's derivations, including left recursion.

  Model: ParsleyVerif/Model/Run.lean (`run`: Memoize with result cache, left-recursion contexts and
  curtailment; Any / Choice; the Sequence family; Optional, Name, …).  Specification:
  ParsleyVerif/Spec/Derives.lean (`Derives cfg g pos x`: the declarative meaning of the combinators,
  with no cache, context, curtailment, fuel or evaluation order) and ParsleyVerif/Spec/Core.lean
  (`Node.WF`: nested, contiguous spans inside the file).

  Proved here, for EVERY grammar over the combinator set (direct, indirect, hidden left recursion,
  cyclic and nullable rules, ambiguity — no well-formedness hypothesis is needed for this half), every
  input, every left-recursion context, every fuel, and every cache state that a parse can reach:

  * `c01_sound`        every returned tree is a derivation of the parser at the call position;
  * `c01_spans`        every returned tree starts at the call position, its children are contiguous and
                       nested, it lies within the file, and its leaves spell exactly the consumed input;
  * `c01_cache_sound`  the cache only ever holds derivations (so results handed out again on a hit are
                       derivations too — the invariant behind `c01_sound`).

  COMPLETENESS is proved in Props/C01C.lean for the monotone fragment {term, empty, ref, memo, any, seqOf,
  optional}: `c01_complete_ends` (every reachable end position is returned), `c01_complete_trees` (every
  tree, for acyclic grammars), `c01_ends_exact` / `c01_trees_exact` (iff), via the reuse invariant
  `c01_reuse_complete` (cache reuse and curtailing sets never lose a curtailed derivation) and the cut
  argument `c01_curtailed_covers`.  Outside that fragment (Choice, Many, SepBy, SeqTry, SeqFirstOrAll:
  first-match / longest-path; Name / Single over Optional: known finding D9) completeness is decided on
  every run by the derivation oracle of the harness (an independent least-fixpoint table over
  (sub-term, start, end) computed in Go) — bounded exploration, named so in the evidence.
-/
import ParsleyVerif.Proofs.RunSound
import ParsleyVerif.Proofs.Spell
import ParsleyVerif.Generated.Facts
import ParsleyVerif.Proofs.FactsTie
namespace PV
open PV.Text

/-- **C01 soundness.**  `bodyOf` records which parser each Memoize index wraps (each `Memoize` call
    draws a fresh index, so an index never wraps two parsers). -/
theorem c01_sound (cfg : Cfg) (bodyOf : Nat → G) (henv : ∀ g' ∈ cfg.env, GOK bodyOf g')
    (fuel : Nat) (g : G) (ctx : Ctx) (pos : Nat) (st : St) (o : Out) (st' : St)
    (hg : GOK bodyOf g) (hst : CacheSound cfg bodyOf st) (h : run cfg fuel g ctx pos st = some (o, st')) :
    ∀ x ∈ o.res.alts, Derives cfg g pos x :=
  (run_sound cfg bodyOf henv fuel g ctx pos st o st' hg hst h).1

/-- the cache invariant is preserved by every call and holds of the empty cache -/
theorem c01_cache_sound (cfg : Cfg) (bodyOf : Nat → G) (henv : ∀ g' ∈ cfg.env, GOK bodyOf g')
    (fuel : Nat) (g : G) (ctx : Ctx) (pos : Nat) (st : St) (o : Out) (st' : St)
    (hg : GOK bodyOf g) (hst : CacheSound cfg bodyOf st) (h : run cfg fuel g ctx pos st = some (o, st')) :
    CacheSound cfg bodyOf st' ∧ CacheSound cfg bodyOf {} :=
  ⟨(run_sound cfg bodyOf henv fuel g ctx pos st o st' hg hst h).2, by intro e he; cases he⟩

/-- soundness of `parsley.Parse` from a fresh context -/
theorem c01_sound_parse (cfg : Cfg) (bodyOf : Nat → G) (henv : ∀ g' ∈ cfg.env, GOK bodyOf g')
    (fuel : Nat) (g : G) (hg : GOK bodyOf g) (p : ParseOut) (h : parse cfg fuel g = some p) :
    ∀ x ∈ p.res.alts, Derives cfg g (cfg.file.pos 0) x := by
  obtain ⟨o, st1, hr, ⟨_, _, hres, _⟩ | ⟨_, hres, _⟩⟩ := parse_answer cfg fuel g {} p h <;> rw [hres]
  · exact c01_sound cfg bodyOf henv fuel g [] _ {} o st1 hg (by intro e he; cases he) hr
  · exact noAlt

/-- **C01 spans.**  Every returned tree starts at the call position, is well formed (children contiguous:
    each starts where its predecessor ended; spans nested; nothing beyond the end of the file) and its
    leaves spell exactly the input between its start and its end.  `Scope` = no trims, terminals behave
    (`TermGood`, proved of the built-in terminals by C08). -/
theorem c01_spans (cfg : Cfg) (g : G) (hs : Scope cfg g) (fuel : Nat) (ctx : Ctx) (pos : Nat) (st : St) (o : Out)
    (st' : St) (hpre : Pre cfg ctx pos st) (h : run cfg fuel g ctx pos st = some (o, st')) :
    ∀ x ∈ o.res.alts, x.pos = pos ∧ x.WF cfg.hi ∧ pos ≤ x.rpos ∧ x.rpos ≤ cfg.hi ∧
      x.spell cfg.file = slice cfg.file pos x.rpos := by
  intro x hx
  have hp := (run_pos cfg hs.env fuel g ctx pos st o st' hs.root hpre h).nodes x hx
  have hb := Node.WF_bounds cfg.hi x hp.2
  refine ⟨hp.1, hp.2, by omega, hb.2, ?_⟩
  rw [Node.spell_eq cfg.file cfg.hi x (by rw [hp.1]; exact hpre.1.1) hp.2, hp.1]

/-- the preconditions of `c01_spans` hold at the start of every parse -/
theorem c01_pre_initial (cfg : Cfg) : Pre cfg [] (cfg.file.pos 0) {} := .initial cfg

/-- errors, too, are positioned between the call position and the end of the file -/
theorem c01_error_positions (cfg : Cfg) (g : G) (hs : Scope cfg g) (fuel : Nat) (ctx : Ctx) (pos : Nat) (st : St)
    (o : Out) (st' : St) (hpre : Pre cfg ctx pos st) (h : run cfg fuel g ctx pos st = some (o, st')) :
    (∀ e, o.err = some e → pos ≤ e.pos ∧ e.pos ≤ cfg.hi) ∧
    (∀ e, st'.ctxErr = some e → cfg.file.offset ≤ e.pos ∧ e.pos ≤ cfg.hi) :=
  ⟨(run_pos cfg hs.env fuel g ctx pos st o st' hs.root hpre h).err,
   (run_pos cfg hs.env fuel g ctx pos st o st' hs.root hpre h).stOK.ctxErr⟩

/-! ### what the derivation relation says (so that soundness is not vacuous) -/

theorem c01_derives_any (cfg : Cfg) (gs : List G) (pos : Nat) (x : Node) :
    Derives cfg (.any gs) pos x ↔ ∃ g ∈ gs, Derives cfg g pos x := by
  constructor
  · intro h; cases h with
    | any hm hd => exact ⟨_, hm, hd⟩
    | seqfam hs _ _ => simp [G.shape] at hs
  · rintro ⟨g, hm, hd⟩; exact .any hm hd

theorem c01_derives_optional (cfg : Cfg) (g : G) (pos : Nat) (x : Node) :
    Derives cfg (.optional g) pos x ↔ Derives cfg g pos x ∨ x = .empty pos := by
  constructor
  · intro h; cases h with
    | optSome hd => exact .inl hd
    | optNone => exact .inr rfl
    | seqfam hs _ _ => simp [G.shape] at hs
  · rintro (hd | rfl)
    · exact .optSome hd
    · exact .optNone

theorem c01_derives_memo (cfg : Cfg) (i : Nat) (g : G) (pos : Nat) (x : Node) :
    Derives cfg (.memo i g) pos x ↔ Derives cfg g pos x := by
  constructor
  · intro h; cases h with
    | memo hd => exact hd
    | seqfam hs _ _ => simp [G.shape] at hs
  · exact .memo

theorem c01_derives_ref (cfg : Cfg) (k : Nat) (pos : Nat) (x : Node) :
    Derives cfg (.ref k) pos x ↔ ∃ g, cfg.env[k]? = some g ∧ Derives cfg g pos x := by
  constructor
  · intro h; cases h with
    | ref hk hd => exact ⟨_, hk, hd⟩
    | seqfam hs _ _ => simp [G.shape] at hs
  · rintro ⟨g, hk, hd⟩; exact .ref hk hd

/-- a SeqOf derives exactly the trees built from one derivation per element, each starting where the
    previous one ended -/
theorem c01_derives_seqOf (cfg : Cfg) (gs : List G) (o : SeqOpts) (pos : Nat) (x : Node) :
    Derives cfg (.seq .seqOf gs o) pos x ↔
      ∃ sh nodes, (G.seq .seqOf gs o).shape = some sh ∧ DerivesSeq cfg sh 0 pos nodes ∧ nodes.length = gs.length ∧
        x = handleResult sh pos nodes := by
  constructor
  · intro h
    cases h with
    | seqfam hs hd hl =>
      rename_i sh nodes
      refine ⟨sh, nodes, hs, hd, ?_, rfl⟩
      simp only [G.shape, Option.some.injEq] at hs
      subst hs
      simpa using hl
  · rintro ⟨sh, nodes, hs, hd, hl, rfl⟩
    refine .seqfam hs hd ?_
    simp only [G.shape, Option.some.injEq] at hs
    subst hs
    simpa using hl

/-- non-vacuity: the left-recursive grammar `P → P b | a` (as the suite's main_test.go builds it, with
    Memoize around `P`) derives the left-nested tree of "abb" -/
def nvEnv : List G :=
  [.memo 0 (.any [.seq .seqOf [.ref 0, .term (.rune 98 [34, 98, 34])] {}, .term (.rune 97 [34, 97, 34])])]
def nvCfg : Cfg :=
  { env := nvEnv, file := { name := "f", data := [97, 98, 98], offset := 1 }, fileSet := {},
    params := { floatOk := fun _ => true, durErr := fun _ => none, regexp := fun _ _ => none } }
def nvA : Node := .term [97] (.rune 97) 1 2
def nvAB : Node := .nt seqTok [nvA, .term [98] (.rune 98) 2 3] 1 3 .none
def nvABB : Node := .nt seqTok [nvAB, .term [98] (.rune 98) 3 4] 1 4 .none

example : ∀ g' ∈ nvCfg.env, GOK (fun _ => (.any [.seq .seqOf [.ref 0, .term (.rune 98 [34, 98, 34])] {}, .term (.rune 97 [34, 97, 34])])) g' := by
  intro g' hg'
  simp only [nvCfg, nvEnv, List.mem_singleton] at hg'
  subst hg'
  simp [GOK, G.All, AllList, LocalOK]

example : Derives nvCfg (.ref 0) 1 nvABB := by
  have hA : Derives nvCfg (.ref 0) 1 nvA :=
    .ref (g := nvEnv[0]) rfl (.memo (.any (g := .term (.rune 97 [34, 97, 34])) (by simp) (.term rfl)))
  have step : ∀ (x : Node) (e : Nat) (he : x.rpos = e) (y : Node),
      Terminal.parse nvCfg.params nvCfg.file (.rune 98 [34, 98, 34]) e = .node y →
      Derives nvCfg (.ref 0) 1 x → Derives nvCfg (.ref 0) 1 (handleResult
        { lookup := fun i => [G.ref 0, .term (.rune 98 [34, 98, 34])][i]?, lenCheck := fun len => len == 2,
          token := seqTok, interp := .none, single := false, name := none } 1 [x, y]) := by
    intro x e he y hy hx
    refine .ref (g := nvEnv[0]) rfl (.memo (.any (g := .seq .seqOf [.ref 0, .term (.rune 98 [34, 98, 34])] {}) (by simp) ?_))
    refine .seqfam rfl (.cons rfl hx (.cons rfl (by rw [he]; exact .term hy) .nil)) rfl
  have hAB := step nvA 2 rfl (.term [98] (.rune 98) 2 3) rfl hA
  exact step nvAB 3 rfl (.term [98] (.rune 98) 3 4) rfl hAB

/-- and the model really returns it (all three prefixes, longest first, left-nested), by evaluation -/
example : ((run nvCfg 40 (.ref 0) [] 1 {}).map (fun r => r.1.res.alts.map Node.rpos)) = some [4, 3, 2] := by
  decide

/-- **the decision expressions of the parser core are the ones in the source**: `factgen -out-fn` TRANSLATES the Go
    expressions (lenCheck of the five sequence kinds, SepBy's value/separator test) into Lean functions on every run
    (Generated/FactsFn.lean), and the model's definitions are proved equal to them — a semantically different expression
    breaks this theorem, a harmless rewrite does not.  The curtailment test of Memoize, the reuse test of the result cache
    and the context-reset test of the sequence are tied with the whole functions they stand in: Props/C01P.lean
    `c01_translated_core`, `c01p_context_cache_append`, `c01p_sequence_machinery`, built and audited with this property. -/
theorem c01_translated_conditions :
    FactsFn.untranslated = [] ∧
    (∀ gs o sh, (G.seq .seqOf gs o).shape = some sh → ∀ len, sh.lenCheck len = FactsFn.lenCheckSeqOf len gs.length) ∧
    (∀ gs o sh, (G.seq .seqTry gs o).shape = some sh → ∀ len, sh.lenCheck len = FactsFn.lenCheckSeqTry len gs.length) ∧
    (∀ gs o sh, (G.seq .seqFirstOrAll gs o).shape = some sh → ∀ len, sh.lenCheck len = FactsFn.lenCheckSeqFirstOrAll len gs.length) ∧
    (∀ g ae o sh, (G.many g ae o).shape = some sh → ∀ len, sh.lenCheck len = FactsFn.lenCheckMany ae len) ∧
    (∀ v s ae o sh, (G.sepBy v s ae o).shape = some sh → ∀ len, sh.lenCheck len = FactsFn.lenCheckSepBy ae len) ∧
    (∀ v s ae o sh, (G.sepBy v s ae o).shape = some sh → ∀ i, sh.lookup i = some (if FactsFn.sepByIsValue i then v else s)) :=
  ⟨tie_untranslated, tie_lenCheck_seqOf, tie_lenCheck_seqTry, tie_lenCheck_seqFirstOrAll, tie_lenCheck_many,
   tie_lenCheck_sepBy, tie_sepBy_lookup⟩

/- The one constant of the parser core read from the source as a fact.  The functions themselves (Memoize, ResultCache, Any,
   Choice, the Sequence machinery, ReturnError, SetError, Parse) are translated from the source on every run of the check, and
   the model is proved to agree with the translation in Props/C01P.lean. -/
theorem c01_facts : Facts.curtailSlack = 1 := rfl

/-
  NOT proved: completeness outside the monotone fragment of Props/C01C.lean (Choice, Many, SepBy, SeqTry,
  SeqFirstOrAll; Name / Single over Optional); there it is tested by the derivation oracle, and the evidence says so.
-/

end PV
