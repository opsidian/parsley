/-
  C02 — Every memoized grammar terminates (the TERMINATION half; the re-entry bound is Props/C02.lean).

  Hypothesis = a DECIDABLE certificate (Spec/WF.lean, `wf cert env root : Bool`):
    * `cert.nullable k` / `cert.nullM i` over-approximate "rule k / the operand of Memoize i can return a
      zero-width result" (closed under the syntactic `mayBeEmpty`);
    * every left reference (a reference reachable at the start position without passing an element that
      must consume) from rule `k` to rule `k'` that is NOT under a Memoize has `rank k' < rank k`
      — every cycle of the left-call graph passes a Memoize; references under a Memoize are free, so
      direct, indirect and hidden (`P → x? P b`) left recursion are all admitted once memoized, and
      non-left recursion needs no Memoize at all;
    * the operand of Many cannot be empty; value and separator of SepBy cannot both be empty.
  Scope (`C02Scope`): the combinator set without the whitespace trims, terminals that behave
  (`TermGood`, what C08 proves of the built-ins) and never match the empty lexeme (`TermCons`: proved
  below for Rune and Op; false for a Regexp that matches ""), work budget of the driver disabled.

  `c02_terminates`: for every such grammar, every input file, every position, every left-recursion
  context and every state a parse can be in, there is a fuel from which on `run` answers — together with
  `c02_fuel_mono` (Props/C02.lean): the recursion depth of the parser is finite.
  `c02_terminates_parse`: the same for `parsley.Parse` from a fresh context.
  `c02_terminates_auto`: the same with the certificate COMPUTED (`wfAuto`, what the driver command
  `wfcheck` answers and the harness stream C02W compares with the generator's certificate).
-/
import ParsleyVerif.Proofs.WFTHalts
namespace PV
open PV.Text

/-- terminals in scope: positions as C08 proves them, and no empty match -/
def TermOK (cfg : Cfg) (t : Terminal) : Prop := TermGood cfg t ∧ TermCons cfg t

structure C02Scope (cfg : Cfg) (g : G) : Prop where
  root : g.Core (TermOK cfg)
  env : ∀ g' ∈ cfg.env, g'.Core (TermOK cfg)
  budget : cfg.maxCalls = 0

theorem CoreList_mono {T T' : Terminal → Prop} (h : ∀ t, T t → T' t) : ∀ gs : List G, CoreList T gs → CoreList T' gs :=
  fun _ hc => CoreList_iff.mpr fun g hg => G.Core_mono h g (CoreList_iff.mp hc g hg)

/-- the local conditions of the two certificates agree; `TermCons` is part of the scope -/
theorem LocalP.of_T {c : WFCert} {cfg : Cfg} {g : G} (hT : CoreAt (TermOK cfg) g)
    (h : WFT.LocalT WFT.rxNone c g) : LocalP c cfg g := by
  cases g with
  | term t => exact hT.2
  | _ => first | trivial | (simp only [WFT.LocalT, WFT.mayBeEmptyT_false] at h; exact h)

theorem wfLocal_all (c : WFCert) (cfg : Cfg) (g : G) (hw : wfLocal c g = true) (hc : g.Core (TermOK cfg)) :
    g.All (LocalP c cfg) :=
  G.All_of_Core (fun _ => LocalP.of_T) g hc
    (WFT.wfLocalT_all WFT.rxNone c g (by rw [WFT.wfLocalT_false]; exact hw))

theorem wfLocalList_all (c : WFCert) (cfg : Cfg) : ∀ gs : List G, wfLocalList c gs = true → CoreList (TermOK cfg) gs →
    AllList (LocalP c cfg) gs :=
  fun gs hw hc => AllList_iff.mpr fun g hg => wfLocal_all c cfg g
    (by rw [← WFT.wfLocalT_false]; exact (WFT.wfLocalListT_iff _ c).mp (by rw [WFT.wfLocalListT_false]; exact hw) g hg)
    (CoreList_iff.mp hc g hg)

theorem GWF.of_T {c : WFCert} {cfg : Cfg} {g : G} (hc : g.Core (TermOK cfg)) (h : WFT.GWFT WFT.rxNone c g) : GWF c cfg g :=
  ⟨G.Core_mono (fun _ h => h.1) g hc, G.All_of_Core (fun _ => LocalP.of_T) g hc h⟩

/-- `wf` is `wfT` with no Regexp declared nullable (`wfT_false`), read by `WFT.wfT_reads` -/
theorem EnvOK_of_wf (c : WFCert) (cfg : Cfg) (g : G) (hwf : wf c cfg.env g = true) (hs : C02Scope cfg g) :
    EnvOK c cfg ∧ GWF c cfg g :=
  have h := WFT.wfT_reads (rx := WFT.rxNone) (by rw [WFT.wfT_false]; exact hwf)
  ⟨⟨hs.budget, fun g' hg' => let ⟨k, hk⟩ := List.getElem?_of_mem hg'; GWF.of_T (hs.env g' hg') (h.2 k g' hk).1,
    fun k g' hk hm => (h.2 k g' hk).2.1 (by rw [WFT.mayBeEmptyT_false]; exact hm),
    fun k g' hk k' hk' => (h.2 k g' hk).2.2 k' (by rw [WFT.leftRefsT_false]; exact hk')⟩, GWF.of_T hs.root h.1⟩

/-- **C02 termination.**  `Pre` / `CacheCons` describe the states a parse can be in (they hold of the fresh
    context — `c02t_initial` — and are preserved by every call — `run_pos`, `run_cons`). -/
theorem c02_terminates (cert : WFCert) (cfg : Cfg) (g : G)
    (hwf : wf cert cfg.env g = true) (hscope : C02Scope cfg g)
    (ctx : Ctx) (pos : Nat) (st : St) (hpre : Pre cfg ctx pos st) (hcache : CacheCons cert st) :
    ∃ F, ∀ fuel, F ≤ fuel → (run cfg fuel g ctx pos st).isSome = true := by
  obtain ⟨henv, hg⟩ := EnvOK_of_wf cert cfg g hwf hscope
  exact answers_from (halts_all cert cfg henv g hg ctx pos st ⟨hpre, hcache⟩)

theorem c02t_initial (cert : WFCert) (cfg : Cfg) : Pre cfg [] (cfg.file.pos 0) {} ∧ CacheCons cert {} :=
  ⟨.initial cfg, fun _ he => nomatch he⟩

/-- the invariant is preserved: the state after any answered call is again a state a parse can be in
    (at the same position and context) -/
theorem c02t_preserved (cert : WFCert) (cfg : Cfg) (g : G)
    (hwf : wf cert cfg.env g = true) (hscope : C02Scope cfg g)
    (fuel : Nat) (ctx : Ctx) (pos : Nat) (st : St) (o : Out) (st' : St)
    (hpre : Pre cfg ctx pos st) (hcache : CacheCons cert st) (h : run cfg fuel g ctx pos st = some (o, st')) :
    Pre cfg ctx pos st' ∧ CacheCons cert st' := by
  obtain ⟨henv, hg⟩ := EnvOK_of_wf cert cfg g hwf hscope
  exact Good_after ⟨hpre, hcache⟩ (run_pos cfg henv.core fuel g ctx pos st o st' hg.core hpre h)
    (run_cons cert cfg henv fuel g ctx pos st o st' hg ⟨hpre, hcache⟩ h)

/-- soundness of `mayBeEmpty`, the semantic half of the certificate: a parser the certificate says cannot
    be empty only returns nodes that end strictly after the call position -/
theorem c02_mayBeEmpty_sound (cert : WFCert) (cfg : Cfg) (g : G)
    (hwf : wf cert cfg.env g = true) (hscope : C02Scope cfg g)
    (fuel : Nat) (ctx : Ctx) (pos : Nat) (st : St) (o : Out) (st' : St)
    (hpre : Pre cfg ctx pos st) (hcache : CacheCons cert st) (h : run cfg fuel g ctx pos st = some (o, st'))
    (hne : mayBeEmpty cert g = false) : ∀ x ∈ o.res.alts, x.rpos > pos := by
  obtain ⟨henv, hg⟩ := EnvOK_of_wf cert cfg g hwf hscope
  exact (run_cons cert cfg henv fuel g ctx pos st o st' hg ⟨hpre, hcache⟩ h).cons hne

/-- **C02 termination of `parsley.Parse`** -/
theorem c02_terminates_parse (cert : WFCert) (cfg : Cfg) (g : G)
    (hwf : wf cert cfg.env g = true) (hscope : C02Scope cfg g) :
    ∃ F, ∀ fuel, F ≤ fuel → (parse cfg fuel g).isSome = true := by
  obtain ⟨h1, h2⟩ := c02t_initial cert cfg
  obtain ⟨F, hF⟩ := c02_terminates cert cfg g hwf hscope [] (cfg.file.pos 0) {} h1 h2
  exact ⟨F, fun fuel hle => parse_isSome_of_run cfg g fuel (hF fuel hle)⟩

/-- … with the certificate computed: this is the check the driver command `wfcheck` runs and the harness
    stream C02W compares with the generator's certificate -/
theorem c02_terminates_auto (cfg : Cfg) (g : G) (hwf : wfAuto cfg.env g = true) (hscope : C02Scope cfg g) :
    ∃ F, ∀ fuel, F ≤ fuel → (parse cfg fuel g).isSome = true :=
  c02_terminates_parse (autoCert cfg.env g) cfg g hwf hscope

def c02_wf_decidable (cert : WFCert) (env : List G) (g : G) : Decidable (wf cert env g = true) := inferInstance

theorem c02_wf_facts : Facts.curtailSlack = 1 := rfl

theorem termOK_rune (cfg : Cfg) (ch : Nat) (name : Bytes) : TermOK cfg (.rune ch name) :=
  ⟨termGood_all cfg _, fun pos n hin hn => by
    obtain ⟨_, _, _, rfl, _, _, h3⟩ := WFT.termLeaf_all WFT.rxAll cfg (WFT.rxSound_all cfg.params) (.rune ch name) pos n hin hn
    exact h3 rfl⟩

theorem termOK_op (cfg : Cfg) (s name : Bytes) (hs : s ≠ []) : TermOK cfg (.op s name) :=
  ⟨termGood_all cfg _, fun pos n hin hn => by
    obtain ⟨_, _, _, rfl, _, _, h3⟩ := WFT.termLeaf_all WFT.rxAll cfg (WFT.rxSound_all cfg.params) (.op s name) pos n hin hn
    exact h3 rfl⟩

/-! ### non-vacuity: what the certificate accepts and rejects, and that the model agrees -/

namespace C02NV

def ch (c : Nat) : G := .term (.rune c [34, c, 34])
def certOne (ranks : List Nat) (memos : List Nat) : WFCert :=
  { nullable := fun _ => false, nullM := fun _ => false, rank := fun k => ranks.getD k 0, memos := memos }

/-- `P → P b | a`, memoized (direct left recursion) -/
def envDirect : List G := [.memo 0 (.any [.seq .seqOf [.ref 0, ch 98] {}, ch 97])]
/-- `P → x? P b | a`, memoized (hidden left recursion: the shape of defect D2) -/
def envHidden : List G := [.memo 0 (.any [.seq .seqOf [.optional (ch 120), .ref 0, ch 98] {}, ch 97])]
/-- `P → Q b | a`, `Q → P c | a` with only `P` memoized (indirect left recursion; one Memoize per cycle suffices) -/
def envMutual : List G :=
  [.memo 0 (.any [.seq .seqOf [.ref 1, ch 98] {}, ch 97]), .any [.seq .seqOf [.ref 0, ch 99] {}, ch 97]]
/-- `V → '[' (V sepBy ',')? ']' | a` — JSON-like, right-recursive, NO Memoize anywhere -/
def envJson : List G :=
  [.any [.seq .seqOf [ch 91, .sepBy (.ref 0) (ch 44) true {}, ch 93] {}, ch 97]]
/-- `P → P b | a` WITHOUT Memoize -/
def envBad : List G := [.any [.seq .seqOf [.ref 0, ch 98] {}, ch 97]]
def manyOpt : G := .many (.optional (ch 97)) true {}

theorem wf_direct : wf (certOne [] [0]) envDirect (.ref 0) = true := by decide
theorem wf_hidden : wf (certOne [] [0]) envHidden (.ref 0) = true := by decide
theorem wf_mutual : wf (certOne [0, 1] [0]) envMutual (.ref 0) = true := by decide
theorem wf_json : wf (certOne [] []) envJson (.ref 0) = true := by decide
theorem wf_sentence : wf (certOne [] [0]) envHidden (G.sentence (.ref 0)) = true := by decide

/-- the computed certificate accepts them too -/
theorem wfAuto_ok : wfAuto envDirect (.ref 0) = true ∧ wfAuto envHidden (.ref 0) = true ∧
    wfAuto envMutual (.ref 0) = true ∧ wfAuto envJson (.ref 0) = true := by decide +kernel

/-- un-memoized left recursion has NO certificate, whatever nullability and ranks are proposed -/
theorem wf_bad_fails (c : WFCert) : wf c envBad (.ref 0) = false := by
  simp [wf, envBad, wfRule, leftRefsU, leftRefsAll, leftRefsSeq, List.range, List.range.loop]

theorem wf_manyOpt_fails (c : WFCert) (env : List G) : wf c env manyOpt = false := by
  simp [wf, manyOpt, wfLocal, mayBeEmpty]

theorem wfAuto_bad : wfAuto envBad (.ref 0) = false ∧ wfAuto [] manyOpt = false := by decide

def mkCfg (env : List G) (data : Bytes) : Cfg :=
  { env := env, file := { name := "f", data := data, offset := 1 }, fileSet := {},
    params := { floatOk := fun _ => true, durErr := fun _ => none, regexp := fun _ _ => none } }

/-- … and indeed the model never answers on them: `P → P b | a` without Memoize on "ab", and
    `Many(Optional('a'))` on "b", run out of every small fuel -/
theorem bad_no_answer :
    (run (mkCfg envBad [97, 98]) 50 (.ref 0) [] 1 {}).isNone = true ∧
    (run (mkCfg envBad [97, 98]) 100 (.ref 0) [] 1 {}).isNone = true ∧
    (run (mkCfg [] [98]) 50 manyOpt [] 1 {}).isNone = true ∧
    (run (mkCfg [] [98]) 100 manyOpt [] 1 {}).isNone = true := by
  have h : (run (mkCfg envBad [97, 98]) 100 (.ref 0) [] 1 {}).isNone = true ∧
      (run (mkCfg [] [98]) 100 manyOpt [] 1 {}).isNone = true := by decide +kernel
  exact ⟨run_isNone_of_le _ (by decide) _ _ _ _ h.1, h.1, run_isNone_of_le _ (by decide) _ _ _ _ h.2, h.2⟩

/-- whereas the certified ones answer: hidden left recursion on "xab" (the input of defect D2) -/
theorem hidden_answers : (run (mkCfg envHidden [120, 97, 98]) 60 (.ref 0) [] 1 {}).isSome = true := by decide +kernel

/-- the hypotheses of `c02_terminates_parse` are satisfiable: hidden left recursion terminates on EVERY input -/
theorem hidden_terminates (data : Bytes) :
    ∃ F, ∀ fuel, F ≤ fuel → (parse (mkCfg envHidden data) fuel (G.sentence (.ref 0))).isSome = true := by
  refine c02_terminates_parse (certOne [] [0]) (mkCfg envHidden data) _ wf_sentence ⟨?_, ?_, rfl⟩
  · simp [G.sentence, G.Core, CoreList]
  · intro g' hg'
    simp only [mkCfg, envHidden, List.mem_singleton] at hg'
    subst hg'
    simp [G.Core, CoreList, ch, termOK_rune]

/-- … and so does the JSON-like grammar without any Memoize -/
theorem json_terminates (data : Bytes) :
    ∃ F, ∀ fuel, F ≤ fuel → (parse (mkCfg envJson data) fuel (.ref 0)).isSome = true := by
  refine c02_terminates_parse (certOne [] []) (mkCfg envJson data) _ wf_json ⟨?_, ?_, rfl⟩
  · simp [G.Core]
  · intro g' hg'
    simp only [mkCfg, envJson, List.mem_singleton] at hg'
    subst hg'
    simp [G.Core, CoreList, ch, termOK_rune]

end C02NV

end PV
