/-
  C01 for STRATIFIED grammars: left recursion at the top, non-monotone operators below.

    "for all grammars over the combinator set (Any, SeqOf, Optional, Empty, Choice, Many/Many1, SepBy/SepBy1, SeqTry,
     SeqFirstOrAll, memoized nonterminals; NON-MONOTONE OPERATORS STRATIFIED so a least-fixpoint meaning exists)
     and all input strings … every derivation is returned"

  Props/C01C.lean proves completeness for the monotone fragment under arbitrary left recursion; Props/C01B.lean
  gives the exact meaning `Big` of ALL operators on runs that never curtail; Props/C03L.lean gives a decidable
  certificate under which nothing is curtailed.  This file is about the two together: `E → E '+' T | T` (memoized,
  left-recursive) over `T → Many1(digit)` or `T → Choice(number, '(' T ')')`.

  Specification (Spec/Strat.lean).
    `stratOK cert env g`  the DECIDABLE stratification check, two strata: stratum 0 = a closed sub-grammar over
         ANY operators with its own Memoize indexes that satisfies the `lrf` certificate of C03L restricted to it
         (nullable tables closed, `lm` closed, `i ∉ lrfMemos b` at every `memo i b`); stratum 1 = the monotone
         fragment {term, empty, ref, memo, any, seqOf, optional} whose leaves are terminals or LOW LEAVES
         (a reference into stratum 0, a stratum-0 Memoize node, any node of a non-monotone operator —
         choice / many / sepBy / seqTry / seqFirstOrAll / name / single / suppress — closed over stratum 0).
    `DerivesS cfg cert g pos x`  the least-fixpoint meaning: the rules of `Derives` for the monotone operators of
         stratum 1, and for a low leaf `g0` the ONE rule  `Big cfg g0 pos R e → x ∈ R.alts → DerivesS … g0 pos x`
         (a macro terminal whose alternatives are exactly its big-step result).

  Theorems, for every grammar accepted by the check, every input file, every position of it, every fuel with which
  `run` answers (hypotheses besides the check — `SScope`, `EScope`: one parser per Memoize index `GOK`; every terminal
  behaves (`TermGood`, C08) and builds no "EOF"-token node (`TermsOK`); the terminals of STRATUM 0 — those of the
  stratum-0 rules and below the low leaves — never match the empty lexeme (`TermsCons` / `LeafCons`: `TermCons`,
  the scope of C02/C03, which is what `mayBeEmpty (.term _) = false` of the certificate means); nothing is asked
  of the work budget or of the ghost flag):

  * `c01_strat_low_exact`       a stratum-0 sub-run NEVER CURTAILS and returns THE big-step result, from
                                any context a stratum-1 parser can be in and any cache of a stratified run;
  * `c01_strat_reuse_complete`  (A) cache reuse, curtailing sets and the context reset never lose a curtailed
                                derivation `DerivesSC` of the stratified grammar; `c01_strat_cache` the joint cache
                                invariant (stratum-1 entries: the promise of `EntryC`; stratum-0 entries: exact, stored
                                with empty context and curtailing set);
  * `c01_strat_curtailed_covers(_trees)`  (B) the cut argument with the rule `low` as a leaf;
  * `c01_complete_strat_ends`   every end position of a derivation is returned;
    `c01_complete_strat_trees`  every tree, when no (stratum-1 memo index, start, end) is nested in itself;
  * `c01_sound_strat`           every returned tree is a derivation `DerivesS` — so
    `c01_strat_ends_exact`, `c01_strat_trees_exact`: the returned ends / trees ARE the stratified meaning;
  * `c01_strat_refines`         `DerivesS ⊆ Derives`: the stratified meaning refines the monotone reading;
  * `c01_strat_sentence_complete(_parse)`  through the wrapper: `Sentence g` returns a result if some derivation of
                                `g` consumes the entire input.

  Not covered (and why): a stratum-0 parser that mentions a stratum-1 rule — `T → Choice(number, '(' E ')')` with
  `E` left-recursive over `T`.  That grammar is not stratified in the usual sense (E depends on T depends,
  through a non-monotone operator, on E); it is "locally stratified" by the input position (the inner `E` starts
  after the parenthesis), which needs strata indexed by (position, level) and is not attempted here.
-/
import ParsleyVerif.Proofs.StratCut
import ParsleyVerif.Proofs.StratRun
import ParsleyVerif.Props.C01C
import ParsleyVerif.Props.C01B
import ParsleyVerif.Props.C02T
namespace PV
open PV.Text PV.Strat

namespace Strat

/-- what the theorems ask of a parser besides the decidable check: one parser per `Memoize` index (`GOK`), every
    terminal behaves and builds no "EOF"-token node (`TermsOK`), and the terminals below the low leaves — the
    terminals of stratum 0 — consume (`LeafCons`) -/
structure SScope (cfg : Cfg) (cert : Cert) (bodyOf : Nat → G) (g : G) : Prop where
  gok : GOK bodyOf g
  terms : TermsOK cfg g
  cons : LeafCons cfg cert g

/-- … and of the environment: every rule is in scope, and the terminals of the stratum-0 rules consume -/
def EScope (cfg : Cfg) (cert : Cert) (bodyOf : Nat → G) : Prop :=
  ∀ k g', cfg.env[k]? = some g' → SScope cfg cert bodyOf g' ∧ (cert.lowRule k = true → TermsCons cfg g')

theorem stratOK_parts (s : Cert) (env : List G) (root : G) (h : stratOK s env root = true) :
    upOK s root = true ∧ ∀ k g, env[k]? = some g → ruleOK s k g = true := by
  simp only [stratOK, Bool.and_eq_true, List.all_eq_true, List.mem_range] at h
  refine ⟨h.1, fun k g hk => ?_⟩
  have := h.2 k (List.getElem?_eq_some_iff.mp hk).1
  simpa only [hk] using this

/-- from the decidable check to the hypotheses of the invariants -/
theorem scope_of_stratOK (s : Cert) (cfg : Cfg) (bodyOf : Nat → G) (g : G) (hok : stratOK s cfg.env g = true)
    (henv : EScope cfg s bodyOf) (hg : SScope cfg s bodyOf g) :
    EnvS cfg s bodyOf ∧ UpS cfg s bodyOf g := by
  obtain ⟨hroot, hrules⟩ := stratOK_parts s cfg.env g hok
  have hlow : ∀ k g', cfg.env[k]? = some g' → s.lowRule k = true →
      lowOK s g' = true ∧ (mayBeEmpty s.lrf.wf g' = true → s.lrf.wf.nullable k = true) ∧
      (∀ i ∈ lrfMemos s.lrf g', i ∈ s.lrf.lm k) := by
    intro k g' hk hl
    have := hrules k g' hk
    simp only [ruleOK, hl, ↓reduceIte, Bool.and_eq_true, Bool.or_eq_true, Bool.not_eq_true', List.all_eq_true,
      List.contains_eq_mem, decide_eq_true_eq] at this
    refine ⟨this.1.1, ?_, this.2⟩
    intro hm
    cases this.1.2 with
    | inl h => rw [hm] at h; cases h
    | inr h => exact h
  refine ⟨⟨?_, ?_, ?_, ?_⟩, ⟨hroot, hg.gok, hg.terms, hg.cons⟩⟩
  · intro k g' hk hl
    obtain ⟨hs, hc⟩ := henv k g' hk
    exact ⟨(hlow k g' hk hl).1, hs.gok, hs.terms, hc hl⟩
  · intro k g' hk hl
    obtain ⟨hs, _⟩ := henv k g' hk
    have := hrules k g' hk
    simp only [ruleOK, hl, Bool.false_eq_true, ↓reduceIte] at this
    exact ⟨this, hs.gok, hs.terms, hs.cons⟩
  · intro k g' hk hl; exact (hlow k g' hk hl).2.1
  · intro k g' hk hl; exact (hlow k g' hk hl).2.2

theorem derives_of_derivesS {cfg : Cfg} {s : Cert} {g : G} {pos : Nat} {x : Node} (h : DerivesS cfg s g pos x) :
    Derives cfg g pos x :=
  @DerivesS.rec cfg s (fun g pos x _ => Derives cfg g pos x) (fun sh d pos nodes _ => DerivesSeq cfg sh d pos nodes)
    (fun _ hb hx => Big.big_derives hb _ hx) .term .empty (fun _ he _ => .ref he) (fun _ _ => .memo)
    (fun hm _ => .any hm) (fun _ => .optSome) .optNone (fun hs _ hl h => .seqfam hs h hl)
    .nil (fun hl _ _ => .cons hl) g pos x h

theorem derivesSeq_of_derivesSeqS {cfg : Cfg} {s : Cert} : ∀ {sh : SeqShape} {d pos : Nat} {nodes : List Node},
    DerivesSeqS cfg s sh d pos nodes → DerivesSeq cfg sh d pos nodes
  | _, _, _, _, .nil => .nil
  | _, _, _, _, .cons hl hd hrest => .cons hl (derives_of_derivesS hd) (derivesSeq_of_derivesSeqS hrest)

theorem all_all {P : G → Prop} : ∀ g : G, g.All P → g.All (fun g0 => g0.All P) :=
  G.induct fun g ih h => G.All_kids.mpr ⟨h, fun k hk => ih k hk (h.kid hk)⟩

theorem allList_all {P : G → Prop} : ∀ gs : List G, AllList P gs → AllList (fun g0 => g0.All P) gs :=
  fun _ h => AllList_iff.mpr fun g hg => all_all g (AllList_iff.mp h g hg)

/-- a sufficient condition for `LeafCons`: ALL terminals of the parser consume -/
theorem leafCons_of_cons {cfg : Cfg} (s : Cert) {g : G} (h : TermsCons cfg g) : LeafCons cfg s g :=
  Big.all_imp (P := fun g0 => g0.All (ConsT cfg)) (Q := fun g0 => isLowLeaf s g0 = true → TermsCons cfg g0)
    (fun _ hg _ => hg) g (all_all g h)

/-- what `SScope` asks at one parser when all its terminals consume: a closed grammar is checked in one walk -/
def SScopeLocal (cfg : Cfg) (bodyOf : Nat → G) : G → Prop :=
  fun g => LocalOK bodyOf g ∧ TermS cfg g ∧ ConsT cfg g

theorem sscope_of_all {cfg : Cfg} (cert : Cert) {bodyOf : Nat → G} {g : G} (h : g.All (SScopeLocal cfg bodyOf)) :
    SScope cfg cert bodyOf g ∧ TermsCons cfg g := by
  unfold SScopeLocal at h
  rw [G.All_and, G.All_and] at h
  exact ⟨⟨h.1, h.2.1, leafCons_of_cons _ h.2.2⟩, h.2.2⟩

theorem escope_of_all {cfg : Cfg} {cert : Cert} {bodyOf : Nat → G} {env : List G} (henv : cfg.env = env)
    (h : ∀ g' ∈ env, g'.All (SScopeLocal cfg bodyOf)) : EScope cfg cert bodyOf :=
  fun _ g' hk => (sscope_of_all cert (h g' (henv ▸ List.mem_of_getElem? hk))).imp_right fun hc _ => hc

end Strat

/-- **a stratum-0 sub-run never curtails and returns its `Big` result from any upper context.**  `g0` is a low
    leaf of a stratum-1 parser in scope; the call happens under any left-recursion context that counts no
    stratum-0 index (every context a stratum-1 parser can be in: `CtxUp`), at any position of the file, from any
    cache of a stratified run (`CacheS`).  Then the curtailing set is empty, the result is THE big-step result of
    `g0` at `pos` (with an error iff the semantics says so), and the cache keeps its invariant. -/
theorem c01_strat_low_exact (s : Cert) (cfg : Cfg) (bodyOf : Nat → G) (henv : EnvS cfg s bodyOf)
    (g0 : G) (hg : UpS cfg s bodyOf g0) (hleaf : isLowLeaf s g0 = true)
    (fuel : Nat) (ctx : Ctx) (pos : Nat) (hin : InFile cfg.file pos) (hctx : CtxUp s ctx)
    (st : St) (hst : CacheS cfg s bodyOf st) (o : Out) (st' : St)
    (h : run cfg fuel g0 ctx pos st = some (o, st')) :
    o.cp = [] ∧ Big cfg g0 pos o.res o.err.isSome ∧ CacheS cfg s bodyOf st' := by
  obtain ⟨hlow, hmem⟩ := hg.leaf hleaf
  exact run_low cfg s bodyOf _ henv fuel g0 ctx pos st o st' hlow hin (fun i hi => hctx i (hmem i hi)) hst h

/-- … so any two stratum-0 sub-runs at one position agree, whatever their contexts, caches and fuel -/
theorem c01_strat_low_agree (s : Cert) (cfg : Cfg) (bodyOf : Nat → G) (henv : EnvS cfg s bodyOf)
    (g0 : G) (hg : UpS cfg s bodyOf g0) (hleaf : isLowLeaf s g0 = true) (pos : Nat) (hin : InFile cfg.file pos)
    (f₁ f₂ : Nat) (c₁ c₂ : Ctx) (h₁ : CtxUp s c₁) (h₂ : CtxUp s c₂) (s₁ s₂ : St)
    (hs₁ : CacheS cfg s bodyOf s₁) (hs₂ : CacheS cfg s bodyOf s₂) (o₁ o₂ : Out) (s₁' s₂' : St)
    (r₁ : run cfg f₁ g0 c₁ pos s₁ = some (o₁, s₁')) (r₂ : run cfg f₂ g0 c₂ pos s₂ = some (o₂, s₂')) :
    o₁.res = o₂.res ∧ o₁.err.isSome = o₂.err.isSome :=
  big_functional (c01_strat_low_exact s cfg bodyOf henv g0 hg hleaf f₁ c₁ pos hin h₁ s₁ hs₁ o₁ s₁' r₁).2.1
    (c01_strat_low_exact s cfg bodyOf henv g0 hg hleaf f₂ c₂ pos hin h₂ s₂ hs₂ o₂ s₂' r₂).2.1

/-- **(A) cache reuse and curtailing sets never lose a curtailed derivation of a stratified grammar.** -/
theorem c01_strat_reuse_complete (s : Cert) (cfg : Cfg) (bodyOf : Nat → G) (henv : EnvS cfg s bodyOf)
    (fuel : Nat) (g : G) (ctx : Ctx) (pos : Nat) (st : St) (o : Out) (st' : St)
    (hg : UpS cfg s bodyOf g) (hin : InFile cfg.file pos) (hctx : CtxUp s ctx) (hst : CacheS cfg s bodyOf st)
    (h : run cfg fuel g ctx pos st = some (o, st')) :
    ∀ (c' : Nat → Nat) (x : Node), (∀ k ∈ o.cp, ctx.get k ≤ c' k) → DerivesSC cfg s c' g pos x → x ∈ o.res.alts :=
  (run_strat cfg s bodyOf henv fuel g ctx pos st o st' hg hin hctx hst h).1

/-- the joint cache invariant is preserved by every call and holds of the empty cache -/
theorem c01_strat_cache (s : Cert) (cfg : Cfg) (bodyOf : Nat → G) (henv : EnvS cfg s bodyOf)
    (fuel : Nat) (g : G) (ctx : Ctx) (pos : Nat) (st : St) (o : Out) (st' : St)
    (hg : UpS cfg s bodyOf g) (hin : InFile cfg.file pos) (hctx : CtxUp s ctx) (hst : CacheS cfg s bodyOf st)
    (h : run cfg fuel g ctx pos st = some (o, st')) :
    CacheS cfg s bodyOf st' ∧ CacheS cfg s bodyOf {} :=
  ⟨(run_strat cfg s bodyOf henv fuel g ctx pos st o st' hg hin hctx hst h).2.2.2, MixCache.empty⟩

/-- what `CacheS` says of an entry, spelled out: a stratum-0 entry is exact and was stored uncurtailed; a
    stratum-1 entry holds every tree curtailed-derivable under counters that pass the test of `ResultCache.Get`,
    and only derivations -/
theorem c01_strat_cache_entry (s : Cert) (cfg : Cfg) (bodyOf : Nat → G) (st : St) (hst : CacheS cfg s bodyOf st)
    (e : CacheEntry) (he : e ∈ st.cache) :
    (s.lowIdx e.idx = true → e.cp = [] ∧ e.ctx = [] ∧ Big cfg (bodyOf e.idx) e.pos e.res e.err.isSome) ∧
    (s.lowIdx e.idx = false →
      (∀ (c' : Nat → Nat) (x : Node), (∀ kv ∈ e.ctx, kv.2 ≤ c' kv.1) →
        DerivesSC cfg s c' (.memo e.idx (bodyOf e.idx)) e.pos x → x ∈ e.res.alts) ∧
      (∀ x ∈ e.res.alts, DerivesS cfg s (.memo e.idx (bodyOf e.idx)) e.pos x)) :=
  ⟨fun hl => ⟨((hst e he).1 hl).cp, ((hst e he).1 hl).ctx, ((hst e he).1 hl).big⟩,
   fun hl => ⟨((hst e he).2 hl).complete, ((hst e he).2 hl).sound⟩⟩

/-- **(B) every reachable end position has a curtailed derivation from the empty context** -/
theorem c01_strat_curtailed_covers (s : Cert) (cfg : Cfg) (bodyOf : Nat → G) (henv : EnvS cfg s bodyOf)
    (g : G) (hg : UpS cfg s bodyOf g) (pos : Nat) (hin : InFile cfg.file pos) (x : Node)
    (h : DerivesS cfg s g pos x) : ∃ y, DerivesSC cfg s zeroC g pos y ∧ y.rpos = x.rpos :=
  derivesSC_of_derivesS_ends cfg s bodyOf henv g hg pos hin x h

/-- **(B), trees**: in an acyclic stratified grammar every derivation is a curtailed derivation — the same tree -/
theorem c01_strat_curtailed_covers_trees (s : Cert) (cfg : Cfg) (bodyOf : Nat → G) (henv : EnvS cfg s bodyOf)
    (hac : AcyclicS cfg s bodyOf) (g : G) (hg : UpS cfg s bodyOf g) (pos : Nat) (hin : InFile cfg.file pos) (x : Node)
    (h : DerivesS cfg s g pos x) : DerivesSC cfg s zeroC g pos x :=
  derivesSC_of_derivesS_tree cfg s bodyOf henv hac g hg pos hin x h

/-- completeness for end positions, from any cache that satisfies the invariant -/
theorem c01_complete_strat_ends_from (cert : Cert) (cfg : Cfg) (bodyOf : Nat → G) (g : G)
    (hok : stratOK cert cfg.env g = true) (henv : EScope cfg cert bodyOf) (hg : SScope cfg cert bodyOf g)
    (fuel : Nat) (pos : Nat) (hin : InFile cfg.file pos) (st : St)
    (hst : CacheS cfg cert bodyOf st) (o : Out) (st' : St)
    (h : run cfg fuel g [] pos st = some (o, st')) :
    ∀ x, DerivesS cfg cert g pos x → ∃ y ∈ o.res.alts, y.rpos = x.rpos := by
  obtain ⟨hE, hU⟩ := scope_of_stratOK cert cfg bodyOf g hok henv hg
  exact Covers.complete_ends (c01_strat_reuse_complete cert cfg bodyOf hE fuel g [] pos st o st' hU hin (CtxUp.nil _)
    hst h) (c01_strat_curtailed_covers cert cfg bodyOf hE g hU pos hin)

/-- **C01 completeness for stratified grammars, end positions.**  `cert` passes the decidable check on the
    grammar; whenever `run` answers from the empty context and the empty state, for every derivation of the
    stratified meaning a tree with the same end position is among the returned alternatives. -/
theorem c01_complete_strat_ends (cert : Cert) (cfg : Cfg) (bodyOf : Nat → G) (g : G)
    (hok : stratOK cert cfg.env g = true) (henv : EScope cfg cert bodyOf) (hg : SScope cfg cert bodyOf g)
    (fuel : Nat) (pos : Nat) (hin : InFile cfg.file pos) (o : Out) (st' : St)
    (h : run cfg fuel g [] pos {} = some (o, st')) :
    ∀ x, DerivesS cfg cert g pos x → ∃ y ∈ o.res.alts, y.rpos = x.rpos :=
  c01_complete_strat_ends_from cert cfg bodyOf g hok henv hg fuel pos hin {} MixCache.empty o st' h

/-- **C01 completeness for stratified grammars, trees.**  In an acyclic stratified grammar every derivation —
    every distinct tree — is among the returned alternatives. -/
theorem c01_complete_strat_trees (cert : Cert) (cfg : Cfg) (bodyOf : Nat → G) (g : G)
    (hok : stratOK cert cfg.env g = true) (henv : EScope cfg cert bodyOf) (hg : SScope cfg cert bodyOf g)
    (hac : AcyclicS cfg cert bodyOf)
    (fuel : Nat) (pos : Nat) (hin : InFile cfg.file pos) (o : Out) (st' : St)
    (h : run cfg fuel g [] pos {} = some (o, st')) :
    ∀ x, DerivesS cfg cert g pos x → x ∈ o.res.alts := by
  obtain ⟨hE, hU⟩ := scope_of_stratOK cert cfg bodyOf g hok henv hg
  exact fun x hx => Covers.zero (c01_strat_reuse_complete cert cfg bodyOf hE fuel g [] pos {} o st' hU hin (CtxUp.nil _)
    MixCache.empty h) (c01_strat_curtailed_covers_trees cert cfg bodyOf hE hac g hU pos hin x hx)

/-- **C01 soundness with respect to the stratified meaning**: every returned tree is a derivation `DerivesS`
    (sharper than `c01_sound`: below a non-monotone operator the tree is an alternative of the EXACT result) -/
theorem c01_sound_strat (cert : Cert) (cfg : Cfg) (bodyOf : Nat → G) (g : G)
    (hok : stratOK cert cfg.env g = true) (henv : EScope cfg cert bodyOf) (hg : SScope cfg cert bodyOf g)
    (fuel : Nat) (pos : Nat) (hin : InFile cfg.file pos) (o : Out) (st' : St)
    (h : run cfg fuel g [] pos {} = some (o, st')) :
    ∀ x ∈ o.res.alts, DerivesS cfg cert g pos x := by
  obtain ⟨hE, hU⟩ := scope_of_stratOK cert cfg bodyOf g hok henv hg
  exact (run_strat cfg cert bodyOf hE fuel g [] pos {} o st' hU hin (CtxUp.nil _) MixCache.empty h).2.2.1

/-- soundness and completeness together: from a fresh context the returned END POSITIONS are exactly the end
    positions of the stratified meaning -/
theorem c01_strat_ends_exact (cert : Cert) (cfg : Cfg) (bodyOf : Nat → G) (g : G)
    (hok : stratOK cert cfg.env g = true) (henv : EScope cfg cert bodyOf) (hg : SScope cfg cert bodyOf g)
    (fuel : Nat) (pos : Nat) (hin : InFile cfg.file pos) (o : Out) (st' : St)
    (h : run cfg fuel g [] pos {} = some (o, st')) (e : Nat) :
    (∃ x, DerivesS cfg cert g pos x ∧ x.rpos = e) ↔ e ∈ o.res.alts.map Node.rpos := by
  obtain ⟨hE, hU⟩ := scope_of_stratOK cert cfg bodyOf g hok henv hg
  exact Covers.ends_exact (c01_strat_reuse_complete cert cfg bodyOf hE fuel g [] pos {} o st' hU hin (CtxUp.nil _)
      MixCache.empty h) (c01_strat_curtailed_covers cert cfg bodyOf hE g hU pos hin)
    (c01_sound_strat cert cfg bodyOf g hok henv hg fuel pos hin o st' h) e

/-- and in an acyclic stratified grammar the returned TREES are exactly the stratified meaning -/
theorem c01_strat_trees_exact (cert : Cert) (cfg : Cfg) (bodyOf : Nat → G) (g : G)
    (hok : stratOK cert cfg.env g = true) (henv : EScope cfg cert bodyOf) (hg : SScope cfg cert bodyOf g)
    (hac : AcyclicS cfg cert bodyOf)
    (fuel : Nat) (pos : Nat) (hin : InFile cfg.file pos) (o : Out) (st' : St)
    (h : run cfg fuel g [] pos {} = some (o, st')) (x : Node) :
    DerivesS cfg cert g pos x ↔ x ∈ o.res.alts :=
  ⟨c01_complete_strat_trees cert cfg bodyOf g hok henv hg hac fuel pos hin o st' h x,
   c01_sound_strat cert cfg bodyOf g hok henv hg fuel pos hin o st' h x⟩

/-- the stratified meaning refines the monotone reading `Derives` of Props/C01.lean -/
theorem c01_strat_refines (cert : Cert) (cfg : Cfg) (g : G) (pos : Nat) (x : Node)
    (h : DerivesS cfg cert g pos x) : Derives cfg g pos x :=
  derives_of_derivesS h

/-- **Sentence succeeds if some derivation of the stratified operand consumes the entire input** — whenever it
    answers.  (`Sentence g = SeqOf(g, End)`; the theorems above are about the parser BELOW the wrapper, whose `End`
    node carries the token "EOF".) -/
theorem c01_strat_sentence_complete (cert : Cert) (cfg : Cfg) (bodyOf : Nat → G) (g : G)
    (hok : stratOK cert cfg.env g = true) (henv : EScope cfg cert bodyOf) (hg : SScope cfg cert bodyOf g)
    (fuel : Nat) (pos : Nat) (hin : InFile cfg.file pos) (o : Out) (st' : St)
    (h : run cfg fuel (G.sentence g) [] pos {} = some (o, st'))
    (hex : ∃ x, DerivesS cfg cert g pos x ∧ x.rpos = cfg.hi) : o.res.alts ≠ [] ∧ o.err = none := by
  obtain ⟨hE, hU⟩ := scope_of_stratOK cert cfg bodyOf g hok henv hg
  obtain ⟨x, hx, he⟩ := hex
  obtain ⟨y, hy, hye⟩ := c01_strat_curtailed_covers cert cfg bodyOf hE g hU pos hin x hx
  exact sentence_complete_strat cfg cert bodyOf hE g hU fuel pos hin {} MixCache.empty o st' h y hy
    (by rw [hye, he]; exact isEOF_hi cfg)

/-- the same for `parsley.Parse(Sentence g)` from a fresh context -/
theorem c01_strat_sentence_complete_parse (cert : Cert) (cfg : Cfg) (bodyOf : Nat → G) (g : G)
    (hok : stratOK cert cfg.env g = true) (henv : EScope cfg cert bodyOf) (hg : SScope cfg cert bodyOf g)
    (fuel : Nat) (p : ParseOut) (h : parse cfg fuel (G.sentence g) = some p)
    (hex : ∃ x, DerivesS cfg cert g (cfg.file.pos 0) x ∧ x.rpos = cfg.hi) : p.err = none ∧ p.res.alts ≠ [] :=
  parse_of_run h fun o st1 hr =>
    c01_strat_sentence_complete cert cfg bodyOf g hok henv hg fuel _ (c01_pre_initial cfg).1 o st1 hr hex

/-! ### non-vacuity: `E → E '+' T | T`, `T → Many1(digit)` on "12+3"

  `E` is memoized and left-recursive (stratum 1: Any / SeqOf), `T` is a stratum-0 rule (the longest-path operator
  Many1 over `digit = Any('1','2','3')`).  The file starts at offset 1, so "12+3" occupies positions 1 … 4 and
  ends at 5. -/

namespace Strat

/-- a rune terminal is in scope … -/
theorem termS_rune (cfg : Cfg) (ch : Nat) (name : Bytes) (h : Utf8.encodeRune ch ≠ eofTok) :
    TermS cfg (.term (.rune ch name)) := by
  obtain ⟨h1, _⟩ := termOK_rune cfg ch name
  refine ⟨h1, ?_⟩
  intro pos n hn
  obtain ⟨r, rfl, _⟩ := rune_parse_node hn
  exact h

/-- … and consumes -/
theorem consT_rune (cfg : Cfg) (ch : Nat) (name : Bytes) : ConsT cfg (.term (.rune ch name)) :=
  (termOK_rune cfg ch name).2

def sxT (c : Nat) : G := .term (.rune c [34, c, 34])
def sxDigit : G := .any [sxT 49, sxT 50, sxT 51]
def sxEBody : G := .any [.seq .seqOf [.ref 0, sxT 43, .ref 1] {}, .ref 1]
def sxTBody : G := .many sxDigit false {}
def sxEnv : List G := [.memo 0 sxEBody, sxTBody]
def sxCfg : Cfg :=
  { env := sxEnv, file := { name := "f", data := [49, 50, 43, 51], offset := 1 }, fileSet := {},
    params := { floatOk := fun _ => true, durErr := fun _ => none, regexp := fun _ _ => none } }
def sxCert : Cert := certOf [1] [] [] [] [[], []]

theorem sx_cert : stratOK sxCert sxCfg.env (.ref 0) = true := by decide +kernel

/-- the scope conditions speak of the rules only: they hold for every input and placement of the file -/
theorem sx_rune (cfg : Cfg) (bodyOf : Nat → G) (c : Nat) (h : Utf8.encodeRune c ≠ eofTok) :
    (sxT c).All (SScopeLocal cfg bodyOf) :=
  ⟨trivial, termS_rune _ _ _ h, consT_rune _ _ _⟩

theorem sx_scope_of (cfg : Cfg) (henv : cfg.env = sxEnv) : EScope cfg sxCert (fun _ => sxEBody) := by
  refine escope_of_all henv ?_
  simp only [sxEnv, List.forall_mem_cons, List.not_mem_nil, false_imp_iff, implies_true, sxEBody, sxTBody, sxDigit,
    G.All, AllList, SScopeLocal, LocalOK, TermS, ConsT, and_true, true_and]
  exact ⟨sx_rune _ _ 43 (by decide), sx_rune _ _ 49 (by decide), sx_rune _ _ 50 (by decide), sx_rune _ _ 51 (by decide)⟩

theorem sx_scope : EScope sxCfg sxCert (fun _ => sxEBody) := sx_scope_of sxCfg rfl

theorem sx_root (cfg : Cfg) (cert : Cert) (bodyOf : Nat → G) : SScope cfg cert bodyOf (.ref 0) :=
  (sscope_of_all cert (show (G.ref 0).All (SScopeLocal cfg bodyOf) from ⟨trivial, trivial, trivial⟩)).1

def sxD (p c : Nat) : Node := .term [c] (.rune c) p (p + 1)
def sxN12 : Node := .nt manyTok [sxD 1 49, sxD 2 50] 1 3 .none
def sxN3 : Node := .nt manyTok [sxD 4 51] 4 5 .none
def sxSum : Node := .nt seqTok [sxN12, sxD 3 43, sxN3] 1 5 .none

theorem sx_run : (run sxCfg 30 (.ref 0) [] 1 {}).map (fun r => r.1.res.alts) = some [sxSum, sxN12] := by rfl

/-- the END POSITIONS of the stratified meaning of `E` on "12+3" -/
theorem sx_ends : ∀ e, (∃ x, DerivesS sxCfg sxCert (.ref 0) 1 x ∧ x.rpos = e) ↔ e ∈ [5, 3] := by
  intro e
  obtain ⟨o, st', hrun, hl⟩ := ends_of_eval (cfg := sxCfg) (fuel := 30) (g := .ref 0) (pos := 1) (l := [5, 3]) (by decide +kernel)
  rw [← hl]
  exact c01_strat_ends_exact sxCert sxCfg (fun _ => sxEBody) (.ref 0) sx_cert sx_scope (sx_root _ _ _) 30 1
    ⟨by decide, by decide⟩ o st' hrun e

/-- the exact meaning of the low leaf `T` at 1 and at 4 (one evaluation each, through `c01_bigstep`) -/
theorem sx_inScope : ∀ g' ∈ sxCfg.env, Big.InScope (fun _ => sxEBody) g' := by
  intro g' hg'
  simp only [sxCfg, sxEnv, List.mem_cons, List.not_mem_nil, or_false] at hg'
  rcases hg' with rfl | rfl
  · simp [Big.InScope, G.All, AllList, Big.OKLocal, sxEBody, sxT]
  · simp [Big.InScope, G.All, AllList, Big.OKLocal, sxTBody, sxDigit, sxT]

theorem sx_T1 : Big sxCfg (.ref 1) 1 (.one sxN12) false :=
  Big.of_eval rfl (fun _ => sxEBody) sx_inScope (by simp [Big.InScope, G.All, Big.OKLocal]) (fuel := 12) (by rfl)
theorem sx_T4 : Big sxCfg (.ref 1) 4 (.one sxN3) false :=
  Big.of_eval rfl (fun _ => sxEBody) sx_inScope (by simp [Big.InScope, G.All, Big.OKLocal]) (fuel := 12) (by rfl)

/-- the expected derivations, by the rules: `T` alone … -/
theorem sx_derives_T : DerivesS sxCfg sxCert (.ref 0) 1 sxN12 :=
  .ref rfl (g := sxEnv[0]) rfl (.memo rfl (.any (g := .ref 1) (by simp) (.low rfl sx_T1 (by simp [Res.alts]))))

/-- … and `E '+' T` with the left-recursive `E` deriving "12" -/
theorem sx_derives_sum : DerivesS sxCfg sxCert (.ref 0) 1 sxSum := by
  refine .ref rfl (g := sxEnv[0]) rfl (.memo rfl (.any (g := .seq .seqOf [.ref 0, sxT 43, .ref 1] {}) (by simp) ?_))
  exact .seqOf (nodes := [sxN12, sxD 3 43, sxN3]) rfl
    (.cons rfl sx_derives_T (.cons rfl (.term rfl) (.cons rfl (.low rfl sx_T4 (by simp [Res.alts])) .nil))) rfl

/-- `E → E '+' T | T` is acyclic: a nested `E` with the same start is followed by the `+`; `T` is a low leaf -/
theorem sx_acyclic : AcyclicS sxCfg sxCert (fun _ => sxEBody) :=
  have ⟨hE, _⟩ := scope_of_stratOK sxCert sxCfg (fun _ => sxEBody) (.ref 0) sx_cert sx_scope (sx_root _ _ _)
  acyclicS_of_guards _ _ _ hE fun _ _ => ⟨(hE.up 0 _ rfl rfl |>.memo rfl).2, 2, rfl⟩

/-- the trees theorem, instantiated: the stratified meaning of `E` on "12+3" is exactly the two trees the
    model returns — `12+3` (left-recursive `E`, both `T`s as macro terminals with their longest-path result) and
    `12`; in particular NOT `1` (which the monotone reading `Derives` has: Many1 may stop anywhere there) -/
theorem sx_trees : ∀ x, DerivesS sxCfg sxCert (.ref 0) 1 x ↔ x ∈ [sxSum, sxN12] := by
  intro x
  obtain ⟨o, st', hr, hev⟩ := run_of_eval (f := fun o => o.res.alts) sx_run
  rw [← hev]
  exact c01_strat_trees_exact sxCert sxCfg (fun _ => sxEBody) (.ref 0) sx_cert sx_scope (sx_root _ _ _) sx_acyclic 30 1
    ⟨by decide, by decide⟩ o st' hr x

/-- the monotone reading has more: `E` derives the single digit "1" there (Many1 stopping early), the
    stratified meaning does not -/
theorem sx_not_prefix : ¬ DerivesS sxCfg sxCert (.ref 0) 1 (.nt manyTok [sxD 1 49] 1 2 .none) := by
  intro h
  have := (sx_trees _).mp h
  simp [sxSum, sxN12, sxD] at this

theorem sx_prefix_monotone : Derives sxCfg (.ref 0) 1 (.nt manyTok [sxD 1 49] 1 2 .none) := by
  have hd : Derives sxCfg sxDigit 1 (sxD 1 49) := .any (g := sxT 49) (List.mem_cons_self ..) (.term rfl)
  have hs : sxTBody.shape = some ⟨fun _ => some sxDigit, fun len => false || len > 0, manyTok, .none, false, none⟩ := rfl
  have hT := Derives.seqfam (cfg := sxCfg) (pos := 1) (nodes := [sxD 1 49]) hs (.cons rfl hd .nil) rfl
  exact .ref (g := sxEnv[0]) rfl (.memo (.any (g := .ref 1) (by simp) (.ref (g := sxEnv[1]) rfl hT)))

/-- through the wrapper: "12+3" is a sentence of `E` (the derivation `sxSum` ends at `hi = 5`), so
    `Parse(Sentence E)` succeeds whenever it answers — and it does answer, with that one tree -/
theorem sx_sentence (fuel : Nat) (p : ParseOut) (h : parse sxCfg fuel (G.sentence (.ref 0)) = some p) :
    p.err = none ∧ p.res.alts ≠ [] :=
  c01_strat_sentence_complete_parse sxCert sxCfg (fun _ => sxEBody) (.ref 0) sx_cert sx_scope (sx_root _ _ _) fuel p h
    ⟨sxSum, sx_derives_sum, rfl⟩

example : (parse sxCfg 40 (G.sentence (.ref 0))).map (fun p => (p.err.isNone, p.res.alts.map Node.rpos)) = some (true, [5]) := by
  decide +kernel


/-! #### a memoized, recursive stratum 0 with first-match Choice below a left-recursive rule:
    `E → E '+' T | 'n'`, `T → Choice(Many1(digit), '(' T ')')`, both memoized, on "n+(1)+2".
    Every `E` level re-enters `T` at the positions after a '+': the first call runs the body, the later ones are
    cache hits on an entry stored with empty context and empty curtailing set (`LowEntry`). -/
def sxPBody : G := .any [.seq .seqOf [.ref 0, sxT 43, .ref 1] {}, sxT 110]
def sxPTBody : G := .choice [sxTBody, .seq .seqOf [sxT 40, .ref 1, sxT 41] {}]
def sxPEnv : List G := [.memo 0 sxPBody, .memo 1 sxPTBody]
def sxPCfg : Cfg :=
  { env := sxPEnv, file := { name := "f", data := [110, 43, 40, 49, 41, 43, 50], offset := 1 }, fileSet := {},
    params := { floatOk := fun _ => true, durErr := fun _ => none, regexp := fun _ _ => none } }
def sxPCert : Cert := certOf [1] [1] [] [] [[], [1]]
def sxPBodyOf : Nat → G := fun i => if i = 0 then sxPBody else sxPTBody

theorem sx_p_cert : stratOK sxPCert sxPCfg.env (.ref 0) = true := by decide +kernel

theorem sx_p_scope : EScope sxPCfg sxPCert sxPBodyOf := by
  refine escope_of_all (env := sxPEnv) rfl ?_
  simp only [sxPEnv, List.forall_mem_cons, List.not_mem_nil, false_imp_iff, implies_true, sxPBody, sxPTBody, sxPBodyOf,
    sxTBody, sxDigit, G.All, AllList, SScopeLocal, LocalOK, TermS, ConsT, Nat.one_ne_zero, ↓reduceIte, and_true, true_and]
  exact ⟨⟨sx_rune _ _ 43 (by decide), sx_rune _ _ 110 (by decide)⟩,
    ⟨sx_rune _ _ 49 (by decide), sx_rune _ _ 50 (by decide), sx_rune _ _ 51 (by decide)⟩,
    sx_rune _ _ 40 (by decide), sx_rune _ _ 41 (by decide)⟩

/-- the ends of `E` on "n+(1)+2": "n", "n+(1)", "n+(1)+2" -/
theorem sx_p_ends : ∀ e, (∃ x, DerivesS sxPCfg sxPCert (.ref 0) 1 x ∧ x.rpos = e) ↔ e ∈ [8, 6, 2] := by
  intro e
  obtain ⟨o, st', hrun, hl⟩ := ends_of_eval (cfg := sxPCfg) (fuel := 60) (g := .ref 0) (pos := 1) (l := [8, 6, 2]) (by decide +kernel)
  rw [← hl]
  exact c01_strat_ends_exact sxPCert sxPCfg sxPBodyOf (.ref 0) sx_p_cert sx_p_scope (sx_root _ _ _) 60 1
    ⟨by decide, by decide⟩ o st' hrun e

/-- the cache of that run: the stratum-1 entry (index 0 at 1) and the stratum-0 entries (index 1, at 7, 3 and 4) -/
example : (run sxPCfg 60 (.ref 0) [] 1 {}).map (fun r => r.2.cache.map (fun e => (e.idx, e.pos))) =
    some [(0, 1), (1, 7), (1, 3), (1, 4)] := by decide +kernel


/-! #### not stratified: `T → Choice(Many1(digit), '(' E ')')` mentions the left-recursive stratum-1 rule `E` below a
    non-monotone operator — rejected whatever certificate is proposed -/
def sxBadEnv : List G :=
  [.memo 0 sxEBody, .choice [sxTBody, .seq .seqOf [sxT 40, .ref 0, sxT 41] {}]]

theorem sx_bad_fails (c : Cert) : stratOK c sxBadEnv (.ref 0) = false := by
  cases h : stratOK c sxBadEnv (.ref 0) with
  | false => rfl
  | true =>
    exfalso
    obtain ⟨_, hr⟩ := stratOK_parts c sxBadEnv (.ref 0) h
    have h0 := hr 0 _ rfl
    have h1 := hr 1 _ rfl
    have hl0 : c.lowRule 0 = true := by
      cases hl1 : c.lowRule 1 <;>
        simp [ruleOK, hl1, upOK, leafOK, lowOK, lowOKList, sxTBody, sxDigit, sxT] at h1
      · exact h1.1.2.2
      · exact h1.1.1.2.2
    simp [ruleOK, hl0, lowOK, lowOKList, lrfMemos, lrfMemosAny, lrfMemosSeq, sxEBody, sxT] at h0
    obtain ⟨⟨⟨⟨⟨_, hn, _⟩, _⟩, _⟩, _⟩, hy, _⟩ := h0
    exact hn hy


end Strat

end PV
