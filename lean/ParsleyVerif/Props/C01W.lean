/-
  C01 WITH THE WHITESPACE TRIMS — soundness and completeness for the monotone fragment

      term, empty, ref, memo, any, seqOf, optional   +   ltrim, rtrim   (Trim = rtrim ∘ ltrim, WsSpacesNl)

  with every whitespace mode.  (Props/C01C.lean stops at the trims.)

  Model: ParsleyVerif/Model/Run.lean (`run`, cases `ltrim` / `rtrim` transcribe text/trim.go).
  Specification: ParsleyVerif/Spec/DerivesW.lean —
    `DerivesW`   the EXACT meaning: LeftTrim skips the maximal whitespace run and the mode must accept it;
                 RightTrim moves each tree's reader position over the maximal run after it, and the mode must
                 accept that run (`c01w_ltrim_meaning`, `c01w_rtrim_meaning` restate the two rules in the
                 vocabulary of Props/C10.lean: `wsOk`, `wsRun`).  `DerivesW` refines the loose `Derives` of
                 Spec/Derives.lean (`c01w_refines`), which keeps `rtrimKeep` and ignores the modes.
    `DerivesCW`  curtailed derivations; LeftTrim hands the left-recursion counters on UNCHANGED, also across
                 skipped whitespace — this is what text/trim.go does.

  THE CARRIED-COUNTER QUESTION.  A parser entered across skipped whitespace starts at `p' > p` with the counters
  earned at `p`, and is tested against `remaining p' + 1 < remaining p + 1`.  It never loses a derivation:
  `c01w_curtailed_covers` (cut argument with a phase, Proofs/Cut.lean).  The margin is exactly the `+ 1` of
  combinator/memoize.go: between two counter resets at most ONE LeftTrim moves (afterwards no whitespace is left),
  the first activation after the move may end where the innermost activation before it ends, and that one
  uncuttable repetition is paid by the slack.  Without trims `c k ≤ remaining` always (the slack is never
  used); with trims `c k = remaining + 1` occurs: `P → P 'b' | LeftTrim(P) | ε` on " b" needs it (replayed on
  the Go library with the `+ 1` removed from a scratch copy: Sentence(P) then rejects " b", "  bb", " bbb").

  FINDINGS (all replayed on the Go library; the theorems below carry the scope restrictions that exclude them):
    F1  RightTrim with a REJECTING mode (WsNone / WsSpaces / WsSpacesForceNl) over an operand with several
        alternatives applies the whitespace verdict of the LAST alternative to all of them (`wsErr` in
        text/trim.go is one closure variable, overwritten by every SetReaderPos call of NodeList.SetReaderPos):
        `c01w_F1_loses` (a derivation is lost), `c01w_F1_accepts` (a tree whose whitespace the mode rejects is
        returned).  Scope: `rtrim g m` needs `m = WsSpacesNl` or a one-alternative operand (`OneAlt`).
    F2  LeftTrim with a rejecting mode hands a result that comes with an error at/before the operand's start
        through although the mode rejected the run (`Optional` below it): `c01w_F2_accepts`.  Scope (soundness
        only): `ltrim g m` needs `m = WsSpacesNl` or an `ErrFree` operand.
    (known, D9 family) RightTrim hands a result that comes with an error through UNMOVED: `rtrim g m` needs an
        `ErrFree` operand (`c01w_rtrim_optional_unmoved`).
  `text.Trim` uses WsSpacesNl on both sides: F1 and F2 cannot occur with it; its operand must be `ErrFree`.
-/
import ParsleyVerif.Proofs.C1TSound
import ParsleyVerif.Proofs.C1TCover
import ParsleyVerif.Proofs.C1TComplete
import ParsleyVerif.Proofs.A05Lex
import ParsleyVerif.Props.C01C
namespace PV
open PV.Text PV.C1T

/-- what the completeness theorems ask of a parser: in the fragment with trims (RightTrim over an `ErrFree`
    operand; a rejecting mode only over a token), one parser per `Memoize` index, terminals inside the file -/
structure WScope (cfg : Cfg) (bodyOf : Nat → G) (g : G) : Prop where
  frag : FragW cfg g
  gok : GOK bodyOf g
  terms : TermsW cfg g

/-- what soundness asks: the fragment, one parser per index, LeftTrim with a rejecting mode over `ErrFree` -/
structure WScopeS (cfg : Cfg) (bodyOf : Nat → G) (g : G) : Prop where
  frag : FragW cfg g
  sound : SoundW cfg g
  gok : GOK bodyOf g

/-- what `WScope` and `SoundW` ask at one parser: a closed grammar is checked against both in one walk -/
def ScopeLocalW (cfg : Cfg) (bodyOf : Nat → G) : G → Prop :=
  fun g => FragLocalW cfg g ∧ LocalOK bodyOf g ∧ TermsLocalW cfg g ∧ SoundLocalW cfg g

theorem scopeW_iff_all {cfg : Cfg} {bodyOf : Nat → G} {g : G} :
    WScope cfg bodyOf g ∧ SoundW cfg g ↔ g.All (ScopeLocalW cfg bodyOf) := by
  unfold ScopeLocalW
  rw [G.All_and, G.All_and, G.All_and]
  exact ⟨fun h => ⟨h.1.frag, h.1.gok, h.1.terms, h.2⟩, fun h => ⟨⟨h.1, h.2.1, h.2.2.1⟩, h.2.2.2⟩⟩

/-- LeftTrim: the mode accepts the run at `pos` and the operand derives the tree right after the run -/
theorem c01w_ltrim_meaning (cfg : Cfg) (g : G) (m : WsMode) (pos : Nat) (x : Node)
    (hin : InFile cfg.file pos) (hoff : 1 ≤ cfg.file.offset) :
    DerivesW cfg (.ltrim g m) pos x ↔
      wsOk m (rest cfg.file pos) ∧ DerivesW cfg g (pos + wsRun (rest cfg.file pos)) x := by
  have hs := skipWhitespaces_spec cfg.file pos m hin hoff
  constructor
  · intro h
    cases h with
    | ltrim hws hd =>
      rw [hs] at hws hd
      simp only at hws hd
      refine ⟨?_, hd⟩
      by_cases hok : wsOk m (rest cfg.file pos)
      · exact hok
      · have := wsVerdict_fail m pos (rest cfg.file pos) hok
        rw [hws] at this; simp [wsToErr] at this
  · rintro ⟨hok, hd⟩
    refine .ltrim ?_ ?_
    · rw [hs]; exact wsVerdict_ok m pos _ hok
    · rw [hs]; exact hd

/-- RightTrim: a tree of the operand, the mode accepts the run after it, the reader position moved past it -/
theorem c01w_rtrim_meaning (cfg : Cfg) (g : G) (m : WsMode) (pos : Nat) (y : Node) :
    DerivesW cfg (.rtrim g m) pos y ↔ ∃ x, DerivesW cfg g pos x ∧ movedErr cfg m x = none ∧ y = moved cfg m x := by
  constructor
  · intro h
    cases h with
    | rtrim hd hok => exact ⟨_, hd, hok, rfl⟩
  · rintro ⟨x, hd, hok, rfl⟩
    exact .rtrim hd hok

/-- what `moved` / `movedErr` are, for a tree that ends inside the file (every tree but an EndNode; an
    EmptyNode has no start of its own: it moves as a whole) -/
theorem c01w_moved_spec (cfg : Cfg) (m : WsMode) (x : Node) (hne : NotEof x)
    (hin : InFile cfg.file x.rpos) (hoff : 1 ≤ cfg.file.offset) :
    (movedErr cfg m x = none ↔ wsOk m (rest cfg.file x.rpos)) ∧
    (moved cfg m x).rpos = x.rpos + wsRun (rest cfg.file x.rpos) ∧
    ((∀ p, x ≠ .empty p) → (moved cfg m x).pos = x.pos) ∧ (moved cfg m x).token = x.token := by
  have hs := skipWhitespaces_spec cfg.file x.rpos m hin hoff
  refine ⟨?_, ?_, ?_, moved_token cfg m x⟩
  · rw [movedErr_eq cfg m x hne, hs]
    simp only
    by_cases hok : wsOk m (rest cfg.file x.rpos)
    · rw [wsVerdict_ok m _ _ hok]; simp [wsToErr, hok]
    · rw [wsVerdict_fail m _ _ hok]; simp [hok]
  · rw [moved_rpos cfg m x hne, hs]
  · intro hnem
    cases x with
    | empty p => exact absurd rfl (hnem p)
    | _ => rfl

theorem c01w_refines (cfg : Cfg) (g : G) (pos : Nat) (x : Node) (h : DerivesW cfg g pos x) : Derives cfg g pos x :=
  derives_of_derivesW h

/-- **C01 soundness for the exact trim meaning.**  Every tree `run` returns — from any cache that only holds
    exact derivations, under any context, with any fuel — is an exact derivation: the whitespace before a
    LeftTrim's operand and after a RightTrim's tree is the maximal run, and the mode accepts it. -/
theorem c01w_sound (cfg : Cfg) (bodyOf : Nat → G) (henv : ∀ g' ∈ cfg.env, WScopeS cfg bodyOf g')
    (fuel : Nat) (g : G) (ctx : Ctx) (pos : Nat) (st : St) (o : Out) (st' : St)
    (hs : WScopeS cfg bodyOf g) (hst : CacheS cfg bodyOf st)
    (h : run cfg fuel g ctx pos st = some (o, st')) :
    ∀ x ∈ o.res.alts, DerivesW cfg g pos x :=
  (run_soundW cfg bodyOf (fun g' hg' => ⟨(henv g' hg').frag, (henv g' hg').sound, (henv g' hg').gok⟩) fuel g ctx pos st o st'
    ⟨hs.frag, hs.sound, hs.gok⟩ hst h).1

/-- the cache invariant behind it is preserved, and holds of the empty cache -/
theorem c01w_cache_sound (cfg : Cfg) (bodyOf : Nat → G) (henv : ∀ g' ∈ cfg.env, WScopeS cfg bodyOf g')
    (fuel : Nat) (g : G) (ctx : Ctx) (pos : Nat) (st : St) (o : Out) (st' : St)
    (hs : WScopeS cfg bodyOf g) (hst : CacheS cfg bodyOf st)
    (h : run cfg fuel g ctx pos st = some (o, st')) : CacheS cfg bodyOf st' ∧ CacheS cfg bodyOf {} :=
  ⟨(run_soundW cfg bodyOf (fun g' hg' => ⟨(henv g' hg').frag, (henv g' hg').sound, (henv g' hg').gok⟩) fuel g ctx pos st o st'
    ⟨hs.frag, hs.sound, hs.gok⟩ hst h).2.2, by intro e he; cases he⟩

/-- **(A) with trims: cache reuse, curtailing sets and the trims never lose a curtailed derivation.**
    `run … g ctx pos st` answered `o`; then for EVERY counter function `c'` with `ctx.get k ≤ c' k` on the keys
    of the returned curtailing set every tree with a curtailed derivation under `c'` is among the returned
    alternatives.  (LeftTrim: the operand is run after the whitespace under the SAME context, and
    `DerivesCW.ltrim` derives it there under the SAME counters.) -/
theorem c01w_reuse_complete (cfg : Cfg) (bodyOf : Nat → G) (henv : ∀ g' ∈ cfg.env, FragW cfg g' ∧ GOK bodyOf g')
    (fuel : Nat) (g : G) (ctx : Ctx) (pos : Nat) (st : St) (o : Out) (st' : St)
    (hf : FragW cfg g) (hg : GOK bodyOf g) (hst : C1T.CacheC cfg bodyOf st)
    (h : run cfg fuel g ctx pos st = some (o, st')) :
    ∀ (c' : Nat → Nat) (x : Node), (∀ k ∈ o.cp, ctx.get k ≤ c' k) → DerivesCW cfg c' g pos x → x ∈ o.res.alts :=
  (run_completeW cfg bodyOf henv fuel g ctx pos st o st' hf hg hst h).1

/-- the cache invariant is preserved by every call and holds of the empty cache -/
theorem c01w_cache_complete (cfg : Cfg) (bodyOf : Nat → G) (henv : ∀ g' ∈ cfg.env, FragW cfg g' ∧ GOK bodyOf g')
    (fuel : Nat) (g : G) (ctx : Ctx) (pos : Nat) (st : St) (o : Out) (st' : St)
    (hf : FragW cfg g) (hg : GOK bodyOf g) (hst : C1T.CacheC cfg bodyOf st)
    (h : run cfg fuel g ctx pos st = some (o, st')) :
    C1T.CacheC cfg bodyOf st' ∧ C1T.CacheC cfg bodyOf {} :=
  ⟨(run_completeW cfg bodyOf henv fuel g ctx pos st o st' hf hg hst h).2.2.2, by intro e he; cases he⟩

/-- **(B) with trims: carrying the counters across skipped whitespace never loses an end position.**
    Every end position an exact derivation reaches is reached by a curtailed derivation from the empty
    context — in which every LeftTrim hands its counters to the operand unchanged. -/
theorem c01w_curtailed_covers (cfg : Cfg) (bodyOf : Nat → G) (henv : ∀ g' ∈ cfg.env, WScope cfg bodyOf g')
    (g : G) (hs : WScope cfg bodyOf g) (pos : Nat) (hin : InFile cfg.file pos) (x : Node)
    (h : DerivesW cfg g pos x) : ∃ y, DerivesCW cfg zeroC g pos y ∧ y.rpos = x.rpos :=
  derivesCW_of_derivesW_ends cfg bodyOf (fun g' hg' => ⟨(henv g' hg').gok, (henv g' hg').terms⟩) g ⟨hs.gok, hs.terms⟩
    pos hin x h

/-- **(B), trees**: in an acyclic grammar every exact derivation is a curtailed derivation — the same tree -/
theorem c01w_curtailed_covers_trees (cfg : Cfg) (bodyOf : Nat → G) (henv : ∀ g' ∈ cfg.env, WScope cfg bodyOf g')
    (hac : AcyclicW cfg bodyOf) (g : G) (hs : WScope cfg bodyOf g) (pos : Nat) (hin : InFile cfg.file pos) (x : Node)
    (h : DerivesW cfg g pos x) : DerivesCW cfg zeroC g pos x :=
  derivesCW_of_derivesW_tree cfg bodyOf (fun g' hg' => ⟨(henv g' hg').gok, (henv g' hg').terms⟩) hac g ⟨hs.gok, hs.terms⟩
    pos hin x h

/-- **C01 completeness with trims, end positions.**  Whenever `run` answers — from the empty context, from any
    cache that satisfies the invariant — for every exact derivation of the parser at the call position a tree
    with the same end position is among the returned alternatives. -/
theorem c01w_complete_ends (cfg : Cfg) (bodyOf : Nat → G) (henv : ∀ g' ∈ cfg.env, WScope cfg bodyOf g')
    (g : G) (hs : WScope cfg bodyOf g) (fuel : Nat) (pos : Nat) (hin : InFile cfg.file pos)
    (st : St) (hst : C1T.CacheC cfg bodyOf st) (o : Out) (st' : St)
    (h : run cfg fuel g [] pos st = some (o, st')) :
    ∀ x, DerivesW cfg g pos x → ∃ y ∈ o.res.alts, y.rpos = x.rpos :=
  Covers.complete_ends (c01w_reuse_complete cfg bodyOf (fun g' hg' => ⟨(henv g' hg').frag, (henv g' hg').gok⟩) fuel g []
    pos st o st' hs.frag hs.gok hst h) (c01w_curtailed_covers cfg bodyOf henv g hs pos hin)

/-- **C01 completeness with trims, trees.**  In an acyclic grammar every exact derivation — every distinct
    tree — is among the returned alternatives. -/
theorem c01w_complete_trees (cfg : Cfg) (bodyOf : Nat → G) (henv : ∀ g' ∈ cfg.env, WScope cfg bodyOf g')
    (hac : AcyclicW cfg bodyOf)
    (g : G) (hs : WScope cfg bodyOf g) (fuel : Nat) (pos : Nat) (hin : InFile cfg.file pos)
    (st : St) (hst : C1T.CacheC cfg bodyOf st) (o : Out) (st' : St)
    (h : run cfg fuel g [] pos st = some (o, st')) :
    ∀ x, DerivesW cfg g pos x → x ∈ o.res.alts := fun x hx =>
  Covers.zero (c01w_reuse_complete cfg bodyOf (fun g' hg' => ⟨(henv g' hg').frag, (henv g' hg').gok⟩) fuel g [] pos st
    o st' hs.frag hs.gok hst h) (c01w_curtailed_covers_trees cfg bodyOf henv hac g hs pos hin x hx)

/-- soundness and completeness together: from a fresh context the returned END POSITIONS are exactly the end
    positions of the exact derivations -/
theorem c01w_ends_exact (cfg : Cfg) (bodyOf : Nat → G)
    (henv : ∀ g' ∈ cfg.env, WScope cfg bodyOf g' ∧ SoundW cfg g')
    (g : G) (hs : WScope cfg bodyOf g) (hss : SoundW cfg g) (fuel : Nat) (pos : Nat) (hin : InFile cfg.file pos)
    (o : Out) (st' : St) (h : run cfg fuel g [] pos {} = some (o, st')) (e : Nat) :
    (∃ x, DerivesW cfg g pos x ∧ x.rpos = e) ↔ e ∈ o.res.alts.map Node.rpos :=
  Covers.ends_exact (c01w_reuse_complete cfg bodyOf (fun g' hg' => ⟨(henv g' hg').1.frag, (henv g' hg').1.gok⟩) fuel g []
      pos {} o st' hs.frag hs.gok (fun _ he => nomatch he) h)
    (c01w_curtailed_covers cfg bodyOf (fun g' hg' => (henv g' hg').1) g hs pos hin)
    (c01w_sound cfg bodyOf (fun g' hg' => ⟨(henv g' hg').1.frag, (henv g' hg').2, (henv g' hg').1.gok⟩) fuel g [] pos {}
      o st' ⟨hs.frag, hss, hs.gok⟩ (fun _ he => nomatch he) h) e

/-- and in an acyclic grammar the returned TREES are exactly the exact derivations -/
theorem c01w_trees_exact (cfg : Cfg) (bodyOf : Nat → G)
    (henv : ∀ g' ∈ cfg.env, WScope cfg bodyOf g' ∧ SoundW cfg g') (hac : AcyclicW cfg bodyOf)
    (g : G) (hs : WScope cfg bodyOf g) (hss : SoundW cfg g) (fuel : Nat) (pos : Nat) (hin : InFile cfg.file pos)
    (o : Out) (st' : St) (h : run cfg fuel g [] pos {} = some (o, st')) (x : Node) :
    DerivesW cfg g pos x ↔ x ∈ o.res.alts :=
  ⟨c01w_complete_trees cfg bodyOf (fun g' hg' => (henv g' hg').1) hac g hs fuel pos hin {} (fun _ he => nomatch he) o st' h x,
   c01w_sound cfg bodyOf (fun g' hg' => ⟨(henv g' hg').1.frag, (henv g' hg').2, (henv g' hg').1.gok⟩) fuel g [] pos {} o st'
    ⟨hs.frag, hss, hs.gok⟩ (fun _ he => nomatch he) h x⟩

/-- **Sentence succeeds if some exact derivation of the operand consumes the entire input** — whenever it
    answers (termination with trims is Props/C02U.lean). -/
theorem c01w_sentence_complete (cfg : Cfg) (bodyOf : Nat → G) (henv : ∀ g' ∈ cfg.env, WScope cfg bodyOf g')
    (g : G) (hs : WScope cfg bodyOf g) (fuel : Nat) (pos : Nat) (hin : InFile cfg.file pos)
    (st : St) (hst : C1T.CacheC cfg bodyOf st) (o : Out) (st' : St)
    (h : run cfg fuel (G.sentence g) [] pos st = some (o, st'))
    (hex : ∃ x, DerivesW cfg g pos x ∧ x.rpos = cfg.hi) : o.res.alts ≠ [] ∧ o.err = none := by
  obtain ⟨x, hx, he⟩ := hex
  obtain ⟨y, hy, hye⟩ := c01w_curtailed_covers cfg bodyOf henv g hs pos hin x hx
  exact sentence_completeW cfg bodyOf (fun g' hg' => ⟨(henv g' hg').frag, (henv g' hg').gok⟩) g hs.frag hs.gok fuel pos st hst
    o st' h y hy (by rw [hye, he]; exact isEOF_hi cfg)

/-- the same for `parsley.Parse(Sentence g)` from a fresh context -/
theorem c01w_sentence_complete_parse (cfg : Cfg) (bodyOf : Nat → G) (henv : ∀ g' ∈ cfg.env, WScope cfg bodyOf g')
    (g : G) (hs : WScope cfg bodyOf g) (fuel : Nat) (p : ParseOut)
    (h : parse cfg fuel (G.sentence g) = some p)
    (hex : ∃ x, DerivesW cfg g (cfg.file.pos 0) x ∧ x.rpos = cfg.hi) : p.err = none ∧ p.res.alts ≠ [] :=
  parse_of_run h fun o st1 hr =>
    c01w_sentence_complete cfg bodyOf henv g hs fuel _ (c01_pre_initial cfg).1 {} (fun _ he => nomatch he) o st1 hr hex

end PV
namespace PV.C1TNV
open PV PV.Text PV.C1T

theorem c1t_fragLocalW_rune (cfg : Cfg) (ch : Nat) (name : Bytes) (h : Utf8.encodeRune ch ≠ eofTok) :
    FragLocalW cfg (.term (.rune ch name)) := fragLocal_rune cfg ch name h

theorem c1t_fragLocalW_integer (cfg : Cfg) : FragLocalW cfg (.term .integer) := by
  intro pos n hn
  simp only [Terminal.parse] at hn
  split at hn
  · cases hn
  · split at hn
    · cases hn
    · simp [nf] at hn
    · split at hn
      · simp [other] at hn
      · injection hn with hn; subst hn; simp only [Node.token]; decide +kernel
  · simp [nf] at hn

theorem c1t_termGood_integer (cfg : Cfg) : TermGood cfg .integer := by
  intro pos hin
  constructor
  · intro n hn
    obtain ⟨b, _, _, v, k, hk0, hk, rfl⟩ := PV.A05.integer_node_head cfg.params cfg.file pos n hin hn
    have hlen := rest_length cfg.file pos hin
    refine ⟨rfl, ?_⟩
    simp only [Node.WF]
    unfold Cfg.hi
    have := hin.1
    omega
  · intro e he
    have hhi : pos ≤ cfg.hi := hin.2
    rcases (c08_integer_err cfg.params cfg.file pos e hin).mp he with ⟨rfl, _⟩ | ⟨rfl, _⟩
    · exact ⟨Nat.le_refl _, hhi⟩
    · exact ⟨Nat.le_refl _, hhi⟩

/-- `text.Trim` of a terminal is in scope (completeness and soundness) whenever the terminal is -/
theorem c1t_scope_trim_term (cfg : Cfg) (bodyOf : Nat → G) (t : Terminal) (h1 : FragLocalW cfg (.term t))
    (h2 : TermGood cfg t) : WScope cfg bodyOf (G.trim (.term t)) ∧ SoundW cfg (G.trim (.term t)) := by
  simp only [scopeW_iff_all, G.trim, G.All, ScopeLocalW, FragLocalW, LocalOK, TermsLocalW, SoundLocalW, ErrFree, true_or,
    and_true, true_and]
  exact ⟨h1, h2⟩

theorem c1t_root (cfg : Cfg) (bodyOf : Nat → G) (k : Nat) : WScope cfg bodyOf (.ref k) ∧ SoundW cfg (.ref k) :=
  scopeW_iff_all.mpr ⟨trivial, trivial, trivial, trivial⟩

theorem derivesW_rune_rpos (cfg : Cfg) (ch : Nat) (name : Bytes) (hc : ch < 0x80) (pos : Nat) (hin : InFile cfg.file pos)
    (m : Node) (h : DerivesW cfg (.term (.rune ch name)) pos m) : m.rpos = pos + 1 ∧ NotEof m := by
  cases h with
  | term hp =>
    refine ⟨rune_node_rpos cfg ch name hc pos hin m hp, ?_⟩
    obtain ⟨tok, v, r, rfl⟩ := Terminal.parse_node _ _ _ _ _ hp
    intro p hp'; cases hp'

def c1tCfg (env : List G) (d : Bytes) : Cfg :=
  { env := env, file := { name := "f", data := d, offset := 1 }, fileSet := {},
    params := { floatOk := fun _ => true, durErr := fun _ => none, regexp := fun _ _ => none } }

def c1tA : G := .term (.rune 97 [34, 97, 34])
def c1tB : G := .term (.rune 98 [34, 98, 34])

/-! ### FINDING F1: RightTrim with a rejecting mode over several alternatives
    `RightTrim(Any('a', SeqOf('a','b')), WsNone)` and the same with the alternatives swapped, on "ab c".
    Go replay: `SeqOf(RightTrim(Any(a, SeqOf(a,b)), WsNone), b, LeftTrim(c, WsSpacesNl))` under `Sentence` on
    "ab c" fails with "whitespaces are not allowed at f:1:3" although the same grammar with `RightTrim(a, WsNone)`
    parses it; `SeqOf(RightTrim(Any(SeqOf(a,b), a), WsNone), c)` under `Sentence` ACCEPTS "ab c" although
    `SeqOf(RightTrim(SeqOf(a,b), WsNone), c)` rejects it. -/

def f1Cfg : Cfg := c1tCfg [] [97, 98, 32, 99]
def f1Loses : G := .rtrim (.any [c1tA, .seq .seqOf [c1tA, c1tB] {}]) .none
def f1Accepts : G := .rtrim (.any [.seq .seqOf [c1tA, c1tB] {}, c1tA]) .none

end PV.C1TNV
namespace PV
open PV.Text PV.C1T PV.C1TNV

/-- a derivation is lost: `'a'` at 1 is followed by `b` (no whitespace: WsNone accepts), so RightTrim derives it;
    but the LAST alternative `ab` is followed by a blank, and its verdict empties the whole result -/
theorem c01w_F1_loses :
    DerivesW f1Cfg f1Loses 1 (.term [97] (.rune 97) 1 2) ∧
    (run f1Cfg 20 f1Loses [] 1 {}).map (fun r => (r.1.res.alts.length, r.1.err.map (·.pos))) = some (0, some 3) := by
  refine ⟨?_, by decide⟩
  have h : DerivesW f1Cfg f1Loses 1 (moved f1Cfg .none (.term [97] (.rune 97) 1 2)) :=
    .rtrim (.any (g := c1tA) (by simp [c1tA]) (.term rfl)) (by decide)
  exact h

end PV
namespace PV.C1TNV
open PV PV.Text PV.C1T

/-- every exact derivation of the swapped grammar on "ab c" ends at 2 (`ab` is followed by a blank) -/
theorem f1Accepts_ends (x : Node) (h : DerivesW f1Cfg f1Accepts 1 x) : x.rpos = 2 := by
  have hin : ∀ p, 1 ≤ p → p ≤ 5 → InFile f1Cfg.file p := fun p h1 h2 => ⟨h1, h2⟩
  cases h with
  | rtrim hd hok =>
    rename_i y
    have hy : (y.rpos = 2 ∨ y.rpos = 3) ∧ NotEof y := by
      cases hd with
      | any hm hd' =>
        simp only [List.mem_cons, List.not_mem_nil, or_false] at hm
        rcases hm with rfl | rfl
        · cases hd' with
          | seqOf hs hds hl =>
            rename_i sh nodes
            simp only [G.shape, Option.some.injEq] at hs
            subst hs
            simp only [List.length_cons, List.length_nil, beq_iff_eq] at hl
            cases hds with
            | nil => simp at hl
            | cons hl0 hd0 hds1 =>
              simp only [List.getElem?_cons_zero, Option.some.injEq] at hl0
              subst hl0
              obtain ⟨h0, e0⟩ := derivesW_rune_rpos f1Cfg 97 _ (by decide) 1 (hin 1 (by omega) (by omega)) _ hd0
              cases hds1 with
              | nil => simp at hl
              | cons hl1 hd1 hds2 =>
                simp only [Nat.zero_add, List.getElem?_cons_succ, List.getElem?_cons_zero, Option.some.injEq] at hl1
                subst hl1
                rw [h0] at hd1
                obtain ⟨h1, e1⟩ := derivesW_rune_rpos f1Cfg 98 _ (by decide) 2 (hin 2 (by omega) (by omega)) _ hd1
                cases hds2 with
                | nil =>
                  refine ⟨.inr ?_, handleResult_notEof _ _ _ ?_⟩
                  · rw [handleResult_rpos]; simp [endOf, h1]
                  · intro n hn
                    simp only [List.mem_cons, List.not_mem_nil, or_false] at hn
                    rcases hn with rfl | rfl
                    · exact e0
                    · exact e1
                | cons hl2 _ _ => simp at hl2
        · obtain ⟨h0, e0⟩ := derivesW_rune_rpos f1Cfg 97 _ (by decide) 1 (hin 1 (by omega) (by omega)) _ hd'
          exact ⟨.inl h0, e0⟩
    obtain ⟨hy1, hy2⟩ := hy
    rw [movedErr_eq f1Cfg .none y hy2] at hok
    rw [moved_rpos f1Cfg .none y hy2]
    rcases hy1 with h2 | h3
    · rw [h2]; decide
    · rw [h3] at hok; exfalso; revert hok; decide

end PV.C1TNV
namespace PV
open PV.Text PV.C1T PV.C1TNV

/-- a tree is returned that no exact derivation produces: `ab` with its end moved over the blank, although the
    mode is WsNone — because the last alternative `a` is followed by no whitespace -/
theorem c01w_F1_accepts :
    (run f1Cfg 20 f1Accepts [] 1 {}).map (fun r => (r.1.res.alts.map Node.rpos, r.1.err.isNone)) = some ([4, 2], true) ∧
    ∀ x, DerivesW f1Cfg f1Accepts 1 x → x.rpos ≠ 4 := by
  refine ⟨by decide, ?_⟩
  intro x hx
  rw [f1Accepts_ends x hx]; decide

end PV
namespace PV.C1TNV
open PV PV.Text PV.C1T

/-! ### FINDING F2: LeftTrim with a rejecting mode over `Optional`
    `LeftTrim(Optional('a'), WsNone)` on " b".  Go replay: `SeqOf(LeftTrim(Optional(a), WsNone), b)` under
    `Sentence` ACCEPTS " b". -/

def f2Cfg : Cfg := c1tCfg [] [32, 98]
def f2G : G := .ltrim (.optional c1tA) .none

end PV.C1TNV
namespace PV
open PV.Text PV.C1T PV.C1TNV

theorem c01w_F2_accepts :
    (run f2Cfg 20 f2G [] 1 {}).map (fun r => (r.1.res.alts.map Node.rpos, r.1.err.isSome)) = some ([2], true) ∧
    (run f2Cfg 20 (.seq .seqOf [f2G, c1tB] {}) [] 1 {}).map (fun r => (r.1.res.alts.map Node.rpos, r.1.err.isNone)) = some ([3], true) ∧
    ∀ x, ¬ DerivesW f2Cfg f2G 1 x := by
  refine ⟨by decide, by decide, ?_⟩
  intro x hx
  cases hx with
  | ltrim hws _ => revert hws; decide

end PV
namespace PV.C1TNV
open PV PV.Text PV.C1T

/-! ### (D9 family) RightTrim hands a result that comes with an error through unmoved
    `RightTrim(Optional('a'), WsSpacesNl)` on " b": the exact derivation is the EmptyNode moved to 2; the
    library returns the EmptyNode at 1.  This is why the operand of a RightTrim must be `ErrFree`. -/

def f3G : G := .rtrim (.optional c1tA) .spacesNl

end PV.C1TNV
namespace PV
open PV.Text PV.C1T PV.C1TNV

theorem c01w_rtrim_optional_unmoved :
    DerivesW f2Cfg f3G 1 (.empty 2) ∧
    (run f2Cfg 20 f3G [] 1 {}).map (fun r => r.1.res.alts.map Node.rpos) = some [1] := by
  refine ⟨?_, by decide⟩
  have h : DerivesW f2Cfg f3G 1 (moved f2Cfg .spacesNl (.empty 1)) := .rtrim .optNone (by decide)
  exact h

end PV
namespace PV.C1TNV
open PV PV.Text PV.C1T

/-! ### non-vacuity 1: left recursion THROUGH a LeftTrim  `P → LeftTrim(P) 'b' | 'a'`  (memoized) on "  abb"
    The recursive call is entered across two skipped blanks with the counters of position 1. -/

def ltBody : G := .any [.seq .seqOf [.ltrim (.ref 0) .spacesNl, c1tB] {}, c1tA]
def ltCfg : Cfg := c1tCfg [.memo 0 ltBody] [32, 32, 97, 98, 98]

/-- the scope conditions speak of the rule only: they hold for every input -/
theorem lt_scope_of (cfg : Cfg) (henv : cfg.env = [.memo 0 ltBody]) :
    ∀ g' ∈ cfg.env, WScope cfg (fun _ => ltBody) g' ∧ SoundW cfg g' := by
  simp only [henv, List.forall_mem_singleton, scopeW_iff_all, ltBody, c1tA, c1tB, G.All, AllList, ScopeLocalW, FragLocalW,
    LocalOK, TermsLocalW, SoundLocalW, true_or, and_true, true_and]
  exact ⟨⟨by decide, fragLocal_rune _ _ _ (by decide), termGood_all _ _⟩, fragLocal_rune _ _ _ (by decide), termGood_all _ _⟩

theorem lt_scope : ∀ g' ∈ ltCfg.env, WScope ltCfg (fun _ => ltBody) g' ∧ SoundW ltCfg g' := lt_scope_of ltCfg rfl

/-- the ends theorem, instantiated: the exact derivations of `P` on "  abb" end at 5 or 6 and nowhere else -/
theorem lt_ends : ∀ e, (∃ x, DerivesW ltCfg (.ref 0) 1 x ∧ x.rpos = e) ↔ e ∈ [6, 5] := by
  intro e
  obtain ⟨o, st', hrun, hl⟩ := ends_of_eval (cfg := ltCfg) (fuel := 60) (g := .ref 0) (pos := 1) (l := [6, 5]) (by decide +kernel)
  rw [← hl]
  exact c01w_ends_exact ltCfg (fun _ => ltBody) lt_scope (.ref 0) (c1t_root _ _ 0).1 (c1t_root ltCfg (fun _ => ltBody) 0).2 60 1
    ⟨by decide, by decide⟩ o st' hrun e

def ltA : Node := .term [97] (.rune 97) 3 4
def ltAB : Node := .nt seqTok [ltA, .term [98] (.rune 98) 4 5] 3 5 .none
def ltABB : Node := .nt seqTok [ltAB, .term [98] (.rune 98) 5 6] 3 6 .none

/-- a concrete exact derivation: "  abb" as `((a b) b)`, the inner `P` reached across the two blanks -/
theorem lt_derives : DerivesW ltCfg (.ref 0) 1 ltABB := by
  have hA3 : DerivesW ltCfg (.ref 0) 3 ltA :=
    .ref (g := .memo 0 ltBody) rfl (.memo (.any (g := c1tA) (by simp [c1tA]) (.term rfl)))
  have hAB3 : DerivesW ltCfg (.ref 0) 3 ltAB := by
    refine .ref (g := .memo 0 ltBody) rfl (.memo (.any (g := .seq .seqOf [.ltrim (.ref 0) .spacesNl, c1tB] {}) (by simp) ?_))
    have := DerivesW.seqOf (cfg := ltCfg) (gs := [.ltrim (.ref 0) .spacesNl, c1tB]) (o := {}) (pos := 3)
      (nodes := [ltA, .term [98] (.rune 98) 4 5]) rfl
      (.cons rfl (.ltrim (m := .spacesNl) (by decide) hA3) (.cons rfl (.term rfl) .nil)) rfl
    exact this
  refine .ref (g := .memo 0 ltBody) rfl (.memo (.any (g := .seq .seqOf [.ltrim (.ref 0) .spacesNl, c1tB] {}) (by simp) ?_))
  have := DerivesW.seqOf (cfg := ltCfg) (gs := [.ltrim (.ref 0) .spacesNl, c1tB]) (o := {}) (pos := 1)
    (nodes := [ltAB, .term [98] (.rune 98) 5 6]) rfl
    (.cons rfl (.ltrim (m := .spacesNl) (by decide) hAB3) (.cons rfl (.term rfl) .nil)) rfl
  exact this

/-- `P → LeftTrim(P) 'b' | 'a'` is acyclic: a nested `P` with the same start is followed by the `b` -/
theorem lt_acyclic : AcyclicW ltCfg (fun _ => ltBody) :=
  acyclicW_of_guards _ _ (fun g' hg' => ⟨(lt_scope g' hg').1.gok, (lt_scope g' hg').1.terms⟩) fun _ =>
    have hs := (lt_scope _ (List.mem_singleton_self _)).1
    ⟨⟨hs.gok.kid (.head _), hs.terms.kid (.head _)⟩, 2, rfl⟩

/-- the trees theorem, instantiated: whenever the model answers, the trees it returns for `P` on "  abb" are
    exactly the exact derivations — in particular `((a b) b)` is returned -/
theorem lt_trees (fuel : Nat) (o : Out) (st' : St) (h : run ltCfg fuel (.ref 0) [] 1 {} = some (o, st')) :
    (∀ x, DerivesW ltCfg (.ref 0) 1 x ↔ x ∈ o.res.alts) ∧ ltABB ∈ o.res.alts := by
  have key := c01w_trees_exact ltCfg (fun _ => ltBody) lt_scope lt_acyclic (.ref 0) (c1t_root _ _ 0).1
    (c1t_root ltCfg (fun _ => ltBody) 0).2 fuel 1 ⟨by decide, by decide⟩ o st' h
  exact ⟨key, (key ltABB).mp lt_derives⟩

/-- through the wrapper: "  abb" is a sentence of `P` -/
theorem lt_sentence (fuel : Nat) (p : ParseOut) (h : parse ltCfg fuel (G.sentence (.ref 0)) = some p) :
    p.err = none ∧ p.res.alts ≠ [] :=
  c01w_sentence_complete_parse ltCfg (fun _ => ltBody) (fun g' hg' => (lt_scope g' hg').1) (.ref 0) (c1t_root _ _ 0).1 fuel p h
    ⟨ltABB, lt_derives, rfl⟩

example : (parse ltCfg 60 (G.sentence (.ref 0))).map (fun p => (p.err.isNone, p.res.alts.map Node.rpos)) = some (true, [6]) := by
  decide +kernel

/-! ### non-vacuity 2: the arithmetic grammar (examples/…, Spec/Arith.lean) — every token under `text.Trim` —
    on an input with blanks, "1 + 2 " -/

/-- the arithmetic grammar is in scope, for every input -/
theorem arith_scopeW (cfg : Cfg) (henv : cfg.env = Garith.env) :
    ∀ g' ∈ cfg.env, WScope cfg Garith.bodyOf g' ∧ SoundW cfg g' := by
  have r : ∀ c, Utf8.encodeRune c ≠ eofTok → (Garith.trim (Garith.rn c)).All (ScopeLocalW cfg Garith.bodyOf) :=
    fun c hc => scopeW_iff_all.mp (c1t_scope_trim_term cfg _ _ (c1t_fragLocalW_rune cfg c _ hc) (termGood_all cfg _))
  have ri : (Garith.trim (.term .integer)).All (ScopeLocalW cfg Garith.bodyOf) :=
    scopeW_iff_all.mp (c1t_scope_trim_term cfg _ _ (c1t_fragLocalW_integer cfg) (c1t_termGood_integer cfg))
  -- one walk over the three rules leaves the tokens of their SeqOfs and the trimmed terminals
  simp only [henv, Garith.env, List.forall_mem_cons, List.not_mem_nil, false_imp_iff, implies_true, scopeW_iff_all,
    Garith.expr, Garith.exprBody, Garith.exprSeq, Garith.addop, Garith.term, Garith.termBody, Garith.termSeq, Garith.mulop,
    Garith.factor, Garith.parenSeq, Garith.bin, Garith.sel1, Garith.bodyOf, G.All, AllList, ScopeLocalW, FragLocalW, LocalOK,
    TermsLocalW, SoundLocalW, and_true, true_and]
  exact ⟨⟨by decide, r 43 (by decide), r 45 (by decide)⟩, ⟨by decide, r 42 (by decide), r 47 (by decide)⟩,
    ri, by decide, r 40 (by decide), r 41 (by decide)⟩

def arCfg : Cfg := c1tCfg Garith.env [49, 32, 43, 32, 50, 32]

def arInt (v : Int) (p r : Nat) : Node := .term (tokOf "INTEGER") (.int v) p r
/-- `1 + 2 ` as the library builds it: every leaf's reader position is past the blanks after it -/
def arTree : Node := .nt seqTok [arInt 1 1 3, .term [43] (.rune 43) 3 5, arInt 2 5 7] 1 7 (.custom 0)

theorem ar_trim_int (pos : Nat) (v : Int) (r r' : Nat)
    (h0 : skipWhitespaces arCfg.file pos .spacesNl = (pos, none))
    (h1 : Terminal.parse arCfg.params arCfg.file .integer pos = .node (arInt v pos r))
    (h2 : moved arCfg .spacesNl (arInt v pos r) = arInt v pos r') :
    DerivesW arCfg (Garith.trim (.term .integer)) pos (arInt v pos r') := by
  rw [← h2]
  refine .rtrim (.ltrim (by rw [h0]) ?_) (movedErr_spacesNl _ _)
  rw [h0]; exact .term h1

/-- a concrete exact derivation of the arithmetic grammar on "1 + 2 ": blanks after every token -/
theorem ar_derives : DerivesW arCfg (.ref 0) 1 arTree := by
  -- factor / term / expr on a single integer
  have hF : ∀ pos v r r', skipWhitespaces arCfg.file pos .spacesNl = (pos, none) →
      Terminal.parse arCfg.params arCfg.file .integer pos = .node (arInt v pos r) →
      moved arCfg .spacesNl (arInt v pos r) = arInt v pos r' →
      DerivesW arCfg (.ref 1) pos (arInt v pos r') := by
    intro pos v r r' h0 h1 h2
    have hf : DerivesW arCfg (.ref 2) pos (arInt v pos r') :=
      .ref (g := Garith.factor) rfl (.any (g := Garith.trim (.term .integer)) (by simp) (ar_trim_int pos v r r' h0 h1 h2))
    exact .ref (g := Garith.term) rfl (.memo (.any (g := .ref 2) (by simp) hf))
  have h1 : DerivesW arCfg (.ref 0) 1 (arInt 1 1 3) :=
    .ref (g := Garith.expr) rfl (.memo (.any (g := .ref 1) (by simp) (hF 1 1 2 3 (by decide) rfl rfl)))
  have hop : DerivesW arCfg Garith.addop 3 (.term [43] (.rune 43) 3 5) := by
    refine .any (g := Garith.trim (Garith.rn 43)) (by simp) ?_
    have : DerivesW arCfg (Garith.trim (Garith.rn 43)) 3 (moved arCfg .spacesNl (.term [43] (.rune 43) 3 4)) := by
      refine .rtrim (.ltrim (by decide) ?_) (movedErr_spacesNl _ _)
      have h0 : skipWhitespaces arCfg.file 3 .spacesNl = (3, none) := by decide
      rw [h0]; exact .term rfl
    exact this
  have h2 : DerivesW arCfg (.ref 1) 5 (arInt 2 5 7) := hF 5 2 6 7 (by decide) rfl rfl
  refine .ref (g := Garith.expr) rfl (.memo (.any (g := Garith.exprSeq) (by simp) ?_))
  have := DerivesW.seqOf (cfg := arCfg) (gs := [.ref 0, Garith.addop, .ref 1]) (o := Garith.bin) (pos := 1)
    (nodes := [arInt 1 1 3, .term [43] (.rune 43) 3 5, arInt 2 5 7]) rfl
    (.cons rfl h1 (.cons rfl hop (.cons rfl h2 .nil))) rfl
  exact this

/-- the ends theorem on the arithmetic grammar with blanks: whenever the model answers, it returns a tree for
    "1 + 2 " (the whole input, end 7) — and for every other end some exact derivation reaches, and only those -/
theorem ar_ends (fuel : Nat) (o : Out) (st' : St) (h : run arCfg fuel (.ref 0) [] 1 {} = some (o, st')) :
    (∀ e, (∃ x, DerivesW arCfg (.ref 0) 1 x ∧ x.rpos = e) ↔ e ∈ o.res.alts.map Node.rpos) ∧
    7 ∈ o.res.alts.map Node.rpos := by
  have key := c01w_ends_exact arCfg Garith.bodyOf (arith_scopeW arCfg rfl) (.ref 0) (c1t_root _ _ 0).1
    (c1t_root arCfg Garith.bodyOf 0).2 fuel 1 ⟨by decide, by decide⟩ o st' h
  exact ⟨key, (key 7).mp ⟨arTree, ar_derives, rfl⟩⟩

/-- through the wrapper: `Parse(Sentence(expr))` accepts "1 + 2 " whenever it answers -/
theorem ar_sentence (fuel : Nat) (p : ParseOut) (h : parse arCfg fuel Garith.root = some p) :
    p.err = none ∧ p.res.alts ≠ [] :=
  c01w_sentence_complete_parse arCfg Garith.bodyOf (fun g' hg' => (arith_scopeW arCfg rfl g' hg').1) (.ref 0)
    (c1t_root _ _ 0).1 fuel p h ⟨arTree, ar_derives, rfl⟩

end PV.C1TNV
