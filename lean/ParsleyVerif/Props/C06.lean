/-
  C06 — Parse errors point at the furthest failure and render a real line:column.

  Model: ParsleyVerif/Model/Run.lean.  The ghost log `St.log` (never read by modelled code; `cfg.ghost =
  true`) receives `Ev.termFail pos kind` exactly when a terminal or End was tried at `pos` and did not
  match.  Error values live in: the returned `Out.err`, a Sequence object's `SeqSt.err`, Any / Choice's
  `AltSt.err` / `AltSt.nf`, the context error `St.ctxErr`, a cached `CacheEntry.err`; `parse` picks between
  the returned error and the context error and renders it through the file set.
  Invariant proofs (induction on fuel over all cases of `run`, positional facts from Proofs/RunPos.lean):
  Proofs/RunErr.lean (`run_err`: where error values come from, parametric in the error predicate) and
  Proofs/RunLow.lean + Proofs/RunLowRun.lean (`run_low`: no terminal failure is lost); the names of a grammar
  as lists: Proofs/GrammarNames.lean.

  PROVED, for every grammar over the combinator set without whitespace trims (direct / indirect / hidden
  left recursion, memoized nonterminals, cyclic and nullable rules, named or unnamed alternatives), every
  file, every left-recursion context, every fuel, every reachable cache state:

  UPPER BOUND / "an expectation that really failed there"
  * `c06_provenance`           every error value anywhere (returned, context error, cached) is `ErrOK`:
                               (a) exactly a logged terminal failure — same position, same expectation; or
                               (b) "was expecting <nm>" for a name `nm` of the grammar, at a position where
                                   a terminal failure is logged (the Name re-labelled it), or
                               (c) "was expecting <nm>" at a position where the body of a Name of the grammar
                                   returned neither a result nor an error (`PureFail`: failure by
                                   curtailment / emptiness only — the D8 shape);
                               (d) a panic, only if the grammar can panic at all (`AP`; `False` by C08).
  * `c06_upper_named(_parse,_sentence,_canonical)`
                               hence: position ≤ furthest failing terminal, OR shape (c).  `_canonical`: the
                               name relations are computed from the grammar (`NameOf`, `LabelOf`).
  * `c06_upper_unnamed(_parse,_sentence)`
                               no `Name`, no named Sequence: every error is EXACTLY a logged terminal
                               failure (position ≤ furthest failing terminal, and the expectation really
                               failed there); `parse` reports such an error or — when there is no error
                               value at all — the synthesised "no match was found" at the start of input.
  * `c06_upper_needs_productive`  D8, by evaluation: with an unproductive named nonterminal the reported
                               position is BEYOND every terminal failure, although all hypotheses of
                               `c06_upper_named_sentence` hold — so shape (c) cannot be dropped without a
                               productivity hypothesis (recorded known finding D8).  `c06_d8_is_pure_fail`:
                               and it is exactly shape (c).

  LOWER BOUND / EXACTNESS
  * `c06_lower_run`, `c06_lower_parse`
                               every terminal failure of a failing parse is at or before the reported
                               position, unless a memoized parser was curtailed at or after it (`LocLow`: no
                               SuppressError, no Any / Choice / SeqTry without parsers, no token "EOF").
  * `c06_exact_partial`        unnamed grammars: when nothing was curtailed at or beyond the furthest failing
                               terminal (`NoCurtailBeyond`, decidable on the log; every run that never
                               curtails), the reported position EQUALS the furthest failing terminal and the
                               reported expectation failed there.  No Name is needed (fix D3).
  * `c06_exact_partial_named`  named grammars: never BEFORE the furthest failing terminal; equal unless
                               shape (c).
  * `c06_exact_needs_no_suppress`  by evaluation: `SuppressError` discards the furthest failure, the reported
                               position is BEFORE the furthest failing terminal (by design of that
                               combinator; hence its exclusion in `LocLow`).

  `parse` AND THE TEXT
  * `parse_err_cases`, `c06_parse_prefers_further`, `c06_parse_no_returned_error`   how `parse` chooses
                               (strict `>`: ties keep the returned error).
  * `c06_text`                 the text is "failed to parse the input: <expectation> at <file>:<line>:<col>"
                               with (line, col) = C11's `lineCol` of the error's offset in the parsed file.
  * (the source conditions the model transcribes are tied by translation: Props/C01P.lean)

  NOT here: the upper bound for named grammars without shape (c), and exactness without the side condition on
  curtailment.  Both need a productivity certificate and are proved in Props/C06P.lean (`c06_upper_productive`,
  `c06_exact_productive`); "every nonterminal derives a string" is not enough for them (`c06_d12_cfg_productive_not_enough`).
-/
import ParsleyVerif.Proofs.RunErr
import ParsleyVerif.Proofs.Sentence
import ParsleyVerif.Proofs.GrammarNames
import ParsleyVerif.Proofs.RunLowRun
import ParsleyVerif.Props.C01
import ParsleyVerif.Props.C08
import ParsleyVerif.Props.C11
import ParsleyVerif.Generated.Facts
namespace PV
open PV.Text

/-- the error is exactly a logged failure: a terminal / End was tried at `e.pos`, did not match, and `e.kind`
    is the expectation it reported -/
def TF (log : List Ev) (e : Err) : Prop := Ev.termFail e.pos e.kind ∈ log

def TFat (log : List Ev) (p : Nat) : Prop := ∃ k, Ev.termFail p k ∈ log

def termFailPositions : List Ev → List Nat
  | [] => []
  | .termFail p _ :: r => p :: termFailPositions r
  | _ :: r => termFailPositions r

/-- the furthest position at which a terminal / End was tried and did not match (0 when there is none) -/
def maxTermFail (log : List Ev) : Nat := (termFailPositions log).foldr max 0

theorem le_maxTermFail {log : List Ev} {p : Nat} {k : ErrKind} (h : Ev.termFail p k ∈ log) :
    p ≤ maxTermFail log := by
  induction log with
  | nil => cases h
  | cons ev log ih =>
    cases h with
    | head =>
      simp only [maxTermFail, termFailPositions, List.foldr_cons]
      exact Nat.le_max_left _ _
    | tail _ hm =>
      have := ih hm
      cases ev <;> simp only [maxTermFail, termFailPositions, List.foldr_cons] at this ⊢
      · exact Nat.le_trans this (Nat.le_max_right _ _)
      all_goals exact this

theorem maxTermFail_attained (log : List Ev) : maxTermFail log = 0 ∨ TFat log (maxTermFail log) := by
  induction log with
  | nil => exact .inl rfl
  | cons ev log ih =>
    have hmono : ∀ p, TFat log p → TFat (ev :: log) p := fun p ⟨k, hk⟩ => ⟨k, List.mem_cons_of_mem _ hk⟩
    cases ev with
    | termFail p k =>
      have e : maxTermFail (Ev.termFail p k :: log) = max p (maxTermFail log) := rfl
      rw [e]
      by_cases hc : maxTermFail log ≤ p
      · rw [Nat.max_eq_left hc]; exact .inr ⟨k, List.mem_cons_self ..⟩
      · rw [Nat.max_eq_right (by omega)]
        cases ih with
        | inl h0 => exact .inl h0
        | inr h1 => exact .inr (hmono _ h1)
    -- any other event leaves `maxTermFail` as it is, by computation
    | _ => exact ih.imp id (hmono (maxTermFail log))

/-- the body `g` of some `Name(g, nm)` of the grammar (`S g nm`) was run at `p` and returned neither a result
    nor an error, before the log reached `log`: the only way a Name produces an error that no terminal
    failure stands behind (curtailment, an empty Any / Choice, a suppressed error) -/
def PureFail (cfg : Cfg) (S : G → Bytes → Prop) (log : List Ev) (p : Nat) : Prop :=
  ∃ fuel g nm ctx st o st', S g nm ∧ run cfg fuel g ctx p st = some (o, st') ∧
    o.err = none ∧ o.res.isNil = true ∧ st'.log <:+ log

def NamedNF (Nm : Bytes → Prop) (e : Err) : Prop := ∃ nm, Nm nm ∧ e.kind = .notFound nm

/-- where an error value comes from.  `S g nm`: `Name(g, nm)` occurs in the grammar; `Nm nm`: some Name or
    named Sequence carries `nm`; `AP`: the grammar may panic (`LocErr`, Proofs/RunErr.lean) -/
def ErrOK (cfg : Cfg) (S : G → Bytes → Prop) (Nm : Bytes → Prop) (AP : Prop) (log : List Ev) (e : Err) : Prop :=
  TF log e ∨ (NamedNF Nm e ∧ (TFat log e.pos ∨ PureFail cfg S log e.pos)) ∨ (AP ∧ ∃ s, e.kind = .panic s)

theorem errInv_ErrOK (cfg : Cfg) (S : G → Bytes → Prop) (Nm : Bytes → Prop) (AP : Prop) :
    ErrInv cfg S Nm AP (ErrOK cfg S Nm AP) where
  mono := by
    intro log log' e hl h
    rcases h with h | ⟨hn, h⟩ | h
    · exact .inl (hl.subset h)
    · refine .inr (.inl ⟨hn, ?_⟩)
      rcases h with ⟨k, hk⟩ | ⟨fuel, g, nm, ctx, st, o, st', h1, h2, h3, h4, h5⟩
      · exact .inl ⟨k, hl.subset hk⟩
      · exact .inr ⟨fuel, g, nm, ctx, st, o, st', h1, h2, h3, h4, h5.trans hl⟩
    · exact .inr (.inr h)
  logged := fun log p k => .inl (List.mem_cons_self ..)
  panic := fun hap log p s => .inr (.inr ⟨hap, s, rfl⟩)
  rename := by
    intro log e nm h hnf hnm
    rcases h with h | ⟨_, h⟩ | ⟨_, s, hs⟩
    · exact .inr (.inl ⟨⟨nm, hnm, rfl⟩, .inl ⟨e.kind, h⟩⟩)
    · exact .inr (.inl ⟨⟨nm, hnm, rfl⟩, h⟩)
    · rw [hs] at hnf; cases hnf
  create := by
    intro fuel g nm ctx pos st o st' hS hnm hr he hn
    exact .inr (.inl ⟨⟨nm, hnm, rfl⟩, .inr ⟨fuel, g, nm, ctx, st, o, st', hS, hr, he, hn, List.suffix_refl _⟩⟩)

/-- a grammar without `Name`, without named Sequences, whose terminals do not panic inside the file and
    whose references resolve -/
def Unnamed (cfg : Cfg) (g : G) : Prop := g.All (LocErr cfg (fun _ _ => False) (fun _ => False) False)

/-- without names and panics `ErrOK` is "exactly a logged terminal failure" -/
theorem errOK_unnamed {cfg : Cfg} {log : List Ev} {e : Err} :
    ErrOK cfg (fun _ _ => False) (fun _ => False) False log e ↔ TF log e :=
  ⟨fun h => h.elim id fun h => h.elim (fun ⟨⟨_, hn, _⟩, _⟩ => hn.elim) fun h => h.1.elim, .inl⟩

theorem parse_unfold (cfg : Cfg) (fuel : Nat) (g : G) (st : St) (o : Out) (st' : St)
    (hr : run cfg fuel g [] (cfg.file.pos 0) st = some (o, st')) :
    parse cfg fuel g st = some (match parseErr (cfg.file.pos 0) o st' with
      | some e => { res := .nil, err := some (further st' e),
                    msg := some (failedPrefix ++ errorWithPosition cfg.fileSet (further st' e)), st := st' }
      | none => { res := o.res, err := none, msg := none, st := st' }) := by
  rw [parse_eq, hr]
  dsimp only [Option.map_some]
  cases parseErr (cfg.file.pos 0) o st' <;> rfl

theorem parse_run (cfg : Cfg) (fuel : Nat) (g : G) (st : St) (r : ParseOut) (h : parse cfg fuel g st = some r) :
    ∃ o st', run cfg fuel g [] (cfg.file.pos 0) st = some (o, st') :=
  let ⟨o, st', hr, _⟩ := parse_answer cfg fuel g st r h
  ⟨o, st', hr⟩

theorem further_cases (st : St) (e : Err) : further st e = e ∨ st.ctxErr = some (further st e) := by
  unfold further
  split
  · cases st.ctxErr with
    | none => exact .inl rfl
    | some ce => simp only []; split; exact .inr rfl; exact .inl rfl
  · exact .inl rfl

/-- the error `parse` starts from is the returned one, or — no result and no returned error — the context error,
    or the synthesised "no match was found" when there is none either -/
theorem parseErr_some {pos0 : Nat} {o : Out} {st : St} {e : Err} (h : parseErr pos0 o st = some e) :
    o.err = some e ∨ (o.res.isNil = true ∧ o.err = none ∧
      (st.ctxErr = some e ∨ (st.ctxErr = none ∧ e = ⟨pos0, .other noMatchMsg⟩))) := by
  unfold parseErr at h
  split at h
  · rename_i hc
    simp only [Bool.and_eq_true, Option.isNone_iff_eq_none] at hc
    cases hce : st.ctxErr with
    | some ce => rw [hce] at h; exact .inr ⟨hc.1, hc.2, .inl h⟩
    | none => rw [hce] at h; exact .inr ⟨hc.1, hc.2, .inr ⟨rfl, (Option.some.inj h).symm⟩⟩
  · exact .inl h

/-- a reported error that is not a whitespace error lies at or beyond the error it was chosen over and the context
    error: it is the further of the two -/
theorem further_ge {st : St} {e1 : Err} (hws : (further st e1).kind.isWs = false) :
    e1.pos ≤ (further st e1).pos ∧ ∀ ce, st.ctxErr = some ce → ce.pos ≤ (further st e1).pos := by
  unfold further at hws ⊢
  cases hk : e1.kind.isWs with
  | true =>
    simp only [hk, Bool.not_true, Bool.false_eq_true, ↓reduceIte] at hws
    cases hws
  | false =>
    simp only [Bool.not_false, ↓reduceIte]
    cases st.ctxErr with
    | none => exact ⟨Nat.le_refl _, nofun⟩
    | some ce =>
      by_cases hc : ce.pos > e1.pos
      · simp only [hc, ↓reduceIte]
        exact ⟨by omega, fun ce' h => by cases h; exact Nat.le_refl _⟩
      · simp only [hc, ↓reduceIte]
        exact ⟨Nat.le_refl _, fun ce' h => by cases h; omega⟩

/-- a failing `parse` over a run: the error it reports is `further` of the error `parseErr` picks -/
theorem parse_err_unfold (cfg : Cfg) (fuel : Nat) (g : G) (st : St) (o : Out) (st' : St)
    (hr : run cfg fuel g [] (cfg.file.pos 0) st = some (o, st')) (r : ParseOut) (e : Err)
    (h : parse cfg fuel g st = some r) (he : r.err = some e) :
    r.st = st' ∧ ∃ e1, parseErr (cfg.file.pos 0) o st' = some e1 ∧ e = further st' e1 := by
  rw [parse_unfold cfg fuel g st o st' hr] at h
  cases h0 : parseErr (cfg.file.pos 0) o st' with
  | none => simp only [h0, Option.some.injEq] at h; subst h; cases he
  | some e1 =>
    simp only [h0, Option.some.injEq] at h
    subst h
    exact ⟨rfl, e1, rfl, (Option.some.inj he).symm⟩

/-- the error `parse` reports is the returned one, the context error, or — only when there is no result,
    no returned error and no context error — the synthesised "no match was found" at the start of input -/
theorem parse_err_cases (cfg : Cfg) (fuel : Nat) (g : G) (st : St) (r : ParseOut) (e : Err)
    (h : parse cfg fuel g st = some r) (he : r.err = some e) :
    ∃ o st', run cfg fuel g [] (cfg.file.pos 0) st = some (o, st') ∧ r.st = st' ∧
      (o.err = some e ∨ st'.ctxErr = some e ∨
       (o.res.isNil = true ∧ o.err = none ∧ st'.ctxErr = none ∧ e = ⟨cfg.file.pos 0, .other noMatchMsg⟩)) := by
  obtain ⟨o, st', hr⟩ := parse_run cfg fuel g st r h
  obtain ⟨hst, e1, h0, rfl⟩ := parse_err_unfold cfg fuel g st o st' hr r e h he
  refine ⟨o, st', hr, hst, ?_⟩
  rcases further_cases st' e1 with h2 | h2
  · rw [h2]
    rcases parseErr_some h0 with h1 | ⟨hn, hoe, h1 | ⟨hc, h1⟩⟩
    · exact .inl h1
    · exact .inr (.inl h1)
    · exact .inr (.inr ⟨hn, hoe, hc, h1⟩)
  · exact .inr (.inl h2)

/-- **`parse` prefers the further error**, exactly as parse.go does it: when the parser returned an error
    `e0`, the reported error is the context error if that is STRICTLY further, otherwise `e0` (ties keep
    the returned error); a whitespace error is never replaced.  So the reported position is the maximum of
    the two. -/
theorem c06_parse_prefers_further (cfg : Cfg) (fuel : Nat) (g : G) (st : St) (o : Out) (st' : St) (e0 : Err)
    (hr : run cfg fuel g [] (cfg.file.pos 0) st = some (o, st')) (he0 : o.err = some e0) :
    ∃ r e, parse cfg fuel g st = some r ∧ r.err = some e ∧ r.st = st' ∧ r.res = .nil ∧
      (e0.kind.isWs = true → e = e0) ∧
      (e0.kind.isWs = false →
        (st'.ctxErr = none → e = e0) ∧
        (∀ ce, st'.ctxErr = some ce → (ce.pos > e0.pos → e = ce) ∧ (ce.pos ≤ e0.pos → e = e0)) ∧
        e.pos = max e0.pos ((st'.ctxErr.map Err.pos).getD 0)) := by
  have h0 : parseErr (cfg.file.pos 0) o st' = some e0 := by
    unfold parseErr; rw [he0]; simp
  rw [parse_unfold cfg fuel g st o st' hr, h0]
  refine ⟨_, _, rfl, rfl, rfl, rfl, ?_, ?_⟩
  · intro hws; simp [further, hws]
  · intro hws
    simp only [further, hws, Bool.not_false, ↓reduceIte]
    cases hce : st'.ctxErr with
    | none => simp
    | some ce =>
      simp only [Option.map_some, Option.getD_some]
      by_cases hc : ce.pos > e0.pos
      · simp only [hc, ↓reduceIte]
        refine ⟨(by intro hx; cases hx), ?_, by omega⟩
        intro ce' hce'; cases hce'
        exact ⟨fun _ => by first | rfl | trivial, fun h => by omega⟩
      · simp only [hc, ↓reduceIte]
        refine ⟨(by intro hx; cases hx), ?_, by omega⟩
        intro ce' hce'; cases hce'
        exact ⟨fun h => absurd h hc, fun _ => by first | rfl | trivial⟩

/-- when the parser returned neither a result nor an error, `parse` reports the context error, and only
    when there is none either, the synthesised "no match was found" at the start of the input -/
theorem c06_parse_no_returned_error (cfg : Cfg) (fuel : Nat) (g : G) (st : St) (o : Out) (st' : St)
    (hr : run cfg fuel g [] (cfg.file.pos 0) st = some (o, st')) (hres : o.res.isNil = true) (herr : o.err = none) :
    ∃ r, parse cfg fuel g st = some r ∧ r.st = st' ∧
      r.err = some (match st'.ctxErr with | some ce => ce | none => ⟨cfg.file.pos 0, .other noMatchMsg⟩) := by
  rw [parse_unfold cfg fuel g st o st' hr]
  cases hce : st'.ctxErr with
  | none =>
    have h0 : parseErr (cfg.file.pos 0) o st' = some ⟨cfg.file.pos 0, .other noMatchMsg⟩ := by
      simp [parseErr, hres, herr, hce]
    rw [h0]
    exact ⟨_, rfl, rfl, by simp [further, ErrKind.isWs, hce]⟩
  | some ce =>
    have h0 : parseErr (cfg.file.pos 0) o st' = some ce := by
      simp [parseErr, hres, herr, hce]
    rw [h0]
    refine ⟨_, rfl, rfl, ?_⟩
    simp only [further, hce, Option.some.injEq]
    split
    · simp
    · rfl

/-- **the invariant**: all grammars without trims, any cache state satisfying the invariant (the empty one
    does: `c06_pre_initial`), any left-recursion context, any fuel. -/
theorem c06_provenance (cfg : Cfg) (S : G → Bytes → Prop) (Nm : Bytes → Prop) (AP : Prop) (hgh : cfg.ghost = true)
    (g : G) (hs : Scope cfg g) (hg : g.All (LocErr cfg S Nm AP)) (henv : ∀ g' ∈ cfg.env, g'.All (LocErr cfg S Nm AP))
    (fuel : Nat) (ctx : Ctx) (pos : Nat) (st : St) (o : Out) (st' : St) (hpre : Pre cfg ctx pos st)
    (hst : StErrOK (ErrOK cfg S Nm AP) st) (h : run cfg fuel g ctx pos st = some (o, st')) :
    (∀ e, o.err = some e → ErrOK cfg S Nm AP st'.log e) ∧
    (∀ e, st'.ctxErr = some e → ErrOK cfg S Nm AP st'.log e) ∧
    (∀ c ∈ st'.cache, ∀ e, c.err = some e → ErrOK cfg S Nm AP st'.log e) ∧
    st.log <:+ st'.log := by
  have := run_err cfg S Nm AP _ (errInv_ErrOK cfg S Nm AP) hgh hs.env henv fuel g ctx pos st o st' hs.root hg hpre hst h
  exact ⟨this.err, this.st.ctxErr, this.st.cache, this.log⟩

/-- the invariant holds of the state every parse starts in, for every error predicate -/
theorem c06_pre_initial (Q : List Ev → Err → Prop) : StErrOK Q {} :=
  ⟨(by intro c hc; cases hc), (by intro er her; cases her)⟩

/-- what `ErrOK` says about the position when the grammar cannot panic: at or before the furthest failing
    terminal, or the D8 shape -/
theorem c06_upper_named (cfg : Cfg) (S : G → Bytes → Prop) (Nm : Bytes → Prop) (log : List Ev) (e : Err)
    (h : ErrOK cfg S Nm False log e) :
    (TFat log e.pos ∧ e.pos ≤ maxTermFail log ∧ (TF log e ∨ NamedNF Nm e)) ∨
    (NamedNF Nm e ∧ PureFail cfg S log e.pos) := by
  rcases h with h | ⟨hn, ⟨k, hk⟩ | hp⟩ | ⟨hf, _⟩
  · exact .inl ⟨⟨e.kind, h⟩, le_maxTermFail h, .inl h⟩
  · exact .inl ⟨⟨k, hk⟩, le_maxTermFail hk, .inr hn⟩
  · exact .inr ⟨hn, hp⟩
  · exact hf.elim

theorem sentence_scope {cfg : Cfg} {g : G} (hs : Scope cfg g) : Scope cfg (G.sentence g) :=
  ⟨G.sentence_core hs.root, hs.env⟩

theorem sentence_loc {cfg : Cfg} {S : G → Bytes → Prop} {Nm : Bytes → Prop} {AP : Prop} {g : G}
    (hg : g.All (LocErr cfg S Nm AP)) : (G.sentence g).All (LocErr cfg S Nm AP) :=
  G.sentence_all hg trivial (by intro nm hnm; cases hnm)

/-- **named grammars, `parse`**: the reported error is at or before the furthest failing terminal (and a
    terminal really failed at that very position), or it is "was expecting <name>" at a position where a
    Name's body failed without any error (the D8 shape), or — no error value anywhere — the synthesised
    "no match was found" at the start of the input. -/
theorem c06_upper_named_parse (cfg : Cfg) (S : G → Bytes → Prop) (Nm : Bytes → Prop) (hgh : cfg.ghost = true)
    (g : G) (hs : Scope cfg g) (hg : g.All (LocErr cfg S Nm False))
    (henv : ∀ g' ∈ cfg.env, g'.All (LocErr cfg S Nm False))
    (fuel : Nat) (r : ParseOut) (e : Err) (h : parse cfg fuel g = some r) (he : r.err = some e) :
    (TFat r.st.log e.pos ∧ e.pos ≤ maxTermFail r.st.log ∧ (TF r.st.log e ∨ NamedNF Nm e)) ∨
    (NamedNF Nm e ∧ PureFail cfg S r.st.log e.pos) ∨
    (e = ⟨cfg.file.pos 0, .other noMatchMsg⟩ ∧ r.st.ctxErr = none) := by
  obtain ⟨o, st', hr, hst, hc⟩ := parse_err_cases cfg fuel g {} r e h he
  have hp := c06_provenance cfg S Nm False hgh g hs hg henv fuel [] _ {} o st' (c01_pre_initial cfg)
    (c06_pre_initial _) hr
  rw [hst]
  rcases hc with hc | hc | hc
  · exact (c06_upper_named cfg S Nm _ e (hp.1 e hc)).imp id .inl
  · exact (c06_upper_named cfg S Nm _ e (hp.2.1 e hc)).imp id .inl
  · exact .inr (.inr ⟨hc.2.2.2, hc.2.2.1⟩)

theorem c06_upper_named_sentence (cfg : Cfg) (S : G → Bytes → Prop) (Nm : Bytes → Prop) (hgh : cfg.ghost = true)
    (g : G) (hs : Scope cfg g) (hg : g.All (LocErr cfg S Nm False))
    (henv : ∀ g' ∈ cfg.env, g'.All (LocErr cfg S Nm False))
    (fuel : Nat) (r : ParseOut) (e : Err) (h : parse cfg fuel (G.sentence g) = some r) (he : r.err = some e) :
    (TFat r.st.log e.pos ∧ e.pos ≤ maxTermFail r.st.log ∧ (TF r.st.log e ∨ NamedNF Nm e)) ∨
    (NamedNF Nm e ∧ PureFail cfg S r.st.log e.pos) ∨
    (e = ⟨cfg.file.pos 0, .other noMatchMsg⟩ ∧ r.st.ctxErr = none) :=
  c06_upper_named_parse cfg S Nm hgh _ (sentence_scope hs) (sentence_loc hg) henv fuel r e h he

/-! ### C06 upper bound, grammars without names: every error is exactly a logged terminal failure -/

/-- **unnamed grammars, `run`**: every error returned, the context error and every cached error is exactly
    a logged terminal failure — its position is at most the furthest failing terminal and its expectation
    is one that really failed there. -/
theorem c06_upper_unnamed (cfg : Cfg) (hgh : cfg.ghost = true) (g : G) (hs : Scope cfg g)
    (hg : Unnamed cfg g) (henv : ∀ g' ∈ cfg.env, Unnamed cfg g')
    (fuel : Nat) (ctx : Ctx) (pos : Nat) (st : St) (o : Out) (st' : St) (hpre : Pre cfg ctx pos st)
    (hst : StErrOK TF st) (h : run cfg fuel g ctx pos st = some (o, st')) :
    (∀ e, o.err = some e → TF st'.log e ∧ e.pos ≤ maxTermFail st'.log) ∧
    (∀ e, st'.ctxErr = some e → TF st'.log e ∧ e.pos ≤ maxTermFail st'.log) ∧
    (∀ c ∈ st'.cache, ∀ e, c.err = some e → TF st'.log e ∧ e.pos ≤ maxTermFail st'.log) ∧
    st.log <:+ st'.log := by
  obtain ⟨h1, h2, h3, h4⟩ := c06_provenance cfg _ _ False hgh g hs hg henv fuel ctx pos st o st' hpre
    ⟨fun c hc e he => .inl (hst.cache c hc e he), fun e he => .inl (hst.ctxErr e he)⟩ h
  have tf : ∀ {e}, ErrOK cfg (fun _ _ => False) (fun _ => False) False st'.log e →
      TF st'.log e ∧ e.pos ≤ maxTermFail st'.log := fun h => ⟨errOK_unnamed.mp h, le_maxTermFail (errOK_unnamed.mp h)⟩
  exact ⟨fun e he => tf (h1 e he), fun e he => tf (h2 e he), fun c hc e he => tf (h3 c hc e he), h4⟩

/-- **unnamed grammars, `parse`**: the reported error is exactly a logged terminal failure, hence never
    beyond the furthest failing terminal; the only other possibility is that no error value exists at
    all, and then `parse` synthesises "no match was found" at the start of the input (fix D3). -/
theorem c06_upper_unnamed_parse (cfg : Cfg) (hgh : cfg.ghost = true) (g : G) (hs : Scope cfg g)
    (hg : Unnamed cfg g) (henv : ∀ g' ∈ cfg.env, Unnamed cfg g')
    (fuel : Nat) (r : ParseOut) (e : Err) (h : parse cfg fuel g = some r) (he : r.err = some e) :
    (TF r.st.log e ∧ e.pos ≤ maxTermFail r.st.log) ∨
    (e = ⟨cfg.file.pos 0, .other noMatchMsg⟩ ∧ r.st.ctxErr = none) := by
  rcases c06_upper_named_parse cfg _ _ hgh g hs hg henv fuel r e h he with ⟨_, h2, h3 | ⟨_, hn, _⟩⟩ | ⟨⟨_, hn, _⟩, _⟩ | h1
  · exact .inl ⟨h3, h2⟩
  · exact hn.elim
  · exact hn.elim
  · exact .inr h1

theorem c06_upper_unnamed_sentence (cfg : Cfg) (hgh : cfg.ghost = true) (g : G) (hs : Scope cfg g)
    (hg : Unnamed cfg g) (henv : ∀ g' ∈ cfg.env, Unnamed cfg g')
    (fuel : Nat) (r : ParseOut) (e : Err) (h : parse cfg fuel (G.sentence g) = some r) (he : r.err = some e) :
    (TF r.st.log e ∧ e.pos ≤ maxTermFail r.st.log) ∨
    (e = ⟨cfg.file.pos 0, .other noMatchMsg⟩ ∧ r.st.ctxErr = none) :=
  c06_upper_unnamed_parse cfg hgh _ (sentence_scope hs) (sentence_loc hg) henv fuel r e h he

/-- every error `parse` reports is positioned inside the parsed file (first byte … end-of-file position) -/
theorem parse_err_inFile (cfg : Cfg) (g : G) (hs : Scope cfg g) (fuel : Nat) (r : ParseOut) (e : Err)
    (h : parse cfg fuel g = some r) (he : r.err = some e) :
    cfg.file.offset ≤ e.pos ∧ e.pos ≤ cfg.hi := by
  obtain ⟨o, st', hr, _, hc⟩ := parse_err_cases cfg fuel g {} r e h he
  have hp := c01_error_positions cfg g hs fuel [] _ {} o st' (c01_pre_initial cfg) hr
  rcases hc with hc | hc | hc
  · have := hp.1 e hc; simp only [File.pos] at this; omega
  · exact hp.2 e hc
  · rw [hc.2.2.2]; simp [File.pos, Cfg.hi]

theorem render_at (f : String) (l c : Nat) (h : f ≠ "") :
    (PosResult.at_ f l c).render = f ++ ":" ++ toString l ++ ":" ++ toString c := by
  simp only [PosResult.render, if_pos h]
  rfl

/-- **the text.**  The parsed file is one of the files of a file set built through the API (`buildFS`,
    C11).  Then the text of every error `parse` reports is

      "failed to parse the input: " ++ <expectation> ++ " at " ++ <file>:<line>:<column>

    where (line, column) is C11's `lineCol` of the offset of the error position inside the parsed file —
    the 1-based line and column of exactly the position the error carries — and `<expectation>` is the
    message of the error kind (`c06_provenance`: an expectation that really failed there). -/
theorem c06_text (cfg : Cfg) (g : G) (hs : Scope cfg g) (files : List File) (i : Nat)
    (hfs : cfg.fileSet = buildFS files) (hfile : (buildFS files).files[i]? = some cfg.file)
    (fuel : Nat) (r : ParseOut) (e : Err) (h : parse cfg fuel g = some r) (he : r.err = some e) :
    cfg.file.offset ≤ e.pos ∧ e.pos - cfg.file.offset ≤ cfg.file.len ∧
    cfg.fileSet.position e.pos =
      .at_ cfg.file.name (lineCol cfg.file.data (e.pos - cfg.file.offset)).1
        (lineCol cfg.file.data (e.pos - cfg.file.offset)).2 ∧
    r.msg = some (failedPrefix ++ e.kind.msg ++ tokOf " at " ++
      tokOf (PosResult.at_ cfg.file.name (lineCol cfg.file.data (e.pos - cfg.file.offset)).1
        (lineCol cfg.file.data (e.pos - cfg.file.offset)).2).render) ∧
    (cfg.file.name ≠ "" →
      r.msg = some (failedPrefix ++ e.kind.msg ++ tokOf " at " ++
        tokOf (cfg.file.name ++ ":" ++ toString (lineCol cfg.file.data (e.pos - cfg.file.offset)).1 ++ ":" ++
          toString (lineCol cfg.file.data (e.pos - cfg.file.offset)).2))) := by
  obtain ⟨hlo, hhi⟩ := parse_err_inFile cfg g hs fuel r e h he
  have hoff : e.pos - cfg.file.offset ≤ cfg.file.len := by unfold Cfg.hi at hhi; omega
  have hpos : cfg.fileSet.position e.pos =
      .at_ cfg.file.name (lineCol cfg.file.data (e.pos - cfg.file.offset)).1
        (lineCol cfg.file.data (e.pos - cfg.file.offset)).2 := by
    have := c11_roundtrip files i cfg.file (e.pos - cfg.file.offset) hfile hoff
    rw [hfs]
    have hp : cfg.file.pos (e.pos - cfg.file.offset) = e.pos := by simp only [File.pos]; omega
    rw [hp] at this; exact this
  obtain ⟨hm1, hm2⟩ := parse_msg_form cfg fuel g {} r e h he
  have hmsg : r.msg = some (failedPrefix ++ e.kind.msg ++ tokOf " at " ++
      tokOf (PosResult.at_ cfg.file.name (lineCol cfg.file.data (e.pos - cfg.file.offset)).1
        (lineCol cfg.file.data (e.pos - cfg.file.offset)).2).render) := by
    rw [hm1, hm2 (by rw [hpos]; intro hc; cases hc), hpos]
    simp only [List.append_assoc]
  refine ⟨hlo, hoff, hpos, hmsg, ?_⟩
  intro hne
  rw [hmsg, render_at _ _ _ hne]

/-! ### the side conditions hold of grammars over single-byte (rune) terminals -/

/-- they keep to their positions (`termGood_all`) and never panic inside the file (C08), which is what `LocErr` asks of
    a terminal when `AP = False` -/
theorem locErr_rune (cfg : Cfg) (S : G → Bytes → Prop) (Nm : Bytes → Prop) (ch : Nat) (name : Bytes) :
    LocErr cfg S Nm False (.term (.rune ch name)) := by
  intro pos s hin hp
  exact c08_total cfg.params cfg.file (.rune ch name) pos s hin True.intro True.intro True.intro hp

/-! ### C06 lower bound: nothing further is lost (outside curtailment) -/

/-- **coverage, `run` from the initial state**: every terminal failure of the run, and the start position,
    is at or before the returned error, or at or before the context error, or at or before the end of a
    returned result, or at or before a position where a memoized parser was curtailed. -/
theorem c06_lower_run (cfg : Cfg) (hgh : cfg.ghost = true) (g : G) (hs : Scope cfg g)
    (hl : g.All (LocLow cfg)) (henvL : ∀ g' ∈ cfg.env, g'.All (LocLow cfg))
    (fuel : Nat) (o : Out) (st' : St) (hr : run cfg fuel g [] (cfg.file.pos 0) {} = some (o, st')) :
    (∀ x k, Ev.termFail x k ∈ st'.log → Cov x o.err o.res st') ∧ Cov (cfg.file.pos 0) o.err o.res st' ∧
    OutOK cfg (cfg.file.pos 0) o.res o.err := by
  have hlow := run_low cfg hgh hs.env henvL fuel g [] _ {} o st' hs.root hl (c01_pre_initial cfg)
    (by intro c hc; cases hc) hr
  exact ⟨(logSys cfg).NewCov_fresh hlow.newTF rfl, hlow.prog, hlow.out⟩

/-- from coverage of the run to the reported position: a terminal failure covered by the returned error, by the end of a
    returned result or by the context error is at or before the error `parse` reports (which is the further of the
    returned and the context error); `X` stands for whatever else may cover it -/
theorem lower_parse_of_cov (cfg : Cfg) (g : G) (hs : Scope cfg g) (fuel : Nat) (o : Out) (st' : St)
    (hr : run cfg fuel g [] (cfg.file.pos 0) {} = some (o, st')) (X : Nat → Prop)
    (hcov : ∀ x k, Ev.termFail x k ∈ st'.log → GeE x o.err ∨ GeR x o.res ∨ GeE x st'.ctxErr ∨ X x)
    (hout : OutOK cfg (cfg.file.pos 0) o.res o.err)
    (r : ParseOut) (e : Err) (h : parse cfg fuel g = some r) (he : r.err = some e) (hws : e.kind.isWs = false) :
    r.st = st' ∧ ∀ x k, Ev.termFail x k ∈ st'.log → x ≤ e.pos ∨ X x := by
  obtain ⟨hst, e1, h0, rfl⟩ := parse_err_unfold cfg fuel g {} o st' hr r e h he
  obtain ⟨hge1, hgec⟩ := further_ge hws
  refine ⟨hst, fun x k hx => ?_⟩
  rcases hcov x k hx with ⟨e0, he0, hx0⟩ | ⟨n, hn, hxn⟩ | ⟨ce, hce, hxc⟩ | h1
  · rcases parseErr_some h0 with h2 | ⟨_, h2, _⟩
    · rw [he0] at h2; cases h2
      exact .inl (Nat.le_trans hx0 hge1)
    · rw [he0] at h2; cases h2
  · rcases parseErr_some h0 with h2 | ⟨h2, _⟩
    · -- a result beside an error ends at or before the start, the error lies at or after it
      have := hout.errRes e1 h2 n hn
      have := (c01_error_positions cfg g hs fuel [] _ {} o st' (c01_pre_initial cfg) hr).1 e1 h2
      exact .inl (by omega)
    · exact absurd ⟨n, hn, hxn⟩ (GeR_of_isNil h2)
  · exact .inl (Nat.le_trans hxc (hgec ce hce))
  · exact .inr h1

/-- **lower bound, `parse`**: every terminal failure of a failing parse is at or before the reported
    position, unless a memoized parser was curtailed at or after it.  (`e.kind.isWs = false`: the error is
    not a whitespace error — those come from the trims only, which are outside the domain.) -/
theorem c06_lower_parse (cfg : Cfg) (hgh : cfg.ghost = true) (g : G) (hs : Scope cfg g)
    (hl : g.All (LocLow cfg)) (henvL : ∀ g' ∈ cfg.env, g'.All (LocLow cfg))
    (fuel : Nat) (r : ParseOut) (e : Err) (h : parse cfg fuel g = some r) (he : r.err = some e)
    (hws : e.kind.isWs = false) :
    ∀ x k, Ev.termFail x k ∈ r.st.log → x ≤ e.pos ∨ GeC x r.st.log := by
  obtain ⟨o, st', hr⟩ := parse_run cfg fuel g {} r h
  obtain ⟨hcov, _, hout⟩ := c06_lower_run cfg hgh g hs hl henvL fuel o st' hr
  obtain ⟨hst, hlow⟩ := lower_parse_of_cov cfg g hs fuel o st' hr (fun x => GeC x st'.log) hcov hout r e h he hws
  rw [hst]; exact hlow

theorem sentence_low {cfg : Cfg} {g : G} (hg : g.All (LocLow cfg)) : (G.sentence g).All (LocLow cfg) :=
  G.sentence_all hg trivial ⟨(by intro hc; cases hc), (by intro hc; cases hc)⟩

def curtailPositions : List Ev → List Nat
  | [] => []
  | .curtail _ p :: r => p :: curtailPositions r
  | _ :: r => curtailPositions r

theorem mem_curtailPositions {log : List Ev} {i q : Nat} (h : Ev.curtail i q ∈ log) : q ∈ curtailPositions log := by
  induction log with
  | nil => cases h
  | cons ev log ih =>
    cases h with
    | head => simp [curtailPositions]
    | tail _ hm =>
      have := ih hm
      cases ev <;> simp only [curtailPositions, List.mem_cons] <;> first | exact this | exact .inr this

/-- no memoized parser was curtailed at or after the furthest failing terminal (decidable on the log; true
    in particular of every run that never curtails, e.g. of grammars without left recursion) -/
def NoCurtailBeyond (log : List Ev) : Prop := ∀ i q, Ev.curtail i q ∈ log → q < maxTermFail log

theorem noCurtailBeyond_of_positions {log : List Ev} (h : ∀ q ∈ curtailPositions log, q < maxTermFail log) :
    NoCurtailBeyond log := fun _ q hq => h q (mem_curtailPositions hq)

/-- the furthest failing terminal is at or before the reported position (when nothing was curtailed at or
    beyond it) -/
theorem maxTermFail_le_of_lower {log : List Ev} {p : Nat} (hnc : NoCurtailBeyond log)
    (hlow : ∀ x k, Ev.termFail x k ∈ log → x ≤ p ∨ GeC x log) : maxTermFail log ≤ p := by
  rcases maxTermFail_attained log with h0 | ⟨k, hk⟩
  · omega
  · rcases hlow _ k hk with h1 | ⟨i, q, hq, hle⟩
    · exact h1
    · have := hnc i q hq; omega

/-- the reported position is never BEFORE the furthest failing terminal when nothing was curtailed at or beyond it,
    and it equals it — the reported expectation failed there, or a Name re-labelled the one that did — unless the
    error is the D8 shape -/
theorem exact_partial_core (cfg : Cfg) (S : G → Bytes → Prop) (Nm : Bytes → Prop) (hgh : cfg.ghost = true)
    (g : G) (hs : Scope cfg g) (hg : g.All (LocErr cfg S Nm False))
    (henv : ∀ g' ∈ cfg.env, g'.All (LocErr cfg S Nm False))
    (hl : g.All (LocLow cfg)) (henvL : ∀ g' ∈ cfg.env, g'.All (LocLow cfg))
    (fuel : Nat) (r : ParseOut) (e : Err) (h : parse cfg fuel (G.sentence g) = some r) (he : r.err = some e)
    (hws : e.kind.isWs = false) (hnc : NoCurtailBeyond r.st.log) :
    maxTermFail r.st.log ≤ e.pos ∧
    ((e.pos = maxTermFail r.st.log ∧ TFat r.st.log e.pos ∧ (TF r.st.log e ∨ NamedNF Nm e)) ∨
      (NamedNF Nm e ∧ PureFail cfg S r.st.log e.pos)) := by
  have hlow := c06_lower_parse cfg hgh _ (sentence_scope hs) (sentence_low hl) henvL fuel r e h he hws
  have hge := maxTermFail_le_of_lower hnc hlow
  refine ⟨hge, ?_⟩
  obtain ⟨o, st', hr, hst, hc⟩ := parse_err_cases cfg fuel _ {} r e h he
  have hp := c06_provenance cfg S Nm False hgh _ (sentence_scope hs) (sentence_loc hg) henv fuel [] _ {} o st'
    (c01_pre_initial cfg) (c06_pre_initial _) hr
  rw [hst] at hge hnc ⊢
  have hfin : ErrOK cfg S Nm False st'.log e →
      (e.pos = maxTermFail st'.log ∧ TFat st'.log e.pos ∧ (TF st'.log e ∨ NamedNF Nm e)) ∨
        (NamedNF Nm e ∧ PureFail cfg S st'.log e.pos) := by
    intro hok
    rcases c06_upper_named cfg S Nm _ e hok with ⟨h1, h2, h3⟩ | h1
    · exact .inl ⟨by omega, h1, h3⟩
    · exact .inr h1
  rcases hc with hc | hc | hc
  · exact hfin (hp.1 e hc)
  · exact hfin (hp.2.1 e hc)
  · -- the synthesised error: impossible, the start position would be covered by a curtailment only
    exfalso
    obtain ⟨_, hprog, _⟩ := c06_lower_run cfg hgh _ (sentence_scope hs) (sentence_low hl) henvL fuel o st' hr
    rcases hprog with h3 | h3 | h3 | h3
    · rw [hc.2.1] at h3; exact GeE_none _ h3
    · exact GeR_of_isNil hc.1 h3
    · rw [hc.2.2.1] at h3; exact GeE_none _ h3
    · obtain ⟨i, q, hq, hle⟩ := h3
      have := hnc i q hq
      have hp0 : e.pos = cfg.file.pos 0 := by rw [hc.2.2.2]
      omega

/-- **C06 exactness, partial** (unnamed grammars, Sentence-rooted): when no memoized parser was curtailed
    at or beyond the furthest failing terminal, the reported position EQUALS the furthest position at which
    a terminal or End was tried and did not match, and the reported expectation is one that failed there.
    No Name is needed for this in the tree as fixed (fix D3: Any / Choice hand their dropped not-found error
    back when nothing else is there).
    Partial because of the side condition on curtailment (without it: `c06_exact_productive`, Props/C06P.lean);
    `LocLow`: no SuppressError, no Any / Choice / SeqTry without parsers, no token "EOF". -/
theorem c06_exact_partial (cfg : Cfg) (hgh : cfg.ghost = true) (g : G) (hs : Scope cfg g)
    (hu : Unnamed cfg g) (henvU : ∀ g' ∈ cfg.env, Unnamed cfg g')
    (hl : g.All (LocLow cfg)) (henvL : ∀ g' ∈ cfg.env, g'.All (LocLow cfg))
    (fuel : Nat) (r : ParseOut) (e : Err) (h : parse cfg fuel (G.sentence g) = some r) (he : r.err = some e)
    (hws : e.kind.isWs = false) (hnc : NoCurtailBeyond r.st.log) :
    e.pos = maxTermFail r.st.log ∧ TF r.st.log e := by
  obtain ⟨_, ⟨h1, _, h2 | ⟨_, hn, _⟩⟩ | ⟨⟨_, hn, _⟩, _⟩⟩ :=
    exact_partial_core cfg _ _ hgh g hs hu henvU hl henvL fuel r e h he hws hnc
  · exact ⟨h1, h2⟩
  · exact hn.elim
  · exact hn.elim

/-- the same with names: the reported position is never BEFORE the furthest failing terminal, and it equals
    it unless the error is the D8 shape (a Name whose body failed without any error) -/
theorem c06_exact_partial_named (cfg : Cfg) (S : G → Bytes → Prop) (Nm : Bytes → Prop) (hgh : cfg.ghost = true)
    (g : G) (hs : Scope cfg g) (hg : g.All (LocErr cfg S Nm False))
    (henv : ∀ g' ∈ cfg.env, g'.All (LocErr cfg S Nm False))
    (hl : g.All (LocLow cfg)) (henvL : ∀ g' ∈ cfg.env, g'.All (LocLow cfg))
    (fuel : Nat) (r : ParseOut) (e : Err) (h : parse cfg fuel (G.sentence g) = some r) (he : r.err = some e)
    (hws : e.kind.isWs = false) (hnc : NoCurtailBeyond r.st.log) :
    maxTermFail r.st.log ≤ e.pos ∧
    ((e.pos = maxTermFail r.st.log ∧ TFat r.st.log e.pos) ∨ (NamedNF Nm e ∧ PureFail cfg S r.st.log e.pos)) := by
  obtain ⟨h1, h2⟩ := exact_partial_core cfg S Nm hgh g hs hg henv hl henvL fuel r e h he hws hnc
  exact ⟨h1, h2.imp_left fun ⟨h3, h4, _⟩ => ⟨h3, h4⟩⟩

/-- rune terminals over one byte never produce a node with token "EOF" -/
theorem locLow_rune (cfg : Cfg) (ch : Nat) (name : Bytes) (h : Utf8.encodeRune ch ≠ eofTok) :
    LocLow cfg (.term (.rune ch name)) := by
  intro pos n hn
  obtain ⟨r, rfl, _⟩ := rune_parse_node hn
  exact fun hc => absurd hc h

/-- `c06_upper_named_sentence` with the name relations computed from the grammar: `NameOf cfg g b nm` —
    `Name(b, nm)` occurs in `g` or in a rule; `LabelOf cfg g nm` — a Name or named Sequence carries `nm`.
    The side conditions mention no names (`LocErr` with the trivially true relations: no trims, terminals do
    not panic inside the file, references resolve). -/
theorem c06_upper_named_canonical (cfg : Cfg) (hgh : cfg.ghost = true) (g : G) (hs : Scope cfg g)
    (hg : g.All (LocErr cfg (fun _ _ => True) (fun _ => True) False))
    (henv : ∀ g' ∈ cfg.env, g'.All (LocErr cfg (fun _ _ => True) (fun _ => True) False))
    (fuel : Nat) (r : ParseOut) (e : Err) (h : parse cfg fuel (G.sentence g) = some r) (he : r.err = some e) :
    (TFat r.st.log e.pos ∧ e.pos ≤ maxTermFail r.st.log ∧ (TF r.st.log e ∨ NamedNF (LabelOf cfg g) e)) ∨
    (NamedNF (LabelOf cfg g) e ∧ PureFail cfg (NameOf cfg g) r.st.log e.pos) ∨
    (e = ⟨cfg.file.pos 0, .other noMatchMsg⟩ ∧ r.st.ctxErr = none) :=
  c06_upper_named_sentence cfg _ _ hgh g hs (LocErr_canonical cfg False g hg henv).1
    (LocErr_canonical cfg False g hg henv).2 fuel r e h he

/-! ### the side conditions of the theorems, decided on a closed grammar over rune terminals

  `Scope`, `LocErr`, `LocLow` ask something of every sub-parser of the root and of the rules.  For a grammar whose
  terminals are `terminal.Rune`s what they ask is a finite check: `G.allB p` runs a Bool test over all sub-parsers
  (`all_check`), and `coreB`, `errB`, `lowB` are the tests (`coreB_sound`, `errB_sound`, `lowB_sound`). -/

mutual
def G.allB (p : G → Bool) : G → Bool
  | .term t => p (.term t)
  | .empty => p .empty
  | .eof => p .eof
  | .ref k => p (.ref k)
  | .memo i g => p (.memo i g) && g.allB p
  | .any gs => p (.any gs) && allListB p gs
  | .choice gs => p (.choice gs) && allListB p gs
  | .seq k gs o => p (.seq k gs o) && allListB p gs
  | .many g ae o => p (.many g ae o) && g.allB p
  | .sepBy v s ae o => p (.sepBy v s ae o) && (v.allB p && s.allB p)
  | .optional g => p (.optional g) && g.allB p
  | .name g nm => p (.name g nm) && g.allB p
  | .ltrim g m => p (.ltrim g m) && g.allB p
  | .rtrim g m => p (.rtrim g m) && g.allB p
  | .single g => p (.single g) && g.allB p
  | .suppress g => p (.suppress g) && g.allB p
def allListB (p : G → Bool) : List G → Bool
  | [] => true
  | g :: gs => g.allB p && allListB p gs
end

theorem allListB_iff {p : G → Bool} : ∀ {gs : List G}, allListB p gs = true ↔ ∀ g ∈ gs, g.allB p = true
  | [] => by simp [allListB]
  | g :: gs => by simp only [allListB, Bool.and_eq_true, List.forall_mem_cons, allListB_iff]

theorem G.allB_kids {p : G → Bool} {g : G} : g.allB p = true ↔ p g = true ∧ ∀ k ∈ g.kids, k.allB p = true := by
  cases g <;> simp [G.allB, G.kids, allListB_iff]

theorem G.all_of_allB {P : G → Prop} {p : G → Bool} (hp : ∀ g, p g = true → P g) : ∀ g : G, g.allB p = true → g.All P :=
  G.induct fun g ih h => by
    rw [G.allB_kids] at h
    rw [G.All_kids]
    exact ⟨hp g h.1, fun k hk => ih k hk (h.2 k hk)⟩

/-- the root and every rule pass the test -/
theorem all_check {P : G → Prop} {p : G → Bool} (hp : ∀ g, p g = true → P g) {g : G} {env : List G}
    (h : (g.allB p && env.all (·.allB p)) = true) : g.All P ∧ ∀ g' ∈ env, g'.All P := by
  rw [Bool.and_eq_true, List.all_eq_true] at h
  exact ⟨G.all_of_allB hp g h.1, fun g' hg' => G.all_of_allB hp g' (h.2 g' hg')⟩

theorem G.core_of_all {T : Terminal → Prop} : ∀ g : G, g.All (CoreAt T) → g.Core T :=
  G.induct fun g ih h => by
    rw [G.All_kids] at h
    rw [G.Core_kids]
    exact ⟨h.1, fun k hk => ih k hk (h.2 k hk)⟩

/-- a rune terminal, or not a terminal and not a trim -/
def coreB : G → Bool
  | .term (.rune _ _) => true
  | .term _ | .ltrim _ _ | .rtrim _ _ => false
  | _ => true

theorem coreB_sound {T : Terminal → Prop} (hT : ∀ ch nm, T (.rune ch nm)) (g : G) (h : coreB g = true) : CoreAt T g := by
  cases g with
  | term t =>
    cases t with
    | rune ch nm => exact hT ch nm
    | _ => cases h
  | ltrim => cases h
  | rtrim => cases h
  | _ => trivial

theorem scope_check {cfg : Cfg} {g : G} (h : (g.allB coreB && cfg.env.all (·.allB coreB)) = true) : Scope cfg g :=
  have := all_check (coreB_sound fun _ _ => termGood_all cfg _) h
  ⟨G.core_of_all g this.1, fun g' hg' => G.core_of_all g' (this.2 g' hg')⟩

/-- `LocErr` for a grammar that cannot panic: rune terminals, references that resolve, names in `s` / `n` -/
def errB (s : G → Bytes → Bool) (n : Bytes → Bool) (env : List G) : G → Bool
  | .term (.rune _ _) => true
  | .term _ | .ltrim _ _ | .rtrim _ _ => false
  | .ref k => env[k]?.isSome
  | .name g nm => s g nm && n nm
  | .seq _ _ o | .many _ _ o | .sepBy _ _ _ o => o.name.all n
  | _ => true

theorem errB_sound (cfg : Cfg) {S : G → Bytes → Prop} {Nm : Bytes → Prop} {s : G → Bytes → Bool} {n : Bytes → Bool}
    (hs : ∀ g nm, s g nm = true → S g nm) (hn : ∀ nm, n nm = true → Nm nm) (g : G)
    (h : errB s n cfg.env g = true) : LocErr cfg S Nm False g := by
  have hname : ∀ o : SeqOpts, o.name.all n = true → ∀ nm, o.name = some nm → Nm nm :=
    fun o ho nm hnm => hn nm (by rw [hnm] at ho; exact ho)
  cases g with
  | term t =>
    cases t with
    | rune ch nm => exact locErr_rune cfg S Nm ch nm
    | _ => cases h
  | ref k => intro hk; rw [errB, hk] at h; cases h
  | name g nm => rw [errB, Bool.and_eq_true] at h; exact ⟨hs g nm h.1, hn nm h.2⟩
  | seq k gs o => exact hname o h
  | many g ae o => exact hname o h
  | sepBy v s' ae o => exact hname o h
  | ltrim => cases h
  | rtrim => cases h
  | _ => trivial

/-- `LocLow`: rune terminals whose byte is not the token "EOF", no SuppressError, no Any / Choice / SeqTry without
    parsers, no Sequence token "EOF" -/
def lowB : G → Bool
  | .term (.rune ch _) => decide (Utf8.encodeRune ch ≠ eofTok)
  | .term _ | .suppress _ => false
  | .any gs | .choice gs => !gs.isEmpty
  | .seq .seqTry gs o => !gs.isEmpty && decide (o.token ≠ some eofTok)
  | .seq _ _ o | .many _ _ o | .sepBy _ _ _ o => decide (o.token ≠ some eofTok)
  | _ => true

theorem lowB_sound (cfg : Cfg) (g : G) (h : lowB g = true) : LocLow cfg g := by
  have hne : ∀ gs : List G, (!gs.isEmpty) = true → gs ≠ [] := fun gs h hc => by rw [hc] at h; cases h
  cases g with
  | term t =>
    cases t with
    | rune ch nm => exact locLow_rune cfg ch nm (of_decide_eq_true h)
    | _ => cases h
  | suppress => cases h
  | any gs => exact hne gs h
  | choice gs => exact hne gs h
  | seq k gs o =>
    cases k
    · exact ⟨nofun, of_decide_eq_true h⟩
    · rw [lowB, Bool.and_eq_true] at h; exact ⟨fun _ => hne gs h.1, of_decide_eq_true h.2⟩
    · exact ⟨nofun, of_decide_eq_true h⟩
  | many g ae o => exact of_decide_eq_true (p := o.token ≠ some eofTok) h
  | sepBy v s ae o => exact of_decide_eq_true (p := o.token ≠ some eofTok) h
  | _ => trivial

def c6a : G := .term (.rune 97 [34, 97, 34])
def c6b : G := .term (.rune 98 [34, 98, 34])
def c6c : G := .term (.rune 99 [34, 99, 34])
def c6d : G := .term (.rune 100 [34, 100, 34])

/-- file "f" with the given content, alone in a new file set (so its base offset is 1) -/
def c6Cfg (env : List G) (data : Bytes) : Cfg :=
  { env := env, file := { name := "f", data := data, offset := 1 },
    fileSet := buildFS [{ name := "f", data := data, offset := 0 }],
    params := { floatOk := fun _ => true, durErr := fun _ => none, regexp := fun _ _ => none } }

theorem c6Cfg_fileSet (env : List G) (data : Bytes) :
    (c6Cfg env data).fileSet = buildFS [{ name := "f", data := data, offset := 0 }] ∧
    (buildFS [{ name := "f", data := data, offset := 0 }]).files[0]? = some (c6Cfg env data).file :=
  ⟨rfl, rfl⟩

/-- `N0 → b N1 | a` named "n0"; `N1 → Choice(N1)` named "n1", memoized — N1 derives nothing -/
def d8Env : List G :=
  [.name (.any [.seq .seqOf [c6b, .ref 1] {}, c6a]) [110, 48],
   .memo 1 (.name (.choice [.ref 1]) [110, 49])]
def d8Cfg : Cfg := c6Cfg d8Env [98]
def d8S (g : G) (nm : Bytes) : Prop :=
  (g = .any [.seq .seqOf [c6b, .ref 1] {}, c6a] ∧ nm = [110, 48]) ∨ (g = .choice [.ref 1] ∧ nm = [110, 49])
def d8Nm (nm : Bytes) : Prop := nm = [110, 48] ∨ nm = [110, 49]

theorem d8_scope : Scope d8Cfg (.ref 0) :=
  scope_check (by decide)

theorem d8_loc : (G.ref 0).All (LocErr d8Cfg d8S d8Nm False) ∧ ∀ g' ∈ d8Cfg.env, g'.All (LocErr d8Cfg d8S d8Nm False) := by
  have hr0 : LocErr d8Cfg d8S d8Nm False (.ref 0) := by
    intro h; cases h
  have hr1 : LocErr d8Cfg d8S d8Nm False (.ref 1) := by
    intro h; cases h
  refine ⟨hr0, ?_⟩
  intro g' hg'
  have hg2 : g' = .name (.any [.seq .seqOf [c6b, .ref 1] {}, c6a]) [110, 48] ∨
      g' = .memo 1 (.name (.choice [.ref 1]) [110, 49]) := by
    simpa [d8Cfg, c6Cfg, d8Env] using hg'
  rcases hg2 with rfl | rfl
  · simp only [G.All, AllList, and_true, c6a, c6b]
    exact ⟨⟨.inl ⟨rfl, rfl⟩, .inl rfl⟩, (by simp [LocErr]), ⟨(by simp [LocErr]), locErr_rune _ _ _ _ _, hr1⟩,
      locErr_rune _ _ _ _ _⟩
  · simp only [G.All, AllList, and_true]
    exact ⟨(by simp [LocErr]), ⟨.inr ⟨rfl, rfl⟩, .inr rfl⟩, (by simp [LocErr]), hr1⟩

/-- **D8 (known finding), by evaluation.**  All hypotheses of `c06_upper_named_sentence` hold, the parse of
    "b" fails with "was expecting n1" at offset 1 of the file (global position 2, rendered f:1:2), and the
    only terminal failure of the whole run is at offset 0 (global position 1): the reported position is
    BEYOND the furthest position at which a terminal or end-of-input was tried.  So the upper bound does
    not hold for named grammars without a productivity hypothesis. -/
theorem c06_upper_needs_productive :
    ∃ r e, Scope d8Cfg (.ref 0) ∧ (G.ref 0).All (LocErr d8Cfg d8S d8Nm False) ∧
      (∀ g' ∈ d8Cfg.env, g'.All (LocErr d8Cfg d8S d8Nm False)) ∧
      parse d8Cfg 40 (G.sentence (.ref 0)) = some r ∧ r.err = some e ∧
      e = ⟨2, .notFound (tokOf "n1")⟩ ∧ termFailPositions r.st.log = [1] ∧ maxTermFail r.st.log < e.pos ∧
      ¬ TFat r.st.log e.pos ∧
      r.msg = some (tokOf "failed to parse the input: was expecting n1 at f:1:2") := by
  have hev : (parse d8Cfg 40 (G.sentence (.ref 0))).map (fun r => (r.err, termFailPositions r.st.log, r.msg)) =
      some (some ⟨2, .notFound (tokOf "n1")⟩, [1],
        some (tokOf "failed to parse the input: was expecting n1 at f:1:2")) := by
    decide +kernel
  obtain ⟨r, hp, hv⟩ := Option.map_eq_some_iff.mp hev
  simp only [Prod.mk.injEq] at hv
  obtain ⟨h1, h2, h3⟩ := hv
  have hmax : maxTermFail r.st.log = 1 := by simp [maxTermFail, h2]
  refine ⟨r, _, d8_scope, d8_loc.1, d8_loc.2, hp, h1, rfl, h2, by rw [hmax]; decide, ?_, h3⟩
  rintro ⟨k, hk⟩
  have := le_maxTermFail hk
  rw [hmax] at this
  exact absurd this (by decide)

/-- what the theorems do say about D8: the error is a Name's "was expecting …" at a position where a Name's
    body returned neither a result nor an error; and the text is the one `c06_text` describes -/
theorem c06_d8_is_pure_fail (r : ParseOut) (e : Err) (h : parse d8Cfg 40 (G.sentence (.ref 0)) = some r)
    (he : r.err = some e) : NamedNF d8Nm e ∧ PureFail d8Cfg d8S r.st.log e.pos := by
  obtain ⟨r', e', _, _, _, hp, he', hee, _, _, hnt, _⟩ := c06_upper_needs_productive
  rw [h] at hp; cases hp
  rw [he] at he'; cases he'
  rcases c06_upper_named_sentence d8Cfg d8S d8Nm rfl (.ref 0) d8_scope d8_loc.1 d8_loc.2 40 r e h he with h1 | h1 | h1
  · exact absurd h1.1 hnt
  · exact h1
  · rw [hee] at h1; cases h1.1

def supG : G := .seq .seqOf [c6a, .suppress c6b] {}

/-- `Sentence(SeqOf(a, SuppressError(b)))` on "ac": `b` is tried at offset 1 (global position 2) and fails,
    SuppressError discards the error, nothing else records it — `parse` reports the synthesised "no match
    was found" at offset 0 (global position 1), BEFORE the furthest failing terminal.  (By design of that
    combinator; it is why exactness is stated for suppress-free grammars.) -/
theorem c06_exact_needs_no_suppress :
    (parse (c6Cfg [] [97, 99]) 20 (G.sentence supG)).map (fun r => (r.err, r.st.ctxErr, maxTermFail r.st.log)) =
      some (some ⟨1, .other noMatchMsg⟩, none, 2) := by
  decide +kernel

/-! ### non-vacuity -/

/-- `P → P b | a` (left recursive, memoized, no names), input "abc" -/
def nv6Env : List G := [.memo 0 (.any [.seq .seqOf [.ref 0, c6b] {}, c6a])]
def nv6Cfg : Cfg := c6Cfg nv6Env [97, 98, 99]

theorem nv6_scope : Scope nv6Cfg (.ref 0) :=
  scope_check (by decide)

theorem nv6_unnamed : Unnamed nv6Cfg (.ref 0) ∧ ∀ g' ∈ nv6Cfg.env, Unnamed nv6Cfg g' :=
  all_check (errB_sound nv6Cfg (s := fun _ _ => false) (n := fun _ => false) nofun nofun) (by decide)

/-- the parse of "abc" fails; the model reports "was expecting the end of input" at offset 2 (global
    position 3, f:1:3); the furthest terminal failure is there too -/
theorem nv6_parse : (parse nv6Cfg 40 (G.sentence (.ref 0))).map
      (fun r => (r.err, curtailPositions r.st.log, maxTermFail r.st.log, r.msg)) =
    some (some ⟨3, .other endErrMsg⟩, [1], 3,
      some (tokOf "failed to parse the input: was expecting the end of input at f:1:3")) := by
  decide +kernel

example : (parse nv6Cfg 40 (G.sentence (.ref 0))).map (fun r => (r.err, maxTermFail r.st.log, r.msg)) =
    some (some ⟨3, .other endErrMsg⟩, 3,
      some (tokOf "failed to parse the input: was expecting the end of input at f:1:3")) := by
  have h := congrArg (Option.map fun x => (x.1, x.2.2.1, x.2.2.2)) nv6_parse
  rw [Option.map_map] at h
  exact h

/-- `c06_upper_unnamed_sentence` and `c06_text` apply to it -/
example (r : ParseOut) (e : Err) (h : parse nv6Cfg 40 (G.sentence (.ref 0)) = some r) (he : r.err = some e) :
    ((TF r.st.log e ∧ e.pos ≤ maxTermFail r.st.log) ∨ (e = ⟨nv6Cfg.file.pos 0, .other noMatchMsg⟩ ∧ r.st.ctxErr = none)) ∧
    r.msg = some (failedPrefix ++ e.kind.msg ++ tokOf " at " ++
      tokOf ("f" ++ ":" ++ toString (lineCol nv6Cfg.file.data (e.pos - nv6Cfg.file.offset)).1 ++ ":" ++
        toString (lineCol nv6Cfg.file.data (e.pos - nv6Cfg.file.offset)).2)) :=
  ⟨c06_upper_unnamed_sentence nv6Cfg rfl (.ref 0) nv6_scope nv6_unnamed.1 nv6_unnamed.2 40 r e h he,
   (c06_text nv6Cfg _ (sentence_scope nv6_scope) [{ name := "f", data := [97, 98, 99], offset := 0 }] 0 rfl rfl
      40 r e h he).2.2.2.2 (by decide)⟩

/-- `c06_exact_partial` applies to it: the only curtailment is at the start (global position 1), the furthest
    terminal failure at global position 3 -/
theorem nv6_low : (G.ref 0).All (LocLow nv6Cfg) ∧ ∀ g' ∈ nv6Cfg.env, g'.All (LocLow nv6Cfg) :=
  all_check (lowB_sound nv6Cfg) (by decide)

example (r : ParseOut) (e : Err) (h : parse nv6Cfg 40 (G.sentence (.ref 0)) = some r) (he : r.err = some e) :
    e.pos = maxTermFail r.st.log ∧ TF r.st.log e ∧ e = ⟨3, .other endErrMsg⟩ := by
  have hev := nv6_parse
  rw [h] at hev
  simp only [Option.map_some, Option.some.injEq, Prod.mk.injEq] at hev
  obtain ⟨h1, h2, h3, _⟩ := hev
  rw [he] at h1
  simp only [Option.some.injEq] at h1
  have := c06_exact_partial nv6Cfg rfl (.ref 0) nv6_scope nv6_unnamed.1 nv6_unnamed.2 nv6_low.1 nv6_low.2 40 r e h he
    (by rw [h1]; rfl) (noCurtailBeyond_of_positions (by rw [h2, h3]; decide))
  exact ⟨this.1, this.2, h1⟩

/-- the same grammar with a Name on the alternatives (`P → (P b | a).Name("P")`), input "abc":
    `c06_exact_partial_named` applies, with the name relations computed from the grammar -/
def nv6nEnv : List G := [.memo 0 (.name (.any [.seq .seqOf [.ref 0, c6b] {}, c6a]) [80])]
def nv6nCfg : Cfg := c6Cfg nv6nEnv [97, 98, 99]

theorem nv6n_scope : Scope nv6nCfg (.ref 0) :=
  scope_check (by decide)

theorem nv6n_loc : (G.ref 0).All (LocErr nv6nCfg (fun _ _ => True) (fun _ => True) False) ∧
    ∀ g' ∈ nv6nCfg.env, g'.All (LocErr nv6nCfg (fun _ _ => True) (fun _ => True) False) :=
  all_check (errB_sound nv6nCfg (s := fun _ _ => true) (n := fun _ => true) (fun _ _ _ => trivial) (fun _ _ => trivial))
    (by decide)

theorem nv6n_low : (G.ref 0).All (LocLow nv6nCfg) ∧ ∀ g' ∈ nv6nCfg.env, g'.All (LocLow nv6nCfg) :=
  all_check (lowB_sound nv6nCfg) (by decide)

theorem nv6n_parse : (parse nv6nCfg 40 (G.sentence (.ref 0))).map
      (fun r => (r.err, curtailPositions r.st.log, maxTermFail r.st.log)) =
    some (some ⟨3, .other endErrMsg⟩, [1], 3) := by decide +kernel

example (r : ParseOut) (e : Err) (h : parse nv6nCfg 40 (G.sentence (.ref 0)) = some r) (he : r.err = some e) :
    maxTermFail r.st.log ≤ e.pos ∧
    ((e.pos = maxTermFail r.st.log ∧ TFat r.st.log e.pos) ∨
     (NamedNF (LabelOf nv6nCfg (.ref 0)) e ∧ PureFail nv6nCfg (NameOf nv6nCfg (.ref 0)) r.st.log e.pos)) := by
  have hev := nv6n_parse
  rw [h] at hev
  simp only [Option.map_some, Option.some.injEq, Prod.mk.injEq] at hev
  obtain ⟨h1, h2, h3⟩ := hev
  rw [he] at h1
  simp only [Option.some.injEq] at h1
  have hcan := LocErr_canonical nv6nCfg False (.ref 0) nv6n_loc.1 nv6n_loc.2
  exact c06_exact_partial_named nv6nCfg _ _ rfl (.ref 0) nv6n_scope hcan.1 hcan.2 nv6n_low.1 nv6n_low.2 40 r e h he
    (by rw [h1]; rfl) (noCurtailBeyond_of_positions (by rw [h2, h3]; decide))

/-- `c06_parse_prefers_further` is not vacuous, strict case: `Sentence(SeqOf(Any(SeqOf(a, b, c), a), d))` on
    "abx" — the parser returns "was expecting d" at offset 1, the context error is "was expecting c" at
    offset 2 (recorded when Any returned its result), and `parse` reports the latter -/
def furG : G := .seq .seqOf [.any [.seq .seqOf [c6a, c6b, c6c] {}, c6a], c6d] {}
example : ((run (c6Cfg [] [97, 98, 120]) 20 (G.sentence furG) [] 1 {}).map (fun x => (x.1.err, x.2.ctxErr)),
           (parse (c6Cfg [] [97, 98, 120]) 20 (G.sentence furG)).map (fun r => r.err)) =
    (some (some ⟨2, .notFound [34, 100, 34]⟩, some ⟨3, .notFound [34, 99, 34]⟩),
     some (some ⟨3, .notFound [34, 99, 34]⟩)) := by
  decide +kernel

/-- tie: `Many(a)` then End on "aab" — the returned error is End at offset 2, the context error is `a` at
    offset 2; the returned error stays -/
example : (parse (c6Cfg [] [97, 97, 98]) 20 (G.sentence (.many c6a true {}))).map (fun r => (r.err, r.st.ctxErr)) =
    some (some ⟨3, .other endErrMsg⟩, some ⟨3, .notFound [34, 97, 34]⟩) := by
  decide +kernel

end PV
