/-
  C15P — the C15 set/map laws, about the functions TRANSLATED from the Go source.

  `factgen -out-prog` translates data/intset.go and data/intmap.go, statement by statement, into Lean definitions
  (Generated/FactsProg.lean, regenerated from the repository on every run; run-time: the hand-written
  Generated/ProgPrelude.lean).  `c15_translated_functions` says that the hand-written model (Model/Data.lean) and the
  translation are the same functions on heaps; the remaining theorems carry what Props/C15.lean proves about the
  model over to the translated functions themselves: the value is the specification's (SetSpec: `sInsert`, `sMerge`,
  `mInc`, `mFilter`), sets stay strictly ascending, union is commutative and idempotent, and no operation writes to
  anything that existed before it (`Frame` / `MFrame`: the receiver and every earlier value read the same afterwards).

  Hypotheses, all of them facts the library maintains (C15's `Inv`): a slice is well formed in its heap (`SWF`: it points
  into the heap, len ≤ cap = the array's size); where `sort.SearchInts` is involved (insertValue, Insert) the set is
  strictly ascending — the prelude gives SearchInts its documented meaning, which presupposes that.  Union, Get, clone,
  Inc and Filter are tied unconditionally (well-formedness apart).
-/
import ParsleyVerif.Proofs.ProgTie
import ParsleyVerif.Proofs.DataInv
namespace PV.ProgTie
open PV.ProgPrelude PV.FactsProg

/-- **The tie.**  Every data-package function asked for is translated, and on every well-formed heap the translated
    function ends normally (no panic, fuel suffices) with exactly the model's heap and result. -/
theorem c15_translated_functions (g : Nat → Nat) (h : Data.Heap) (mh : Data.MHeap) :
    dataFunctions.all (fun f => FactsProg.translatedProg.contains f) = true ∧
    (∀ s, IntSet_Len ⟨sl s⟩ ⟨h, mh, g⟩ = .ok (s.len : Int) ⟨h, mh, g⟩) ∧
    (∀ s v, Data.SWF h s → (Data.view h s).Pairwise (· < ·) →
      IntSet_insertValue ⟨sl s⟩ v ⟨h, mh, g⟩ =
        .ok ⟨sl (Data.insertValue g h s v).2⟩ ⟨(Data.insertValue g h s v).1, mh, g⟩) ∧
    (∀ s v, Data.SWF h s → (Data.view h s).Pairwise (· < ·) →
      IntSet_Insert ⟨sl s⟩ v ⟨h, mh, g⟩ = .ok ⟨sl (Data.insert g h s v).2⟩ ⟨(Data.insert g h s v).1, mh, g⟩) ∧
    (∀ s s2, Data.SWF h s → Data.SWF h s2 →
      IntSet_Union ⟨sl s⟩ ⟨sl s2⟩ ⟨h, mh, g⟩ = .ok ⟨sl (Data.union g h s s2).2⟩ ⟨(Data.union g h s s2).1, mh, g⟩) ∧
    (∀ vs, Data.SWF h vs →
      NewIntSet (sl vs) ⟨h, mh, g⟩ =
        .ok ⟨sl (Data.newIntSet g h (Data.view h vs)).2⟩ ⟨(Data.newIntSet g h (Data.view h vs)).1, mh, g⟩) ∧
    (∀ i k, IntMap_Get ⟨some i⟩ k ⟨h, mh, g⟩ = .ok (Data.get mh i k) ⟨h, mh, g⟩) ∧
    (∀ i, IntMap_clone ⟨some i⟩ ⟨h, mh, g⟩ = .ok ⟨some (Data.mclone mh i).2⟩ ⟨h, (Data.mclone mh i).1, g⟩) ∧
    (∀ i k, IntMap_Inc ⟨some i⟩ k ⟨h, mh, g⟩ = .ok ⟨some (Data.inc mh i k).2⟩ ⟨h, (Data.inc mh i k).1, g⟩) ∧
    (∀ i keys, Data.SWF h keys →
      IntMap_Filter ⟨some i⟩ ⟨sl keys⟩ ⟨h, mh, g⟩ =
        .ok ⟨some (Data.filter mh i (Data.view h keys)).2⟩ ⟨h, (Data.filter mh i (Data.view h keys)).1, g⟩) :=
  ⟨tie_data_translated, fun s => tie_Len s _, fun s v w hs => tie_insertValue g h mh s v w hs,
   fun s v w hs => tie_Insert g h mh s v w hs, fun s s2 w w2 => tie_Union g h mh s s2 w w2,
   fun vs wv => tie_NewIntSet g h mh vs wv,
   fun i k => tie_Get h mh g i k, fun i => tie_clone h mh g i, fun i k => tie_Inc h mh g i k,
   fun i keys w => tie_Filter h mh g i keys w⟩

/-- **Insert (translated)** returns a fresh, well-formed set with the specification's value — strictly ascending, the
    old members plus `v` — and never mutates its receiver: every array that existed before (`Frame`), the receiver's
    included, is untouched, cell for cell. -/
theorem c15p_insert (g : Nat → Nat) (h : Data.Heap) (mh : Data.MHeap) (s : Data.Slice) (v : Int)
    (w : Data.SWF h s) (hs : (Data.view h s).Pairwise (· < ·)) :
    ∃ (r : Data.Slice) (h' : Data.Heap),
      IntSet_Insert ⟨sl s⟩ v ⟨h, mh, g⟩ = .ok ⟨sl r⟩ ⟨h', mh, g⟩ ∧
      Data.SWF h' r ∧ Data.view h' r = Data.sInsert (Data.view h s) v ∧
      (Data.view h' r).Pairwise (· < ·) ∧ (∀ x, x ∈ Data.view h' r ↔ x ∈ Data.view h s ∨ x = v) ∧
      Data.Frame h.length h h' ∧ Data.view h' s = Data.view h s := by
  obtain ⟨i1, i2, i3⟩ := Data.insert_spec g h s v w hs
  refine ⟨_, _, tie_Insert g h mh s v w hs, i1, i2, ?_, ?_, i3, i3.view_eq s w.1⟩
  · rw [i2]; exact Data.sInsert_sorted _ _ hs
  · intro x; rw [i2]; exact Data.mem_sInsert _ _ _

/-- **NewIntSet (translated)**, called with a slice reading as `values`, returns a fresh set with the specification's
    value (`sOfList`: the values inserted one by one — strictly ascending, duplicates dropped) and writes to nothing
    that existed, the argument slice included. -/
theorem c15p_newIntSet (g : Nat → Nat) (h : Data.Heap) (mh : Data.MHeap) (vs : Data.Slice) (wv : Data.SWF h vs) :
    ∃ (r : Data.Slice) (h' : Data.Heap),
      NewIntSet (sl vs) ⟨h, mh, g⟩ = .ok ⟨sl r⟩ ⟨h', mh, g⟩ ∧
      Data.SWF h' r ∧ Data.view h' r = Data.sOfList (Data.view h vs) ∧ (Data.view h' r).Pairwise (· < ·) ∧
      Data.Frame h.length h h' ∧ Data.view h' vs = Data.view h vs := by
  obtain ⟨n1, n2, n3⟩ := Data.newIntSet_spec g h (Data.view h vs)
  refine ⟨_, _, tie_NewIntSet g h mh vs wv, n1, n2, ?_, n3, n3.view_eq vs wv.1⟩
  rw [n2]; exact Data.sOfList_sorted _

/-- **Union (translated)** returns the merge of its operands and writes to nothing that existed; on strictly ascending
    operands the result is strictly ascending (sorted, no duplicates) and has exactly the members of both. -/
theorem c15p_union (g : Nat → Nat) (h : Data.Heap) (mh : Data.MHeap) (s s2 : Data.Slice)
    (w : Data.SWF h s) (w2 : Data.SWF h s2) :
    ∃ (r : Data.Slice) (h' : Data.Heap),
      IntSet_Union ⟨sl s⟩ ⟨sl s2⟩ ⟨h, mh, g⟩ = .ok ⟨sl r⟩ ⟨h', mh, g⟩ ∧
      Data.SWF h' r ∧ Data.view h' r = Data.sMerge (Data.view h s) (Data.view h s2) ∧
      Data.Frame h.length h h' ∧ Data.view h' s = Data.view h s ∧ Data.view h' s2 = Data.view h s2 ∧
      ((Data.view h s).Pairwise (· < ·) → (Data.view h s2).Pairwise (· < ·) →
        (Data.view h' r).Pairwise (· < ·) ∧ ∀ x, x ∈ Data.view h' r ↔ x ∈ Data.view h s ∨ x ∈ Data.view h s2) := by
  obtain ⟨u1, u2, u3⟩ := Data.union_spec g h s s2 w w2
  refine ⟨_, _, tie_Union g h mh s s2 w w2, u1, u2, u3, u3.view_eq s w.1, u3.view_eq s2 w2.1, ?_⟩
  intro hs hs2
  rw [u2]
  exact ⟨Data.sMerge_sorted _ _ hs hs2, Data.mem_sMerge _ _⟩

theorem sorted_ext (a b : List Int) (ha : a.Pairwise (· < ·)) (hb : b.Pairwise (· < ·)) (hm : ∀ x, x ∈ a ↔ x ∈ b) : a = b :=
  List.Perm.eq_of_pairwise (fun x y _ _ h1 h2 => by omega) ha hb
    ((List.perm_ext_iff_of_nodup (ha.imp Int.ne_of_lt) (hb.imp Int.ne_of_lt)).mpr hm)

/-- **Union (translated) is commutative and idempotent** on sets (strictly ascending slices): `a ∪ b` and `b ∪ a`
    read the same, and `a ∪ a` reads as `a`. -/
theorem c15p_union_comm_idem (g : Nat → Nat) (h : Data.Heap) (mh : Data.MHeap) (s s2 : Data.Slice)
    (w : Data.SWF h s) (w2 : Data.SWF h s2)
    (hs : (Data.view h s).Pairwise (· < ·)) (hs2 : (Data.view h s2).Pairwise (· < ·)) :
    (∃ r1 h1 r2 h2,
      IntSet_Union ⟨sl s⟩ ⟨sl s2⟩ ⟨h, mh, g⟩ = .ok ⟨sl r1⟩ ⟨h1, mh, g⟩ ∧
      IntSet_Union ⟨sl s2⟩ ⟨sl s⟩ ⟨h, mh, g⟩ = .ok ⟨sl r2⟩ ⟨h2, mh, g⟩ ∧
      Data.view h1 r1 = Data.view h2 r2) ∧
    (∃ r h', IntSet_Union ⟨sl s⟩ ⟨sl s⟩ ⟨h, mh, g⟩ = .ok ⟨sl r⟩ ⟨h', mh, g⟩ ∧ Data.view h' r = Data.view h s) := by
  obtain ⟨r1, h1, e1, _, _, _, _, _, p1⟩ := c15p_union g h mh s s2 w w2
  obtain ⟨r2, h2, e2, _, _, _, _, _, p2⟩ := c15p_union g h mh s2 s w2 w
  obtain ⟨r3, h3, e3, _, _, _, _, _, p3⟩ := c15p_union g h mh s s w w
  obtain ⟨a1, m1⟩ := p1 hs hs2
  obtain ⟨a2, m2⟩ := p2 hs2 hs
  obtain ⟨a3, m3⟩ := p3 hs hs
  refine ⟨⟨r1, h1, r2, h2, e1, e2, sorted_ext _ _ a1 a2 ?_⟩, ⟨r3, h3, e3, sorted_ext _ _ a3 hs ?_⟩⟩
  · intro x; rw [m1, m2]; exact Or.comm
  · intro x; rw [m3]; exact or_self_iff

/-- **Inc (translated)** returns a fresh map holding the specification's value (`mInc`: the count of `k` one up, or 1),
    keys still ascending, and changes no map that existed (`MFrame`), the receiver included; the slice heap is
    untouched. -/
theorem c15p_inc (g : Nat → Nat) (h : Data.Heap) (mh : Data.MHeap) (i : Nat) (k : Int)
    (hs : Data.MSorted (Data.mobj mh i)) :
    ∃ (mh' : Data.MHeap),
      IntMap_Inc ⟨some i⟩ k ⟨h, mh, g⟩ = .ok ⟨some mh.length⟩ ⟨h, mh', g⟩ ∧
      Data.mobj mh' mh.length = Data.mInc (Data.mobj mh i) k ∧ Data.MSorted (Data.mobj mh' mh.length) ∧
      Data.MFrame mh mh' ∧ (i < mh.length → Data.mobj mh' i = Data.mobj mh i) := by
  obtain ⟨j1, j2, j3, _⟩ := Data.inc_spec mh i k hs
  refine ⟨_, ?_, j2, ?_, j3, fun hi => j3.2 i hi⟩
  · rw [tie_Inc, j1]
  · rw [j2]; exact Data.mInc_sorted _ _ hs

/-- **Filter (translated)** returns a fresh map holding the specification's value (`mFilter`: the entries whose key is in
    the set), keys ascending, and changes no map that existed. -/
theorem c15p_filter (g : Nat → Nat) (h : Data.Heap) (mh : Data.MHeap) (i : Nat) (keys : Data.Slice)
    (hi : i < mh.length) (w : Data.SWF h keys) :
    ∃ (mh' : Data.MHeap),
      IntMap_Filter ⟨some i⟩ ⟨sl keys⟩ ⟨h, mh, g⟩ = .ok ⟨some mh.length⟩ ⟨h, mh', g⟩ ∧
      Data.mobj mh' mh.length = Data.mFilter (Data.mobj mh i) (Data.view h keys) ∧
      Data.MSorted (Data.mobj mh' mh.length) ∧ Data.MFrame mh mh' ∧ Data.mobj mh' i = Data.mobj mh i := by
  obtain ⟨j1, j2, j3, _⟩ := Data.filter_spec mh i hi (Data.view h keys)
  refine ⟨_, ?_, j2, ?_, j3, j3.2 i hi⟩
  · rw [tie_Filter h mh g i keys w, j1]
  · rw [j2]; exact Data.mFilter_sorted _ _

/-- **Get (translated)** reads the stored value, 0 for an absent key, and changes nothing. -/
theorem c15p_get (g : Nat → Nat) (h : Data.Heap) (mh : Data.MHeap) (i : Nat) (k : Int) :
    IntMap_Get ⟨some i⟩ k ⟨h, mh, g⟩ = .ok ((Data.mget (Data.mobj mh i) k).getD 0) ⟨h, mh, g⟩ :=
  tie_Get h mh g i k

/-- non-vacuity: the translated functions run on a concrete heap (a set with spare capacity, so an in-place append is
    possible; a shared map), evaluated by the kernel -/
theorem c15p_example :
    let st : St := { arrays := [[1, 3, 5, 0], [2, 3, 6]], maps := [[(1, 2), (4, 1)]], grow := fun c => 2 * c + 1 }
    let a : IntSet := ⟨{ arr := 0, off := 0, len := 3, cap := 4 }⟩
    let b : IntSet := ⟨{ arr := 1, off := 0, len := 3, cap := 3 }⟩
    (match IntSet_Insert a 4 st with | .ok r st' => (view st' r.data, view st' a.data) | _ => ([], [])) = ([1, 3, 4, 5], [1, 3, 5]) ∧
    (match IntSet_Union a b st with | .ok r st' => (view st' r.data, st'.arrays.take 2) | _ => ([], [])) =
      ([1, 2, 3, 5, 6], [[1, 3, 5, 0], [2, 3, 6]]) ∧
    (match IntMap_Inc ⟨some 0⟩ 4 st with | .ok _ st' => st'.maps | _ => []) = [[(1, 2), (4, 1)], [(1, 2), (4, 2)]] ∧
    (match IntMap_Filter ⟨some 0⟩ a st with | .ok _ st' => st'.maps | _ => []) = [[(1, 2), (4, 1)], [(1, 2)]] := by
  decide +kernel

end PV.ProgTie
