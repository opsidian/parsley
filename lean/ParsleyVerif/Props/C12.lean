/-
  C12 — Parsing is invariant under the file's placement in a file set.

  Model: ParsleyVerif/Model/Text.lean, Terminal.lean, Run.lean.  Definitions: ParsleyVerif/Spec/Shift.lean
  (`shiftFile b f` = the file `f` as it is after `SetOffset(f.offset + b)`; `X.shift b` = `X` with `b` added
  to every position it stores and nothing else changed).
  Proofs: ParsleyVerif/Proofs/ShiftPrims.lean (primitives, terminals), ShiftRun.lean (the parser core),
  ShiftGE.lean (no position below the base offset; parsley.Parse), ShiftFileSet.lean (FileSet.Position).

  Domain.  No theorem needs `f.offset ≤ pos`: every primitive computes `cur = pos - offset`, and
  `(pos + b) - (offset + b) = pos - offset` also below the base offset (the model answers `none` = the Go
  cursor is negative, on both sides alike).  What IS needed, and only by SkipWhitespaces and the two
  trim combinators built on it, is `1 ≤ f.offset`: `nlPos == 0` is the "no line break yet" sentinel, and
  with base offset 0 a line break in the very first byte has position 0 (`c12_sentinel`,
  `c12_run_sentinel`).  NewFileSet starts at 1 and NewFile sets offset 1 (`c12_facts`), so offset 0 is
  not reachable through the library.
-/
import ParsleyVerif.Proofs.ShiftGE
import ParsleyVerif.Proofs.ShiftFileSet
namespace PV
open PV.Text

/-- **reader primitives**: on the file placed `b` positions later, asked at the position `b` later, every
    primitive answers the same flag / value / length at a position `b` later.  Remaining and IsEOF answer
    the same. -/
theorem c12_prims (b : Nat) (f : File) (pos : Nat) :
    (∀ ch, readRune (shiftFile b f) (pos + b) ch = (readRune f pos ch).map (shiftP b)) ∧
    (∀ str, matchString (shiftFile b f) (pos + b) str = (matchString f pos str).map (shiftP b)) ∧
    (∀ word, matchWord (shiftFile b f) (pos + b) word = (matchWord f pos word).map (shiftP b)) ∧
    (∀ engine, readRegexp engine (shiftFile b f) (pos + b) = (readRegexp engine f pos).map (shiftP b)) ∧
    (∀ fn, readf fn (shiftFile b f) (pos + b) = (readf fn f pos).map (shiftP b)) ∧
    remaining (shiftFile b f) (pos + b) = remaining f pos ∧
    isEOF (shiftFile b f) (pos + b) = isEOF f pos ∧
    (1 ≤ f.offset → ∀ mode, skipWhitespaces (shiftFile b f) (pos + b) mode = shiftWs b (skipWhitespaces f pos mode)) :=
  ⟨readRune_shift b f pos, matchString_shift b f pos, matchWord_shift b f pos,
   fun e => readRegexp_shift e b f pos, fun fn => readf_shift fn b f pos,
   remaining_shift b f pos, isEOF_shift b f pos, fun h m => skipWhitespaces_shift b f pos m h⟩

/-- the hypothesis `1 ≤ f.offset` of the SkipWhitespaces clause cannot be dropped: a file at base offset 0
    starting with a line break, mode "a new line is required" — at offset 0 the line break is not seen
    (its position is the sentinel), one position later it is -/
theorem c12_sentinel :
    let f : File := { name := "", data := [10], offset := 0 }
    skipWhitespaces f 0 .forceNl = (1, some (1, .forceNlErr)) ∧
    skipWhitespaces (shiftFile 1 f) (0 + 1) .forceNl = (2, none) ∧
    skipWhitespaces (shiftFile 1 f) (0 + 1) .forceNl ≠ shiftWs 1 (skipWhitespaces f 0 .forceNl) := by
  decide

/-- **terminals**: every terminal parser, any parameters -/
theorem c12_terminal (P : Params) (b : Nat) (f : File) (t : Terminal) (pos : Nat) :
    Terminal.parse P (shiftFile b f) t (pos + b) = (Terminal.parse P f t pos).shift b :=
  Terminal.parse_shift P b f t pos

/-- **the parser core**: every grammar (all sixteen constructors of `G`, any grammar table), every
    left-recursion context, every position, every context state (result cache, furthest error, call count,
    ghost fields), every fuel: the run on the shifted file from the shifted state returns the shifted
    outcome and the shifted state — same fuel, same `none`/`some`, same call count, same curtailing
    parsers, same cache keys up to the shift. -/
theorem c12_run (b : Nat) (cfg : Cfg) (hoff : 1 ≤ cfg.file.offset) (fuel : Nat) (g : G) (ctx : Ctx) (pos : Nat) (st : St) :
    run (shiftCfg b cfg) fuel g ctx (pos + b) (st.shift b) =
      (run cfg fuel g ctx pos st).map (fun (o, st') => (o.shift b, st'.shift b)) :=
  run_shift b cfg (wsShift_of_offset b cfg.file hoff) fuel g ctx pos st

/-- what is observable besides the trees: the call count and the curtailing parsers are the same -/
theorem c12_run_calls (b : Nat) (cfg : Cfg) (hoff : 1 ≤ cfg.file.offset) (fuel : Nat) (g : G) (ctx : Ctx) (pos : Nat) (st : St) :
    (run (shiftCfg b cfg) fuel g ctx (pos + b) (st.shift b)).map (fun r => (r.1.cp, r.2.calls)) =
      (run cfg fuel g ctx pos st).map (fun r => (r.1.cp, r.2.calls)) := by
  rw [c12_run b cfg hoff]
  cases run cfg fuel g ctx pos st <;> rfl

/-- `c12_run` without the hypothesis is false, through a trim: base offset 0, input "\n",
    `LeftTrim(Empty, WsSpacesForceNl)` -/
theorem c12_run_sentinel :
    let cfg : Cfg := { env := [], file := { name := "", data := [10], offset := 0 }, fileSet := {},
                       params := { floatOk := fun _ => true, durErr := fun _ => none, regexp := fun _ _ => none } }
    let g : G := .ltrim .empty .forceNl
    run (shiftCfg 1 cfg) 2 g [] (0 + 1) (St.shift 1 {}) ≠
      (run cfg 2 g [] 0 {}).map (fun (o, st') => (o.shift 1, st'.shift 1)) := by
  intro cfg g h
  have := congrArg (fun r => r.map (fun x => x.1.err)) h
  revert this
  decide

/-- nothing the parser core produces lies below the base offset (needed to compare rendered locations:
    the position of the reported error is one of the file's own) -/
theorem c12_positions (cfg : Cfg) (fuel : Nat) (g : G) (ctx : Ctx) (pos : Nat) (st : St) (o : Out) (st' : St)
    (hpos : cfg.file.offset ≤ pos) (hst : st.posGE cfg.file.offset)
    (h : run cfg fuel g ctx pos st = some (o, st')) :
    o.posGE cfg.file.offset ∧ st'.posGE cfg.file.offset :=
  run_ge cfg hpos hst h

/-- **parsley.Parse**: `fs'` is a file set in which the shifted file renders every one of its positions as
    `cfg.fileSet` renders the corresponding position of the file; then Parse on the shifted file returns the
    shifted tree / the shifted error, the shifted context, and literally the same error text. -/
theorem c12_parse (b : Nat) (cfg : Cfg) (fs' : FileSet) (fuel : Nat) (g : G) (hoff : 1 ≤ cfg.file.offset)
    (hfs : ∀ p, cfg.file.offset ≤ p → fs'.position (p + b) = cfg.fileSet.position p) :
    parse (shiftCfg' b fs' cfg) fuel g = (parse cfg fuel g).map (ParseOut.shift b) :=
  parse_shift b cfg fs' fuel g {} (wsShift_of_offset b cfg.file hoff) (st_default_ge _) hfs

/-- the same from any context state that holds no position below the base offset -/
theorem c12_parse_st (b : Nat) (cfg : Cfg) (fs' : FileSet) (fuel : Nat) (g : G) (st : St) (hoff : 1 ≤ cfg.file.offset)
    (hst : st.posGE cfg.file.offset)
    (hfs : ∀ p, cfg.file.offset ≤ p → fs'.position (p + b) = cfg.fileSet.position p) :
    parse (shiftCfg' b fs' cfg) fuel g (st.shift b) = (parse cfg fuel g st).map (ParseOut.shift b) :=
  parse_shift b cfg fs' fuel g st (wsShift_of_offset b cfg.file hoff) hst hfs

/-- the error text is the same byte string -/
theorem c12_parse_msg (b : Nat) (cfg : Cfg) (fs' : FileSet) (fuel : Nat) (g : G) (hoff : 1 ≤ cfg.file.offset)
    (hfs : ∀ p, cfg.file.offset ≤ p → fs'.position (p + b) = cfg.fileSet.position p) :
    (parse (shiftCfg' b fs' cfg) fuel g).map (·.msg) = (parse cfg fuel g).map (·.msg) := by
  rw [c12_parse b cfg fs' fuel g hoff hfs]
  cases parse cfg fuel g <;> rfl

/-- what that text is: the prefix, the message of the error kind (kinds carry no positions) and, when the
    file set knows the position, " at " and the rendered `file:line:column` -/
theorem c12_parse_msg_form (cfg : Cfg) (fuel : Nat) (g : G) (st : St) (r : ParseOut) (e : Err)
    (h : parse cfg fuel g st = some r) (he : r.err = some e) :
    r.msg = some (failedPrefix ++ errorWithPosition cfg.fileSet e) ∧
    (cfg.fileSet.position e.pos ≠ .unknown →
      errorWithPosition cfg.fileSet e = e.kind.msg ++ tokOf " at " ++ tokOf (cfg.fileSet.position e.pos).render) :=
  parse_msg_form cfg fuel g st r e h he

/-- **file sets**: the hypothesis of `c12_parse` holds for the file sets the library builds.  The same
    file added to a file set `fs0` and to a file set `fs0'` whose next free position is further on: the
    second copy is the first one shifted by the difference, and FileSet.Position renders every position of
    the file (from its base offset on) identically. -/
theorem c12_fileSet (fs0 fs0' : FileSet) (h : fs0.WF) (h' : fs0'.WF) (f : File) (hle : fs0.pos ≤ fs0'.pos) :
    (fs0'.addFile f).2 = shiftFile (fs0'.pos - fs0.pos) (fs0.addFile f).2 ∧
    ∀ p, (fs0.addFile f).2.offset ≤ p →
      (fs0'.addFile f).1.position (p + (fs0'.pos - fs0.pos)) = (fs0.addFile f).1.position p :=
  FileSet.addFile_shift fs0 fs0' h h' f hle

/-- the file sets in question: NewFileSet(), and whatever AddFile makes of one -/
theorem c12_fileSet_wf : FileSet.WF {} ∧ ∀ (fs : FileSet) (f : File), fs.WF → (fs.addFile f).1.WF :=
  ⟨FileSet.WF_empty, fun fs f h => FileSet.WF_addFile fs h f⟩

/-- **the property, end to end**: a file added alone to a new file set, and the same file added to a file
    set that already holds arbitrary other files; `cfg` is any parser configuration on the first.  Parse
    on the second returns the trees, errors and context shifted by the difference of the base offsets and
    the same error text. -/
theorem c12_parse_placed (fs0' : FileSet) (h' : fs0'.WF) (f : File) (cfg : Cfg) (fuel : Nat) (g : G)
    (hfile : cfg.file = ((({} : FileSet).addFile f).2)) (hset : cfg.fileSet = (({} : FileSet).addFile f).1) :
    parse { cfg with file := (fs0'.addFile f).2, fileSet := (fs0'.addFile f).1 } fuel g =
      (parse cfg fuel g).map (ParseOut.shift (fs0'.pos - Facts.fileSetFirstPos)) := by
  have hle : ({} : FileSet).pos ≤ fs0'.pos := h'.pos
  have hfs := c12_fileSet {} fs0' FileSet.WF_empty h' f hle
  have hoff : 1 ≤ cfg.file.offset := by rw [hfile]; exact Nat.le_refl 1
  have := c12_parse (fs0'.pos - Facts.fileSetFirstPos) cfg (fs0'.addFile f).1 fuel g hoff
    (by intro p hp; rw [hset]; rw [hfile] at hp; exact hfs.2 p hp)
  rw [← this]
  unfold shiftCfg'
  rw [hfs.1, hfile]

/-- the constants the model takes from the source (regenerated on every run).  Remaining, IsEOF and
    SkipWhitespaces are translated from text/reader.go on every run of the check, and the model is proved to agree
    with the translation in Props/C10P.lean (`c10_translated_functions`). -/
theorem c12_facts :
    Facts.fileSetFirstPos = 1 ∧ Facts.fileSetGap = 1 ∧ Facts.newFileOffset = 1 :=
  ⟨rfl, rfl, rfl⟩

/-- "a \nb c" -/
def c12Data : Bytes := [97, 32, 10, 98, 32, 99]
def c12Params : Params := { floatOk := fun _ => true, durErr := fun _ => none, regexp := fun _ _ => none }
def c12File (off : Nat) : File := { name := "t", data := c12Data, offset := off }
def c12Cfg (off : Nat) : Cfg := { env := [], file := c12File off, fileSet := {}, params := c12Params }
def c12Tok : G := .any [.term (.rune 97 [39, 97, 39]), .term (.rune 98 [39, 98, 39]), .term (.rune 99 [39, 99, 39])]
/-- memoized tokens, each followed by white space (line breaks allowed), then the end of the input -/
def c12G : G := G.sentence (.many (.memo 0 (.rtrim c12Tok .spacesNl)) false {})
/-- the same where a line break after a token is an error -/
def c12G' : G := G.sentence (.many (.memo 0 (.rtrim c12Tok .spaces)) false {})

example : shiftFile 7 (c12File 1) = c12File 8 := rfl
/-- the primitives at base offsets 1 and 8 -/
example : skipWhitespaces (c12File 1) 2 .spaces = (4, some (3, .spacesErr)) ∧
    skipWhitespaces (c12File 8) 9 .spaces = (11, some (10, .spacesErr)) ∧
    readRune (c12File 1) 4 98 = some (5, true) ∧ readRune (c12File 8) 11 98 = some (12, true) ∧
    remaining (c12File 1) 4 = 3 ∧ remaining (c12File 8) 11 = 3 := by decide +kernel
/-- a run of the whole core (sequence, many, memoization, any, right trim, terminals, end of input) at the
    two offsets: it succeeds, the tree spans positions 1–7 resp. 8–14, 18 parser calls both times … -/
example : (run (c12Cfg 1) 20 c12G [] 1 {}).map (fun r => (r.1.res.alts.map Node.pos, r.1.res.alts.map Node.rpos, r.2.calls))
      = some ([1], [7], 18) ∧
    (run (c12Cfg 8) 20 c12G [] 8 {}).map (fun r => (r.1.res.alts.map Node.pos, r.1.res.alts.map Node.rpos, r.2.calls))
      = some ([8], [14], 18) := by decide +kernel
/-- … and the two outcomes (trees, cache, furthest error, log) are each other's shift, by evaluation -/
example : run (c12Cfg 8) 20 c12G [] 8 {} = (run (c12Cfg 1) 20 c12G [] 1 {}).map (shiftOS 7) := by rfl
/-- an input that fails with a positioned white space error, at the two offsets -/
example : (run (c12Cfg 1) 20 c12G' [] 1 {}).map (·.1.err) = some (some ⟨3, .ws .spacesErr⟩) ∧
    (run (c12Cfg 8) 20 c12G' [] 8 {}).map (·.1.err) = some (some ⟨10, .ws .spacesErr⟩) := by decide +kernel

/-- Parse with real file sets: the file added alone (base offset 1), and added after another file of six
    bytes (base offset 8) -/
def c12Alone : FileSet × File := ({} : FileSet).addFile (newFile "t" c12Data)
def c12Other : FileSet := (({} : FileSet).addFile (newFile "other" [1, 2, 3, 4, 5, 6])).1
def c12Placed : FileSet × File := c12Other.addFile (newFile "t" c12Data)
def c12CfgA : Cfg := { env := [], file := c12Alone.2, fileSet := c12Alone.1, params := c12Params }
def c12CfgP : Cfg := { env := [], file := c12Placed.2, fileSet := c12Placed.1, params := c12Params }

example : c12Alone.2.offset = 1 ∧ c12Placed.2.offset = 8 ∧ c12Other.WF := by
  refine ⟨rfl, rfl, FileSet.WF_addFile _ FileSet.WF_empty _⟩
/-- the reported error is 7 positions apart, the text is the same and names line 1, column 3 -/
example : (parse c12CfgA 20 c12G').map (fun r => (r.err, r.msg)) =
      some (some ⟨3, .ws .spacesErr⟩, some (tokOf "failed to parse the input: new line is not allowed at t:1:3")) ∧
    (parse c12CfgP 20 c12G').map (fun r => (r.err, r.msg)) =
      some (some ⟨10, .ws .spacesErr⟩, some (tokOf "failed to parse the input: new line is not allowed at t:1:3")) := by
  decide +kernel
/-- `c12_parse_placed` applies to this pair -/
example : parse c12CfgP 20 c12G' = (parse c12CfgA 20 c12G').map (ParseOut.shift 7) :=
  c12_parse_placed c12Other (FileSet.WF_addFile _ FileSet.WF_empty _) (newFile "t" c12Data) c12CfgA 20 c12G' rfl rfl

end PV
