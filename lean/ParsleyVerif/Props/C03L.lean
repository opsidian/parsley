/-
  C03, the syntactic link — "… for all LEFT-RECURSION-FREE grammars".

  Props/C03.lean proves transparency and once-per-position under two hypotheses on the ghost log of the run
  (`NoCurtail`, `NoReentry`).  Here: for every grammar accepted by the DECIDABLE certificate check
  `lrf cert env g` (Spec/LRF.lean — the C02 check `wf`, a table `lm` of the Memoize indexes each rule can
  enter at its start position, closed under left references, and at every Memoize node `memo i b`:
  `i ∉ lrfMemos b`), both hypotheses hold of every run from a fresh context:

  * `c03_lrf_no_reentry`   — `NoCurtail st'.log ∧ NoReentry st'.log`, for every input file, every position of
                             it, every fuel for which `run` answers, EVERY work budget, ghost log on or off;
  * `c03_transparent_lrf`, `c03_transparent_parse_lrf`, `c03_once_lrf`, `c03_completed_is_cached_lrf`
                           — the theorems of Props/C03.lean with the syntactic hypothesis only;
  * `c03_lrf_auto`         — the same with the certificate COMPUTED (`lrfAuto`, what the driver command
                             `lrfcheck` answers and the harness stream C03L compares with the generator's
                             notion of left-recursion-free);
  * `c03l_lrf_wf`          — `lrf → wf`.

  Scope (`C03LScope`, that of C02T without the budget clause): the combinator set without the whitespace
  trims, terminals that behave (`TermGood`) and never match the empty lexeme (`TermCons`).  The trims are
  excluded because the positional invariant and the soundness of `mayBeEmpty` this proof stands on
  (`run_pos`, `run_cons`) are stated without them.

  A rank that strictly decreases along every left reference, under a Memoize or not, does not ALONE imply
  `NoReentry` for the model's grammars, whose Memoize indexes are arbitrary numbers:
  `c03l_rank_alone_insufficient`.  `lrf` uses the reachable Memoize indexes instead of ranks; together with `wf`
  it excludes every left cycle (a left cycle passes a Memoize by `wf`, whose operand then reaches its own
  index), and it is what the generator's acyclicity test
  decides on every grammar `combinator.Memoize` can build (stream C03L: verdicts equal on all cases).

  Proof: Proofs/LRFRun.lean (`run_lrf`: invariant `Disj` + `CtxExact` + `Clean` by induction on fuel;
  `run_noBudget`: an answer under a work budget is an answer without one).
-/
import ParsleyVerif.Proofs.LRFRun
import ParsleyVerif.Props.C02T
import ParsleyVerif.Props.C03
namespace PV
open PV.Text

/-- the grammars the theorem speaks about: no whitespace trims, terminals in scope (as `C02Scope`, any budget) -/
structure C03LScope (cfg : Cfg) (g : G) : Prop where
  root : g.Core (TermOK cfg)
  env : ∀ g' ∈ cfg.env, g'.Core (TermOK cfg)

namespace LRF

theorem lrfLocalList_iff (c : LRFCert) : ∀ gs : List G, lrfLocalList c gs = true ↔ ∀ g ∈ gs, lrfLocal c g = true
  | [] => by simp [lrfLocalList]
  | g :: gs => by simp only [lrfLocalList, Bool.and_eq_true, List.forall_mem_cons, lrfLocalList_iff c gs]

theorem lrfLocal_kids (c : LRFCert) (g : G) (h : lrfLocal c g = true) :
    LrfP c g ∧ ∀ k ∈ g.kids, lrfLocal c k = true := by
  cases g <;> simp_all [lrfLocal, G.kids, LrfP, lrfLocalList_iff]

theorem lrfLocal_all (c : LRFCert) : ∀ g : G, lrfLocal c g = true → g.All (LrfP c) :=
  G.induct fun g ih h =>
    G.All_kids.mpr ⟨(lrfLocal_kids c g h).1, fun k hk => ih k hk ((lrfLocal_kids c g h).2 k hk)⟩

theorem lrfLocalList_all (c : LRFCert) : ∀ gs : List G, lrfLocalList c gs = true → AllList (LrfP c) gs :=
  fun gs h => AllList_iff.mpr fun g hg => lrfLocal_all c g ((lrfLocalList_iff c gs).mp h g hg)

theorem lrf_parts (c : LRFCert) (env : List G) (root : G) (h : lrf c env root = true) :
    wf c.wf env root = true ∧ lrfLocal c root = true ∧
    ∀ k g, env[k]? = some g → lrfLocal c g = true ∧ ∀ i ∈ lrfMemos c g, i ∈ c.lm k := by
  simp only [lrf, Bool.and_eq_true, List.all_eq_true, List.mem_range] at h
  refine ⟨h.1.1, h.1.2, fun k g hk => ?_⟩
  have := h.2 k (List.getElem?_eq_some_iff.mp hk).1
  simp only [hk, lrfRule, Bool.and_eq_true, List.all_eq_true, List.contains_eq_mem, decide_eq_true_eq] at this
  exact this

theorem scope_noBudget {cfg : Cfg} {g : G} (hs : C03LScope cfg g) : C02Scope (noBudget cfg) g :=
  ⟨G.Core_mono (fun _ h => h) g hs.root, fun g' hg' => G.Core_mono (fun _ h => h) g' (hs.env g' hg'), rfl⟩

theorem envLRF_of_lrf (c : LRFCert) (cfg : Cfg) (g : G) (hlrf : lrf c cfg.env g = true) (hs : C03LScope cfg g) :
    EnvLRF c (noBudget cfg) ∧ GWF c.wf (noBudget cfg) g ∧ g.All (LrfP c) := by
  obtain ⟨hwf, hroot, hrules⟩ := lrf_parts c cfg.env g hlrf
  obtain ⟨henv, hg⟩ := EnvOK_of_wf c.wf (noBudget cfg) g hwf (scope_noBudget hs)
  refine ⟨⟨henv, ?_, fun k g' hk => (hrules k g' hk).2⟩, hg, lrfLocal_all c g hroot⟩
  intro g' hg'
  have hg'' : g' ∈ cfg.env := hg'
  obtain ⟨k, hk, hkg⟩ := List.getElem_of_mem hg''
  have hk' : cfg.env[k]? = some g' := by rw [List.getElem?_eq_getElem hk, hkg]
  exact lrfLocal_all c g' (hrules k g' hk').1

theorem lpre_initial (c : LRFCert) (cfg : Cfg) (g : G) (pos : Nat) (hin : InFile cfg.file pos) :
    LPre c cfg g [] pos {} := by
  refine ⟨⟨.fresh hin, (by intro e he; cases he)⟩,
    (by intro a ha; cases ha), (fun _ => rfl), ⟨(by intro i p hm; cases hm), (by intro i p d hm; cases hm)⟩⟩

end LRF

open LRF

theorem c03l_lrf_wf (cert : LRFCert) (env : List G) (g : G) (h : lrf cert env g = true) : wf cert.wf env g = true :=
  (lrf_parts cert env g h).1

def c03l_lrf_decidable (cert : LRFCert) (env : List G) (g : G) : Decidable (lrf cert env g = true) := inferInstance

/-- **C03, left-recursion-free ⇒ the hypotheses of Props/C03.lean.**  In a grammar accepted by the
    certificate, a parse from a fresh context — at any position of the file, with any fuel that answers, under
    any work budget, with the ghost log on or off — curtails nothing and never starts a memoized body while
    that body is running at the same position. -/
theorem c03_lrf_no_reentry (cert : LRFCert) (cfg : Cfg) (g : G)
    (hlrf : lrf cert cfg.env g = true) (hscope : C03LScope cfg g)
    (fuel pos : Nat) (hin : InFile cfg.file pos) (o : Out) (st' : St)
    (h : run cfg fuel g [] pos {} = some (o, st')) :
    NoCurtail st'.log ∧ NoReentry st'.log := by
  obtain ⟨henv, hg, hall⟩ := envLRF_of_lrf cert cfg g hlrf hscope
  exact run_lrf cert (noBudget cfg) henv fuel g [] pos {} o st' hg hall
    (lpre_initial cert (noBudget cfg) g pos hin) (run_noBudget cfg fuel g [] pos {} (o, st') h)

/-- … and more generally from every state the invariant describes (the states a parse of such a grammar can
    be in: `LPre` is what every sub-call of the run above starts in) -/
theorem c03_lrf_no_reentry_from (cert : LRFCert) (cfg : Cfg) (g : G)
    (hlrf : lrf cert cfg.env g = true) (hscope : C03LScope cfg g)
    (fuel : Nat) (ctx : Ctx) (pos : Nat) (st : St) (hpre : LPre cert (noBudget cfg) g ctx pos st) (o : Out) (st' : St)
    (h : run cfg fuel g ctx pos st = some (o, st')) :
    NoCurtail st'.log ∧ NoReentry st'.log := by
  obtain ⟨henv, hg, hall⟩ := envLRF_of_lrf cert cfg g hlrf hscope
  exact run_lrf cert (noBudget cfg) henv fuel g ctx pos st o st' hg hall hpre
    (run_noBudget cfg fuel g ctx pos st (o, st') h)

theorem c03l_inFile_start (cfg : Cfg) : InFile cfg.file (cfg.file.pos 0) :=
  pos0_inFile cfg.file

/-- … for `parsley.Parse` -/
theorem c03_lrf_no_reentry_parse (cert : LRFCert) (cfg : Cfg) (g : G)
    (hlrf : lrf cert cfg.env g = true) (hscope : C03LScope cfg g)
    (fuel : Nat) (p : ParseOut) (h : parse cfg fuel g = some p) :
    NoCurtail p.st.log ∧ NoReentry p.st.log := by
  obtain ⟨o, st1, hr, hst, _⟩ := parse_view h
  rw [hst]
  exact c03_lrf_no_reentry cert cfg g hlrf hscope fuel _ (c03l_inFile_start cfg) o st1 hr

/-- **C03 transparency for left-recursion-free grammars**: wrapping any sub-parsers in Memoize changes
    nothing observable except the call count, which does not increase (`c03_transparent` with `NoCurtail`
    discharged by the certificate) -/
theorem c03_transparent_lrf (cert : LRFCert) (cfg : Cfg) (bodyOf : Nat → G) (hgh : cfg.ghost = true)
    (henv : ∀ g' ∈ cfg.env, MemoWF bodyOf g') (g : G) (hg : MemoWF bodyOf g)
    (hlrf : lrf cert cfg.env g = true) (hscope : C03LScope cfg g)
    (f f0 : Nat) (pos : Nat) (hin : InFile cfg.file pos) (o o0 : Out) (st' st0' : St)
    (h : run cfg f g [] pos {} = some (o, st'))
    (h0 : run (stripCfg cfg) f0 (stripAll g) [] pos {} = some (o0, st0')) :
    o.res = o0.res ∧ o.err = o0.err ∧ o.cp = [] ∧
    st'.ctxErr.map Err.pos = st0'.ctxErr.map Err.pos ∧ st'.calls ≤ st0'.calls :=
  c03_transparent cfg bodyOf hgh henv g hg f f0 pos o o0 st' st0' h h0
    (c03_lrf_no_reentry cert cfg g hlrf hscope f pos hin o st' h).1

/-- … and for `parsley.Parse`: the same node, or an error at the same position -/
theorem c03_transparent_parse_lrf (cert : LRFCert) (cfg : Cfg) (bodyOf : Nat → G) (hgh : cfg.ghost = true)
    (henv : ∀ g' ∈ cfg.env, MemoWF bodyOf g') (g : G) (hg : MemoWF bodyOf g)
    (hlrf : lrf cert cfg.env g = true) (hscope : C03LScope cfg g)
    (f f0 : Nat) (p p0 : ParseOut)
    (h : parse cfg f g = some p) (h0 : parse (stripCfg cfg) f0 (stripAll g) = some p0) :
    p.res = p0.res ∧ p.err.map Err.pos = p0.err.map Err.pos ∧ p.st.calls ≤ p0.st.calls :=
  c03_transparent_parse cfg bodyOf hgh henv g hg f f0 p p0 h h0
    (c03_lrf_no_reentry_parse cert cfg g hlrf hscope f p h).1

/-- **C03 once per position for left-recursion-free grammars** -/
theorem c03_once_lrf (cert : LRFCert) (cfg : Cfg) (hgh : cfg.ghost = true) (g : G)
    (hlrf : lrf cert cfg.env g = true) (hscope : C03LScope cfg g)
    (fuel pos : Nat) (hin : InFile cfg.file pos) (o : Out) (st' : St)
    (h : run cfg fuel g [] pos {} = some (o, st')) :
    ∀ idx p, bodyRuns st'.log idx p ≤ 1 :=
  have hc := c03_lrf_no_reentry cert cfg g hlrf hscope fuel pos hin o st' h
  c03_once cfg hgh fuel g [] pos o st' h hc.1 hc.2

/-- … because a body that has run answers every later lookup from the cache, whatever the context -/
theorem c03_completed_is_cached_lrf (cert : LRFCert) (cfg : Cfg) (hgh : cfg.ghost = true) (g : G)
    (hlrf : lrf cert cfg.env g = true) (hscope : C03LScope cfg g)
    (fuel pos : Nat) (hin : InFile cfg.file pos) (o : Out) (st' : St)
    (h : run cfg fuel g [] pos {} = some (o, st')) (idx p : Nat) (hb : bodyRuns st'.log idx p = 1) (ctx' : Ctx) :
    ∃ e, cacheGet st'.cache idx p ctx' = some e :=
  have hc := c03_lrf_no_reentry cert cfg g hlrf hscope fuel pos hin o st' h
  c03_completed_is_cached cfg hgh fuel g [] pos o st' h hc.1 hc.2 idx p hb ctx'

/-- … no curtailing set is ever returned, every cache entry is stored with an empty context -/
theorem c03_no_curtail_lrf (cert : LRFCert) (cfg : Cfg) (hgh : cfg.ghost = true) (g : G)
    (hlrf : lrf cert cfg.env g = true) (hscope : C03LScope cfg g)
    (fuel pos : Nat) (hin : InFile cfg.file pos) (o : Out) (st' : St)
    (h : run cfg fuel g [] pos {} = some (o, st')) :
    o.cp = [] ∧ (∀ e ∈ st'.cache, e.ctx = [] ∧ e.cp = []) ∧ st'.active = [] :=
  c03_no_curtail cfg hgh fuel g [] pos o st' h (c03_lrf_no_reentry cert cfg g hlrf hscope fuel pos hin o st' h).1

/-- … with the certificate computed: this is the check the driver command `lrfcheck` runs and the harness
    stream C03L compares with the generator's notion of left-recursion-free -/
theorem c03_lrf_auto (cfg : Cfg) (g : G) (hlrf : lrfAuto cfg.env g = true) (hscope : C03LScope cfg g)
    (fuel : Nat) (p : ParseOut) (h : parse cfg fuel g = some p) :
    NoCurtail p.st.log ∧ NoReentry p.st.log :=
  c03_lrf_no_reentry_parse (lrfAutoCert cfg.env g) cfg g hlrf hscope fuel p h

namespace C03LNV
open C02NV

def certOf (nullRules nullMemos ranks memos : List Nat) (lm : List (List Nat)) : LRFCert :=
  lrfCertOf (PV.certOf nullRules nullMemos ranks memos) lm

/-- `V → memo₀ ('[' (V sepBy ',')? ']' | a)` — JSON-like, right-recursive, the rule memoized -/
def envJsonM : List G :=
  [.memo 0 (.any [.seq .seqOf [ch 91, .sepBy (.ref 0) (ch 44) true {}, ch 93] {}, ch 97])]

/-- `E → memo₀ (T '+' E | T)`, `T → memo₁ (F '*' T | F)`, `F → memo₂ ('(' E ')' | a)` — right-recursive
    expressions, every rule memoized, `F` refers back to `E` after consuming -/
def envExpr : List G :=
  [.memo 0 (.any [.seq .seqOf [.ref 1, ch 43, .ref 0] {}, .ref 1]),
   .memo 1 (.any [.seq .seqOf [.ref 2, ch 42, .ref 1] {}, .ref 2]),
   .memo 2 (.any [.seq .seqOf [ch 40, .ref 0, ch 41] {}, ch 97])]

theorem lrf_json : lrf (certOf [] [] [] [0] [[0]]) envJsonM (.ref 0) = true := by decide +kernel
theorem lrf_expr : lrf (certOf [] [] [2, 1, 0] [0, 1, 2] [[0, 1, 2], [1, 2], [2]]) envExpr (.ref 0) = true := by decide +kernel
theorem lrf_sentence : lrf (certOf [] [] [2, 1, 0] [0, 1, 2] [[0, 1, 2], [1, 2], [2]]) envExpr (G.sentence (.ref 0)) = true := by
  decide +kernel
/-- `S → A x | A y`, `A → memo₀ (a | b)` (the grammar of Props/C03.lean: one Memoize index used twice) -/
theorem lrf_shared : lrf (certOf [] [] [] [0] []) [] c03S = true := by decide +kernel

theorem lrfAuto_ok : lrfAuto envJsonM (.ref 0) = true ∧ lrfAuto envExpr (.ref 0) = true ∧
    lrfAuto envExpr (G.sentence (.ref 0)) = true ∧ lrfAuto [] c03S = true ∧ lrfAuto envJson (.ref 0) = true := by decide +kernel

/-- `P → memo₀ (P b | a)` has NO certificate, whatever tables are proposed: closure puts 0 in `lm 0`, and then
    the operand of Memoize 0 reaches index 0 -/
theorem lrf_direct_fails (c : LRFCert) : lrf c envDirect (.ref 0) = false := by
  cases h : lrf c envDirect (.ref 0) with
  | false => rfl
  | true =>
    exfalso
    obtain ⟨_, _, hr⟩ := lrf_parts c envDirect (.ref 0) h
    obtain ⟨h1, h2⟩ := hr 0 _ rfl
    have h0 : 0 ∈ c.lm 0 := h2 0 (by simp [lrfMemos])
    simp [lrfLocal, lrfLocalList, lrfMemos, lrfMemosAny, lrfMemosSeq, h0] at h1

/-- neither have hidden and indirect left recursion (all three are accepted by `wf`: C02T) -/
theorem lrfAuto_bad : lrfAuto envDirect (.ref 0) = false ∧ lrfAuto envHidden (.ref 0) = false ∧
    lrfAuto envMutual (.ref 0) = false := by decide +kernel

/-- **ranks alone do not suffice.**  `R₀ → memo₀ R₁`, `R₁ → memo₀ a`: the only left reference goes from rule 0
    to rule 1 (rank 1 > rank 0, under a Memoize or not), the C02 check accepts the grammar — and Memoize 0 is
    started at position 1 while it is running at position 1 (depth 2).  `lrf` rejects it. -/
theorem c03l_rank_alone_insufficient :
    let env : List G := [.memo 0 (.ref 1), .memo 0 (ch 97)]
    wf (C02NV.certOne [1, 0] [0]) env (.ref 0) = true ∧
    ((run (mkCfg env [97]) 20 (.ref 0) [] 1 {}).map (fun r => decide (NoReentry r.2.log))) = some false ∧
    lrfAuto env (.ref 0) = false := by decide +kernel

/-- the hypotheses of `c03_lrf_no_reentry` are satisfiable: the expression grammar never curtails and never
    re-enters, on EVERY input -/
theorem expr_clean (data : Bytes) (fuel : Nat) (p : ParseOut)
    (h : parse (mkCfg envExpr data) fuel (G.sentence (.ref 0)) = some p) :
    NoCurtail p.st.log ∧ NoReentry p.st.log := by
  refine c03_lrf_no_reentry_parse _ (mkCfg envExpr data) _ lrf_sentence ⟨?_, ?_⟩ fuel p h
  · simp [G.sentence, G.Core, CoreList]
  · intro g' hg'
    simp only [mkCfg, envExpr, List.mem_cons, List.not_mem_nil, or_false] at hg'
    rcases hg' with rfl | rfl | rfl <;> simp [G.Core, CoreList, ch, termOK_rune]

/-- `S → V x | V y` over the JSON-like rule: the second alternative asks for `V` where the first one ran it -/
def rootXY : G := .any [.seq .seqOf [.ref 0, ch 120] {}, .seq .seqOf [.ref 0, ch 121] {}]

theorem lrf_rootXY : lrf (certOf [] [] [] [0] [[0]]) envJsonM rootXY = true := by decide +kernel

/-- … and the model agrees on a concrete input: "[a,a]y" parses, the second `V` at position 1 is a cache hit,
    nothing is curtailed, nothing re-entered -/
theorem json_run :
    (parse (mkCfg envJsonM [91, 97, 44, 97, 93, 121]) 40 rootXY).map (fun p =>
      (p.err.isNone, decide (NoCurtail p.st.log), decide (NoReentry p.st.log),
        (p.st.log.filter (fun e => match e with | .hit _ _ => true | _ => false)).length))
    = some (true, true, true, 1) := by decide +kernel

/-- the theorem applies to the pair of runs of Props/C03.lean (`S → A x | A y` on "ay") with NO hypothesis on
    the log: same trees, and the memoized run makes no more calls -/
theorem shared_transparent (o o0 : Out) (st' st0' : St) (h : run (c03Cfg [97, 121]) 20 c03S [] 1 {} = some (o, st'))
    (h0 : run (stripCfg (c03Cfg [97, 121])) 20 (stripAll c03S) [] 1 {} = some (o0, st0')) :
    o.res = o0.res ∧ st'.calls ≤ st0'.calls :=
  have t := c03_transparent_lrf (certOf [] [] [] [0] []) (c03Cfg [97, 121]) _ rfl (by intro g' hg'; cases hg') c03S c03S_wf
    lrf_shared ⟨by simp [c03S, c03A, c03t, G.Core, CoreList, termOK_rune], by intro g' hg'; cases hg'⟩
    20 20 1 ⟨by decide, by decide⟩ o o0 st' st0' h h0
  ⟨t.1, t.2.2.2.2⟩

end C03LNV

end PV
