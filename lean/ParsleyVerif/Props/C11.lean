/-
  C11 — Global positions map one-to-one onto file, line and column.

  Model: ParsleyVerif/Model/Text.lean (`FileSet.addFile`, `FileSet.position`, `File.position` with Go's two
  sort.Search loops, `File.lines`, `normCRLF`; `.panic` = an index outside a slice in the Go code,
  `.unknown` = parsley.NilPosition).  Specification: ParsleyVerif/Spec/LineCol.lean (`lineCol`: count the
  line feeds before the offset; `dropCRbeforeLF`: delete exactly the CRs that stand before an LF).
  Proofs: ParsleyVerif/Proofs/FileSet.lean, which never looks at the values of the generated constants; the four
  inequalities on `Facts.fileSetFirstPos` and `Facts.fileSetGap` that the theorems need are decided here, once each.

  Domain of every theorem: every file set reachable through the API, `buildFS files` = AddFile for each
  file in order on NewFileSet() (any number of files, empty files, any content), every index `i`, every
  offset `off ≤ len i` (first byte … end-of-file position), every global position `p` (0 and
  out-of-range included).  `g.pos off` is `(f *File) Pos(off)` of the file as the set holds it.
-/
import ParsleyVerif.Proofs.FileSet
namespace PV.Text

theorem c11_first_ge : 1 ≤ Facts.fileSetFirstPos := by decide
theorem c11_first_le : Facts.fileSetFirstPos ≤ 1 := by decide
theorem c11_gap_ge : 1 ≤ Facts.fileSetGap := by decide
theorem c11_gap_le : Facts.fileSetGap ≤ 1 := by decide

/-- what the set holds: as many files and offsets as were added; entry `i` is input file `i` (name and
    normalised content untouched) with `offset = offsets[i]` -/
theorem c11_files (files : List File) :
    (buildFS files).files.length = files.length ∧ (buildFS files).offsets.length = files.length ∧
    ∀ (i : Nat) (f : File), files[i]? = some f →
      ∃ o, (buildFS files).offsets[i]? = some o ∧ (buildFS files).files[i]? = some { f with offset := o } :=
  ⟨buildFS_files_length files, by rw [buildFS_offsets, List.length_map, buildFS_files_length], buildFS_getElem? files⟩

/-- the layout: the first file starts at the first position, each next file starts one gap after the
    previous end-of-file position, `fs.pos` is one gap after the last end-of-file position -/
theorem c11_layout (files : List File) :
    (∀ a : File, (buildFS files).files[0]? = some a → a.offset = Facts.fileSetFirstPos) ∧
    (∀ (i : Nat) (a b : File), (buildFS files).files[i]? = some a → (buildFS files).files[i + 1]? = some b →
        a.offset + a.len + Facts.fileSetGap = b.offset) ∧
    (∀ (i : Nat) (a : File), (buildFS files).files[i]? = some a → i + 1 = files.length →
        a.offset + a.len + Facts.fileSetGap = (buildFS files).pos) ∧
    (∀ i : Nat, (buildFS files).offsets[i]? = ((buildFS files).files[i]?).map File.offset) ∧
    (files = [] → (buildFS files).pos = Facts.fileSetFirstPos) := by
  rw [buildFS_eq]
  refine ⟨?_, ?_, ?_, ?_, ?_⟩
  · intro a ha; exact (fsPlace_slot _ _ 0 a ha).1
  · intro i a b ha hb; exact (fsPlace_slot _ _ i a ha).2.trans (fsPlace_slot _ _ (i + 1) b hb).1.symm
  · intro i a ha hi; rw [(fsPlace_slot _ _ i a ha).2, List.take_of_length_le (Nat.le_of_eq hi.symm)]
  · intro i; exact List.getElem?_map
  · intro h; subst h; rfl

/-- **round trip**: every global position from a file's first byte through its end-of-file position
    translates back to that file's name and the line and column of the specification -/
theorem c11_roundtrip (files : List File) (i : Nat) (g : File) (off : Nat)
    (hg : (buildFS files).files[i]? = some g) (hoff : off ≤ g.len) :
    (buildFS files).position (g.pos off) = .at_ g.name (lineCol g.data off).1 (lineCol g.data off).2 := by
  have hpos : g.offset + off ≠ 0 :=
    Nat.ne_of_gt (Nat.lt_of_lt_of_le c11_first_ge (Nat.le_add_right_of_le (buildFS_mem_bounds files i g hg).1))
  have hslot : g.offset + off < g.offset + g.len + Facts.fileSetGap :=
    Nat.lt_of_le_of_lt (Nat.add_le_add_left hoff _) (Nat.lt_add_of_pos_right c11_gap_ge)
  unfold File.pos
  rw [position_in_slot files i g (g.offset + off) hg hpos (Nat.le_add_right _ _) hslot, Nat.add_sub_cancel_left,
    File.position_eq g off hoff]

/-- the same from raw contents: files made by NewFile(name, raw), in terms of the input list only -/
theorem c11_roundtrip_raw (srcs : List (String × Bytes)) (i : Nat) (name : String) (raw : Bytes) (off : Nat)
    (hs : srcs[i]? = some (name, raw)) (hoff : off ≤ (normCRLF raw).length) :
    ∃ o, (buildFS (srcs.map fun s => newFile s.1 s.2)).offsets[i]? = some o ∧
      (buildFS (srcs.map fun s => newFile s.1 s.2)).position (o + off) =
        .at_ name (lineCol (normCRLF raw) off).1 (lineCol (normCRLF raw) off).2 := by
  have hf : (srcs.map fun s => newFile s.1 s.2)[i]? = some (newFile name raw) := by
    rw [List.getElem?_map, hs]; rfl
  obtain ⟨o, ho, hg⟩ := buildFS_getElem? _ i _ hf
  exact ⟨o, ho, c11_roundtrip _ i _ off hg hoff⟩

/-- global positions are ordered like (file index, offset): every position of an earlier file, its end-of-file
    position included, lies below every position of a later file -/
theorem fileSet_pos_lt (files : List File) (i i' : Nat) (g g' : File) (off off' : Nat)
    (hg : (buildFS files).files[i]? = some g) (hg' : (buildFS files).files[i']? = some g')
    (hoff : off ≤ g.len) (hlt : i < i') : g.pos off < g'.pos off' :=
  calc g.offset + off
    _ ≤ g.offset + g.len := Nat.add_le_add_left hoff _
    _ < g.offset + g.len + Facts.fileSetGap := Nat.lt_add_of_pos_right c11_gap_ge
    _ ≤ g'.offset := buildFS_lt files i i' g g' hg hg' hlt
    _ ≤ g'.offset + off' := Nat.le_add_right _ _

/-- **one-to-one**: distinct (file, offset) pairs get distinct global positions -/
theorem c11_inj (files : List File) (i i' : Nat) (g g' : File) (off off' : Nat)
    (hg : (buildFS files).files[i]? = some g) (hg' : (buildFS files).files[i']? = some g')
    (hoff : off ≤ g.len) (hoff' : off' ≤ g'.len) (h : g.pos off = g'.pos off') : i = i' ∧ off = off' := by
  rcases Nat.lt_trichotomy i i' with hlt | rfl | hgt
  · exact absurd h (Nat.ne_of_lt (fileSet_pos_lt files i i' g g' off off' hg hg' hoff hlt))
  · cases Option.some.inj (hg.symm.trans hg')
    exact ⟨rfl, Nat.add_left_cancel h⟩
  · exact absurd h.symm (Nat.ne_of_lt (fileSet_pos_lt files i' i g' g off' off hg' hg hoff' hgt))

/-- **files never overlap**: the end-of-file position of a file lies strictly below the first byte of
    every later file -/
theorem c11_disjoint (files : List File) (i i' : Nat) (g g' : File)
    (hg : (buildFS files).files[i]? = some g) (hg' : (buildFS files).files[i']? = some g') (hlt : i < i') :
    g.pos g.len < g'.pos 0 :=
  fileSet_pos_lt files i i' g g' g.len 0 hg hg' (Nat.le_refl _) hlt

/-- every position of a file is a real one: not 0, and below `fs.pos` -/
theorem c11_range (files : List File) (i : Nat) (g : File) (hg : (buildFS files).files[i]? = some g) :
    1 ≤ g.pos 0 ∧ g.pos g.len < (buildFS files).pos :=
  have hb := buildFS_mem_bounds files i g hg
  ⟨Nat.le_trans c11_first_ge hb.1, Nat.lt_of_lt_of_le (Nat.lt_add_of_pos_right c11_gap_ge) hb.2⟩

/-- **onto**: every position from 1 up to `fs.pos` is a position of some file (no unattributed hole) -/
theorem c11_cover (files : List File) (p : Nat) (h0 : p ≠ 0) (h1 : p < (buildFS files).pos) :
    ∃ i : Nat, ∃ g : File, ∃ off : Nat, (buildFS files).files[i]? = some g ∧ off ≤ g.len ∧ p = g.pos off := by
  rw [buildFS_eq] at h1 ⊢
  obtain ⟨i, g, hg, ha, hb⟩ := fsPlace_cover _ _ p (Nat.le_trans c11_first_le (Nat.pos_of_ne_zero h0)) h1
  -- with a gap of at most one position, the slot of a file holds nothing beyond its end-of-file position
  have hle : p ≤ g.offset + g.len := Nat.le_of_lt_succ (Nat.lt_of_lt_of_le hb (Nat.add_le_add_left c11_gap_le _))
  exact ⟨i, g, p - g.offset, hg, Nat.sub_le_iff_le_add'.mpr hle, (Nat.add_sub_cancel' ha).symm⟩

/-- FileSet.Position, totally: unknown at 0 and from `fs.pos` on, else name, line and column of the file the position
    belongs to -/
theorem position_cases (files : List File) (p : Nat) :
    ((p = 0 ∨ (buildFS files).pos ≤ p) ∧ (buildFS files).position p = .unknown) ∨
    (¬ (p = 0 ∨ (buildFS files).pos ≤ p) ∧ ∃ (i : Nat) (g : File) (off : Nat), (buildFS files).files[i]? = some g ∧ off ≤ g.len ∧ p = g.pos off ∧
      (buildFS files).position p = .at_ g.name (lineCol g.data off).1 (lineCol g.data off).2) := by
  by_cases hc : p = 0 ∨ (buildFS files).pos ≤ p
  · exact .inl ⟨hc, by unfold FileSet.position; rw [if_pos hc]⟩
  · obtain ⟨hp, hlt⟩ := not_or.mp hc
    obtain ⟨i, g, off, hg, hoff, rfl⟩ := c11_cover files p hp (Nat.lt_of_not_le hlt)
    exact .inr ⟨hc, i, g, off, hg, hoff, rfl, c11_roundtrip files i g off hg hoff⟩

/-- **unknown**: position 0 and everything from `fs.pos` on is reported as unknown, and nothing else is -/
theorem c11_unknown (files : List File) (p : Nat) :
    (buildFS files).position p = .unknown ↔ p = 0 ∨ (buildFS files).pos ≤ p := by
  rcases position_cases files p with ⟨hc, hu⟩ | ⟨hc, i, g, off, _, _, _, ha⟩
  · exact ⟨fun _ => hc, fun _ => hu⟩
  · rw [ha]; exact ⟨nofun, fun h => absurd h hc⟩

/-- anything past the end-of-file position of every file (for the empty set: anything) is unknown -/
theorem c11_unknown_past (files : List File) (p : Nat)
    (h : ∀ (i : Nat) (g : File), (buildFS files).files[i]? = some g → g.pos g.len < p) :
    (buildFS files).position p = .unknown := by
  rcases position_cases files p with ⟨_, hu⟩ | ⟨_, i, g, off, hg, hoff, rfl, _⟩
  · exact hu
  · -- a position of some file is not past that file's end-of-file position
    exact absurd (h i g hg) (Nat.not_lt.mpr (Nat.add_le_add_left hoff _))

/-- **no index outside a slice**: FileSet.Position never panics, for any position at all -/
theorem c11_nopanic (files : List File) (p : Nat) : (buildFS files).position p ≠ .panic := by
  rcases position_cases files p with ⟨_, hu⟩ | ⟨_, i, g, off, _, _, _, ha⟩
  · rw [hu]; exact nofun
  · rw [ha]; exact nofun

/-- File.Position on its own: in range it is the specification, out of range it is unknown, never a panic;
    its line table is 0 and the offsets just after a line feed, strictly increasing -/
theorem c11_file (f : File) :
    (∀ pos, pos ≤ f.len → f.position pos = .at_ f.name (lineCol f.data pos).1 (lineCol f.data pos).2) ∧
    (∀ pos, f.len < pos → f.position pos = .unknown) ∧
    (∀ pos, f.position pos ≠ .panic) ∧
    (∀ x, x ∈ f.lines ↔ x = 0 ∨ ∃ k, x = k + 1 ∧ f.data[k]? = some 10) ∧
    f.lines.Pairwise (· < ·) :=
  ⟨File.position_eq f, File.position_unknown f, File.position_ne_panic f, File.mem_lines f, File.lines_pairwise f⟩

/-- **CRLF**: NewFile keeps the name and stores the normalised content; normalisation deletes exactly the
    CRs that stand immediately before an LF (left to right, occurrences cannot overlap): it is
    compositional at every CR LF, the identity on content without CR LF, keeps a lone CR as a byte,
    and neither adds nor removes a line feed -/
theorem c11_crlf :
    (∀ name raw, (newFile name raw).name = name ∧ (newFile name raw).data = normCRLF raw) ∧
    (∀ raw, normCRLF raw = dropCRbeforeLF raw) ∧
    (∀ a b, normCRLF (a ++ 13 :: 10 :: b) = normCRLF a ++ 10 :: normCRLF b) ∧
    (∀ raw, ¬ [13, 10] <:+: raw → normCRLF raw = raw) ∧
    (∀ a b, b.head? ≠ some 10 → normCRLF (a ++ 13 :: b) = normCRLF a ++ 13 :: normCRLF b) ∧
    (∀ raw, (normCRLF raw).count 10 = raw.count 10) :=
  ⟨fun _ _ => ⟨rfl, rfl⟩, normCRLF_eq_dropCRbeforeLF, normCRLF_split, normCRLF_id, normCRLF_lone_cr, normCRLF_count_lf⟩

/-- the specification read as a walk: (1, 1) at offset 0; LF moves to column 1 of the next line; every
    other byte, CR included, moves one column right; and the line start it uses is 0 or just after an LF
    with no LF between it and the offset -/
theorem c11_lineCol (data : Bytes) :
    lineCol data 0 = (1, 1) ∧
    (∀ off (h : off < data.length), lineCol data (off + 1) =
      if data[off] = 10 then ((lineCol data off).1 + 1, 1) else ((lineCol data off).1, (lineCol data off).2 + 1)) ∧
    (∀ off, off ≤ data.length →
      (lineStart data off = 0 ∨ data[lineStart data off - 1]? = some 10) ∧
      (∀ k, lineStart data off ≤ k → k < off → data[k]? ≠ some 10)) :=
  ⟨lineCol_zero data, lineCol_succ data, lineStart_spec data⟩

/-! non-vacuity: three files — LF, CRLF, lone CR, an empty line, no trailing newline; an empty file; a file
    with an empty name whose content starts with CR CR LF — and what every position 0 … 17 answers -/
def c11NvFiles : List File :=
  [newFile "a.txt" [97, 13, 10, 98, 13, 99, 10, 10, 100], newFile "empty" [], newFile "" [13, 13, 10, 10, 13]]

example : (buildFS c11NvFiles).offsets = [1, 10, 11] ∧ (buildFS c11NvFiles).pos = 16 ∧
    (buildFS c11NvFiles).files.map (·.data) = [[97, 10, 98, 13, 99, 10, 10, 100], [], [13, 10, 10, 13]] := by decide +kernel

example : (List.range 18).map (fun p => (buildFS c11NvFiles).position p) =
    [.unknown,
     .at_ "a.txt" 1 1, .at_ "a.txt" 1 2, .at_ "a.txt" 2 1, .at_ "a.txt" 2 2, .at_ "a.txt" 2 3, .at_ "a.txt" 2 4,
     .at_ "a.txt" 3 1, .at_ "a.txt" 4 1, .at_ "a.txt" 4 2,
     .at_ "empty" 1 1,
     .at_ "" 1 1, .at_ "" 1 2, .at_ "" 2 1, .at_ "" 3 1, .at_ "" 3 2,
     .unknown, .unknown] := by decide +kernel

/-- the specification on the same content, independently of the model -/
example : (List.range 9).map (lineCol [97, 10, 98, 13, 99, 10, 10, 100]) =
    [(1, 1), (1, 2), (2, 1), (2, 2), (2, 3), (2, 4), (3, 1), (4, 1), (4, 2)] := by decide +kernel

/-- normalised content can still contain CR LF: "\r\r\n" becomes "\r\n" (bytes.Replace does not rescan) -/
example : normCRLF [13, 13, 10] = [13, 10] ∧ dropCRbeforeLF [13, 13, 10] = [13, 10] := by decide

/-- the hypotheses of the theorems are satisfiable on the example: file 2, offset 4 (its end of file) -/
example : ∃ g, (buildFS c11NvFiles).files[2]? = some g ∧ 4 ≤ g.len ∧ g.pos 4 = 15 := ⟨_, rfl, by decide, by decide⟩

/-- the facts the model takes from the source (regenerated on every run) -/
theorem c11_facts :
    Facts.fileSetFirstPos = 1 ∧ Facts.fileSetGap = 1 ∧ Facts.newFileOffset = 1 :=
  ⟨by decide, by decide, by decide⟩

/- Tie to the source: `text.NewFile` is translated on every run and proved to build the model's `newFile` / `normCRLF`
   (`c11p_newFile`, Props/C11P.lean); FileSet.AddFile / Position and NewFileSet compute what the model computes
   (`c11_translated_functions`, Props/C11P.lean); File.Position / setLines / Pos likewise (`c10_translated_file`,
   `c10_translated_functions`, Props/C10P.lean).  These modules are built by this property's check. -/

end PV.Text
