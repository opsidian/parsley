/-
  C16, the DECISION theorem — composition of
  * `c02u_json_terminates` (Props/C02U.lean): the JSON example parser answers on EVERY input beyond some fuel,
  * `c16_accept_iff` / `c16_accepts_only_renderings` / `c16_rejects_outside` (Props/C16A.lean): it answers with a node
    exactly on the document language `JLang`,
  * `parse_mono` (fuel monotonicity).

  For every configuration with the grammar's rules and no work budget there is a fuel beyond which Parse answers, with a
  node iff the input is in `JLang` (then every returned tree is the tree of a document of the language and denotes its
  value), with an error and Parse's message otherwise.
-/
import ParsleyVerif.Props.C16A
import ParsleyVerif.Props.C02U
namespace PV
open PV.Text

theorem c16_decides (cfg : Cfg) (henv : cfg.env = Gjson.env) (hmc : cfg.maxCalls = 0) (hoff : 1 ≤ cfg.file.offset) :
    ∃ F, ∀ fuel, F ≤ fuel → ∃ p, parse cfg fuel Gjson.root = some p ∧
      (p.err = none ↔ JLang cfg.params cfg.file.data) ∧
      (p.err = none → p.res.alts ≠ [] ∧
        ∀ x ∈ p.res.alts, ∃ lead d trail, WsNlF lead ∧ WsNlF trail ∧ AccDoc.OK cfg.params d ∧
          cfg.file.data = renderAcc lead d trail ∧
          x = sentenceNode (J16Acc.rootTree cfg.file.offset lead d trail) ∧
          jvalOf (J16Acc.rootTree cfg.file.offset lead d trail) = some d.val) ∧
      (¬ JLang cfg.params cfg.file.data → p.res.isNil = true ∧ p.err.isSome ∧ p.msg.isSome) := by
  obtain ⟨F, hF⟩ := (json_reads cfg henv hmc hoff).decides (c02u_json_terminates cfg henv hmc)
  refine ⟨F, fun fuel hfuel => ?_⟩
  obtain ⟨p, hp, h1, h2⟩ := hF fuel hfuel
  exact ⟨p, hp, h1, c16_accepts_only_renderings cfg henv hoff fuel p hp, h2⟩

/-- non-vacuity: both branches are inhabited (membership facts of Props/C16A.lean): `[1,<LF>2]` is in the language,
    `[1,]` is not — so on `nvJsonCfg` of those bytes the decision theorem gives a node resp. an error beyond some fuel -/
theorem c16_decides_accept_example :
    ∃ F, ∀ fuel, F ≤ fuel → ∃ p, parse (nvJsonCfg [91, 49, 44, 10, 50, 93]) fuel Gjson.root = some p ∧ p.err = none := by
  obtain ⟨F, hF⟩ := c16_decides (nvJsonCfg [91, 49, 44, 10, 50, 93]) rfl rfl (Nat.le_refl 1)
  refine ⟨F, fun fuel h => ?_⟩
  obtain ⟨p, hp, hiff, _, _⟩ := hF fuel h
  exact ⟨p, hp, hiff.mpr (J16Acc.ex_nl_after_comma _)⟩

theorem c16_decides_reject_example :
    ∃ F, ∀ fuel, F ≤ fuel → ∃ p, parse (nvJsonCfg [91, 49, 44, 93]) fuel Gjson.root = some p ∧
      p.res.isNil = true ∧ p.err.isSome ∧ p.msg.isSome := by
  obtain ⟨F, hF⟩ := c16_decides (nvJsonCfg [91, 49, 44, 93]) rfl rfl (Nat.le_refl 1)
  refine ⟨F, fun fuel h => ?_⟩
  obtain ⟨p, hp, _, _, hrej⟩ := hF fuel h
  exact ⟨p, hp, hrej (J16Acc.ex_trailing_comma_out _)⟩

end PV
