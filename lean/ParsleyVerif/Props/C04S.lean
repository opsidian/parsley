/-
  C04 — the Sentence IFF beyond the monotone fragment.

    "Parse returns a node or an error, never neither; a Sentence-rooted parse succeeds iff the grammar derives
     the WHOLE input."

  Props/C04I.lean proves the iff end to end for certified grammars of the MONOTONE fragment
  {term, empty, ref, memo, any, seqOf, optional}.  Here, from Props/C01S.lean (stratified soundness +
  completeness), Props/C02U.lean (termination with trims and every terminal) and Props/C01B.lean (the exact
  big-step meaning):

  * `c04_sentence_iff_strat`  STRATIFIED grammars — left recursion (direct, indirect, hidden) over memoized
        nonterminals at the top, Choice / Many / SepBy / SeqTry / SeqFirstOrAll / Name / Single / SuppressError
        below: for every grammar with a stratification certificate (`stratOK`, which determines the MEANING `DerivesS`)
        and a termination certificate (`wfT`; `wf` is the special case `c04_sentence_iff_strat_wf`), every input
        and every sufficiently large fuel

            Parse(Sentence(g)) succeeds   ⟺   some derivation of the stratified meaning of g consumes the entire input,

        a success is rooted in a tree that starts at the first byte and ends at end of input, and the outcome is a
        node or an error, never neither, never both (`c04_xor`).
    `c04_sentence_iff_strat_answered`  the same for EVERY fuel with which Parse answers (no termination
        certificate) — partial correctness: one evaluation of the model that answers DECIDES whether a
        derivation exists.
    Ingredient (Proofs/S04Strat.lean): soundness through the wrapper for `DerivesS` — `Sentence(g)` returns a
        result only if a `DerivesS`-derivation of `g` ends at the end of the input (`c04_sentence_only_if` has this for the
        weaker monotone reading `Derives` only).

  * The two certificates are INDEPENDENT (`c04s_stratOK_not_termination`): `stratOK` asks nothing of un-memoized
        left recursion in stratum 1 nor of `Many` over an operand that may be empty in stratum 0 — the theorems of
        Props/C01S.lean are "whenever `run` answers" — so it does not imply `wf`, and both are hypotheses.

  * `c04_sentence_iff_memofree`  Memoize-FREE grammars over ALL operators, whitespace trims included (LeftTrim in
        mode WsSpacesNl — the scope of `Big`): success ⟺ the exact result `Big` of `g` at the first byte has an
        alternative that ends at end of input; then the returned tree is the Sentence node over such an
        alternative.  `c04_sentence_iff_memofree_answered`: for every fuel with which Parse answers.
    Ingredient (Proofs/S04Big.lean): the exact meaning of `Sentence(g)` by inversion (`c04_big_sentence`) —
        nothing, or exactly ONE tree (the enumeration stops after the first alternative followed by End).

  * With the trims under left recursion:
    `c04_sentence_iff_trim_partial`  for EVERY grammar with a termination certificate (all operators, trims, left
        recursion): termination, node xor error, and the ONLY-IF half with the root's end;
    `c04s_trim_iff_false`  FINDING: the IF half is false for the monotone fragment with RightTrim —
        `SeqOf('x', RightTrim(Optional('a')))` rejects "x " although the derivation x·EMPTY·blank consumes it: RightTrim
        does not trim a result that comes with an error, which is what Optional returns when its operand fails
        (the D9 mechanism through RightTrim; replayed on the Go library);
    the iff with the exact meaning of the trims in place of `Derives`: Props/C04W.lean.
-/
import ParsleyVerif.Proofs.S04Strat
import ParsleyVerif.Proofs.S04Big
import ParsleyVerif.Props.C04
import ParsleyVerif.Props.C01S
import ParsleyVerif.Props.C01B
import ParsleyVerif.Props.C02U
namespace PV
open PV.Text PV.Strat PV.WFT

namespace S04

theorem sentence_eventually (wcert : WFCert) (rx : Nat → Bool) (cfg : Cfg) (g : G)
    (hwf : wfT rx wcert cfg.env g = true) (hbudget : cfg.maxCalls = 0) (hrx : RxSound rx cfg.params)
    {Q : ParseOut → Prop} (hQ : ∀ fuel p, parse cfg fuel (G.sentence g) = some p → Q p) :
    ∃ F, ∀ fuel, F ≤ fuel → ∃ p, parse cfg fuel (G.sentence g) = some p ∧ Q p := by
  obtain ⟨F, hF⟩ := c02u_terminates_parse rx wcert cfg (G.sentence g) (by rw [wfT_sentence]; exact hwf) hbudget hrx
  refine ⟨F, fun fuel hle => ?_⟩
  obtain ⟨p, hp⟩ := Option.isSome_iff_exists.mp (hF fuel hle)
  exact ⟨p, hp, hQ fuel p hp⟩

/-- REJECTED by one evaluation: the model fails with fuel `f0`, and `Parse` gives the same answer with every fuel
    with which it answers (`parse_det`); so by the end-to-end iff no derivation `D` exists — a statement about an
    inductive relation over all trees, decided by running the parser — and `Parse` fails, with an error, for every
    large fuel -/
theorem rejects_of_eval {cfg : Cfg} {g : G} {D : Prop} {M : ParseOut → Prop} (f0 : Nat)
    (hev : (parse cfg f0 g).map (fun p => p.err.isNone) = some false)
    (hF : ∃ F, ∀ fuel, F ≤ fuel → ∃ p, parse cfg fuel g = some p ∧ (p.err = none ↔ D) ∧ M p ∧
      ((p.res.isNil = false ∧ p.err = none ∧ p.msg = none) ∨ (p.res.isNil = true ∧ p.err.isSome ∧ p.msg.isSome))) :
    ¬ D ∧ ∃ F, ∀ fuel, F ≤ fuel → ∃ p, parse cfg fuel g = some p ∧ p.res.isNil = true ∧ p.err.isSome ∧ p.msg.isSome := by
  obtain ⟨F, hF⟩ := hF
  have hno : ¬ D := by
    intro hd
    obtain ⟨p, hp, hiff, _⟩ := hF F (Nat.le_refl F)
    obtain ⟨p0, hp0, hv⟩ := Option.map_eq_some_iff.mp hev
    rw [parse_det cfg f0 F g {} p0 p hp0 hp, hiff.mpr hd] at hv
    cases hv
  refine ⟨hno, F, fun fuel hle => ?_⟩
  obtain ⟨p, hp, hiff, _, hxor⟩ := hF fuel hle
  cases hxor with
  | inl h1 => exact absurd (hiff.mp h1.2.1) hno
  | inr h1 => exact ⟨p, hp, h1⟩

end S04

open S04

/-- **C04, Sentence iff, stratified grammars, partial correctness**: for EVERY fuel with which `Parse` answers.
    No termination certificate.  The hypotheses are those of Props/C01S.lean. -/
theorem c04_sentence_iff_strat_answered (cert : Cert) (cfg : Cfg) (bodyOf : Nat → G) (g : G)
    (hok : stratOK cert cfg.env g = true) (henv : EScope cfg cert bodyOf) (hg : SScope cfg cert bodyOf g)
    (fuel : Nat) (p : ParseOut) (h : parse cfg fuel (G.sentence g) = some p) :
    (p.err = none ↔ ∃ x, DerivesS cfg cert g (cfg.file.pos 0) x ∧ x.rpos = cfg.hi) ∧
    (p.err = none → p.res.alts ≠ [] ∧ ∀ x ∈ p.res.alts, x.pos = cfg.file.pos 0 ∧ x.rpos = cfg.hi) ∧
    ((p.res.isNil = false ∧ p.err = none ∧ p.msg = none) ∨ (p.res.isNil = true ∧ p.err.isSome ∧ p.msg.isSome)) := by
  obtain ⟨hE, hU⟩ := scope_of_stratOK cert cfg bodyOf g hok henv hg
  have hin : InFile cfg.file (cfg.file.pos 0) := (c01_pre_initial cfg).1
  have hif : (∃ x, DerivesS cfg cert g (cfg.file.pos 0) x ∧ x.rpos = cfg.hi) → p.err = none ∧ p.res.alts ≠ [] :=
    c01_strat_sentence_complete_parse cert cfg bodyOf g hok henv hg fuel p h
  have honly : p.err = none → ∃ x, DerivesS cfg cert g (cfg.file.pos 0) x ∧ x.rpos = cfg.hi := by
    intro hnone
    obtain ⟨hne, hall⟩ := parse_sentence_sound cfg g (CacheS cfg cert bodyOf) (DerivesS cfg cert g _)
      (fun _ _ => cacheAll_of_eq) MixCache.empty
      (fun fuel st o st' hC hr =>
        have hs := run_strat cfg cert bodyOf hE fuel g [] _ st o st' hU hin (CtxUp.nil cert) hC hr
        ⟨hs.2.2.1, hs.2.2.2⟩)
      fuel p h hnone
    obtain ⟨x, hx⟩ := List.exists_mem_of_ne_nil _ hne
    obtain ⟨y, hy, he, _⟩ := hall x hx
    obtain ⟨b1, b2⟩ := derivesS_pos cfg cert bodyOf hE hy hU hin
    exact ⟨y, hy, isEOF_eq_hi he b1 b2⟩
  refine ⟨⟨honly, fun hex => (hif hex).1⟩, ?_, c04_xor cfg fuel _ {} p h⟩
  intro hnone
  obtain ⟨hs, hgokE, hgokS⟩ := scope_of_strat hE hU
  refine ⟨(hif (honly hnone)).2, fun x hx => ?_⟩
  obtain ⟨h1, h2, _⟩ := c04_sentence_sound cfg bodyOf g hs hgokE hgokS fuel p h x hx
  exact ⟨h1, h2⟩

/-- **C04, Sentence iff, stratified grammars, end to end.**  `cert` is the stratification certificate (decidable
    check `stratOK`; with `EScope` / `SScope` — one parser per Memoize index, terminals that behave, stratum-0
    terminals that consume — the hypotheses of Props/C01S.lean: they determine the meaning `DerivesS`); `wcert` is the
    termination certificate (decidable check `wfT rx`; `RxSound`: a Regexp the certificate declares non-nullable never
    matches the empty string; the driver's work budget is off — the hypotheses of Props/C02U.lean).  Then there is a
    fuel from which on `Parse(Sentence(g))` answers, succeeds exactly when some derivation of the stratified
    meaning of `g` consumes the whole input, a success is rooted in trees that span the whole input, and a failure
    carries an error: a node or an error, never neither, never both. -/
theorem c04_sentence_iff_strat (cert : Cert) (wcert : WFCert) (rx : Nat → Bool) (cfg : Cfg) (bodyOf : Nat → G) (g : G)
    (hok : stratOK cert cfg.env g = true) (henv : EScope cfg cert bodyOf) (hg : SScope cfg cert bodyOf g)
    (hwf : wfT rx wcert cfg.env g = true) (hbudget : cfg.maxCalls = 0) (hrx : RxSound rx cfg.params) :
    ∃ F, ∀ fuel, F ≤ fuel → ∃ p, parse cfg fuel (G.sentence g) = some p ∧
      (p.err = none ↔ ∃ x, DerivesS cfg cert g (cfg.file.pos 0) x ∧ x.rpos = cfg.hi) ∧
      (p.err = none → p.res.alts ≠ [] ∧ ∀ x ∈ p.res.alts, x.pos = cfg.file.pos 0 ∧ x.rpos = cfg.hi) ∧
      ((p.res.isNil = false ∧ p.err = none ∧ p.msg = none) ∨ (p.res.isNil = true ∧ p.err.isSome ∧ p.msg.isSome)) :=
  sentence_eventually wcert rx cfg g hwf hbudget hrx (c04_sentence_iff_strat_answered cert cfg bodyOf g hok henv hg)

/-- … with the termination certificate of Props/C02T.lean (`wf`: no Regexp may match the empty string) -/
theorem c04_sentence_iff_strat_wf (cert : Cert) (wcert : WFCert) (cfg : Cfg) (bodyOf : Nat → G) (g : G)
    (hok : stratOK cert cfg.env g = true) (henv : EScope cfg cert bodyOf) (hg : SScope cfg cert bodyOf g)
    (hwf : wf wcert cfg.env g = true) (hbudget : cfg.maxCalls = 0) (hrx : RxSound rxNone cfg.params) :
    ∃ F, ∀ fuel, F ≤ fuel → ∃ p, parse cfg fuel (G.sentence g) = some p ∧
      (p.err = none ↔ ∃ x, DerivesS cfg cert g (cfg.file.pos 0) x ∧ x.rpos = cfg.hi) ∧
      (p.err = none → p.res.alts ≠ [] ∧ ∀ x ∈ p.res.alts, x.pos = cfg.file.pos 0 ∧ x.rpos = cfg.hi) ∧
      ((p.res.isNil = false ∧ p.err = none ∧ p.msg = none) ∨ (p.res.isNil = true ∧ p.err.isSome ∧ p.msg.isSome)) :=
  c04_sentence_iff_strat cert wcert rxNone cfg bodyOf g hok henv hg (by rw [c02u_agrees_wf]; exact hwf) hbudget hrx

/-- the ONLY-IF half on its own: **a Sentence-rooted success only if a derivation of the STRATIFIED meaning consumes the
    entire input** (`c04_sentence_only_if` gives a derivation of the weaker monotone reading `Derives`) -/
theorem c04_sentence_only_if_strat (cert : Cert) (cfg : Cfg) (bodyOf : Nat → G) (g : G)
    (hok : stratOK cert cfg.env g = true) (henv : EScope cfg cert bodyOf) (hg : SScope cfg cert bodyOf g)
    (fuel : Nat) (p : ParseOut) (h : parse cfg fuel (G.sentence g) = some p) (hnone : p.err = none) :
    ∃ x, DerivesS cfg cert g (cfg.file.pos 0) x ∧ x.rpos = cfg.hi :=
  (c04_sentence_iff_strat_answered cert cfg bodyOf g hok henv hg fuel p h).1.mp hnone

namespace S04

def ch (c : Nat) : G := .term (.rune c [34, c, 34])
/-- `P → P b | a` WITHOUT Memoize: a stratum-1 grammar (the monotone fragment), so `stratOK` accepts it -/
def envLR : List G := [.any [.seq .seqOf [.ref 0, ch 98] {}, ch 97]]
/-- `Many(Optional('a'))` as a low leaf: `stratOK` accepts it (stratum 0 is any left-recursion-free sub-grammar) -/
def manyOpt : G := .many (.optional (ch 97)) true {}
def certNone : Cert := Strat.certOf [] [] [] [] []
def cfgOf (env : List G) (data : Bytes) : Cfg :=
  { env := env, file := { name := "f", data := data, offset := 1 }, fileSet := {},
    params := { floatOk := fun _ => true, durErr := fun _ => none, regexp := fun _ _ => none } }

end S04

/-- **`stratOK` does not imply a termination certificate** — so `c04_sentence_iff_strat` takes both: un-memoized left
    recursion in stratum 1, and `Many` over a nullable operand in stratum 0, pass `stratOK`, have NO `wfT`
    certificate whatever nullability / ranks are proposed, and the model indeed never answers on them (on "ab" and
    on "b": out of fuel at 50 and at 100) -/
theorem c04s_stratOK_not_termination :
    (stratOK certNone envLR (.ref 0) = true ∧ (∀ rx c, wfT rx c envLR (.ref 0) = false) ∧
      (parse (cfgOf envLR [97, 98]) 50 (G.sentence (.ref 0))).isNone = true ∧
      (parse (cfgOf envLR [97, 98]) 100 (G.sentence (.ref 0))).isNone = true) ∧
    (stratOK certNone [] manyOpt = true ∧ (∀ rx c env, wfT rx c env manyOpt = false) ∧
      (parse (cfgOf [] [98]) 50 (G.sentence manyOpt)).isNone = true ∧
      (parse (cfgOf [] [98]) 100 (G.sentence manyOpt)).isNone = true) := by
  refine ⟨⟨by decide, ?_, by decide +kernel, by decide +kernel⟩, ⟨by decide, ?_, by decide +kernel, by decide +kernel⟩⟩
  · intro rx c
    simp [wfT, envLR, wfRuleT, leftRefsT, leftRefsAllT, leftRefsSeqT, List.range, List.range.loop]
  · intro rx c env
    simp [wfT, manyOpt, wfLocalT, mayBeEmptyT]

namespace S04

/-- the configuration of Props/C01S.lean with the input as a parameter (`sxD [49, 50, 43, 51]` is `sxCfg`) -/
def sxD (data : Bytes) : Cfg :=
  { env := sxEnv, file := { name := "f", data := data, offset := 1 }, fileSet := {},
    params := { floatOk := fun _ => true, durErr := fun _ => none, regexp := fun _ _ => none } }

/-- the termination certificate: Memoize index 0, nothing nullable, no un-memoized left reference -/
def sxW : WFCert := PV.certOf [] [] [] [0]

theorem sxD_cert (data : Bytes) : stratOK sxCert (sxD data).env (.ref 0) = true := sx_cert
theorem sxD_wf (data : Bytes) : wf sxW (sxD data).env (.ref 0) = true := by
  show wf sxW sxEnv (.ref 0) = true
  decide

theorem sxD_scope (data : Bytes) : EScope (sxD data) sxCert (fun _ => sxEBody) := sx_scope_of (sxD data) rfl

theorem sxD_rx (data : Bytes) : RxSound rxNone (sxD data).params := by
  intro id r m gv _ _ hp
  simp [sxD] at hp

end S04

/-- **the theorem instantiated on `E → E '+' T | T`, `T → Many1(digit)`, EVERY input** (file at offset 1): from
    some fuel on `Parse(Sentence(E))` answers, and succeeds exactly when a derivation of the stratified meaning
    of `E` ends at `1 + length of the input` -/
theorem c04s_sx_iff (data : Bytes) :
    ∃ F, ∀ fuel, F ≤ fuel → ∃ p, parse (sxD data) fuel (G.sentence (.ref 0)) = some p ∧
      (p.err = none ↔ ∃ x, DerivesS (sxD data) sxCert (.ref 0) 1 x ∧ x.rpos = 1 + data.length) ∧
      (p.err = none → p.res.alts ≠ [] ∧ ∀ x ∈ p.res.alts, x.pos = 1 ∧ x.rpos = 1 + data.length) ∧
      ((p.res.isNil = false ∧ p.err = none ∧ p.msg = none) ∨ (p.res.isNil = true ∧ p.err.isSome ∧ p.msg.isSome)) :=
  c04_sentence_iff_strat_wf sxCert sxW (sxD data) (fun _ => sxEBody) (.ref 0) (sxD_cert data) (sxD_scope data)
    (sx_root _ _ _) (sxD_wf data) rfl (sxD_rx data)

/-- ACCEPTED, derived from the theorem: "12+3" has the derivation `sxSum` of Props/C01S.lean (left-recursive `E`
    over two exact `Many1` results), which ends at 5 — so `Parse(Sentence(E))` succeeds for every large fuel -/
theorem c04s_sx_accept :
    ∃ F, ∀ fuel, F ≤ fuel → ∃ p, parse (sxD [49, 50, 43, 51]) fuel (G.sentence (.ref 0)) = some p ∧ p.err = none ∧
      ∀ x ∈ p.res.alts, x.pos = 1 ∧ x.rpos = 5 := by
  obtain ⟨F, hF⟩ := c04s_sx_iff [49, 50, 43, 51]
  refine ⟨F, fun fuel hle => ?_⟩
  obtain ⟨p, hp, hiff, hroot, _⟩ := hF fuel hle
  have hnone : p.err = none := hiff.mpr ⟨sxSum, sx_derives_sum, rfl⟩
  exact ⟨p, hp, hnone, (hroot hnone).2⟩

/-- REJECTED, derived from the theorem in the other direction (`rejects_of_eval`): on "12+" ONE evaluation of the
    model fails, hence NO derivation of the stratified meaning of `E` consumes "12+" — a statement about an
    inductive relation over all trees, decided by running the parser —, and `Parse` fails, with an error, for
    every large fuel -/
theorem c04s_sx_reject :
    (¬ ∃ x, DerivesS (sxD [49, 50, 43]) sxCert (.ref 0) 1 x ∧ x.rpos = 4) ∧
    ∃ F, ∀ fuel, F ≤ fuel → ∃ p, parse (sxD [49, 50, 43]) fuel (G.sentence (.ref 0)) = some p ∧
      p.res.isNil = true ∧ p.err.isSome ∧ p.msg.isSome :=
  rejects_of_eval 40 (by decide +kernel) (c04s_sx_iff [49, 50, 43])

/-- **the exact meaning of `Sentence(g)`** (Spec/BigStep.lean), in terms of the exact meaning of `g`: nothing when no
    alternative of `g`'s result ends at the end of the input; otherwise exactly ONE tree, the Sentence node over an
    alternative that does, and no error -/
theorem c04_big_sentence (cfg : Cfg) (g : G) (pos : Nat) (R : Res) (e : Bool) (h : Big cfg (G.sentence g) pos R e) :
    ∃ Rg eg, Big cfg g pos Rg eg ∧
      (((∀ n ∈ Rg.alts, isEOF cfg.file n.rpos = false) ∧ R = .nil) ∨
       (∃ n ∈ Rg.alts, isEOF cfg.file n.rpos = true ∧
          R = .one (.nt seqTok [n, .eof n.rpos] n.pos n.rpos (.select 0)) ∧ e = false)) :=
  big_sentence_inv h

namespace S04

theorem plain_sentence {g : G} (hg : Big.Plain g) : Big.Plain (G.sentence g) :=
  G.sentence_all hg trivial trivial

theorem memofree_run (cfg : Cfg) (hgh : cfg.ghost = true) (henv : ∀ g' ∈ cfg.env, Big.Plain g') (g : G)
    (hg : Big.Plain g) (fuel : Nat) (pos : Nat) (o : Out) (st' : St)
    (h : run cfg fuel (G.sentence g) [] pos {} = some (o, st')) :
    ∃ Rg eg, Big cfg g pos Rg eg ∧
      (((∀ n ∈ Rg.alts, isEOF cfg.file n.rpos = false) ∧ o.res = .nil) ∨
       (∃ n ∈ Rg.alts, isEOF cfg.file n.rpos = true ∧ o.res = .one (sentNode n) ∧ o.err = none)) := by
  have hb := c01_bigstep_memofree cfg hgh henv _ (plain_sentence hg) fuel [] pos o st' h
  obtain ⟨Rg, eg, hbg, hc⟩ := big_sentence_inv hb
  refine ⟨Rg, eg, hbg, ?_⟩
  cases hc with
  | inl h1 => exact .inl h1
  | inr h1 =>
    obtain ⟨n, hn, he, hR, hf⟩ := h1
    refine .inr ⟨n, hn, he, hR, ?_⟩
    cases hoe : o.err with
    | none => rfl
    | some _ => rw [hoe] at hf; cases hf

end S04

/-- **C04, Sentence iff, Memoize-free grammars over ALL operators, partial correctness**: for every fuel with which
    `Parse` answers, success ⟺ the exact result of `g` at the first byte has an alternative after which `End`
    matches; then the returned tree is the Sentence node over such an alternative.  (No certificate; LeftTrim in mode
    WsSpacesNl, the scope of `Big`.) -/
theorem c04_sentence_iff_memofree_answered (cfg : Cfg) (hgh : cfg.ghost = true) (henv : ∀ g' ∈ cfg.env, Big.Plain g')
    (g : G) (hg : Big.Plain g) (fuel : Nat) (p : ParseOut) (h : parse cfg fuel (G.sentence g) = some p) :
    (p.err = none ↔ ∃ R e x, Big cfg g (cfg.file.pos 0) R e ∧ x ∈ R.alts ∧ isEOF cfg.file x.rpos = true) ∧
    (p.err = none → ∃ R e x, Big cfg g (cfg.file.pos 0) R e ∧ x ∈ R.alts ∧ isEOF cfg.file x.rpos = true ∧
      p.res = .one (.nt seqTok [x, .eof x.rpos] x.pos x.rpos (.select 0))) ∧
    ((p.res.isNil = false ∧ p.err = none ∧ p.msg = none) ∨ (p.res.isNil = true ∧ p.err.isSome ∧ p.msg.isSome)) := by
  obtain ⟨o, st1, hr, hiff, hres⟩ := parse_cases cfg fuel _ p h
  obtain ⟨Rg, eg, hbg, hc⟩ := memofree_run cfg hgh henv g hg fuel _ o st1 hr
  have hroot : p.err = none → ∃ R e x, Big cfg g (cfg.file.pos 0) R e ∧ x ∈ R.alts ∧ isEOF cfg.file x.rpos = true ∧
      p.res = .one (.nt seqTok [x, .eof x.rpos] x.pos x.rpos (.select 0)) := by
    intro hnone
    obtain ⟨hnil, _⟩ := hiff.mp hnone
    cases hc with
    | inl h1 => rw [h1.2] at hnil; cases hnil
    | inr h1 =>
      obtain ⟨n, hn, he, hR, _⟩ := h1
      exact ⟨Rg, eg, n, hbg, hn, he, by rw [hres hnone, hR]; rfl⟩
  refine ⟨⟨fun hnone => ?_, ?_⟩, hroot, c04_xor cfg fuel _ {} p h⟩
  · obtain ⟨R, e, x, h1, h2, h3, _⟩ := hroot hnone
    exact ⟨R, e, x, h1, h2, h3⟩
  · rintro ⟨R, e, x, hb, hx, he⟩
    obtain ⟨hRR, _⟩ := big_functional hb hbg
    subst hRR
    cases hc with
    | inl h1 => rw [h1.1 x hx] at he; cases he
    | inr h1 =>
      obtain ⟨n, _, _, hR, hoe⟩ := h1
      exact hiff.mpr ⟨by rw [hR]; rfl, hoe⟩

/-- **C04, Sentence iff, Memoize-free grammars over ALL operators, end to end.**  A grammar without Memoize cannot be
    left-recursive and terminate; `wcert` is its termination certificate (`wfT`: no un-memoized left recursion,
    repetition operands consume).  From some fuel on `Parse(Sentence(g))` answers, and succeeds exactly when the
    exact big-step result of `g` at the first byte has an alternative that ends at end of input; the returned tree
    is then the Sentence node over such an alternative and ends at end of input; a failure carries an error. -/
theorem c04_sentence_iff_memofree (wcert : WFCert) (rx : Nat → Bool) (cfg : Cfg) (hgh : cfg.ghost = true)
    (henv : ∀ g' ∈ cfg.env, Big.Plain g') (g : G) (hg : Big.Plain g)
    (hwf : wfT rx wcert cfg.env g = true) (hbudget : cfg.maxCalls = 0) (hrx : RxSound rx cfg.params) :
    ∃ F, ∀ fuel, F ≤ fuel → ∃ p, parse cfg fuel (G.sentence g) = some p ∧
      (p.err = none ↔ ∃ R e x, Big cfg g (cfg.file.pos 0) R e ∧ x ∈ R.alts ∧ x.rpos = cfg.hi) ∧
      (p.err = none → ∃ R e x, Big cfg g (cfg.file.pos 0) R e ∧ x ∈ R.alts ∧ x.rpos = cfg.hi ∧
        p.res = .one (.nt seqTok [x, .eof cfg.hi] x.pos cfg.hi (.select 0))) ∧
      ((p.res.isNil = false ∧ p.err = none ∧ p.msg = none) ∨ (p.res.isNil = true ∧ p.err.isSome ∧ p.msg.isSome)) := by
  have hwfS : wfT rx wcert cfg.env (G.sentence g) = true := by rw [wfT_sentence]; exact hwf
  refine sentence_eventually wcert rx cfg g hwf hbudget hrx (fun fuel p hp => ?_)
  obtain ⟨hiff, hroot, hxor⟩ := c04_sentence_iff_memofree_answered cfg hgh henv g hg fuel p hp
  obtain ⟨o, st1, hr, _, hres⟩ := parse_cases cfg fuel _ p hp
  have hbound := c02u_mayBeEmpty_sound rx wcert cfg (G.sentence g) hwfS hbudget hrx fuel [] _ {} o st1
    (c02u_initial wcert cfg) hr
  have hroot' : p.err = none → ∃ R e x, Big cfg g (cfg.file.pos 0) R e ∧ x ∈ R.alts ∧ x.rpos = cfg.hi ∧
      p.res = .one (.nt seqTok [x, .eof cfg.hi] x.pos cfg.hi (.select 0)) := by
    intro hnone
    obtain ⟨R, e, x, hb, hx, he, hpr⟩ := hroot hnone
    have hmem : Node.nt seqTok [x, .eof x.rpos] x.pos x.rpos (.select 0) ∈ o.res.alts := by
      rw [← hres hnone, hpr]; simp [Res.alts]
    obtain ⟨b1, b2, _⟩ := hbound _ hmem
    have hhi : x.rpos = cfg.hi := isEOF_eq_hi he b1 b2
    exact ⟨R, e, x, hb, hx, hhi, by rw [hpr, hhi]⟩
  refine ⟨⟨fun hnone => ?_, ?_⟩, hroot', hxor⟩
  · obtain ⟨R, e, x, h1, h2, h3, _⟩ := hroot' hnone
    exact ⟨R, e, x, h1, h2, h3⟩
  · rintro ⟨R, e, x, hb, hx, hhi⟩
    exact hiff.mpr ⟨R, e, x, hb, hx, by rw [hhi]; exact isEOF_hi cfg⟩

namespace S04

open PV.Big in
/-- `Many1(Choice('a', SeqOf('b','c')))` — first-match Choice under the longest-path Many -/
def mcG : G := .many (.choice [exT 97, .seq .seqOf [exT 98, exT 99] {}]) false {}

theorem mc_plain : Big.Plain mcG := by
  simp [Big.Plain, mcG, G.All, AllList, Big.PlainLocal, Big.exT]

theorem mc_wf (data : Bytes) : wfT rxNone (PV.certOf [] [] [] []) (Big.exCfg data).env mcG = true := by
  show wfT rxNone (PV.certOf [] [] [] []) [] mcG = true
  decide

theorem mc_rx (data : Bytes) : RxSound rxNone (Big.exCfg data).params := by
  intro id r m gv _ _ hp
  simp [Big.exCfg] at hp

end S04

/-- the theorem instantiated on `Many1(Choice('a', 'b' 'c'))`, EVERY input -/
theorem c04s_mc_iff (data : Bytes) :
    ∃ F, ∀ fuel, F ≤ fuel → ∃ p, parse (Big.exCfg data) fuel (G.sentence mcG) = some p ∧
      (p.err = none ↔ ∃ R e x, Big (Big.exCfg data) mcG 1 R e ∧ x ∈ R.alts ∧ x.rpos = 1 + data.length) ∧
      (p.err = none → ∃ R e x, Big (Big.exCfg data) mcG 1 R e ∧ x ∈ R.alts ∧ x.rpos = 1 + data.length ∧
        p.res = .one (.nt seqTok [x, .eof (1 + data.length)] x.pos (1 + data.length) (.select 0))) ∧
      ((p.res.isNil = false ∧ p.err = none ∧ p.msg = none) ∨ (p.res.isNil = true ∧ p.err.isSome ∧ p.msg.isSome)) :=
  c04_sentence_iff_memofree (PV.certOf [] [] [] []) rxNone (Big.exCfg data) rfl (by intro g' hg'; cases hg') mcG mc_plain
    (mc_wf data) rfl (mc_rx data)

/-- the exact meaning of the grammar on "abc": the one chain `a, bc` (one evaluation, through `c01_bigstep`) -/
theorem c04s_mc_meaning : Big (Big.exCfg [97, 98, 99]) mcG 1
    (.one (.nt manyTok [Big.nA 1, .nt seqTok [Big.nB 2, Big.nC 3] 2 4 .none] 1 4 .none)) false :=
  Big.of_eval rfl (fun _ => .empty) (by intro g hg; cases hg) (mc_plain.inScope _) (fuel := 20) (by rfl)

/-- ACCEPTED, derived from the theorem: that chain ends at 4 = end of "abc" -/
theorem c04s_mc_accept :
    ∃ F, ∀ fuel, F ≤ fuel → ∃ p, parse (Big.exCfg [97, 98, 99]) fuel (G.sentence mcG) = some p ∧ p.err = none := by
  obtain ⟨F, hF⟩ := c04s_mc_iff [97, 98, 99]
  refine ⟨F, fun fuel hle => ?_⟩
  obtain ⟨p, hp, hiff, _, _⟩ := hF fuel hle
  exact ⟨p, hp, hiff.mpr ⟨_, _, .nt manyTok [Big.nA 1, .nt seqTok [Big.nB 2, Big.nC 3] 2 4 .none] 1 4 .none,
    c04s_mc_meaning, (by simp [Res.alts]), rfl⟩⟩

/-- REJECTED, derived from the theorem: on "ab" one evaluation fails, hence the exact result of the grammar has no
    alternative ending at 3 (it is `a` alone: Choice commits to `'b' 'c'` only where it matches, and Many stops), and
    `Parse` fails with an error for every large fuel -/
theorem c04s_mc_reject :
    (¬ ∃ R e x, Big (Big.exCfg [97, 98]) mcG 1 R e ∧ x ∈ R.alts ∧ x.rpos = 3) ∧
    ∃ F, ∀ fuel, F ≤ fuel → ∃ p, parse (Big.exCfg [97, 98]) fuel (G.sentence mcG) = some p ∧
      p.res.isNil = true ∧ p.err.isSome ∧ p.msg.isSome :=
  rejects_of_eval 20 (by decide +kernel) (c04s_mc_iff [97, 98])

/-- **C04 for EVERY certified grammar — all operators, the trims, left recursion — the part that holds**
    (`…_partial`: termination, node xor error, and the ONLY-IF half; the IF half is false for `Derives`, see
    `c04s_trim_iff_false`, and holds for the exact meaning `DerivesW` of the trims, see Props/C04W.lean).
    For every grammar with one parser per Memoize index and a termination certificate `wfT`: from some fuel on
    `Parse(Sentence(g))` answers; a success implies that a derivation of the monotone reading `Derives` of `g`
    consumes the entire input, and every returned tree ends at end of input (with a LeftTrim the root may START
    after the first byte, so the start is not claimed); a failure carries an error. -/
theorem c04_sentence_iff_trim_partial (wcert : WFCert) (rx : Nat → Bool) (cfg : Cfg) (bodyOf : Nat → G) (g : G)
    (henvG : ∀ g' ∈ cfg.env, GOK bodyOf g') (hgG : GOK bodyOf g)
    (hwf : wfT rx wcert cfg.env g = true) (hbudget : cfg.maxCalls = 0) (hrx : RxSound rx cfg.params) :
    ∃ F, ∀ fuel, F ≤ fuel → ∃ p, parse cfg fuel (G.sentence g) = some p ∧
      (p.err = none → (∃ y, Derives cfg g (cfg.file.pos 0) y ∧ y.rpos = cfg.hi) ∧
        p.res.alts ≠ [] ∧ ∀ x ∈ p.res.alts, x.rpos = cfg.hi ∧
          ∃ y, Derives cfg g (cfg.file.pos 0) y ∧ x = .nt seqTok [y, .eof cfg.hi] y.pos cfg.hi (.select 0)) ∧
      ((p.res.isNil = false ∧ p.err = none ∧ p.msg = none) ∨ (p.res.isNil = true ∧ p.err.isSome ∧ p.msg.isSome)) := by
  have hwfS : wfT rx wcert cfg.env (G.sentence g) = true := by rw [wfT_sentence]; exact hwf
  have hgS : GOK bodyOf (G.sentence g) := G.sentence_all hgG trivial trivial
  refine sentence_eventually wcert rx cfg g hwf hbudget hrx (fun fuel p hp => ?_)
  refine ⟨?_, c04_xor cfg fuel _ {} p hp⟩
  intro hnone
  obtain ⟨o, st1, hr, hiff, hres⟩ := parse_cases cfg fuel _ p hp
  obtain ⟨hnil, _⟩ := hiff.mp hnone
  have hne : o.res.alts ≠ [] := sentence_alts_ne cfg g fuel _ {} o st1 hr hnil
  have hsnd := c01_sound cfg bodyOf henvG fuel _ [] _ {} o st1 hgS (by intro e he; cases he) hr
  have hbound := c02u_mayBeEmpty_sound rx wcert cfg (G.sentence g) hwfS hbudget hrx fuel [] _ {} o st1
    (c02u_initial wcert cfg) hr
  have hall : ∀ x ∈ o.res.alts, x.rpos = cfg.hi ∧
      ∃ y, Derives cfg g (cfg.file.pos 0) y ∧ y.rpos = cfg.hi ∧ x = .nt seqTok [y, .eof cfg.hi] y.pos cfg.hi (.select 0) := by
    intro x hx
    obtain ⟨y, hy, heof, hxe⟩ := derives_sentence_inv cfg g _ x (hsnd x hx)
    obtain ⟨b1, b2, _⟩ := hbound x hx
    have hxy : x.rpos = y.rpos := by rw [hxe]; rfl
    have hyhi : y.rpos = cfg.hi := isEOF_eq_hi heof (by rw [← hxy]; exact b1) (by rw [← hxy]; exact b2)
    exact ⟨by rw [hxy, hyhi], y, hy, hyhi, by rw [hxe, hyhi]⟩
  rw [hres hnone]
  refine ⟨?_, hne, fun x hx => ?_⟩
  · obtain ⟨x, hx⟩ := List.exists_mem_of_ne_nil _ hne
    obtain ⟨_, y, hy, hyhi, _⟩ := hall x hx
    exact ⟨y, hy, hyhi⟩
  · obtain ⟨h1, y, hy, _, hxe⟩ := hall x hx
    exact ⟨h1, y, hy, hxe⟩

namespace S04

/-- `'x' RightTrim(Optional('a'))`: the monotone fragment plus one RightTrim (mode WsSpacesNl), no recursion -/
def rtG : G := .seq .seqOf [Big.exT 120, .rtrim (.optional (Big.exT 97)) .spacesNl] {}

end S04

/-- **FINDING — the IF half is FALSE for the monotone fragment with trims** (with `Derives` as the meaning, which
    reads `RightTrim(p)` as "a tree of `p` with its end moved past the whitespace"): `RightTrim` does NOT trim a
    result that comes together with an error, and `Optional(p)` returns its EMPTY alternative together with `p`'s
    error whenever `p` fails (the mechanism of known finding D9, through RightTrim instead of Name / Single).
    Witness: `g = SeqOf('x', RightTrim(Optional('a'), WsSpacesNl))` on "x " (an 'x' and one blank).  The grammar has a
    termination certificate; the derivation `x · EMPTY-moved-past-the-blank` consumes the entire input; and
    `Parse(Sentence(g))` answers (fuel 20) and FAILS for every fuel with which it answers ("was expecting "a" at
    1:3"), whereas "x" and "xa " are accepted.
    Replayed on the Go library, same outcome:
      g := combinator.SeqOf(terminal.Rune('x'), text.RightTrim(combinator.Optional(terminal.Rune('a')), text.WsSpacesNl))
      parsley.Parse(ctx, combinator.Sentence(g))   on "x "  → nil, `failed to parse the input: was expecting "a" at f:1:3`
                                                    on "x"   → SEQ{[SEQ{[x EMPTY{2}], 1..2} EOF{2}], 1..2}
                                                    on "xa " → SEQ{[SEQ{[x a{2..4}], 1..4} EOF{4}], 1..4}
    (text/trim.go, RightTrim: `if err != nil { … return res, cp, err }` hands `res` through untrimmed.) -/
theorem c04s_trim_iff_false :
    wfT rxNone (PV.certOf [] [] [] []) (Big.exCfg [120, 32]).env rtG = true ∧
    (∃ y, Derives (Big.exCfg [120, 32]) rtG ((Big.exCfg [120, 32]).file.pos 0) y ∧ y.rpos = (Big.exCfg [120, 32]).hi) ∧
    (parse (Big.exCfg [120, 32]) 20 (G.sentence rtG)).isSome = true ∧
    (∀ fuel p, parse (Big.exCfg [120, 32]) fuel (G.sentence rtG) = some p → p.err.isSome = true ∧ p.res.isNil = true) ∧
    ((parse (Big.exCfg [120]) 20 (G.sentence rtG)).map (fun p => p.err.isNone) = some true) ∧
    ((parse (Big.exCfg [120, 97, 32]) 20 (G.sentence rtG)).map (fun p => p.err.isNone) = some true) := by
  have hev : (parse (Big.exCfg [120, 32]) 20 (G.sentence rtG)).map (fun p => (p.err.isSome, p.res.isNil)) = some (true, true) := by
    decide +kernel
  refine ⟨by decide, ?_, ?_, ?_, by decide +kernel, by decide +kernel⟩
  · have h2 : Derives (Big.exCfg [120, 32]) (.rtrim (.optional (Big.exT 97)) .spacesNl) 2 (.empty 3) :=
      Derives.rtrimMove (x := .empty 2) .optNone
    have hs : rtG.shape = some ⟨fun i => [Big.exT 120, G.rtrim (.optional (Big.exT 97)) .spacesNl][i]?,
        fun len => len == 2, seqTok, .none, false, none⟩ := rfl
    exact ⟨.nt seqTok [.term [120] (.rune 120) 1 2, .empty 3] 1 3 .none,
      Derives.seqfam (nodes := [.term [120] (.rune 120) 1 2, .empty 3]) hs (.cons rfl (.term rfl) (.cons rfl h2 .nil)) rfl,
      rfl⟩
  · obtain ⟨p20, hp20, _⟩ := Option.map_eq_some_iff.mp hev
    rw [hp20]; rfl
  · intro fuel p hp
    obtain ⟨p20, hp20, hv⟩ := Option.map_eq_some_iff.mp hev
    rw [parse_det _ fuel 20 _ {} p p20 hp hp20]
    exact Prod.mk.inj hv

end PV
