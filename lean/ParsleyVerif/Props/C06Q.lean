/-
  C06Q — the error-RENDERING path, about the function TRANSLATED from the Go source:
  `(*parsley.FileSet).ErrorWithPosition` (parsley/file_set.go), the function `parsley.Parse` hands its chosen error to
  (model: `PV.errorWithPosition`, Model/Run.lean; C06 is about WHICH error and position are chosen, this file about how
  the chosen error becomes the text the caller sees).

  `factgen -out-prog` translates `ErrorWithPosition` and `nilPosition.String` statement by statement
  (Generated/FactsProg.lean, regenerated on every run; translator side harness/cmd/factgen/progerr.go; run-time
  Generated/ProgPrelude.lean, section "error values").  What the translation ASSUMES (trusted base, stated in the
  prelude's header):
    * an error value is observed only through its pure methods: the parameter `err Error` is the record
      `Go.mkErr tag pos text` and `err.Pos()` / `err.Error()` are its components;
    * fmt.Errorf(format, args…).Error() = fmt.Sprintf(format, args…) (`Go.errorf`);
    * `pos == NilPosition` is the comparison of dynamic type and value (`Obj.isInt`);
    * `pos.String()` is dispatched on the dynamic type to the TRANSLATED `text.Position.String` / `nilPosition.String`.
  What is PROVED: on every translated file set that shows a model file set (`FSRel`, the relation of C11P — in particular
  the set the translated `NewFileSet` returns, `c11p_newFileSet`), for every model error `e` and every record that stands
  for it (`errObj tag e`, any dynamic type), the translated function returns an error whose `Error()` is, byte for byte,
  the model's `errorWithPosition fs e`; it returns the argument itself exactly when the model's position is unknown;
  the set stays related and nothing that existed is written.  The statements mention the function's input/output
  behaviour only.
-/
import ParsleyVerif.Props.C11P
import ParsleyVerif.Model.Run
namespace PV.TxtTie
open PV.ProgPrelude PV.FactsProg PV.ProgTie

def c06qFunctions : List String := ["FileSet_ErrorWithPosition", "nilPosition_String", "FileSet_Position", "Position_String"]

/-- the record that stands for the model's error value `e`, of whatever dynamic type `tag` (in this namespace it hides
    `ProgTie.errObj`, the whitespace error of SkipWhitespaces that C10P speaks of) -/
def errObj (tag : String) (e : Err) : Obj := Go.mkErr tag (e.pos : Int) (ints e.kind.msg)

theorem byteArray_toList_loop (bs : ByteArray) (n : Nat) : ∀ (i : Nat) (r : List UInt8), n = bs.size - i → i ≤ bs.size →
    ByteArray.toList.loop bs i r = r.reverse ++ bs.data.toList.drop i := by
  have hs : bs.size = bs.data.toList.length := by rw [Array.length_toList]; rfl
  induction n with
  | zero =>
    intro i r hn hi
    have : i = bs.size := by omega
    unfold ByteArray.toList.loop
    simp [this]
  | succ n ih =>
    intro i r hn hi
    have hlt : i < bs.size := by omega
    unfold ByteArray.toList.loop
    simp only [hlt, ↓reduceIte]
    rw [ih (i + 1) _ (by omega) (by omega)]
    have hd : bs.data.toList.drop i = bs.data.toList[i]'(by omega) :: bs.data.toList.drop (i + 1) :=
      List.drop_eq_getElem_cons (by omega)
    rw [hd]
    have hg : bs.get! i = bs.data.toList[i]'(by omega) := by
      simp [ByteArray.get!, hlt]
    simp [hg]

theorem byteArray_toList (bs : ByteArray) : bs.toList = bs.data.toList := by
  simp [ByteArray.toList, byteArray_toList_loop bs (bs.size) 0 [] rfl (Nat.zero_le _)]

theorem lit_tokOf (s : String) : Go.lit s = ints (tokOf s) := by
  simp [Go.lit, tokOf, ints, byteArray_toList, List.map_map]

theorem errObj_text (tag : String) (e : Err) (st : ProgPrelude.St) :
    Go.errText (errObj tag e) st = .ok (ints e.kind.msg) st := rfl

theorem errObj_pos (tag : String) (e : Err) (st : ProgPrelude.St) :
    Go.errPos (errObj tag e) st = .ok (e.pos : Int) st := rfl

/-- **The tie.**  The translated `ErrorWithPosition` on a set that shows `fs`, given a record of the model error `e`:
    a panic exactly when the model's `position` panics (never on a set made by `NewFileSet`: `c06q_errorWithPosition`);
    otherwise an error value whose `Error()` is the model's `errorWithPosition fs e`, the argument itself when the
    position is unknown. -/
theorem c06q_translated_functions :
    c06qFunctions.all (fun f => FactsProg.translatedProg.contains f) = true ∧
    (∀ (st : ProgPrelude.St) (FS : FactsProg.FileSet) (fs : Text.FileSet) (tag : String) (e : Err), FSRel st FS fs →
      (fs.position e.pos = .panic → FileSet_ErrorWithPosition FS (errObj tag e) st = .panic) ∧
      (fs.position e.pos ≠ .panic → ∃ (FS' : FactsProg.FileSet) (o : Obj) (st' : ProgPrelude.St),
        FileSet_ErrorWithPosition FS (errObj tag e) st = .ok (FS', o) st' ∧
        Go.errText o st' = .ok (ints (errorWithPosition fs e)) st' ∧
        (fs.position e.pos = .unknown → o = errObj tag e) ∧
        FSRel st' FS' fs ∧ Keeps st.arrays.length st st')) ∧
    (∀ (st : ProgPrelude.St) (i : Int), nilPosition_String i st = .ok (Go.lit (Text.PosResult.render .unknown)) st) := by
  refine ⟨by decide +kernel, ?_, fun st i => rfl⟩
  intro st FS fs tag e r
  have hP := tie_FSPosition st FS fs r e.pos
  unfold FactsProg.FileSet_ErrorWithPosition
  simp only [bind_apply, errObj_pos]
  constructor
  · intro hp
    rw [hP.1 hp]
  · intro hp
    obtain ⟨FS', st', eq, r', k⟩ := hP.2 hp
    rw [eq]
    simp only [errorWithPosition]
    cases hpos : fs.position e.pos with
    | panic => exact absurd hpos hp
    | unknown =>
      refine ⟨FS', errObj tag e, st', ?_, errObj_text tag e st', fun _ => rfl, r', k⟩
      simp [posObj, Obj.isInt]
    | at_ name l c =>
      refine ⟨FS', Go.errorf (ints e.kind.msg ++ Go.lit " at " ++ Go.lit (Text.PosResult.render (.at_ name l c))), st', ?_, ?_,
        (fun h => by cases h), r', k⟩
      · simp [posObj, Obj.isInt, errObj_text, tie_PositionString, Go.sprintf, Fmt.out]
      · simp only [Go.errorf, Go.mkErr, Go.errText, pure_apply, ints_append, lit_tokOf]

/-- **about the translated code, on a set built by `NewFileSet`**: no panic for any error at all, and the text is the
    model's -/
theorem c06q_errorWithPosition (st : ProgPrelude.St) (FS : FactsProg.FileSet) (files : List Text.File)
    (r : FSRel st FS (Text.buildFS files)) (tag : String) (e : Err) :
    ∃ (FS' : FactsProg.FileSet) (o : Obj) (st' : ProgPrelude.St),
      FileSet_ErrorWithPosition FS (errObj tag e) st = .ok (FS', o) st' ∧
      Go.errText o st' = .ok (ints (errorWithPosition (Text.buildFS files) e)) st' ∧
      FSRel st' FS' (Text.buildFS files) ∧ Keeps st.arrays.length st st' := by
  obtain ⟨FS', o, st', a, b, _, c, d⟩ := (c06q_translated_functions.2.1 st FS _ tag e r).2 (Text.c11_nopanic files e.pos)
  exact ⟨FS', o, st', a, b, c, d⟩

/-- the shape of the text: the message alone for position 0 and every position from the set's end on, otherwise the
    message, " at ", and the rendered position -/
theorem c06q_text_shape (files : List Text.File) (e : Err) :
    (e.pos = 0 ∨ (Text.buildFS files).pos ≤ e.pos → errorWithPosition (Text.buildFS files) e = e.kind.msg) ∧
    (¬ (e.pos = 0 ∨ (Text.buildFS files).pos ≤ e.pos) →
      errorWithPosition (Text.buildFS files) e =
        e.kind.msg ++ tokOf " at " ++ tokOf ((Text.buildFS files).position e.pos).render) := by
  have hu := Text.c11_unknown files e.pos
  constructor
  · intro h
    simp only [errorWithPosition, hu.mpr h]
  · intro h
    have : (Text.buildFS files).position e.pos ≠ .unknown := fun x => h (hu.mp x)
    simp only [errorWithPosition]

/-! ### the error values of parsley/error.go, translated

  `NotFoundError.Error`, `whitespaceError.Error`, `err.Error`, `err.Pos`, `err.Cause` are translated too (a value of the
  named string types is its bytes; `err` is the structure of its two fields, `e.cause.Error()` is the observation
  `Go.errText`).  NOT translated: `NewWhitespaceError` (listed in `FactsProg.untranslatedProg`: a byte string stored in an
  interface), `NewError` (its type switch is outside the subset; the reader's translation keeps it as an opaque
  constructor), `NewErrorf` (variadic), `IsNotFoundError` / `IsWhitespaceError` (errors.As). -/

def c06qErrorFunctions : List String :=
  ["NotFoundError_Error", "whitespaceError_Error", "err_Error", "err_Pos", "err_Cause"]

/-- **the message texts, about the translated code**: `NotFoundError(n).Error()` is the model's message of `.notFound n`,
    `whitespaceError(w).Error()` is `w` (the model's message of `.ws e` for the bytes of `e.msg`), an `err` value answers
    its cause's text, its position and its cause -/
theorem c06q_error_values :
    c06qErrorFunctions.all (fun f => FactsProg.translatedProg.contains f) = true ∧
    (∀ (st : ProgPrelude.St) (n : List Nat),
      NotFoundError_Error (ints n) st = .ok (ints (ErrKind.msg (.notFound n))) st) ∧
    (∀ (st : ProgPrelude.St) (w : Text.WsErr),
      whitespaceError_Error (ints (tokOf w.msg)) st = .ok (ints (ErrKind.msg (.ws w))) st) ∧
    (∀ (st : ProgPrelude.St) (tag : String) (e : Err) (p : Int),
      err_Error { cause := errObj tag e, pos := p } st = .ok (ints e.kind.msg) st ∧
      err_Pos { cause := errObj tag e, pos := p } st = .ok p st) ∧
    (∀ (st : ProgPrelude.St) (c : Obj) (p : Int), ∃ o, err_Cause { cause := c, pos := p } st = .ok o st ∧
      Go.errText o = Go.errText c ∧ Go.errPos o = Go.errPos c) := by
  refine ⟨by decide +kernel, fun st n => ?_, fun st w => rfl, fun st tag e p => ⟨rfl, rfl⟩, fun st c p => ⟨c, rfl, rfl, rfl⟩⟩
  simp only [NotFoundError_Error, pure_apply, Go.sprintf, Fmt.out, ErrKind.msg, ints_append, lit_tokOf, List.flatMap_cons,
    List.flatMap_nil, List.append_nil]

/-- the two ends together: the text of a translated not-found error, sent through the translated `ErrorWithPosition` -/
theorem c06q_notFound_rendered (st : ProgPrelude.St) (FS : FactsProg.FileSet) (files : List Text.File)
    (r : FSRel st FS (Text.buildFS files)) (p : Nat) (n : List Nat) :
    ∃ (t : Str) (FS' : FactsProg.FileSet) (o : Obj) (st' : ProgPrelude.St),
      NotFoundError_Error (ints n) st = .ok t st ∧
      FileSet_ErrorWithPosition FS (Go.mkErr "parsley.err" p t) st = .ok (FS', o) st' ∧
      Go.errText o st' = .ok (ints (errorWithPosition (Text.buildFS files) ⟨p, .notFound n⟩)) st' := by
  obtain ⟨FS', o, st', a, b, _⟩ := c06q_errorWithPosition st FS files r "parsley.err" ⟨p, .notFound n⟩
  exact ⟨ints (ErrKind.msg (.notFound n)), FS', o, st', c06q_error_values.2.1 st n, a, b⟩

/-! non-vacuity: the two files of `c11p_example`; the translated NewFileSet, then ErrorWithPosition of the error "bad"
    at global position 3 (line 2, column 1 of "x") and at position 0, evaluated by the kernel -/

def c06qRun (e : Err) : Option (List Int) :=
  match NewFileSet [c11pF1, c11pF2] c11pSt with
  | .ok FS st =>
    (match FileSet_ErrorWithPosition FS (errObj "parsley.err" e) st with
     | .ok (_, o) st' => (match Go.errText o st' with | .ok t _ => some t | _ => none)
     | _ => none)
  | _ => none

theorem c06q_example :
    c06qRun ⟨3, .other [98, 97, 100]⟩ = some (Go.lit "bad at x:2:1") ∧
    c06qRun ⟨0, .other [98, 97, 100]⟩ = some (Go.lit "bad") ∧
    c06qRun ⟨7, .other [98, 97, 100]⟩ = some [98, 97, 100] := by
  decide +kernel

end PV.TxtTie
