/-
  C06 for NAMED grammars under a productivity certificate — the two statements Props/C06.lean leaves open,
  both proved here.

  Certificate: Spec/Productive.lean (`Prod.productive cert env g : Bool`, decidable; `Prod.productiveAuto`
  computes one).  Invariants, each by induction on fuel over all cases of `run`:
    Proofs/ProdRun.lean   `Prod.run_prod`   every error value lies at or before a terminal failure, or is a
                                             pending not-found error of a failing call; a failing productive
                                             call logs a terminal failure or is blamed on an active parser
                                             of smaller rank;
    Proofs/ProdBlame.lean `Prod.run_blame`  a productive call without result and without error is blamed on
                                             an active parser of smaller rank;
    Proofs/ProdLow.lean   `Prod.run_low`    coverage (Proofs/RunLow.lean) with "a memoized parser still active at or
                                             after x" in place of "a curtailment somewhere in the log".

  PROVED
  * `c06_upper_productive`      (1) every grammar over the combinator set without trims, named or not, left
                                recursive or not, that carries C02's certificate (`wf`: nullability) and a
                                productivity certificate: the position `parse (sentence g)` reports is at or
                                before the furthest position at which a terminal / End was tried and did
                                not match — in fact a terminal failed at or after the reported position.
                                No `PureFail` disjunct, no "no match was found" disjunct.
  * `c06_upper_productive_run`  the same for every error value of a run from the fresh context: the returned
                                error, the context error; and a run without a result logs a terminal failure
                                at or after its start.
  * `c06_lower_productive(_run)`  every terminal failure of a failing parse is at or before the reported
                                position — `c06_lower_parse` WITHOUT the disjunct "or a memoized parser was
                                curtailed at or after it" (`LocLow`: no SuppressError, no Any / Choice / SeqTry
                                without parsers, no token "EOF").
  * `c06_exact_productive`      (2) hence: the reported position EQUALS the furthest position at which a
                                terminal or End was tried and did not match, and a terminal failed exactly
                                there.  No `NoCurtailBeyond`, named or unnamed.
  * `…_auto`                    the same with both certificates computed from the grammar.

  FALSE without the certificate, and what "productive" has to mean
  * `c06_d8_not_productive`     D8 (`N → Choice(N)`) is rejected by EVERY certificate.
  * `c06_d12_cfg_productive_not_enough`  FINDING D12.  `P → Optional(P.Name("x"))`, memoized,
                                `S → z P.Name("y")`: every nonterminal derives a string (P ⇒ ε), all side
                                conditions of `c06_upper_named_sentence` hold, and on "z" Parse fails with
                                "was expecting y" at offset 1 although the only terminal ever tried is `z` at
                                offset 0, which matched — NO terminal failed anywhere.  (Optional returns
                                the error of the curtailed inner call next to its EMPTY result; ReturnError
                                drops a result that comes with an error.)  So (1) is false for the classic
                                notion of productivity; the certificate additionally asks that an error
                                kept NEXT TO A RESULT (Optional, a repetition accepting zero elements, a
                                Sequence element reached without consumption) cannot stem from the
                                curtailment of an active parser.  `c06_d12_not_productive`: D12 is rejected
                                by every certificate.

  NON-VACUITY  `P → (P b | a).Name("P")`, `P → a | (P b).Name("x")` (the D8 shape occurs, is reported, and is
  harmless) and the arithmetic grammar with named rules carry certificates (by `decide`, given and
  computed), and the theorems apply to them.
-/
import ParsleyVerif.Props.C06
import ParsleyVerif.Props.C02T
import ParsleyVerif.Proofs.ProdRun
import ParsleyVerif.Proofs.ProdLow
namespace PV
open PV.Text

theorem Prod.productive_rules {c : ProdCert} {env : List G} {root : G} (h : Prod.productive c env root = true)
    (k : Nat) (g : G) (hk : env[k]? = some g) :
    Prod.ok c (c.live k) g = true ∧ Prod.pr c (c.rrank k) g = true := by
  simp only [Prod.productive, Bool.and_eq_true, List.all_eq_true, List.mem_range] at h
  have := h.2 k (List.getElem?_eq_some_iff.mp hk).1
  simpa [hk] using this

theorem Prod.productive_root {c : ProdCert} {env : List G} {root : G} (h : Prod.productive c env root = true) :
    Prod.pr c c.top root = true ∧ Prod.ok c [] root = true := by
  simp only [Prod.productive, Bool.and_eq_true] at h
  exact h.1

theorem Prod.sentence_ok {c : ProdCert} {g : G} (h1 : Prod.pr c c.top g = true) (h2 : Prod.ok c [] g = true) :
    Prod.pr c c.top (G.sentence g) = true ∧ Prod.ok c [] (G.sentence g) = true := by
  constructor
  · simp [G.sentence, Prod.pr, Prod.prAll, h1]
  · simp only [G.sentence, Prod.ok, Prod.okSeq, h2, Bool.true_or, Bool.and_true, Bool.false_or, Prod.pr]

theorem Prod.sentence_gwf {w : WFCert} {cfg : Cfg} {g : G} (h : GWF w cfg g) : GWF w cfg (G.sentence g) :=
  ⟨G.sentence_core h.core, G.sentence_all h.loc trivial trivial⟩

theorem Prod.envProd {c : ProdCert} {cfg : Cfg} {g : G} (hgh : cfg.ghost = true) (hscope : C02Scope cfg g)
    (hwf : wf c.wf cfg.env g = true) (hprod : Prod.productive c cfg.env g = true)
    (henvL : ∀ g' ∈ cfg.env, g'.All (Prod.LocP cfg)) : Prod.EnvProd c cfg ∧ GWF c.wf cfg g :=
  ⟨⟨hgh, (EnvOK_of_wf c.wf cfg g hwf hscope).1, henvL, fun k g' hk => Prod.productive_rules hprod k g' hk⟩,
    (EnvOK_of_wf c.wf cfg g hwf hscope).2⟩

theorem c02scope_check {cfg : Cfg} {g : G} (h : (g.allB coreB && cfg.env.all (·.allB coreB)) = true)
    (hb : cfg.maxCalls = 0) : C02Scope cfg g :=
  have := all_check (coreB_sound (termOK_rune cfg)) h
  ⟨G.core_of_all g this.1, fun g' hg' => G.core_of_all g' (this.2 g' hg'), hb⟩

/-- `Prod.LocP`: no trims, rune terminals, references that resolve -/
theorem locP_check {cfg : Cfg} {g : G}
    (h : (g.allB (errB (fun _ _ => true) (fun _ => true) cfg.env) &&
      cfg.env.all (·.allB (errB (fun _ _ => true) (fun _ => true) cfg.env))) = true) :
    g.All (Prod.LocP cfg) ∧ ∀ g' ∈ cfg.env, g'.All (Prod.LocP cfg) :=
  all_check (errB_sound cfg (fun _ _ _ => trivial) (fun _ _ => trivial)) h

theorem Prod.TFge_le_max {log : List Ev} {p : Nat} (h : Prod.TFge log p) : p ≤ maxTermFail log := by
  obtain ⟨q, k, hq, hm⟩ := h
  exact Nat.le_trans hq (le_maxTermFail hm)

theorem Prod.PSt_initial (c : ProdCert) : Prod.PSt c {} :=
  ⟨(by intro e he; cases he), (by intro er her; cases her)⟩

/-- a run from the fresh context and state, under the certificates: every error value lies at or before a logged
    terminal failure, and a run without a result has logged one at or after its start -/
theorem Prod.run_fresh {cert : ProdCert} {cfg : Cfg} (henv : Prod.EnvProd cert cfg) {g : G} (hg : GWF cert.wf cfg g)
    (hloc : g.All (Prod.LocP cfg)) (hpr : Prod.pr cert cert.top g = true) (hok : Prod.ok cert [] g = true)
    (fuel : Nat) (o : Out) (st' : St) (h : run cfg fuel g [] (cfg.file.pos 0) {} = some (o, st')) :
    (∀ e, o.err = some e → Prod.TFge st'.log e.pos) ∧ (∀ e, st'.ctxErr = some e → Prod.TFge st'.log e.pos) ∧
    (o.res.isNil = true → Prod.TFge st'.log (cfg.file.pos 0)) := by
  obtain ⟨hpre, hcc⟩ := c02t_initial cert.wf cfg
  have hp := Prod.run_prod cert cfg henv fuel g [] [] (cfg.file.pos 0) {} o st' hg hloc hok (Prod.LiveIn.nil _)
    ⟨hpre, hcc⟩ (Prod.PSt_initial cert) h
  have hfail : o.res.isNil = true → Prod.TFge st'.log (cfg.file.pos 0) := by
    intro hn
    cases hp.fail _ hpr hn with
    | inl h1 => exact h1
    | inr h1 => exact absurd h1 Prod.Blame.not_nil
  refine ⟨fun e he => ?_, hp.pst.ctxErr, hfail⟩
  cases hp.err e he with
  | inl h1 => exact h1
  | inr h1 => rw [h1.2.1]; exact hfail h1.1

/-- **every error value of a run from the fresh context** lies at or before a terminal failure, and a run
    without a result has logged a terminal failure at or after its start. -/
theorem c06_upper_productive_run (cert : ProdCert) (cfg : Cfg) (hgh : cfg.ghost = true) (g : G)
    (hscope : C02Scope cfg g) (hwf : wf cert.wf cfg.env g = true)
    (hprod : Prod.productive cert cfg.env g = true)
    (hloc : g.All (Prod.LocP cfg)) (henvL : ∀ g' ∈ cfg.env, g'.All (Prod.LocP cfg))
    (fuel : Nat) (o : Out) (st' : St) (h : run cfg fuel g [] (cfg.file.pos 0) {} = some (o, st')) :
    (∀ e, o.err = some e → ∃ q, e.pos ≤ q ∧ TFat st'.log q) ∧
    (∀ e, st'.ctxErr = some e → ∃ q, e.pos ≤ q ∧ TFat st'.log q) ∧
    (o.res.isNil = true → ∃ q, cfg.file.pos 0 ≤ q ∧ TFat st'.log q) := by
  obtain ⟨henv, hg⟩ := Prod.envProd hgh hscope hwf hprod henvL
  obtain ⟨hpr, hok⟩ := Prod.productive_root hprod
  obtain ⟨h1, h2, h3⟩ := Prod.run_fresh henv hg hloc hpr hok fuel o st' h
  have conv : ∀ p, Prod.TFge st'.log p → ∃ q, p ≤ q ∧ TFat st'.log q :=
    fun p ⟨q, k, hq, hm⟩ => ⟨q, hq, k, hm⟩
  exact ⟨fun e he => conv _ (h1 e he), fun e he => conv _ (h2 e he), fun hn => conv _ (h3 hn)⟩

/-- **C06 upper bound, named grammars (statement (1) of Props/C06.lean).**  For every grammar with C02's
    certificate and a productivity certificate, every input, every fuel: when the Sentence-rooted parse
    fails, a terminal or End was tried and did not match at or after the reported position; so the reported
    position is never beyond the furthest such position. -/
theorem c06_upper_productive (cert : ProdCert) (cfg : Cfg) (hgh : cfg.ghost = true) (g : G)
    (hscope : C02Scope cfg g) (hwf : wf cert.wf cfg.env g = true)
    (hprod : Prod.productive cert cfg.env g = true)
    (hloc : g.All (Prod.LocP cfg)) (henvL : ∀ g' ∈ cfg.env, g'.All (Prod.LocP cfg))
    (fuel : Nat) (r : ParseOut) (e : Err) (h : parse cfg fuel (G.sentence g) = some r) (he : r.err = some e) :
    e.pos ≤ maxTermFail r.st.log ∧ ∃ q, e.pos ≤ q ∧ TFat r.st.log q := by
  obtain ⟨henv, hg⟩ := Prod.envProd hgh hscope hwf hprod henvL
  obtain ⟨hpr, hok⟩ := Prod.productive_root hprod
  obtain ⟨hprS, hokS⟩ := Prod.sentence_ok hpr hok
  obtain ⟨o, st', hr, hst, hc⟩ := parse_err_cases cfg fuel _ {} r e h he
  obtain ⟨h1, h2, h3⟩ := Prod.run_fresh henv (Prod.sentence_gwf hg) (sentence_loc hloc) hprS hokS fuel o st' hr
  have key : Prod.TFge st'.log e.pos := by
    rcases hc with hc | hc | hc
    · exact h1 e hc
    · exact h2 e hc
    · rw [hc.2.2.2]; exact h3 hc.1
  rw [hst]
  obtain ⟨q, k, hq, hm⟩ := key
  exact ⟨Nat.le_trans hq (le_maxTermFail hm), q, hq, k, hm⟩

/-- with the certificates COMPUTED (`wfAuto`, `Prod.productiveAuto`: both decidable checks on the grammar) -/
theorem c06_upper_productive_auto (cfg : Cfg) (hgh : cfg.ghost = true) (g : G)
    (hscope : C02Scope cfg g) (hwf : wfAuto cfg.env g = true) (hprod : Prod.productiveAuto cfg.env g = true)
    (hloc : g.All (Prod.LocP cfg)) (henvL : ∀ g' ∈ cfg.env, g'.All (Prod.LocP cfg))
    (fuel : Nat) (r : ParseOut) (e : Err) (h : parse cfg fuel (G.sentence g) = some r) (he : r.err = some e) :
    e.pos ≤ maxTermFail r.st.log ∧ ∃ q, e.pos ≤ q ∧ TFat r.st.log q :=
  c06_upper_productive (Prod.autoProd cfg.env g) cfg hgh g hscope hwf hprod hloc henvL fuel r e h he

theorem Prod.envBlame {c : ProdCert} {cfg : Cfg} {g : G} (hscope : C02Scope cfg g)
    (hprod : Prod.productive c cfg.env g = true) (henvLow : ∀ g' ∈ cfg.env, g'.All (LocLow cfg)) :
    Prod.EnvBlame c cfg :=
  ⟨fun g' hg' => G.Core_mono (fun _ h => h.1) g' (hscope.env g' hg'), henvLow,
    fun g' hg' => by
      obtain ⟨k, hk, hkg⟩ := List.getElem_of_mem hg'
      have hk' : cfg.env[k]? = some g' := by rw [List.getElem?_eq_getElem hk, hkg]
      exact Prod.ok_memoPr c g' _ (Prod.productive_rules hprod k g' hk').1,
    fun k g' hk => (Prod.productive_rules hprod k g' hk).2⟩

/-- **lower bound without the curtailment disjunct, `run` from the fresh context**: in a productive grammar
    every terminal failure of the run, and the start position, is at or before the returned error, or at or
    before the context error, or at or before the end of a returned result. -/
theorem c06_lower_productive_run (cert : ProdCert) (cfg : Cfg) (hgh : cfg.ghost = true) (g : G)
    (hscope : C02Scope cfg g) (hprod : Prod.productive cert cfg.env g = true)
    (hl : g.All (LocLow cfg)) (henvLow : ∀ g' ∈ cfg.env, g'.All (LocLow cfg))
    (fuel : Nat) (o : Out) (st' : St) (hr : run cfg fuel g [] (cfg.file.pos 0) {} = some (o, st')) :
    (∀ x k, Ev.termFail x k ∈ st'.log → GeE x o.err ∨ GeR x o.res ∨ GeE x st'.ctxErr) ∧
    (GeE (cfg.file.pos 0) o.err ∨ GeR (cfg.file.pos 0) o.res ∨ GeE (cfg.file.pos 0) st'.ctxErr) ∧
    OutOK cfg (cfg.file.pos 0) o.res o.err := by
  have henvB := Prod.envBlame hscope hprod henvLow
  have hcore : g.Core (TermGood cfg) := G.Core_mono (fun _ h => h.1) g hscope.root
  have hmp : g.All (Prod.MemoPr cert) := Prod.ok_memoPr cert g _ (Prod.productive_root hprod).2
  have hpre := c01_pre_initial cfg
  have hlow := Prod.run_low cert cfg hgh henvB fuel g [] _ {} o st' hcore hl hmp hpre (fun _ => rfl)
    (by intro e he; cases he) hr
  have hact : st'.active = [] := (run_pos cfg henvB.core fuel g [] _ {} o st' hcore hpre hr).active
  have hnoA : ∀ x, ¬ Prod.GeA x st' := by
    rintro x ⟨a, ha, _⟩
    rw [hact] at ha; cases ha
  have conv : ∀ x, Prod.Cov x o.err o.res st' → GeE x o.err ∨ GeR x o.res ∨ GeE x st'.ctxErr :=
    fun x hx => hx.imp_right (Or.imp_right fun h => h.resolve_right (hnoA x))
  exact ⟨fun x k hx => conv x ((Prod.actSys cert cfg).NewCov_fresh hlow.newTF rfl x k hx), conv _ hlow.prog, hlow.out⟩

/-- **lower bound without the curtailment disjunct, `parse`**: every terminal failure of a failing parse of a
    productive grammar is at or before the reported position. -/
theorem c06_lower_productive (cert : ProdCert) (cfg : Cfg) (hgh : cfg.ghost = true) (g : G)
    (hscope : C02Scope cfg g) (hprod : Prod.productive cert cfg.env g = true)
    (hl : g.All (LocLow cfg)) (henvLow : ∀ g' ∈ cfg.env, g'.All (LocLow cfg))
    (fuel : Nat) (r : ParseOut) (e : Err) (h : parse cfg fuel g = some r) (he : r.err = some e)
    (hws : e.kind.isWs = false) :
    ∀ x k, Ev.termFail x k ∈ r.st.log → x ≤ e.pos := by
  have hs : Scope cfg g :=
    ⟨G.Core_mono (fun _ h => h.1) g hscope.root, fun g' hg' => G.Core_mono (fun _ h => h.1) g' (hscope.env g' hg')⟩
  obtain ⟨o, st', hr⟩ := parse_run cfg fuel g {} r h
  obtain ⟨hcov, _, hout⟩ := c06_lower_productive_run cert cfg hgh g hscope hprod hl henvLow fuel o st' hr
  obtain ⟨hst, hlow⟩ := lower_parse_of_cov cfg g hs fuel o st' hr (fun _ => False)
    (fun x k hx => (hcov x k hx).imp id (Or.imp id Or.inl)) hout r e h he hws
  intro x k hx
  exact (hlow x k (hst ▸ hx)).resolve_right id

theorem Prod.sentence_productive {c : ProdCert} {env : List G} {g : G} (h : Prod.productive c env g = true) :
    Prod.productive c env (G.sentence g) = true := by
  obtain ⟨h1, h2⟩ := Prod.productive_root h
  obtain ⟨h3, h4⟩ := Prod.sentence_ok h1 h2
  simp only [Prod.productive, Bool.and_eq_true] at h ⊢
  exact ⟨⟨h3, h4⟩, h.2⟩

theorem Prod.sentence_scope {cfg : Cfg} {g : G} (h : C02Scope cfg g) : C02Scope cfg (G.sentence g) :=
  ⟨G.sentence_core h.root, h.env, h.budget⟩

/-- **C06 exactness (statement (2) of Props/C06.lean), without any condition on curtailment.**  For every
    grammar with C02's certificate and a productivity certificate, without SuppressError / Any, Choice, SeqTry
    without parsers / token "EOF" (`LocLow`), named or not, left recursive or not: when the Sentence-rooted
    parse fails, the reported position EQUALS the furthest position at which a terminal or End was tried and
    did not match, and a terminal failed exactly there. -/
theorem c06_exact_productive (cert : ProdCert) (cfg : Cfg) (hgh : cfg.ghost = true) (g : G)
    (hscope : C02Scope cfg g) (hwf : wf cert.wf cfg.env g = true)
    (hprod : Prod.productive cert cfg.env g = true)
    (hloc : g.All (Prod.LocP cfg)) (henvL : ∀ g' ∈ cfg.env, g'.All (Prod.LocP cfg))
    (hl : g.All (LocLow cfg)) (henvLow : ∀ g' ∈ cfg.env, g'.All (LocLow cfg))
    (fuel : Nat) (r : ParseOut) (e : Err) (h : parse cfg fuel (G.sentence g) = some r) (he : r.err = some e)
    (hws : e.kind.isWs = false) :
    e.pos = maxTermFail r.st.log ∧ TFat r.st.log e.pos := by
  obtain ⟨hle, q, hq, hqt⟩ := c06_upper_productive cert cfg hgh g hscope hwf hprod hloc henvL fuel r e h he
  have hlow := c06_lower_productive cert cfg hgh (G.sentence g) (Prod.sentence_scope hscope)
    (Prod.sentence_productive hprod) (sentence_low hl) henvLow fuel r e h he hws
  have hge : maxTermFail r.st.log ≤ e.pos := by
    rcases maxTermFail_attained r.st.log with h0 | ⟨k, hk⟩
    · omega
    · exact hlow _ k hk
  have heq : e.pos = maxTermFail r.st.log := by omega
  refine ⟨heq, ?_⟩
  obtain ⟨k, hk⟩ := hqt
  have : q ≤ maxTermFail r.st.log := le_maxTermFail hk
  have hqe : q = e.pos := by omega
  exact ⟨k, hqe ▸ hk⟩

theorem c06_exact_productive_auto (cfg : Cfg) (hgh : cfg.ghost = true) (g : G)
    (hscope : C02Scope cfg g) (hwf : wfAuto cfg.env g = true) (hprod : Prod.productiveAuto cfg.env g = true)
    (hloc : g.All (Prod.LocP cfg)) (henvL : ∀ g' ∈ cfg.env, g'.All (Prod.LocP cfg))
    (hl : g.All (LocLow cfg)) (henvLow : ∀ g' ∈ cfg.env, g'.All (LocLow cfg))
    (fuel : Nat) (r : ParseOut) (e : Err) (h : parse cfg fuel (G.sentence g) = some r) (he : r.err = some e)
    (hws : e.kind.isWs = false) :
    e.pos = maxTermFail r.st.log ∧ TFat r.st.log e.pos :=
  c06_exact_productive (Prod.autoProd cfg.env g) cfg hgh g hscope hwf hprod hloc henvL hl henvLow fuel r e h he hws

/-- **D8 has no certificate**: `N1 → Choice(N1)` would need `prank 1 < rrank 1 ≤ prank 1`. -/
theorem c06_d8_not_productive (c : ProdCert) : Prod.productive c d8Env (.ref 0) = false := by
  cases h : Prod.productive c d8Env (.ref 0) with
  | false => rfl
  | true =>
    exfalso
    have := (Prod.productive_rules h 1 (.memo 1 (.name (.choice [.ref 1]) [110, 49])) rfl).2
    have h2 := (Prod.productive_rules h 1 (.memo 1 (.name (.choice [.ref 1]) [110, 49])) rfl).1
    simp only [Prod.pr, Prod.prAny, Bool.or_false, Bool.and_eq_true, decide_eq_true_eq] at this
    omega

theorem c06_d8_not_productive_auto : Prod.productiveAuto d8Env (.ref 0) = false :=
  c06_d8_not_productive _

/-- D12: `P → Optional(P.Name("x"))`, memoized; `S → z P.Name("y")` -/
def Prod.c6z : G := .term (.rune 122 [34, 122, 34])
def Prod.d12Env : List G := [.memo 0 (.optional (.name (.ref 0) [120]))]
def Prod.d12Root : G := .seq .seqOf [Prod.c6z, .name (.ref 0) [121]] {}
/-- input "z" -/
def Prod.d12Cfg : Cfg := c6Cfg Prod.d12Env [122]

theorem Prod.d12_scope : Scope Prod.d12Cfg Prod.d12Root :=
  scope_check (by decide)

theorem Prod.d12_loc : Prod.d12Root.All (LocErr Prod.d12Cfg (fun _ _ => True) (fun _ => True) False) ∧
    ∀ g' ∈ Prod.d12Cfg.env, g'.All (LocErr Prod.d12Cfg (fun _ _ => True) (fun _ => True) False) :=
  locP_check (by decide)

/-- **FINDING D12, by evaluation.**  Every nonterminal of the grammar derives a string (`P ⇒ ε`,
    `S ⇒ z`), the hypotheses of `c06_upper_named_sentence` hold, the input "z" IS in the language — and the
    parse fails with "was expecting y" at offset 1 (global position 2, f:1:2) while NO terminal or End
    failed anywhere (`termFailPositions = []`): the reported position is beyond everything that was tried.
    Mechanism: the innermost activation of `P` is curtailed, `Name("x")` turns that into an error at the
    same position, Optional returns this error NEXT TO its EMPTY result, and the outer `Name("y")`
    (ReturnError) drops a result that comes with an error.  Statement (1) therefore needs more than
    "every nonterminal derives a string". -/
theorem c06_d12_cfg_productive_not_enough :
    ∃ r e, Scope Prod.d12Cfg Prod.d12Root ∧ Prod.d12Root.All (LocErr Prod.d12Cfg (fun _ _ => True) (fun _ => True) False) ∧
      (∀ g' ∈ Prod.d12Cfg.env, g'.All (LocErr Prod.d12Cfg (fun _ _ => True) (fun _ => True) False)) ∧
      wfAuto Prod.d12Env (G.sentence Prod.d12Root) = true ∧
      parse Prod.d12Cfg 40 (G.sentence Prod.d12Root) = some r ∧ r.err = some e ∧
      e = ⟨2, .notFound (tokOf "y")⟩ ∧ termFailPositions r.st.log = [] ∧ maxTermFail r.st.log < e.pos ∧
      r.msg = some (tokOf "failed to parse the input: was expecting y at f:1:2") := by
  have hev : (parse Prod.d12Cfg 40 (G.sentence Prod.d12Root)).map (fun r => (r.err, termFailPositions r.st.log, r.msg)) =
      some (some ⟨2, .notFound (tokOf "y")⟩, [],
        some (tokOf "failed to parse the input: was expecting y at f:1:2")) := by
    decide +kernel
  obtain ⟨r, hp, hv⟩ := Option.map_eq_some_iff.mp hev
  simp only [Prod.mk.injEq] at hv
  obtain ⟨h1, h2, h3⟩ := hv
  have hmax : maxTermFail r.st.log = 0 := by simp [maxTermFail, h2]
  exact ⟨r, _, Prod.d12_scope, Prod.d12_loc.1, Prod.d12_loc.2, by decide, hp, h1, rfl, h2, by rw [hmax]; decide, h3⟩

/-- **D12 has no certificate**: the operand of Optional would have to be productive below the rank of the
    active `P` itself (`rrank 0 ≤ prank 0`), while the rule needs `prank 0 < rrank 0`. -/
theorem c06_d12_not_productive (c : ProdCert) : Prod.productive c Prod.d12Env Prod.d12Root = false := by
  cases h : Prod.productive c Prod.d12Env Prod.d12Root with
  | false => rfl
  | true =>
    exfalso
    obtain ⟨h1, h2⟩ := Prod.productive_rules h 0 (.memo 0 (.optional (.name (.ref 0) [120]))) rfl
    simp only [Prod.pr, Bool.and_eq_true, decide_eq_true_eq] at h2
    simp only [Prod.ok, Prod.pr, Prod.minRank, Bool.and_eq_true] at h1
    have h3 : c.rrank 0 ≤ min (c.prank 0) (Prod.minRank c (c.live 0)) := of_decide_eq_true h1.2.2
    have := Nat.le_trans h3 (Nat.min_le_left _ _)
    omega

theorem c06_d12_not_productive_auto : Prod.productiveAuto Prod.d12Env Prod.d12Root = false :=
  c06_d12_not_productive _

/-- `P → (P b | a).Name("P")` (Props/C06.lean `nv6nEnv`): C02's certificate and a productivity certificate,
    given by tables and computed -/
def Prod.nv6nProd : ProdCert := Prod.certOf (autoCert nv6nEnv (.ref 0)) [0] [1] [[0]] 2

theorem Prod.nv6n_productive :
    wf Prod.nv6nProd.wf nv6nEnv (.ref 0) = true ∧ Prod.productive Prod.nv6nProd nv6nEnv (.ref 0) = true ∧
    wfAuto nv6nEnv (.ref 0) = true ∧ Prod.productiveAuto nv6nEnv (.ref 0) = true := by decide

theorem Prod.nv6n_c02scope : C02Scope nv6nCfg (.ref 0) :=
  c02scope_check (by decide) rfl

/-- the theorems apply to it: the parse of "abc" fails, and the reported position is exactly the furthest
    failing terminal (here without evaluating the parse) -/
example (r : ParseOut) (e : Err) (h : parse nv6nCfg 40 (G.sentence (.ref 0)) = some r) (he : r.err = some e) :
    e.pos ≤ maxTermFail r.st.log ∧ ∃ q, e.pos ≤ q ∧ TFat r.st.log q :=
  c06_upper_productive Prod.nv6nProd nv6nCfg rfl (.ref 0) Prod.nv6n_c02scope Prod.nv6n_productive.1 Prod.nv6n_productive.2.1
    nv6n_loc.1 nv6n_loc.2 40 r e h he

/-- exactness, for every fuel, without evaluating anything (and although `P` IS curtailed at the start) -/
example (fuel : Nat) (r : ParseOut) (e : Err) (h : parse nv6nCfg fuel (G.sentence (.ref 0)) = some r)
    (he : r.err = some e) (hws : e.kind.isWs = false) : e.pos = maxTermFail r.st.log ∧ TFat r.st.log e.pos :=
  c06_exact_productive Prod.nv6nProd nv6nCfg rfl (.ref 0) Prod.nv6n_c02scope Prod.nv6n_productive.1 Prod.nv6n_productive.2.1
    nv6n_loc.1 nv6n_loc.2 nv6n_low.1 nv6n_low.2 fuel r e h he hws

/-- and with fuel 40 on "abc": "was expecting the end of input" at offset 2, the furthest failing terminal -/
example (r : ParseOut) (e : Err) (h : parse nv6nCfg 40 (G.sentence (.ref 0)) = some r) (he : r.err = some e) :
    e.pos = maxTermFail r.st.log ∧ TFat r.st.log e.pos ∧ e = ⟨3, .other endErrMsg⟩ := by
  have hev := nv6n_parse
  rw [h] at hev
  simp only [Option.map_some, Option.some.injEq, Prod.mk.injEq] at hev
  replace hev := hev.1
  rw [he] at hev
  simp only [Option.some.injEq] at hev
  have := c06_exact_productive Prod.nv6nProd nv6nCfg rfl (.ref 0) Prod.nv6n_c02scope Prod.nv6n_productive.1
    Prod.nv6n_productive.2.1 nv6n_loc.1 nv6n_loc.2 nv6n_low.1 nv6n_low.2 40 r e h he (by rw [hev]; rfl)
  exact ⟨this.1, this.2, hev⟩

/-- the left-recursive arithmetic grammar with a Name on every rule (no trims: outside C06's domain):
    `E → (E '+' T | T).Name("E")`, `T → (T '*' F | F).Name("T")`, `F → ('(' E ')' | '1').Name("F")` -/
def Prod.c6r (ch : Nat) : G := .term (.rune ch [34, ch, 34])
def Prod.arithNEnv : List G :=
  [.memo 0 (.name (.any [.seq .seqOf [.ref 0, Prod.c6r 43, .ref 1] {}, .ref 1]) [69]),
   .memo 1 (.name (.any [.seq .seqOf [.ref 1, Prod.c6r 42, .ref 2] {}, .ref 2]) [84]),
   .memo 2 (.name (.any [.seq .seqOf [Prod.c6r 40, .ref 0, Prod.c6r 41] {}, Prod.c6r 49]) [70])]
/-- ranks F = 0 < T = 1 < E = 2; when `E` is entered `E` may be active, when `T` is entered `E`, `T`; when `F`
    is entered `E`, `T` (never `F`: its recursion is guarded by '(') -/
def Prod.arithNProd : ProdCert :=
  Prod.certOf (autoCert Prod.arithNEnv (.ref 0)) [2, 1, 0] [3, 2, 1] [[0], [0, 1], [0, 1]] 4

theorem Prod.arithN_productive :
    wf Prod.arithNProd.wf Prod.arithNEnv (.ref 0) = true ∧ Prod.productive Prod.arithNProd Prod.arithNEnv (.ref 0) = true ∧
    wfAuto Prod.arithNEnv (.ref 0) = true ∧ Prod.productiveAuto Prod.arithNEnv (.ref 0) = true := by decide +kernel

/-- input "1+*1" -/
def Prod.arithNCfg : Cfg := c6Cfg Prod.arithNEnv [49, 43, 42, 49]

theorem Prod.arithN_c02scope : C02Scope Prod.arithNCfg (.ref 0) :=
  c02scope_check (by decide) rfl

theorem Prod.arithN_loc : (G.ref 0).All (Prod.LocP Prod.arithNCfg) ∧ ∀ g' ∈ Prod.arithNCfg.env, g'.All (Prod.LocP Prod.arithNCfg) :=
  locP_check (by decide)

/-- `c06_upper_productive` applies to the named arithmetic grammar, for every fuel -/
example (fuel : Nat) (r : ParseOut) (e : Err) (h : parse Prod.arithNCfg fuel (G.sentence (.ref 0)) = some r)
    (he : r.err = some e) : e.pos ≤ maxTermFail r.st.log ∧ ∃ q, e.pos ≤ q ∧ TFat r.st.log q :=
  c06_upper_productive Prod.arithNProd Prod.arithNCfg rfl (.ref 0) Prod.arithN_c02scope Prod.arithN_productive.1 Prod.arithN_productive.2.1
    Prod.arithN_loc.1 Prod.arithN_loc.2 fuel r e h he

theorem Prod.arithN_low : (G.ref 0).All (LocLow Prod.arithNCfg) ∧ ∀ g' ∈ Prod.arithNCfg.env, g'.All (LocLow Prod.arithNCfg) :=
  all_check (lowB_sound Prod.arithNCfg) (by decide)

/-- `c06_exact_productive` applies to the named arithmetic grammar, for every fuel: the reported position is
    exactly the furthest failing terminal (nested left recursion, three memoized nonterminals, curtailment
    at every operand position) -/
example (fuel : Nat) (r : ParseOut) (e : Err) (h : parse Prod.arithNCfg fuel (G.sentence (.ref 0)) = some r)
    (he : r.err = some e) (hws : e.kind.isWs = false) : e.pos = maxTermFail r.st.log ∧ TFat r.st.log e.pos :=
  c06_exact_productive Prod.arithNProd Prod.arithNCfg rfl (.ref 0) Prod.arithN_c02scope Prod.arithN_productive.1 Prod.arithN_productive.2.1
    Prod.arithN_loc.1 Prod.arithN_loc.2 Prod.arithN_low.1 Prod.arithN_low.2 fuel r e h he hws

/-- and there is such a parse for every large enough fuel (C02).  On "1+*1" the model reports "was expecting T"
    at offset 2 (global position 3), where '1' and '(' were tried and failed: `#eval` in Audit/C06P.lean (the
    kernel cannot evaluate runs with two different Memoize indexes in one set of curtailing parsers:
    `cpUnion` is defined by well-founded recursion). -/
example : ∃ F, ∀ fuel, F ≤ fuel → (parse Prod.arithNCfg fuel (G.sentence (.ref 0))).isSome = true :=
  c02_terminates_parse Prod.arithNProd.wf Prod.arithNCfg (G.sentence (.ref 0)) (by decide +kernel)
    ⟨by simp [G.sentence, G.Core, CoreList], Prod.arithN_c02scope.env, rfl⟩

/-- a grammar in which the D8 SHAPE occurs and is reported — and is harmless.
    `P → a | (P b).Name("x")`, memoized, on "b": the innermost `P` is curtailed, the body `P b` of the Name
    returns neither result nor error (`PureFail`), Parse reports the Name's "was expecting x" at offset 0 —
    where the terminal `a` was tried and failed, as the certificate guarantees. -/
def Prod.pfEnv : List G := [.memo 0 (.any [c6a, .name (.seq .seqOf [.ref 0, c6b] {}) [120]])]
def Prod.pfCfg : Cfg := c6Cfg Prod.pfEnv [98]

theorem Prod.pf_productive : wfAuto Prod.pfEnv (.ref 0) = true ∧ Prod.productiveAuto Prod.pfEnv (.ref 0) = true := by decide

theorem Prod.pf_c02scope : C02Scope Prod.pfCfg (.ref 0) :=
  c02scope_check (by decide) rfl

theorem Prod.pf_loc : (G.ref 0).All (Prod.LocP Prod.pfCfg) ∧ ∀ g' ∈ Prod.pfCfg.env, g'.All (Prod.LocP Prod.pfCfg) :=
  locP_check (by decide)

theorem Prod.pf_low : (G.ref 0).All (LocLow Prod.pfCfg) ∧ ∀ g' ∈ Prod.pfCfg.env, g'.All (LocLow Prod.pfCfg) :=
  all_check (lowB_sound Prod.pfCfg) (by decide)

example (r : ParseOut) (e : Err) (h : parse Prod.pfCfg 40 (G.sentence (.ref 0)) = some r) (he : r.err = some e) :
    e = ⟨1, .notFound (tokOf "x")⟩ ∧ curtailPositions r.st.log = [1] ∧ maxTermFail r.st.log = 1 ∧
    e.pos ≤ maxTermFail r.st.log ∧ ∃ q, e.pos ≤ q ∧ TFat r.st.log q := by
  have hev : (parse Prod.pfCfg 40 (G.sentence (.ref 0))).map
      (fun r => (r.err, curtailPositions r.st.log, maxTermFail r.st.log)) =
      some (some ⟨1, .notFound (tokOf "x")⟩, [1], 1) := by decide +kernel
  rw [h] at hev
  simp only [Option.map_some, Option.some.injEq, Prod.mk.injEq] at hev
  obtain ⟨h1, h2, h3⟩ := hev
  rw [he] at h1
  simp only [Option.some.injEq] at h1
  have := c06_upper_productive_auto Prod.pfCfg rfl (.ref 0) Prod.pf_c02scope Prod.pf_productive.1 Prod.pf_productive.2
    Prod.pf_loc.1 Prod.pf_loc.2 40 r e h he
  exact ⟨h1, h2, h3, this.1, this.2⟩

/-- and exactness, for every fuel -/
example (fuel : Nat) (r : ParseOut) (e : Err) (h : parse Prod.pfCfg fuel (G.sentence (.ref 0)) = some r)
    (he : r.err = some e) (hws : e.kind.isWs = false) : e.pos = maxTermFail r.st.log ∧ TFat r.st.log e.pos :=
  c06_exact_productive_auto Prod.pfCfg rfl (.ref 0) Prod.pf_c02scope Prod.pf_productive.1 Prod.pf_productive.2
    Prod.pf_loc.1 Prod.pf_loc.2 Prod.pf_low.1 Prod.pf_low.2 fuel r e h he hws

end PV
