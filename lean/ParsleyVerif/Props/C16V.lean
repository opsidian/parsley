/-
  C16, the FULL value theorem — "for every document in the JSON subset the example grammar supports (objects,
  arrays, strings with the standard escapes, integers in int64 range, decimals with a fraction and optional
  exponent, booleans, null, whitespace where the grammar's modes allow it) the example parser evaluates to the
  same value as encoding/json".

  The parser FINDS the tree of every document of the supported subset, for every admissible whitespace layout, and
  `evaluate` answers the value the document denotes (Props/C16.lean has the converse: a value comes only from a
  JSON tree that spans the input).

  Specification (Spec/JsonRender.lean, core only):
  * `JV` abstract values: null | bool | int (i : Int) | dec (sign, integer part, fraction, optional exponent) |
    str (list of `SElem`: plain ASCII byte / `\" \\ \b \f \n \r \t` / `\uXXXX` / raw code point ≥ U+0080) |
    arr | obj (members in source order, duplicate keys allowed);
    `JV.Supported`: integers in [−2⁶³, 2⁶³), decimals `-?(0|[1-9][0-9]*)\.[0-9]+([eE][+-]?[0-9]+)?`, plain bytes
    0x20 … 0x7F other than `"` `\`, `\uXXXX` with 4 hex digits and not a surrogate, raw scalar values ≥ U+0080;
  * `Layout`: a tree of the value's shape with the whitespace of every gap; `Layout.Adm`: before values, keys and
    closers spaces / tabs / LF (`WsNl`), before `,` and `:` spaces / tabs (`WsSp`); the document may be preceded
    and followed by `WsNl` whitespace (`lead`, `trail`: the root is `Sentence(Trim(value))`);
  * `renderJ lead v l trail : Bytes` the document; `treeOf …` the tree the parser must find (all tokens, values,
    positions); `JV.val v : JVal` the JSON value, `denote (JV.val v) : V` the evaluator value (arrays in order,
    objects as Go maps: the last duplicate key wins, `c16_denote_obj`).
    (`JDoc` is value and layout in one tree: `JV.decorate v l`; `renderJ lead v l trail =
    renderDoc lead (v.decorate l) trail`; the theorems are proved over `JDoc` and restated over `JV` × `Layout`.)

  PROVED — for every configuration with the grammar's rules, no work budget, a file whose data is the rendered
  document at ANY base offset ≥ 1, any file set, any ParseFloat that accepts the document's decimal lexemes
  (strconv.ParseFloat is a parameter of the model), every custom-interpreter table:
  the `value` rule, started at the first byte of a document followed by a delimiter (end of input, whitespace, `,`, `]`,
  `}`), from EVERY left-recursion context and state, with all sufficiently large fuel, answers exactly the document's tree,
  no error (`c16_find_value`); `parse` returns exactly `Sentence[treeOf …, EOF]` for all sufficiently large fuel — so the
  run TERMINATES on these inputs, with no appeal to C02T, which excludes trims — (`c16_parse_full`), the tree denotes the
  value (`c16_tree_value`) and `evaluate` answers `.value (denote (JV.val v))` (`c16_value_full`; `c16_value_full_newFile`
  for the file text.NewFile makes of the rendered bytes in a fresh file set, the configuration of the non-vacuity examples
  of Props/C16.lean: its CRLF normalisation leaves a rendered document as it is, `c16_render_no_cr`).
  Route: forward symbolic execution of `run` (Proofs/J16Run.lean: `Succ` / `Fails` for terminals, Name, Choice's
  first match, LeftTrim, RightTrim, and the Sequence family's longest path `ShChain`), the terminals through their
  byte specifications of C08 (`c08_spec`, `c08_parseInt0_spec`, `c08_unquoteString_value`, UTF-8 round trip),
  structural recursion on the document — carried out once, for every document of the parser's language
  (Proofs/J16AccFwd.lean); the supported subset is a part of that language (`JDoc.toAcc`, Proofs/J16Doc.lean: the
  canonical number lexemes and the rendered strings are lexemes of the terminals' languages) and inherits the
  theorems.

  Outside Lean: that `denote (JV.val v)` is what encoding/json (UseNumber) decodes `renderJ …` to — the
  differential stream C16 checks it on every generated document.
-/
import ParsleyVerif.Proofs.J16Doc
import ParsleyVerif.Proofs.J16Layout
namespace PV
open PV.Text

/-- the tree the parser must find for `renderJ lead v l trail` in a file with base offset `off`: the value's tree
    starts after the leading whitespace and (RightTrim) ends after the trailing whitespace -/
def treeOf (off : Nat) (lead : Bytes) (v : JV) (l : Layout) (trail : Bytes) : Node :=
  J16.rootTree off lead (v.decorate l) trail

/-- **C16, completeness of the `value` rule** on the supported subset, at any position, in any context -/
theorem c16_find_value (cfg : Cfg) (henv : cfg.env = Gjson.env) (hmc : cfg.maxCalls = 0) (hoff : 1 ≤ cfg.file.offset)
    (d : JDoc) (hd : d.OK) (hf : d.FloatsOk cfg.params) (pos : Nat) (tail : Bytes)
    (hin : InFile cfg.file pos) (hrest : rest cfg.file pos = d.render ++ tail)
    (htail : ∀ c, tail.head? = some c → c = 32 ∨ c = 9 ∨ c = 10 ∨ c = 44 ∨ c = 93 ∨ c = 125) :
    ∃ F, ∀ fuel, F ≤ fuel → ∀ (ctx : Ctx) (st : St), ∃ st',
      run cfg fuel (.ref 0) ctx pos st = some (⟨.one (d.tree pos), [], none⟩, st') :=
  J16.value_ok ⟨henv, hmc, hoff⟩ d hd hf pos tail ⟨hin, hrest⟩ fun c hc => by
    rcases htail c hc with rfl | rfl | rfl | h
    · exact .inl rfl
    · exact .inl rfl
    · exact .inl rfl
    · exact .inr h

theorem c16_parse_full_doc (cfg : Cfg) (henv : cfg.env = Gjson.env) (hmc : cfg.maxCalls = 0) (hoff : 1 ≤ cfg.file.offset)
    (lead : Bytes) (d : JDoc) (trail : Bytes) (hd : d.OK) (hlead : WsNl lead) (htrail : WsNl trail)
    (hf : d.FloatsOk cfg.params) (hdata : cfg.file.data = renderDoc lead d trail) :
    ∃ F, ∀ fuel, F ≤ fuel → ∃ st, parse cfg fuel Gjson.root =
      some { res := .one (sentenceNode (J16.rootTree cfg.file.offset lead d trail)), err := none, msg := none, st := st } :=
  J16.parse_of_succ (J16.root_ok ⟨henv, hmc, hoff⟩ lead d trail hd hf hlead htrail hdata)

theorem c16_value_full_doc (cfg : Cfg) (henv : cfg.env = Gjson.env) (hmc : cfg.maxCalls = 0) (hoff : 1 ≤ cfg.file.offset)
    (lead : Bytes) (d : JDoc) (trail : Bytes) (hd : d.OK) (hlead : WsNl lead) (htrail : WsNl trail)
    (hf : d.FloatsOk cfg.params) (hdata : cfg.file.data = renderDoc lead d trail) (ce : CustomEval) :
    ∃ F, ∀ fuel, F ≤ fuel → evaluate cfg ce fuel Gjson.root = some (.value (denote d.val)) :=
  J16.evaluate_of_succ henv ce (J16.jval_rootTree _ lead d trail)
    (J16.root_ok ⟨henv, hmc, hoff⟩ lead d trail hd hf hlead htrail hdata)

theorem c16_tree_value (off : Nat) (lead : Bytes) (v : JV) (l : Layout) (trail : Bytes) :
    jvalOf (treeOf off lead v l trail) = some v.val := by
  unfold treeOf
  rw [J16.jval_rootTree, J16.decorate_val]

/-- **C16, the parse**: for every supported value and every admissible layout, `parse` on the rendered document
    returns exactly `Sentence[treeOf …, EOF]`, for all sufficiently large fuel -/
theorem c16_parse_full (cfg : Cfg) (henv : cfg.env = Gjson.env) (hmc : cfg.maxCalls = 0) (hoff : 1 ≤ cfg.file.offset)
    (lead : Bytes) (v : JV) (l : Layout) (trail : Bytes) (hv : v.Supported) (hl : l.Adm)
    (hlead : WsNl lead) (htrail : WsNl trail) (hf : v.FloatsOk cfg.params)
    (hdata : cfg.file.data = renderJ lead v l trail) :
    ∃ F, ∀ fuel, F ≤ fuel → ∃ st, parse cfg fuel Gjson.root =
      some { res := .one (sentenceNode (treeOf cfg.file.offset lead v l trail)), err := none, msg := none, st := st } :=
  c16_parse_full_doc cfg henv hmc hoff lead (v.decorate l) trail (J16.decorate_ok v l hv hl) hlead htrail
    (J16.decorate_floats cfg.params v l hf) hdata

/-- **C16, the FULL value theorem**: for every supported value and every admissible layout, `evaluate` on the
    rendered document answers the value the document denotes, for all sufficiently large fuel -/
theorem c16_value_full (cfg : Cfg) (henv : cfg.env = Gjson.env) (hmc : cfg.maxCalls = 0) (hoff : 1 ≤ cfg.file.offset)
    (lead : Bytes) (v : JV) (l : Layout) (trail : Bytes) (hv : v.Supported) (hl : l.Adm)
    (hlead : WsNl lead) (htrail : WsNl trail) (hf : v.FloatsOk cfg.params)
    (hdata : cfg.file.data = renderJ lead v l trail) (ce : CustomEval) :
    ∃ F, ∀ fuel, F ≤ fuel → evaluate cfg ce fuel Gjson.root = some (.value (denote v.val)) := by
  have := c16_value_full_doc cfg henv hmc hoff lead (v.decorate l) trail (J16.decorate_ok v l hv hl) hlead htrail
    (J16.decorate_floats cfg.params v l hf) hdata ce
  rwa [J16.decorate_val] at this

/-- a rendered document contains no CR: text.NewFile's `\r\n → \n` leaves it as it is -/
theorem c16_render_no_cr (lead : Bytes) (v : JV) (l : Layout) (trail : Bytes) (hv : v.Supported) (hl : l.Adm)
    (hlead : WsNl lead) (htrail : WsNl trail) : normCRLF (renderJ lead v l trail) = renderJ lead v l trail :=
  J16.normCRLF_renderDoc lead (v.decorate l) trail (J16.decorate_ok v l hv hl) hlead htrail

mutual
theorem j16_floats_doc (P : Params) (h : ∀ x, P.floatOk x = true) : ∀ d : JDoc, d.FloatsOk P
  | .null => by simp only [JDoc.FloatsOk]
  | .bool _ => by simp only [JDoc.FloatsOk]
  | .int _ => by simp only [JDoc.FloatsOk]
  | .dec x => by simp only [JDoc.FloatsOk]; exact h _
  | .str _ => by simp only [JDoc.FloatsOk]
  | .arr items _ => by simp only [JDoc.FloatsOk]; exact j16_floats_items P h items
  | .obj mems _ => by simp only [JDoc.FloatsOk]; exact j16_floats_mems P h mems
theorem j16_floats_items (P : Params) (h : ∀ x, P.floatOk x = true) : ∀ r : JItems, r.FloatsOk P
  | .nil => by simp only [JItems.FloatsOk]
  | .cons _ _ d r => by simp only [JItems.FloatsOk]; exact ⟨j16_floats_doc P h d, j16_floats_items P h r⟩
theorem j16_floats_mems (P : Params) (h : ∀ x, P.floatOk x = true) : ∀ r : JMems, r.FloatsOk P
  | .nil => by simp only [JMems.FloatsOk]
  | .cons _ _ _ _ _ d r => by simp only [JMems.FloatsOk]; exact ⟨j16_floats_doc P h d, j16_floats_mems P h r⟩
end

/-- **C16, the full value theorem on `nvJsonCfg`** (Props/C16.lean: the rendered bytes handed to text.NewFile, the
    file added to a fresh file set, a ParseFloat that accepts everything) -/
theorem c16_value_full_newFile (lead : Bytes) (v : JV) (l : Layout) (trail : Bytes) (hv : v.Supported) (hl : l.Adm)
    (hlead : WsNl lead) (htrail : WsNl trail) (ce : CustomEval) :
    ∃ F, ∀ fuel, F ≤ fuel →
      evaluate (nvJsonCfg (renderJ lead v l trail)) ce fuel Gjson.root = some (.value (denote v.val)) := by
  have hdata : (nvJsonCfg (renderJ lead v l trail)).file.data = renderDoc lead (v.decorate l) trail := by
    show normCRLF (renderJ lead v l trail) = _
    rw [c16_render_no_cr lead v l trail hv hl hlead htrail]; rfl
  have := c16_value_full_doc (nvJsonCfg (renderJ lead v l trail)) rfl rfl (Nat.le_refl 1) lead (v.decorate l) trail
    (J16.decorate_ok v l hv hl) hlead htrail (j16_floats_doc _ (fun _ => rfl) _) hdata ce
  rwa [J16.decorate_val] at this

/-! ### non-vacuity: the theorem instantiated on the document ` [1, 2.5 ,"x\n",true]` of Props/C16.lean -/

def j16_exV : JV :=
  .arr (.cons (.int 1) (.cons (.dec ⟨false, [50], [53], none⟩) (.cons (.str [.plain 120, .esc 110])
    (.cons (.bool true) .nil))))
def j16_exL : Layout :=
  .arr (.cons [] [] .leaf (.cons [] [32] .leaf (.cons [32] [] .leaf (.cons [] [] .leaf .nil)))) []

theorem j16_ex_render : renderJ [32] j16_exV j16_exL [] =
    [32, 91, 49, 44, 32, 50, 46, 53, 32, 44, 34, 120, 92, 110, 34, 44, 116, 114, 117, 101, 93] := by decide +kernel

theorem j16_ex_supported : j16_exV.Supported ∧ j16_exL.Adm ∧ WsNl [32] ∧ WsNl [] := by
  refine ⟨?_, ?_, ?_, ?_⟩
  · simp only [j16_exV, JV.Supported, JVs.Supported, DecLex.OK, AllDigits, StrOK, and_true, true_and]
    refine ⟨by decide, ?_, ?_⟩
    · refine ⟨?_, by simp, by simp, ?_, by simp⟩ <;> (intro b hb; simp at hb; omega)
    · intro e he
      simp only [List.mem_cons, List.not_mem_nil, or_false] at he
      rcases he with rfl | rfl
      · exact ⟨by omega, by omega, by omega, by omega⟩
      · exact .inr (.inr (.inr (.inr (.inl rfl))))
  · simp only [j16_exL, Layout.Adm, LItems.Adm, and_true, true_and]
    refine ⟨⟨?_, ?_, ?_, ?_, ?_, ?_, ?_, ?_⟩, ?_⟩ <;> (intro b hb; simp at hb <;> omega)
  · intro b hb; simp at hb; omega
  · intro b hb; cases hb

/-- the value theorem answers what the kernel computes for this document (Props/C16.lean, second example) -/
theorem c16_value_full_example (ce : CustomEval) :
    ∃ F, ∀ fuel, F ≤ fuel →
      evaluate (nvJsonCfg [32, 91, 49, 44, 32, 50, 46, 53, 32, 44, 34, 120, 92, 110, 34, 44, 116, 114, 117, 101, 93]) ce fuel
        Gjson.root = some (.value (.arr [.int 1, .float [50, 46, 53], .str [120, 10], .bool true])) := by
  have h := c16_value_full_newFile [32] j16_exV j16_exL [] j16_ex_supported.1 j16_ex_supported.2.1
    j16_ex_supported.2.2.1 j16_ex_supported.2.2.2 ce
  rw [j16_ex_render] at h
  have hd : denote j16_exV.val = .arr [.int 1, .float [50, 46, 53], .str [120, 10], .bool true] := by
    simp [j16_exV, JV.val, JVs.vals, denote, denoteList, DecLex.render, DecLex.renderEx, decodeStr, SElem.decode,
      SElem.code, escCode, Utf8.encodeRune]
  rwa [hd] at h

/-! ### … and on `{"k":{"b":-7},"":[]}` (third example of Props/C16.lean), with the empty layout -/

def j16_exV2 : JV :=
  .obj (.cons [.plain 107] (.obj (.cons [.plain 98] (.int (-7)) .nil)) (.cons [] (.arr .nil) .nil))

theorem j16_ex2_render : renderJ [] j16_exV2 .leaf [] =
    [123, 34, 107, 34, 58, 123, 34, 98, 34, 58, 45, 55, 125, 44, 34, 34, 58, 91, 93, 125] := by decide +kernel

theorem j16_ex2_supported : j16_exV2.Supported := by
  simp only [j16_exV2, JV.Supported, JKVs.Supported, JVs.Supported, StrOK, and_true]
  refine ⟨?_, ⟨?_, by decide⟩, ?_⟩
  · intro e he
    simp only [List.mem_singleton] at he
    subst he; exact ⟨by omega, by omega, by omega, by omega⟩
  · intro e he
    simp only [List.mem_singleton] at he
    subst he; exact ⟨by omega, by omega, by omega, by omega⟩
  · intro e he; cases he

theorem c16_value_full_example2 (ce : CustomEval) :
    ∃ F, ∀ fuel, F ≤ fuel →
      evaluate (nvJsonCfg [123, 34, 107, 34, 58, 123, 34, 98, 34, 58, 45, 55, 125, 44, 34, 34, 58, 91, 93, 125]) ce fuel
        Gjson.root = some (.value (.obj [([107], .obj [([98], .int (-7))]), ([], .arr [])])) := by
  have h := c16_value_full_newFile [] j16_exV2 .leaf [] j16_ex2_supported trivial J16.wsNl_nil J16.wsNl_nil ce
  rw [j16_ex2_render] at h
  have hd : denote j16_exV2.val = .obj [([107], .obj [([98], .int (-7))]), ([], .arr [])] := by
    simp [j16_exV2, JV.val, JVs.vals, JKVs.vals, denote, denoteList, denotePairs, mapOfPairs, objSet, decodeStr,
      SElem.decode, SElem.code, Utf8.encodeRune]
  rwa [hd] at h

end PV
