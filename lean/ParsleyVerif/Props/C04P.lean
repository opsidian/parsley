/-
  C04P — EVALUATION, about the functions TRANSLATED from the Go source.

  `factgen -out-tree` translates parsley.EvaluateNode and parsley.Evaluate (parsley/evaluate.go), (*NonTerminalNode).Value,
  ast.InterpreterFunc.Eval, the Value / Pos methods of the node types and the interpreters Select, Array, Object, Nil of
  ast/interpreter/interpreter.go (Generated/FactsTree.lean; run-time Generated/TreePrelude.lean).  The interface calls
  through which these functions call each other (`n.Value(ctx)`, `n.interpreter.Eval(userCtx, n)`, a call of an
  ast.InterpreterFunc value) are `match`es on the dynamic type in the translation, so EvaluateNode, Value, Eval and the
  interpreters form ONE recursive group there, as in Go; user-defined interpreters are the world's `Eval`, which is
  handed the translated EvaluateNode (as the model's `CustomEval` is handed `evalNode`).

  Vocabulary (Proofs/TreeTieEval.lean).  `NRep h x n`: the heap `h` shows the model node `x` (Model/Node.lean) at the node
  value `n` (terminal nodes: values; non-terminals: addresses whose cell has the position, the interpreter `iEnc` and
  children showing the model's children); `tV`: a model value as an `interface{}` value; `EvCorr s out o`: the
  translated outcome `out` in state `s` is the model's `o` (value; error with the same position and message; panic) and
  the store is unchanged; `EvalWorld W ce uctx`: the world's Eval answers what the model's `ce` answers, given an
  evaluator that agrees with the model's on the nodes not deeper than the children.
-/
import ParsleyVerif.Proofs.TreeTieEval
import ParsleyVerif.Proofs.EvalPanics
namespace PV
open PV.TreeTie PV.FactsTree

/-- the functions of the evaluation the translator is asked for -/
def treeEvalFunctions : List String :=
  ["EvaluateNode", "Evaluate", "NonTerminalNode_Value", "InterpreterFunc_Eval", "selectInterpreter_Eval", "Select",
   "Nil_func", "Array_func", "Object_func", "TerminalNode_Value", "EndNode_Value", "NonTerminalNode_Children",
   "EmptyNode_Pos", "EndNode_Pos", "TerminalNode_Pos", "NonTerminalNode_Pos", "NodeList_Pos"]

theorem c04p_all_translated :
    treeEvalFunctions.all (fun f => FactsTree.translatedTree.contains f) = true ∧ FactsTree.untranslatedTree = [] :=
  ⟨by decide +kernel, rfl⟩

/-- **EvaluateNode / Evaluate, translated, are the model's `evalNode` / `evalRes` / `evaluate`.**
    (1) On every node the heap shows, with fuel above the nesting depth on both sides: the same value, the same error
    (position and message), a panic exactly when the model panics; the store is not written.  This covers Select
    (child i, the documented panic out of range), Array (children 0, 2, 4, …, left to right, first error aborts), Object
    (child 0 / child 2 of every second child, string keys, later keys overwrite), Nil, EmptyNode (no value), EndNode and
    terminals, a missing interpreter (panic), user-defined interpreters.
    (2) The root Evaluate hands over: a single node is evaluated, a node list has no value (ErrNoValue at its first node).
    (3) Evaluate: a parse error is returned as it is; otherwise the user context of the context is used, an evaluation
    error goes through FileSet.ErrorWithPosition (symbolic: `positioned`), a value is returned with a nil error. -/
theorem c04_translated_evaluate (W : TW) (ce : CustomEval) :
    (∀ (uctx : TValue) (s : TSt), EvalWorld W ce uctx → ∀ (F : Nat) (x : MNode) (n : TN) (fuel : Nat),
      NRep s.heap x n → x.depth < F → 4 * x.depth + 1 ≤ fuel →
      EvCorr s (EvaluateNode W fuel uctx n s) (evalNode ce F x)) ∧
    (∀ (uctx : TValue) (s : TSt), EvalWorld W ce uctx → ∀ (F : Nat) (r : PV.Res) (n : TN) (fuel : Nat),
      RRep s.heap r n → (∀ x ∈ r.alts, x.depth < F ∧ 4 * x.depth + 1 ≤ fuel) → 2 ≤ fuel →
      EvCorr s (EvaluateNode W fuel uctx n s) (evalRes ce F r)) ∧
    (∀ (p : PV.CorePrelude.Parser) (s s1 : TSt) (n : TN) (c : TCause) (F fuel : Nat) (po : ParseOut),
      W.Parse p s = .ok (n, c) s1 → EvalWorld W ce s1.userCtx → c.isNil = po.msg.isNone →
      (po.msg = none → RRep s1.heap po.res n) → (∀ x ∈ po.res.alts, x.depth < F ∧ 4 * x.depth + 1 ≤ fuel) → 2 ≤ fuel →
      Evaluate W fuel p s =
        if po.msg.isSome then .ok (PV.TreePrelude.Value.nil, c) s1
        else match evalRes ce F po.res with
          | .ok v => .ok (tV v, PV.CorePrelude.Cause.nil) s1
          | .err pos msg => .ok (PV.TreePrelude.Value.nil, PV.CorePrelude.Cause.positioned (pos : Int) (.other 0 msg)) s1
          | .panic _ => .panic) :=
  ⟨fun uctx s hw F x n fuel => tie_EvaluateNode W ce uctx hw s F x n fuel,
   fun uctx s hw F r n fuel => tie_evalRes W ce uctx hw s F r n fuel,
   fun p s s1 n c F fuel po hp hw hc hr hd hf => tie_Evaluate W ce p s s1 n c F fuel po hp hw hc hr hd hf⟩

/-- **`c04_eval` about the translated code**: on a tree whose non-terminals all carry an applicable interpreter (Select
    within range, Object over key/value nodes with string keys, Array, Nil, user-defined interpreters that do not panic
    themselves) the translated EvaluateNode answers a value or an error — it neither panics nor runs out of fuel — and
    leaves the store as it was -/
theorem c04_translated_no_panic (W : TW) (ce : CustomEval) (uctx : TValue) (s : TSt) (hw : EvalWorld W ce uctx)
    (hce : ∀ id cs pos ev, (∀ c ∈ cs, NeverPanics (ev c)) → NeverPanics (ce id cs pos ev))
    (x : MNode) (n : TN) (fuel : Nat) (hrep : NRep s.heap x n) (hx : x.EvalSafe) (hfu : 4 * x.depth + 1 ≤ fuel) :
    ∃ v e, EvaluateNode W fuel uctx n s = .ok (v, e) s := by
  have hnp := evalNode_np ce hce (x.depth + 1) x hx (Nat.lt_succ_self _)
  have := tie_EvaluateNode W ce uctx hw s (x.depth + 1) x n fuel hrep (Nat.lt_succ_self _) hfu
  cases ho : evalNode ce (x.depth + 1) x with
  | ok v => rw [ho] at this; exact ⟨_, _, this⟩
  | err p m => rw [ho] at this; obtain ⟨v, hv⟩ := this; exact ⟨_, _, hv⟩
  | panic m => exact absurd ho (hnp m)

/-- the hypothesis is not idle: a non-terminal without interpreter makes the translated EvaluateNode panic (the
    documented panic of (*NonTerminalNode).Value) -/
theorem c04p_needs_interpreter (W : TW) (uctx : TValue) (s : TSt) (a : PV.TreePrelude.Ptr) (c : TCell)
    (hc : s.heap a = some c) (hi : c.interpreter = .nil) (fuel : Nat) :
    EvaluateNode W (fuel + 2) uctx (.ref a) s = .panic := by
  simp [EvaluateNode, PV.TreePrelude.Node.asKinds, PV.TreePrelude.Node.hasKind, PV.TreePrelude.Node.kind,
    NonTerminalNode_Value, load_some hc, hi, PV.TreePrelude.Interp.isNil]

/-! ### non-vacuity: Array over an integer, a separator and a node with a user-defined interpreter (which answers the number
    of its children); the world that realises it -/

namespace C04PEx
open PV.CorePrelude hiding Node World
open PV.TreePrelude

def tmv (tok : Bytes) (v : V) (p : Int) : TN := .term { schema := .nil, token := tok, value := tV v, pos := p, readerPos := p + 1 }

def cellE (kids : List TN) (p r : Int) (i : TInterp) : TCell :=
  { schema := .nil, token := [], children := kids, pos := p, readerPos := r, interpreter := i }

def heap : Heap := fun a =>
  if a = 1 then some (cellE [tmv [] (.int 1) 0, tmv [44] (.rune 44) 1, .ref 2] 0 3 (.fn .Array))
  else if a = 2 then some (cellE [tmv [] (.int 5) 2] 2 3 (.custom 7))
  else none

def st : TSt := { heap := heap, vars := [], userCtx := .nil, ext := [] }

def node : MNode :=
  .nt [] [.term [] (.int 1) 0 1, .term [44] (.rune 44) 1 2, .nt [] [.term [] (.int 5) 2 3] 2 3 (.custom 7)] 0 3 .array

def ce : CustomEval := fun _ cs _ _ => .ok (.int cs.length)

def world : TW where
  implements _ _ := false
  StaticCheck _ _ _ := Go.panic
  TransformNode _ _ _ := Go.panic
  Eval _ _ _ n := match n with
    | .ref a => do
      let c ← TreePrelude.Go.load a
      pure (.other 0 [(c.children.length : Int)], .nil)
    | _ => Go.panic
  Parse _ := Go.panic

theorem evalWorld (u : TValue) : EvalWorld world ce u := by
  intro id cb ev s a tok cs p r hrep _
  obtain ⟨a', c, he, hc, _, _, hl⟩ := hrep
  cases he
  simp [world, load_some hc, ce, EvCorr, tV, NRepL_length hl]

/-- cell 1 shows the array node (two terminals by value, the third child at cell 2), cell 2 the custom node -/
theorem nrep : NRep heap node (.ref 1) :=
  ⟨1, _, rfl, rfl, rfl, rfl, ⟨_, rfl⟩, ⟨_, rfl⟩, ⟨2, _, rfl, rfl, rfl, rfl, ⟨_, rfl⟩, trivial⟩, trivial⟩

end C04PEx

/-- the example satisfies the hypotheses, and evaluates — in the model and, by the tie, in the translation — to the
    array [1, 1] (the separator is skipped, the custom node answers the number of its children) -/
theorem c04p_nonvacuous :
    EvalWorld C04PEx.world C04PEx.ce .nil ∧ NRep C04PEx.st.heap C04PEx.node (.ref 1) ∧ C04PEx.node.EvalSafe ∧
    C04PEx.node.depth = 2 ∧
    evalNode C04PEx.ce 3 C04PEx.node = .ok (.arr [.int 1, .int 1]) ∧
    EvaluateNode C04PEx.world 9 .nil (.ref 1) C04PEx.st = .ok (tV (.arr [.int 1, .int 1]), .nil) C04PEx.st := by
  have h5 : evalNode C04PEx.ce 3 C04PEx.node = .ok (.arr [.int 1, .int 1]) := by rfl
  refine ⟨C04PEx.evalWorld _, C04PEx.nrep, by simp [C04PEx.node, PV.Node.EvalSafe, EvalSafeList], by decide, h5, ?_⟩
  have := tie_EvaluateNode C04PEx.world C04PEx.ce .nil (C04PEx.evalWorld _) C04PEx.st 3 C04PEx.node (.ref 1) 9 C04PEx.nrep
    (by decide) (by decide)
  rw [h5] at this
  exact this

end PV
