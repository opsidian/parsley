/-
  C14 — a parser graph can be shared by concurrent parses.                      (claimed as PARTIAL)

  Model: ParsleyVerif/Model/Conc.lean; lemmas: ParsleyVerif/Proofs/Conc.lean;
  facts: ParsleyVerif/Generated/FactsConc.lean, regenerated from the source on every run by
  harness/cmd/factgen (conc.go: go/types over the repository's own packages, conservative call graph).

  What is proved
    * the LOGIC of non-interference: for every schedule (any interleaving, fair or not) a run whose steps can
      only see the read-only graph and its own state ends exactly where it ends when executed alone
      (`c14_noninterference`, `c14_noninterference_complete`), and the graph and the index counter are unchanged;
    * the same for a machine with ONE shared heap in which isolation is not built in but is the hypothesis
      "every run reads `own i ∪ ro` only and writes `own i` only, the `own`s are disjoint" (`c14_footprint`,
      `c14_readonly_untouched`) — and that without the hypothesis it fails (`c14_footprint_needed`);
    * an atomic fetch-add hands pairwise distinct parser indexes to any number of concurrent constructions under
      every interleaving (`c14_indices_distinct`, `c14_indices_obtained`); a load followed by a store does not
      (`c14_nonatomic_duplicates`);
    * on the source, by `decide` on the regenerated facts (`c14_facts`): the only package level variable
      ever written / address-taken / pointer-called is `combinator.nextParserIndex`, atomically, in the constructor
      `combinator.Memoize` and never at parse time; no parse-time function writes a variable captured from a scope
      that outlives one parse (nothing is stored in the parser graph); every other parse-time write goes to a
      fresh local allocation, to a per-invocation captured variable, or through a root whose static type is in an
      explicit list of per-run object types; the library-allocated ones among these are allocated only in
      functions that run only within a parse.

  What is NOT proved, and cannot be in this model
    * the Go memory model.  A step here is atomic and immediately visible to every later step.  That a program
      whose goroutines have disjoint write footprints over a never-written shared part is data-race-free, and
      therefore sequentially consistent, is Go's DRF-SC guarantee; it is assumed, not derived.
    * real goroutine schedules, preemption points, the race detector's verdict.  The runner's `-race` workload
      covers those at run time; it is evidence, not proof.
    * that `c14_facts` entails the `Footprint` hypothesis for the real program.  The connection is by reading:
      `own i` = the objects of the listed per-run types reachable from run `i`'s context plus its stack,
      `ro` = the parser graph (closures and what they captured) and the package level variables;
      `writes_own` is what `c14_facts` checks syntactically (no write with a `pkgvar` or `captured-shared` root,
      every other root a per-run type); `own_disjoint` is the premise of the property itself ("each with its own
      context, reader and input") together with the allocation-site check.  The extractor sees assignments,
      increment and decrement statements, range-assignments and `append/copy/delete`; it does not see writes made inside the standard library
      on the caller's behalf, `unsafe`, or cgo, and its type-based ownership is not an alias analysis.
-/
import ParsleyVerif.Proofs.Conc
import ParsleyVerif.Generated.Facts
import ParsleyVerif.Generated.FactsConc
namespace PV.Conc

/-- **C14 (non-interference, every schedule).**  Whatever the interleaving, the state of run `i` is the state of
    its solo execution after as many steps as the schedule gave it; the parser graph and the index counter are
    what they were. -/
theorem c14_noninterference {N : Nat} (M : Machine N) (sched : List (Fin N)) (s : State M) (i : Fin N) :
    (M.run sched s).locals i = M.solo i s.graph (occ i sched) (s.locals i) ∧
    (M.run sched s).graph = s.graph ∧ (M.run sched s).counter = s.counter :=
  unwind M.stepRun i (M.soloStep i s.graph) (M.solo i s.graph) (fun _ => rfl) (fun _ _ => rfl)
    (fun s' l => s'.locals i = l ∧ s'.graph = s.graph ∧ s'.counter = s.counter)
    (fun s' _ ⟨hl, hg, hc⟩ =>
      ⟨hl ▸ hg ▸ M.stepRun_self s' i, (M.stepRun_graph s' i).trans hg, (M.stepRun_counter s' i).trans hc⟩)
    (fun j s' _ hj ⟨hl, hg, hc⟩ =>
      ⟨(M.stepRun_other s' i j (Ne.symm hj)).trans hl, (M.stepRun_graph s' j).trans hg,
       (M.stepRun_counter s' j).trans hc⟩)
    sched s (s.locals i) ⟨rfl, rfl, rfl⟩

/-- **C14 (non-interference, complete schedules).**  If the schedule lets run `i` finish, run `i` ends in the
    final state of its solo execution: that state is reached alone too (`SoloFinal`), and every solo execution
    that finishes — after however many steps — finishes in it. -/
theorem c14_noninterference_complete {N : Nat} (M : Machine N) (sched : List (Fin N)) (s : State M) (i : Fin N)
    (fin : M.step i s.graph ((M.run sched s).locals i) = none) :
    M.SoloFinal i s.graph (s.locals i) ((M.run sched s).locals i) ∧
    ∀ l', M.SoloFinal i s.graph (s.locals i) l' → (M.run sched s).locals i = l' := by
  have e := (c14_noninterference M sched s i).1
  refine ⟨⟨occ i sched, e.symm, fin⟩, ?_⟩
  rintro l' ⟨n, rfl, hn⟩
  rw [e] at fin ⊢
  exact Machine.solo_final_unique M i s.graph (s.locals i) _ _ fin hn

/-- **C14 (frame rule).**  One shared heap, steps that may touch anything — but under the footprint discipline
    (each run reads `own i ∪ ro`, writes `own i`, the `own`s pairwise disjoint and disjoint from `ro`) the heap
    restricted to `own i ∪ ro` after any interleaving equals the one after run `i`'s solo execution. -/
theorem c14_footprint {N : Nat} {Loc Val : Type} (H : HMachine N Loc Val)
    (own : Fin N → Loc → Prop) (ro : Loc → Prop) (F : H.Footprint own ro)
    (sched : List (Fin N)) (h : Loc → Val) (i : Fin N) :
    ∀ l, own i l ∨ ro l → H.run sched h l = H.solo i (occ i sched) h l :=
  HMachine.run_agree H F i sched h h (fun _ _ => rfl)

/-- `ro` is the parser graph. -/
theorem c14_readonly_untouched {N : Nat} {Loc Val : Type} (H : HMachine N Loc Val)
    (own : Fin N → Loc → Prop) (ro : Loc → Prop) (F : H.Footprint own ro)
    (sched : List (Fin N)) (h : Loc → Val) : ∀ l, ro l → H.run sched h l = h l :=
  fun l hl => HMachine.run_unowned H F l (fun j hj => F.ro_disjoint j l hj hl) sched h

/-- the hypothesis of `c14_footprint` is needed: two runs writing one shared cell (`racyHeap`) see each other —
    run 1 alone computes 0·2 = 0, after run 0's step it computes 2, and the two orders disagree -/
theorem c14_footprint_needed :
    racyHeap.solo 1 (occ (1 : Fin 2) [0, 1]) (fun _ => 0) 0 = 0 ∧ racyHeap.run [0, 1] (fun _ => 0) 0 = 2 ∧
    racyHeap.run [1, 0] (fun _ => 0) 0 = 1 := by decide

/-- **C14 (parser indexes).**  `k` concurrent constructions, each drawing its index with one atomic fetch-add,
    under any interleaving (and any repetition): no two constructors hold the same index. -/
theorem c14_indices_distinct (k c₀ : Nat) (sched : List (Fin k)) (i j : Fin k) (a b : Nat) (hij : i ≠ j)
    (hi : (runAtomic sched (CState.init k c₀)).got i = some a)
    (hj : (runAtomic sched (CState.init k c₀)).got j = some b) : a ≠ b :=
  (runAtomic_inv sched _ (init_inv k c₀)).2 i j a b hij hi hj

theorem c14_indices_obtained (k c₀ : Nat) (sched : List (Fin k)) (i : Fin k) (hi : i ∈ sched) :
    ((runAtomic sched (CState.init k c₀)).got i).isSome :=
  runAtomic_gets sched i hi _

/-- the contrast: with `tmp := counter` and `counter = tmp + 1` as separate steps there is a schedule of two
    constructions that gives both the same index -/
theorem c14_nonatomic_duplicates :
    ∃ sched : List (Fin 2),
      (runRacy sched (RState.init 2 0)).pc 0 = .done 1 ∧ (runRacy sched (RState.init 2 0)).pc 1 = .done 1 :=
  ⟨[0, 1, 0, 1], by decide⟩

/-- Root types through which parse-time code may write, each a type whose every instance belongs to ONE run.

    Handed in by the caller, one per parse (the property's premise "each with its own context, reader and input"):
    * `*parsley.Context` — `&Context{…}` in `parsley.NewContext` (parsley/context.go:24); written: `err`, `callCount`.
    * `parsley.ResultCache` — `make(map[int]map[Pos]*Result)` in `parsley.NewResultCache` (result_cache.go:26),
      called from `NewContext` (context.go:27): the map is a field of that one Context.
    * `*text.Reader` — `&Reader{…, regexpCache: map[string]*regexp.Regexp{}}` in `text.NewReader`
      (text/reader.go:34–36): the regexp cache filled by `getPattern` is per Reader, not per package.
    * `*text.File` — `&File{…}` in `text.NewFile` (text/file.go:29); `lines` is built lazily by `setLines`
      (file.go:48) on the first `Position` call (file.go:73), i.e. possibly DURING a parse when an error is
      positioned.  A File belongs to one run's file set; sharing one File between two concurrent contexts
      would race here and is outside the property's premise.

    Allocated by the library during the parse (checked below against `allocSites`: parse-only functions):
    * `*combinator.sequence` — `&sequence{…}` at the top of `(*Sequence).Parse` (combinator/seq.go:66), one per
      call; the shared `*Sequence` graph node is only read there.
    * `*ast.NonTerminalNode`, `*ast.TerminalNode`, `*terminal.XNode` — `ast.NewNonTerminalNode`
      (nonterminal_node.go:36), `NewEmptyNonTerminalNode` (:47), `ast.NewTerminalNode` (terminal_node.go:32),
      `terminal.NewXNode`: result nodes, created inside parser functions, written by `SetReaderPos`,
      `StaticCheck`, `Transform`.
    * `ast.NodeList`, `*ast.NodeList` — slices: made in `ast.AppendNode` (helpers.go:24), grown by `Append`;
      `Memoize` stores them capacity-clipped (memoize.go:35) in the run's own result cache.  Results of one parse.
    * `data.IntMap` — the only maps written are the fresh ones of `clone` (intmap.go:27), `Inc` (:52, a clone),
      `Filter` (:63, `NewIntMap(nil)`); `*data.IntSet` — `insertValue` is private and is called on the address of
      a local of `NewIntSet` / `Insert` (intset.go:26, :43) whose backing array was made there.  That these
      never write through their argument is C15's theorem (`PV.Data.c15_refine`); that the model there is the
      source's functions is `PV.ProgTie.c15_translated_functions` (Props/C15P.lean). -/
def allowedRootTypes : List String := [
  "*parsley.Context", "parsley.ResultCache", "*text.Reader", "*text.File",
  "*combinator.sequence",
  "*ast.NonTerminalNode", "*ast.TerminalNode", "ast.NodeList", "*ast.NodeList",
  "*terminal.BoolNode", "*terminal.CharNode", "*terminal.FloatNode", "*terminal.IntegerNode",
  "*terminal.NilNode", "*terminal.OpNode", "*terminal.StringNode", "*terminal.TimeDurationNode",
  "data.IntMap", "*data.IntSet"]

/-- the struct types of that list which the library itself allocates: every allocation site must be in a function
    that runs only within a parse (a node or a `sequence` made at construction time would sit in the graph) -/
def perParseStructs : List String := [
  "combinator.sequence", "ast.NonTerminalNode", "ast.TerminalNode",
  "terminal.BoolNode", "terminal.CharNode", "terminal.FloatNode", "terminal.IntegerNode",
  "terminal.NilNode", "terminal.OpNode", "terminal.StringNode", "terminal.TimeDurationNode"]

/-- kinds of write that stay inside one invocation whatever the type -/
def localKinds : List String := ["captured-local", "local-fresh"]

/-- kinds of write that reach memory through a root of a known static type -/
def typedKinds : List String := ["receiver", "param", "local-deref", "captured-local-deref", "call-result"]

/-- **C14 (the source).**  See the header.  Every conjunct is decided on the regenerated facts; a
    package-level scratch variable, `errors.As(err, &pkgVar)`, a counter captured by a parser closure, state kept
    on `*Sequence`, a package-level regexp cache, a node preallocated at construction time, or a non-atomic index
    counter each falsify one of them. -/
theorem c14_facts :
    -- package level variables: one access in the whole library, atomic, in a constructor
    (∀ a ∈ FactsConc.pkgVarAccesses, a = ("combinator.nextParserIndex", "atomic", "combinator.Memoize")) ∧
    "combinator.Memoize" ∈ FactsConc.constructionOnlyFuncs ∧
    "combinator.Memoize" ∉ FactsConc.parseTimeFuncs ∧
    -- nothing is stored in the parser graph at parse time
    FactsConc.capturedShared = [] ∧
    -- every parse-time write: invocation-local, or through a per-run type (so never "pkgvar"/"captured-shared")
    (∀ w ∈ FactsConc.parseTimeWrites,
        w.2.2.1 ∈ localKinds ∨ (w.2.2.1 ∈ typedKinds ∧ w.2.2.2 ∈ allowedRootTypes)) ∧
    (∀ t ∈ FactsConc.parseTimeRootTypes, t ∈ allowedRootTypes) ∧
    -- the library-allocated per-run structs are allocated at parse time only, and are allocated somewhere
    (∀ a ∈ FactsConc.allocSites, a.1 ∈ perParseStructs → a.2.2 = "parse") ∧
    (∀ t ∈ perParseStructs, ∃ a ∈ FactsConc.allocSites, a.1 = t) ∧
    -- the extractor found everything it looked for; both generated files agree on the package variables
    FactsConc.extractionProblems = [] ∧
    FactsConc.pkgVars = Facts.pkgVars ∧ FactsConc.pkgVarAccesses = Facts.pkgVarAccesses := by
  decide +kernel

/-! ### non-vacuity -/

/-- A schedule that finishes both runs of a 2-run machine. -/
example :
    (exMachine.run [1, 0, 1, 1, 0, 1, 0] exState).locals 0 = (3, 0) ∧
    (exMachine.run [1, 0, 1, 1, 0, 1, 0] exState).locals 1 = (0, 3) ∧
    exMachine.step 0 exState.graph ((exMachine.run [1, 0, 1, 1, 0, 1, 0] exState).locals 0) = none ∧
    exMachine.step 1 exState.graph ((exMachine.run [1, 0, 1, 1, 0, 1, 0] exState).locals 1) = none := by decide

/-- The solo results, computed separately. -/
example : exMachine.solo 0 3 1 (2, 0) = (3, 0) ∧ exMachine.solo 1 3 3 (2, 0) = (0, 3) := by decide

/-- A different schedule of the same runs ends in the same place. -/
example :
    (exMachine.run [0, 0, 0, 1, 1, 1, 1, 1] exState).locals 1 = (exMachine.run [1, 0, 1, 1, 0, 1, 0] exState).locals 1 :=
  ((c14_noninterference_complete exMachine _ exState 1 (by decide)).2 (0, 3)
    ⟨3, by decide, by decide⟩).trans
  ((c14_noninterference_complete exMachine _ exState 1 (by decide)).2 (0, 3) ⟨3, by decide, by decide⟩).symm

/-- the `Footprint` hypothesis is satisfiable by a machine that really shares a heap (`exHeap`: both runs read
    location 2, each writes its own cell), so `c14_footprint` is not vacuous … -/
example (sched : List (Fin 2)) (h : Nat → Nat) (i : Fin 2) :
    exHeap.run sched h i.val = exHeap.solo i (occ i sched) h i.val :=
  c14_footprint exHeap exOwn exRo exHeap_footprint sched h i i.val (Or.inl rfl)

example :
    exHeap.run [0, 1, 1, 0, 1] (fun l => if l = 2 then 4 else 0) 0 = 8 ∧
    exHeap.run [0, 1, 1, 0, 1] (fun l => if l = 2 then 4 else 0) 1 = 12 ∧
    exHeap.solo 0 2 (fun l => if l = 2 then 4 else 0) 0 = 8 ∧
    exHeap.solo 1 3 (fun l => if l = 2 then 4 else 0) 1 = 12 ∧
    exHeap.run [0, 1, 1, 0, 1] (fun l => if l = 2 then 4 else 0) 2 = 4 := by decide

/-- Indexes are handed out in schedule order; repetitions in the schedule draw nothing. -/
example :
    (runAtomic [2, 0, 2, 1, 0] (CState.init 3 7)).got 2 = some 8 ∧
    (runAtomic [2, 0, 2, 1, 0] (CState.init 3 7)).got 0 = some 9 ∧
    (runAtomic [2, 0, 2, 1, 0] (CState.init 3 7)).got 1 = some 10 := by decide

end PV.Conc
