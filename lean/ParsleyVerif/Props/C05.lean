/-
  C05 — left-recursive expression grammars evaluate like a reference evaluator.

  Model: `run` / `parse` / `evaluate` (Model/Run.lean, Model/Eval.lean) on the closed grammar
  `Garith.env`, `Garith.root` (Spec/Arith.lean):

      expr   := Memoize(Any(SeqOf(expr, addop, term).Bind(custom 0), term))
      term   := Memoize(Any(SeqOf(term, mulop, factor).Bind(custom 0), factor))
      factor := Any(Trim(Integer()), SeqOf(Trim('('), expr, Trim(')')).Bind(Select(1)))
      root   := Sentence(expr)

  exactly the terms the harness sends to the model and builds the real parsers from (stream C05G: the driver
  command `gclosed` compares the received grammar with these closed terms on every run), evaluated with
  `arithCustom` (= `Driver.menuCustom` by `rfl`, Driver/Closed.lean; = the Go closure `arithInterp` of the harness
  by the differential stream C05).

  Reference: `Expr`, `refEval : Expr → Except Nat Int` (left operand, right operand, int64 operation with
  wrap-around; truncated division; division by zero = the position of the operator), `exprOf : Node → Option Expr`.

  PROVED (for every input file, every fuel, every work budget `cfg.maxCalls`), of every tree the grammar derives and,
  through C01 soundness, of every tree `parse` returns: its SHAPE (`c05_tree_shape`, `c05_parse_tree`: `Sentence[e, EOF]`,
  `e` an expression tree that ends at the end of the input; `c05_expr_tree_iff`, `c05_term_tree_iff`, `c05_factor_tree_iff`:
  left-nested chains `[exprTree, '+'|'-', termTree]`, `[termTree, '*'|'/', factorTree]`, integer leaves and
  `['(', exprTree, ')']` — precedence and left associativity are properties of the TREE); its EVALUATION (`c05_eval_total`,
  `c05_value`: the reference outcome of the expression it denotes, or the evaluator's fuel runs out — never "bad operand" /
  "bad operator" / "missing interpreter" / an out-of-range Select); and the same through `evaluate` (`c05_evaluate`,
  `c05_no_panic`, `c05_error_position`: a division by zero is rendered at the position of the `/` leaf that `refEval`
  names, where the file has a `/`; C11 turns it into file:line:column).

  The full statement of DESIGN.md — on the text of every well-formed expression, under every admissible whitespace,
  `evaluate` answers the reference outcome, and `parse` succeeds on such texts only — is Props/C05V.lean
  (`c05_value_full`, `c05_value_text`: completeness of `run` on this grammar and unambiguity) and Props/C05A.lean
  (`c05_accepts_only_expressions`, `c05_decides`).  Here: what holds of every tree the grammar derives (DESIGN.md's
  `c05_value_partial`).  The differential stream C05 checks the full statement on every generated expression
  (independent recursive-descent evaluator over the text).
-/
import ParsleyVerif.Proofs.ArithShape
import ParsleyVerif.Proofs.ArithEval
import ParsleyVerif.Props.C01
namespace PV
open PV.Text

theorem c05_grammar_ok : (∀ g' ∈ Garith.env, GOK Garith.bodyOf g') ∧ GOK Garith.bodyOf Garith.root := by
  refine ⟨?_, ?_⟩
  · intro g' hg'
    simp only [Garith.env, List.mem_cons, List.not_mem_nil, or_false] at hg'
    rcases hg' with rfl | rfl | rfl <;>
      simp [GOK, G.All, AllList, LocalOK, Garith.expr, Garith.term, Garith.factor, Garith.exprBody, Garith.termBody,
        Garith.exprSeq, Garith.termSeq, Garith.parenSeq, Garith.addop, Garith.mulop, Garith.trim, Garith.rn, Garith.bodyOf]
  · simp [GOK, G.All, AllList, LocalOK, Garith.root, G.sentence]

/-- the tree of `Sentence(p)` around `e` -/
def sentenceNode (e : Node) : Node := .nt seqTok [e, .eof e.rpos] e.pos e.rpos (.select 0)

/-- **C05 tree shape**: every derivation of the root is `Sentence[e, EOF]`, `e` an expression tree ending at the
    end of the input -/
theorem c05_tree_shape (cfg : Cfg) (henv : cfg.env = Garith.env) (pos : Nat) (x : Node)
    (h : Derives cfg Garith.root pos x) :
    ∃ e, IsExprTree cfg.file e ∧ isEOF cfg.file e.rpos = true ∧ x = sentenceNode e := by
  obtain ⟨y, hy, heof, hx⟩ := derives_sentence_inv cfg (.ref 0) pos x h
  exact ⟨y, arith_derives_tree cfg henv 0 (by omega) pos y hy, heof, hx⟩

theorem c05_nonterminal_trees (cfg : Cfg) (henv : cfg.env = Garith.env) (pos : Nat) (x : Node) :
    (Derives cfg (.ref 0) pos x → IsExprTree cfg.file x) ∧
    (Derives cfg (.ref 1) pos x → IsTermTree cfg.file x) ∧
    (Derives cfg (.ref 2) pos x → IsFactorTree cfg.file x) :=
  ⟨arith_derives_tree cfg henv 0 (by omega) pos x, arith_derives_tree cfg henv 1 (by omega) pos x,
   arith_derives_tree cfg henv 2 (by omega) pos x⟩

theorem IsTree.level_le {f : File} {n : Nat} {x : Node} (h : IsTree f n x) : n ≤ 2 := by
  induction h with
  | int => omega
  | paren => omega
  | bin _ _ _ hl _ _ _ => cases ‹Op› <;> simp [Op.level] at hl <;> omega
  | up _ ih => omega

theorem ofRune_level0 {c : Nat} {o : Op} (h : Op.ofRune c = some o) (hl : o.level = 0) : c = 43 ∨ c = 45 := by
  unfold Op.ofRune at h
  split at h <;> cases h <;> simp [Op.level] at hl <;> simp

theorem ofRune_level1 {c : Nat} {o : Op} (h : Op.ofRune c = some o) (hl : o.level = 1) : c = 42 ∨ c = 47 := by
  unfold Op.ofRune at h
  split at h <;> cases h <;> simp [Op.level] at hl <;> simp

theorem c05_factor_tree_iff (f : File) (x : Node) :
    IsFactorTree f x ↔
      (∃ tok v p r, x = .term tok (.int v) p r) ∨
      (∃ tk lp e rp p q, x = .nt tk [lp, e, rp] p q (.select 1) ∧ IsRuneLeaf f 40 lp ∧ IsExprTree f e ∧ IsRuneLeaf f 41 rp) := by
  constructor
  · intro h
    cases h with
    | int => exact .inl ⟨_, _, _, _, rfl⟩
    | paren h1 h2 h3 => exact .inr ⟨_, _, _, _, _, _, rfl, h1, h2, h3⟩
    | bin _ _ _ hl _ => cases ‹Op› <;> simp [Op.level] at hl
    | up h => have := h.level_le; omega
  · rintro (⟨tok, v, p, r, rfl⟩ | ⟨tk, lp, e, rp, p, q, rfl, h1, h2, h3⟩)
    · exact .int
    · exact .paren h1 h2 h3

theorem c05_term_tree_iff (f : File) (x : Node) :
    IsTermTree f x ↔
      (∃ tk l c op r p q, x = .nt tk [l, op, r] p q (.custom 0) ∧ IsTermTree f l ∧ (c = 42 ∨ c = 47) ∧
        IsRuneLeaf f c op ∧ IsFactorTree f r) ∨
      IsFactorTree f x := by
  constructor
  · intro h
    cases h with
    | bin h1 h2 h3 hl h4 => exact .inl ⟨_, _, _, _, _, _, _, rfl, h1, ofRune_level1 h3 hl, h2, h4⟩
    | up h => exact .inr h
  · rintro (⟨tk, l, c, op, r, p, q, rfl, h1, hc, h2, h4⟩ | h)
    · rcases hc with rfl | rfl
      · exact .bin (o := .mul) h1 h2 rfl rfl h4
      · exact .bin (o := .div) h1 h2 rfl rfl h4
    · exact .up h

theorem c05_expr_tree_iff (f : File) (x : Node) :
    IsExprTree f x ↔
      (∃ tk l c op r p q, x = .nt tk [l, op, r] p q (.custom 0) ∧ IsExprTree f l ∧ (c = 43 ∨ c = 45) ∧
        IsRuneLeaf f c op ∧ IsTermTree f r) ∨
      IsTermTree f x := by
  constructor
  · intro h
    cases h with
    | bin h1 h2 h3 hl h4 => exact .inl ⟨_, _, _, _, _, _, _, rfl, h1, ofRune_level0 h3 hl, h2, h4⟩
    | up h => exact .inr h
  · rintro (⟨tk, l, c, op, r, p, q, rfl, h1, hc, h2, h4⟩ | h)
    · rcases hc with rfl | rfl
      · exact .bin (o := .add) h1 h2 rfl rfl h4
      · exact .bin (o := .sub) h1 h2 rfl rfl h4
    · exact .up h

/-- through C01 soundness: every tree `parse` returns is `Sentence[e, EOF]` over an expression tree that ends at
    the end of the input -/
theorem c05_parse_tree (cfg : Cfg) (henv : cfg.env = Garith.env) (fuel : Nat) (p : ParseOut)
    (h : parse cfg fuel Garith.root = some p) :
    ∀ x ∈ p.res.alts, ∃ e, IsExprTree cfg.file e ∧ isEOF cfg.file e.rpos = true ∧ x = sentenceNode e := by
  intro x hx
  have henv' : ∀ g' ∈ cfg.env, GOK Garith.bodyOf g' := by rw [henv]; exact c05_grammar_ok.1
  exact c05_tree_shape cfg henv _ x (c01_sound_parse cfg Garith.bodyOf henv' fuel _ c05_grammar_ok.2 p h x hx)

theorem c05_exprOf_total (f : File) (x : Node) (h : IsExprTree f x) : ∃ e, exprOf x = some e :=
  arith_exprOf_some h

/-- **C05 totality**: for every fuel, an expression tree evaluates to an integer, or to "division by zero" at the
    position `p` of one of its `/` leaves (and the file has `/` at `p`), or the fuel runs out (only when the fuel
    does not exceed the depth) — no other outcome, in particular none of the panics -/
theorem c05_eval_total (f : File) (x : Node) (h : IsExprTree f x) (fuel : Nat) :
    (∃ v, evalNode arithCustom fuel x = .ok (.int v)) ∨
    (∃ p, evalNode arithCustom fuel x = .err p (tokOf "division by zero") ∧ DivLeafAt f x p) ∨
    (evalNode arithCustom fuel x = .panic "out of fuel" ∧ fuel ≤ x.depth) := by
  obtain ⟨e, he⟩ := arith_exprOf_some h
  rcases arith_eval h e he fuel with hv | hv
  · rw [hv]
    cases hr : refEval e with
    | ok v => exact .inl ⟨v, rfl⟩
    | error q => exact .inr (.inl ⟨q, rfl, refEval_error_at h e q he hr⟩)
  · exact .inr (.inr hv)

/-- **C05 homomorphism**: with fuel above the depth, an expression tree evaluates to the reference value (or the
    reference error) of the expression it denotes -/
theorem c05_value (f : File) (x : Node) (h : IsExprTree f x) (e : Expr) (he : exprOf x = some e)
    (fuel : Nat) (hd : x.depth < fuel) : evalNode arithCustom fuel x = embed (refEval e) :=
  arith_value h e he fuel hd

theorem c05_value_any (f : File) (x : Node) (h : IsExprTree f x) (e : Expr) (he : exprOf x = some e) (fuel : Nat) :
    evalNode arithCustom fuel x = embed (refEval e) ∨ evalNode arithCustom fuel x = .panic "out of fuel" :=
  arith_value_any h e he fuel

theorem c05_ref_error_at (f : File) (x : Node) (h : IsExprTree f x) (e : Expr) (he : exprOf x = some e) (q : Nat)
    (hq : refEval e = .error q) : DivLeafAt f x q :=
  refEval_error_at h e q he hq

theorem evalNode_sentenceNode (ce : CustomEval) (fuel : Nat) (e : Node) :
    evalNode ce (fuel + 1) (sentenceNode e) = evalNode ce fuel e := by
  simp [sentenceNode, evalNode]

/-- `evaluate` on `Sentence(g)` when every tree the parse returns is a Sentence node over a tree `T` holds of: the
    parse's error; or the evaluator's outcome on the one tree; or, of several trees, "node does not have a value"
    (a NodeList has no Value method) -/
theorem evaluate_sentence_cases {cfg : Cfg} {ce : CustomEval} {g : G} {fuel : Nat} {out : EvaluateOut} {T : Node → Prop}
    (h : evaluate cfg ce fuel (G.sentence g) = some out)
    (htrees : ∀ p, parse cfg fuel (G.sentence g) = some p → ∀ x ∈ p.res.alts, ∃ t, T t ∧ x = sentenceNode t) :
    ∃ p, parse cfg fuel (G.sentence g) = some p ∧
      ((∃ m, p.msg = some m ∧ out = .error m) ∨
       (p.msg = none ∧ ∃ t, p.res = .one (sentenceNode t) ∧ T t ∧
          out = (evalNode ce fuel (sentenceNode t)).answer cfg.fileSet) ∨
       (p.msg = none ∧ ∃ n l, p.res = .list (n :: l) ∧
          out = .error (errorWithPosition cfg.fileSet ⟨n.pos, .other noValueMsg⟩))) := by
  obtain ⟨p, hp, hrej | ⟨hok, hout⟩⟩ := evaluate_cases cfg ce fuel _ out h
  · exact ⟨p, hp, .inl hrej⟩
  · refine ⟨p, hp, .inr ?_⟩
    have hne := parse_sentence_alts_ne cfg g fuel p hp hok
    have ht := htrees p hp
    cases hres : p.res with
    | nil => rw [hres] at hne; exact absurd rfl hne
    | one x =>
      obtain ⟨t, hT, rfl⟩ := ht x (by rw [hres]; exact List.mem_singleton.mpr rfl)
      exact .inl ⟨hok, t, rfl, hT, by rw [hout, hres]; rfl⟩
    | list l =>
      cases l with
      | nil => rw [hres] at hne; exact absurd rfl hne
      | cons n l' => exact .inr ⟨hok, n, l', rfl, by rw [hout, hres]; rfl⟩

/-- **C05, `evaluate` on the grammar** (DESIGN.md's `c05_value_partial`).  Either the parse fails and its error
    is the answer; or it returns a single tree `Sentence[t, EOF]`, `t` an expression tree denoting `e`, and the
    answer is the reference value of `e` / the reference error of `e` rendered with its position (a `/` leaf of
    `t`) / out of fuel; or it returns several trees (not excluded here: that needs unambiguity) and the answer is
    the evaluator's "node does not have a value" error. -/
theorem c05_evaluate (cfg : Cfg) (henv : cfg.env = Garith.env) (fuel : Nat) (out : EvaluateOut)
    (h : evaluate cfg arithCustom fuel Garith.root = some out) :
    ∃ p, parse cfg fuel Garith.root = some p ∧
      ((∃ m, p.msg = some m ∧ out = .error m) ∨
       (p.msg = none ∧ ∃ t e, p.res = .one (sentenceNode t) ∧ IsExprTree cfg.file t ∧ isEOF cfg.file t.rpos = true ∧
          exprOf t = some e ∧
          ((∃ v, refEval e = .ok v ∧ out = .value (.int v)) ∨
           (∃ q, refEval e = .error q ∧ DivLeafAt cfg.file t q ∧
              out = .error (errorWithPosition cfg.fileSet ⟨q, .other (tokOf "division by zero")⟩)) ∨
           (out = .panic "out of fuel" ∧ fuel ≤ t.depth + 1))) ∨
       (p.msg = none ∧ ∃ n l, p.res = .list (n :: l) ∧
          out = .error (errorWithPosition cfg.fileSet ⟨n.pos, .other noValueMsg⟩))) := by
  obtain ⟨p, hp, hrej | ⟨hok, t, hres, ⟨ht, heof⟩, hout⟩ | hlist⟩ := evaluate_sentence_cases (g := .ref 0)
    (T := fun t => IsExprTree cfg.file t ∧ isEOF cfg.file t.rpos = true) h fun p hp x hx =>
      let ⟨t, a, b, c⟩ := c05_parse_tree cfg henv fuel p hp x hx; ⟨t, ⟨a, b⟩, c⟩
  · exact ⟨p, hp, .inl hrej⟩
  · obtain ⟨e, he⟩ := arith_exprOf_some ht
    refine ⟨p, hp, .inr (.inl ⟨hok, t, e, hres, ht, heof, he, ?_⟩)⟩
    cases fuel with
    | zero => exact .inr (.inr ⟨hout, Nat.zero_le _⟩)
    | succ k =>
      rw [evalNode_sentenceNode] at hout
      rcases arith_eval ht e he k with hv | ⟨hv, hk⟩
      · rw [hv] at hout
        cases hr : refEval e with
        | ok v => rw [hr] at hout; exact .inl ⟨v, rfl, hout⟩
        | error q => rw [hr] at hout; exact .inr (.inl ⟨q, rfl, refEval_error_at ht e q he hr, hout⟩)
      · rw [hv] at hout
        exact .inr (.inr ⟨hout, by omega⟩)
  · exact ⟨p, hp, .inr (.inr hlist)⟩

/-- **C05: `evaluate` never panics** on the arithmetic grammar — whatever the input; the model's own
    "out of fuel" aside -/
theorem c05_no_panic (cfg : Cfg) (henv : cfg.env = Garith.env) (fuel : Nat) (s : String)
    (h : evaluate cfg arithCustom fuel Garith.root = some (.panic s)) : s = "out of fuel" := by
  obtain ⟨p, _, hc⟩ := c05_evaluate cfg henv fuel _ h
  rcases hc with ⟨m, _, h1⟩ | ⟨_, t, e, _, _, _, _, h1⟩ | ⟨_, n, l, _, h1⟩
  · cases h1
  · rcases h1 with ⟨v, _, h2⟩ | ⟨q, _, _, h2⟩ | ⟨h2, _⟩
    · cases h2
    · cases h2
    · cases h2; rfl
  · cases h1

/-- **C05: a value is the reference value** of the expression denoted by the tree that was parsed, and that tree
    spans the input to its end -/
theorem c05_value_partial (cfg : Cfg) (henv : cfg.env = Garith.env) (fuel : Nat) (v : V)
    (h : evaluate cfg arithCustom fuel Garith.root = some (.value v)) :
    ∃ p t e i, parse cfg fuel Garith.root = some p ∧ p.res = .one (sentenceNode t) ∧ IsExprTree cfg.file t ∧
      isEOF cfg.file t.rpos = true ∧ exprOf t = some e ∧ refEval e = .ok i ∧ v = .int i := by
  obtain ⟨p, hp, hc⟩ := c05_evaluate cfg henv fuel _ h
  rcases hc with ⟨m, _, h1⟩ | ⟨_, t, e, hres, ht, heof, he, h1⟩ | ⟨_, n, l, _, h1⟩
  · cases h1
  · rcases h1 with ⟨i, hr, h2⟩ | ⟨q, _, _, h2⟩ | ⟨h2, _⟩
    · cases h2; exact ⟨p, t, e, i, hp, hres, ht, heof, he, hr, rfl⟩
    · cases h2
    · cases h2
  · cases h1

theorem sentenceNode_inj {a b : Node} (h : sentenceNode a = sentenceNode b) : a = b := by
  simp only [sentenceNode, Node.nt.injEq, List.cons.injEq] at h
  exact h.2.1.1

/-- a parse that returned the single tree `Sentence[t, EOF]`: `t` is an expression tree, and there is no error text -/
theorem parse_one_tree {cfg : Cfg} (henv : cfg.env = Garith.env) {fuel : Nat} {p : ParseOut} {t : Node}
    (hp : parse cfg fuel Garith.root = some p) (hres : p.res = .one (sentenceNode t)) :
    IsExprTree cfg.file t ∧ p.msg = none := by
  obtain ⟨t', ht, _, hx⟩ := c05_parse_tree cfg henv fuel p hp (sentenceNode t) (by simp [hres, Res.alts])
  cases sentenceNode_inj hx
  refine ⟨ht, ?_⟩
  rcases c04_xor cfg fuel _ {} p hp with h1 | h1
  · exact h1.2.2
  · rw [hres] at h1; simp [Res.isNil] at h1

/-- what `evaluate` answers when `parse` returned the single tree `Sentence[t, EOF]` and the fuel exceeds its depth:
    the reference outcome of the expression `t` denotes, an error rendered with its position -/
theorem evaluate_one {cfg : Cfg} {fuel : Nat} {p : ParseOut} {t : Node} {e : Expr}
    (hp : parse cfg fuel Garith.root = some p) (hmsg : p.msg = none) (hres : p.res = .one (sentenceNode t))
    (ht : IsExprTree cfg.file t) (he : exprOf t = some e) (hfuel : t.depth + 1 < fuel) :
    evaluate cfg arithCustom fuel Garith.root = some (match refEval e with
      | .ok v => .value (.int v)
      | .error q => .error (errorWithPosition cfg.fileSet ⟨q, .other (tokOf "division by zero")⟩)) := by
  obtain ⟨k, rfl⟩ : ∃ k, fuel = k + 1 := ⟨fuel - 1, by omega⟩
  simp only [evaluate, hp, hmsg, hres, evalRes, evalNode_sentenceNode, arith_value ht e he k (by omega)]
  cases refEval e <;> rfl

/-- **C05 error position**: when the expression the parsed tree denotes divides by zero, the answer is the error
    text "division by zero" rendered by the file set at the position `q` the reference evaluator reports; `q` is
    the position of a `/` leaf of the tree and the file has `/` there -/
theorem c05_error_position (cfg : Cfg) (henv : cfg.env = Garith.env) (fuel : Nat) (p : ParseOut) (t : Node) (e : Expr)
    (q : Nat) (hp : parse cfg fuel Garith.root = some p) (hres : p.res = .one (sentenceNode t))
    (he : exprOf t = some e) (hq : refEval e = .error q) (hfuel : t.depth + 1 < fuel) :
    evaluate cfg arithCustom fuel Garith.root =
      some (.error (errorWithPosition cfg.fileSet ⟨q, .other (tokOf "division by zero")⟩)) ∧
    DivLeafAt cfg.file t q ∧ RuneAt cfg.file 47 q := by
  obtain ⟨ht, hmsg⟩ := parse_one_tree henv hp hres
  have hdiv := refEval_error_at ht e q he hq
  have ⟨_, _, hat⟩ := hdiv
  exact ⟨by rw [evaluate_one hp hmsg hres ht he hfuel, hq], hdiv, hat⟩

/-- the text of a positioned error: the message, " at ", and the rendered file position (unknown positions:
    the message alone) — `FileSet.position` is C11's / C12's subject -/
theorem c05_error_text (fs : FileSet) (q : Nat) :
    errorWithPosition fs ⟨q, .other (tokOf "division by zero")⟩ =
      match fs.position q with
      | .unknown => tokOf "division by zero"
      | pr => tokOf "division by zero" ++ tokOf " at " ++ tokOf pr.render := by
  simp only [errorWithPosition, ErrKind.msg]
  cases fs.position q <;> rfl

/-- **C05 reject / accept**: `parse` gives exactly one of tree / error (C04), and a tree only for an input that
    an expression tree spans from the first byte's whitespace to the end of the input -/
theorem c05_reject (cfg : Cfg) (henv : cfg.env = Garith.env) (fuel : Nat) (p : ParseOut)
    (h : parse cfg fuel Garith.root = some p) :
    (p.res.isNil = true ∧ p.err.isSome ∧ p.msg.isSome) ∨
    (p.res.isNil = false ∧ p.err = none ∧ p.msg = none ∧ p.res.alts ≠ [] ∧
      ∀ x ∈ p.res.alts, ∃ e, IsExprTree cfg.file e ∧ isEOF cfg.file e.rpos = true ∧ x = sentenceNode e) := by
  rcases c04_xor cfg fuel _ {} p h with h1 | h1
  · exact .inr ⟨h1.1, h1.2.1, h1.2.2, parse_sentence_alts_ne cfg _ fuel p h h1.2.2, c05_parse_tree cfg henv fuel p h⟩
  · exact .inl h1

/-! ### non-vacuity

  The model's `run` cannot be evaluated by the kernel on this grammar: `cpUnion` (IntSet.Union) is defined by
  well-founded recursion and a nested Memoize forces its value (`Ctx.filter`), so `decide` gets stuck.  The
  examples are therefore kernel-checked at the level of trees — the trees below ARE the ones `parse` returns
  (the `#guard` lines run the model's `evaluate` on the files with the interpreter at build time; they are tests,
  not theorems) — and one complete derivation is exhibited for the hypotheses of `c05_tree_shape`. -/

def nvArithCfg (src : Bytes) : Cfg :=
  let r := ({} : FileSet).addFile (newFile "f" src)
  { env := Garith.env, file := r.2, fileSet := r.1,
    params := { floatOk := fun _ => true, durErr := fun _ => none, regexp := fun _ _ => none } }

def intLeaf (v : Int) (p r : Nat) : Node := .term (tokOf "INTEGER") (.int v) p r
def opLeaf (c p r : Nat) : Node := .term [c] (.rune c) p r
def binNode (l op r : Node) : Node := .nt seqTok [l, op, r] l.pos r.rpos (.custom 0)

/-- `1 + 2 * 3` -/
def nvSrc1 : Bytes := [49, 32, 43, 32, 50, 32, 42, 32, 51]
def nvTree1 : Node := binNode (intLeaf 1 1 3) (opLeaf 43 3 5) (binNode (intLeaf 2 5 7) (opLeaf 42 7 9) (intLeaf 3 9 10))
example : IsExprTree (nvArithCfg nvSrc1).file nvTree1 :=
  .bin (c := 43) (o := .add) (.up (.up .int)) ⟨3, 5, rfl, 4, by decide⟩ rfl rfl
    (.bin (c := 42) (o := .mul) (.up .int) ⟨7, 9, rfl, 8, by decide⟩ rfl rfl .int)
example : exprOf nvTree1 = some (.add (.lit 1) 3 (.mul (.lit 2) 7 (.lit 3))) := by rfl
example : refEval (.add (.lit 1) 3 (.mul (.lit 2) 7 (.lit 3))) = .ok 7 := by rfl
example : evalNode arithCustom 4 (sentenceNode nvTree1) = .ok (.int 7) := by rfl

/-- `(1+2)*3` -/
def nvSrc2 : Bytes := [40, 49, 43, 50, 41, 42, 51]
def nvTree2 : Node :=
  binNode (.nt seqTok [opLeaf 40 1 2, binNode (intLeaf 1 2 3) (opLeaf 43 3 4) (intLeaf 2 4 5), opLeaf 41 5 6] 1 6 (.select 1))
    (opLeaf 42 6 7) (intLeaf 3 7 8)
example : IsExprTree (nvArithCfg nvSrc2).file nvTree2 :=
  .up (.bin (c := 42) (o := .mul)
    (.up (.paren ⟨1, 2, rfl, 2, by decide⟩ (.bin (c := 43) (o := .add) (.up (.up .int)) ⟨3, 4, rfl, 4, by decide⟩ rfl rfl (.up .int))
      ⟨5, 6, rfl, 6, by decide⟩))
    ⟨6, 7, rfl, 7, by decide⟩ rfl rfl .int)
example : exprOf nvTree2 = some (.mul (.paren (.add (.lit 1) 3 (.lit 2))) 6 (.lit 3)) := by rfl
example : refEval (.mul (.paren (.add (.lit 1) 3 (.lit 2))) 6 (.lit 3)) = .ok 9 := by rfl
example : evalNode arithCustom 5 (sentenceNode nvTree2) = .ok (.int 9) := by rfl

/-- `8/2/2` is `(8/2)/2 = 2`, not `8/(2/2) = 8`: the tree is left-nested -/
def nvSrc3 : Bytes := [56, 47, 50, 47, 50]
def nvTree3 : Node := binNode (binNode (intLeaf 8 1 2) (opLeaf 47 2 3) (intLeaf 2 3 4)) (opLeaf 47 4 5) (intLeaf 2 5 6)
example : IsExprTree (nvArithCfg nvSrc3).file nvTree3 :=
  .up (.bin (c := 47) (o := .div) (.bin (c := 47) (o := .div) (.up .int) ⟨2, 3, rfl, 3, by decide⟩ rfl rfl .int) ⟨4, 5, rfl, 5, by decide⟩ rfl rfl .int)
example : exprOf nvTree3 = some (.div (.div (.lit 8) 2 (.lit 2)) 4 (.lit 2)) := by rfl
example : refEval (.div (.div (.lit 8) 2 (.lit 2)) 4 (.lit 2)) = .ok 2 := by rfl
example : evalNode arithCustom 4 (sentenceNode nvTree3) = .ok (.int 2) := by rfl

/-- `7/0`: division by zero at the position of the `/` (position 2 = f:1:2) -/
def nvSrc4 : Bytes := [55, 47, 48]
def nvTree4 : Node := binNode (intLeaf 7 1 2) (opLeaf 47 2 3) (intLeaf 0 3 4)
example : IsExprTree (nvArithCfg nvSrc4).file nvTree4 :=
  .up (.bin (c := 47) (o := .div) (.up .int) ⟨2, 3, rfl, 3, by decide⟩ rfl rfl .int)
example : exprOf nvTree4 = some (.div (.lit 7) 2 (.lit 0)) := by rfl
example : refEval (.div (.lit 7) 2 (.lit 0)) = .error 2 := by rfl
example : evalNode arithCustom 3 (sentenceNode nvTree4) = .err 2 (tokOf "division by zero") := by rfl
example : errorWithPosition (nvArithCfg nvSrc4).fileSet ⟨2, .other (tokOf "division by zero")⟩ =
    tokOf "division by zero at f:1:2" := by decide +kernel
/-- int64 wrap-around: `9223372036854775807 + 1` -/
example : refEval (.add (.lit 9223372036854775807) 0 (.lit 1)) = .ok (-9223372036854775808) := by rfl
/-- truncated division: `-7 / 2 = -3`; `-9223372036854775808 / -1` wraps -/
example : refEval (.div (.lit (-7)) 0 (.lit 2)) = .ok (-3) := by rfl
example : refEval (.div (.lit (-9223372036854775808)) 0 (.lit (-1))) = .ok (-9223372036854775808) := by rfl

/-- a complete derivation: the grammar derives `Sentence[nvTree4, EOF]` from `7/0` -/
example : Derives (nvArithCfg nvSrc4) Garith.root 1 (sentenceNode nvTree4) := by
  have hint : ∀ (p : Nat) (x : Node), Terminal.parse (nvArithCfg nvSrc4).params (nvArithCfg nvSrc4).file .integer
        (skipWhitespaces (nvArithCfg nvSrc4).file p .spacesNl).1 = .node x →
      Derives (nvArithCfg nvSrc4) (.ref 2) p (setRposNode (nvArithCfg nvSrc4).file .spacesNl x none).1 := by
    intro p x hx
    exact .ref (g := Garith.factor) rfl (.any (g := Garith.trim (.term .integer)) (by simp) (.rtrimMove (.ltrim (.term hx))))
  have h7 : Derives (nvArithCfg nvSrc4) (.ref 2) 1 (intLeaf 7 1 2) := hint 1 (intLeaf 7 1 2) rfl
  have h0 : Derives (nvArithCfg nvSrc4) (.ref 2) 3 (intLeaf 0 3 4) := hint 3 (intLeaf 0 3 4) rfl
  have hop : Derives (nvArithCfg nvSrc4) Garith.mulop 2 (opLeaf 47 2 3) :=
    .any (g := Garith.trim (Garith.rn 47)) (by simp)
      (.rtrimMove (x := opLeaf 47 2 3) (.ltrim (.term rfl)))
  have hterm7 : Derives (nvArithCfg nvSrc4) (.ref 1) 1 (intLeaf 7 1 2) :=
    .ref (g := Garith.term) rfl (.memo (.any (g := .ref 2) (by simp) h7))
  have hseq := Derives.seqfam (cfg := nvArithCfg nvSrc4) (g := Garith.termSeq) (pos := 1)
    (nodes := [intLeaf 7 1 2, opLeaf 47 2 3, intLeaf 0 3 4]) rfl (.cons rfl hterm7 (.cons rfl hop (.cons rfl h0 .nil))) rfl
  have hdiv : Derives (nvArithCfg nvSrc4) (.ref 1) 1 nvTree4 :=
    .ref (g := Garith.term) rfl (.memo (.any (g := Garith.termSeq) (by simp) hseq))
  have hexpr : Derives (nvArithCfg nvSrc4) (.ref 0) 1 nvTree4 :=
    .ref (g := Garith.expr) rfl (.memo (.any (g := .ref 1) (by simp) hdiv))
  exact Derives.seqfam (cfg := nvArithCfg nvSrc4) (g := Garith.root) (pos := 1) (nodes := [nvTree4, .eof 4]) rfl
    (.cons rfl hexpr (.cons rfl (.eof rfl) .nil)) rfl

/-! the model itself, run by the interpreter at build time (tests, not theorems) -/
def outIsInt (o : Option EvaluateOut) (i : Int) : Bool :=
  match o with | some (.value (.int j)) => i == j | _ => false
def outIsErr (o : Option EvaluateOut) (m : Bytes) : Bool :=
  match o with | some (.error m') => m == m' | _ => false
def resIsOne (o : Option ParseOut) (f : Node → Bool) : Bool :=
  match o with | some p => (match p.res with | .one x => f x | _ => false) | none => false
#guard outIsInt (evaluate (nvArithCfg nvSrc1) arithCustom 1000 Garith.root) 7
#guard outIsInt (evaluate (nvArithCfg nvSrc2) arithCustom 1000 Garith.root) 9
#guard outIsInt (evaluate (nvArithCfg nvSrc3) arithCustom 1000 Garith.root) 2
#guard outIsErr (evaluate (nvArithCfg nvSrc4) arithCustom 1000 Garith.root) (tokOf "division by zero at f:1:2")
#guard outIsErr (evaluate (nvArithCfg [49, 32, 43]) arithCustom 1000 Garith.root)
  (tokOf "failed to parse the input: was expecting \"(\" at f:1:4")
#guard resIsOne (parse (nvArithCfg nvSrc1) 1000 Garith.root) (fun x => toString (repr x) == toString (repr (sentenceNode nvTree1)))
#guard resIsOne (parse (nvArithCfg nvSrc2) 1000 Garith.root) (fun x => toString (repr x) == toString (repr (sentenceNode nvTree2)))
#guard resIsOne (parse (nvArithCfg nvSrc3) 1000 Garith.root) (fun x => toString (repr x) == toString (repr (sentenceNode nvTree3)))
#guard resIsOne (parse (nvArithCfg nvSrc4) 1000 Garith.root) (fun x => toString (repr x) == toString (repr (sentenceNode nvTree4)))

end PV
