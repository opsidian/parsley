/-
  C01, second half — COMPLETENESS: every derivation is returned.

  "… every returned tree is a valid derivation [Props/C01.lean] … and every derivation is returned
   (every reachable end position always; every distinct tree whenever the grammar has finitely many).
   This holds under direct, indirect and hidden (through empty/optional prefixes) left recursion, right
   and centre recursion, ambiguity and empty alternatives …"

  Model: ParsleyVerif/Model/Run.lean (`run`).  Specifications: Spec/Derives.lean (`Derives`, the
  declarative meaning) and Spec/DerivesC.lean (`DerivesC`, curtailed derivations: what an un-cached
  top-down evaluation with the curtailment test can find; `Frag`, the fragment).

  FRAGMENT (`Frag`): term, empty, ref, memo, any, seq .seqOf (any Name / ReturnSingle / interpreter),
  optional — the monotone combinators.  Outside it, and not claimed: `choice`, `many`, `sepBy`,
  `seqTry`, `seqFirstOrAll` (first-match / longest-path, non-monotone); `name`, `single`, `suppress`
  (drop results that come with an error — known finding D9); the trims; `eof` and any node whose token
  is "EOF" (a sequence stops enumerating after the first alternative that ends with such a node — so
  the theorems are about the parser BELOW the `Sentence` wrapper).

  The proof splits around `DerivesC`:

  * `c01_reuse_complete`  (A, about the code)  the result cache (`ResultCache.Get`'s context test,
        `Filter(cp)` on save), the curtailing sets (`Union` in any.go / seq.go) and the context reset
        of seq.go never lose a curtailed derivation: a call under context `ctx` that answers with
        curtailing set `cp` returns every tree that is curtailed-derivable under ANY counters that
        dominate `ctx` on `cp`;  `c01_cache_complete`: the cache invariant behind it;
  * `c01_curtailed_covers` (B, combinatorics)  every end position a derivation reaches is reached by a
        curtailed derivation from the empty context;  `c01_curtailed_covers_trees`: in an `Acyclic`
        grammar (the same (memo index, start, end) is never nested in itself) every derivation is a
        curtailed derivation, tree for tree;
  * `c01_complete_ends`, `c01_complete_trees`  the two together, for every fuel with which `run`
        answers, every cache state that satisfies the invariant (the empty one does);
        `c01_ends_exact`, `c01_trees_exact`: with soundness, the returned ends / trees ARE the derivations;
  * `c01_sentence_complete(_parse)`  through the wrapper: `Sentence g` returns a result if some derivation
        of `g` consumes the entire input (C04's open "if" direction, given that `run` answers).

  All hypotheses are local and syntactic: `Frag` (fragment, no "EOF" tokens), `GOK bodyOf` (each
  `Memoize` index wraps one parser), `Core (TermGood cfg)` (no trims; terminals stay inside the file —
  C08's subject), `InFile`.
-/
import ParsleyVerif.Proofs.RunComplete
import ParsleyVerif.Proofs.CurtailCover
import ParsleyVerif.Props.C01
import ParsleyVerif.Props.C08
namespace PV
open PV.Text

/-- what the completeness theorems ask of a parser: in the fragment, one parser per `Memoize` index,
    terminals that stay inside the file -/
structure CScope (cfg : Cfg) (bodyOf : Nat → G) (g : G) : Prop where
  frag : Frag cfg g
  gok : GOK bodyOf g
  core : g.Core (TermGood cfg)

/-- the fragment has no trims, and every terminal is `TermGood` (`termGood_all`) -/
theorem Frag.core {cfg : Cfg} : ∀ g : G, Frag cfg g → g.Core (TermGood cfg) :=
  G.induct fun g ih h => G.Core_kids.mpr ⟨by
    cases g with
    | term t => exact termGood_all cfg t
    | ltrim _ _ | rtrim _ _ => exact (G.All_self (P := FragLocal cfg) h : False)
    | _ => trivial, fun k hk => ih k hk (G.All.kid h hk)⟩

/-- `CScope` is thus `Frag` and `GOK`, asked together at every sub-parser: a closed grammar is checked in one walk -/
theorem cscope_of_all {cfg : Cfg} {bodyOf : Nat → G} (g : G) (h : g.All (fun g => FragLocal cfg g ∧ LocalOK bodyOf g)) :
    CScope cfg bodyOf g :=
  ⟨(G.All_and.mp h).1, (G.All_and.mp h).2, Frag.core g (G.All_and.mp h).1⟩

/-- **(A) cache reuse and curtailing sets never lose a curtailed derivation.**
    `run … g ctx pos st` answered `o`; then for EVERY counter function `c'` with `ctx.get k ≤ c' k` on the
    keys `k` of the returned curtailing set `o.cp` (arbitrary on every other key) every tree with a
    curtailed derivation under `c'` is among the returned alternatives. -/
theorem c01_reuse_complete (cfg : Cfg) (bodyOf : Nat → G) (henv : ∀ g' ∈ cfg.env, Frag cfg g' ∧ GOK bodyOf g')
    (fuel : Nat) (g : G) (ctx : Ctx) (pos : Nat) (st : St) (o : Out) (st' : St)
    (hf : Frag cfg g) (hg : GOK bodyOf g) (hst : CacheC cfg bodyOf st)
    (h : run cfg fuel g ctx pos st = some (o, st')) :
    ∀ (c' : Nat → Nat) (x : Node), (∀ k ∈ o.cp, ctx.get k ≤ c' k) → DerivesC cfg c' g pos x → x ∈ o.res.alts :=
  (run_complete cfg bodyOf henv fuel g ctx pos st o st' hf hg hst h).1

/-- the cache invariant — every stored entry `e` promises, for every `c'` that passes the test of
    `ResultCache.Get` against the STORED context (`∀ (k, v) ∈ e.ctx, v ≤ c' k`), every tree
    curtailed-derivable under `c'` from `memo e.idx` at `e.pos` — is preserved by every call and holds
    of the empty cache -/
theorem c01_cache_complete (cfg : Cfg) (bodyOf : Nat → G) (henv : ∀ g' ∈ cfg.env, Frag cfg g' ∧ GOK bodyOf g')
    (fuel : Nat) (g : G) (ctx : Ctx) (pos : Nat) (st : St) (o : Out) (st' : St)
    (hf : Frag cfg g) (hg : GOK bodyOf g) (hst : CacheC cfg bodyOf st)
    (h : run cfg fuel g ctx pos st = some (o, st')) :
    CacheC cfg bodyOf st' ∧ CacheC cfg bodyOf {} :=
  ⟨(run_complete cfg bodyOf henv fuel g ctx pos st o st' hf hg hst h).2.2, by intro e he; cases he⟩

/-- what `CacheC` says of an entry, spelled out -/
theorem c01_cache_entry (cfg : Cfg) (bodyOf : Nat → G) (st : St) (hst : CacheC cfg bodyOf st)
    (e : CacheEntry) (he : e ∈ st.cache) (c' : Nat → Nat) (x : Node)
    (hpass : ∀ kv ∈ e.ctx, kv.2 ≤ c' kv.1) (hd : DerivesC cfg c' (.memo e.idx (bodyOf e.idx)) e.pos x) :
    x ∈ e.res.alts :=
  (hst e he).complete c' x hpass hd

/-- **(B) every reachable end position has a curtailed derivation from the empty context.** -/
theorem c01_curtailed_covers (cfg : Cfg) (bodyOf : Nat → G) (henv : ∀ g' ∈ cfg.env, CScope cfg bodyOf g')
    (g : G) (hs : CScope cfg bodyOf g) (pos : Nat) (hin : InFile cfg.file pos) (x : Node)
    (h : Derives cfg g pos x) : ∃ y, DerivesC cfg zeroC g pos y ∧ y.rpos = x.rpos :=
  derivesC_of_derives_ends cfg bodyOf (fun g' hg' => ⟨(henv g' hg').frag, (henv g' hg').gok, (henv g' hg').core⟩)
    g hs.frag ⟨hs.gok, hs.core⟩ pos hin x h

/-- **(B), trees**: in an acyclic grammar every derivation is a curtailed derivation — the same tree -/
theorem c01_curtailed_covers_trees (cfg : Cfg) (bodyOf : Nat → G) (henv : ∀ g' ∈ cfg.env, CScope cfg bodyOf g')
    (hac : Acyclic cfg bodyOf) (g : G) (hs : CScope cfg bodyOf g) (pos : Nat) (hin : InFile cfg.file pos) (x : Node)
    (h : Derives cfg g pos x) : DerivesC cfg zeroC g pos x :=
  derivesC_of_derives_tree cfg bodyOf (fun g' hg' => ⟨(henv g' hg').frag, (henv g' hg').gok, (henv g' hg').core⟩)
    hac g hs.frag ⟨hs.gok, hs.core⟩ pos hin x h

/-- a curtailed derivation is a derivation (so (A) and (B) speak about the same trees) -/
theorem c01_curtailed_sound (cfg : Cfg) (bodyOf : Nat → G) (henv : ∀ g' ∈ cfg.env, Frag cfg g' ∧ GOK bodyOf g')
    (fuel : Nat) (g : G) (pos : Nat) (o : Out) (st' : St) (hf : Frag cfg g) (hg : GOK bodyOf g)
    (h : run cfg fuel g [] pos {} = some (o, st')) (x : Node) (hd : DerivesC cfg zeroC g pos x) :
    Derives cfg g pos x :=
  derives_of_derivesC hd

/-- **C01 completeness, end positions.**  Whenever `run` answers — from the empty context, from any
    cache that satisfies the invariant (in particular the empty one) — for every derivation of the
    parser at the call position a tree with the same end position is among the returned alternatives. -/
theorem c01_complete_ends (cfg : Cfg) (bodyOf : Nat → G) (henv : ∀ g' ∈ cfg.env, CScope cfg bodyOf g')
    (g : G) (hs : CScope cfg bodyOf g) (fuel : Nat) (pos : Nat) (hin : InFile cfg.file pos)
    (st : St) (hst : CacheC cfg bodyOf st) (o : Out) (st' : St)
    (h : run cfg fuel g [] pos st = some (o, st')) :
    ∀ x, Derives cfg g pos x → ∃ y ∈ o.res.alts, y.rpos = x.rpos :=
  Covers.complete_ends (c01_reuse_complete cfg bodyOf (fun g' hg' => ⟨(henv g' hg').frag, (henv g' hg').gok⟩) fuel g []
    pos st o st' hs.frag hs.gok hst h) (c01_curtailed_covers cfg bodyOf henv g hs pos hin)

/-- **C01 completeness, trees.**  In an acyclic grammar every derivation — every distinct tree — is among
    the returned alternatives. -/
theorem c01_complete_trees (cfg : Cfg) (bodyOf : Nat → G) (henv : ∀ g' ∈ cfg.env, CScope cfg bodyOf g')
    (hac : Acyclic cfg bodyOf)
    (g : G) (hs : CScope cfg bodyOf g) (fuel : Nat) (pos : Nat) (hin : InFile cfg.file pos)
    (st : St) (hst : CacheC cfg bodyOf st) (o : Out) (st' : St)
    (h : run cfg fuel g [] pos st = some (o, st')) :
    ∀ x, Derives cfg g pos x → x ∈ o.res.alts := fun x hx =>
  Covers.zero (c01_reuse_complete cfg bodyOf (fun g' hg' => ⟨(henv g' hg').frag, (henv g' hg').gok⟩) fuel g [] pos st o st'
    hs.frag hs.gok hst h) (c01_curtailed_covers_trees cfg bodyOf henv hac g hs pos hin x hx)

/-- soundness and completeness together: from a fresh context the returned END POSITIONS are exactly
    the end positions of the derivations -/
theorem c01_ends_exact (cfg : Cfg) (bodyOf : Nat → G) (henv : ∀ g' ∈ cfg.env, CScope cfg bodyOf g')
    (g : G) (hs : CScope cfg bodyOf g) (fuel : Nat) (pos : Nat) (hin : InFile cfg.file pos) (o : Out) (st' : St)
    (h : run cfg fuel g [] pos {} = some (o, st')) (e : Nat) :
    (∃ x, Derives cfg g pos x ∧ x.rpos = e) ↔ e ∈ o.res.alts.map Node.rpos :=
  Covers.ends_exact (c01_reuse_complete cfg bodyOf (fun g' hg' => ⟨(henv g' hg').frag, (henv g' hg').gok⟩) fuel g []
      pos {} o st' hs.frag hs.gok (fun _ he => nomatch he) h)
    (c01_curtailed_covers cfg bodyOf henv g hs pos hin)
    (c01_sound cfg bodyOf (fun g' hg' => (henv g' hg').gok) fuel g [] pos {} o st' hs.gok (fun _ he => nomatch he) h) e

/-- and in an acyclic grammar the returned TREES are exactly the derivations -/
theorem c01_trees_exact (cfg : Cfg) (bodyOf : Nat → G) (henv : ∀ g' ∈ cfg.env, CScope cfg bodyOf g')
    (hac : Acyclic cfg bodyOf)
    (g : G) (hs : CScope cfg bodyOf g) (fuel : Nat) (pos : Nat) (hin : InFile cfg.file pos) (o : Out) (st' : St)
    (h : run cfg fuel g [] pos {} = some (o, st')) (x : Node) :
    Derives cfg g pos x ↔ x ∈ o.res.alts :=
  ⟨c01_complete_trees cfg bodyOf henv hac g hs fuel pos hin {} (fun _ he => nomatch he) o st' h x,
   c01_sound cfg bodyOf (fun g' hg' => (henv g' hg').gok) fuel g [] pos {} o st' hs.gok (fun _ he => nomatch he) h x⟩

theorem isEOF_hi (cfg : Cfg) : isEOF cfg.file cfg.hi = true := by
  unfold isEOF Cfg.hi
  simp

/-- **Sentence succeeds if some derivation of the operand consumes the entire input** — whenever it
    answers (termination is C02's subject).  `Sentence g = SeqOf(g, End)` stops at the first alternative
    of `g` after which `End` matches; completeness guarantees there is one. -/
theorem c01_sentence_complete (cfg : Cfg) (bodyOf : Nat → G) (henv : ∀ g' ∈ cfg.env, CScope cfg bodyOf g')
    (g : G) (hs : CScope cfg bodyOf g) (fuel : Nat) (pos : Nat) (hin : InFile cfg.file pos)
    (st : St) (hst : CacheC cfg bodyOf st) (o : Out) (st' : St)
    (h : run cfg fuel (G.sentence g) [] pos st = some (o, st'))
    (hex : ∃ x, Derives cfg g pos x ∧ x.rpos = cfg.hi) : o.res.alts ≠ [] ∧ o.err = none := by
  obtain ⟨x, hx, he⟩ := hex
  obtain ⟨y, hy, hye⟩ := c01_curtailed_covers cfg bodyOf henv g hs pos hin x hx
  exact sentence_complete cfg bodyOf (fun g' hg' => ⟨(henv g' hg').frag, (henv g' hg').gok⟩) g hs.frag hs.gok fuel pos st hst
    o st' h y hy (by rw [hye, he]; exact isEOF_hi cfg)

/-- `parsley.Parse` hands on a result that comes without an error -/
theorem parse_of_run {cfg : Cfg} {fuel : Nat} {g : G} {p : ParseOut} (h : parse cfg fuel g = some p)
    (hrun : ∀ o st1, run cfg fuel g [] (cfg.file.pos 0) {} = some (o, st1) → o.res.alts ≠ [] ∧ o.err = none) :
    p.err = none ∧ p.res.alts ≠ [] := by
  obtain ⟨o, st1, hr, ⟨_, _, h3, h4, _⟩ | ⟨hn, _⟩⟩ := parse_answer cfg fuel g {} p h
  · exact ⟨h4, h3 ▸ (hrun o st1 hr).1⟩
  · obtain ⟨h1, h2⟩ := hrun o st1 hr
    refine absurd ⟨?_, h2⟩ hn
    cases hnil : o.res.isNil with
    | false => rfl
    | true => exact absurd (alts_nil_of_isNil hnil) h1

/-- the same for `parsley.Parse(Sentence g)` from a fresh context -/
theorem c01_sentence_complete_parse (cfg : Cfg) (bodyOf : Nat → G) (henv : ∀ g' ∈ cfg.env, CScope cfg bodyOf g')
    (g : G) (hs : CScope cfg bodyOf g) (fuel : Nat) (p : ParseOut)
    (h : parse cfg fuel (G.sentence g) = some p)
    (hex : ∃ x, Derives cfg g (cfg.file.pos 0) x ∧ x.rpos = cfg.hi) : p.err = none ∧ p.res.alts ≠ [] :=
  parse_of_run h fun o st1 hr =>
    c01_sentence_complete cfg bodyOf henv g hs fuel _ (c01_pre_initial cfg).1 {} (fun _ he => nomatch he) o st1 hr hex

theorem fragLocal_rune (cfg : Cfg) (ch : Nat) (name : Bytes) (h : Utf8.encodeRune ch ≠ eofTok) :
    FragLocal cfg (.term (.rune ch name)) := by
  intro pos n hn
  obtain ⟨r, rfl, _⟩ := rune_parse_node hn
  exact h

theorem run_of_eval {α : Type} {f : Out → α} {cfg : Cfg} {fuel : Nat} {g : G} {pos : Nat} {l : α}
    (h : (run cfg fuel g [] pos {}).map (fun r => f r.1) = some l) :
    ∃ o st', run cfg fuel g [] pos {} = some (o, st') ∧ f o = l := by
  obtain ⟨⟨o, st'⟩, hr, hv⟩ := Option.map_eq_some_iff.mp h
  exact ⟨o, st', hr, hv⟩

theorem ends_of_eval {cfg : Cfg} {fuel : Nat} {g : G} {pos : Nat} {l : List Nat}
    (h : (run cfg fuel g [] pos {}).map (fun r => r.1.res.alts.map Node.rpos) = some l) :
    ∃ o st', run cfg fuel g [] pos {} = some (o, st') ∧ o.res.alts.map Node.rpos = l := run_of_eval h

/-! ### non-vacuity 1: direct left recursion  `P → P b | a`  on "abb" -/

def nvBody : G := .any [.seq .seqOf [.ref 0, .term (.rune 98 [34, 98, 34])] {}, .term (.rune 97 [34, 97, 34])]

theorem nv_scope : ∀ g' ∈ nvCfg.env, CScope nvCfg (fun _ => nvBody) g' := by
  refine List.forall_mem_singleton.mpr (cscope_of_all _ ?_)
  simp only [G.All, AllList, FragLocal, LocalOK, nvBody, and_true, true_and]
  exact ⟨⟨by decide, fragLocal_rune _ _ _ (by decide)⟩, fragLocal_rune _ _ _ (by decide)⟩

theorem nv_root (cfg : Cfg) (bodyOf : Nat → G) : CScope cfg bodyOf (.ref 0) :=
  cscope_of_all (.ref 0) ⟨trivial, trivial⟩

/-- the theorem, instantiated: the derivations of `P` on "abb" end at 2, 3 or 4 and nowhere else —
    obtained from completeness and ONE evaluation of the model -/
theorem nv_ends : ∀ e, (∃ x, Derives nvCfg (.ref 0) 1 x ∧ x.rpos = e) ↔ e ∈ [4, 3, 2] := by
  intro e
  obtain ⟨o, st', hrun, hl⟩ := ends_of_eval (cfg := nvCfg) (fuel := 40) (g := .ref 0) (pos := 1) (l := [4, 3, 2]) (by decide +kernel)
  rw [← hl]
  exact c01_ends_exact nvCfg (fun _ => nvBody) nv_scope (.ref 0) (nv_root _ _) 40 1 ⟨by decide, by decide⟩ o st' hrun e

/-- `P → P b | a` is acyclic: a nested `P` with the same start is followed by the `b` (the test of Proofs/Guarded.lean) -/
theorem nv_acyclic : Acyclic nvCfg (fun _ => nvBody) :=
  acyclic_of_guards _ _ (fun g' hg' => ⟨(nv_scope g' hg').frag, (nv_scope g' hg').gok, (nv_scope g' hg').core⟩) fun _ =>
    have hs := nv_scope _ (List.mem_singleton_self _)
    ⟨hs.frag.kid (.head _), ⟨hs.gok.kid (.head _), hs.core⟩, 2, rfl⟩

/-- the trees theorem, instantiated: the derivations of `P` on "abb" are exactly the three left-nested
    trees the model returns -/
theorem nv_trees : ∀ x, Derives nvCfg (.ref 0) 1 x ↔ x ∈ [nvABB, nvAB, nvA] := by
  intro x
  obtain ⟨o, st', hr, hev⟩ := run_of_eval (f := fun o => o.res.alts) (cfg := nvCfg) (fuel := 40) (g := .ref 0) (pos := 1)
    (l := [nvABB, nvAB, nvA]) rfl
  rw [← hev]
  exact c01_trees_exact nvCfg (fun _ => nvBody) nv_scope nv_acyclic (.ref 0) (nv_root _ _) 40 1 ⟨by decide, by decide⟩ o st' hr x

/-- through the wrapper: "abb" is a sentence of `P` (the derivation `nvABB` ends at `hi = 4`), so
    `Parse(Sentence P)` succeeds whenever it answers — and it does answer, with that one tree -/
theorem nv_sentence (fuel : Nat) (p : ParseOut) (h : parse nvCfg fuel (G.sentence (.ref 0)) = some p) :
    p.err = none ∧ p.res.alts ≠ [] := by
  refine c01_sentence_complete_parse nvCfg (fun _ => nvBody) nv_scope (.ref 0) (nv_root _ _) fuel p h ?_
  exact ⟨nvABB, ((nv_trees nvABB).mpr (by simp)), rfl⟩

example : (parse nvCfg 40 (G.sentence (.ref 0))).map (fun p => (p.err.isNone, p.res.alts.map Node.rpos)) = some (true, [4]) := by
  decide +kernel

/-! ### non-vacuity 2: HIDDEN left recursion  `P → x? P b | a`  on "xabb"
    (the grammar of defect D2: with the pinned `i > 0` reset the invariant — and termination — fail) -/

def hidBody : G :=
  .any [.seq .seqOf [.optional (.term (.rune 120 [34, 120, 34])), .ref 0, .term (.rune 98 [34, 98, 34])] {},
        .term (.rune 97 [34, 97, 34])]
def hidCfg : Cfg :=
  { env := [.memo 0 hidBody], file := { name := "f", data := [120, 97, 98, 98], offset := 1 }, fileSet := {},
    params := { floatOk := fun _ => true, durErr := fun _ => none, regexp := fun _ _ => none } }

theorem hid_scope : ∀ g' ∈ hidCfg.env, CScope hidCfg (fun _ => hidBody) g' := by
  refine List.forall_mem_singleton.mpr (cscope_of_all _ ?_)
  simp only [G.All, AllList, FragLocal, LocalOK, hidBody, and_true, true_and]
  exact ⟨⟨by decide, fragLocal_rune _ _ _ (by decide), fragLocal_rune _ _ _ (by decide)⟩, fragLocal_rune _ _ _ (by decide)⟩

/-- `P` on "xabb": "xab" (end 4) and "xabb" (end 5), through the optional prefix and through the
    left-recursive alternative with the prefix skipped -/
theorem hid_eval : (run hidCfg 28 (.ref 0) [] 1 {}).map (fun r => r.1.res.alts.map Node.rpos) = some [5, 4, 5] := by
  decide +kernel

theorem hid_ends : ∀ e, (∃ x, Derives hidCfg (.ref 0) 1 x ∧ x.rpos = e) ↔ e ∈ [5, 4, 5] := by
  intro e
  obtain ⟨o, st', hrun, hl⟩ := ends_of_eval hid_eval
  rw [← hl]
  exact c01_ends_exact hidCfg (fun _ => hidBody) hid_scope (.ref 0) (nv_root _ _) 28 1 ⟨by decide, by decide⟩ o st' hrun e

/-- `P → x? P b | a` is acyclic too: the nested `P` (after the skipped prefix) is followed by the `b` -/
theorem hid_acyclic : Acyclic hidCfg (fun _ => hidBody) :=
  acyclic_of_guards _ _ (fun g' hg' => ⟨(hid_scope g' hg').frag, (hid_scope g' hg').gok, (hid_scope g' hg').core⟩) fun _ =>
    have hs := hid_scope _ (List.mem_singleton_self _)
    ⟨hs.frag.kid (.head _), ⟨hs.gok.kid (.head _), hs.core⟩, 2, rfl⟩

/-- the trees theorem on hidden left recursion: the model returns three trees for `P` on "xabb", and
    they are exactly the derivations -/
theorem hid_trees : ∃ o st', run hidCfg 28 (.ref 0) [] 1 {} = some (o, st') ∧ o.res.alts.length = 3 ∧
    ∀ x, Derives hidCfg (.ref 0) 1 x ↔ x ∈ o.res.alts := by
  obtain ⟨o, st', hr, hev⟩ := ends_of_eval hid_eval
  exact ⟨o, st', hr, by rw [← List.length_map (f := Node.rpos), hev]; rfl, fun x =>
    c01_trees_exact hidCfg (fun _ => hidBody) hid_scope hid_acyclic (.ref 0) (nv_root _ _) 28 1 ⟨by decide, by decide⟩ o st' hr x⟩

/-! ### non-vacuity 3: left recursion inside an alternative, cyclic and ambiguous
    `P → (P | a | P?) b`  on "abb" -/

def cycBody : G :=
  .seq .seqOf [.any [.ref 0, .term (.rune 97 [34, 97, 34]), .optional (.ref 0)], .term (.rune 98 [34, 98, 34])] {}
def cycCfg : Cfg :=
  { env := [.memo 0 cycBody], file := { name := "f", data := [97, 98, 98], offset := 1 }, fileSet := {},
    params := { floatOk := fun _ => true, durErr := fun _ => none, regexp := fun _ _ => none } }

theorem cyc_scope : ∀ g' ∈ cycCfg.env, CScope cycCfg (fun _ => cycBody) g' := by
  refine List.forall_mem_singleton.mpr (cscope_of_all _ ?_)
  simp only [G.All, AllList, FragLocal, LocalOK, cycBody, and_true, true_and]
  exact ⟨by decide, fragLocal_rune _ _ _ (by decide), fragLocal_rune _ _ _ (by decide)⟩

/-- the evaluation of the model on this grammar.  (`decide` cannot be used here: the second call of `P` at
    one position is a cache look-up whose stored context is `Filter(cp)` with `cp` an `IntSet.Union`, and
    `cpUnion` is defined by well-founded recursion, which kernel evaluation does not unfold; the
    evaluation is done by `simp` with the defining equations instead.) -/
theorem cyc_eval : (run cycCfg 23 (.ref 0) [] 1 {}).map (fun r => r.1.res.alts.map Node.rpos) = some [4, 3, 4] := by
  simp [run, cycCfg, cycBody, anyLoop, seqParse, seqAlts, cacheGet, cacheSave, cpUnion, Ctx.get, Ctx.inc, Ctx.filter,
    appendNode, nlAppend, nlAppend1, Terminal.parse, readRune, G.shape, handleResult, St.logEv, St.regCall, St.setError,
    altErr, pickErr, remaining, File.len, File.pos, Facts.curtailSlack, Res.isNil, Res.alts, nf, Node.rpos, Node.isEmptyAt,
    seqTok, eofTok, Node.token, Utf8.encodeRune, Node.pos]

/-- `P` on "abb": "ab" (end 3) and "abb" (end 4, twice: through `P` and through `P?`) -/
theorem cyc_ends : ∀ e, (∃ x, Derives cycCfg (.ref 0) 1 x ∧ x.rpos = e) ↔ e ∈ [4, 3, 4] := by
  intro e
  obtain ⟨o, st', hrun, hl⟩ := ends_of_eval (cfg := cycCfg) (fuel := 23) (g := .ref 0) (pos := 1) (l := [4, 3, 4]) cyc_eval
  rw [← hl]
  exact c01_ends_exact cycCfg (fun _ => cycBody) cyc_scope (.ref 0) (nv_root _ _) 23 1 ⟨by decide, by decide⟩ o st' hrun e

/-! ### a remark on `parsley.Parse`
    The theorems above are about `p.Parse(…)` (`run`).  `parsley.Parse` discards a result that comes
    together with an error (`if err != nil { return nil, … }`), and `Optional` hands its operand's error
    through next to the EMPTY alternative — the same family as known finding D9 (`Name`/`ReturnSingle`
    over `Optional`).  So a bare `Optional` at the ROOT of `parsley.Parse` loses its empty derivation;
    inside `Any`/`SeqOf`, and under `Sentence`, the error is dropped as soon as there is a result. -/

def optCfg : Cfg :=
  { env := [], file := { name := "f", data := [98], offset := 1 }, fileSet := {},
    params := { floatOk := fun _ => true, durErr := fun _ => none, regexp := fun _ _ => none } }

/-- `Optional("a")` on "b": `run` returns the empty alternative (with an error next to it) … -/
example : (run optCfg 5 (.optional (.term (.rune 97 [34, 97, 34]))) [] 1 {}).map
    (fun r => (r.1.res.alts.map Node.rpos, r.1.err.isSome)) = some ([1], true) := by decide +kernel
/-- … which `parsley.Parse` turns into a failure, although `Optional("a")` derives the empty tree -/
example : (parse optCfg 5 (.optional (.term (.rune 97 [34, 97, 34])))).map
    (fun p => (p.res.alts.map Node.rpos, p.err.isSome)) = some ([], true) := by decide +kernel
example : Derives optCfg (.optional (.term (.rune 97 [34, 97, 34]))) 1 (.empty 1) := .optNone

end PV
