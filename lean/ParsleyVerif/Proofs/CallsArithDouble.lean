/-
  C17, the operator grammars — a lower bound of the call count of the same order as the upper bound, for ALL operator
  strings (`arCountK_ge`), from facts about sums of `min` (`triS`) and about the terms (`wsum_ge`); no polynomial arithmetic
  beyond the squares `sq_succ`, `sq_add`.
-/
import ParsleyVerif.Proofs.CallsArithInput
import ParsleyVerif.Proofs.CallsSum
namespace PV.C17b
open PV.Text PV.C17

namespace Lv

theorem sum_range_ge (f : Nat → Nat) (B J : Nat) (h : ∀ j, j < J → B ≤ f j) : J * B ≤ ((List.range J).map f).sum :=
  sum_range_const B J ▸ sum_range_mono (fun _ => B) f J h

theorem sq_add (a b : Nat) : (a + b) * (a + b) = a * a + 2 * (a * b) + b * b := by
  rw [Nat.add_mul, Nat.mul_add, Nat.mul_add, Nat.mul_comm b a]; omega

theorem mul_succ2 (k : Nat) : (k + 2) * (k + 1) = k * k + 3 * k + 2 := by
  rw [Nat.add_mul, Nat.mul_add, Nat.mul_one]; omega

theorem lin_mul (a b c d k : Nat) : (a * k + b) * (c * k + d) = a * c * (k * k) + (a * d + b * c) * k + b * d := by
  rw [Nat.add_mul, Nat.mul_add, Nat.mul_add, Nat.mul_mul_mul_comm, Nat.add_mul (a * d), Nat.mul_right_comm a k d,
    Nat.mul_assoc b c k]
  omega

/-- a term with `r` operators that has `u ≥ r+1` ones from its start to the end of the input -/
theorem triS_term (r u : Nat) (h : r + 1 ≤ u) : 3 * ((r + 1) * u) ≤ 2 * triS r (2 * u + 1) + 2 * (2 * u + 1) := by
  obtain ⟨w, rfl⟩ : ∃ w, u = r + 1 + w := ⟨u - (r + 1), by omega⟩
  have h2 := triS_high r (r + 3 + 2 * w)
  rw [show r + (r + 3 + 2 * w) = 2 * (r + 1 + w) + 1 by omega] at h2
  have e1 : (r + 1) * (r + 1 + w) = r * r + 2 * r + 1 + (w * r + w) := by
    rw [Nat.mul_add, sq_succ, Nat.add_mul, Nat.one_mul, Nat.mul_comm r w]
  have e2 : (r + 3 + 2 * w) * r = r * r + 3 * r + 2 * (w * r) := by
    rw [Nat.add_mul, Nat.add_mul, Nat.mul_assoc]
  rw [e1]
  rw [e2] at h2
  omega

theorem tcLv_ge (m r : Nat) : ∀ D, (m + 4) * (D + triS r D) ≤ tcLv m r D := by
  intro D
  induction D with
  | zero => simp [triS, tcLv]
  | succ D ih =>
    have h1 : m * min D r ≤ m * min D (r + 1) := Nat.mul_le_mul_left _ (by omega)
    have e : (m + 4) * (D + 1 + (triS r D + min D r)) = (m + 4) * (D + triS r D) + (m + 4 + (m * min D r + 4 * min D r)) := by
      simp only [Nat.mul_add, Nat.add_mul, Nat.mul_one]; omega
    rw [tcLv, triS, e]
    omega

theorem tcLv_term (m r u : Nat) (h : r + 1 ≤ u) : 3 * (m + 4) * ((r + 1) * u) ≤ 2 * tcLv m r (2 * u + 1) := by
  have h1 := Nat.mul_le_mul_left (m + 4) (triS_term r u h)
  have h2 := tcLv_ge m r (2 * u + 1)
  have e1 : (m + 4) * (3 * ((r + 1) * u)) = 3 * (m + 4) * ((r + 1) * u) := by
    rw [← Nat.mul_assoc, Nat.mul_comm (m + 4) 3]
  have e2 : (m + 4) * (2 * triS r (2 * u + 1) + 2 * (2 * u + 1)) = 2 * ((m + 4) * (2 * u + 1 + triS r (2 * u + 1))) := by
    rw [← Nat.mul_add 2, Nat.mul_left_comm, Nat.add_comm (triS r (2 * u + 1))]
  rw [e1, e2] at h1
  omega

/-- Σ_{i<n} (rf i + 1)·(the number of ones from the start of term i to the end of the input) -/
def wsum (k : Nat) (rf : Nat → Nat) : Nat → Nat
  | 0 => 0
  | i + 1 => wsum k rf i + (rf i + 1) * (k + 1 - pre rf i)

theorem wsum_ge (k : Nat) (rf : Nat → Nat) : ∀ i V, pre rf i + V = k + 1 →
    (k + 1) * (k + 1) + pre rf i ≤ 2 * wsum k rf i + V * V := by
  intro i
  induction i with
  | zero =>
    intro V hV
    simp only [pre, Nat.zero_add] at hV
    subst hV
    simp [wsum, pre]
  | succ i ih =>
    intro V hV
    rw [pre] at hV
    have h1 := ih (rf i + 1 + V) (by omega)
    have e : k + 1 - pre rf i = rf i + 1 + V := by omega
    have := Nat.le_mul_self (rf i + 1)
    rw [wsum, e, pre, Nat.mul_add (rf i + 1) (rf i + 1) V]
    rw [sq_add (rf i + 1) V] at h1
    omega

theorem firstRunsK_ge (m k : Nat) (rf : Nat → Nat) : ∀ i, pre rf i ≤ k + 1 →
    3 * (m + 4) * wsum k rf i ≤ 2 * firstRunsK m k rf i := by
  intro i
  induction i with
  | zero => intro _; simp [wsum, firstRunsK]
  | succ i ih =>
    intro hi
    rw [pre] at hi
    have h1 := ih (by omega)
    have e : 2 * k + 4 - qf rf i = 2 * (k + 1 - pre rf i) + 1 := by unfold qf; omega
    have h2 := tcLv_term m (rf i) (k + 1 - pre rf i) (by omega)
    rw [wsum, firstRunsK, e, Nat.mul_add]
    omega

/-- the levels of the spine of `E`: the k+2 top levels have all k+1 alternatives -/
theorem levels_ge (a k s : Nat) (rf : Nat → Nat) (htot : pre rf (s + 1) = k + 1) (hs : s ≤ k) :
    (2 * a + 1) * (2 * k + 3) + a * ((k + 2) * (k + 1)) ≤
      ((List.range (2 * k + 3)).map (fun j => 1 + a * (2 + pre rf (min j (s + 1))) + min j s)).sum := by
  have key : ∀ d, (2 * a + 1) * (k + 1 + d) + a * (d * (k + 1)) ≤
      ((List.range (k + 1 + d)).map (fun j => 1 + a * (2 + pre rf (min j (s + 1))) + min j s)).sum := by
    intro d
    induction d with
    | zero =>
      have := sum_range_ge (fun j => 1 + a * (2 + pre rf (min j (s + 1))) + min j s) (2 * a + 1) (k + 1) (fun j _ => by
        rw [Nat.mul_add]; omega)
      simp only [Nat.add_zero, Nat.zero_mul, Nat.mul_zero]
      rw [Nat.mul_comm]
      exact this
    | succ d ih =>
      rw [show k + 1 + (d + 1) = (k + 1 + d) + 1 by omega, List.range_succ, List.map_append, List.sum_append]
      simp only [List.map_cons, List.map_nil, List.sum_cons, List.sum_nil]
      have e : min (k + 1 + d) (s + 1) = s + 1 := by omega
      rw [e, htot, Nat.add_mul d 1, Nat.one_mul, Nat.mul_add a, Nat.mul_add a 2, Nat.mul_add (2 * a + 1) _ 1, Nat.mul_one,
        Nat.mul_comm a 2]
      omega
  have := key (k + 2)
  rw [show k + 1 + (k + 2) = 2 * k + 3 by omega] at this
  exact this

/-- **a lower bound of the same order as the upper bound** -/
theorem arCountK_ge (a m k s : Nat) (rf : Nat → Nat) (htot : pre rf (s + 1) = k + 1) :
    4 * ((2 * a + 1) * (2 * k + 3)) + 4 * (a * ((k + 2) * (k + 1))) + 3 * (m + 4) * ((k + 1) * (k + 1) + (k + 1)) ≤
      4 * arCountK a m k s rf := by
  have hs : s ≤ k := by
    have := le_pre rf (s + 1)
    omega
  have h1 := levels_ge a k s rf htot hs
  have h2 := firstRunsK_ge m k rf (s + 1) (by omega)
  have h3 := Nat.mul_le_mul_left (3 * (m + 4)) (wsum_ge k rf (s + 1) 0 (by omega))
  rw [htot, Nat.mul_add (3 * (m + 4)) _ (0 * 0), Nat.mul_left_comm (3 * (m + 4)) 2] at h3
  unfold arCountK
  omega

end Lv
end PV.C17b
