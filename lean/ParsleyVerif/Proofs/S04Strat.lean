/-
  What the C04 iff for stratified grammars (Props/C04S.lean) needs besides `run_strat`: a parser accepted by the
  stratification check is in the scope `Core` of C04 (no trims), and the termination certificate of `Sentence(g)` is
  that of `g`.  (`End` is not a stratum-1 parser, `upOK .eof = false`, so `run_strat` does not speak about the wrapper
  itself: `parse_sentence_sound` of Proofs/Sentence.lean takes the operand's soundness through it.)
-/
import ParsleyVerif.Proofs.StratRun
namespace PV.S04
open PV PV.Text PV.Strat PV.WFT

/-- a stratum-0 parser has no trims, so with terminals that behave it is in the scope `Core` -/
theorem core_of_lowOK (cfg : Cfg) (s : Cert) : ∀ g : G, lowOK s g = true → g.All (TermS cfg) → g.Core (TermGood cfg) :=
  G.induct fun g ih h ha => G.Core_kids.mpr ⟨by
    cases g with
    | term t => exact (G.All_self ha).1
    | ltrim | rtrim => simp [lowOK] at h
    | _ => trivial, fun k hk => ih k hk (lowOK_kids h k hk) (ha.kid hk)⟩

theorem core_of_lowOKList (cfg : Cfg) (s : Cert) : ∀ gs : List G, lowOKList s gs = true → AllList (TermS cfg) gs →
    CoreList (TermGood cfg) gs :=
  fun _ h ha => CoreList_iff.mpr fun g hg => core_of_lowOK cfg s g (lowOKList_mem h g hg) (AllList_iff.mp ha g hg)

theorem upOK_kids {s : Cert} {g : G} (h : upOK s g = true) :
    lowOK s g = true ∨ ((∀ k ∈ g.kids, upOK s k = true) ∧ ∀ g' m, g ≠ .ltrim g' m ∧ g ≠ .rtrim g' m) := by
  have leaf : ∀ {g}, leafOK s g = true → lowOK s g = true := fun hl => by
    simp only [leafOK, Bool.and_eq_true] at hl; exact hl.1
  cases g with
  | term | empty => exact .inl rfl
  | ref k =>
    cases hk : s.lowRule k with
    | true => exact .inl hk
    | false => exact .inr ⟨nofun, fun _ _ => ⟨nofun, nofun⟩⟩
  | memo i g =>
    by_cases hi : s.lowIdx i = true
    · simp only [upOK, hi, ↓reduceIte] at h; exact .inl (leaf h)
    · simp only [upOK, hi, Bool.false_eq_true, ↓reduceIte] at h
      exact .inr ⟨fun k hk => by cases List.mem_singleton.mp hk; exact h, fun _ _ => ⟨nofun, nofun⟩⟩
  | any gs => simp only [upOK] at h; exact .inr ⟨upOKList_mem h, fun _ _ => ⟨nofun, nofun⟩⟩
  | optional g =>
    simp only [upOK] at h
    exact .inr ⟨fun k hk => by cases List.mem_singleton.mp hk; exact h, fun _ _ => ⟨nofun, nofun⟩⟩
  | seq kd gs o =>
    cases kd with
    | seqOf =>
      simp only [upOK, Bool.and_eq_true] at h; exact .inr ⟨upOKList_mem h.2, fun _ _ => ⟨nofun, nofun⟩⟩
    | _ => simp only [upOK] at h; exact .inl (leaf h)
  | eof | ltrim | rtrim => simp [upOK] at h
  | _ => simp only [upOK] at h; exact .inl (leaf h)

theorem core_of_upOK (cfg : Cfg) (s : Cert) : ∀ g : G, upOK s g = true → g.All (TermS cfg) → g.Core (TermGood cfg) :=
  G.induct fun g ih h ha => by
    rcases upOK_kids h with hl | ⟨hk, hnt⟩
    · exact core_of_lowOK cfg s g hl ha
    · refine G.Core_kids.mpr ⟨?_, fun k hkm => ih k hkm (hk k hkm) (ha.kid hkm)⟩
      cases g with
      | term t => exact (G.All_self ha).1
      | ltrim g' m => exact absurd rfl (hnt g' m).1
      | rtrim g' m => exact absurd rfl (hnt g' m).2
      | _ => trivial

theorem core_of_upOKList (cfg : Cfg) (s : Cert) : ∀ gs : List G, upOKList s gs = true → AllList (TermS cfg) gs →
    CoreList (TermGood cfg) gs :=
  fun _ h ha => CoreList_iff.mpr fun g hg => core_of_upOK cfg s g (upOKList_mem h g hg) (AllList_iff.mp ha g hg)

theorem scope_of_strat {cfg : Cfg} {s : Cert} {bodyOf : Nat → G} (henv : EnvS cfg s bodyOf) {g : G}
    (hg : UpS cfg s bodyOf g) :
    Scope cfg (G.sentence g) ∧ (∀ g' ∈ cfg.env, GOK bodyOf g') ∧ GOK bodyOf (G.sentence g) := by
  have hrule : ∀ g' ∈ cfg.env, g'.Core (TermGood cfg) ∧ GOK bodyOf g' := by
    intro g' hg'
    obtain ⟨k, hk, hkg⟩ := List.getElem_of_mem hg'
    have hk' : cfg.env[k]? = some g' := by rw [List.getElem?_eq_getElem hk, hkg]
    cases hl : s.lowRule k with
    | true => have h := henv.low k g' hk' hl; exact ⟨core_of_lowOK cfg s g' h.ok h.terms, h.gok⟩
    | false => have h := henv.up k g' hk' hl; exact ⟨core_of_upOK cfg s g' h.ok h.terms, h.gok⟩
  exact ⟨⟨G.sentence_core (core_of_upOK cfg s g hg.ok hg.terms), fun g' h => (hrule g' h).1⟩,
    fun g' h => (hrule g' h).2, G.sentence_all hg.gok trivial trivial⟩

theorem wfT_sentence (rx : Nat → Bool) (c : WFCert) (env : List G) (g : G) :
    wfT rx c env (G.sentence g) = wfT rx c env g := by
  simp [wfT, G.sentence, wfLocalT, wfLocalListT]

end PV.S04
