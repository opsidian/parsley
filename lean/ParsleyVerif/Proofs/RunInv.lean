/-
  One walk over `runStep` for the invariants of a single run that say WHAT a call can hand out: which trees, which
  errors, which answers, in which states.  Such an invariant is a handful of predicates (`RunInv.Preds`) together with
  what the primitives of the model do to them: every tree, error and cache entry is either created (a terminal, EMPTY,
  EOF, `handleResult`, Single's unwrapped child, `notFound nm`, the whitespace errors), selected (`appendNode`,
  `pickErr`, `altErr`, `cacheGet`) or stored (`setError`, `memoLeave`), and selecting and storing keep any predicate.
  So no law below speaks of Any, Choice, a Sequence loop or an accumulator; `RunInv.runStep` does the case walk and the
  three loop inductions once, `RunInv.run` lifts it over the fuel.

  An instance: give the predicates that matter (`Sc` the parsers in scope, `In` / `A` where calls happen, `S` the state
  between calls, `N g pos x` a tree of `g` called at `pos`, `E pos log e` an error of a call at `pos` judged against the
  ghost log, `O g o` an answer of `g` as a whole, `Ch` what a Sequence has matched so far) and the groups of laws that speak of them
  (`scope`, `positions`, `trees`, `errors`, `outs`, `states`); a group whose predicates are left out holds by default.
  Every law that speaks of a parser receives its scope as first premise.
  `I.run fuel g ctx pos st o st' hsc hpre h` is then `I.Post g pos st o st'`.  Proofs/RunSound.lean is the shortest
  example, Proofs/RunPos.lean the one with positions, Proofs/RunErr.lean the one with the log.
  An instance file keeps, beside its instance, the flat statement of its invariant (`Pre` / `Post` / `RunPosOK`,
  `run_sound`, `run_err`, `RunConsOK`, …) and a one-line conversion: the theorems of Props/ are stated with those.
-/
import ParsleyVerif.Proofs.RunBasics
import ParsleyVerif.Proofs.RunLoops
import ParsleyVerif.Proofs.RunEqns
import ParsleyVerif.Proofs.GInduct
import ParsleyVerif.Proofs.MemoBasics
namespace PV
open PV.Text

namespace RunInv

structure Preds where
  /-- the parsers spoken of -/
  Sc : G → Prop := fun _ => True
  /-- the positions at which parsers are called -/
  In : Nat → Prop := fun _ => True
  /-- the activation stack against the left-recursion context at a position -/
  A : Ctx → Nat → List (Nat × Nat) → Prop := fun _ _ _ => True
  /-- the state between calls -/
  S : St → Prop := fun _ => True
  /-- a tree returned by the parser called at the position -/
  N : G → Nat → Node → Prop := fun _ _ _ => True
  /-- an error returned by a call at the position, against the ghost log of the state it is returned in -/
  E : Nat → List Ev → Err → Prop := fun _ _ _ => True
  /-- an answer of the parser as a whole -/
  O : G → Out → Prop := fun _ _ => True
  /-- the elements a Sequence has matched so far, from its own position to where it stands -/
  Ch : SeqShape → Nat → List Node → Nat → Prop := fun _ _ _ _ => True

structure Scope (cfg : Cfg) (P : Preds) : Prop where
  kid : ∀ {g k}, P.Sc g → k ∈ g.kids → P.Sc k
  env : ∀ g' ∈ cfg.env, P.Sc g'

structure Positions (cfg : Cfg) (P : Preds) : Prop where
  adv : ∀ {g pos x}, P.Sc g → P.In pos → P.N g pos x → P.In x.rpos
  ws : ∀ {g pos} (m : WsMode), P.Sc (.ltrim g m) → P.In pos → P.In (skipWhitespaces cfg.file pos m).1
  actAdv : ∀ {g ctx pos act x}, P.Sc g → P.In pos → P.N g pos x → P.A ctx pos act →
    P.A (if x.rpos > pos then [] else ctx) x.rpos act
  actWs : ∀ {g ctx pos act} (m : WsMode), P.Sc (.ltrim g m) → P.In pos → P.A ctx pos act →
    P.A ctx (skipWhitespaces cfg.file pos m).1 act
  actEnter : ∀ {idx body ctx pos act}, P.Sc (.memo idx body) → P.A ctx pos act → P.A (ctx.inc idx) pos ((idx, pos) :: act)

/-- where trees come from: the rules of `Derives`; `pass` is the five that hand a tree of the operand on as it is
    (Optional, Name, Single, SuppressError, LeftTrim), RightTrim has its two, `rkeep` (the operand answered with an
    error) and `rtrim` -/
structure Trees (cfg : Cfg) (P : Preds) : Prop where
  term : ∀ {t pos n}, P.Sc (.term t) → P.In pos → t.parse cfg.params cfg.file pos = .node n → P.N (.term t) pos n
  empty : ∀ {pos}, P.Sc .empty → P.In pos → P.N .empty pos (.empty pos)
  eof : ∀ {pos}, P.Sc .eof → P.In pos → isEOF cfg.file pos = true → P.N .eof pos (.eof pos)
  ref : ∀ {k g' pos x}, P.Sc (.ref k) → cfg.env[k]? = some g' → P.N g' pos x → P.N (.ref k) pos x
  memo : ∀ {idx body pos x}, P.Sc (.memo idx body) → P.N body pos x → P.N (.memo idx body) pos x
  any : ∀ {gs g' pos x}, P.Sc (.any gs) → g' ∈ gs → P.N g' pos x → P.N (.any gs) pos x
  choice : ∀ {gs g' pos x}, P.Sc (.choice gs) → g' ∈ gs → P.N g' pos x → P.N (.choice gs) pos x
  pass : ∀ {g w pos o x}, P.Sc g → g.wrap cfg.file pos = some w → (∀ g' m, g ≠ .rtrim g' m) → P.In pos →
    P.O w.child o → x ∈ (w.out o).res.alts → P.N w.child w.cpos x → P.N g pos x
  optNone : ∀ {g' pos}, P.Sc (.optional g') → P.In pos → P.N (.optional g') pos (.empty pos)
  single : ∀ {g' pos tk c p r i}, P.Sc (.single g') → P.N g' pos (.nt tk [c] p r i) → P.N (.single g') pos c
  rkeep : ∀ {g' m pos o x}, P.Sc (.rtrim g' m) → P.In pos → P.O g' o → o.err.isSome = true → x ∈ o.res.alts →
    P.N g' pos x → P.N (.rtrim g' m) pos x
  rtrim : ∀ {g' m pos o x}, P.Sc (.rtrim g' m) → P.In pos → P.O g' o → x ∈ o.res.alts →
    (setRposNode cfg.file m x none).1 ∈ (rtrimOut cfg.file m o).res.alts → P.N g' pos x →
    P.N (.rtrim g' m) pos (setRposNode cfg.file m x none).1
  chNil : ∀ {g : G} {sh pos}, P.Sc g → g.shape = some sh → P.In pos → P.Ch sh pos [] pos
  chSnoc : ∀ {g : G} {sh g' p0 ns p n}, P.Sc g → g.shape = some sh → sh.lookup ns.length = some g' → P.Ch sh p0 ns p →
    P.N g' p n → P.Ch sh p0 (ns ++ [n]) n.rpos
  chEmit : ∀ {g : G} {sh p0 ns p}, P.Sc g → g.shape = some sh → sh.lenCheck ns.length = true → P.Ch sh p0 ns p →
    P.N g p0 (handleResult sh p ns)

/-- where errors come from -/
structure Errors (cfg : Cfg) (P : Preds) : Prop where
  mono : ∀ {pos log log' e}, log <:+ log' → P.E pos log e → P.E pos log' e
  term : ∀ {t pos e} (st : St), P.Sc (.term t) → P.In pos → t.parse cfg.params cfg.file pos = .err e →
    P.E pos (st.logEv cfg (.termFail e.pos e.kind)).log e
  eof : ∀ {pos} (st : St), P.Sc .eof → P.In pos →
    P.E pos (st.logEv cfg (.termFail pos (.other endErrMsg))).log ⟨pos, .other endErrMsg⟩
  panic : ∀ {t pos site log}, P.Sc (.term t) → P.In pos → t.parse cfg.params cfg.file pos = .panic site →
    P.E pos log ⟨pos, .panic (tokOf site)⟩
  nilRef : ∀ {k pos log}, P.Sc (.ref k) → P.In pos → cfg.env[k]? = none → P.E pos log ⟨pos, .panic (tokOf "nil parser")⟩
  /-- Name (ReturnError) and a named Sequence re-label a not-found error at their own position -/
  rename : ∀ {g pos log e nm}, P.Sc g → (g.shape.bind (·.name) = some nm ∨ ∃ g', g = .name g' nm) → P.In pos →
    P.E pos log e → e.pos = pos → e.kind.isNotFound = true → P.E pos log ⟨pos, .notFound nm⟩
  /-- Name makes a not-found error when its operand returned neither a result nor an error -/
  create : ∀ {g' nm fuel ctx pos st o st'}, P.Sc (.name g' nm) → P.In pos → run cfg fuel g' ctx pos st = some (o, st') →
    o.err = none → o.res.isNil = true → P.E pos st'.log ⟨pos, .notFound nm⟩
  /-- the error of an element is an error of the Sequence -/
  back : ∀ {g : G} {sh p0 ns p log e}, P.Sc g → g.shape = some sh → P.Ch sh p0 ns p → P.E p log e → P.E p0 log e
  ltrim : ∀ {g m pos log e}, P.Sc (.ltrim g m) → P.In pos → P.E (skipWhitespaces cfg.file pos m).1 log e → P.E pos log e
  reloc : ∀ {g m pos log e}, P.Sc (.ltrim g m) → P.In pos → P.E (skipWhitespaces cfg.file pos m).1 log e →
    P.E pos log ⟨pos, e.kind⟩
  ws : ∀ {g m pos log w}, P.Sc (.ltrim g m) → P.In pos → wsToErr (skipWhitespaces cfg.file pos m).2 = some w →
    P.E pos log w
  rmove : ∀ {g m pos log e}, P.Sc (.rtrim g m) → P.In pos → P.E pos log e →
    P.E pos log ⟨(skipWhitespaces cfg.file e.pos m).1, e.kind⟩
  rws : ∀ {g m pos log res w}, P.Sc (.rtrim g m) → P.In pos → (∀ x ∈ res.alts, P.N g pos x) →
    (setRposRes cfg.file m res).2 = some w → P.E pos log w

/-- how answers come about: nothing with whatever error (`fail`), the one tree of a leaf, the merged results of Any,
    Choice and a Sequence without an error, the answer of the rule or of the body handed on, and what the six one-child
    combinators make of their operand's -/
structure Outs (cfg : Cfg) (P : Preds) : Prop where
  fail : ∀ {g cp err}, P.Sc g → P.O g ⟨.nil, cp, err⟩
  leaf : ∀ {g n}, P.Sc g → g.kids = [] → P.O g ⟨.one n, [], none⟩
  ref : ∀ {k g' o}, P.Sc (.ref k) → cfg.env[k]? = some g' → P.O g' o → P.O (.ref k) o
  memo : ∀ {idx body o}, P.Sc (.memo idx body) → P.O body o → P.O (.memo idx body) o
  any : ∀ {gs res cp}, P.Sc (.any gs) → P.O (.any gs) ⟨res, cp, none⟩
  choice : ∀ {gs res cp}, P.Sc (.choice gs) → P.O (.choice gs) ⟨res, cp, none⟩
  seq : ∀ {g sh res cp}, P.Sc g → g.shape = some sh → P.O g ⟨res, cp, none⟩
  wrap : ∀ {g w pos o}, P.Sc g → g.wrap cfg.file pos = some w → P.O w.child o → P.O g (w.out o)

structure States (cfg : Cfg) (P : Preds) : Prop where
  regCall : ∀ {st}, P.S st → P.S st.regCall
  logEv : ∀ {st} (ev : Ev), P.S st → (∀ i p d, ev ≠ .body i p d) → P.S (st.logEv cfg ev)
  setError : ∀ {pos st e}, P.In pos → P.S st → (∀ er, e = some er → P.E pos st.log er) → P.S (st.setError e)
  enter : ∀ {idx body ctx pos st}, P.Sc (.memo idx body) → P.In pos → P.S st → P.A ctx pos st.active →
    ¬ ctx.get idx > remaining cfg.file pos + Facts.curtailSlack → P.S (memoEnter cfg idx pos st)
  leave : ∀ {idx body pos ctx st o st2}, P.Sc (.memo idx body) → P.In pos → P.S st2 → (∀ x ∈ o.res.alts, P.N body pos x) →
    (∀ er, o.err = some er → P.E pos st2.log er) → P.O body o → P.S (memoLeave idx pos ctx st o st2)
  hit : ∀ {st idx body pos ctx e}, P.Sc (.memo idx body) → P.S st → cacheGet st.cache idx pos ctx = some e →
    (∀ x ∈ e.res.alts, P.N (.memo idx body) pos x) ∧ (∀ er, e.err = some er → P.E pos st.log er) ∧
      P.O (.memo idx body) ⟨e.res, e.cp, e.err⟩

theorem Scope.top {cfg : Cfg} {P : Preds} (h : ∀ g, P.Sc g) : Scope cfg P := ⟨fun _ _ => h _, fun _ _ => h _⟩

theorem Positions.top {cfg : Cfg} {P : Preds} (hi : ∀ p, P.In p) (ha : ∀ c p a, P.A c p a) : Positions cfg P := by
  constructor <;> intros <;> first | exact hi _ | exact ha _ _ _

theorem Trees.top {cfg : Cfg} {P : Preds} (hn : ∀ g p x, P.N g p x) (hc : ∀ sh p ns q, P.Ch sh p ns q) : Trees cfg P := by
  constructor <;> intros <;> first | exact hn _ _ _ | exact hc _ _ _ _

theorem Errors.top {cfg : Cfg} {P : Preds} (h : ∀ p l e, P.E p l e) : Errors cfg P := by
  constructor <;> intros <;> exact h _ _ _

theorem Outs.top {cfg : Cfg} {P : Preds} (h : ∀ g o, P.O g o) : Outs cfg P :=
  ⟨fun _ => h _ _, fun _ _ => h _ _, fun _ _ _ => h _ _, fun _ _ => h _ _, fun _ => h _ _, fun _ => h _ _, fun _ _ => h _ _,
   fun _ _ _ => h _ _⟩

theorem States.top {cfg : Cfg} {P : Preds} (hs : ∀ st, P.S st) (hn : ∀ g p x, P.N g p x) (he : ∀ p l e, P.E p l e)
    (ho : ∀ g o, P.O g o) : States cfg P := by
  constructor <;> intros <;> first | exact hs _ | exact ⟨fun _ _ => hn _ _ _, fun _ _ => he _ _ _, ho _ _⟩

end RunInv

structure RunInv (cfg : Cfg) extends RunInv.Preds where
  scope : RunInv.Scope cfg toPreds := by exact .top fun _ => trivial
  positions : RunInv.Positions cfg toPreds := by exact .top (fun _ => trivial) (fun _ _ _ => trivial)
  trees : RunInv.Trees cfg toPreds := by exact .top (fun _ _ _ => trivial) (fun _ _ _ _ => trivial)
  errors : RunInv.Errors cfg toPreds := by exact .top fun _ _ _ => trivial
  outs : RunInv.Outs cfg toPreds := by exact .top fun _ _ => trivial
  states : RunInv.States cfg toPreds := by
    exact .top (fun _ => trivial) (fun _ _ _ => trivial) (fun _ _ _ => trivial) (fun _ _ => trivial)

namespace RunInv
variable {cfg : Cfg} (I : RunInv cfg)

def Pre (ctx : Ctx) (pos : Nat) (st : St) : Prop := I.In pos ∧ I.S st ∧ I.A ctx pos st.active

structure Post (g : G) (pos : Nat) (st0 : St) (o : Out) (st' : St) : Prop where
  nodes : ∀ x ∈ o.res.alts, I.N g pos x
  err : ∀ er, o.err = some er → I.E pos st'.log er
  out : I.O g o
  st : I.S st'
  active : st'.active = st0.active
  calls : st0.calls ≤ st'.calls
  log : st0.log <:+ st'.log

def OK (r : RunFn) : Prop :=
  ∀ g ctx pos st o st', I.Sc g → I.Pre ctx pos st → r g ctx pos st = some (o, st') → I.Post g pos st o st'

/-- what Any / Choice hold between two alternatives -/
structure AltOK (g : G) (pos : Nat) (log : List Ev) (a : AltSt) : Prop where
  nodes : ∀ x ∈ a.res.alts, I.N g pos x
  err : ∀ er, a.err = some er → I.E pos log er
  nf : ∀ er, a.nf = some er → I.E pos log er

/-- what the `sequence` object holds -/
structure SeqOK (g : G) (pos0 : Nat) (log : List Ev) (ss : SeqSt) : Prop where
  nodes : ∀ x ∈ ss.result.alts, I.N g pos0 x
  err : ∀ er, ss.err = some er → I.E pos0 log er

variable {I}

theorem AltOK.mono {g : G} {pos : Nat} {log log' : List Ev} {a : AltSt} (h : I.AltOK g pos log a) (hl : log <:+ log') :
    I.AltOK g pos log' a :=
  ⟨h.nodes, fun er her => I.errors.mono hl (h.err er her), fun er her => I.errors.mono hl (h.nf er her)⟩

theorem AltOK.altErr {g : G} {pos : Nat} {log : List Ev} {a : AltSt} (h : I.AltOK g pos log a) (e : Option Err)
    (he : ∀ er, e = some er → I.E pos log er) : I.AltOK g pos log (altErr pos a e) := by
  obtain ⟨_, h2, h3, h4⟩ := altErr_fields pos a e
  refine ⟨by rw [h2]; exact h.nodes, fun er her => ?_, fun er her => ?_⟩
  · exact h3.elim (fun h3 => h.err er (h3 ▸ her)) (fun h3 => he er (h3 ▸ her))
  · exact h4.elim (fun h4 => h.nf er (h4 ▸ her)) (fun h4 => he er (h4 ▸ her))

theorem AltOK.finalErr {g : G} {pos : Nat} {log : List Ev} {a : AltSt} (h : I.AltOK g pos log a) :
    ∀ er, a.finalErr = some er → I.E pos log er := by
  intro er her
  unfold AltSt.finalErr at her
  split at her
  · cases her; exact h.err _ ‹_›
  · exact h.nf _ her

theorem SeqOK.after {g : G} {sh : SeqShape} {pos0 : Nat} {log log' : List Ev} {fr : Frame} {ss : SeqSt} {o : Out}
    (hg : I.Sc g) (hs : g.shape = some sh) (h : I.SeqOK g pos0 log ss) (hl : log <:+ log')
    (hc : I.Ch sh pos0 fr.nodes fr.pos)
    (he : ∀ er, o.err = some er → I.E fr.pos log' er) : I.SeqOK g pos0 log' (seqAfter fr.merge ss o) := by
  refine ⟨by rw [seqAfter_result]; exact h.nodes, fun er her => ?_⟩
  rw [seqAfter_err] at her
  exact (pickErr_cases ss.err o.err).elim (fun h1 => I.errors.mono hl (h.err er (h1 ▸ her)))
    (fun h1 => I.errors.back hg hs hc (he er (h1 ▸ her)))

theorem SeqOK.emit {g : G} {sh : SeqShape} {pos0 : Nat} {log : List Ev} {ss : SeqSt} {fr : Frame} (hg : I.Sc g)
    (hs : g.shape = some sh) (h : I.SeqOK g pos0 log ss) (hd : fr.depth = fr.nodes.length) (hlc : sh.lenCheck fr.depth = true)
    (hc : I.Ch sh pos0 fr.nodes fr.pos) : I.SeqOK g pos0 log (seqEmit sh fr ss) := by
  refine ⟨fun x hx => ?_, h.err⟩
  simp only [seqEmit] at hx
  rcases mem_appendNode _ _ _ hx with h1 | h1
  · exact h.nodes x h1
  · cases List.mem_singleton.mp h1
    rw [emitNodes_eq fr hd]
    exact I.trees.chEmit hg hs (hd ▸ hlc) hc

/-- how the state and the `sequence` object evolve: each stays good if it was -/
def SeqE (I : RunInv cfg) (g : G) (pos0 : Nat) (ss : SeqSt) (st : St) (ss' : SeqSt) (st' : St) : Prop :=
  (I.S st → I.S st') ∧ (I.SeqOK g pos0 st.log ss → I.SeqOK g pos0 st'.log ss') ∧ st'.active = st.active ∧
  st.calls ≤ st'.calls ∧ st.log <:+ st'.log

def SeqJ (I : RunInv cfg) (g : G) (sh : SeqShape) (pos0 : Nat) (fr : Frame) (ss : SeqSt) (st : St) : Prop :=
  I.Pre fr.ctx fr.pos st ∧ I.Ch sh pos0 fr.nodes fr.pos ∧ I.SeqOK g pos0 st.log ss

/-- a call registered in the state `s` that a loop has reached -/
theorem OK.call {r : RunFn} (hr : I.OK r) {g : G} {ctx : Ctx} {pos : Nat} {s s' : St} {o : Out} (hg : I.Sc g)
    (hpre : I.Pre ctx pos s) (hrun : r g ctx pos s.regCall = some (o, s')) :
    I.Post g pos s.regCall o s' ∧ s'.active = s.active ∧ s.calls ≤ s'.calls ∧ s.log <:+ s'.log := by
  have hp := hr g ctx pos s.regCall o s' hg ⟨hpre.1, I.states.regCall hpre.2.1, hpre.2.2⟩ hrun
  exact ⟨hp, hp.active, Nat.le_trans (Nat.le_succ _) hp.calls, hp.log⟩

section
variable {g : G} {sh : SeqShape} {pos0 : Nat}

theorem SeqE.refl (ss : SeqSt) (st : St) : SeqE I g pos0 ss st ss st :=
  ⟨id, id, rfl, Nat.le_refl _, List.suffix_refl _⟩

theorem SeqE.trans (a : SeqSt) (b : St) (c : SeqSt) (d : St) (e : SeqSt) (f : St) (h1 : SeqE I g pos0 a b c d)
    (h2 : SeqE I g pos0 c d e f) : SeqE I g pos0 a b e f :=
  ⟨h2.1 ∘ h1.1, h2.2.1 ∘ h1.2.1, h2.2.2.1.trans h1.2.2.1, Nat.le_trans h1.2.2.2.1 h2.2.2.2.1, h1.2.2.2.2.trans h2.2.2.2.2⟩

theorem SeqJ.stable (fr : Frame) (ss : SeqSt) (st : St) (ss' : SeqSt) (st' : St) (hJ : SeqJ I g sh pos0 fr ss st)
    (hE : SeqE I g pos0 ss st ss' st') : SeqJ I g sh pos0 fr ss' st' :=
  ⟨⟨hJ.1.1, hE.1 hJ.1.2.1, hE.2.2.1 ▸ hJ.1.2.2⟩, hJ.2.1, hE.2.1 hJ.2.2⟩

/-- element `fr.depth` answered `o`: how the loop goes on, and what the answer says (`Post`, for a user who needs more) -/
theorem SeqJ.call {r : RunFn} (hr : I.OK r) (hg : I.Sc g) (hs : g.shape = some sh) {fr : Frame} {ss : SeqSt} {st : St}
    {g' : G} {o : Out} {st1 : St} (hJ : SeqJ I g sh pos0 fr ss st) (hd : fr.depth = fr.nodes.length)
    (hl : sh.lookup fr.depth = some g') (hrun : r g' fr.ctx fr.pos st.regCall = some (o, st1)) :
    I.Post g' fr.pos st.regCall o st1 ∧ SeqE I g pos0 ss st (seqAfter fr.merge ss o) st1 ∧
    (∀ n ∈ o.res.alts, SeqJ I g sh pos0 (fr.next n) (seqAfter fr.merge ss o) st1) ∧
    (o.res.isNil = true → sh.lenCheck fr.depth = true →
      SeqE I g pos0 ss st (seqEmit sh fr (seqAfter fr.merge ss o)) st1) := by
  obtain ⟨hpre, j5, j6⟩ := hJ
  obtain ⟨hp, hact, hcalls, hlog⟩ := hr.call (I.scope.kid hg (G.shape_kids hs hl)) hpre hrun
  refine ⟨hp, ⟨fun _ => hp.st, fun h => h.after hg hs hlog j5 hp.err, hact, hcalls, hlog⟩, fun n hn => ?_,
    fun _ hlc => ⟨fun _ => hp.st, fun h => (h.after hg hs hlog j5 hp.err).emit hg hs hd hlc j5, hact, hcalls, hlog⟩⟩
  have hN := hp.nodes n hn
  have hg' := I.scope.kid hg (G.shape_kids hs hl)
  exact ⟨⟨I.positions.adv hg' hpre.1 hN, hp.st, hact ▸ I.positions.actAdv hg' hpre.1 hN hpre.2.2⟩,
    I.trees.chSnoc hg hs (hd ▸ hl) j5 hN, j6.after hg hs hlog j5 hp.err⟩

theorem SeqJ.none (hg : I.Sc g) (hs : g.shape = some sh) (fr : Frame) (ss : SeqSt) (st : St) (hJ : SeqJ I g sh pos0 fr ss st)
    (hd : fr.depth = fr.nodes.length) (_ : sh.lookup fr.depth = none) (hlc : sh.lenCheck fr.depth = true) :
    SeqE I g pos0 ss st (seqEmit sh fr ss) st :=
  ⟨id, fun h => h.emit hg hs hd hlc hJ.2.1, rfl, Nat.le_refl _, List.suffix_refl _⟩

theorem SeqJ.init {ctx : Ctx} {pos : Nat} {st : St} (hg : I.Sc g) (hs : g.shape = some sh) (h : I.Pre ctx pos st) :
    SeqJ I g sh pos ⟨0, [], ctx, pos, true⟩ {} st :=
  ⟨h, I.trees.chNil hg hs h.1, noAlt, noErr⟩

theorem seqParse_inv {r : RunFn} (hr : I.OK r) (hg : I.Sc g) (hs : g.shape = some sh) :
    ∀ (fuel : Nat) (fr : Frame) ss st b ss' st', SeqJ I g sh pos0 fr ss st → fr.depth = fr.nodes.length →
      seqParse r sh fuel fr.depth fr.nodes fr.ctx fr.pos fr.merge ss st = some (b, ss', st') →
      SeqE I g pos0 ss st ss' st' :=
  seqParse_ind r sh (SeqJ I g sh pos0) (SeqE I g pos0) SeqE.refl SeqE.trans SeqJ.stable
    (fun _ _ _ _ _ _ hJ hd hl hrun => (SeqJ.call hr hg hs hJ hd hl hrun).2) (SeqJ.none hg hs)

end

theorem Post.setError {g : G} {pos : Nat} {st0 st : St} {res : Res} {cp : List Nat} {e : Option Err} (hin : I.In pos)
    (hn : ∀ x ∈ res.alts, I.N g pos x) (he : ∀ er, e = some er → I.E pos st.log er) (hst : I.S st)
    (hact : st.active = st0.active) (hcalls : st0.calls ≤ st.calls) (hlog : st0.log <:+ st.log)
    (ho : I.O g ⟨res, cp, none⟩) : I.Post g pos st0 ⟨res, cp, none⟩ (st.setError e) := by
  obtain ⟨_, _, h3, h4, h5⟩ := setError_ctxErr st e
  exact ⟨hn, noErr, ho, I.states.setError hin hst he, h3.trans hact, h5 ▸ hcalls, h4 ▸ hlog⟩

theorem Post.same {g : G} {pos : Nat} {st : St} {o : Out} (hst : I.S st) (hn : ∀ x ∈ o.res.alts, I.N g pos x)
    (he : ∀ er, o.err = some er → I.E pos st.log er) (ho : I.O g o) : I.Post g pos st o st :=
  ⟨hn, he, ho, hst, rfl, Nat.le_refl _, List.suffix_refl _⟩

theorem Post.logEv {g : G} {pos : Nat} {st : St} {o : Out} (hst : I.S st) (ev : Ev) (hev : ∀ i p d, ev ≠ Ev.body i p d)
    (hn : ∀ x ∈ o.res.alts, I.N g pos x) (he : ∀ er, o.err = some er → I.E pos (st.logEv cfg ev).log er) (ho : I.O g o) :
    I.Post g pos st o (st.logEv cfg ev) :=
  ⟨hn, he, ho, I.states.logEv ev hst hev, (logEv_fields st cfg ev).2.2.2.1,
    Nat.le_of_eq (logEv_fields st cfg ev).2.2.1.symm, logEv_suffix st cfg ev⟩

/-- the six one-child combinators hand trees and errors through, but for the EMPTY alternative of Optional, the
    unwrapped child of Single, the not-found errors of Name at its own position and what the trims do at the whitespace;
    `hcr`: the operand of a Name that answered nothing at all -/
theorem wrapOut_inv {pos : Nat} {g : G} {w : Wrap} (hg : I.Sc g) (hw : g.wrap cfg.file pos = some w) (hin : I.In pos)
    {st0 st : St} {o : Out} (h : I.Post w.child w.cpos st0 o st)
    (hcr : ∀ g' nm, g = .name g' nm → o.err = none → o.res.isNil = true → I.E pos st.log ⟨pos, .notFound nm⟩) :
    I.Post g pos st0 (w.out o) st := by
  suffices hne : (∀ x ∈ (w.out o).res.alts, I.N g pos x) ∧ ∀ er, (w.out o).err = some er → I.E pos st.log er from
    ⟨hne.1, hne.2, I.outs.wrap hg hw h.out, h.st, h.active, h.calls, h.log⟩
  have pass : (∀ g' m, g ≠ .rtrim g' m) → ∀ x, x ∈ (w.out o).res.alts → x ∈ o.res.alts → I.N g pos x :=
    fun hnr x hx1 hx => I.trees.pass hg hw hnr hin h.out hx1 (h.nodes x hx)
  revert pass
  refine G.wrap_cases (motive := fun g w => I.Sc g → I.Post w.child w.cpos st0 o st →
      (∀ g' nm, g = .name g' nm → o.err = none → o.res.isNil = true → I.E pos st.log ⟨pos, .notFound nm⟩) →
      ((∀ g' m, g ≠ .rtrim g' m) → ∀ x, x ∈ (w.out o).res.alts → x ∈ o.res.alts → I.N g pos x) →
      (∀ x ∈ (w.out o).res.alts, I.N g pos x) ∧ ∀ er, (w.out o).err = some er → I.E pos st.log er)
    ?_ ?_ ?_ ?_ ?_ ?_ hw hg h hcr
  · intro g' hg h _ pass
    exact ⟨fun x hx => (mem_appendNode _ _ _ hx).elim (pass nofun x hx)
      (fun h1 => by cases List.mem_singleton.mp h1; exact I.trees.optNone hg hin), h.err⟩
  · intro g' nm hg h hcr pass
    show (∀ x ∈ (nameOut pos nm o).res.alts, _) ∧ ∀ er, (nameOut pos nm o).err = some er → _
    rcases nameOut_cases pos nm o with ⟨e, he, ho⟩ | ⟨h1, h2, ho⟩ | ⟨_, _, ho⟩
    · rw [ho]
      refine ⟨noAlt, fun er her => ?_⟩
      cases her
      split
      · rename_i hc
        simp only [Bool.and_eq_true, decide_eq_true_eq] at hc
        exact I.errors.rename hg (.inr ⟨g', rfl⟩) hin (h.err e he) hc.1 hc.2
      · exact h.err e he
    · rw [ho]; exact ⟨noAlt, fun er her => by cases her; exact hcr g' nm rfl h1 h2⟩
    · exact ⟨fun x hx => pass nofun x hx (by rw [ho] at hx; exact hx), by rw [ho]; exact noErr⟩
  · intro g' hg h _ pass
    show (∀ x ∈ (singleOut o).res.alts, _) ∧ ∀ er, (singleOut o).err = some er → _
    rcases singleOut_cases o with ⟨e, he, ho⟩ | ⟨_, tk, c, p, r, i, hr, ho⟩ | ⟨_, ho⟩
    · rw [ho]; exact ⟨noAlt, fun er her => by cases her; exact h.err e he⟩
    · rw [ho]
      refine ⟨fun x hx => ?_, noErr⟩
      cases List.mem_singleton.mp hx
      exact I.trees.single hg (h.nodes (.nt tk [c] p r i) (by rw [hr]; exact List.mem_singleton.mpr rfl))
    · exact ⟨fun x hx => pass nofun x hx (by rw [ho] at hx; exact hx), by rw [ho]; exact noErr⟩
  · intro g' _ h _ pass; exact ⟨fun x hx => pass nofun x hx hx, noErr⟩
  · intro g' m hg h _ pass
    refine ⟨fun x hx => pass nofun x hx (ltrimOut_alts _ _ _ _ x hx), fun er her => ?_⟩
    rcases ltrimOut_err_cases her with hws | he | ⟨e, he, rfl⟩
    · exact I.errors.ws hg hin hws
    · exact I.errors.ltrim hg hin (h.err er he)
    · exact I.errors.reloc hg hin (h.err e he)
  · intro g' m hg h _ _
    refine ⟨fun x hx => ?_, fun er her => ?_⟩
    · rcases rtrimOut_alts cfg.file m o x hx with h1 | ⟨n, hn, rfl⟩
      · exact I.trees.rkeep hg hin h.out h1.1 h1.2 (h.nodes x h1.2)
      · exact I.trees.rtrim hg hin h.out hn hx (h.nodes n hn)
    · rcases rtrimOut_err_cases her with ⟨e, he, rfl | rfl⟩ | ⟨_, hws⟩
      · exact h.err _ he
      · exact I.errors.rmove hg hin (h.err e he)
      · exact I.errors.rws hg hin h.nodes hws

theorem wrap_pre {ctx : Ctx} {pos : Nat} {st : St} {g : G} {w : Wrap} (hg : I.Sc g) (hw : g.wrap cfg.file pos = some w)
    (hpre : I.Pre ctx pos st) : I.Pre ctx w.cpos st := by
  revert hg
  refine G.wrap_cases (motive := fun g w => I.Sc g → I.Pre ctx w.cpos st)
    ?_ ?_ ?_ ?_ (fun _ m hg => ⟨I.positions.ws m hg hpre.1, hpre.2.1, I.positions.actWs m hg hpre.1 hpre.2.2⟩) ?_ hw <;>
  intros <;> exact hpre

/-- Any over `gs` on behalf of `g` (Any itself, or Choice, which is Any on the alternatives it tried: `choiceLoop_any`) -/
theorem any_post {r : RunFn} (hr : I.OK r) {g : G} {gs : List G} {ctx : Ctx} {pos : Nat} {st : St}
    (hpre : I.Pre ctx pos st) (hk : ∀ g' ∈ gs, I.Sc g') (hN : ∀ g' ∈ gs, ∀ x, I.N g' pos x → I.N g pos x)
    (hfail : ∀ cp err, I.O g ⟨.nil, cp, err⟩) (hres : ∀ res cp, I.O g ⟨res, cp, none⟩)
    {a : AltSt} {st1 : St} (hl : anyLoop r ctx pos gs {} st = some (a, st1)) :
    I.Post g pos st (anyFinish a st1).1 (anyFinish a st1).2 := by
  obtain ⟨hin, hst, hact⟩ := hpre
  -- what the loop holds: the accumulator, and the precondition of the next alternative
  obtain ⟨a1, a2, a3, a4, a5⟩ := anyLoop_ind r ctx pos
    (fun a s => I.AltOK g pos s.log a ∧ I.S s ∧ s.active = st.active ∧ st.calls ≤ s.calls ∧ st.log <:+ s.log) gs
    (fun g' hg' a s o' s' hA hrun => by
      obtain ⟨hp, h3, h4, h5⟩ := hr.call (hk g' hg') ⟨hin, hA.2.1, hA.2.2.1 ▸ hact⟩ hrun
      have hA1 := hA.1.mono h5
      refine ⟨AltOK.altErr (a := { a with cp := cpUnion a.cp o'.cp, res := appendNode a.res o'.res })
        ⟨fun y hy => ?_, hA1.err, hA1.nf⟩ _ hp.err, hp.st, h3.trans hA.2.2.1, Nat.le_trans hA.2.2.2.1 h4,
        hA.2.2.2.2.trans h5⟩
      exact (mem_appendNode _ _ _ hy).elim (hA.1.nodes y) (fun h7 => hN g' hg' y (hp.nodes y h7)))
    {} st a st1 ⟨⟨noAlt, noErr, noErr⟩, hst, rfl, Nat.le_refl _, List.suffix_refl _⟩ hl
  rcases anyFinish_cases a st1 with ⟨_, e⟩ | ⟨_, e⟩ <;> rw [e]
  · exact ⟨noAlt, a1.finalErr, hfail _ _, a2, a3, a4, a5⟩
  · exact .setError hin a1.nodes a1.err a2 a3 a4 a5 (hres _ _)

/-- `hcr`: `Errors.create` for the runner of the sub-parsers -/
theorem runStep {r : RunFn}
    (hcr : ∀ g' nm ctx pos st o st', I.Sc (.name g' nm) → I.In pos → r g' ctx pos st = some (o, st') → o.err = none →
      o.res.isNil = true → I.E pos st'.log ⟨pos, .notFound nm⟩)
    (hr : I.OK r) (fuel : Nat) : I.OK (PV.runStep cfg r fuel) := by
  intro g ctx pos st o st' hg hpre h
  obtain ⟨hin, hst, hact⟩ := hpre
  revert hg
  refine runStep_elim (motive := fun g x => I.Sc g → I.Post g pos st x.1 x.2) ?term ?empty ?eof ?ref ?refNil ?memo ?any
    ?choice ?wrap ?seq g (o, st') h
  case term =>
    intro t hg
    rcases termStep_cases cfg t pos st with ⟨n, hp, e⟩ | ⟨e', hp, e⟩ | ⟨s, hp, e⟩ <;> rw [e]
    · exact .same hst (fun x hx => by cases List.mem_singleton.mp hx; exact I.trees.term hg hin hp) noErr (I.outs.leaf hg rfl)
    · exact .logEv hst _ nofun noAlt (fun er her => by cases her; exact I.errors.term st hg hin hp) (I.outs.fail hg)
    · exact .same hst noAlt (fun er her => by cases her; exact I.errors.panic hg hin hp) (I.outs.fail hg)
  case empty =>
    exact fun hg => .same hst (fun x hx => by cases List.mem_singleton.mp hx; exact I.trees.empty hg hin) noErr
      (I.outs.leaf hg rfl)
  case eof =>
    intro hg
    rcases eofStep_cases cfg pos st with ⟨he, e⟩ | ⟨_, e⟩ <;> rw [e]
    · exact .same hst (fun x hx => by cases List.mem_singleton.mp hx; exact I.trees.eof hg hin he) noErr (I.outs.leaf hg rfl)
    · exact .logEv hst _ nofun noAlt (fun er her => by cases her; exact I.errors.eof st hg hin) (I.outs.fail hg)
  case ref =>
    intro k g' x hk h hg
    have hp := hr _ ctx pos st x.1 x.2 (I.scope.env _ (List.mem_of_getElem? hk)) ⟨hin, hst, hact⟩ h
    exact ⟨fun y hy => I.trees.ref hg hk (hp.nodes y hy), hp.err, I.outs.ref hg hk hp.out, hp.st, hp.active, hp.calls, hp.log⟩
  case refNil =>
    exact fun k hk hg => .same hst noAlt (fun er her => by cases her; exact I.errors.nilRef hg hin hk) (I.outs.fail hg)
  case memo =>
    intro idx body x h hg
    refine memoStep_elim (motive := fun x => I.Post (.memo idx body) pos st x.1 x.2) ?_ ?_ ?_ h
    · intro e hc
      obtain ⟨h1, h2, h3⟩ := I.states.hit hg hst hc
      exact .logEv hst _ nofun h1 (fun er her => I.errors.mono (logEv_suffix st cfg _) (h2 er her)) h3
    · exact fun _ _ => .logEv hst _ nofun noAlt noErr (I.outs.fail hg)
    · intro o2 st2 _ hcur hr2
      have hp := hr body _ pos _ o2 st2 (I.scope.kid hg (.head _))
        ⟨hin, I.states.enter hg hin hst hact hcur,
          (memoEnter_frame cfg idx pos st).2.2.2.1 ▸ I.positions.actEnter hg hact⟩ hr2
      exact ⟨fun y hy => I.trees.memo hg (hp.nodes y hy), hp.err, I.outs.memo hg hp.out,
        I.states.leave hg hin hp.st hp.nodes hp.err hp.out, rfl,
        (memoEnter_frame cfg idx pos st).2.2.1 ▸ hp.calls, (memoEnter_grow cfg idx pos st).log.trans hp.log⟩
  case any =>
    exact fun gs a st1 hl hg => any_post hr ⟨hin, hst, hact⟩ (fun _ hg' => I.scope.kid hg hg')
      (fun _ hg' _ => I.trees.any hg hg') (fun _ _ => I.outs.fail hg) (fun _ _ => I.outs.any hg) hl
  case choice =>
    exact fun gs pre a st1 h1 _ hl hg => any_post hr ⟨hin, hst, hact⟩ (fun _ hg' => I.scope.kid hg (h1.subset hg'))
      (fun _ hg' _ => I.trees.choice hg (h1.subset hg')) (fun _ _ => I.outs.fail hg) (fun _ _ => I.outs.choice hg) hl
  case wrap =>
    intro g w o1 st1 hw hr1 hg
    refine wrapOut_inv hg hw hin
      (hr _ ctx _ st o1 st1 (I.scope.kid hg (G.wrap_kid hw)) (wrap_pre hg hw ⟨hin, hst, hact⟩) hr1) ?_
    rintro g' nm rfl he hn
    cases hw
    exact hcr _ _ _ _ _ _ _ hg hin hr1 he hn
  case seq =>
    intro g sh b ss st1 hs hsp hg
    have hE := seqParse_inv hr hg hs fuel ⟨0, [], ctx, pos, true⟩ {} st b ss st1 (SeqJ.init hg hs ⟨hin, hst, hact⟩) rfl hsp
    have hss := hE.2.1 ⟨noAlt, noErr⟩
    rcases seqFinish_cases sh pos ss st1 with ⟨_, err, ho, he⟩ | ⟨_, ho⟩ <;> rw [ho]
    · refine ⟨noAlt, fun er her => ?_, I.outs.fail hg, hE.1 hst, hE.2.2.1, hE.2.2.2.1, hE.2.2.2.2⟩
      rcases he with rfl | ⟨e, nm, hse, hn, hp, hk, rfl⟩
      · exact hss.err er her
      · cases her
        exact I.errors.rename hg (.inl (by rw [hs]; exact hn)) hin (hss.err e hse) hp hk
    · exact .setError hin hss.nodes hss.err (hE.1 hst) hE.2.2.1 hE.2.2.2.1 hE.2.2.2.2 (I.outs.seq hg hs)

theorem run (fuel : Nat) : I.OK (PV.run cfg fuel) := by
  induction fuel with
  | zero => intro g ctx pos st o st' _ _ h; cases h
  | succ fuel ih =>
    exact fun g ctx pos st o st' hg hpre h =>
      runStep (fun _ _ _ _ _ _ _ hg hin h => I.errors.create hg hin h) ih fuel g ctx pos st o st' hg hpre (run_some_step h)

end RunInv

/-- every answering call leaves the ghost activation stack as it found it: every grammar, state and fuel (the invariant
    that asks nothing) -/
theorem run_active {cfg : Cfg} {fuel : Nat} {g : G} {ctx : Ctx} {pos : Nat} {st st' : St} {o : Out}
    (h : run cfg fuel g ctx pos st = some (o, st')) : st'.active = st.active :=
  (RunInv.run (I := ({} : RunInv cfg)) fuel g ctx pos st o st' trivial ⟨trivial, trivial, trivial⟩ h).active

end PV
