/-
  C16, the converse — concrete documents inside and outside the language `JLang` (Spec/J16AccLang.lean), proved
  from the DEFINITION of the language (no run of the model): the non-vacuity instances of Props/C16A.lean.

  Inside (forms that the supported subset does not have): `0x1F`, `017`, `-.5e3`, `"\x41\a<TAB>"`, `[1,<FF>2]`.
  Outside: `1e5`, `[1,]`, `[1<LF>,2]` (a line break before `,`), `{"a" 1}`, `"\q"`.
-/
import ParsleyVerif.Proofs.J16AccFwd
namespace PV.J16Acc
open PV PV.Text PV.J16

theorem isInt_dec {l : Bytes} (h : Lang.isInt l = true) : Lang.IsInt l := h
theorem isFloat_dec {l : Bytes} (h : Lang.isFloat l = true) : Lang.IsFloat l := h

/-- `0x1F` -/
theorem ex_hex (P : Params) : JLang P [48, 120, 49, 70] :=
  ⟨[], .lit (.int [48, 120, 49, 70]), [], wsNlF_nil, wsNlF_nil, ⟨isInt_dec (by decide), by decide, by decide⟩, rfl⟩

/-- `017` (octal: the value is 15) -/
theorem ex_octal (P : Params) : JLang P [48, 49, 55] :=
  ⟨[], .lit (.int [48, 49, 55]), [], wsNlF_nil, wsNlF_nil, ⟨isInt_dec (by decide), by decide, by decide⟩, rfl⟩

theorem ex_octal_value : Lang.intValue [48, 49, 55] = 15 := by decide
theorem ex_hex_value : Lang.intValue [48, 120, 49, 70] = 31 := by decide

/-- `-.5e3` (whenever ParseFloat accepts the lexeme) -/
theorem ex_float (P : Params) (hf : P.floatOk [45, 46, 53, 101, 51] = true) : JLang P [45, 46, 53, 101, 51] :=
  ⟨[], .lit (.flt [45, 46, 53, 101, 51]), [], wsNlF_nil, wsNlF_nil, ⟨isFloat_dec (by decide), hf⟩, rfl⟩

/-- the body of `"\x41\a<TAB>"` and its value `A`, BEL, TAB -/
theorem ex_body : IsStrBody [92, 120, 52, 49, 92, 97, 9] [65, 7, 9] :=
  IsStrBody.cons (e := [92, 120, 52, 49]) (c := 65)
    (IsStrElem.hex (x := 120) (n := 2) (ds := [52, 49]) (.inl ⟨rfl, rfl⟩) rfl (by decide) (.inl rfl))
    (IsStrBody.cons (e := [92, 97]) (c := 7) (IsStrElem.simple (by decide))
      (IsStrBody.cons (e := [9]) (c := 9) (IsStrElem.plain (by omega) (by omega) (by omega) (by omega) (by omega))
        IsStrBody.nil))

/-- `"\x41\a<TAB>"` -/
theorem ex_str (P : Params) : JLang P [34, 92, 120, 52, 49, 92, 97, 9, 34] :=
  ⟨[], .lit (.str [92, 120, 52, 49, 92, 97, 9] [65, 7, 9]), [], wsNlF_nil, wsNlF_nil, ex_body, rfl⟩

theorem ws_ff : WsNlF [12] := by intro b hb; simp at hb; omega

/-- `[1,<FF>2]`: a form feed before a value -/
def exFFDoc : AccDoc := .arr (.cons [] [] (.lit (.int [49])) (.cons [] [12] (.lit (.int [50])) .nil)) []

theorem ex_ff_ok (P : Params) : exFFDoc.OK P := by
  simp only [exFFDoc, AccDoc.OK, AccItems.OK, AccLit.OK]
  refine ⟨⟨wsSp_nil, wsNlF_nil, ⟨isInt_dec (by decide), by decide, by decide⟩, wsSp_nil, ws_ff,
    ⟨isInt_dec (by decide), by decide, by decide⟩, trivial⟩, wsNlF_nil⟩

theorem ex_ff (P : Params) : JLang P [91, 49, 44, 12, 50, 93] :=
  ⟨[], exFFDoc, [], wsNlF_nil, wsNlF_nil, ex_ff_ok P, rfl⟩

/-- a run of bytes of a class (`WsNlF`, `WsSp`) in front of a byte `c`: empty when `c` is not in the class -/
theorem ws_head {Pc : Nat → Prop} {w X Y : Bytes} {c : Nat} (hw : ∀ b ∈ w, Pc b) (hc : ¬ Pc c)
    (h : w ++ X = c :: Y) : w = [] ∧ X = c :: Y := by
  cases w with
  | nil => exact ⟨rfl, h⟩
  | cons b r =>
    simp only [List.cons_append, List.cons.injEq] at h
    exact absurd (h.1 ▸ hw b (by simp)) hc

theorem ws_cons {Pc : Nat → Prop} {w X Y : Bytes} {c : Nat} (hw : ∀ b ∈ w, Pc b) (h : w ++ X = c :: Y) :
    (w = [] ∧ X = c :: Y) ∨ ∃ w', w = c :: w' ∧ (∀ b ∈ w', Pc b) ∧ w' ++ X = Y := by
  cases w with
  | nil => exact .inl ⟨rfl, h⟩
  | cons b r =>
    simp only [List.cons_append, List.cons.injEq] at h
    obtain ⟨rfl, h2⟩ := h
    exact .inr ⟨r, rfl, fun x hx => hw x (by simp [hx]), h2⟩

theorem prefix_of_stop {Pc : Nat → Prop} {c : Nat} (hc : ¬ Pc c) : ∀ {l a Z Y : Bytes}, (∀ b ∈ l, Pc b) →
    l ++ Z = a ++ c :: Y → ∃ a2, a = l ++ a2 ∧ Z = a2 ++ c :: Y
  | [], a, Z, Y, _, h => ⟨a, rfl, h⟩
  | b :: l', a, Z, Y, hl, h => by
    cases a with
    | nil =>
      simp only [List.cons_append, List.nil_append, List.cons.injEq] at h
      exact absurd (h.1 ▸ hl b (by simp)) hc
    | cons a0 a' =>
      simp only [List.cons_append, List.cons.injEq] at h
      obtain ⟨rfl, h2⟩ := h
      obtain ⟨a2, rfl, hz⟩ := prefix_of_stop hc (fun x hx => hl x (by simp [hx])) h2
      exact ⟨a2, rfl, hz⟩

def NumCh (b : Nat) : Prop := IntCh b ∨ FloatCh b

instance (b : Nat) : Decidable (NumCh b) := by unfold NumCh IntCh FloatCh; infer_instance

theorem lit_num_chars (P : Params) {a : AccLit} (ha : a.OK P) (hn : (∃ l, a = .int l) ∨ (∃ l, a = .flt l)) :
    ∀ b ∈ a.lex, NumCh b := by
  rcases hn with ⟨l, rfl⟩ | ⟨l, rfl⟩
  · exact fun b hb => .inl (isInt_chars ha.1 b hb)
  · exact fun b hb => .inr ((isFloat_chars ha.1).2 b hb)

theorem doc_digit (P : Params) {d : AccDoc} (hd : d.OK P) {c : Nat} {Z Y : Bytes} (h : d.render ++ Z = c :: Y)
    (hc : 48 ≤ c ∧ c ≤ 57) : ∃ a, d = .lit a ∧ a.OK P ∧ ((∃ l, a = .int l) ∨ (∃ l, a = .flt l)) := by
  cases d with
  | lit a =>
    refine ⟨a, rfl, hd, ?_⟩
    cases a with
    | null => simp [AccDoc.render, AccLit.lex] at h; omega
    | bool b => cases b <;> (simp [AccDoc.render, AccLit.lex] at h; omega)
    | int l => exact .inl ⟨l, rfl⟩
    | flt l => exact .inr ⟨l, rfl⟩
    | str b v => simp [AccDoc.render, AccLit.lex, strLex] at h; omega
  | arr items close => cases items <;> (simp [AccDoc.render] at h; omega)
  | obj mems close => cases mems <;> (simp [AccDoc.render] at h; omega)

theorem num_one (P : Params) {a : AccLit} (ha : a.OK P) (hn : (∃ l, a = .int l) ∨ (∃ l, a = .flt l))
    {x c : Nat} {Z Y : Bytes} (hx : 48 ≤ x ∧ x ≤ 57) (hc : ¬ NumCh c) (h : a.lex ++ Z = x :: c :: Y) :
    a = .int [x] ∧ Z = c :: Y := by
  obtain ⟨a2, ha2, hz⟩ := prefix_of_stop (a := [x]) hc (lit_num_chars P ha hn) h
  rcases hn with ⟨l, rfl⟩ | ⟨l, rfl⟩
  · simp only [AccLit.lex] at ha2 hz
    cases l with
    | nil => exact absurd ha.1 (by unfold Lang.IsInt; decide)
    | cons b l' =>
      simp only [List.cons_append, List.cons.injEq] at ha2
      obtain ⟨rfl, h2⟩ := ha2
      have hl' : l' = [] := by
        cases l' with
        | nil => rfl
        | cons _ _ => simp at h2
      subst hl'
      have : a2 = [] := by simpa using h2.symm
      subst this
      exact ⟨rfl, hz⟩
  · exfalso
    simp only [AccLit.lex] at ha2
    have h46 := (isFloat_chars ha.1).1
    cases l with
    | nil => cases h46
    | cons b l' =>
      simp only [List.cons_append, List.cons.injEq] at ha2
      obtain ⟨rfl, h2⟩ := ha2
      have hl' : l' = [] := by
        cases l' with
        | nil => rfl
        | cons _ _ => simp at h2
      subst hl'
      simp at h46; omega


/-- a lexeme `l` with `Q l`, followed by `t` with `T t`, cannot spell `w` if no split of `w` satisfies both
    (the hypothesis is a bounded check: `decide`) -/
theorem no_split {w : Bytes} {Q T : Bytes → Bool}
    (hdec : ∀ k, k ≤ w.length → (Q (w.take k) && T (w.drop k)) = false) {l t : Bytes}
    (h : l ++ t = w) (hq : Q l = true) (ht : T t = true) : False := by
  have h1 : w.take l.length = l := by rw [← h]; exact List.take_left
  have h2 : w.drop l.length = t := by rw [← h]; exact List.drop_left
  have := hdec l.length (by rw [← h]; simp)
  rw [h1, h2, hq, ht] at this
  cases this

def wsNlFB (t : Bytes) : Bool := t.all fun b => b == 32 || b == 9 || b == 10 || b == 12

theorem wsNlFB_of {t : Bytes} (h : WsNlF t) : wsNlFB t = true := by
  unfold wsNlFB
  rw [List.all_eq_true]
  intro b hb
  rcases h b hb with rfl | rfl | rfl | rfl <;> rfl

theorem jlang_head {P : Params} {c : Nat} {Y : Bytes} (hc : c ≠ 32 ∧ c ≠ 9 ∧ c ≠ 10 ∧ c ≠ 12) (h : JLang P (c :: Y)) :
    ∃ d trail, AccDoc.OK P d ∧ WsNlF trail ∧ d.render ++ trail = c :: Y := by
  obtain ⟨lead, d, trail, hl, ht, hd, he⟩ := h
  obtain ⟨rfl, he'⟩ := ws_head hl (by omega) he.symm
  exact ⟨d, trail, hd, ht, he'⟩

/-- `1e5`: a float needs a fraction -/
theorem ex_1e5_out (P : Params) : ¬ JLang P [49, 101, 53] := by
  intro h
  obtain ⟨d, trail, hd, ht, he⟩ := jlang_head (by omega) h
  obtain ⟨a, rfl, ha, hn⟩ := doc_digit P hd he (by omega)
  rcases hn with ⟨l, rfl⟩ | ⟨l, rfl⟩
  · exact no_split (Q := Lang.isInt) (T := wsNlFB) (by decide) he ha.1 (wsNlFB_of ht)
  · exact no_split (Q := Lang.isFloat) (T := fun _ => true) (by decide) he ha.1 rfl

theorem arr_one (P : Params) {d : AccDoc} (hd : d.OK P) {x c : Nat} {Z Y : Bytes} (hx : 48 ≤ x ∧ x ≤ 57)
    (hc : ¬ NumCh c) (he : d.render ++ Z = 91 :: x :: c :: Y) :
    ∃ r close, AccItems.OK P r ∧ WsNlF close ∧ r.renderMore ++ (close ++ 93 :: Z) = c :: Y := by
  cases d with
  | lit a =>
    obtain ⟨c, t, h1, _, h3⟩ := lit_head P a hd
    rw [AccDoc.render, h1] at he
    simp only [List.cons_append, List.cons.injEq] at he
    omega
  | obj mems close => cases mems <;> simp [AccDoc.render] at he
  | arr items close =>
    cases items with
    | nil =>
      simp only [AccDoc.render, List.cons_append, List.cons.injEq, true_and, List.append_assoc] at he
      obtain ⟨_, h2⟩ := ws_head hd.2 (by omega) he
      simp only [List.nil_append, List.cons.injEq] at h2
      omega
    | cons wc wb d0 r =>
      simp only [AccDoc.OK, AccItems.OK] at hd
      obtain ⟨⟨_, hwb, hd0, hr⟩, hcl⟩ := hd
      simp only [AccDoc.render, List.cons_append, List.cons.injEq, true_and, List.append_assoc] at he
      replace he := ws_head hwb (by omega) he
      obtain ⟨rfl, he⟩ := he
      obtain ⟨a, rfl, ha, hn⟩ := doc_digit P hd0 he hx
      replace he := num_one P ha hn hx hc he
      obtain ⟨rfl, he⟩ := he
      exact ⟨r, close, hr, hcl, by simpa using he⟩

/-- `[1,]`: no trailing comma -/
theorem ex_trailing_comma_out (P : Params) : ¬ JLang P [91, 49, 44, 93] := by
  intro h
  obtain ⟨d, trail, hd, ht, he⟩ := jlang_head (by omega) h
  obtain ⟨r, close, hr, hcl, he⟩ := arr_one P hd (by omega) (by decide) he
  cases r with
  | nil =>
    simp only [AccItems.renderMore, List.nil_append] at he
    obtain ⟨_, h2⟩ := ws_head hcl (by omega) he
    simp at h2
  | cons wc' wb' d1 r' =>
    simp only [AccItems.OK] at hr
    obtain ⟨hwc', hwb', hd1, _⟩ := hr
    simp only [AccItems.renderMore, List.append_assoc, List.cons_append] at he
    replace he := ws_head hwc' (by omega) he
    obtain ⟨rfl, he⟩ := he
    simp only [List.cons.injEq, true_and] at he
    replace he := ws_head hwb' (by omega) he
    obtain ⟨rfl, he⟩ := he
    obtain ⟨c, t, h1, _, hs⟩ := render_head P d1 hd1
    rw [h1] at he
    simp only [List.cons_append, List.cons.injEq] at he
    unfold Starter at hs
    omega

/-- `[1<LF>,2]`: no line break before `,` (LeftTrim in mode WsSpaces) — although `[1,<LF>2]` is accepted -/
theorem ex_nl_before_comma_out (P : Params) : ¬ JLang P [91, 49, 10, 44, 50, 93] := by
  intro h
  obtain ⟨d, trail, hd, ht, he⟩ := jlang_head (by omega) h
  obtain ⟨r, close, hr, hcl, he⟩ := arr_one P hd (by omega) (by decide) he
  cases r with
  | nil =>
    simp only [AccItems.renderMore, List.nil_append] at he
    rcases ws_cons hcl he with ⟨_, h2⟩ | ⟨w', _, hw', h2⟩
    · simp at h2
    · obtain ⟨_, h3⟩ := ws_head hw' (by omega) h2
      simp at h3
  | cons wc' wb' d1 r' =>
    simp only [AccItems.OK] at hr
    simp only [AccItems.renderMore, List.append_assoc, List.cons_append] at he
    obtain ⟨_, h2⟩ := ws_head hr.1 (by omega) he
    simp at h2

/-- `[1,<LF>2]`: the line break AFTER the comma -/
theorem ex_nl_after_comma (P : Params) : JLang P [91, 49, 44, 10, 50, 93] := by
  refine ⟨[], .arr (.cons [] [] (.lit (.int [49])) (.cons [] [10] (.lit (.int [50])) .nil)) [], [], wsNlF_nil,
    wsNlF_nil, ?_, rfl⟩
  simp only [AccDoc.OK, AccItems.OK, AccLit.OK]
  have hn : WsNlF [10] := by intro b hb; simp at hb; omega
  exact ⟨⟨wsSp_nil, wsNlF_nil, ⟨isInt_dec (by decide), by decide, by decide⟩, wsSp_nil, hn,
    ⟨isInt_dec (by decide), by decide, by decide⟩, trivial⟩, wsNlF_nil⟩

theorem strBody_plain_prefix {k kv : Bytes} (hk : IsStrBody k kv) : ∀ {a Z Y : Bytes},
    (∀ b ∈ a, Lang.plainByte b = true) → k ++ 34 :: Z = a ++ 34 :: Y → k = a ∧ Z = Y := by
  induction hk with
  | nil =>
    intro a Z Y ha h
    cases a with
    | nil => simp only [List.nil_append, List.cons.injEq, true_and] at h; exact ⟨rfl, h⟩
    | cons a0 a' =>
      simp only [List.nil_append, List.cons_append, List.cons.injEq] at h
      have := ha a0 (by simp)
      rw [← h.1] at this
      exact absurd this (by decide)
  | @cons e c body v he _ ih =>
    intro a Z Y ha h
    obtain ⟨b, t, rfl, _, _, h34, hcase⟩ := isStrElem_head he
    cases a with
    | nil =>
      simp only [List.nil_append, List.cons_append, List.cons.injEq] at h
      exact absurd h.1 h34
    | cons a0 a' =>
      simp only [List.cons_append, List.append_assoc, List.cons.injEq] at h
      obtain ⟨rfl, h2⟩ := h
      rcases hcase with ⟨_, rfl, _, _⟩ | hnp
      · simp only [List.nil_append] at h2
        obtain ⟨rfl, hz⟩ := ih (fun x hx => ha x (by simp [hx])) h2
        exact ⟨rfl, hz⟩
      · have := ha b (by simp)
        rw [hnp] at this; cases this

/-- `{"a" 1}`: the colon is missing -/
theorem ex_missing_colon_out (P : Params) : ¬ JLang P [123, 34, 97, 34, 32, 49, 125] := by
  intro h
  obtain ⟨d, trail, hd, ht, he⟩ := jlang_head (by omega) h
  cases d with
  | lit a =>
    obtain ⟨c, t, h1, _, h3⟩ := lit_head P a hd
    rw [AccDoc.render, h1] at he
    simp only [List.cons_append, List.cons.injEq] at he
    omega
  | arr items close => cases items <;> simp [AccDoc.render] at he
  | obj mems close =>
    cases mems with
    | nil =>
      simp only [AccDoc.render, List.cons_append, List.cons.injEq, true_and, List.append_assoc] at he
      obtain ⟨_, h2⟩ := ws_head hd.2 (by omega) he
      simp at h2
    | cons wc wb k kv wk wv d0 r =>
      simp only [AccDoc.OK, AccMems.OK] at hd
      obtain ⟨⟨_, hwb, hk, hwk, _⟩, _⟩ := hd
      simp only [AccDoc.render, List.cons_append, List.cons.injEq, true_and, List.append_assoc] at he
      replace he := ws_head hwb (by omega) he
      obtain ⟨rfl, he⟩ := he
      simp only [strLex, List.cons_append, List.append_assoc, List.cons.injEq, true_and, List.nil_append] at he
      replace he := strBody_plain_prefix hk (a := [97]) (by decide) he
      obtain ⟨rfl, he⟩ := he
      rcases ws_cons hwk he with ⟨_, h2⟩ | ⟨w', _, hw', h2⟩
      · simp at h2
      · obtain ⟨_, h3⟩ := ws_head hw' (by omega) h2
        simp at h3

/-- `"\q"`: not an escape of the table -/
theorem ex_bad_escape_out (P : Params) : ¬ JLang P [34, 92, 113, 34] := by
  intro h
  obtain ⟨d, trail, hd, ht, he⟩ := jlang_head (by omega) h
  cases d with
  | arr items close => cases items <;> simp [AccDoc.render] at he
  | obj mems close => cases mems <;> simp [AccDoc.render] at he
  | lit a =>
    cases a with
    | null => simp [AccDoc.render, AccLit.lex] at he
    | bool b => cases b <;> simp [AccDoc.render, AccLit.lex] at he
    | int l =>
      obtain ⟨c, t, h1, h2⟩ := isInt_head hd.1
      simp only [AccDoc.render, AccLit.lex, h1, List.cons_append, List.cons.injEq] at he
      omega
    | flt l =>
      obtain ⟨c, t, h1, h2⟩ := isFloat_head hd.1
      simp only [AccDoc.render, AccLit.lex, h1, List.cons_append, List.cons.injEq] at he
      omega
    | str b v =>
      simp only [AccDoc.render, AccLit.lex, strLex, List.cons_append, List.append_assoc, List.cons.injEq, true_and,
        List.nil_append] at he
      have hb : IsStrBody b v := hd
      cases hb with
      | nil => simp at he
      | @cons e c body v' hel _ =>
        cases hel with
        | plain h1 h2 h3 h4 h5 =>
          simp only [List.cons_append, List.nil_append, List.cons.injEq] at he
          omega
        | @simple e' v'' hmem =>
          simp only [List.cons_append, List.nil_append, List.cons.injEq] at he
          obtain ⟨_, he2, _⟩ := he
          subst he2
          simp [Lang.simpleEscapes] at hmem
        | quote => simp at he
        | @hex x n ds hx _ _ _ =>
          simp only [List.cons_append, List.cons.injEq] at he
          omega
        | @oct a0 b0 c0 ha _ _ _ =>
          simp only [List.cons_append, List.nil_append, List.cons.injEq] at he
          obtain ⟨_, he2, _⟩ := he
          subst he2
          revert ha; decide
        | utf8 h1 hv =>
          obtain ⟨b0, t0, hbt, hb0, _⟩ := encodeRune_multi c h1 hv
          rw [hbt] at he
          simp only [List.cons_append, List.cons.injEq] at he
          omega

end PV.J16Acc
