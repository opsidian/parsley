/-
  The map heap of Model/Data.lean: access lemmas for map objects (`mobj`, `mwrite`, `MFrame`), key-sorted maps
  (`MSorted`), and the IntMap operations on the heap (`newIntMap`, `mclone`, `inc`, `filter`) against the list functions
  `mOfList`, `mInc`, `mFilter`: each allocates one object and writes only to it (`MBuilt`, with one rule per write; the
  loops are core's `List.foldl_rel`).
-/
import ParsleyVerif.Proofs.DataSet
namespace PV.Data

theorem mobj_append_lt (mh : MHeap) (c : FMap) (a : Nat) (ha : a < mh.length) :
    mobj (mh ++ [c]) a = mobj mh a := by
  simp [mobj, List.getD_eq_getElem?_getD, List.getElem?_append_left ha]

theorem mobj_append_eq (mh : MHeap) (c : FMap) : mobj (mh ++ [c]) mh.length = c := by
  simp [mobj, List.getD_eq_getElem?_getD]

/-- a map that is not there reads as the empty map, so an appended empty map changes no reading -/
theorem mobj_append_nil (mh : MHeap) (i : Nat) : mobj (mh ++ [[]]) i = mobj mh i := by
  rcases Nat.lt_trichotomy i mh.length with hlt | heq | hgt
  · exact mobj_append_lt _ _ _ hlt
  · subst heq; rw [mobj_append_eq]; simp [mobj]
  · simp only [mobj, List.getD_eq_getElem?_getD]
    rw [List.getElem?_eq_none (by simp; omega), List.getElem?_eq_none (by omega)]

theorem mwrite_length (mh : MHeap) (i : Nat) (k v : Int) : (mwrite mh i k v).length = mh.length := by
  simp [mwrite]

theorem mobj_mwrite_same (mh : MHeap) (i : Nat) (k v : Int) (hi : i < mh.length) :
    mobj (mwrite mh i k v) i = mset (mobj mh i) k v := by
  simp [mobj, mwrite, List.getD_eq_getElem?_getD, hi]

theorem mobj_mwrite_ne (mh : MHeap) (i a : Nat) (k v : Int) (hne : i ≠ a) : mobj (mwrite mh i k v) a = mobj mh a := by
  simp [mobj, mwrite, List.getD_eq_getElem?_getD, hne]

def MFrame (mh mh' : MHeap) : Prop :=
  mh.length ≤ mh'.length ∧ ∀ a, a < mh.length → mobj mh' a = mobj mh a

theorem MFrame.refl (mh : MHeap) : MFrame mh mh := ⟨Nat.le_refl _, fun _ _ => rfl⟩

def MSorted (m : FMap) : Prop := (m.map (·.1)).Pairwise (· < ·)

theorem mset_append_max (m : FMap) (k v : Int) (h : ∀ p ∈ m, p.1 < k) : mset m k v = m ++ [(k, v)] := by
  induction m with
  | nil => rfl
  | cons p r ih =>
    obtain ⟨k', v'⟩ := p
    have hk : k' < k := h (k', v') (by simp)
    simp only [mset]
    rw [if_neg (by omega), if_neg (by omega), ih (fun q hq => h q (List.mem_cons_of_mem _ hq))]
    rfl

theorem fold_mset_eq_append (rest : FMap) : ∀ (acc : FMap), MSorted (acc ++ rest) →
    rest.foldl (fun m kv => mset m kv.1 kv.2) acc = acc ++ rest := by
  induction rest with
  | nil => intro acc _; simp
  | cons kv rest ih =>
    intro acc hs
    simp only [List.foldl_cons]
    have hlt : ∀ p ∈ acc, p.1 < kv.1 := by
      intro p hp
      unfold MSorted at hs
      rw [List.map_append, List.pairwise_append] at hs
      exact hs.2.2 p.1 (List.mem_map_of_mem hp) kv.1 (by simp)
    rw [mset_append_max acc kv.1 kv.2 hlt]
    have : acc ++ [(kv.1, kv.2)] ++ rest = acc ++ kv :: rest := by simp
    rw [ih (acc ++ [(kv.1, kv.2)]) (by rw [this]; exact hs), this]

theorem mOfList_id (m : FMap) (hs : MSorted m) : m.foldl (fun acc kv => mset acc kv.1 kv.2) [] = m := by
  have := fold_mset_eq_append m [] (by simpa using hs)
  simpa using this

theorem mset_keys (m : FMap) (k v : Int) : (mset m k v).map (·.1) = sInsert (m.map (·.1)) k := by
  fun_induction mset m k v with
  | case1 k v => rfl
  | case2 k' v' r k v h => simp [sInsert, h]
  | case3 v' r k v h1 => simp [sInsert, h1]
  | case4 k' v' r k v h1 h2 ih => simp [sInsert, h1, h2, ih]

theorem mset_sorted (m : FMap) (k v : Int) (hs : MSorted m) : MSorted (mset m k v) := by
  unfold MSorted
  rw [mset_keys]
  exact sInsert_sorted _ k hs

/-- A map under construction: `mh'` is `mh` with one more object, which holds `m`; no map that existed has changed.
    Every IntMap operation allocates its result and writes only to it. -/
structure MBuilt (mh mh' : MHeap) (m : FMap) : Prop where
  len : mh'.length = mh.length + 1
  obj : mobj mh' mh.length = m
  old : ∀ a, a < mh.length → mobj mh' a = mobj mh a

theorem MBuilt.new (mh : MHeap) (m : FMap) : MBuilt mh (mh ++ [m]) m :=
  ⟨List.length_append, mobj_append_eq _ _, fun _ ha => mobj_append_lt _ _ _ ha⟩

theorem MBuilt.write {mh mh' : MHeap} {m : FMap} (b : MBuilt mh mh' m) (k v : Int) :
    MBuilt mh (mwrite mh' mh.length k v) (mset m k v) :=
  ⟨(mwrite_length ..).trans b.len, by rw [mobj_mwrite_same _ _ _ _ (by rw [b.len]; exact Nat.lt_succ_self _), b.obj],
   fun a ha => (mobj_mwrite_ne _ _ _ _ _ (Nat.ne_of_gt ha)).trans (b.old a ha)⟩

theorem MBuilt.spec {mh mh' : MHeap} {m : FMap} (b : MBuilt mh mh' m) :
    mobj mh' mh.length = m ∧ MFrame mh mh' ∧ mh'.length = mh.length + 1 :=
  ⟨b.obj, ⟨by rw [b.len]; exact Nat.le_succ _, b.old⟩, b.len⟩

theorem newIntMap_spec (mh : MHeap) (kvs : List (Int × Int)) :
    (newIntMap mh kvs).2 = mh.length ∧ mobj (newIntMap mh kvs).1 mh.length = mOfList kvs ∧
    MFrame mh (newIntMap mh kvs).1 ∧ (newIntMap mh kvs).1.length = mh.length + 1 :=
  ⟨rfl, (MBuilt.new mh _).spec⟩

theorem mclone_built (mh : MHeap) (i : Nat) : MBuilt mh (mclone mh i).1 (mOfList (mobj mh i)) :=
  List.foldl_rel (l := mobj mh i) (r := MBuilt mh) (MBuilt.new mh []) (fun kv _ _ _ b => b.write kv.1 kv.2)

theorem mclone_length (mh : MHeap) (i : Nat) : (mclone mh i).1.length = mh.length + 1 := (mclone_built mh i).len

theorem mclone_spec (mh : MHeap) (i : Nat) (hs : MSorted (mobj mh i)) :
    (mclone mh i).2 = mh.length ∧ mobj (mclone mh i).1 mh.length = mobj mh i ∧
    MFrame mh (mclone mh i).1 ∧ (mclone mh i).1.length = mh.length + 1 :=
  ⟨rfl, mOfList_id _ hs ▸ (mclone_built mh i).spec⟩

theorem inc_spec (mh : MHeap) (i : Nat) (k : Int) (hs : MSorted (mobj mh i)) :
    (inc mh i k).2 = mh.length ∧ mobj (inc mh i k).1 mh.length = mInc (mobj mh i) k ∧
    MFrame mh (inc mh i k).1 ∧ (inc mh i k).1.length = mh.length + 1 := by
  have c := mclone_built mh i
  rw [show mOfList (mobj mh i) = mobj mh i from mOfList_id _ hs] at c
  -- `i2.data[val] = 1` or `i2.data[val]++` on the clone: one more write to the object under construction
  have : (inc mh i k).2 = mh.length ∧ MBuilt mh (inc mh i k).1 (mInc (mobj mh i) k) := by
    unfold inc mInc
    show (match mget (mobj (mclone mh i).1 mh.length) k with
      | none => (mwrite (mclone mh i).1 mh.length k 1, mh.length)
      | some v => (mwrite (mclone mh i).1 mh.length k (v + 1), mh.length)).2 = _ ∧
      MBuilt mh (match mget (mobj (mclone mh i).1 mh.length) k with
      | none => (mwrite (mclone mh i).1 mh.length k 1, mh.length)
      | some v => (mwrite (mclone mh i).1 mh.length k (v + 1), mh.length)).1 _
    rw [c.obj]
    cases mget (mobj mh i) k <;> exact ⟨rfl, c.write k _⟩
  exact ⟨this.1, this.2.spec⟩

theorem filter_built (mh : MHeap) (i : Nat) (hi : i < mh.length) (keys : List Int) :
    MBuilt mh (filter mh i keys).1 (mFilter (mobj mh i) keys) := by
  refine List.foldl_rel (r := MBuilt mh) (MBuilt.new mh []) (fun key _ H m b => ?_)
  rw [filterStep, mFilterStep, b.old i hi]
  cases mget (mobj mh i) key with
  | none => exact b
  | some v => exact b.write key v

theorem filter_spec (mh : MHeap) (i : Nat) (hi : i < mh.length) (keys : List Int) :
    (filter mh i keys).2 = mh.length ∧ mobj (filter mh i keys).1 mh.length = mFilter (mobj mh i) keys ∧
    MFrame mh (filter mh i keys).1 ∧ (filter mh i keys).1.length = mh.length + 1 :=
  ⟨rfl, (filter_built mh i hi keys).spec⟩

theorem mFilter_sorted (m : FMap) (keys : List Int) : MSorted (mFilter m keys) :=
  List.foldlRecOn keys _ (motive := MSorted) List.Pairwise.nil fun acc h key _ => by
    unfold mFilterStep; cases mget m key <;> first | exact h | exact mset_sorted _ _ _ h

theorem mInc_sorted (m : FMap) (k : Int) (h : MSorted m) : MSorted (mInc m k) := by
  unfold mInc; cases mget m k <;> exact mset_sorted _ _ _ h

theorem mOfList_sorted (kvs : List (Int × Int)) : MSorted (mOfList kvs) :=
  List.foldlRecOn kvs _ (motive := MSorted) List.Pairwise.nil fun m h kv _ => mset_sorted m kv.1 kv.2 h

end PV.Data
