/-
  The ties between the TEXT-level model definitions and the expressions translated from the source
  (Generated/FactsFn.lean), kept apart from Proofs/FactsTie.lean so that a change in the shape of a parser-core expression
  (the curtailment test, a lenCheck) does not break what the reader's properties (C09, C11, C12) rest on, and vice versa.
-/
import ParsleyVerif.Model.Text
import ParsleyVerif.Generated.FactsFn
namespace PV
open PV.Text

theorem tie_isWordByte (b : Nat) : isWordByte b = FactsFn.isWordCharacter b := by
  rw [Bool.eq_iff_iff]
  simp [isWordByte, FactsFn.isWordCharacter] <;> omega

theorem tie_remaining (f : File) (pos : Nat) : remaining f pos = FactsFn.remaining f.len pos f.offset := by
  simp only [remaining, FactsFn.remaining] <;> omega

theorem tie_isEOF (f : File) (pos : Nat) : isEOF f pos = FactsFn.isEOF f.len pos f.offset := by
  rw [Bool.eq_iff_iff]
  simp [isEOF, FactsFn.isEOF] <;> omega

theorem tie_addFile (fs : FileSet) (f : File) : (fs.addFile f).1.pos = FactsFn.fileSetNext fs.pos f.len := by
  simp only [FileSet.addFile, FactsFn.fileSetNext, Facts.fileSetGap] <;> omega

end PV
