/-
  `run` read through equations.  `run cfg (fuel + 1)` is the budget test followed by `runStep cfg (run cfg fuel) fuel`
  (`run_succ`); `runStep` takes the function `r` that runs a sub-parser as a parameter, the way the loops of
  Model/Run.lean do, and has seven shapes: a leaf, a reference, Memoize, Any, Choice, a one-child combinator
  (`G.wrap`: Optional, Name, Single, Suppress, LeftTrim, RightTrim — run the operand once, post-process its
  answer) and the Sequence family (`G.shape`: SeqOf / SeqTry / SeqFirstOrAll / Many / SepBy through the one
  `sequence.Parse`).  Inductions over `run` treat each shape once: those that take an answer apart start from
  `runStep_elim`, those that build one use the equations.
-/
import ParsleyVerif.Model.Run
import ParsleyVerif.Proofs.RunBasics
namespace PV
open PV.Text

/-- the end of (*Sequence).Parse / (*sequence).Parse: result or error, context error, Name override -/
def seqFinish (sh : SeqShape) (pos : Nat) (ss : SeqSt) (st : St) : Out × St :=
  let (res, err, st) :=
    if ss.result.isNil then (Res.nil, ss.err, st) else (ss.result, none, st.setError ss.err)
  let err := match err, sh.name with
    | some e, some nm => if e.pos = pos && e.kind.isNotFound then some ⟨pos, .notFound nm⟩ else some e
    | e, _ => e
  (⟨res, ss.cp, err⟩, st)

theorem seqFinish_cases (sh : SeqShape) (pos : Nat) (ss : SeqSt) (st : St) :
    (ss.result.isNil = true ∧ ∃ err, seqFinish sh pos ss st = (⟨.nil, ss.cp, err⟩, st) ∧
      (err = ss.err ∨ ∃ e nm, ss.err = some e ∧ sh.name = some nm ∧ e.pos = pos ∧ e.kind.isNotFound = true ∧
        err = some ⟨pos, .notFound nm⟩)) ∨
    (ss.result.isNil = false ∧ seqFinish sh pos ss st = (⟨ss.result, ss.cp, none⟩, st.setError ss.err)) := by
  cases hn : ss.result.isNil
  · exact .inr ⟨rfl, by simp only [seqFinish, hn, Bool.false_eq_true, ↓reduceIte]⟩
  · refine .inl ⟨rfl, ?_⟩
    simp only [seqFinish, hn, ↓reduceIte]
    rcases ss.err with _ | e
    · exact ⟨_, rfl, .inl rfl⟩
    · rcases sh.name with _ | nm
      · exact ⟨_, rfl, .inl rfl⟩
      · simp only
        split
        · rename_i hc
          simp only [Bool.and_eq_true, decide_eq_true_eq] at hc
          exact ⟨_, rfl, .inr ⟨e, nm, rfl, rfl, hc.1, hc.2, rfl⟩⟩
        · exact ⟨_, rfl, .inl rfl⟩

def runSeq (r : RunFn) (sh : SeqShape) (fuel : Nat) (ctx : Ctx) (pos : Nat) (st : St) : Option (Out × St) :=
  match seqParse r sh fuel 0 [] ctx pos true {} st with
  | none => none
  | some (_, ss, st) => some (seqFinish sh pos ss st)

theorem run_seqfam (cfg : Cfg) (fuel : Nat) (g : G) (sh : SeqShape) (ctx : Ctx) (pos : Nat) (st : St)
    (hs : g.shape = some sh) :
    run cfg (fuel + 1) g ctx pos st =
      if cfg.maxCalls ≠ 0 ∧ st.calls > cfg.maxCalls then none else runSeq (run cfg fuel) sh fuel ctx pos st := by
  cases g <;> simp only [G.shape, Option.some.injEq, reduceCtorEq] at hs
  all_goals
    subst hs
    unfold run
    rfl

/-- text.LeftTrim: `if ctx.Error() is NotFound at the trimmed position { ctx.SetError(at pos) }` -/
def ltrimFix (st : St) (pos pos' : Nat) : St :=
  match st.ctxErr with
  | some ce => if ce.pos = pos' && ce.kind.isNotFound then st.setError (some ⟨pos, ce.kind⟩) else st
  | none => st

/-- it never changes the context: SetError keeps the furthest error, the relocated one is never further than the one it
    replaces, and SkipWhitespaces never moves backwards (`skipWhitespaces_ge`) -/
theorem ltrimFix_eq (st : St) (pos pos' : Nat) (h : pos ≤ pos') : ltrimFix st pos pos' = st := by
  unfold ltrimFix
  cases hce : st.ctxErr with
  | none => rfl
  | some ce =>
    show (if (ce.pos = pos' && ce.kind.isNotFound) = true then _ else st) = st
    split
    · rename_i hc
      simp only [Bool.and_eq_true, decide_eq_true_eq] at hc
      exact setError_back st ce pos hce (by omega)
    · rfl

def nameOut (pos : Nat) (nm : Bytes) (o : Out) : Out :=
  match o.err with
  | some e =>
    if e.pos = pos && e.kind.isNotFound then ⟨.nil, o.cp, some ⟨pos, .notFound nm⟩⟩
    else ⟨.nil, o.cp, some e⟩
  | none =>
    if o.res.isNil then ⟨.nil, o.cp, some ⟨pos, .notFound nm⟩⟩
    else ⟨o.res, o.cp, none⟩

def singleOut (o : Out) : Out :=
  match o.err with
  | some e => ⟨.nil, o.cp, some e⟩
  | none =>
    match o.res with
    | .one (.nt _ [c] _ _ _) => ⟨.one c, o.cp, none⟩
    | res => ⟨res, o.cp, none⟩

def ltrimOut (pos pos' : Nat) (wsErr : Option Err) (o : Out) : Out :=
  match o.err with
  | some e =>
    match wsErr with
    | some w =>
      if e.pos > pos' then ⟨.nil, [], some w⟩
      else if e.kind.isNotFound then ⟨o.res, o.cp, some ⟨pos, e.kind⟩⟩
      else ⟨o.res, o.cp, some e⟩
    | none => ⟨o.res, o.cp, some e⟩
  | none =>
    match wsErr with
    | some w => ⟨.nil, [], some w⟩
    | none => ⟨o.res, o.cp, none⟩

def rtrimOut (f : File) (m : WsMode) (o : Out) : Out :=
  match o.err with
  | some e =>
    let (errPos, _) := skipWhitespaces f e.pos m
    ⟨o.res, o.cp, some (if !e.kind.isWs && errPos > e.pos then ⟨errPos, e.kind⟩ else e)⟩
  | none =>
    let (res', ws) := setRposRes f m o.res
    match ws with
    | some w => ⟨.nil, [], some w⟩
    | none => ⟨res', o.cp, none⟩

/-- what text.RightTrim makes of its operand's answer: an error that is not a whitespace error moves past the whitespace
    after it; a result has SetReaderPos applied, and is dropped for the whitespace error this raises -/
theorem rtrimOut_cases (f : File) (m : WsMode) (o : Out) :
    (∃ e, o.err = some e ∧ rtrimOut f m o = ⟨o.res, o.cp, some (if !e.kind.isWs && (skipWhitespaces f e.pos m).1 > e.pos
      then ⟨(skipWhitespaces f e.pos m).1, e.kind⟩ else e)⟩) ∨
    (o.err = none ∧ ∃ w, (setRposRes f m o.res).2 = some w ∧ rtrimOut f m o = ⟨.nil, [], some w⟩) ∨
    (o.err = none ∧ (setRposRes f m o.res).2 = none ∧ rtrimOut f m o = ⟨(setRposRes f m o.res).1, o.cp, none⟩) := by
  rcases o with ⟨res, cp, _ | e⟩
  · unfold rtrimOut
    rcases setRposRes f m res with ⟨res', _ | w⟩
    · exact .inr (.inr ⟨rfl, rfl, rfl⟩)
    · exact .inr (.inl ⟨rfl, w, rfl, rfl⟩)
  · exact .inl ⟨e, rfl, rfl⟩

/-- a combinator that calls one sub-parser once (at `cpos`) and post-processes its answer -/
structure Wrap where
  child : G
  cpos : Nat
  out : Out → Out

def G.wrap (f : File) (pos : Nat) : G → Option Wrap
  | .optional g' => some ⟨g', pos, fun o => ⟨appendNode o.res (.one (.empty pos)), o.cp, o.err⟩⟩
  | .name g' nm => some ⟨g', pos, nameOut pos nm⟩
  | .single g' => some ⟨g', pos, singleOut⟩
  | .suppress g' => some ⟨g', pos, fun o => ⟨o.res, o.cp, none⟩⟩
  | .ltrim g' m =>
    some ⟨g', (skipWhitespaces f pos m).1, ltrimOut pos (skipWhitespaces f pos m).1 (wsToErr (skipWhitespaces f pos m).2)⟩
  | .rtrim g' m => some ⟨g', pos, rtrimOut f m⟩
  | _ => none

/-- what Name (ReturnError) makes of its operand's answer -/
theorem nameOut_cases (pos : Nat) (nm : Bytes) (o : Out) :
    (∃ e, o.err = some e ∧ nameOut pos nm o =
      ⟨.nil, o.cp, some (if e.pos = pos && e.kind.isNotFound then ⟨pos, .notFound nm⟩ else e)⟩) ∨
    (o.err = none ∧ o.res.isNil = true ∧ nameOut pos nm o = ⟨.nil, o.cp, some ⟨pos, .notFound nm⟩⟩) ∨
    (o.err = none ∧ o.res.isNil = false ∧ nameOut pos nm o = ⟨o.res, o.cp, none⟩) := by
  rcases o with ⟨res, cp, _ | e⟩
  · cases hn : res.isNil
    · exact .inr (.inr ⟨rfl, rfl, by simp only [nameOut, hn, Bool.false_eq_true, ↓reduceIte]⟩)
    · exact .inr (.inl ⟨rfl, rfl, by simp only [nameOut, hn, ↓reduceIte]⟩)
  · refine .inl ⟨e, rfl, ?_⟩
    simp only [nameOut]
    split <;> rfl

/-- what ReturnSingle makes of its operand's answer -/
theorem singleOut_cases (o : Out) :
    (∃ e, o.err = some e ∧ singleOut o = ⟨.nil, o.cp, some e⟩) ∨
    (o.err = none ∧ ∃ tk c p r i, o.res = .one (.nt tk [c] p r i) ∧ singleOut o = ⟨.one c, o.cp, none⟩) ∨
    (o.err = none ∧ singleOut o = ⟨o.res, o.cp, none⟩) := by
  rcases o with ⟨res, cp, _ | e⟩
  · by_cases h : ∃ tk c p r i, res = .one (.nt tk [c] p r i)
    · obtain ⟨tk, c, p, r, i, rfl⟩ := h
      exact .inr (.inl ⟨rfl, tk, c, p, r, i, rfl, rfl⟩)
    · refine .inr (.inr ⟨rfl, ?_⟩)
      simp only [singleOut]
      split
      · exact absurd ⟨_, _, _, _, _, rfl⟩ h
      · rfl
  · exact .inl ⟨e, rfl, rfl⟩

def termStep (cfg : Cfg) (t : Terminal) (pos : Nat) (st : St) : Out × St :=
  match t.parse cfg.params cfg.file pos with
  | .node n => (⟨.one n, [], none⟩, st)
  | .err e => (⟨.nil, [], some e⟩, st.logEv cfg (.termFail e.pos e.kind))
  | .panic site => (⟨.nil, [], some ⟨pos, .panic (tokOf site)⟩⟩, st)

/-- parser.End -/
def eofStep (cfg : Cfg) (pos : Nat) (st : St) : Out × St :=
  if isEOF cfg.file pos then (⟨.one (.eof pos), [], none⟩, st)
  else (⟨.nil, [], some ⟨pos, .other endErrMsg⟩⟩, st.logEv cfg (.termFail pos (.other endErrMsg)))

theorem termStep_cases (cfg : Cfg) (t : Terminal) (pos : Nat) (st : St) :
    (∃ n, t.parse cfg.params cfg.file pos = .node n ∧ termStep cfg t pos st = (⟨.one n, [], none⟩, st)) ∨
    (∃ e, t.parse cfg.params cfg.file pos = .err e ∧
      termStep cfg t pos st = (⟨.nil, [], some e⟩, st.logEv cfg (.termFail e.pos e.kind))) ∨
    (∃ site, t.parse cfg.params cfg.file pos = .panic site ∧
      termStep cfg t pos st = (⟨.nil, [], some ⟨pos, .panic (tokOf site)⟩⟩, st)) := by
  unfold termStep
  split
  · exact .inl ⟨_, ‹_›, rfl⟩
  · exact .inr (.inl ⟨_, ‹_›, rfl⟩)
  · exact .inr (.inr ⟨_, ‹_›, rfl⟩)

theorem eofStep_cases (cfg : Cfg) (pos : Nat) (st : St) :
    (isEOF cfg.file pos = true ∧ eofStep cfg pos st = (⟨.one (.eof pos), [], none⟩, st)) ∨
    (isEOF cfg.file pos = false ∧ eofStep cfg pos st =
      (⟨.nil, [], some ⟨pos, .other endErrMsg⟩⟩, st.logEv cfg (.termFail pos (.other endErrMsg)))) := by
  unfold eofStep
  split
  · exact .inl ⟨‹_›, rfl⟩
  · exact .inr ⟨Bool.eq_false_iff.mpr ‹_›, rfl⟩

/-- the error Any / Choice answer with when no alternative matched -/
def AltSt.finalErr (a : AltSt) : Option Err :=
  match a.err with
  | some e => some e
  | none => a.nf

/-- the end of combinator.Any -/
def anyFinish (a : AltSt) (st : St) : Out × St :=
  if a.res.isNil then (⟨.nil, a.cp, a.finalErr⟩, st) else (⟨a.res, a.cp, none⟩, st.setError a.err)

theorem anyFinish_cases (a : AltSt) (st : St) :
    (a.res.isNil = true ∧ anyFinish a st = (⟨.nil, a.cp, a.finalErr⟩, st)) ∨
    (a.res.isNil = false ∧ anyFinish a st = (⟨a.res, a.cp, none⟩, st.setError a.err)) := by
  unfold anyFinish
  split
  · exact .inl ⟨‹_›, rfl⟩
  · exact .inr ⟨Bool.eq_false_iff.mpr ‹_›, rfl⟩

/-- the end of combinator.Choice -/
def choiceFinish : Option Out × AltSt × St → Out × St
  | (some o, _, st) => (o, st)
  | (none, a, st) => (⟨.nil, a.cp, a.finalErr⟩, st)

/-- the state in which Memoize runs its body -/
def memoEnter (cfg : Cfg) (idx pos : Nat) (st : St) : St :=
  ({ st with active := (idx, pos) :: st.active }).logEv cfg
    (.body idx pos ((st.active.filter (fun a : Nat × Nat => a.1 == idx && a.2 == pos)).length + 1))

theorem memoEnter_frame (cfg : Cfg) (idx pos : Nat) (st : St) :
    (memoEnter cfg idx pos st).cache = st.cache ∧ (memoEnter cfg idx pos st).ctxErr = st.ctxErr ∧
    (memoEnter cfg idx pos st).calls = st.calls ∧ (memoEnter cfg idx pos st).active = (idx, pos) :: st.active ∧
    ((memoEnter cfg idx pos st).log = st.log ∨
      (memoEnter cfg idx pos st).log = .body idx pos ((st.active.filter (fun a : Nat × Nat => a.1 == idx && a.2 == pos)).length + 1) :: st.log) :=
  logEv_fields { st with active := (idx, pos) :: st.active } cfg _

/-- Memoize after its body answered `o`: the result is saved under the context pruned to the curtailing set -/
def memoLeave (idx pos : Nat) (ctx : Ctx) (st : St) (o : Out) (st2 : St) : St :=
  { st2 with
    cache := cacheSave st2.cache
      { idx := idx, pos := pos, ctx := ctx.filter o.cp, cp := o.cp, err := o.err, res := o.res },
    active := st.active }

/-- combinator.Memoize: cache hit, curtailment, or the body under the incremented context -/
def memoStep (cfg : Cfg) (r : RunFn) (idx : Nat) (body : G) (ctx : Ctx) (pos : Nat) (st : St) : Option (Out × St) :=
  match cacheGet st.cache idx pos ctx with
  | some e => some (⟨e.res, e.cp, e.err⟩, st.logEv cfg (.hit idx pos))
  | none =>
    if ctx.get idx > remaining cfg.file pos + Facts.curtailSlack then
      some (⟨.nil, [idx], none⟩, st.logEv cfg (.curtail idx pos))
    else
      match r body (ctx.inc idx) pos (memoEnter cfg idx pos st) with
      | none => none
      | some (o, st2) => some (o, memoLeave idx pos ctx st o st2)

theorem memoStep_hit (cfg : Cfg) (r : RunFn) {idx : Nat} (body : G) {ctx : Ctx} {pos : Nat} {st : St} {e : CacheEntry}
    (hc : cacheGet st.cache idx pos ctx = some e) :
    memoStep cfg r idx body ctx pos st = some (⟨e.res, e.cp, e.err⟩, st.logEv cfg (.hit idx pos)) := by
  simp only [memoStep, hc]

theorem memoStep_curtail (cfg : Cfg) (r : RunFn) {idx : Nat} (body : G) {ctx : Ctx} {pos : Nat} {st : St}
    (hc : cacheGet st.cache idx pos ctx = none) (hcur : ctx.get idx > remaining cfg.file pos + Facts.curtailSlack) :
    memoStep cfg r idx body ctx pos st = some (⟨.nil, [idx], none⟩, st.logEv cfg (.curtail idx pos)) := by
  simp only [memoStep, hc, hcur, ↓reduceIte]

theorem memoStep_body (cfg : Cfg) (r : RunFn) {idx : Nat} (body : G) {ctx : Ctx} {pos : Nat} {st : St}
    (hc : cacheGet st.cache idx pos ctx = none) (hcur : ¬ ctx.get idx > remaining cfg.file pos + Facts.curtailSlack) :
    memoStep cfg r idx body ctx pos st =
      match r body (ctx.inc idx) pos (memoEnter cfg idx pos st) with
      | none => none
      | some (o, st2) => some (o, memoLeave idx pos ctx st o st2) := by
  simp only [memoStep, hc, hcur, ↓reduceIte]

def runStep (cfg : Cfg) (r : RunFn) (fuel : Nat) (g : G) (ctx : Ctx) (pos : Nat) (st : St) : Option (Out × St) :=
  match g with
  | .term t => some (termStep cfg t pos st)
  | .empty => some (⟨.one (.empty pos), [], none⟩, st)
  | .eof => some (eofStep cfg pos st)
  | .ref k =>
    match cfg.env[k]? with
    | some g' => r g' ctx pos st
    | none => some (⟨.nil, [], some ⟨pos, .panic (tokOf "nil parser")⟩⟩, st)
  | .memo idx body => memoStep cfg r idx body ctx pos st
  | .any gs =>
    match anyLoop r ctx pos gs {} st with
    | none => none
    | some (a, st) => some (anyFinish a st)
  | .choice gs =>
    match choiceLoop r ctx pos gs {} st with
    | none => none
    | some x => some (choiceFinish x)
  | g =>
    match g.wrap cfg.file pos, g.shape with
    | some w, _ =>
      match r w.child ctx w.cpos st with
      | none => none
      | some (o, st1) => some (w.out o, st1)
    | none, some sh => runSeq r sh fuel ctx pos st
    | none, none => none

theorem runStep_wrap (cfg : Cfg) (r : RunFn) (fuel : Nat) {g : G} {w : Wrap} (ctx : Ctx) {pos : Nat} (st : St)
    (hw : g.wrap cfg.file pos = some w) :
    runStep cfg r fuel g ctx pos st =
      match r w.child ctx w.cpos st with
      | none => none
      | some (o, st1) => some (w.out o, st1) := by
  cases g <;> simp only [G.wrap, Option.some.injEq, reduceCtorEq] at hw <;> subst hw <;> rfl

theorem runStep_shape (cfg : Cfg) (r : RunFn) (fuel : Nat) {g : G} {sh : SeqShape} (ctx : Ctx) (pos : Nat) (st : St)
    (hs : g.shape = some sh) : runStep cfg r fuel g ctx pos st = runSeq r sh fuel ctx pos st := by
  cases g <;> simp only [G.shape, Option.some.injEq, reduceCtorEq] at hs <;> subst hs <;> rfl

/-- case analysis by the shapes of `runStep`: `cases g using G.shapes cfg.file pos` -/
theorem G.shapes (f : File) (pos : Nat) {motive : G → Prop}
    (term : ∀ t, motive (.term t)) (empty : motive .empty) (eof : motive .eof) (ref : ∀ k, motive (.ref k))
    (memo : ∀ idx body, motive (.memo idx body)) (any : ∀ gs, motive (.any gs)) (choice : ∀ gs, motive (.choice gs))
    (wrap : ∀ g w, g.wrap f pos = some w → motive g) (seq : ∀ g sh, g.shape = some sh → motive g) :
    ∀ g, motive g
  | .term t => term t
  | .empty => empty
  | .eof => eof
  | .ref k => ref k
  | .memo idx body => memo idx body
  | .any gs => any gs
  | .choice gs => choice gs
  | .optional g => wrap _ _ rfl
  | .name g nm => wrap _ _ rfl
  | .single g => wrap _ _ rfl
  | .suppress g => wrap _ _ rfl
  | .ltrim g m => wrap _ _ rfl
  | .rtrim g m => wrap _ _ rfl
  | .seq k gs o => seq _ _ rfl
  | .many g ae o => seq _ _ rfl
  | .sepBy v s ae o => seq _ _ rfl

theorem run_zero (cfg : Cfg) (g : G) (ctx : Ctx) (pos : Nat) (st : St) : run cfg 0 g ctx pos st = none := rfl

theorem run_succ (cfg : Cfg) (fuel : Nat) (g : G) (ctx : Ctx) (pos : Nat) (st : St) :
    run cfg (fuel + 1) g ctx pos st =
      if cfg.maxCalls ≠ 0 ∧ st.calls > cfg.maxCalls then none else runStep cfg (run cfg fuel) fuel g ctx pos st := by
  by_cases hb : cfg.maxCalls ≠ 0 ∧ st.calls > cfg.maxCalls
  · rw [if_pos hb]; unfold run; rw [if_pos hb]
  · rw [if_neg hb]
    cases g with
    | term t =>
      unfold run; rw [if_neg hb]; simp only [runStep, termStep]
      cases t.parse cfg.params cfg.file pos <;> rfl
    | empty => unfold run; rw [if_neg hb]; rfl
    | eof => unfold run; rw [if_neg hb]; simp only [runStep, eofStep]; split <;> rfl
    | ref k => unfold run; rw [if_neg hb]; rfl
    | memo idx body => unfold run; rw [if_neg hb]; rfl
    | any gs =>
      unfold run; rw [if_neg hb]; simp only [runStep, anyFinish]
      cases anyLoop (run cfg fuel) ctx pos gs {} st with
      | none => rfl
      | some x => simp only; split <;> rfl
    | choice gs =>
      unfold run; rw [if_neg hb]; simp only [runStep]
      rcases choiceLoop (run cfg fuel) ctx pos gs {} st with _ | ⟨_ | o, a, st1⟩ <;> rfl
    | seq k gs o => rw [run_seqfam cfg fuel _ _ ctx pos st rfl, if_neg hb]; rfl
    | many g' ae o => rw [run_seqfam cfg fuel _ _ ctx pos st rfl, if_neg hb]; rfl
    | sepBy v s ae o => rw [run_seqfam cfg fuel _ _ ctx pos st rfl, if_neg hb]; rfl
    | optional g' =>
      unfold run; rw [if_neg hb]; simp only [runStep, G.wrap]
      rcases run cfg fuel g' ctx pos st with _ | ⟨o, st1⟩ <;> rfl
    | suppress g' =>
      unfold run; rw [if_neg hb]; simp only [runStep, G.wrap]
      rcases run cfg fuel g' ctx pos st with _ | ⟨o, st1⟩ <;> rfl
    | name g' nm =>
      unfold run; rw [if_neg hb]; simp only [runStep, G.wrap, nameOut]
      rcases run cfg fuel g' ctx pos st with _ | ⟨⟨res, cp, _ | e⟩, st1⟩
      · rfl
      · simp only; split <;> rfl
      · simp only; split <;> rfl
    | single g' =>
      unfold run; rw [if_neg hb]; simp only [runStep, G.wrap, singleOut]
      rcases run cfg fuel g' ctx pos st with _ | ⟨⟨res, cp, _ | e⟩, st1⟩
      · rfl
      · rcases res with _ | n | l
        · rfl
        · rcases n with _ | _ | _ | ⟨t, _ | ⟨c, _ | _⟩, p, r, i⟩ <;> rfl
        · rfl
      · rfl
    | rtrim g' m =>
      unfold run; rw [if_neg hb]; simp only [runStep, G.wrap, rtrimOut]
      rcases run cfg fuel g' ctx pos st with _ | ⟨⟨res, cp, _ | e⟩, st1⟩
      · rfl
      · simp only
        rcases setRposRes cfg.file m res with ⟨res', _ | w⟩ <;> rfl
      · rfl
    | ltrim g' m =>
      -- the model relocates a not-found context error after the operand's call; that is the identity (`ltrimFix_eq`)
      have key : run cfg (fuel + 1) (.ltrim g' m) ctx pos st =
          match run cfg fuel g' ctx (skipWhitespaces cfg.file pos m).1 st with
          | none => none
          | some (o, st1) =>
            some (ltrimOut pos (skipWhitespaces cfg.file pos m).1 (wsToErr (skipWhitespaces cfg.file pos m).2) o,
              ltrimFix st1 pos (skipWhitespaces cfg.file pos m).1) := by
        conv => lhs; unfold run
        rw [if_neg hb]; simp only
        rcases run cfg fuel g' ctx (skipWhitespaces cfg.file pos m).1 st with _ | ⟨⟨res, cp, _ | e⟩, st1⟩
        · rfl
        · simp only [ltrimOut, ltrimFix]
          cases wsToErr (skipWhitespaces cfg.file pos m).2 <;> rfl
        · simp only [ltrimOut, ltrimFix]
          cases wsToErr (skipWhitespaces cfg.file pos m).2 with
          | none => rfl
          | some w =>
            simp only
            split
            · rfl
            · split <;> rfl
      rw [key]; simp only [runStep, G.wrap]
      rcases run cfg fuel g' ctx (skipWhitespaces cfg.file pos m).1 st with _ | ⟨o, st1⟩
      · rfl
      · simp only [ltrimFix_eq _ _ _ (skipWhitespaces_ge _ _ _)]

theorem run_budget0 (cfg : Cfg) (h0 : cfg.maxCalls = 0) (st : St) : ¬ (cfg.maxCalls ≠ 0 ∧ st.calls > cfg.maxCalls) :=
  fun h => h.1 h0

theorem run_succ0 {cfg : Cfg} (h0 : cfg.maxCalls = 0) (fuel : Nat) (g : G) (ctx : Ctx) (pos : Nat) (st : St) :
    run cfg (fuel + 1) g ctx pos st = runStep cfg (run cfg fuel) fuel g ctx pos st := by
  rw [run_succ, if_neg (run_budget0 cfg h0 st)]

theorem run_wrap (cfg : Cfg) (fuel : Nat) (g : G) (w : Wrap) (ctx : Ctx) (pos : Nat) (st : St)
    (hw : g.wrap cfg.file pos = some w) :
    run cfg (fuel + 1) g ctx pos st =
      if cfg.maxCalls ≠ 0 ∧ st.calls > cfg.maxCalls then none else
        match run cfg fuel w.child ctx w.cpos st with
        | none => none
        | some (o, st1) => some (w.out o, st1) := by
  rw [run_succ, runStep_wrap cfg _ fuel ctx st hw]

/-- an accepted run: LeftTrim hands the operand's answer on -/
theorem ltrimOut_none (pos pos' : Nat) (o : Out) : ltrimOut pos pos' none o = o := by
  obtain ⟨res, cp, err⟩ := o
  cases err <;> rfl

/-- what text.LeftTrim makes of its operand's answer, `wsErr` being what the skip before it raised: without one the answer
    goes on as it is; a whitespace error replaces the answer, unless the operand failed no further than where the skip
    stopped: then its error stays, a not-found error moved back to where LeftTrim started -/
theorem ltrimOut_cases (pos pos' : Nat) (wsErr : Option Err) (o : Out) :
    (wsErr = none ∧ ltrimOut pos pos' wsErr o = o) ∨
    (∃ w, wsErr = some w ∧ ltrimOut pos pos' wsErr o = ⟨.nil, [], some w⟩) ∨
    (∃ e e', o.err = some e ∧ (e' = e ∨ e' = ⟨pos, e.kind⟩) ∧ ltrimOut pos pos' wsErr o = ⟨o.res, o.cp, some e'⟩) := by
  rcases wsErr with _ | w
  · exact .inl ⟨rfl, ltrimOut_none pos pos' o⟩
  · rcases o with ⟨res, cp, _ | e⟩
    · exact .inr (.inl ⟨w, rfl, rfl⟩)
    · simp only [ltrimOut]
      split
      · exact .inr (.inl ⟨w, rfl, rfl⟩)
      · split
        · exact .inr (.inr ⟨e, _, rfl, .inr rfl, rfl⟩)
        · exact .inr (.inr ⟨e, _, rfl, .inl rfl, rfl⟩)

theorem ltrimOut_res_eq (pos pos' : Nat) (wsErr : Option Err) (o : Out) :
    (ltrimOut pos pos' wsErr o).res = o.res ∨ (ltrimOut pos pos' wsErr o).res = .nil := by
  rcases ltrimOut_cases pos pos' wsErr o with ⟨_, h⟩ | ⟨_, _, h⟩ | ⟨_, _, _, _, h⟩ <;> rw [h]
  · exact .inl rfl
  · exact .inr rfl
  · exact .inl rfl

theorem ltrimOut_alts (pos pos' : Nat) (wsErr : Option Err) (o : Out) :
    ∀ x ∈ (ltrimOut pos pos' wsErr o).res.alts, x ∈ o.res.alts := by
  intro x hx
  cases ltrimOut_res_eq pos pos' wsErr o with
  | inl e => rw [e] at hx; exact hx
  | inr e => rw [e] at hx; cases hx

section
variable {cfg : Cfg} {r : RunFn} {fuel : Nat} {ctx : Ctx} {pos : Nat} {st : St} {x : Out × St}

theorem runStep_ref_some {k : Nat} (h : runStep cfg r fuel (.ref k) ctx pos st = some x) :
    (∃ g', cfg.env[k]? = some g' ∧ r g' ctx pos st = some x) ∨
    (cfg.env[k]? = none ∧ x = (⟨.nil, [], some ⟨pos, .panic (tokOf "nil parser")⟩⟩, st)) := by
  simp only [runStep] at h
  split at h
  · exact .inl ⟨_, ‹_›, h⟩
  · cases h; exact .inr ⟨‹_›, rfl⟩

theorem memoStep_some {idx : Nat} {body : G} (h : memoStep cfg r idx body ctx pos st = some x) :
    (∃ e, cacheGet st.cache idx pos ctx = some e ∧ x = (⟨e.res, e.cp, e.err⟩, st.logEv cfg (.hit idx pos))) ∨
    (cacheGet st.cache idx pos ctx = none ∧ ctx.get idx > remaining cfg.file pos + Facts.curtailSlack ∧
      x = (⟨.nil, [idx], none⟩, st.logEv cfg (.curtail idx pos))) ∨
    (cacheGet st.cache idx pos ctx = none ∧ ¬ ctx.get idx > remaining cfg.file pos + Facts.curtailSlack ∧
      ∃ o st2, r body (ctx.inc idx) pos (memoEnter cfg idx pos st) = some (o, st2) ∧
        x = (o, memoLeave idx pos ctx st o st2)) := by
  cases hc : cacheGet st.cache idx pos ctx with
  | some e => rw [memoStep_hit cfg r body hc] at h; cases h; exact .inl ⟨e, rfl, rfl⟩
  | none =>
    by_cases hcur : ctx.get idx > remaining cfg.file pos + Facts.curtailSlack
    · rw [memoStep_curtail cfg r body hc hcur] at h; cases h; exact .inr (.inl ⟨rfl, hcur, rfl⟩)
    · rw [memoStep_body cfg r body hc hcur] at h
      split at h
      · cases h
      · cases h; exact .inr (.inr ⟨rfl, hcur, _, _, ‹_›, rfl⟩)

theorem runStep_any_some {gs : List G} (h : runStep cfg r fuel (.any gs) ctx pos st = some x) :
    ∃ a st1, anyLoop r ctx pos gs {} st = some (a, st1) ∧ x = anyFinish a st1 := by
  simp only [runStep] at h
  split at h
  · cases h
  · cases h; exact ⟨_, _, ‹_›, rfl⟩

theorem runStep_choice_some {gs : List G} (h : runStep cfg r fuel (.choice gs) ctx pos st = some x) :
    ∃ y, choiceLoop r ctx pos gs {} st = some y ∧ x = choiceFinish y := by
  simp only [runStep] at h
  split at h
  · cases h
  · cases h; exact ⟨_, ‹_›, rfl⟩

/-- Choice is Any that stops at the first result: a run of Choice over `gs` is a run of Any over the alternatives up to
    and including the first one that answered with a result (all of `gs` if none did).  While Choice runs, its
    accumulator holds no result, so Any's `appendNode` adds nothing and `altErr` (which never looks at results) picks
    the same errors; the early return is Any's finish.  A fact about ALL alternatives is needed only when nothing was
    found, and then all were tried (`pre = gs`). -/
theorem choiceLoop_any (r : RunFn) (ctx : Ctx) (pos : Nat) : ∀ (gs : List G) (a : AltSt) (st : St) y, a.res = .nil →
    choiceLoop r ctx pos gs a st = some y →
    ∃ pre a1 st1, pre <+: gs ∧ (pre = gs ∨ pre ≠ [] ∧ (choiceFinish y).1.res.isNil = false) ∧
      anyLoop r ctx pos pre a st = some (a1, st1) ∧ anyFinish a1 st1 = choiceFinish y
  | [], a, st, y, ha, h => by
    cases h
    exact ⟨[], a, st, List.prefix_refl _, .inl rfl, rfl, by simp [anyFinish, choiceFinish, ha, Res.isNil]⟩
  | g :: gs, a, st, y, ha, h => by
    simp only [choiceLoop] at h
    split at h
    · cases h
    · rename_i o s1 hr
      have hf := (altErr_fields pos { a with cp := cpUnion a.cp o.cp } o.err).2.1
      by_cases hn : o.res.isNil = true
      · simp only [hn, Bool.not_true, Bool.false_eq_true, ↓reduceIte] at h
        obtain ⟨pre, a1, st1, h1, h2, h3, h4⟩ := choiceLoop_any r ctx pos gs _ s1 y (hf.trans ha) h
        refine ⟨g :: pre, a1, st1, List.prefix_cons_inj g |>.mpr h1, ?_, ?_, h4⟩
        · exact h2.imp (congrArg _) fun h => ⟨List.cons_ne_nil _ _, h.2⟩
        · simp only [anyLoop, hr]
          rw [show appendNode a.res o.res = a.res by rw [(isNil_iff _).mp hn]; exact appendNode_nil_right _]
          exact h3
      · have hn' : o.res.isNil = false := by simpa using hn
        simp only [hn', Bool.not_false, ↓reduceIte] at h
        cases h
        refine ⟨[g], altErr pos { a with cp := cpUnion a.cp o.cp, res := appendNode a.res o.res } o.err, s1, by simp,
          .inr ⟨List.cons_ne_nil _ _, hn'⟩, by simp only [anyLoop, hr], ?_⟩
        rw [show appendNode a.res o.res = o.res by rw [ha]; rfl,
          altErr_res pos { a with cp := cpUnion a.cp o.cp } o.err o.res]
        simp only [anyFinish, choiceFinish, hn', Bool.false_eq_true, ↓reduceIte]

theorem runStep_wrap_some {g : G} {w : Wrap} (hw : g.wrap cfg.file pos = some w)
    (h : runStep cfg r fuel g ctx pos st = some x) :
    ∃ o st1, r w.child ctx w.cpos st = some (o, st1) ∧ x = (w.out o, st1) := by
  rw [runStep_wrap cfg r fuel ctx st hw] at h
  split at h
  · cases h
  · cases h; exact ⟨_, _, ‹_›, rfl⟩

theorem runStep_seq_some {g : G} {sh : SeqShape} (hs : g.shape = some sh)
    (h : runStep cfg r fuel g ctx pos st = some x) :
    ∃ b ss st1, seqParse r sh fuel 0 [] ctx pos true {} st = some (b, ss, st1) ∧ x = seqFinish sh pos ss st1 := by
  rw [runStep_shape cfg r fuel ctx pos st hs, runSeq] at h
  split at h
  · cases h
  · cases h; exact ⟨_, _, _, ‹_›, rfl⟩

end

theorem memoStep_elim {cfg : Cfg} {r : RunFn} {idx : Nat} {body : G} {ctx : Ctx} {pos : Nat} {st : St}
    {motive : Out × St → Prop}
    (hit : ∀ e, cacheGet st.cache idx pos ctx = some e → motive (⟨e.res, e.cp, e.err⟩, st.logEv cfg (.hit idx pos)))
    (curtail : cacheGet st.cache idx pos ctx = none → ctx.get idx > remaining cfg.file pos + Facts.curtailSlack →
      motive (⟨.nil, [idx], none⟩, st.logEv cfg (.curtail idx pos)))
    (run : ∀ o st2, cacheGet st.cache idx pos ctx = none →
      ¬ ctx.get idx > remaining cfg.file pos + Facts.curtailSlack →
      r body (ctx.inc idx) pos (memoEnter cfg idx pos st) = some (o, st2) → motive (o, memoLeave idx pos ctx st o st2))
    {x : Out × St} (h : memoStep cfg r idx body ctx pos st = some x) : motive x := by
  rcases memoStep_some h with ⟨e, hc, rfl⟩ | ⟨hc, hcur, rfl⟩ | ⟨hc, hcur, o, st2, hr, rfl⟩
  · exact hit e hc
  · exact curtail hc hcur
  · exact run o st2 hc hcur hr

/-- ONE elimination principle for an answering level of `run`: a walk over `run` states its motive over the parser and
    the answer and gives one argument per path.  Ten paths: three leaves, Ref (rule / nil), Memoize (split further by
    `memoStep_elim`: hit / curtailed / body), Any, Choice — as Any over the alternatives it tried (`choiceLoop_any`) —, a
    one-child combinator, the Sequence family. -/
theorem runStep_elim {cfg : Cfg} {r : RunFn} {fuel : Nat} {ctx : Ctx} {pos : Nat} {st : St}
    {motive : G → Out × St → Prop}
    (term : ∀ t, motive (.term t) (termStep cfg t pos st))
    (empty : motive .empty (⟨.one (.empty pos), [], none⟩, st))
    (eof : motive .eof (eofStep cfg pos st))
    (ref : ∀ k g' x, cfg.env[k]? = some g' → r g' ctx pos st = some x → motive (.ref k) x)
    (refNil : ∀ k, cfg.env[k]? = none → motive (.ref k) (⟨.nil, [], some ⟨pos, .panic (tokOf "nil parser")⟩⟩, st))
    (memo : ∀ idx body x, memoStep cfg r idx body ctx pos st = some x → motive (.memo idx body) x)
    (any : ∀ gs a st1, anyLoop r ctx pos gs {} st = some (a, st1) → motive (.any gs) (anyFinish a st1))
    (choice : ∀ gs pre a st1, pre <+: gs → (pre = gs ∨ pre ≠ [] ∧ (anyFinish a st1).1.res.isNil = false) →
      anyLoop r ctx pos pre {} st = some (a, st1) → motive (.choice gs) (anyFinish a st1))
    (wrap : ∀ g w o st1, g.wrap cfg.file pos = some w → r w.child ctx w.cpos st = some (o, st1) →
      motive g (w.out o, st1))
    (seq : ∀ g sh b ss st1, g.shape = some sh → seqParse r sh fuel 0 [] ctx pos true {} st = some (b, ss, st1) →
      motive g (seqFinish sh pos ss st1)) :
    ∀ g x, runStep cfg r fuel g ctx pos st = some x → motive g x := by
  intro g x h
  cases g using G.shapes cfg.file pos with
  | term t => cases h; exact term t
  | empty => cases h; exact empty
  | eof => cases h; exact eof
  | ref k =>
    rcases runStep_ref_some h with ⟨g', hk, h⟩ | ⟨hk, rfl⟩
    · exact ref k g' x hk h
    · exact refNil k hk
  | memo idx b => exact memo idx b x h
  | any gs =>
    obtain ⟨a, st1, hl, rfl⟩ := runStep_any_some h
    exact any gs a st1 hl
  | choice gs =>
    obtain ⟨y, hl, rfl⟩ := runStep_choice_some h
    obtain ⟨pre, a1, st1, h1, h2, h3, h4⟩ := choiceLoop_any r ctx pos gs {} st y rfl hl
    exact h4 ▸ choice gs pre a1 st1 h1 (h4 ▸ h2) h3
  | wrap g w hw =>
    obtain ⟨o, st1, hr, rfl⟩ := runStep_wrap_some hw h
    exact wrap g w o st1 hw hr
  | seq g sh hs =>
    obtain ⟨b, ss, st1, hsp, rfl⟩ := runStep_seq_some hs h
    exact seq g sh b ss st1 hs hsp

theorem run_some_step {cfg : Cfg} {fuel : Nat} {g : G} {ctx : Ctx} {pos : Nat} {st : St} {x : Out × St}
    (h : run cfg (fuel + 1) g ctx pos st = some x) : runStep cfg (run cfg fuel) fuel g ctx pos st = some x := by
  rw [run_succ] at h
  split at h
  · cases h
  · exact h

theorem run_some_inv {cfg : Cfg} {fuel : Nat} {g : G} {ctx : Ctx} {pos : Nat} {st : St} {x : Out × St}
    (h : run cfg fuel g ctx pos st = some x) :
    ∃ f, fuel = f + 1 ∧ runStep cfg (run cfg f) f g ctx pos st = some x := by
  cases fuel with
  | zero => cases h
  | succ f => exact ⟨f, rfl, run_some_step h⟩

theorem anyFinish_st (a : AltSt) (st : St) : (anyFinish a st).2 = st ∨ (anyFinish a st).2 = st.setError a.err := by
  rcases anyFinish_cases a st with ⟨_, h⟩ | ⟨_, h⟩ <;> rw [h]
  · exact .inl rfl
  · exact .inr rfl

theorem choiceFinish_st (out : Option Out) (a : AltSt) (st : St) : (choiceFinish (out, a, st)).2 = st := by
  cases out <;> rfl

theorem seqFinish_res (sh : SeqShape) (pos : Nat) (ss : SeqSt) (st : St) :
    (∀ x ∈ (seqFinish sh pos ss st).1.res.alts, x ∈ ss.result.alts) ∧
    (seqFinish sh pos ss st).2.cache = st.cache := by
  rcases seqFinish_cases sh pos ss st with ⟨_, err, ho, _⟩ | ⟨_, ho⟩ <;> rw [ho]
  · exact ⟨noAlt, rfl⟩
  · exact ⟨fun x hx => hx, (setError_ctxErr st ss.err).2.1⟩

theorem seqFinish_res_eq (sh : SeqShape) (pos : Nat) (ss : SeqSt) (st : St) :
    (seqFinish sh pos ss st).1.res = if ss.result.isNil then .nil else ss.result := by
  cases hn : ss.result.isNil <;> simp only [seqFinish, hn, Bool.false_eq_true, ↓reduceIte]

theorem seqFinish_fields (sh : SeqShape) (pos : Nat) (ss : SeqSt) (st : St) :
    (seqFinish sh pos ss st).1.cp = ss.cp ∧
    ((seqFinish sh pos ss st).2 = st ∨ (seqFinish sh pos ss st).2 = st.setError ss.err) := by
  rcases seqFinish_cases sh pos ss st with ⟨_, err, ho, _⟩ | ⟨_, ho⟩ <;> rw [ho]
  · exact ⟨rfl, .inl rfl⟩
  · exact ⟨rfl, .inr rfl⟩

theorem rtrimOut_alts (f : File) (m : WsMode) (o : Out) (x : Node) (hx : x ∈ (rtrimOut f m o).res.alts) :
    (o.err.isSome = true ∧ x ∈ o.res.alts) ∨ ∃ n ∈ o.res.alts, x = (setRposNode f m n none).1 := by
  rcases rtrimOut_cases f m o with ⟨e, he, h⟩ | ⟨_, _, _, h⟩ | ⟨_, _, h⟩ <;> rw [h] at hx
  · exact .inl ⟨he ▸ rfl, hx⟩
  · cases hx
  · exact .inr (mem_setRposRes f m o.res x hx)

theorem ltrimOut_err_cases {pos pos' : Nat} {ws : Option Err} {o : Out} {er : Err} (h : (ltrimOut pos pos' ws o).err = some er) :
    ws = some er ∨ o.err = some er ∨ ∃ e, o.err = some e ∧ er = ⟨pos, e.kind⟩ := by
  rcases ltrimOut_cases pos pos' ws o with ⟨_, ho⟩ | ⟨_, hw, ho⟩ | ⟨e, e', he, he', ho⟩ <;> rw [ho] at h
  · exact .inr (.inl h)
  · exact .inl (hw.trans h)
  · cases h
    exact he'.elim (fun h1 => .inr (.inl (h1 ▸ he))) (fun h1 => .inr (.inr ⟨e, he, h1⟩))

theorem rtrimOut_err_cases {f : File} {m : WsMode} {o : Out} {er : Err} (h : (rtrimOut f m o).err = some er) :
    (∃ e, o.err = some e ∧ (er = e ∨ er = ⟨(skipWhitespaces f e.pos m).1, e.kind⟩)) ∨
    (o.err = none ∧ (setRposRes f m o.res).2 = some er) := by
  rcases rtrimOut_cases f m o with ⟨e, he, ho⟩ | ⟨he, w, hw, ho⟩ | ⟨_, _, ho⟩ <;> rw [ho] at h <;> cases h
  · refine .inl ⟨e, he, ?_⟩
    split
    · exact .inr rfl
    · exact .inl rfl
  · exact .inr ⟨he, hw⟩

theorem memoStep_active {cfg : Cfg} {r : RunFn} {idx : Nat} {body : G} {ctx : Ctx} {pos : Nat} {st : St} {x : Out × St}
    (h : memoStep cfg r idx body ctx pos st = some x) : x.2.active = st.active := by
  rcases memoStep_some h with ⟨_, _, rfl⟩ | ⟨_, _, rfl⟩ | ⟨_, _, _, _, _, rfl⟩
  · exact (logEv_fields st cfg _).2.2.2.1
  · exact (logEv_fields st cfg _).2.2.2.1
  · rfl

end PV
