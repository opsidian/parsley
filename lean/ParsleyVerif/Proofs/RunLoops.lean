/-
  Generic reasoning principles for the loops of the parser core (`anyLoop`, `choiceLoop`, `seqParse` /
  `seqAlts`), parametric in the function `r` that runs a sub-parser.  An invariant proof over `run` (by
  induction on fuel) instantiates these with `r := run cfg fuel` and the induction hypothesis.  The list loops have ONE
  eliminator each, their graph (`anyLoop_elim`, `choiceLoop_elim`, `seqAlts_elim`), with their forward invariants and
  monotonicity as instances; the element loop `seqParse`, which recurses on the fuel, has the relational invariant
  principle `seqParse_rel` (`seqParse_ind` its instance) and is monotone by induction on the fuel.  Then: the loops
  are monotone in `r` (`RunLe`), which gives monotonicity of `run` in the fuel; and the TOTAL principles, the duals
  of the `*_ind` ones ("if the loop returns then …"): for a fuel-indexed, fuel-monotone family `R` of runners
  (`R f := run cfg f`), a loop answers for some fuel when every call it makes, from a state of the loop invariant,
  answers for some fuel in a state of the invariant.
-/
import ParsleyVerif.Model.Run
import ParsleyVerif.Proofs.RunBasics
namespace PV

/-- The graph of the Any loop as its elimination principle: `motive` sees the arguments AND the answer, and the hypothesis
    for the tail comes with the tail's own run.  Forward invariants (`anyLoop_ind2`, `anyLoop_ind`), facts pulled back from
    the final state (a hypothesis on the final log, "the accumulator only grows") and monotonicity in the runner are
    instances.  A lemma stated in this shape is opened by `refine anyLoop_elim r ctx pos ?_ ?_`: the motive is found by
    unification. -/
theorem anyLoop_elim (r : RunFn) (ctx : Ctx) (pos : Nat) {motive : List G → AltSt → St → AltSt → St → Prop}
    (nil : ∀ a st, motive [] a st a st)
    (cons : ∀ g gs a st o st1 a' st', r g ctx pos st.regCall = some (o, st1) →
      anyLoop r ctx pos gs (altErr pos { a with cp := cpUnion a.cp o.cp, res := appendNode a.res o.res } o.err) st1
        = some (a', st') →
      motive gs (altErr pos { a with cp := cpUnion a.cp o.cp, res := appendNode a.res o.res } o.err) st1 a' st' →
      motive (g :: gs) a st a' st') :
    ∀ gs a st a' st', anyLoop r ctx pos gs a st = some (a', st') → motive gs a st a' st'
  | [], a, st, a', st', h => by cases h; exact nil a st
  | g :: gs, a, st, a', st', h => by
    simp only [anyLoop] at h
    split at h
    · cases h
    · exact cons g gs a st _ _ a' st' ‹_› h (anyLoop_elim r ctx pos nil cons gs _ _ a' st' h)

/-- Any: a forward invariant, which may mention the alternatives still to be tried -/
theorem anyLoop_ind2 (r : RunFn) (ctx : Ctx) (pos : Nat) (A : List G → AltSt → St → Prop)
    (step : ∀ g rest a st o st', A (g :: rest) a st → r g ctx pos st.regCall = some (o, st') →
      A rest (altErr pos { a with cp := cpUnion a.cp o.cp, res := appendNode a.res o.res } o.err) st') :
    ∀ (gs : List G) a st a' st', A gs a st → anyLoop r ctx pos gs a st = some (a', st') → A [] a' st' :=
  fun gs a st a' st' hA h =>
    anyLoop_elim r ctx pos (motive := fun gs a st a' st' => A gs a st → A [] a' st') (fun _ _ h => h)
      (fun g gs a st o st1 _ _ hr _ ih hA => ih (step g gs a st o st1 hA hr)) gs a st a' st' h hA

/-- the same for an invariant that looks at the rest only to know it is part of `gs` -/
theorem anyLoop_ind (r : RunFn) (ctx : Ctx) (pos : Nat) (A : AltSt → St → Prop) :
    ∀ (gs : List G),
      (∀ g ∈ gs, ∀ a st o st', A a st → r g ctx pos st.regCall = some (o, st') →
          A (altErr pos { a with cp := cpUnion a.cp o.cp, res := appendNode a.res o.res } o.err) st') →
      ∀ a st a' st', A a st → anyLoop r ctx pos gs a st = some (a', st') → A a' st' :=
  fun gs step a st a' st' hA h =>
    (anyLoop_ind2 r ctx pos (fun rest a st => (∀ g ∈ rest, g ∈ gs) ∧ A a st)
      (fun g _ a st o st' hA hr => ⟨fun g' hg' => hA.1 g' (List.mem_cons_of_mem _ hg'),
        step g (hA.1 g (List.mem_cons_self ..)) a st o st' hA.2 hr⟩)
      gs a st a' st' ⟨fun _ h => h, hA⟩ h).2

/-- the graph of the Choice loop: nothing left, the first alternative with a result, or an alternative without one and
    the rest -/
theorem choiceLoop_elim (r : RunFn) (ctx : Ctx) (pos : Nat)
    {motive : List G → AltSt → St → Option Out → AltSt → St → Prop}
    (nil : ∀ a st, motive [] a st none a st)
    (hit : ∀ g gs a st o st1, r g ctx pos st.regCall = some (o, st1) → o.res.isNil = false →
      motive (g :: gs) a st (some ⟨o.res, (altErr pos { a with cp := cpUnion a.cp o.cp } o.err).cp, none⟩)
        (altErr pos { a with cp := cpUnion a.cp o.cp } o.err)
        (st1.setError (altErr pos { a with cp := cpUnion a.cp o.cp } o.err).err))
    (skip : ∀ g gs a st o st1 out a' st', r g ctx pos st.regCall = some (o, st1) → o.res.isNil = true →
      choiceLoop r ctx pos gs (altErr pos { a with cp := cpUnion a.cp o.cp } o.err) st1 = some (out, a', st') →
      motive gs (altErr pos { a with cp := cpUnion a.cp o.cp } o.err) st1 out a' st' → motive (g :: gs) a st out a' st') :
    ∀ gs a st out a' st', choiceLoop r ctx pos gs a st = some (out, a', st') → motive gs a st out a' st'
  | [], a, st, out, a', st', h => by cases h; exact nil a st
  | g :: gs, a, st, out, a', st', h => by
    simp only [choiceLoop] at h
    split at h
    · cases h
    · rename_i o st1 hr
      cases hn : o.res.isNil with
      | false =>
        simp only [hn, Bool.not_false, ↓reduceIte] at h
        cases h
        exact hit g gs a st o st1 hr hn
      | true =>
        simp only [hn, Bool.not_true, Bool.false_eq_true, ↓reduceIte] at h
        exact skip g gs a st o st1 out a' st' hr hn h (choiceLoop_elim r ctx pos nil hit skip gs _ _ out a' st' h)

/-- the arguments of `seqParse` that stay fixed while the alternatives of one element are tried -/
structure Frame where
  depth : Nat
  nodes : List Node
  ctx : Ctx
  pos : Nat
  merge : Bool

/-- the frame `parseNext` continues with after element `depth` produced node `n` -/
def Frame.next (fr : Frame) (n : Node) : Frame :=
  { depth := fr.depth + 1, nodes := fr.nodes ++ [n],
    ctx := if n.rpos > fr.pos then [] else fr.ctx, pos := n.rpos,
    merge := fr.merge && !(n.rpos > fr.pos) }

/-- the depth stays the number of nodes gathered -/
theorem Frame.next_depth {fr : Frame} (hd : fr.depth = fr.nodes.length) (n : Node) :
    (fr.next n).depth = (fr.next n).nodes.length := by
  simp [Frame.next, hd]

/-- the state of the `sequence` object after element `depth` answered `o` -/
def seqAfter (merge : Bool) (ss : SeqSt) (o : Out) : SeqSt :=
  let ss := { ss with err := pickErr ss.err o.err }
  if merge then { ss with cp := cpUnion ss.cp o.cp } else ss

/-- what is emitted when element `depth` is missing or failed and `lenCheck depth` holds -/
def seqEmit (sh : SeqShape) (fr : Frame) (ss : SeqSt) : SeqSt :=
  { ss with result := appendNode ss.result (.one (handleResult sh fr.pos (if fr.depth > 0 then fr.nodes else []))) }

theorem emitNodes_eq (fr : Frame) (hd : fr.depth = fr.nodes.length) : (if fr.depth > 0 then fr.nodes else []) = fr.nodes := by
  split
  · rfl
  · have : fr.nodes.length = 0 := by omega
    exact (List.length_eq_zero_iff.mp this).symm

theorem seqAfter_err (merge : Bool) (ss : SeqSt) (o : Out) : (seqAfter merge ss o).err = pickErr ss.err o.err := by
  unfold seqAfter; split <;> rfl

theorem seqAfter_result (m : Bool) (ss : SeqSt) (o : Out) : (seqAfter m ss o).result = ss.result := by
  unfold seqAfter; split <;> rfl

theorem seqAfter_cp_left (m : Bool) (ss : SeqSt) (o : Out) : ∀ k ∈ ss.cp, k ∈ (seqAfter m ss o).cp := by
  intro k hk
  unfold seqAfter
  split
  · exact mem_cpUnion_left _ _ k hk
  · exact hk

theorem seqAfter_cp_right (ss : SeqSt) (o : Out) : ∀ k ∈ o.cp, k ∈ (seqAfter true ss o).cp := by
  intro k hk
  unfold seqAfter
  simp only [↓reduceIte]
  exact mem_cpUnion_right _ _ k hk

theorem seqAfter_cp_nil (m : Bool) (ss : SeqSt) (o : Out) (h1 : ss.cp = []) (h2 : o.cp = []) :
    (seqAfter m ss o).cp = [] := by
  unfold seqAfter
  cases m <;> simp [h1, h2, cpUnion]

/-- when the elements are used up the loop goes on as if a parser had answered with nothing at all -/
theorem seqAfter_nil (merge : Bool) (ss : SeqSt) : seqAfter merge ss ⟨.nil, [], none⟩ = ss := by
  unfold seqAfter
  split <;> simp only [pickErr, cpUnion_nil_right]

/-- the call of element `fr.depth`; the empty answer when the elements are used up -/
def seqCall (r : RunFn) (sh : SeqShape) (fr : Frame) (st : St) : Option (Out × St) :=
  match sh.lookup fr.depth with
  | some g => r g fr.ctx fr.pos st.regCall
  | none => some (⟨.nil, [], none⟩, st)

/-- the flag that ends the loop over the alternatives early: the last element consumed was End -/
def seqExit (fr : Frame) : Bool :=
  if fr.depth > 0 then (match fr.nodes.getLast? with | some l => l.token == eofTok | none => false) else false

/-- what `seqParse` does with a node `n` that element `fr.depth` produced (`parseNext`): the same, one element deeper -/
def seqDeeper (r : RunFn) (sh : SeqShape) (fuel : Nat) (fr : Frame) (n : Node) (ss : SeqSt) (st : St) :
    Option (Bool × SeqSt × St) :=
  seqParse r sh fuel (fr.next n).depth (fr.next n).nodes (fr.next n).ctx (fr.next n).pos (fr.next n).merge ss st

theorem seqParse_deeper (r : RunFn) (sh : SeqShape) (fuel : Nat) (fr : Frame) (ss : SeqSt) (st : St) :
    seqParse r sh (fuel + 1) fr.depth fr.nodes fr.ctx fr.pos fr.merge ss st =
      match seqCall r sh fr st with
      | none => none
      | some (o, st1) =>
        if o.res.isNil then
          if sh.lenCheck fr.depth then some (seqExit fr, seqEmit sh fr (seqAfter fr.merge ss o), st1)
          else some (false, seqAfter fr.merge ss o, st1)
        else seqAlts (seqDeeper r sh fuel fr) o.res.alts (seqAfter fr.merge ss o) st1 := by
  -- the body of `seqParse` after the call, for an arbitrary answer `x` of the call
  have key : ∀ x : Option (Out × St),
      (match x with
        | none => none
        | some (o, st) =>
          let ss := { ss with err := pickErr ss.err o.err }
          let ss := if fr.merge then { ss with cp := cpUnion ss.cp o.cp } else ss
          match o.res with
          | .nil =>
            if sh.lenCheck fr.depth then
              if fr.depth > 0 then
                some ((match fr.nodes.getLast? with | some l => l.token == eofTok | none => false),
                      { ss with result := appendNode ss.result (.one (handleResult sh fr.pos fr.nodes)) }, st)
              else
                some (false, { ss with result := appendNode ss.result (.one (handleResult sh fr.pos [])) }, st)
            else some (false, ss, st)
          | res =>
            seqAlts (fun n ss st =>
                let consumed := n.rpos > fr.pos
                seqParse r sh fuel (fr.depth + 1) (fr.nodes ++ [n]) (if consumed then [] else fr.ctx) n.rpos
                  (fr.merge && !consumed) ss st)
              res.alts ss st) =
      match x with
      | none => none
      | some (o, st1) =>
        if o.res.isNil then
          if sh.lenCheck fr.depth then some (seqExit fr, seqEmit sh fr (seqAfter fr.merge ss o), st1)
          else some (false, seqAfter fr.merge ss o, st1)
        else seqAlts (seqDeeper r sh fuel fr) o.res.alts (seqAfter fr.merge ss o) st1 := by
    rintro (_ | ⟨⟨res, cp, err⟩, st1⟩)
    · rfl
    · cases res with
      | nil =>
        simp only [Res.isNil, ↓reduceIte, seqExit, seqEmit]
        by_cases hl : sh.lenCheck fr.depth = true
        · by_cases hd : fr.depth > 0 <;> simp only [hl, hd, ↓reduceIte] <;> rfl
        · simp only [hl]; rfl
      | one n => rfl
      | list l => rfl
  exact key _

/-- the graph of the loop over the alternatives of one element, as `anyLoop_elim` -/
theorem seqAlts_elim (k : Node → SeqSt → St → Option (Bool × SeqSt × St))
    {motive : List Node → SeqSt → St → Bool → SeqSt → St → Prop}
    (nil : ∀ ss st, motive [] ss st false ss st)
    (stop : ∀ n rest ss st ss' st', k n ss st = some (true, ss', st') → motive (n :: rest) ss st true ss' st')
    (next : ∀ n rest ss st ss1 st1 b ss' st', k n ss st = some (false, ss1, st1) →
      seqAlts k rest ss1 st1 = some (b, ss', st') → motive rest ss1 st1 b ss' st' → motive (n :: rest) ss st b ss' st') :
    ∀ l ss st b ss' st', seqAlts k l ss st = some (b, ss', st') → motive l ss st b ss' st'
  | [], ss, st, b, ss', st', h => by cases h; exact nil ss st
  | n :: rest, ss, st, b, ss', st', h => by
    simp only [seqAlts] at h
    split at h
    · cases h
    · cases h; exact stop n rest ss st _ _ ‹_›
    · exact next n rest ss st _ _ b ss' st' ‹_› h (seqAlts_elim k nil stop next rest _ _ b ss' st' h)

/-! ### the relational loop principle for the Sequence loop

`J` holds when `parse(depth, …)` is entered, `E` is how the `sequence` object and the state evolve (reflexive, transitive,
`J` and `Q` stable under it), `Q fr` is what the call for the frame `fr` establishes when the loop was not left early, `X`
what holds when it was (End reached).  The element that answered with results is the one place with content: the
alternatives run from the state after the call, and the user joins what they established into the frame's own — the
evolution of the whole step can only be given then, because what the returned trees stand for is taken over by the
frames they open.  `seqParse_ind` below is the case that establishes nothing. -/

theorem seqAlts_rel (k : Node → SeqSt → St → Option (Bool × SeqSt × St))
    (E : SeqSt → St → SeqSt → St → Prop) (Q : Node → SeqSt → St → Prop) (X : SeqSt → St → Prop)
    (Erefl : ∀ ss st, E ss st ss st) (Etrans : ∀ a b c d e f, E a b c d → E c d e f → E a b e f)
    (P : Node → SeqSt → St → Prop)
    (Pstable : ∀ n ss st ss' st', P n ss st → E ss st ss' st' → P n ss' st')
    (Qstable : ∀ n ss st ss' st', Q n ss st → E ss st ss' st' → Q n ss' st') :
    ∀ (l : List Node),
      (∀ n ∈ l, ∀ ss st b ss' st', P n ss st → k n ss st = some (b, ss', st') →
        E ss st ss' st' ∧ (b = false → Q n ss' st') ∧ (b = true → X ss' st')) →
      ∀ ss st b ss' st', (∀ n ∈ l, P n ss st) → seqAlts k l ss st = some (b, ss', st') →
        E ss st ss' st' ∧ (b = false → ∀ n ∈ l, Q n ss' st') ∧ (b = true → X ss' st') := by
  intro l
  induction l with
  | nil =>
    intro _ ss st b ss' st' _ h
    simp only [seqAlts] at h
    cases h
    exact ⟨Erefl _ _, (fun _ _ hn => nomatch hn), nofun⟩
  | cons n rest ih =>
    intro hk ss st b ss' st' hP h
    simp only [seqAlts] at h
    split at h
    · cases h
    · rename_i ss1 st1 hk1
      cases h
      obtain ⟨e1, _, x1⟩ := hk n (List.mem_cons_self ..) _ _ _ _ _ (hP n (List.mem_cons_self ..)) hk1
      exact ⟨e1, nofun, x1⟩
    · rename_i ss1 st1 hk1
      obtain ⟨e1, q1, _⟩ := hk n (List.mem_cons_self ..) _ _ _ _ _ (hP n (List.mem_cons_self ..)) hk1
      obtain ⟨e2, q2, x2⟩ := ih (fun n' hn' => hk n' (List.mem_cons_of_mem _ hn')) ss1 st1 b ss' st'
        (fun n' hn' => Pstable _ _ _ _ _ (hP n' (List.mem_cons_of_mem _ hn')) e1) h
      refine ⟨Etrans _ _ _ _ _ _ e1 e2, fun hb n' hn' => ?_, x2⟩
      cases hn' with
      | head => exact Qstable _ _ _ _ _ (q1 rfl) e2
      | tail _ hm => exact q2 hb n' hm

theorem seqParse_rel (r : RunFn) (sh : SeqShape)
    (J : Frame → SeqSt → St → Prop) (E : SeqSt → St → SeqSt → St → Prop)
    (Q : Frame → SeqSt → St → Prop) (X : SeqSt → St → Prop)
    (Erefl : ∀ ss st, E ss st ss st) (Etrans : ∀ a b c d e f, E a b c d → E c d e f → E a b e f)
    (Jstable : ∀ fr ss st ss' st', J fr ss st → E ss st ss' st' → J fr ss' st')
    (Qstable : ∀ fr ss st ss' st', Q fr ss st → E ss st ss' st' → Q fr ss' st')
    (hcall : ∀ fr ss st g o st1, J fr ss st → fr.depth = fr.nodes.length → sh.lookup fr.depth = some g →
        r g fr.ctx fr.pos st.regCall = some (o, st1) →
        (o.res.isNil = false →
          (∀ n ∈ o.res.alts, J (fr.next n) (seqAfter fr.merge ss o) st1) ∧
          ∀ b ss' st', E (seqAfter fr.merge ss o) st1 ss' st' → (b = false → ∀ n ∈ o.res.alts, Q (fr.next n) ss' st') →
            (b = true → X ss' st') → E ss st ss' st' ∧ (b = false → Q fr ss' st')) ∧
        (o.res.isNil = true → sh.lenCheck fr.depth = true →
          E ss st (seqEmit sh fr (seqAfter fr.merge ss o)) st1 ∧ Q fr (seqEmit sh fr (seqAfter fr.merge ss o)) st1 ∧
          (seqExit fr = true → X (seqEmit sh fr (seqAfter fr.merge ss o)) st1)) ∧
        (o.res.isNil = true → sh.lenCheck fr.depth = false →
          E ss st (seqAfter fr.merge ss o) st1 ∧ Q fr (seqAfter fr.merge ss o) st1))
    (hnone : ∀ fr ss st, J fr ss st → fr.depth = fr.nodes.length → sh.lookup fr.depth = none →
        (sh.lenCheck fr.depth = true → E ss st (seqEmit sh fr ss) st ∧ Q fr (seqEmit sh fr ss) st ∧
          (seqExit fr = true → X (seqEmit sh fr ss) st)) ∧
        (sh.lenCheck fr.depth = false → Q fr ss st)) :
    ∀ (fuel : Nat) (fr : Frame) ss st b ss' st', J fr ss st → fr.depth = fr.nodes.length →
      seqParse r sh fuel fr.depth fr.nodes fr.ctx fr.pos fr.merge ss st = some (b, ss', st') →
      E ss st ss' st' ∧ (b = false → Q fr ss' st') ∧ (b = true → X ss' st') := by
  intro fuel
  induction fuel with
  | zero => intro fr ss st b ss' st' _ _ h; cases h
  | succ fuel ih =>
    intro fr ss st b ss' st' hJ hd h
    rw [seqParse_deeper] at h
    split at h
    · cases h
    · rename_i o st1 hc
      unfold seqCall at hc
      split at hc
      · obtain ⟨hnn, hemit, hfail⟩ := hcall fr ss st _ o st1 hJ hd ‹_› hc
        split at h
        · rename_i hnil
          split at h <;> cases h
          · obtain ⟨e, q, x⟩ := hemit hnil ‹_›
            exact ⟨e, fun _ => q, x⟩
          · obtain ⟨e, q⟩ := hfail hnil (Bool.eq_false_iff.mpr ‹_›)
            exact ⟨e, fun _ => q, nofun⟩
        · obtain ⟨hnext, hjoin⟩ := hnn (Bool.eq_false_iff.mpr ‹_›)
          obtain ⟨e, q, x⟩ := seqAlts_rel _ E (fun n => Q (fr.next n)) X Erefl Etrans (fun n ss st => J (fr.next n) ss st)
            (fun n ss st ss' st' hP hE => Jstable _ _ _ _ _ hP hE) (fun n ss st ss' st' hQ hE => Qstable _ _ _ _ _ hQ hE)
            o.res.alts
            (fun n _ ss2 st2 b2 ss3 st3 hJ2 hk => ih (fr.next n) ss2 st2 b2 ss3 st3 hJ2 (Frame.next_depth hd _) hk)
            _ _ b ss' st' hnext h
          obtain ⟨e', q'⟩ := hjoin b ss' st' e q x
          exact ⟨e', q', x⟩
      · cases hc
        obtain ⟨hemit, hfail⟩ := hnone fr ss st hJ hd ‹_›
        rw [if_pos (show (Out.mk .nil [] none).res.isNil = true from rfl), seqAfter_nil] at h
        split at h <;> cases h
        · obtain ⟨e, q, x⟩ := hemit ‹_›
          exact ⟨e, fun _ => q, x⟩
        · exact ⟨Erefl _ _, fun _ => hfail (Bool.eq_false_iff.mpr ‹_›), nofun⟩

theorem seqParse_ind (r : RunFn) (sh : SeqShape)
    (J : Frame → SeqSt → St → Prop)
    (E : SeqSt → St → SeqSt → St → Prop)
    (Erefl : ∀ ss st, E ss st ss st)
    (Etrans : ∀ a b c d e f, E a b c d → E c d e f → E a b e f)
    (Jstable : ∀ fr ss st ss' st', J fr ss st → E ss st ss' st' → J fr ss' st')
    (hcall : ∀ fr ss st g o st1, J fr ss st → fr.depth = fr.nodes.length → sh.lookup fr.depth = some g →
        r g fr.ctx fr.pos st.regCall = some (o, st1) →
        E ss st (seqAfter fr.merge ss o) st1 ∧
        (∀ n ∈ o.res.alts, J (fr.next n) (seqAfter fr.merge ss o) st1) ∧
        (o.res.isNil = true → sh.lenCheck fr.depth = true →
          E ss st (seqEmit sh fr (seqAfter fr.merge ss o)) st1))
    (hnone : ∀ fr ss st, J fr ss st → fr.depth = fr.nodes.length → sh.lookup fr.depth = none →
        sh.lenCheck fr.depth = true →
        E ss st (seqEmit sh fr ss) st) :
    ∀ (fuel : Nat) (fr : Frame) ss st b ss' st', J fr ss st → fr.depth = fr.nodes.length →
      seqParse r sh fuel fr.depth fr.nodes fr.ctx fr.pos fr.merge ss st = some (b, ss', st') →
      E ss st ss' st' := fun fuel fr ss st b ss' st' hJ hd h =>
  (seqParse_rel r sh J E (fun _ _ _ => True) (fun _ _ => True) Erefl Etrans Jstable (fun _ _ _ _ _ _ _ => trivial)
    (fun fr ss st g o st1 hJ hd hl hrun =>
      have ⟨hE1, hnext, hemit⟩ := hcall fr ss st g o st1 hJ hd hl hrun
      ⟨fun _ => ⟨hnext, fun _ _ _ e _ _ => ⟨Etrans _ _ _ _ _ _ hE1 e, fun _ => trivial⟩⟩,
        fun hn hlc => ⟨hemit hn hlc, trivial, fun _ => trivial⟩, fun _ _ => ⟨hE1, trivial⟩⟩)
    (fun fr ss st hJ hd hl =>
      ⟨fun hlc => ⟨hnone fr ss st hJ hd hl hlc, trivial, fun _ => trivial⟩,
        fun _ => trivial⟩)
    fuel fr ss st b ss' st' hJ hd h).1

def RunLe (r1 r2 : RunFn) : Prop := ∀ g ctx pos st x, r1 g ctx pos st = some x → r2 g ctx pos st = some x

def RunMono (R : Nat → RunFn) : Prop := ∀ f1 f2, f1 ≤ f2 → RunLe (R f1) (R f2)

theorem anyLoop_mono {r1 r2 : RunFn} (h12 : RunLe r1 r2) (ctx : Ctx) (pos : Nat) :
    ∀ gs a st x, anyLoop r1 ctx pos gs a st = some x → anyLoop r2 ctx pos gs a st = some x :=
  fun gs a st x h =>
    anyLoop_elim r1 ctx pos (motive := fun gs a st a' st' => anyLoop r2 ctx pos gs a st = some (a', st'))
      (fun _ _ => rfl) (fun g gs a st o st1 a' st' hr _ ih => by simp only [anyLoop, h12 _ _ _ _ _ hr, ih]) gs a st x.1 x.2 h

theorem choiceLoop_mono {r1 r2 : RunFn} (h12 : RunLe r1 r2) (ctx : Ctx) (pos : Nat) :
    ∀ gs a st x, choiceLoop r1 ctx pos gs a st = some x → choiceLoop r2 ctx pos gs a st = some x :=
  fun gs a st x h =>
    choiceLoop_elim r1 ctx pos (motive := fun gs a st out a' st' => choiceLoop r2 ctx pos gs a st = some (out, a', st'))
      (fun _ _ => rfl)
      (fun g gs a st o st1 hr hn => by simp only [choiceLoop, h12 _ _ _ _ _ hr, hn, Bool.not_false, ↓reduceIte])
      (fun g gs a st o st1 out a' st' hr hn _ ih => by
        simp only [choiceLoop, h12 _ _ _ _ _ hr, hn, Bool.not_true, Bool.false_eq_true, ↓reduceIte, ih])
      gs a st x.1 x.2.1 x.2.2 h

theorem seqAlts_mono (k1 k2 : Node → SeqSt → St → Option (Bool × SeqSt × St))
    (hk : ∀ n ss st x, k1 n ss st = some x → k2 n ss st = some x) :
    ∀ l ss st x, seqAlts k1 l ss st = some x → seqAlts k2 l ss st = some x :=
  fun l ss st x h =>
    seqAlts_elim k1 (motive := fun l ss st b ss' st' => seqAlts k2 l ss st = some (b, ss', st'))
      (fun _ _ => rfl) (fun n _ ss st ss' st' h1 => by simp only [seqAlts, hk _ _ _ _ h1])
      (fun n _ ss st ss1 st1 b ss' st' h1 _ ih => by simp only [seqAlts, hk _ _ _ _ h1, ih]) l ss st x.1 x.2.1 x.2.2 h

theorem seqCall_mono {r1 r2 : RunFn} (h12 : RunLe r1 r2) (sh : SeqShape) (fr : Frame) (st : St) (x : Out × St)
    (h : seqCall r1 sh fr st = some x) : seqCall r2 sh fr st = some x := by
  unfold seqCall at h ⊢
  split at h
  · exact h12 _ _ _ _ _ h
  · exact h

theorem seqParse_mono {r1 r2 : RunFn} (h12 : RunLe r1 r2) (sh : SeqShape) :
    ∀ f1 f2, f1 ≤ f2 → ∀ depth nodes ctx pos merge ss st x,
      seqParse r1 sh f1 depth nodes ctx pos merge ss st = some x →
      seqParse r2 sh f2 depth nodes ctx pos merge ss st = some x := by
  intro f1
  induction f1 with
  | zero => intro f2 _ depth nodes ctx pos merge ss st x h; cases h
  | succ f1 ih =>
    intro f2 hle depth nodes ctx pos merge ss st x h
    obtain ⟨f2, rfl⟩ : ∃ k, f2 = k + 1 := ⟨f2 - 1, by omega⟩
    rw [show seqParse r1 sh (f1 + 1) depth nodes ctx pos merge ss st = _ from
      seqParse_deeper r1 sh f1 ⟨depth, nodes, ctx, pos, merge⟩ ss st] at h
    rw [show seqParse r2 sh (f2 + 1) depth nodes ctx pos merge ss st = _ from
      seqParse_deeper r2 sh f2 ⟨depth, nodes, ctx, pos, merge⟩ ss st]
    split at h
    · cases h
    · rename_i o st1 hc
      rw [seqCall_mono h12 _ _ _ _ hc]
      simp only
      split at h
      · rw [if_pos ‹_›]; exact h
      · rw [if_neg ‹_›]
        exact seqAlts_mono _ _ (fun n ss st x hx => ih f2 (by omega) _ _ _ _ _ _ _ _ hx) _ _ _ _ h

theorem anyLoop_total {R : Nat → RunFn} (hmono : RunMono R) (ctx : Ctx) (pos : Nat) (I : St → Prop) : ∀ (gs : List G),
    (∀ g ∈ gs, ∀ st, I st → ∃ f o st', R f g ctx pos st.regCall = some (o, st') ∧ I st') →
    ∀ a st, I st → ∃ f x, anyLoop (R f) ctx pos gs a st = some x
  | [], _, a, st, _ => ⟨0, _, rfl⟩
  | g :: gs, h, a, st, hI => by
    obtain ⟨f1, o, st1, h1, hI1⟩ := h g (List.mem_cons_self ..) st hI
    obtain ⟨f2, x, h2⟩ := anyLoop_total hmono ctx pos I gs (fun g' hg' => h g' (List.mem_cons_of_mem _ hg'))
      (altErr pos { a with cp := cpUnion a.cp o.cp, res := appendNode a.res o.res } o.err) st1 hI1
    refine ⟨max f1 f2, x, ?_⟩
    simp only [anyLoop, hmono f1 _ (Nat.le_max_left ..) _ _ _ _ _ h1]
    exact anyLoop_mono (hmono f2 _ (Nat.le_max_right ..)) _ _ _ _ _ _ h2

theorem choiceLoop_total {R : Nat → RunFn} (hmono : RunMono R) (ctx : Ctx) (pos : Nat) (I : St → Prop) : ∀ (gs : List G),
    (∀ g ∈ gs, ∀ st, I st → ∃ f o st', R f g ctx pos st.regCall = some (o, st') ∧ I st') →
    ∀ a st, I st → ∃ f x, choiceLoop (R f) ctx pos gs a st = some x
  | [], _, a, st, _ => ⟨0, _, rfl⟩
  | g :: gs, h, a, st, hI => by
    obtain ⟨f1, o, st1, h1, hI1⟩ := h g (List.mem_cons_self ..) st hI
    cases hn : o.res.isNil with
    | false => exact ⟨f1, by simp only [choiceLoop, h1, hn, Bool.not_false, ↓reduceIte]; exact ⟨_, rfl⟩⟩
    | true =>
      obtain ⟨f2, x, h2⟩ := choiceLoop_total hmono ctx pos I gs (fun g' hg' => h g' (List.mem_cons_of_mem _ hg'))
        (altErr pos { a with cp := cpUnion a.cp o.cp } o.err) st1 hI1
      refine ⟨max f1 f2, x, ?_⟩
      simp only [choiceLoop, hmono f1 _ (Nat.le_max_left ..) _ _ _ _ _ h1, hn, Bool.not_true, Bool.false_eq_true,
        ↓reduceIte]
      exact choiceLoop_mono (hmono f2 _ (Nat.le_max_right ..)) _ _ _ _ _ _ h2

/-- the loop over the alternatives of one element answers when the continuation answers from each of them, the
    frames of the later ones staying good (`P`) through what the earlier ones do -/
theorem seqAlts_total (K : Nat → Node → SeqSt → St → Option (Bool × SeqSt × St))
    (Kmono : ∀ f f', f ≤ f' → ∀ n ss st x, K f n ss st = some x → K f' n ss st = some x)
    (P : Node → SeqSt → St → Prop) : ∀ (l : List Node),
    (∀ n ∈ l, ∀ ss st, P n ss st → ∃ f b ss' st', K f n ss st = some (b, ss', st') ∧
      ∀ n' ∈ l, P n' ss st → P n' ss' st') →
    ∀ ss st, (∀ n ∈ l, P n ss st) → ∃ f x, seqAlts (K f) l ss st = some x
  | [], _, ss, st, _ => ⟨0, _, rfl⟩
  | n :: rest, h, ss, st, hP => by
    obtain ⟨f1, b, ss1, st1, h1, hP1⟩ := h n (List.mem_cons_self ..) ss st (hP n (List.mem_cons_self ..))
    cases b with
    | true => exact ⟨f1, by simp only [seqAlts, h1]; exact ⟨_, rfl⟩⟩
    | false =>
      obtain ⟨f2, x, h2⟩ := seqAlts_total K Kmono P rest
        (fun n' hn' ss st hp =>
          let ⟨f, b, ss', st', hk, hp'⟩ := h n' (List.mem_cons_of_mem _ hn') ss st hp
          ⟨f, b, ss', st', hk, fun m hm => hp' m (List.mem_cons_of_mem _ hm)⟩)
        ss1 st1 (fun n' hn' => hP1 n' (List.mem_cons_of_mem _ hn') (hP n' (List.mem_cons_of_mem _ hn')))
      refine ⟨max f1 f2, x, ?_⟩
      simp only [seqAlts, Kmono f1 _ (Nat.le_max_left ..) _ _ _ _ h1]
      exact seqAlts_mono _ _ (Kmono f2 _ (Nat.le_max_right ..)) _ _ _ _ h2

/-- The element loop of a Sequence answers when (`hcall`) each element, called from a frame of `J`, answers, every node it
    returns leading to a frame of `J` on which the measure `μ` is smaller, and (`hrun`, `Jstable`: what `seqParse_ind`
    proves) a frame of `J` stays one through whatever the loop does from another. -/
theorem seqParse_total {R : Nat → RunFn} (hmono : RunMono R) (sh : SeqShape)
    (J : Frame → SeqSt → St → Prop) (E : SeqSt → St → SeqSt → St → Prop)
    (Jstable : ∀ fr ss st ss' st', J fr ss st → E ss st ss' st' → J fr ss' st')
    (hrun : ∀ f fr ss st b ss' st', J fr ss st → fr.depth = fr.nodes.length →
      seqParse (R f) sh f fr.depth fr.nodes fr.ctx fr.pos fr.merge ss st = some (b, ss', st') → E ss st ss' st')
    (μ : Frame → Nat)
    (hcall : ∀ fr ss st g, J fr ss st → fr.depth = fr.nodes.length → sh.lookup fr.depth = some g →
      ∃ f o st1, R f g fr.ctx fr.pos st.regCall = some (o, st1) ∧
        ∀ n ∈ o.res.alts, J (fr.next n) (seqAfter fr.merge ss o) st1 ∧ μ (fr.next n) < μ fr) :
    ∀ (m : Nat) (fr : Frame), μ fr < m → ∀ ss st, J fr ss st → fr.depth = fr.nodes.length →
      ∃ f x, seqParse (R f) sh f fr.depth fr.nodes fr.ctx fr.pos fr.merge ss st = some x
  | 0, _, hm => absurd hm (Nat.not_lt_zero _)
  | m + 1, fr, hm => by
    intro ss st hJ hd
    -- an element that gives no result ends the loop, however it ends
    have nil : ∀ {f o st1}, seqCall (R (f + 1)) sh fr st = some (o, st1) → o.res.isNil = true →
        ∃ x, seqParse (R (f + 1)) sh (f + 1) fr.depth fr.nodes fr.ctx fr.pos fr.merge ss st = some x := by
      intro f o st1 h hn
      rw [seqParse_deeper, h]
      simp only [hn, ↓reduceIte]
      split <;> exact ⟨_, rfl⟩
    cases hl : sh.lookup fr.depth with
    | none => exact ⟨1, nil (o := ⟨.nil, [], none⟩) (st1 := st) (by simp only [seqCall, hl]) rfl⟩
    | some g =>
      obtain ⟨f1, o, st1, h1, hnext⟩ := hcall fr ss st g hJ hd hl
      have hc : ∀ f, f1 ≤ f → seqCall (R f) sh fr st = some (o, st1) := fun f hf => by
        simp only [seqCall, hl]; exact hmono f1 f hf _ _ _ _ _ h1
      cases hn : o.res.isNil with
      | true => exact ⟨f1 + 1, nil (hc _ (Nat.le_succ _)) hn⟩
      | false =>
        obtain ⟨f2, x, h2⟩ := seqAlts_total (fun f => seqDeeper (R f) sh f fr)
          (fun f f' hff n ss st x hx => seqParse_mono (hmono f f' hff) sh f f' hff _ _ _ _ _ _ _ _ hx)
          (fun n ss st => J (fr.next n) ss st) o.res.alts
          (fun n hn ss2 st2 hp =>
            let ⟨f, (b, ss', st'), hk⟩ := seqParse_total hmono sh J E Jstable hrun μ hcall m (fr.next n)
              (Nat.lt_of_lt_of_le (hnext n hn).2 (Nat.le_of_lt_succ hm)) ss2 st2 hp (Frame.next_depth hd _)
            ⟨f, b, ss', st', hk, fun n' _ hp' =>
              Jstable _ _ _ _ _ hp' (hrun f _ _ _ _ _ _ hp (Frame.next_depth hd _) hk)⟩)
          (seqAfter fr.merge ss o) st1 (fun n hn => (hnext n hn).1)
        refine ⟨max f1 f2 + 1, x, ?_⟩
        rw [seqParse_deeper, hc _ (by omega)]
        simp only [hn, Bool.false_eq_true, ↓reduceIte]
        exact seqAlts_mono _ _ (fun n ss st x hx =>
          seqParse_mono (hmono f2 _ (by omega)) sh f2 _ (Nat.le_max_right ..) _ _ _ _ _ _ _ _ hx) _ _ _ _ h2

end PV
