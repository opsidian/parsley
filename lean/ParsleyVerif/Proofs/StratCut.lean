/-
  THE CUT ARGUMENT for stratified grammars (property C01, completeness, half B — Proofs/Cut.lean for `DerivesS` /
  `DerivesSC` of Spec/Strat.lean).  No `run` here.

  Every end position a derivation `DerivesS` reaches is reached by a CURTAILED derivation `DerivesSC` from the zero
  counters (`derivesSC_of_derivesS_ends`), and every tree whose derivations never nest the same (stratum-1 memo
  index, start, end) twice is curtailed-derivable as it is (`derivesSC_of_derivesS_tree`).

  The low leaves are the LEAVES of the cut argument: a stratum-0 sub-derivation contains no stratum-1 Memoize node,
  its rule does not look at the counters, so it is taken over unchanged.  Only its span is needed: an alternative
  of an exact stratum-0 result starts at the call position and ends inside the file (`low_big`).
-/
import ParsleyVerif.Proofs.StratBasics
import ParsleyVerif.Proofs.Guarded
namespace PV.Strat
open PV PV.Text PV.Cut

/-- the low leaves, with the alternatives of their exact results as trees -/
def lowLeaves (cfg : Cfg) (s : Cert) : Leaves :=
  ⟨fun g => isLowLeaf s g = true, fun g pos x => ∃ R e, Big cfg g pos R e ∧ x ∈ R.alts⟩

theorem UpS.closed {cfg : Cfg} {s : Cert} {bodyOf : Nat → G} (henv : EnvS cfg s bodyOf) :
    Closed cfg (lowLeaves cfg s) (UpS cfg s bodyOf) where
  term h := h.term.1
  leaf hg hl ht hin := by
    obtain ⟨R, e, hb, hx⟩ := ht
    have hd := low_big henv hb (hg.leaf hl).1 hin _ hx
    obtain ⟨p1, p2, _⟩ := hd.inFile hin
    exact ⟨p1, p2, C1T.NotEof_of_token (noEofDeep_token hd.tok)⟩
  ref _ hl hk := henv.up _ _ hk (eq_false_of_ne_true hl)
  memo h hl := (h.memo (eq_false_of_ne_true hl)).2
  any h := h.any
  optional h := h.optional
  ltrim h := absurd h.ok (by simp [upOK])
  rtrim h := absurd h.ok (by simp [upOK])
  lookup h hs := (h.seqOf hs).1

theorem UpS.oneBody {cfg : Cfg} {s : Cert} {bodyOf : Nat → G} : OneBody bodyOf (lowLeaves cfg s) (UpS cfg s bodyOf) :=
  fun h hl => (h.memo (eq_false_of_ne_true hl)).1

theorem dn_of_derivesS {cfg : Cfg} {s : Cert} {g : G} {pos : Nat} {x : Node} (h : DerivesS cfg s g pos x) :
    ∃ n, DN cfg (lowLeaves cfg s) n g pos x :=
  @DerivesS.rec cfg s (fun g pos x _ => ∃ n, DN cfg (lowLeaves cfg s) n g pos x)
    (fun sh d pos nodes _ => ∃ n, DSN cfg (lowLeaves cfg s) n sh d pos nodes)
    (fun hl hb hx => ⟨1, .leaf hl ⟨_, _, hb, hx⟩⟩) (fun h => ⟨1, .term h⟩) ⟨1, .empty⟩
    (fun hk he _ ⟨n, hn⟩ => ⟨n + 1, .ref (ne_true_of_eq_false hk) he hn⟩)
    (fun hi _ ⟨n, hn⟩ => ⟨n + 1, .memo (ne_true_of_eq_false hi) hn⟩)
    (fun hm _ ⟨n, hn⟩ => ⟨n + 1, .any hm hn⟩)
    (fun _ ⟨n, hn⟩ => ⟨n + 1, .optSome hn⟩) ⟨1, .optNone⟩
    (fun hs _ hl ⟨n, hn⟩ => ⟨n + 1, .seqOf hs hn hl⟩)
    ⟨0, .nil⟩ (fun hl _ _ ⟨a, ha⟩ ⟨b, hb⟩ => ⟨a + b + 1, .cons hl ha hb⟩) g pos x h

theorem dsn_of_derivesSeqS {cfg : Cfg} {s : Cert} {sh : SeqShape} : ∀ {nodes : List Node} {d pos : Nat},
    DerivesSeqS cfg s sh d pos nodes → ∃ n, DSN cfg (lowLeaves cfg s) n sh d pos nodes
  | [], _, _, _ => ⟨0, .nil⟩
  | _ :: _, _, _, .cons hl hd hrest =>
    have ⟨a, ha⟩ := dn_of_derivesS hd
    have ⟨b, hb⟩ := dsn_of_derivesSeqS hrest
    ⟨a + b + 1, .cons hl ha hb⟩

theorem derivesS_of_dn {cfg : Cfg} {s : Cert} {bodyOf : Nat → G} (henv : EnvS cfg s bodyOf) {n : Nat} {g : G} {pos : Nat}
    {x : Node} (h : DN cfg (lowLeaves cfg s) n g pos x) : UpS cfg s bodyOf g → DerivesS cfg s g pos x :=
  @DN.rec cfg (lowLeaves cfg s) (fun _ g pos x _ => UpS cfg s bodyOf g → DerivesS cfg s g pos x)
    (fun _ sh d pos nodes _ => (∀ d g', sh.lookup d = some g' → UpS cfg s bodyOf g') → DerivesSeqS cfg s sh d pos nodes)
    (fun hl ⟨_, _, hb, hx⟩ _ => .low hl hb hx) (fun hp _ => .term hp) (fun _ => .empty)
    (fun hl hk _ ih _ => .ref (eq_false_of_ne_true hl) hk (ih (henv.up _ _ hk (eq_false_of_ne_true hl))))
    (fun hl _ ih hg => .memo (eq_false_of_ne_true hl) (ih (hg.memo (eq_false_of_ne_true hl)).2))
    (fun hm _ ih hg => .any hm (ih (hg.any _ hm))) (fun _ ih hg => .optSome (ih hg.optional)) (fun _ => .optNone)
    (fun hs _ hl ih hg => .seqOf hs (ih (hg.seqOf hs).1) hl)
    (fun _ _ _ hg => absurd hg.ok (by simp [upOK])) (fun _ _ _ hg => absurd hg.ok (by simp [upOK]))
    (fun _ => .nil) (fun hl _ _ ih1 ih2 hg => .cons hl (ih1 (hg _ _ hl)) (ih2 hg)) n g pos x h

theorem derivesSeqS_of_dsn {cfg : Cfg} {s : Cert} {bodyOf : Nat → G} (henv : EnvS cfg s bodyOf) {sh : SeqShape}
    (hg : ∀ d g', sh.lookup d = some g' → UpS cfg s bodyOf g') : ∀ {nodes : List Node} {n d pos : Nat},
    DSN cfg (lowLeaves cfg s) n sh d pos nodes → DerivesSeqS cfg s sh d pos nodes
  | [], _, _, _, _ => .nil
  | _ :: _, _, _, _, .cons hl hx hrest => .cons hl (derivesS_of_dn henv hx (hg _ _ hl)) (derivesSeqS_of_dsn henv hg hrest)

theorem curtailedS (cfg : Cfg) (s : Cert) (bodyOf : Nat → G) :
    Curtailed cfg (lowLeaves cfg s) (UpS cfg s bodyOf) (DerivesSC cfg s) (DerivesSeqSC cfg s) where
  leaf hl ht := by obtain ⟨_, _, hb, hx⟩ := ht; exact .low hl hb hx
  term hp := .term hp
  empty := .empty
  ref hl hk h := .ref (eq_false_of_ne_true hl) hk h
  memo hl hle h := .memo (eq_false_of_ne_true hl) hle h
  any hm h := .any hm h
  optSome h := .optSome h
  optNone := .optNone
  seqOf hs h hl := .seqOf hs h hl
  ltrim hg := absurd hg.ok (by simp [upOK])
  rtrim hg := absurd hg.ok (by simp [upOK])
  nil := .nil
  cons hl h hrest := .cons hl h hrest

theorem derivesS_pos (cfg : Cfg) (s : Cert) (bodyOf : Nat → G) (henv : EnvS cfg s bodyOf) {g : G} {pos : Nat} {x : Node}
    (h : DerivesS cfg s g pos x) (hg : UpS cfg s bodyOf g) (hin : InFile cfg.file pos) :
    pos ≤ x.rpos ∧ x.rpos ≤ cfg.hi := by
  obtain ⟨n, hn⟩ := dn_of_derivesS h
  obtain ⟨a, b, _⟩ := (dn_pos (UpS.closed henv) n).1 _ _ _ hg hin hn
  exact ⟨a, b⟩

/-- **(B), ends.**  Every end position that a derivation of a stratified grammar reaches is reached by a
    curtailed derivation from the empty left-recursion context. -/
theorem derivesSC_of_derivesS_ends (cfg : Cfg) (s : Cert) (bodyOf : Nat → G) (henv : EnvS cfg s bodyOf)
    (g : G) (hg : UpS cfg s bodyOf g) (pos : Nat) (hin : InFile cfg.file pos) (x : Node)
    (h : DerivesS cfg s g pos x) : ∃ y, DerivesSC cfg s zeroC g pos y ∧ y.rpos = x.rpos := by
  obtain ⟨n, hn⟩ := dn_of_derivesS h
  exact covers_ends (UpS.closed henv) UpS.oneBody (curtailedS cfg s bodyOf) hg hin hn

mutual
/-- the tree `x` has a derivation from `g` at `pos` in which — on the part of it that still starts at `pos` — a
    stratum-1 `memo k` node spans `pos … e`.  A low leaf contains no such node. -/
inductive ContainsS (cfg : Cfg) (s : Cert) (k e : Nat) : G → Nat → Node → Prop
  | here {body pos x} : s.lowIdx k = false → DerivesS cfg s (.memo k body) pos x → x.rpos = e →
      ContainsS cfg s k e (.memo k body) pos x
  | ref {r g pos x} : s.lowRule r = false → cfg.env[r]? = some g → ContainsS cfg s k e g pos x →
      ContainsS cfg s k e (.ref r) pos x
  | memo {i g pos x} : s.lowIdx i = false → ContainsS cfg s k e g pos x → ContainsS cfg s k e (.memo i g) pos x
  | any {gs g pos x} : g ∈ gs → ContainsS cfg s k e g pos x → ContainsS cfg s k e (.any gs) pos x
  | optSome {g pos x} : ContainsS cfg s k e g pos x → ContainsS cfg s k e (.optional g) pos x
  | seqOf {gs o sh pos nodes} : (G.seq .seqOf gs o).shape = some sh → ContainsSeqS cfg s k e sh 0 pos nodes →
      sh.lenCheck nodes.length = true → ContainsS cfg s k e (.seq .seqOf gs o) pos (handleResult sh pos nodes)
inductive ContainsSeqS (cfg : Cfg) (s : Cert) (k e : Nat) : SeqShape → Nat → Nat → List Node → Prop
  | head {sh d pos g n rest} : sh.lookup d = some g → ContainsS cfg s k e g pos n →
      DerivesSeqS cfg s sh (d + 1) n.rpos rest → ContainsSeqS cfg s k e sh d pos (n :: rest)
  | tail {sh d pos g n rest} : sh.lookup d = some g → DerivesS cfg s g pos n → n.rpos = pos →
      ContainsSeqS cfg s k e sh (d + 1) n.rpos rest → ContainsSeqS cfg s k e sh d pos (n :: rest)
end

def AcyclicS (cfg : Cfg) (s : Cert) (bodyOf : Nat → G) : Prop :=
  ∀ k pos x, s.lowIdx k = false → InFile cfg.file pos → ¬ ContainsS cfg s k x.rpos (bodyOf k) pos x

theorem nest_of_containsS {cfg : Cfg} {s : Cert} {k e : Nat} {g : G} {pos : Nat} {x : Node}
    (h : ContainsS cfg s k e g pos x) : Nest cfg (lowLeaves cfg s) k e g pos x :=
  @ContainsS.rec cfg s k e (fun g pos x _ => Nest cfg (lowLeaves cfg s) k e g pos x)
    (fun sh d pos nodes _ => NestS cfg (lowLeaves cfg s) k e sh d pos nodes)
    (fun hk hd he => have ⟨_, hn⟩ := dn_of_derivesS hd; .here (ne_true_of_eq_false hk) hn he)
    (fun hr hk _ ih => .ref (ne_true_of_eq_false hr) hk ih) (fun hi _ ih => .memo (ne_true_of_eq_false hi) ih)
    (fun hm _ ih => .any hm ih) (fun _ ih => .optSome ih) (fun hs _ hl ih => .seqOf hs ih hl)
    (fun hl _ hds ih => have ⟨_, hb⟩ := dsn_of_derivesSeqS hds; .head hl ih hb)
    (fun hl hd hz _ ih => have ⟨_, ha⟩ := dn_of_derivesS hd; .tail hl ha hz ih)
    g pos x h

/-- `AcyclicS` from the test of Proofs/Guarded.lean on the body of every stratum-1 index; the low leaves are its leaves -/
theorem acyclicS_of_guards (cfg : Cfg) (s : Cert) (bodyOf : Nat → G) (henv : EnvS cfg s bodyOf)
    (hb : ∀ k, s.lowIdx k = false → UpS cfg s bodyOf (bodyOf k) ∧ ∃ n, (bodyOf k).guards cfg.env (isLowLeaf s) k n = true) :
    AcyclicS cfg s bodyOf := fun k _ _ hk hin hc =>
  have ⟨hg, _, hn⟩ := hb k hk
  not_nest_of_guards (UpS.closed henv) (fun _ h => Bool.noConfusion h) (fun _ => id) hg hn hin (nest_of_containsS hc)

theorem containsSeqS_end_le {cfg : Cfg} {s : Cert} {bodyOf : Nat → G} (henv : EnvS cfg s bodyOf) {k e : Nat} :
    ∀ {sh : SeqShape} {d pos : Nat} {nodes : List Node}, ContainsSeqS cfg s k e sh d pos nodes →
      (∀ d g', sh.lookup d = some g' → UpS cfg s bodyOf g') → InFile cfg.file pos →
      e ≤ endOf pos nodes ∧ pos ≤ endOf pos nodes ∧ endOf pos nodes ≤ cfg.hi
  | _, _, _, _, .head hl hc hds, hg, hin => by
    have hn := nest_of_containsS hc
    have i1 := (nest_end (lf := isLowLeaf s) (UpS.closed henv) (fun _ h => Bool.noConfusion h) (fun _ => id) hn
      (hg _ _ hl) hin).1
    obtain ⟨a, ha⟩ := nest_dn hn
    obtain ⟨i2, i3, _⟩ := (dn_pos (UpS.closed henv) a).1 _ _ _ (hg _ _ hl) hin ha
    obtain ⟨b, hb⟩ := dsn_of_derivesSeqS hds
    have := (dn_pos (UpS.closed henv) b).2 _ _ _ _ hg (InFile_of_le hin i2 i3) hb
    rw [endOf_cons]
    omega
  | _, _, _, _, .tail hl _ hz hc, hg, hin => by
    rw [endOf_cons]
    have := containsSeqS_end_le henv hc hg (hz ▸ hin)
    omega

theorem nestingS {cfg : Cfg} {s : Cert} {bodyOf : Nat → G} (henv : EnvS cfg s bodyOf) :
    Nesting cfg (lowLeaves cfg s) (UpS cfg s bodyOf) (ContainsS cfg s) (ContainsSeqS cfg s) where
  here hg hl hd he := .here (eq_false_of_ne_true hl) (derivesS_of_dn henv hd hg) he
  ref hl hk h := .ref (eq_false_of_ne_true hl) hk h
  memo hl h := .memo (eq_false_of_ne_true hl) h
  any hm h := .any hm h
  optSome h := .optSome h
  seqOf hs h hl := .seqOf hs h hl
  ltrim hg := absurd hg.ok (by simp [upOK])
  rtrim hg := absurd hg.ok (by simp [upOK])
  head hg hl h hrest := .head hl h (derivesSeqS_of_dsn henv hg hrest)
  tail hg hl hd hz h := .tail hl (derivesS_of_dn henv hd hg) hz h

/-- **(B), trees.**  In an acyclic stratified grammar every derivation is a curtailed derivation from the empty
    left-recursion context — the same tree. -/
theorem derivesSC_of_derivesS_tree (cfg : Cfg) (s : Cert) (bodyOf : Nat → G) (henv : EnvS cfg s bodyOf)
    (hac : AcyclicS cfg s bodyOf) (g : G) (hg : UpS cfg s bodyOf g) (pos : Nat) (hin : InFile cfg.file pos)
    (x : Node) (h : DerivesS cfg s g pos x) : DerivesSC cfg s zeroC g pos x := by
  obtain ⟨n, hn⟩ := dn_of_derivesS h
  exact covers_trees (UpS.closed henv) UpS.oneBody (curtailedS cfg s bodyOf) (nestingS henv)
    (fun k _ pos x hl hin => hac k pos x (eq_false_of_ne_true hl) hin) hg hin hn

end PV.Strat
