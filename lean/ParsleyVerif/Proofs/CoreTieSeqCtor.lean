/-
  The constructors of the Sequence family (Seq, SeqOf, SeqTry, SeqFirstOrAll, newMany, newSepBy)
  and the setters Name / Token / Bind / HandleResult — the translated functions build a struct that shows the
  model's `SeqShape` (`SeqStatic`), so `tie_Sequence_Parse` applies to what they return.
-/
import ParsleyVerif.Proofs.CoreTieSeq
import ParsleyVerif.Proofs.CoreTieAlt
namespace PV.CoreTie
open PV.FactsCore

theorem seqTok_str : CorePrelude.Go.str "SEQ" = seqTok := by decide +kernel
theorem manyTok_str : CorePrelude.Go.str "MANY" = manyTok := by decide +kernel
theorem sepByTok_str : CorePrelude.Go.str "SEP_BY" = sepByTok := by decide +kernel

theorem agreesAll_get (W : World Context) (cfg : Cfg) (fuel : Nat) :
    ∀ (ps : List Parser) (gs : List G), AgreesAll W cfg fuel ps gs → ps.length = gs.length ∧
      ∀ (d : Nat) (p : Parser) (g : G), ps[d]? = some p → gs[d]? = some g → Agrees W cfg fuel p g := by
  intro ps gs h
  induction h with
  | nil => exact ⟨rfl, fun d p g hp => by simp at hp⟩
  | @cons p g ps gs hpg _ ih =>
    refine ⟨by simp [ih.1], fun d p' g' hp hg => ?_⟩
    cases d with
    | zero => simp at hp hg; subst hp; subst hg; exact hpg
    | succ d => simp at hp hg; exact ih.2 d p' g' hp hg

/-- the look-up closure of SeqOf / SeqTry / SeqFirstOrAll -/
theorem list_lookup (W : World Context) (cfg : Cfg) (fuel : Nat) (ps : List Parser) (gs : List G)
    (hall : AgreesAll W cfg fuel ps gs) (hnn : ∀ p ∈ ps, p.isNil = false) (d : Nat) :
    ∃ h : Parser, (∀ s : Context,
        ((fun (i : Int) => do if decide (i < CorePrelude.Go.len ps) then (do let t2 ← CorePrelude.Go.nth ps i; pure t2) else (do pure CorePrelude.Parser.nil)) : Int → CM Parser) d s = .ok h s) ∧
      (match gs[d]? with
        | none => h = .nil
        | some g => h.isNil = false ∧ Agrees W cfg fuel h g) := by
  obtain ⟨hlen, hget⟩ := agreesAll_get W cfg fuel ps gs hall
  by_cases hd : d < ps.length
  · have hp : ps[d]? = some ps[d] := List.getElem?_eq_getElem hd
    have hg : gs[d]? = some gs[d] := List.getElem?_eq_getElem (by omega)
    refine ⟨ps[d], fun s => ?_, ?_⟩
    · have : ((d : Int) < (ps.length : Int)) := by omega
      simp [CorePrelude.Go.len, CorePrelude.Go.nth, this, hp]
    · rw [hg]; exact ⟨hnn _ (List.getElem_mem hd), hget d _ _ hp hg⟩
  · have hg : gs[d]? = none := List.getElem?_eq_none (by omega)
    refine ⟨.nil, fun s => ?_, by rw [hg]⟩
    have : ¬ ((d : Int) < (ps.length : Int)) := by omega
    simp [CorePrelude.Go.len, this]

theorem decide_eq_beq (a b : Nat) : decide (a = b) = (a == b) := by
  by_cases h : a = b <;> simp [h]

/-- SeqOf / SeqTry / SeqFirstOrAll (no options set) -/
theorem tie_SeqOf (W : World Context) (cfg : Cfg) (fuel : Nat) (ps : List Parser) (gs : List G)
    (hall : AgreesAll W cfg fuel ps gs) (hnn : ∀ p ∈ ps, p.isNil = false) (s : Context) :
    (∃ S sh, SeqOf W ps s = .ok (some S) s ∧ (G.seq .seqOf gs {}).shape = some sh ∧ SeqStatic W cfg fuel sh S) ∧
    (∃ S sh, SeqTry W ps s = .ok (some S) s ∧ (G.seq .seqTry gs {}).shape = some sh ∧ SeqStatic W cfg fuel sh S) ∧
    (∃ S sh, SeqFirstOrAll W ps s = .ok (some S) s ∧ (G.seq .seqFirstOrAll gs {}).shape = some sh ∧ SeqStatic W cfg fuel sh S) := by
  obtain ⟨hlen, -⟩ := agreesAll_get W cfg fuel ps gs hall
  have hl : CorePrelude.Go.len ps = (gs.length : Nat) := by simp [CorePrelude.Go.len, hlen]
  have h1 : ∀ d : Nat, ((d : Int) = 1) = (d = 1) := fun d => propext (Int.natCast_inj (n := 1))
  refine ⟨⟨_, _, rfl, rfl, ?_⟩, ⟨_, _, rfl, rfl, ?_⟩, ⟨_, _, rfl, rfl, ?_⟩⟩ <;>
    refine ⟨seqTok_str, rfl, fun d => list_lookup W cfg fuel ps gs hall hnn d, fun d s => ?_, .inl ⟨rfl, rfl⟩, rfl⟩ <;>
    simp [hl, Int.natCast_inj, Int.natCast_pos, h1, decide_eq_beq]

theorem tie_newMany (W : World Context) (cfg : Cfg) (fuel : Nat) (p : Parser) (g : G) (ae : Bool)
    (hp : Agrees W cfg fuel p g) (hnn : p.isNil = false) (s : Context) :
    ∃ S sh, newMany W p ae s = .ok (some S) s ∧ (G.many g ae {}).shape = some sh ∧ SeqStatic W cfg fuel sh S := by
  refine ⟨_, _, rfl, rfl, manyTok_str, rfl, fun d => ⟨p, fun s => rfl, hnn, hp⟩, fun d s => ?_, .inl ⟨rfl, rfl⟩, rfl⟩
  by_cases h : d > 0
  · have : (d : Int) > 0 := by omega
    simp [h, this]
  · have : ¬ (d : Int) > 0 := by omega
    simp [h, this]

theorem tie_newSepBy (W : World Context) (cfg : Cfg) (fuel : Nat) (pv psep : Parser) (gv gsep : G) (ae : Bool)
    (hv : Agrees W cfg fuel pv gv) (hs : Agrees W cfg fuel psep gsep) (hnv : pv.isNil = false) (hns : psep.isNil = false)
    (s : Context) :
    ∃ S sh, newSepBy W pv psep ae s = .ok (some S) s ∧ (G.sepBy gv gsep ae {}).shape = some sh ∧ SeqStatic W cfg fuel sh S := by
  have hmod : ∀ d : Nat, Int.tmod (d : Int) 2 = ((d % 2 : Nat) : Int) := fun d => by
    rw [Int.tmod_eq_emod_of_nonneg (Int.natCast_nonneg d)]; omega
  refine ⟨_, _, rfl, rfl, sepByTok_str, rfl, fun d => ?_, fun d s => ?_, .inl ⟨rfl, rfl⟩, rfl⟩
  · by_cases h : d % 2 = 0
    · refine ⟨pv, fun s => ?_, ?_⟩
      · simp [hmod, h]
      · simp [h]; exact ⟨hnv, hv⟩
    · have h1 : d % 2 = 1 := by omega
      refine ⟨psep, fun s => ?_, ?_⟩
      · simp [hmod, h1]
      · simp [h]; exact ⟨hns, hs⟩
  · by_cases h0 : d = 0
    · subst h0; cases ae <;> simp
    · have a0 : ¬ (d : Int) = 0 := by omega
      by_cases h : d % 2 = 1
      · simp [hmod, h0, a0, h]
      · have : d % 2 = 0 := by omega
        simp [hmod, h0, a0, h, this]

/-- the setters Name / Token / Bind / HandleResult(ReturnSingle()) -/
theorem tie_setters (W : World Context) (cfg : Cfg) (fuel : Nat) (sh : SeqShape) (S : Sequence)
    (h : SeqStatic W cfg fuel sh S) (s : Context) :
    (∀ nm, ∃ S', Sequence_Name W S nm s = .ok (S', some S') s ∧ SeqStatic W cfg fuel { sh with name := some nm } S') ∧
    (∀ t, ∃ S', Sequence_Token W S t s = .ok (S', some S') s ∧ SeqStatic W cfg fuel { sh with token := t } S') ∧
    (∀ i, ∃ S', Sequence_Bind W S (eInterp i) s = .ok (S', some S') s ∧ SeqStatic W cfg fuel { sh with interp := i } S') ∧
    (∃ S', Sequence_HandleResult W S (some (seqDefaultResultHandler_parse W true)) s = .ok (S', some S') s ∧
      SeqStatic W cfg fuel { sh with single := true } S') := by
  obtain ⟨h1, h2, h3, h4, h5, h6⟩ := h
  refine ⟨fun nm => ⟨{ S with customErr := CorePrelude.NotFoundError nm }, rfl, h1, h2, h3, h4, h5, rfl⟩,
    fun t => ⟨{ S with token := t }, rfl, rfl, h2, h3, h4, h5, h6⟩,
    fun i => ⟨{ S with interpreter := eInterp i }, rfl, h1, rfl, h3, h4, h5, h6⟩,
    ⟨{ S with resultHandler := some (seqDefaultResultHandler_parse W true) }, rfl, h1, h2, h3, h4, .inr ⟨rfl, rfl⟩, h6⟩⟩

end PV.CoreTie
