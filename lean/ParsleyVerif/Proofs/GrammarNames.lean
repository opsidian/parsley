/-
  The names a grammar carries (C06): the (body, name) pairs of its `Name` combinators and the labels of its
  Names and named Sequences, as lists computed from the term; and the lemma that turns the local side
  condition `LocErr` stated with ANY name relations into the one stated with these canonical lists.
-/
import ParsleyVerif.Proofs.RunErr
import ParsleyVerif.Proofs.GInduct
namespace PV
open PV.Text

mutual
/-- the (body, name) pairs of the `Name` combinators inside `g` -/
def G.nameBodies : G → List (G × Bytes)
  | .term _ => []
  | .empty => []
  | .eof => []
  | .ref _ => []
  | .memo _ g => g.nameBodies
  | .any gs => nameBodiesL gs
  | .choice gs => nameBodiesL gs
  | .seq _ gs _ => nameBodiesL gs
  | .many g _ _ => g.nameBodies
  | .sepBy v s _ _ => v.nameBodies ++ s.nameBodies
  | .optional g => g.nameBodies
  | .name g nm => (g, nm) :: g.nameBodies
  | .ltrim g _ => g.nameBodies
  | .rtrim g _ => g.nameBodies
  | .single g => g.nameBodies
  | .suppress g => g.nameBodies
def nameBodiesL : List G → List (G × Bytes)
  | [] => []
  | g :: gs => g.nameBodies ++ nameBodiesL gs
end

mutual
/-- the names carried by the `Name` combinators and the named Sequences inside `g` -/
def G.labels : G → List Bytes
  | .term _ => []
  | .empty => []
  | .eof => []
  | .ref _ => []
  | .memo _ g => g.labels
  | .any gs => labelsL gs
  | .choice gs => labelsL gs
  | .seq _ gs o => o.name.toList ++ labelsL gs
  | .many g _ o => o.name.toList ++ g.labels
  | .sepBy v s _ o => o.name.toList ++ (v.labels ++ s.labels)
  | .optional g => g.labels
  | .name g nm => nm :: g.labels
  | .ltrim g _ => g.labels
  | .rtrim g _ => g.labels
  | .single g => g.labels
  | .suppress g => g.labels
def labelsL : List G → List Bytes
  | [] => []
  | g :: gs => g.labels ++ labelsL gs
end

theorem mem_nameBodiesL {g : G} {gs : List G} : g ∈ gs → ∀ p ∈ g.nameBodies, p ∈ nameBodiesL gs :=
  mem_appendAll fun _ _ => rfl

theorem mem_labelsL {g : G} {gs : List G} : g ∈ gs → ∀ l ∈ g.labels, l ∈ labelsL gs :=
  mem_appendAll fun _ _ => rfl

theorem nameBodies_kid {g k : G} (hk : k ∈ g.kids) : ∀ p ∈ k.nameBodies, p ∈ g.nameBodies := by
  cases g <;> simp only [G.kids, List.mem_cons, List.not_mem_nil, or_false] at hk
  case any gs => exact mem_nameBodiesL hk
  case choice gs => exact mem_nameBodiesL hk
  case seq _ gs _ => exact mem_nameBodiesL hk
  case sepBy v s _ _ =>
    rcases hk with rfl | rfl <;> intro p hp <;> simp only [G.nameBodies, List.mem_append]
    · exact .inl hp
    · exact .inr hp
  case name g nm => subst hk; exact fun p hp => List.mem_cons_of_mem _ hp
  all_goals subst hk; exact fun p hp => hp

theorem labels_kid {g k : G} (hk : k ∈ g.kids) : ∀ l ∈ k.labels, l ∈ g.labels := by
  cases g <;> simp only [G.kids, List.mem_cons, List.not_mem_nil, or_false] at hk
  case any gs => exact mem_labelsL hk
  case choice gs => exact mem_labelsL hk
  case seq _ gs _ => exact fun l hl => List.mem_append_right _ (mem_labelsL hk l hl)
  case many g _ _ => subst hk; exact fun l hl => List.mem_append_right _ hl
  case sepBy v s _ _ =>
    rcases hk with rfl | rfl <;> intro l hl <;> simp only [G.labels, List.mem_append]
    · exact .inr (.inl hl)
    · exact .inr (.inr hl)
  case name g nm => subst hk; exact fun l hl => List.mem_cons_of_mem _ hl
  all_goals subst hk; exact fun l hl => hl

section
variable {cfg : Cfg} {S0 S : G → Bytes → Prop} {Nm0 Nm : Bytes → Prop} {AP : Prop}

/-- the condition at one parser: only the name a Name or a named Sequence carries itself is asked about -/
theorem LocErr_here {g : G} (h : LocErr cfg S0 Nm0 AP g) (hs : ∀ p ∈ g.nameBodies, S p.1 p.2) (hn : ∀ l ∈ g.labels, Nm l) :
    LocErr cfg S Nm AP g := by
  cases g <;> simp only [LocErr] at h ⊢ <;> try exact h
  case name g nm => exact ⟨hs (g, nm) (.head _), hn nm (.head _)⟩
  all_goals exact fun nm hnm => hn nm (List.mem_append.mpr (.inl (Option.mem_toList.mpr hnm)))

/-- `LocErr` with any name relations (e.g. the trivially true ones: then it only says "no trims; a terminal panics,
    a reference dangles only when `AP`") can be re-stated with every relation that contains the grammar's names -/
theorem LocErr_refine : ∀ g : G, g.All (LocErr cfg S0 Nm0 AP) → (∀ p ∈ g.nameBodies, S p.1 p.2) →
    (∀ l ∈ g.labels, Nm l) → g.All (LocErr cfg S Nm AP) :=
  G.induct fun g ih h hs hn => G.All_kids.mpr ⟨LocErr_here (G.All_kids.mp h).1 hs hn, fun k hk =>
    ih k hk (h.kid hk) (fun p hp => hs p (nameBodies_kid hk p hp)) (fun l hl => hn l (labels_kid hk l hl))⟩

theorem LocErrL_refine : ∀ gs : List G, AllList (LocErr cfg S0 Nm0 AP) gs → (∀ p ∈ nameBodiesL gs, S p.1 p.2) →
    (∀ l ∈ labelsL gs, Nm l) → AllList (LocErr cfg S Nm AP) gs :=
  fun gs h hs hn => AllList_iff.mpr fun g hg => LocErr_refine g (AllList_iff.mp h g hg)
    (fun p hp => hs p (mem_nameBodiesL hg p hp)) (fun l hl => hn l (mem_labelsL hg l hl))

end

/-- `Name(b, nm)` occurs in the grammar `g` or in a rule of the environment -/
def NameOf (cfg : Cfg) (g : G) (b : G) (nm : Bytes) : Prop := (b, nm) ∈ g.nameBodies ++ nameBodiesL cfg.env
/-- `nm` is carried by a Name or a named Sequence of the grammar `g` or of a rule of the environment -/
def LabelOf (cfg : Cfg) (g : G) (nm : Bytes) : Prop := nm ∈ g.labels ++ labelsL cfg.env

/-- the side conditions without any mention of names (`LocErr` with the trivially true relations: no trims,
    terminals that may only panic when `AP`, references that may only dangle when `AP`) give the side
    conditions with the canonical name relations, for the grammar and for every rule -/
theorem LocErr_canonical (cfg : Cfg) (AP : Prop) (g : G)
    (hg : g.All (LocErr cfg (fun _ _ => True) (fun _ => True) AP))
    (henv : ∀ g' ∈ cfg.env, g'.All (LocErr cfg (fun _ _ => True) (fun _ => True) AP)) :
    g.All (LocErr cfg (NameOf cfg g) (LabelOf cfg g) AP) ∧
    ∀ g' ∈ cfg.env, g'.All (LocErr cfg (NameOf cfg g) (LabelOf cfg g) AP) := by
  refine ⟨LocErr_refine g hg (fun p hp => ?_) (fun l hl => ?_), fun g' hg' =>
    LocErr_refine g' (henv g' hg') (fun p hp => ?_) (fun l hl => ?_)⟩
  · exact List.mem_append.mpr (.inl hp)
  · exact List.mem_append.mpr (.inl hl)
  · exact List.mem_append.mpr (.inr (mem_nameBodiesL hg' p hp))
  · exact List.mem_append.mpr (.inr (mem_labelsL hg' l hl))

end PV
