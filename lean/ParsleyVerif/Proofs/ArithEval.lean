/-
  C05, evaluation of expression trees.  `arith_eval`: for every fuel an expression tree evaluates to the outcome the
  reference evaluator gives for the expression it denotes, or the evaluator's fuel runs out (only when the fuel does not
  exceed the depth) — so never one of the interpreter's panics.  `refEval_error_at`: a reference error is the position
  of a `/` leaf of the tree, a fact about `refEval`, `exprOf` and the tree alone.
-/
import ParsleyVerif.Spec.Arith
import ParsleyVerif.Spec.Postorder
namespace PV
open PV.Text

/-! `expr` and `term` are one rule at the levels 0 and 1. -/

/-- the operators of level `j`: `'+' | '-'` for `expr`, `'*' | '/'` for `term` -/
def opsAt (j : Nat) : G := if j = 0 then Garith.addop else Garith.mulop

/-- `X_j → X_j op_j X_{j+1} | X_{j+1}` under Memoize `j` -/
theorem Garith.env_level {j : Nat} (hj : j ≤ 1) :
    Garith.env[j]? = some (.memo j (.any [.seq .seqOf [.ref j, opsAt j, .ref (j + 1)] Garith.bin, .ref (j + 1)])) := by
  match j, hj with
  | 0, _ => rfl
  | 1, _ => rfl

theorem opsAt_eq {j : Nat} (hj : j ≤ 1) :
    ∃ c1 c2 o1 o2, opsAt j = .any [Garith.trim (Garith.rn c1), Garith.trim (Garith.rn c2)] ∧
      Op.ofRune c1 = some o1 ∧ Op.ofRune c2 = some o2 ∧ o1.level = j ∧ o2.level = j := by
  match j, hj with
  | 0, _ => exact ⟨43, 45, .add, .sub, rfl, rfl, rfl, rfl, rfl⟩
  | 1, _ => exact ⟨42, 47, .mul, .div, rfl, rfl, rfl, rfl, rfl⟩

theorem arithCustom_left_err (ev : Node → EvalOut) (l op r : Node) (pos q : Nat) (m : Bytes)
    (h : ev l = .err q m) : arithCustom 0 [l, op, r] pos ev = .err q m := by
  simp [arithCustom, h]

theorem arithCustom_left_panic (ev : Node → EvalOut) (l op r : Node) (pos : Nat) (s : String)
    (h : ev l = .panic s) : arithCustom 0 [l, op, r] pos ev = .panic s := by
  simp [arithCustom, h]

theorem arithCustom_right_err (ev : Node → EvalOut) (l op r : Node) (pos q : Nat) (m : Bytes) (a : Int)
    (hl : ev l = .ok (.int a)) (h : ev r = .err q m) : arithCustom 0 [l, op, r] pos ev = .err q m := by
  simp [arithCustom, hl, h]

theorem arithCustom_right_panic (ev : Node → EvalOut) (l op r : Node) (pos : Nat) (s : String) (a : Int)
    (hl : ev l = .ok (.int a)) (h : ev r = .panic s) : arithCustom 0 [l, op, r] pos ev = .panic s := by
  simp [arithCustom, hl, h]

theorem arithCustom_apply (ev : Node → EvalOut) (l r : Node) (pos : Nat) (a b : Int) (tok : Bytes) (c p q : Nat) (o : Op)
    (hl : ev l = .ok (.int a)) (hr : ev r = .ok (.int b)) (hc : Op.ofRune c = some o) :
    arithCustom 0 [l, .term tok (.rune c) p q, r] pos ev = embed (o.apply p a b) := by
  unfold Op.ofRune at hc
  split at hc <;> cases hc
  · simp [arithCustom, hl, hr, Op.apply, embed]
  · simp [arithCustom, hl, hr, Op.apply, embed]
  · simp [arithCustom, hl, hr, Op.apply, embed]
  · simp only [arithCustom, hl, hr, Op.apply]
    by_cases hb : b = 0 <;> simp [hb, embed, divZeroMsg]

theorem depth_nt3 (tk : Bytes) (a b c : Node) (p q : Nat) (i : Interp) :
    (Node.nt tk [a, b, c] p q i).depth = max a.depth (max b.depth c.depth) + 1 := by
  simp only [Node.depth, depthAll, Nat.max_zero]

theorem exprOf_int (tok : Bytes) (v : Int) (p r : Nat) : exprOf (.term tok (.int v) p r) = some (.lit v) := by
  simp [exprOf]

theorem exprOf_paren (tk : Bytes) (lp e rp : Node) (p q : Nat) :
    exprOf (.nt tk [lp, e, rp] p q (.select 1)) = (exprOf e).map .paren := by
  simp only [exprOf, exprOfList]
  cases exprOf e <;> rfl

theorem exprOf_bin (tk tok : Bytes) (l r : Node) (c p' q' p q : Nat) (o : Op) (hc : Op.ofRune c = some o) :
    exprOf (.nt tk [l, .term tok (.rune c) p' q', r] p q (.custom 0)) =
      match exprOf l, exprOf r with
      | some el, some er => some (.bin o el p' er)
      | _, _ => none := by
  simp only [exprOf, exprOfList]
  cases exprOf l <;> cases exprOf r <;> simp only [hc]

theorem exprOf_paren_some {tk : Bytes} {lp e' rp : Node} {p q : Nat} {e : Expr}
    (h : exprOf (.nt tk [lp, e', rp] p q (.select 1)) = some e) : ∃ e1, exprOf e' = some e1 ∧ e = .paren e1 := by
  rw [exprOf_paren] at h
  cases he' : exprOf e' with
  | none => simp [he'] at h
  | some e1 => exact ⟨e1, rfl, by simpa [he'] using h.symm⟩

theorem exprOf_bin_some {tk tok : Bytes} {l r : Node} {c p' q' p q : Nat} {o : Op} (hc : Op.ofRune c = some o) {e : Expr}
    (h : exprOf (.nt tk [l, .term tok (.rune c) p' q', r] p q (.custom 0)) = some e) :
    ∃ el er, exprOf l = some el ∧ exprOf r = some er ∧ e = .bin o el p' er := by
  rw [exprOf_bin _ _ _ _ _ _ _ _ _ _ hc] at h
  cases hel : exprOf l with
  | none => simp [hel] at h
  | some el =>
    cases her : exprOf r with
    | none => simp [hel, her] at h
    | some er => exact ⟨el, er, rfl, rfl, by simpa [hel, her] using h.symm⟩

theorem arith_exprOf_some {f : File} {n : Nat} {x : Node} (h : IsTree f n x) : ∃ e, exprOf x = some e := by
  induction h with
  | int => exact ⟨_, exprOf_int ..⟩
  | paren _ _ _ ih =>
    obtain ⟨e, he⟩ := ih
    exact ⟨.paren e, by rw [exprOf_paren, he]; rfl⟩
  | bin _ hop hc _ _ ihl ihr =>
    obtain ⟨el, hel⟩ := ihl
    obtain ⟨er, her⟩ := ihr
    obtain ⟨p', q', rfl, _⟩ := hop
    exact ⟨_, by rw [exprOf_bin _ _ _ _ _ _ _ _ _ _ hc, hel, her]⟩
  | up _ ih => exact ih

theorem DivLeafAt.child {f : File} {tk : Bytes} {cs : List Node} {p q : Nat} {i : Interp} {c : Node} {d : Nat}
    (hm : c ∈ cs) (h : DivLeafAt f c d) : DivLeafAt f (.nt tk cs p q i) d := by
  obtain ⟨r, hs, ha⟩ := h
  exact ⟨r, .child hm hs, ha⟩

theorem Op.apply_error {o : Op} {p q : Nat} {a b : Int} (h : o.apply p a b = .error q) : o = .div ∧ q = p := by
  cases o <;> simp only [Op.apply] at h <;> try cases h
  split at h <;> cases h
  exact ⟨rfl, rfl⟩

/-- a reference error is the position of a `/` leaf of the tree: only `Op.div` fails, at its own operator byte -/
theorem refEval_error_at {f : File} {n : Nat} {x : Node} (h : IsTree f n x) :
    ∀ e q, exprOf x = some e → refEval e = .error q → DivLeafAt f x q := by
  induction h with
  | int => intro e q he hq; rw [exprOf_int] at he; cases he; cases hq
  | @paren tk lp e' rp p q _ _ _ ih =>
    intro e d he hq
    obtain ⟨e1, he', rfl⟩ := exprOf_paren_some he
    exact (ih e1 d he' hq).child (by simp)
  | @bin n tk l c o op r p q _ hop hc _ _ ihl ihr =>
    intro e d he hq
    obtain ⟨p', q', rfl, hat⟩ := hop
    obtain ⟨el, er, hel, her, rfl⟩ := exprOf_bin_some hc he
    simp only [refEval] at hq
    cases hl : refEval el with
    | error q1 => rw [hl] at hq; cases hq; exact (ihl el _ hel hl).child (by simp)
    | ok a =>
      cases hr : refEval er with
      | error q2 => rw [hl, hr] at hq; cases hq; exact (ihr er _ her hr).child (by simp)
      | ok b =>
        rw [hl, hr] at hq
        obtain ⟨rfl, rfl⟩ := Op.apply_error hq
        have hc47 : c = 47 := by
          unfold Op.ofRune at hc
          split at hc <;> first | rfl | cases hc
        subst hc47
        exact ⟨q', .child (by simp) .refl, hat⟩
  | up _ ih => exact ih

theorem arith_eval {f : File} {n : Nat} {x : Node} (h : IsTree f n x) :
    ∀ e, exprOf x = some e → ∀ fuel, evalNode arithCustom fuel x = embed (refEval e) ∨
      (evalNode arithCustom fuel x = .panic "out of fuel" ∧ fuel ≤ x.depth) := by
  induction h with
  | int =>
    intro e he fuel
    rw [exprOf_int] at he
    cases he
    cases fuel with
    | zero => exact .inr ⟨rfl, Nat.zero_le _⟩
    | succ k => exact .inl (by simp [evalNode, Val.toV, refEval, embed])
  | @paren tk lp e' rp p q _ _ _ ih =>
    intro e he fuel
    obtain ⟨e1, he', rfl⟩ := exprOf_paren_some he
    cases fuel with
    | zero => exact .inr ⟨rfl, Nat.zero_le _⟩
    | succ k =>
      have he : evalNode arithCustom (k + 1) (.nt tk [lp, e', rp] p q (.select 1)) = evalNode arithCustom k e' := by
        simp [evalNode]
      rw [he, depth_nt3]
      exact (ih e1 he' k).imp id (fun h => ⟨h.1, by omega⟩)
  | @bin n tk l c o op r p q _ hop hc _ _ ihl ihr =>
    intro e he fuel
    obtain ⟨p', q', rfl, _⟩ := hop
    obtain ⟨el, er, hel, her, rfl⟩ := exprOf_bin_some hc he
    cases fuel with
    | zero => exact .inr ⟨rfl, Nat.zero_le _⟩
    | succ k =>
      simp only [evalNode, refEval]
      rw [depth_nt3]
      rcases ihl el hel k with h1 | ⟨h1, hk⟩
      · cases hl : refEval el with
        | error q1 =>
          rw [hl] at h1
          exact .inl (arithCustom_left_err _ _ _ _ _ _ _ h1)
        | ok a =>
          rw [hl] at h1
          rcases ihr er her k with h2 | ⟨h2, hk⟩
          · cases hr : refEval er with
            | error q2 =>
              rw [hr] at h2
              exact .inl (arithCustom_right_err _ _ _ _ _ _ _ a h1 h2)
            | ok b =>
              rw [hr] at h2
              exact .inl (arithCustom_apply _ _ _ _ a b _ _ _ _ _ h1 h2 hc)
          · exact .inr ⟨arithCustom_right_panic _ _ _ _ _ _ a h1 h2, by omega⟩
      · exact .inr ⟨arithCustom_left_panic _ _ _ _ _ _ h1, by omega⟩
  | up _ ih => exact ih

theorem arith_value_any {f : File} {n : Nat} {x : Node} (h : IsTree f n x) (e : Expr) (he : exprOf x = some e) (fuel : Nat) :
    evalNode arithCustom fuel x = embed (refEval e) ∨ evalNode arithCustom fuel x = .panic "out of fuel" :=
  (arith_eval h e he fuel).imp id And.left

theorem arith_value {f : File} {n : Nat} {x : Node} (h : IsTree f n x) (e : Expr) (he : exprOf x = some e)
    (fuel : Nat) (hd : x.depth < fuel) : evalNode arithCustom fuel x = embed (refEval e) :=
  (arith_eval h e he fuel).resolve_right (fun h => by omega)

end PV
