/-
  THE COMBINATORIAL HALF (C01, completeness, half B) — no `run` here.

  Every end position a derivation reaches is reached by a CURTAILED derivation from the zero counters (`covers_ends`),
  and every tree whose derivations never nest the same (memo index, start, end) twice is curtailed-derivable as it
  is (`covers_trees`).  Both are ONE walk (`cut`), which rebuilds the derivation and keeps of the tree either its end
  or all of it (`Rebuilt`).  It is made once, for derivations with a SIZE over the monotone operators, the two
  trims, and LEAVES — parsers that are not entered and whose trees are given (`Leaves`; none for the grammars of
  Spec/DerivesC.lean and Spec/DerivesW.lean, the low leaves for the stratified grammars of Spec/Strat.lean) — and the
  three readings are instances (Proofs/CurtailCover.lean, Proofs/C1TCover.lean, Proofs/StratCut.lean).

  Method.  Walking down a derivation we carry, next to the real counters `c`, a ghost `bound k` = the end of the
  innermost enclosing `memo k` that started at the current position (`hi + 1` when there is none).  Nested
  activations that start at the same position have ends in `[pos, hi]`; as long as the ends strictly shrink,
  `c k + bound k ≤ hi + 1` holds and the curtailment test `c k ≤ remaining pos + slack` passes.  When a nested
  `memo k` has the SAME end as the enclosing one, the enclosing sub-derivation is replaced by the (strictly smaller)
  nested one and the walk restarts there (strong induction on the size) — this is `Fail`, which travels up to the
  enclosing activation; for trees it is a nesting that acyclicity excludes.  After input has been consumed the
  counters and the bounds start afresh.

  LeftTrim hands the counters of the position BEFORE the whitespace to its operand, which then runs at a later
  position (with less input remaining) under counters it did not earn there.  One more ghost, a PHASE `s ∈ {0, 1}`:
  between two resets of the counters the evaluation visits at most two positions: `p`, and — after ONE LeftTrim that
  skipped the maximal whitespace run — `p' = p + run`, where no whitespace is left, so that no further LeftTrim
  moves (`skip_idem`).  Phase 0: nested activations of `memo k` start at `p`; their ends strictly shrink (or the
  derivation is cut), `c k + bound k ≤ hi + 1`.  At the move every bound is RELAXED by one (`bound k + 1`): the
  first activation of `k` at `p'` may end exactly where the innermost activation at `p` ends — it is NOT a
  repetition, the starts differ, nothing can be cut.  Phase 1 therefore only has `c k + bound k ≤ hi + 2`, and the
  curtailment test `c k ≤ remaining p' + 1` still passes because of the `+ 1` in combinator/memoize.go
  (`leftRecCtx.Get(parserIndex) > Remaining(pos) + 1`): the slack that the grammar without trims never needs (there
  `c k ≤ remaining` always) is exactly what carrying the counters across whitespace costs.  The bound is attained:
  `P → P 'b' | LeftTrim(P) | ε` on " b" enters `P` at 2 with counter 2 = remaining 2 + 1 (test in Audit/C01W.lean;
  with the `+ 1` removed from a scratch copy of combinator/memoize.go the Go library rejects " b" under Sentence(P)).
-/
import ParsleyVerif.Proofs.C1TBasics
import ParsleyVerif.Proofs.RunPos
namespace PV
open PV.Text

theorem InFile_of_le {cfg : Cfg} {p q : Nat} (hp : InFile cfg.file p) (h1 : p ≤ q) (h2 : q ≤ cfg.hi) :
    InFile cfg.file q := by
  unfold InFile Cfg.hi at *
  omega

theorem remaining_eq {cfg : Cfg} {pos : Nat} (h : InFile cfg.file pos) : remaining cfg.file pos = cfg.hi - pos := by
  unfold InFile at h
  unfold remaining Cfg.hi
  omega

end PV

namespace PV.Cut
open PV PV.Text PV.C1T

/-- parsers that a derivation does not enter (`is`) and whose trees are given (`tree`) -/
structure Leaves where
  is : G → Prop
  tree : G → Nat → Node → Prop

def noLeaves : Leaves := ⟨fun _ => False, fun _ _ _ => False⟩

mutual
inductive DN (cfg : Cfg) (L : Leaves) : Nat → G → Nat → Node → Prop
  | leaf {g pos x} : L.is g → L.tree g pos x → DN cfg L 1 g pos x
  | term {t pos n} : t.parse cfg.params cfg.file pos = .node n → DN cfg L 1 (.term t) pos n
  | empty {pos} : DN cfg L 1 .empty pos (.empty pos)
  | ref {m k g pos x} : ¬ L.is (.ref k) → cfg.env[k]? = some g → DN cfg L m g pos x → DN cfg L (m + 1) (.ref k) pos x
  | memo {m i g pos x} : ¬ L.is (.memo i g) → DN cfg L m g pos x → DN cfg L (m + 1) (.memo i g) pos x
  | any {m gs g pos x} : g ∈ gs → DN cfg L m g pos x → DN cfg L (m + 1) (.any gs) pos x
  | optSome {m g pos x} : DN cfg L m g pos x → DN cfg L (m + 1) (.optional g) pos x
  | optNone {g pos} : DN cfg L 1 (.optional g) pos (.empty pos)
  | seqOf {m gs o sh pos nodes} : (G.seq .seqOf gs o).shape = some sh → DSN cfg L m sh 0 pos nodes →
      sh.lenCheck nodes.length = true → DN cfg L (m + 1) (.seq .seqOf gs o) pos (handleResult sh pos nodes)
  | ltrim {n g m pos x} : (skipWhitespaces cfg.file pos m).2 = none →
      DN cfg L n g (skipWhitespaces cfg.file pos m).1 x → DN cfg L (n + 1) (.ltrim g m) pos x
  | rtrim {n g m pos x} : DN cfg L n g pos x → movedErr cfg m x = none →
      DN cfg L (n + 1) (.rtrim g m) pos (moved cfg m x)
inductive DSN (cfg : Cfg) (L : Leaves) : Nat → SeqShape → Nat → Nat → List Node → Prop
  | nil {sh d pos} : DSN cfg L 0 sh d pos []
  | cons {a b sh d pos g n rest} : sh.lookup d = some g → DN cfg L a g pos n →
      DSN cfg L b sh (d + 1) n.rpos rest → DSN cfg L (a + b + 1) sh d pos (n :: rest)
end

/-- the parsers the argument speaks about: a predicate closed under the sub-parsers a derivation visits; terminals
    and leaves stay within the file and do not build an EndNode -/
structure Closed (cfg : Cfg) (L : Leaves) (Sc : G → Prop) : Prop where
  term : ∀ {t}, Sc (.term t) → TermGood cfg t
  leaf : ∀ {g pos x}, Sc g → L.is g → L.tree g pos x → InFile cfg.file pos →
    pos ≤ x.rpos ∧ x.rpos ≤ cfg.hi ∧ NotEof x
  ref : ∀ {k g}, Sc (.ref k) → ¬ L.is (.ref k) → cfg.env[k]? = some g → Sc g
  memo : ∀ {i g}, Sc (.memo i g) → ¬ L.is (.memo i g) → Sc g
  any : ∀ {gs}, Sc (.any gs) → ∀ g ∈ gs, Sc g
  optional : ∀ {g}, Sc (.optional g) → Sc g
  ltrim : ∀ {g m}, Sc (.ltrim g m) → Sc g
  rtrim : ∀ {g m}, Sc (.rtrim g m) → Sc g
  lookup : ∀ {gs o sh}, Sc (.seq .seqOf gs o) → (G.seq .seqOf gs o).shape = some sh →
    ∀ d g', sh.lookup d = some g' → Sc g'

theorem Closed.withAll {cfg : Cfg} {L : Leaves} {Sc : G → Prop} (h : Closed cfg L Sc) (P : G → Prop)
    (henv : ∀ g' ∈ cfg.env, g'.All P) : Closed cfg L (fun g => g.All P ∧ Sc g) where
  term hg := h.term hg.2
  leaf hg := h.leaf hg.2
  ref hg hl hk := ⟨henv _ (List.mem_of_getElem? hk), h.ref hg.2 hl hk⟩
  memo hg hl := ⟨hg.1.kid (.head _), h.memo hg.2 hl⟩
  any hg g hm := ⟨hg.1.kid hm, h.any hg.2 g hm⟩
  optional hg := ⟨hg.1.kid (.head _), h.optional hg.2⟩
  ltrim hg := ⟨hg.1.kid (.head _), h.ltrim hg.2⟩
  rtrim hg := ⟨hg.1.kid (.head _), h.rtrim hg.2⟩
  lookup hg hs d g' hl := ⟨shape_lookup_all hg.1 hs d g' hl, h.lookup hg.2 hs d g' hl⟩

/-- curtailed derivations (cf. `DerivesC`, `DerivesCW`, `DerivesSC`): a relation `C` (with `CS` for chains) closed
    under the rules — `memo i` is entered only while `c i ≤ remaining pos + curtailSlack`, LeftTrim carries the
    counters, a consuming sequence element resets them -/
structure Curtailed (cfg : Cfg) (L : Leaves) (Sc : G → Prop) (C : (Nat → Nat) → G → Nat → Node → Prop)
    (CS : (Nat → Nat) → SeqShape → Nat → Nat → List Node → Prop) : Prop where
  leaf : ∀ {c g pos x}, L.is g → L.tree g pos x → C c g pos x
  term : ∀ {c t pos n}, t.parse cfg.params cfg.file pos = .node n → C c (.term t) pos n
  empty : ∀ {c pos}, C c .empty pos (.empty pos)
  ref : ∀ {c k g pos x}, ¬ L.is (.ref k) → cfg.env[k]? = some g → C c g pos x → C c (.ref k) pos x
  memo : ∀ {c i g pos x}, ¬ L.is (.memo i g) → c i ≤ remaining cfg.file pos + Facts.curtailSlack →
    C (bump c i) g pos x → C c (.memo i g) pos x
  any : ∀ {c gs g pos x}, g ∈ gs → C c g pos x → C c (.any gs) pos x
  optSome : ∀ {c g pos x}, C c g pos x → C c (.optional g) pos x
  optNone : ∀ {c g pos}, C c (.optional g) pos (.empty pos)
  seqOf : ∀ {c gs o sh pos nodes}, (G.seq .seqOf gs o).shape = some sh → CS c sh 0 pos nodes →
    sh.lenCheck nodes.length = true → C c (.seq .seqOf gs o) pos (handleResult sh pos nodes)
  ltrim : ∀ {c g m pos x}, Sc (.ltrim g m) → (skipWhitespaces cfg.file pos m).2 = none →
    C c g (skipWhitespaces cfg.file pos m).1 x → C c (.ltrim g m) pos x
  rtrim : ∀ {c g m pos x}, Sc (.rtrim g m) → C c g pos x → movedErr cfg m x = none →
    C c (.rtrim g m) pos (moved cfg m x)
  nil : ∀ {c sh d pos}, CS c sh d pos []
  cons : ∀ {c sh d pos g n rest}, sh.lookup d = some g → C c g pos n →
    CS (if n.rpos > pos then zeroC else c) sh (d + 1) n.rpos rest → CS c sh d pos (n :: rest)

theorem InFile_skip {cfg : Cfg} {pos : Nat} (hin : InFile cfg.file pos) (m : WsMode) :
    pos ≤ (skipWhitespaces cfg.file pos m).1 ∧ InFile cfg.file (skipWhitespaces cfg.file pos m).1 := by
  have hb := skipWs_bounds cfg.file pos m hin
  exact ⟨hb.1, by have := hin.1; omega, hb.2⟩

variable {cfg : Cfg} {bodyOf : Nat → G} {L : Leaves} {Sc : G → Prop} {C : (Nat → Nat) → G → Nat → Node → Prop}
  {CS : (Nat → Nat) → SeqShape → Nat → Nat → List Node → Prop}

/-- every `Memoize` index wraps one parser -/
def OneBody (bodyOf : Nat → G) (L : Leaves) (Sc : G → Prop) : Prop :=
  ∀ {i g}, Sc (.memo i g) → ¬ L.is (.memo i g) → g = bodyOf i

theorem dn_pos (hS : Closed cfg L Sc) : ∀ n,
    (∀ g pos x, Sc g → InFile cfg.file pos → DN cfg L n g pos x → pos ≤ x.rpos ∧ x.rpos ≤ cfg.hi ∧ NotEof x) ∧
    (∀ sh d pos nodes, (∀ d g', sh.lookup d = some g' → Sc g') → InFile cfg.file pos → DSN cfg L n sh d pos nodes →
      pos ≤ endOf pos nodes ∧ endOf pos nodes ≤ cfg.hi ∧ ∀ x ∈ nodes, NotEof x) := by
  intro n
  induction n using Nat.strongRecOn with
  | _ n ih =>
    refine ⟨?_, ?_⟩
    · intro g pos x hg hin h
      have hhi : pos ≤ cfg.hi := hin.2
      cases h with
      | leaf hl ht => exact hS.leaf hg hl ht hin
      | term hp =>
        obtain ⟨h1, h2⟩ := (hS.term hg pos hin).1 _ hp
        have := Node.WF_bounds cfg.hi _ h2
        obtain ⟨tok, v, r, rfl⟩ := Terminal.parse_node _ _ _ _ _ hp
        exact ⟨by omega, this.2, fun p hp' => nomatch hp'⟩
      | empty => exact ⟨Nat.le_refl _, hhi, fun p hp' => nomatch hp'⟩
      | ref hl hk hd => exact (ih _ (by omega)).1 _ _ _ (hS.ref hg hl hk) hin hd
      | memo hl hd => exact (ih _ (by omega)).1 _ _ _ (hS.memo hg hl) hin hd
      | any hm hd => exact (ih _ (by omega)).1 _ _ _ (hS.any hg _ hm) hin hd
      | optSome hd => exact (ih _ (by omega)).1 _ _ _ (hS.optional hg) hin hd
      | optNone => exact ⟨Nat.le_refl _, hhi, fun p hp' => nomatch hp'⟩
      | seqOf hs hds hl =>
        rw [handleResult_rpos]
        obtain ⟨a1, a2, a3⟩ := (ih _ (by omega)).2 _ _ _ _ (hS.lookup hg hs) hin hds
        exact ⟨a1, a2, handleResult_notEof _ _ _ a3⟩
      | ltrim hws hd =>
        rename_i n' g' m
        obtain ⟨b1, hin'⟩ := InFile_skip hin m
        obtain ⟨a1, a2, a3⟩ := (ih _ (by omega)).1 _ _ _ (hS.ltrim hg) hin' hd
        exact ⟨by omega, a2, a3⟩
      | rtrim hd hok =>
        rename_i n' g' m x'
        obtain ⟨a1, a2, a3⟩ := (ih _ (by omega)).1 _ _ _ (hS.rtrim hg) hin hd
        obtain ⟨b1, hin'⟩ := InFile_skip (InFile_of_le hin a1 a2) m
        rw [moved_rpos cfg m x' a3]
        exact ⟨by omega, hin'.2, moved_notEof cfg m x' a3⟩
    · intro sh d pos nodes hg hin h
      cases h with
      | nil => exact ⟨Nat.le_refl _, hin.2, fun x hx => nomatch hx⟩
      | cons hl hx hrest =>
        obtain ⟨p1, p2, p3⟩ := (ih _ (by omega)).1 _ _ _ (hg _ _ hl) hin hx
        obtain ⟨q1, q2, q3⟩ := (ih _ (by omega)).2 _ _ _ _ hg (InFile_of_le hin p1 p2) hrest
        rw [endOf_cons]
        refine ⟨by omega, q2, ?_⟩
        intro y hy
        cases hy with
        | head => exact p3
        | tail _ hm => exact q3 y hm

/-- the bound at a position where no memoized parser is active yet -/
def topB (cfg : Cfg) : Nat → Nat := fun _ => cfg.hi + 1

/-- the end of the innermost activation of `i` becomes `e` -/
def setB (bound : Nat → Nat) (i e : Nat) : Nat → Nat := fun k => if k = i then e else bound k

/-- every bound relaxed by one: what a LeftTrim that skipped whitespace does to the ghost -/
def relaxB (bound : Nat → Nat) : Nat → Nat := fun k => bound k + 1

/-- no whitespace at `pos`: SkipWhitespaces stays there, whatever the mode -/
def NoWs (cfg : Cfg) (pos : Nat) : Prop := ∀ m, (skipWhitespaces cfg.file pos m).1 = pos

/-- what the walk keeps: the counters against the bounds, in phase `s`, and the bounds against the end `e` of the tree
    being rebuilt -/
structure Ghost (cfg : Cfg) (c bound : Nat → Nat) (s pos e : Nat) : Prop where
  inv : ∀ k, c k + bound k ≤ cfg.hi + 1 + s
  phase : s ≤ 1
  noWs : s = 1 → NoWs cfg pos
  fits : ∀ k, e ≤ bound k

theorem Ghost.top (cfg : Cfg) {pos e : Nat} (he : e ≤ cfg.hi) : Ghost cfg zeroC (topB cfg) 0 pos e :=
  ⟨fun k => (by simp [zeroC, topB]), Nat.zero_le _, fun h => (nomatch h), fun k => by simp only [topB]; omega⟩

theorem Ghost.le {c bound : Nat → Nat} {s pos e e' : Nat} (h : Ghost cfg c bound s pos e) (he : e' ≤ e) :
    Ghost cfg c bound s pos e' :=
  ⟨h.inv, h.phase, h.noWs, fun k => Nat.le_trans he (h.fits k)⟩

theorem Ghost.guard {c bound : Nat → Nat} {s pos e i : Nat} (h : Ghost cfg c bound s pos e) (hin : InFile cfg.file pos)
    (hp : pos ≤ e) (hlt : e < bound i) : c i ≤ remaining cfg.file pos + Facts.curtailSlack := by
  rw [remaining_eq hin]
  have := h.inv i
  have := h.phase
  have : Facts.curtailSlack = 1 := rfl
  have := hin.2
  omega

/-- entering `memo i` whose tree ends at `e`, strictly before the enclosing activation's end -/
theorem Ghost.enter {c bound : Nat → Nat} {s pos e i : Nat} (h : Ghost cfg c bound s pos e) (hlt : e < bound i) :
    Ghost cfg (bump c i) (setB bound i e) s pos e := by
  refine ⟨fun k => ?_, h.phase, h.noWs, fun k => ?_⟩
  · by_cases hk : k = i
    · subst hk; simp only [bump, setB, ↓reduceIte]; have := h.inv k; omega
    · simp only [bump, setB, hk, ↓reduceIte]; exact h.inv k
  · by_cases hk : k = i
    · subst hk; simp only [setB, ↓reduceIte]; exact Nat.le_refl _
    · simp only [setB, hk, ↓reduceIte]; exact h.fits k

/-- a LeftTrim that skipped whitespace: phase 0 (in phase 1 nothing is left to skip), every bound relaxed -/
theorem Ghost.move {c bound : Nat → Nat} {s pos e : Nat} {m : WsMode} (h : Ghost cfg c bound s pos e)
    (hin : InFile cfg.file pos) (hmv : (skipWhitespaces cfg.file pos m).1 ≠ pos) :
    s = 0 ∧ Ghost cfg c (relaxB bound) 1 (skipWhitespaces cfg.file pos m).1 e := by
  have hs0 : s = 0 := by
    rcases Nat.lt_or_ge s 1 with h1 | h1
    · omega
    · exact absurd (h.noWs (by have := h.phase; omega) m) hmv
  subst hs0
  exact ⟨rfl, fun k => by have := h.inv k; simp only [relaxB]; omega, Nat.le_refl _,
    fun _ m' => skip_idem cfg.file pos m m' hin, fun k => by have := h.fits k; simp only [relaxB]; omega⟩

/-- a strictly smaller derivation of the span (same start, same end) of the enclosing activation of `k`, found at or
    below the end `e` of the tree being rebuilt -/
def Fail (cfg : Cfg) (L : Leaves) (Sc : G → Prop) (n pos : Nat) (bound : Nat → Nat) (e k : Nat) : Prop :=
  ∃ body n' z, n' ≤ n ∧ Sc (.memo k body) ∧ ¬ L.is (.memo k body) ∧ DN cfg L n' (.memo k body) pos z ∧
    z.rpos = bound k ∧ z.rpos ≤ e

theorem Fail.mono {n m pos : Nat} {bound : Nat → Nat} {e e' k : Nat}
    (h : Fail cfg L Sc n pos bound e k) (hnm : n ≤ m) (he : e ≤ e') : Fail cfg L Sc m pos bound e' k := by
  obtain ⟨body, n', z, h1, h2, h3, h4, h5, h6⟩ := h
  exact ⟨body, n', z, by omega, h2, h3, h4, h5, by omega⟩

/-- a repetition reported against the bounds of an empty stack, or against relaxed bounds, would end beyond the tree
    it lies in -/
theorem Fail.absurd_of_lt {n pos : Nat} {bound : Nat → Nat} {e k : Nat} (h : Fail cfg L Sc n pos bound e k)
    (hb : e < bound k) : False := by
  obtain ⟨_, _, z, _, _, _, _, f4, f5⟩ := h
  omega

/-- what the walk keeps of a tree (`R`) and of a chain (`RS`) when it rebuilds it: the end for `covers_ends`, everything
    for `covers_trees` -/
structure Rebuilt (cfg : Cfg) (R : Node → Node → Prop) (RS : List Node → List Node → Prop) : Prop where
  leaf : ∀ {x}, NotEof x → R x x
  rpos : ∀ {x y}, R x y → y.rpos = x.rpos
  seq : ∀ {sh pos ns ns'}, RS ns ns' → R (handleResult sh pos ns) (handleResult sh pos ns') ∧ ns'.length = ns.length
  moved : ∀ {m x y}, NotEof x → R x y → movedErr cfg m x = none →
    movedErr cfg m y = none ∧ R (moved cfg m x) (moved cfg m y)
  nil : RS [] []
  cons : ∀ {x y rest rest'}, R x y → RS rest rest' → RS (x :: rest) (y :: rest')

/-- what travels up next to a repetition.  `Cont k e g pos x` is to say: the tree `x` has a derivation
    from `g` at `pos` in which — on the part of it that still starts at `pos` (through references, memoized bodies,
    alternatives, options, sequence elements preceded by zero-width elements only, a LeftTrim that skipped nothing, a
    RightTrim) — a `memo k` node spans `pos … e`.  Only the closure of `Cont` under these rules is used. -/
structure Nesting (cfg : Cfg) (L : Leaves) (Sc : G → Prop) (Cont : Nat → Nat → G → Nat → Node → Prop)
    (ContS : Nat → Nat → SeqShape → Nat → Nat → List Node → Prop) : Prop where
  here : ∀ {n k e body pos x}, Sc (.memo k body) → ¬ L.is (.memo k body) → DN cfg L n (.memo k body) pos x →
    x.rpos = e → Cont k e (.memo k body) pos x
  ref : ∀ {k e r g pos x}, ¬ L.is (.ref r) → cfg.env[r]? = some g → Cont k e g pos x → Cont k e (.ref r) pos x
  memo : ∀ {k e i g pos x}, ¬ L.is (.memo i g) → Cont k e g pos x → Cont k e (.memo i g) pos x
  any : ∀ {k e gs g pos x}, g ∈ gs → Cont k e g pos x → Cont k e (.any gs) pos x
  optSome : ∀ {k e g pos x}, Cont k e g pos x → Cont k e (.optional g) pos x
  seqOf : ∀ {k e gs o sh pos nodes}, (G.seq .seqOf gs o).shape = some sh → ContS k e sh 0 pos nodes →
    sh.lenCheck nodes.length = true → Cont k e (.seq .seqOf gs o) pos (handleResult sh pos nodes)
  ltrim : ∀ {k e g m pos x}, Sc (.ltrim g m) → (skipWhitespaces cfg.file pos m).2 = none →
    (skipWhitespaces cfg.file pos m).1 = pos → Cont k e g pos x → Cont k e (.ltrim g m) pos x
  rtrim : ∀ {k e g m pos x}, Sc (.rtrim g m) → Cont k e g pos x → movedErr cfg m x = none →
    Cont k e (.rtrim g m) pos (moved cfg m x)
  head : ∀ {k e b sh d pos g n rest}, (∀ d g', sh.lookup d = some g' → Sc g') → sh.lookup d = some g →
    Cont k e g pos n → DSN cfg L b sh (d + 1) n.rpos rest → ContS k e sh d pos (n :: rest)
  tail : ∀ {k e a sh d pos g n rest}, Sc g → sh.lookup d = some g → DN cfg L a g pos n → n.rpos = pos →
    ContS k e sh (d + 1) n.rpos rest → ContS k e sh d pos (n :: rest)

/-- **the cut walk.**  A derivation is rebuilt as a curtailed one under the counters `c` that the ghost `bound` vouches
    for — or a repetition is reported: a smaller derivation of the span of an enclosing activation `k` (`Fail`), with the
    nesting that leads to it (`Cont`).  The owner of a reported repetition (`hown`) either knows that such a nesting does
    not exist (trees: acyclicity), or only keeps the end of the tree and restarts on the smaller derivation (ends). -/
theorem _root_.PV.cut {R : Node → Node → Prop} {RS : List Node → List Node → Prop}
    {Cont : Nat → Nat → G → Nat → Node → Prop} {ContS : Nat → Nat → SeqShape → Nat → Nat → List Node → Prop}
    (hS : Closed cfg L Sc) (hB : OneBody bodyOf L Sc) (hC : Curtailed cfg L Sc C CS) (hR : Rebuilt cfg R RS)
    (hN : Nesting cfg L Sc Cont ContS)
    (hown : (∀ k body pos x, ¬ L.is (.memo k body) → InFile cfg.file pos → ¬ Cont k x.rpos (bodyOf k) pos x) ∨
      ((∀ x y z, z.rpos = x.rpos → R z y → R x y) ∧ ∀ k e g pos x, Cont k e g pos x)) : ∀ n,
    (∀ g pos x (c bound : Nat → Nat) (s : Nat), Sc g → InFile cfg.file pos → DN cfg L n g pos x →
      Ghost cfg c bound s pos x.rpos →
      (∃ y, C c g pos y ∧ R x y) ∨ ∃ k, Fail cfg L Sc n pos bound x.rpos k ∧ Cont k (bound k) g pos x) ∧
    (∀ sh d pos nodes (c bound : Nat → Nat) (s : Nat), (∀ d g', sh.lookup d = some g' → Sc g') →
      InFile cfg.file pos → DSN cfg L n sh d pos nodes → Ghost cfg c bound s pos (endOf pos nodes) →
      (∃ nodes', CS c sh d pos nodes' ∧ RS nodes nodes') ∨
        ∃ k, Fail cfg L Sc n pos bound (endOf pos nodes) k ∧ ContS k (bound k) sh d pos nodes) := by
  intro n
  induction n using Nat.strongRecOn with
  | _ n ih =>
    -- a rule with one premise at the same position and with the same tree
    have pass : ∀ {m g g' pos x c bound s}, m < n → Sc g' → InFile cfg.file pos → DN cfg L m g' pos x →
        Ghost cfg c bound s pos x.rpos → (∀ y, C c g' pos y → C c g pos y) →
        (∀ k e, Cont k e g' pos x → Cont k e g pos x) →
        (∃ y, C c g pos y ∧ R x y) ∨ ∃ k, Fail cfg L Sc n pos bound x.rpos k ∧ Cont k (bound k) g pos x := by
      intro m g g' pos x c bound s hm hg hin hd hgh hrule hcont
      cases (ih m hm).1 _ _ _ c bound s hg hin hd hgh with
      | inl h1 => obtain ⟨y, hy, hr⟩ := h1; exact .inl ⟨y, hrule y hy, hr⟩
      | inr h1 => obtain ⟨k, f, ct⟩ := h1; exact .inr ⟨k, f.mono (by omega) (Nat.le_refl _), hcont _ _ ct⟩
    refine ⟨?_, ?_⟩
    · intro g pos x c bound s hg hin h hgh
      have hx := (dn_pos hS n).1 _ _ _ hg hin h
      cases h with
      | leaf hl ht => exact .inl ⟨_, hC.leaf hl ht, hR.leaf hx.2.2⟩
      | term hp => exact .inl ⟨_, hC.term hp, hR.leaf hx.2.2⟩
      | empty => exact .inl ⟨_, hC.empty, hR.leaf hx.2.2⟩
      | optNone => exact .inl ⟨_, hC.optNone, hR.leaf hx.2.2⟩
      | ref hl hk hd =>
        exact pass (by omega) (hS.ref hg hl hk) hin hd hgh (fun _ hy => hC.ref hl hk hy) (fun _ _ => hN.ref hl hk)
      | any hm hd => exact pass (by omega) (hS.any hg _ hm) hin hd hgh (fun _ hy => hC.any hm hy) (fun _ _ => hN.any hm)
      | optSome hd => exact pass (by omega) (hS.optional hg) hin hd hgh (fun _ hy => hC.optSome hy) (fun _ _ => hN.optSome)
      | seqOf hs hds hl =>
        rw [handleResult_rpos] at hgh ⊢
        cases (ih _ (by omega)).2 _ _ _ _ c bound s (hS.lookup hg hs) hin hds hgh with
        | inl h1 =>
          obtain ⟨nodes', h2, h3⟩ := h1
          obtain ⟨r1, r2⟩ := hR.seq (sh := ‹SeqShape›) (pos := pos) h3
          exact .inl ⟨_, hC.seqOf hs h2 (by rw [r2]; exact hl), r1⟩
        | inr h1 => obtain ⟨k, f, ct⟩ := h1; exact .inr ⟨k, f.mono (by omega) (Nat.le_refl _), hN.seqOf hs ct hl⟩
      | ltrim hws hd =>
        rename_i n' g' m
        obtain ⟨b1, hin'⟩ := InFile_skip hin m
        by_cases hmv : (skipWhitespaces cfg.file pos m).1 = pos
        · -- nothing skipped: same position, same ghosts
          cases (ih _ (by omega)).1 _ _ _ c bound s (hS.ltrim hg) hin' hd (hmv.symm ▸ hgh) with
          | inl h1 => obtain ⟨y, hy, hr⟩ := h1; exact .inl ⟨y, hC.ltrim hg hws hy, hr⟩
          | inr h1 =>
            obtain ⟨k, f, ct⟩ := h1
            rw [hmv] at f ct
            exact .inr ⟨k, f.mono (by omega) (Nat.le_refl _), hN.ltrim hg hws hmv ct⟩
        · obtain ⟨rfl, hgh'⟩ := hgh.move hin hmv
          cases (ih _ (by omega)).1 _ _ _ c (relaxB bound) 1 (hS.ltrim hg) hin' hd hgh' with
          | inl h1 => obtain ⟨y, hy, hr⟩ := h1; exact .inl ⟨y, hC.ltrim hg hws hy, hr⟩
          | inr h1 =>
            obtain ⟨k, f, _⟩ := h1
            exact (f.absurd_of_lt (by have := hgh.fits k; simp only [relaxB]; omega)).elim
      | rtrim hd hok =>
        rename_i n' g' m x'
        obtain ⟨a1, a2, a3⟩ := (dn_pos hS _).1 _ _ _ (hS.rtrim hg) hin hd
        obtain ⟨b1, _⟩ := InFile_skip (InFile_of_le hin a1 a2) m
        have hmr := moved_rpos cfg m x' a3
        rw [hmr] at hgh ⊢
        cases (ih _ (by omega)).1 _ _ _ c bound s (hS.rtrim hg) hin hd (hgh.le b1) with
        | inl h1 =>
          obtain ⟨y, hy, hr⟩ := h1
          obtain ⟨m1, m2⟩ := hR.moved a3 hr hok
          exact .inl ⟨_, hC.rtrim hg hy m1, m2⟩
        | inr h1 => obtain ⟨k, f, ct⟩ := h1; exact .inr ⟨k, f.mono (by omega) b1, hN.rtrim hg ct hok⟩
      | memo hl hd =>
        rename_i m i body
        have hb := hB hg hl
        have hgb := hS.memo hg hl
        by_cases hlt : x.rpos < bound i
        · -- a strictly shorter nested activation (or the first one after the whitespace): enter the body
          cases (ih _ (by omega)).1 _ _ _ (bump c i) (setB bound i x.rpos) s hgb hin hd (hgh.enter hlt) with
          | inl h1 => obtain ⟨y, hy, hr⟩ := h1; exact .inl ⟨y, hC.memo hl (hgh.guard hin hx.1 hlt) hy, hr⟩
          | inr h1 =>
            obtain ⟨k, ⟨body', n', z, f1, f2, f2', f3, f4, f5⟩, ct⟩ := h1
            by_cases hk : k = i
            · -- the repetition is ours
              subst hk
              simp only [setB, ↓reduceIte] at f4 ct
              rcases hown with hac | ⟨hr, hct⟩
              · rw [hb] at ct
                exact absurd ct (hac k body pos x hl hin)
              · -- restart with the smaller derivation of our own span
                have hb' := hB f2 f2'
                cases (ih n' (by omega)).1 _ _ _ c bound s f2 hin f3 (f4 ▸ hgh) with
                | inl h2 =>
                  obtain ⟨y, hy, hr2⟩ := h2
                  exact .inl ⟨y, by rw [hb, ← hb']; exact hy, hr _ _ _ f4 hr2⟩
                | inr h2 =>
                  obtain ⟨k2, f', _⟩ := h2
                  exact .inr ⟨k2, f'.mono (by omega) (by omega), hct _ _ _ _ _⟩
            · simp only [setB, hk, ↓reduceIte] at f4 ct
              exact .inr ⟨k, ⟨body', n', z, by omega, f2, f2', f3, f4, f5⟩, hN.memo hl ct⟩
        · -- same end as the enclosing activation of `i` at this position: report this derivation to it
          have he : x.rpos = bound i := by have := hgh.fits i; omega
          exact .inr ⟨i, ⟨body, m + 1, x, Nat.le_refl _, hg, hl, .memo hl hd, he, Nat.le_refl _⟩,
            hN.here hg hl (.memo hl hd) he⟩
    · intro sh d pos nodes c bound s hg hin h hgh
      cases h with
      | nil => exact .inl ⟨[], hC.nil, hR.nil⟩
      | cons hl hx hrest =>
        rename_i a b g' x rest
        obtain ⟨p1, p2, _⟩ := (dn_pos hS _).1 _ _ _ (hg _ _ hl) hin hx
        have hin' : InFile cfg.file x.rpos := InFile_of_le hin p1 p2
        obtain ⟨q1, q2, _⟩ := (dn_pos hS _).2 _ _ _ _ hg hin' hrest
        rw [endOf_cons] at hgh ⊢
        cases (ih a (by omega)).1 _ _ _ c bound s (hg _ _ hl) hin hx (hgh.le q1) with
        | inr h1 => obtain ⟨k, f, ct⟩ := h1; exact .inr ⟨k, f.mono (by omega) q1, hN.head hg hl ct hrest⟩
        | inl h1 =>
          obtain ⟨y, hy, hr⟩ := h1
          have hcons : ∀ rest', CS (if x.rpos > pos then zeroC else c) sh (d + 1) x.rpos rest' → RS rest rest' →
              ∃ nodes', CS c sh d pos nodes' ∧ RS (x :: rest) nodes' := fun rest' r1 r2 =>
            ⟨y :: rest', hC.cons hl hy (by rw [hR.rpos hr]; exact r1), hR.cons hr r2⟩
          by_cases hc : x.rpos > pos
          · -- input consumed: the rest starts afresh; a repetition there would end beyond the file
            cases (ih b (by omega)).2 _ _ _ _ zeroC (topB cfg) 0 hg hin' hrest (Ghost.top cfg q2) with
            | inl h2 =>
              obtain ⟨rest', r1, r2⟩ := h2
              exact .inl (hcons rest' (by simp only [hc, ↓reduceIte]; exact r1) r2)
            | inr h2 => obtain ⟨k, f, _⟩ := h2; exact (f.absurd_of_lt (by simp only [topB]; omega)).elim
          · have hxe : x.rpos = pos := by omega
            cases (ih b (by omega)).2 _ _ _ _ c bound s hg hin' hrest (hxe.symm ▸ hgh) with
            | inl h2 =>
              obtain ⟨rest', r1, r2⟩ := h2
              exact .inl (hcons rest' (by simp only [hc, ↓reduceIte]; exact r1) r2)
            | inr h2 =>
              obtain ⟨k, f, ct⟩ := h2
              rw [hxe] at f
              exact .inr ⟨k, f.mono (by omega) (by rw [hxe]; exact Nat.le_refl _), hN.tail (hg _ _ hl) hl hx hxe ct⟩

theorem noNesting : Nesting cfg L Sc (fun _ _ _ _ _ => True) (fun _ _ _ _ _ _ => True) := by
  constructor <;> intros <;> trivial

/-- **(B), ends.**  Every end position that a derivation reaches is reached by a curtailed derivation from the
    empty left-recursion context: the walk that keeps the end (and that the rebuilt tree is no EndNode) -/
theorem covers_ends (hS : Closed cfg L Sc) (hB : OneBody bodyOf L Sc) (hC : Curtailed cfg L Sc C CS) {n : Nat} {g : G} (hg : Sc g) {pos : Nat} (hin : InFile cfg.file pos)
    {x : Node} (h : DN cfg L n g pos x) : ∃ y, C zeroC g pos y ∧ y.rpos = x.rpos := by
  have hp := (dn_pos hS n).1 _ _ _ hg hin h
  have hR : Rebuilt cfg (fun x y => y.rpos = x.rpos ∧ NotEof y)
      (fun ns ns' => ns'.length = ns.length ∧ (∀ p, endOf p ns' = endOf p ns) ∧ ∀ y ∈ ns', NotEof y) :=
    { leaf := fun hx => ⟨rfl, hx⟩
      rpos := fun h => h.1
      seq := fun h => ⟨⟨by rw [handleResult_rpos, handleResult_rpos, h.2.1], handleResult_notEof _ _ _ h.2.2⟩, h.1⟩
      moved := fun {m x y} hx h hok =>
        ⟨by rw [movedErr_eq cfg m y h.2, h.1, ← movedErr_eq cfg m x hx]; exact hok,
         by rw [moved_rpos cfg m y h.2, moved_rpos cfg m x hx, h.1], moved_notEof cfg m y h.2⟩
      nil := ⟨rfl, fun _ => rfl, fun _ hy => nomatch hy⟩
      cons := fun {x y rest rest'} h hs => ⟨by simp [hs.1], fun p => by rw [endOf_cons, endOf_cons, h.1, hs.2.1],
        fun w hw => (List.mem_cons.mp hw).elim (· ▸ h.2) (hs.2.2 w)⟩ }
  cases (cut hS hB hC hR noNesting (.inr ⟨fun _ _ _ hz h => ⟨by rw [h.1, hz], h.2⟩, fun _ _ _ _ _ => trivial⟩) n).1
      g pos x zeroC (topB cfg) 0 hg hin h (Ghost.top cfg hp.2.1) with
  | inl h1 => obtain ⟨y, h2, h3, _⟩ := h1; exact ⟨y, h2, h3⟩
  | inr h1 => obtain ⟨k, f, _⟩ := h1; exact (f.absurd_of_lt (by simp only [topB]; omega)).elim

/-- **(B), trees.**  In an acyclic grammar every derivation is a curtailed derivation from the empty
    left-recursion context — the same tree: the walk that keeps everything. -/
theorem covers_trees {Cont : Nat → Nat → G → Nat → Node → Prop}
    {ContS : Nat → Nat → SeqShape → Nat → Nat → List Node → Prop} (hS : Closed cfg L Sc)
    (hB : OneBody bodyOf L Sc) (hC : Curtailed cfg L Sc C CS) (hN : Nesting cfg L Sc Cont ContS)
    (hac : ∀ k body pos x, ¬ L.is (.memo k body) → InFile cfg.file pos → ¬ Cont k x.rpos (bodyOf k) pos x)
    {n : Nat} {g : G} (hg : Sc g) {pos : Nat} (hin : InFile cfg.file pos) {x : Node} (h : DN cfg L n g pos x) :
    C zeroC g pos x := by
  have hp := (dn_pos hS n).1 _ _ _ hg hin h
  have hR : Rebuilt cfg (fun x y => y = x) (fun ns ns' => ns' = ns) :=
    { leaf := fun _ => rfl, rpos := fun h => h ▸ rfl, seq := fun h => h ▸ ⟨rfl, rfl⟩
      moved := fun _ h hok => by subst h; exact ⟨hok, rfl⟩
      nil := rfl, cons := fun h hs => h ▸ hs ▸ rfl }
  cases (cut hS hB hC hR hN (.inl hac) n).1 g pos x zeroC (topB cfg) 0 hg hin h (Ghost.top cfg hp.2.1) with
  | inl h1 => obtain ⟨y, h2, rfl⟩ := h1; exact h2
  | inr h1 => obtain ⟨k, f, _⟩ := h1; exact (f.absurd_of_lt (by simp only [topB]; omega)).elim

end PV.Cut
