/-
  C16, the value theorem and its converse — the Integer, Float, Bool and Nil terminals on lexemes of their documented languages
  (`Lang.IsInt`, `Lang.IsFloat`; Spec/Lang.lean), followed by a delimiter, both directions, at the level of the
  terminals' byte specification (`integerSpec`, `floatSpec`, `wordAt`).
-/
import ParsleyVerif.Props.C08
import ParsleyVerif.Proofs.J16Num
import ParsleyVerif.Proofs.Lexeme
namespace PV.J16Acc
open PV PV.Text

/-- what may follow a value: nothing, whitespace (space, tab, LF, FF), `,`, `]`, `}` -/
def ADelim (tail : Bytes) : Prop := ∀ c, tail.head? = some c → isWs c = true ∨ c = 44 ∨ c = 93 ∨ c = 125

theorem adelim_nil : ADelim [] := by intro c h; cases h

theorem adelim_cons {c : Nat} {t : Bytes} (h : isWs c = true ∨ c = 44 ∨ c = 93 ∨ c = 125) : ADelim (c :: t) := by
  intro x hx
  simp only [List.head?_cons, Option.some.injEq] at hx
  subst hx; exact h

/-- a delimiter is below `+`, or one of `,` `]` `}`: outside the alphabets of numbers and words -/
theorem adelim_byte {tail : Bytes} (ht : ADelim tail) {c : Nat} (hc : tail.head? = some c) :
    c < 43 ∨ c = 44 ∨ c = 93 ∨ c = 125 := by
  rcases ht c hc with h | h
  · rcases (isWs_iff _).mp h with rfl | rfl | rfl | rfl <;> exact .inl (by decide)
  · exact .inr h

def IntCh (b : Nat) : Prop := b = 45 ∨ b = 43 ∨ Lang.hexDigit b = true ∨ b = 120 ∨ b = 88

def FloatCh (b : Nat) : Prop := b = 45 ∨ b = 43 ∨ b = 46 ∨ b = 101 ∨ b = 69 ∨ (48 ≤ b ∧ b ≤ 57)

theorem isInt_chars {w : Bytes} (h : Lang.isInt w = true) : ∀ b ∈ w, IntCh b := by
  obtain ⟨c, t, rfl, hc⟩ := isInt_head h
  intro b hb
  rcases List.mem_cons.mp hb with rfl | hb
  · rcases hc with rfl | rfl | hd
    · exact .inl rfl
    · exact .inr (.inl rfl)
    · exact .inr (.inr (.inl (by unfold Lang.hexDigit; simp; omega)))
  · exact .inr (.inr (isInt_tail h b hb))

theorem isExponent_chars {w : Bytes} (h : Lang.isExponent w = true) : ∀ b ∈ w, FloatCh b := by
  cases w with
  | nil => cases h
  | cons e r =>
    have h' : (e = 101 ∨ e = 69) ∧ Lang.optSign (Lang.plus1 Lang.digit) r = true := by
      simpa [Lang.isExponent] using h
    have hd : ∀ {u : Bytes}, Lang.plus1 Lang.digit u = true → ∀ b ∈ u, FloatCh b := by
      intro u hu b hb
      exact .inr (.inr (.inr (.inr (.inr ((digit_iff _).1 (((plus1_iff _ _).mp hu).2 b hb))))))
    intro b hb
    rcases List.mem_cons.mp hb with rfl | hb
    · rcases h'.1 with h | h
      · exact .inr (.inr (.inr (.inl h)))
      · exact .inr (.inr (.inr (.inr (.inl h))))
    · rcases (optSign_iff _ _).mp h'.2 with h | ⟨s, r', rfl, hs, h⟩
      · exact hd h b hb
      · rcases List.mem_cons.mp hb with rfl | hb
        · rcases (sign_iff _).mp hs with h | h
          · exact .inl h
          · exact .inr (.inl h)
        · exact hd h b hb

theorem isFloatBody_chars {w : Bytes} (h : Lang.isFloatBody w = true) :
    (∃ c t, w = c :: t ∧ (c = 46 ∨ (48 ≤ c ∧ c ≤ 57))) ∧ 46 ∈ w ∧ ∀ b ∈ w, FloatCh b := by
  unfold Lang.isFloatBody at h
  obtain ⟨a, f, rfl, ha, hf⟩ := (cat_iff _ _ _).mp h
  have ha' := (star_iff _ _).mp ha
  cases f with
  | nil => cases hf
  | cons d r =>
    have hd : d = 46 := by
      by_cases hd : d = 46
      · exact hd
      · exfalso
        unfold Lang.isFraction at hf
        split at hf
        · rename_i heq; injection heq with h1 _; exact hd h1
        · cases hf
    subst hd
    have hf' : Lang.cat (Lang.plus1 Lang.digit) (Lang.opt Lang.isExponent) r = true := hf
    obtain ⟨fr, ex, rfl, hfr, hex⟩ := (cat_iff _ _ _).mp hf'
    refine ⟨?_, by simp, ?_⟩
    · cases a with
      | nil => exact ⟨46, _, rfl, .inl rfl⟩
      | cons c t => exact ⟨c, _, rfl, .inr ((digit_iff _).1 (ha' c (by simp)))⟩
    · intro b hb
      rcases List.mem_append.mp hb with hb | hb
      · exact .inr (.inr (.inr (.inr (.inr ((digit_iff _).1 (ha' b hb))))))
      · rcases List.mem_cons.mp hb with rfl | hb
        · exact .inr (.inr (.inl rfl))
        · rcases List.mem_append.mp hb with hb | hb
          · exact .inr (.inr (.inr (.inr (.inr ((digit_iff _).1 (((plus1_iff _ _).mp hfr).2 b hb))))))
          · rcases (opt_iff _ _).mp hex with rfl | hex
            · cases hb
            · exact isExponent_chars hex b hb

theorem isFloat_chars {w : Bytes} (h : Lang.isFloat w = true) : 46 ∈ w ∧ ∀ b ∈ w, FloatCh b := by
  unfold Lang.isFloat at h
  rcases (optSign_iff _ _).mp h with h | ⟨s, r, rfl, hs, h⟩
  · exact (isFloatBody_chars h).2
  · obtain ⟨_, h46, hall⟩ := isFloatBody_chars h
    refine ⟨List.mem_cons_of_mem _ h46, ?_⟩
    intro b hb
    rcases List.mem_cons.mp hb with rfl | hb
    · rcases (sign_iff _).mp hs with h | h
      · exact .inl h
      · exact .inr (.inl h)
    · exact hall b hb

theorem isFloat_head {l : Bytes} (h : Lang.IsFloat l) :
    ∃ c t, l = c :: t ∧ (c = 45 ∨ c = 43 ∨ c = 46 ∨ (48 ≤ c ∧ c ≤ 57)) := by
  have h' : Lang.optSign Lang.isFloatBody l = true := h
  rcases (optSign_iff _ _).mp h' with h | ⟨s, r, rfl, hs, _⟩
  · obtain ⟨⟨c, t, rfl, hc⟩, _⟩ := isFloatBody_chars h
    exact ⟨c, t, rfl, .inr (.inr hc)⟩
  · refine ⟨s, r, rfl, ?_⟩
    rcases (sign_iff _).mp hs with h | h
    · exact .inl h
    · exact .inr (.inl h)

theorem intCh_not_dot : ¬ IntCh 46 := by
  intro h
  rcases h with h | h | h | h | h <;> revert h <;> decide

theorem adelim_not_intCh {tail : Bytes} (ht : ADelim tail) : ∀ c, tail.head? = some c → ¬ IntCh c := by
  intro c hc h
  have hd := adelim_byte ht hc
  rcases h with h | h | h | h | h
  · omega
  · omega
  · unfold Lang.hexDigit at h; simp at h; omega
  · omega
  · omega

theorem adelim_not_floatCh {tail : Bytes} (ht : ADelim tail) : ∀ c, tail.head? = some c → ¬ FloatCh c := by
  intro c hc h
  have hd := adelim_byte ht hc
  unfold FloatCh at h
  omega

theorem adelim_not_dot {tail : Bytes} (h : ADelim tail) : tail.head? ≠ some 46 := by
  intro hc
  have := adelim_byte h hc
  omega

theorem longestPrefix_isInt_append {l tail : Bytes} (h : Lang.IsInt l) (ht : ADelim tail) :
    Lang.longestPrefix Lang.isInt (l ++ tail) = some l.length :=
  int_longest h fun c hc ht' => adelim_not_intCh ht c hc (.inr (.inr ht'))

theorem longestPrefix_isFloat_append {l tail : Bytes} (h : Lang.IsFloat l) (ht : ADelim tail) :
    Lang.longestPrefix Lang.isFloat (l ++ tail) = some l.length := by
  obtain ⟨c, t, rfl, _⟩ := isFloat_head h
  exact longestPrefix_append_tail FloatCh (fun _ hw b hb => (isFloat_chars hw).2 b (List.mem_of_mem_tail hb)) h
    (adelim_not_floatCh ht)

theorem longestPrefix_isFloat_int {l tail : Bytes} (h : Lang.IsInt l) (ht : ADelim tail) :
    Lang.longestPrefix Lang.isFloat (l ++ tail) = none := by
  rw [longestPrefix_none]
  intro j hj
  apply Bool.eq_false_iff.mpr
  intro hf
  obtain ⟨h46, hall⟩ := isFloat_chars hf
  by_cases hjl : j ≤ l.length
  · rw [List.take_append_of_le_length hjl] at h46
    exact intCh_not_dot (isInt_chars h 46 (List.mem_of_mem_take h46))
  · obtain ⟨c, hc, hmem⟩ := take_append_mem (by omega) hj
    exact adelim_not_floatCh ht c hc (hall c hmem)

theorem integerMatch_append {l tail : Bytes} (h : Lang.IsInt l) (ht : ADelim tail) :
    integerMatch (l ++ tail) = some l.length := by
  rw [integerMatch_eq_longest]; exact longestPrefix_isInt_append h ht

theorem floatMatch_append {l tail : Bytes} (h : Lang.IsFloat l) (ht : ADelim tail) :
    floatMatch (l ++ tail) = some l.length := by
  rw [floatMatch_eq_longest]; exact longestPrefix_isFloat_append h ht

theorem integerSpec_fwd {l tail : Bytes} (h : Lang.IsInt l)
    (hr : -(2 : Int) ^ 63 ≤ Lang.intValue l ∧ Lang.intValue l < (2 : Int) ^ 63) (ht : ADelim tail) (pos : Nat) :
    integerSpec (l ++ tail) pos = .node (.term intTok (.int (Lang.intValue l)) pos (pos + l.length)) := by
  unfold integerSpec
  rw [integerMatch_append h ht]
  simp only [List.drop_left, List.take_left]
  rw [if_neg (adelim_not_dot ht), (c08_parseInt0_spec l h _).mpr ⟨rfl, hr.1, hr.2⟩, J16.tok_int]

theorem floatMatch_int {l tail : Bytes} (h : Lang.IsInt l) (ht : ADelim tail) : floatMatch (l ++ tail) = none := by
  rw [floatMatch_eq_longest]; exact longestPrefix_isFloat_int h ht

theorem floatSpec_fwd (P : Params) {l tail : Bytes} (h : Lang.IsFloat l) (hf : P.floatOk l = true) (ht : ADelim tail)
    (pos : Nat) : floatSpec P (l ++ tail) pos = .node (.term floatTok (.float l) pos (pos + l.length)) := by
  unfold floatSpec
  rw [floatMatch_append h ht]
  simp only [List.take_left, hf, if_true, J16.tok_float]

theorem adelim_not_word {tail : Bytes} (h : ADelim tail) : (tail.head?.all fun d => !isWordByte d) = true := by
  cases tail with
  | nil => rfl
  | cons c t =>
    have := adelim_byte h (c := c) rfl
    simp only [List.head?_cons, Option.all_some, isWordByte]
    simp; omega

theorem wordAt_adelim (w tail : Bytes) (ht : ADelim tail) : wordAt w (w ++ tail) = true := by
  rw [wordAt_iff]
  exact ⟨List.prefix_append w tail, by rw [List.drop_left]; exact adelim_not_word ht⟩

theorem integerSpec_inv {l : Bytes} {pos : Nat} {n : Node} (h : integerSpec l pos = .node n) :
    ∃ lex t, l = lex ++ t ∧ Lang.IsInt lex ∧ -(2 : Int) ^ 63 ≤ Lang.intValue lex ∧ Lang.intValue lex < (2 : Int) ^ 63 ∧
      n = .term intTok (.int (Lang.intValue lex)) pos (pos + lex.length) := by
  obtain ⟨k, v, hm, _, hp, hn⟩ := (integerSpec_node l pos n).mp h
  have hint : Lang.IsInt (l.take k) := integerMatch_sound l k hm
  have hk : k ≤ l.length := longestPrefix_le (integerMatch_eq_longest l ▸ hm)
  obtain ⟨hv, h1, h2⟩ := (c08_parseInt0_spec _ hint v).mp hp
  subst hv
  have hlen : (l.take k).length = k := by rw [List.length_take]; omega
  refine ⟨l.take k, l.drop k, (List.take_append_drop k l).symm, hint, h1, h2, ?_⟩
  rw [hn, hlen, J16.tok_int]

theorem floatSpec_inv (P : Params) {l : Bytes} {pos : Nat} {n : Node} (h : floatSpec P l pos = .node n) :
    ∃ lex t, l = lex ++ t ∧ Lang.IsFloat lex ∧ P.floatOk lex = true ∧
      n = .term floatTok (.float lex) pos (pos + lex.length) := by
  obtain ⟨k, hm, hok, hn⟩ := (floatSpec_node P l pos n).mp h
  have hfl : Lang.IsFloat (l.take k) := floatMatch_sound l k hm
  have hk : k ≤ l.length := longestPrefix_le (floatMatch_eq_longest l ▸ hm)
  have hlen : (l.take k).length = k := by rw [List.length_take]; omega
  refine ⟨l.take k, l.drop k, (List.take_append_drop k l).symm, hfl, hok, ?_⟩
  rw [hn, hlen, J16.tok_float]

theorem wordAt_inv {w l : Bytes} (h : wordAt w l = true) : ∃ t, l = w ++ t := by
  obtain ⟨t, ht⟩ := ((wordAt_iff w l).mp h).1
  exact ⟨t, ht.symm⟩

-- not vacuous: `0x1F`, `-017`, `+.5e-3`
example : Lang.IsInt [48, 120, 49, 70] ∧ ADelim [12, 49] :=
  ⟨(by decide : Lang.isInt [48, 120, 49, 70] = true), adelim_cons (.inl (by decide))⟩
example : integerMatch ([45, 48, 49, 55] ++ [93]) = some 4 :=
  integerMatch_append (by decide : Lang.isInt [45, 48, 49, 55] = true) (adelim_cons (.inr (.inr (.inl rfl))))
example : floatMatch ([43, 46, 53, 101, 45, 51] ++ [12]) = some 6 :=
  floatMatch_append (by decide : Lang.isFloat [43, 46, 53, 101, 45, 51] = true) (adelim_cons (.inl (by decide)))

end PV.J16Acc
