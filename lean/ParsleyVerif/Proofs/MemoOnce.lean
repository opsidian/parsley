/-
  C03, "evaluates at most once per position": the invariant, by induction on fuel over all of `run`.

  From a state in which
    * every cache entry was stored with an empty left-recursion context and an empty curtailing set, and
    * every (parser, position) whose body has been started exactly once is either still running (on the
      ghost activation stack) or has its entry in the cache,
  a call whose final log contains no curtail event (and, for the second part, no re-entry) re-establishes
  both (`OInv`; with the second part: no body count above 1, `once`), returns an empty curtailing set, and restores
  the activation stack (`OPost`).  The hypothesis is on the FINAL log of the call and reaches the sub-calls along
  suffixes (`GoodLog.of_suffix`): a walk of its own, not an instance of `RunInv`.
  `K` switches the second part (and the `NoReentry` hypothesis) on and off, so that the first part is
  available under `NoCurtail` alone.
-/
import ParsleyVerif.Proofs.MemoBasics
namespace PV
open PV.Text

def GoodLog (K : Prop) (log : List Ev) : Prop := NoCurtail log ∧ (K → NoReentry log)

theorem GoodLog.of_suffix {K : Prop} {l l' : List Ev} (h : GoodLog K l') (hs : l <:+ l') : GoodLog K l :=
  ⟨h.1.of_suffix hs, fun k => (h.2 k).of_suffix hs⟩

def hasKey (c : List CacheEntry) (i p : Nat) : Prop := ∃ e ∈ c, e.idx = i ∧ e.pos = p

structure OInv (K : Prop) (st : St) : Prop where
  ent : ∀ e ∈ st.cache, e.ctx = [] ∧ e.cp = []
  once : K → ∀ i p, bodyRuns st.log i p ≤ 1
  done : K → ∀ i p, bodyRuns st.log i p = 1 → (i, p) ∈ st.active ∨ hasKey st.cache i p

structure OPost (K : Prop) (st : St) (o : Out) (st' : St) : Prop where
  inv : OInv K st'
  active : st'.active = st.active
  cp : o.cp = []

def RunOnce (K : Prop) (r : RunFn) : Prop :=
  ∀ g ctx pos st o st', r g ctx pos st = some (o, st') → GoodLog K st'.log → OInv K st → OPost K st o st'

theorem OInv.of_eq {K : Prop} {st st' : St} (h : OInv K st) (hc : st'.cache = st.cache) (hl : st'.log = st.log)
    (ha : st'.active = st.active) : OInv K st' :=
  ⟨by rw [hc]; exact h.ent, by rw [hl]; exact h.once, by rw [hl, ha, hc]; exact h.done⟩

theorem OInv.setError {K : Prop} {st : St} (h : OInv K st) (e : Option Err) : OInv K (st.setError e) :=
  h.of_eq (setError_cache _ _) (setError_log _ _) (setError_active _ _)

theorem OInv.logOther {K : Prop} {st : St} (h : OInv K st) (ev : Ev) (hev : ∀ i p d, ev ≠ Ev.body i p d) :
    OInv K { st with log := ev :: st.log } :=
  ⟨h.ent, fun k i p => by simp only [bodyRuns_cons_other _ _ hev]; exact h.once k i p,
   fun k i p => by simp only [bodyRuns_cons_other _ _ hev]; exact h.done k i p⟩

theorem cacheGet_of_hasKey {c : List CacheEntry} (hent : ∀ e ∈ c, e.ctx = [] ∧ e.cp = []) {i p : Nat}
    (hk : hasKey c i p) (ctx : Ctx) : ∃ e, cacheGet c i p ctx = some e := by
  obtain ⟨x, hx, hi, hp⟩ := hk
  unfold cacheGet
  cases hf : c.find? (fun e => e.idx == i && e.pos == p) with
  | none =>
    have := List.find?_eq_none.mp hf x hx
    simp [hi, hp] at this
  | some e =>
    have hm := List.mem_of_find?_eq_some hf
    simp [(hent e hm).1]

theorem hasKey_cacheSave_self (c : List CacheEntry) (e : CacheEntry) : hasKey (cacheSave c e) e.idx e.pos :=
  ⟨e, List.mem_cons_self .., rfl, rfl⟩

theorem hasKey_cacheSave {c : List CacheEntry} {i p : Nat} (h : hasKey c i p) (e : CacheEntry) :
    hasKey (cacheSave c e) i p := by
  obtain ⟨x, hx, hi, hp⟩ := h
  by_cases hk : x.idx = e.idx ∧ x.pos = e.pos
  · exact ⟨e, List.mem_cons_self .., by rw [← hk.1]; exact hi, by rw [← hk.2]; exact hp⟩
  · refine ⟨x, ?_, hi, hp⟩
    unfold cacheSave
    refine List.mem_cons_of_mem _ (List.mem_filter.mpr ⟨hx, ?_⟩)
    simp only [Bool.not_eq_eq_eq_not, Bool.not_true, Bool.and_eq_false_imp, beq_iff_eq, beq_eq_false_iff_ne, ne_eq]
    intro h1 h2; exact hk ⟨h1, h2⟩

theorem Ctx.filter_nil (c : Ctx) : Ctx.filter c [] = [] := by
  unfold Ctx.filter
  simp

theorem seqParse_once (K : Prop) (r : RunFn) (hg : RunGrow r) (hr : RunOnce K r) (sh : SeqShape) :
    ∀ (fuel : Nat) (fr : Frame) ss st b ss' st',
      (GoodLog K st.log → OInv K st ∧ ss.cp = []) → fr.depth = fr.nodes.length →
      seqParse r sh fuel fr.depth fr.nodes fr.ctx fr.pos fr.merge ss st = some (b, ss', st') →
      Grow st st' ∧ (GoodLog K st'.log → OInv K st → ss.cp = [] → OInv K st' ∧ ss'.cp = [] ∧ st'.active = st.active) := by
  have call : ∀ (fr : Frame) (ss : SeqSt) (s : St) (g : G) (o : Out) (s1 : St),
      r g fr.ctx fr.pos s.regCall = some (o, s1) →
      Grow s s1 ∧ (GoodLog K s1.log → OInv K s → ss.cp = [] →
        OInv K s1 ∧ (seqAfter fr.merge ss o).cp = [] ∧ s1.active = s.active) := by
    intro fr ss s g o s1 hrun
    have hgr : Grow s s1 := (Grow.regCall s).trans (hg _ _ _ _ _ _ hrun)
    refine ⟨hgr, fun hgood hinv hcp => ?_⟩
    have hp := hr _ _ _ _ _ _ hrun hgood (hinv.of_eq rfl rfl rfl)
    exact ⟨hp.inv, seqAfter_cp_nil _ _ _ hcp hp.cp, hp.active⟩
  refine seqParse_ind r sh
    (fun _ ss st => GoodLog K st.log → OInv K st ∧ ss.cp = [])
    (fun ss st ss' st' => Grow st st' ∧
      (GoodLog K st'.log → OInv K st → ss.cp = [] → OInv K st' ∧ ss'.cp = [] ∧ st'.active = st.active))
    ?_ ?_ ?_ ?_ ?_
  · intro ss st; exact ⟨Grow.refl _, fun _ h1 h2 => ⟨h1, h2, rfl⟩⟩
  · intro a b c d e f h1 h2
    refine ⟨h1.1.trans h2.1, fun hgood hinv hcp => ?_⟩
    obtain ⟨i1, c1, a1⟩ := h1.2 (hgood.of_suffix h2.1.log) hinv hcp
    obtain ⟨i2, c2, a2⟩ := h2.2 hgood i1 c1
    exact ⟨i2, c2, by rw [a2, a1]⟩
  · intro fr ss st ss' st' hJ hE hgood
    obtain ⟨i0, c0⟩ := hJ (hgood.of_suffix hE.1.log)
    obtain ⟨i1, c1, _⟩ := hE.2 hgood i0 c0
    exact ⟨i1, c1⟩
  · intro fr ss st g o st1 hJ _ _ hrun
    obtain ⟨hgr, hc⟩ := call fr ss st g o st1 hrun
    refine ⟨⟨hgr, hc⟩, ?_, ?_⟩
    · intro n _ hgood
      obtain ⟨i0, c0⟩ := hJ (hgood.of_suffix hgr.log)
      obtain ⟨i1, c1, _⟩ := hc hgood i0 c0
      exact ⟨i1, c1⟩
    · intro _ _
      exact ⟨hgr, hc⟩
  · intro fr ss st _ _ _ _
    exact ⟨Grow.refl _, fun _ hinv hcp => ⟨hinv, hcp, rfl⟩⟩

theorem runStep_once (K : Prop) (cfg : Cfg) (hgh : cfg.ghost = true) {r : RunFn} (hgrow : RunGrow r)
    (hr : RunOnce K r) (fuel : Nat) : RunOnce K (runStep cfg r fuel) := by
  intro g ctx pos st o st' h hgood hinv
  revert hgood
  have logged : ∀ ev (o : Out), (∀ i p d, ev ≠ Ev.body i p d) → o.cp = [] → OPost K st o (st.logEv cfg ev) :=
    fun ev o hev hcp => by rw [logEv_ghost hgh]; exact ⟨hinv.logOther ev hev, rfl, hcp⟩
  have call : ∀ {g' : G} {s s' : St} {o' : Out} {cp : List Nat}, r g' ctx pos s.regCall = some (o', s') →
      (Grow st s ∧ (GoodLog K s.log → OInv K s ∧ s.active = st.active ∧ cp = [])) →
      Grow st s' ∧ (GoodLog K s'.log → OInv K s' ∧ s'.active = st.active ∧ cpUnion cp o'.cp = []) := by
    intro g' s s' o' cp hr' hA
    have hgr : Grow s s' := (Grow.regCall s).trans (hgrow _ _ _ _ _ _ hr')
    refine ⟨hA.1.trans hgr, fun hgood' => ?_⟩
    obtain ⟨i0, a0, c0⟩ := hA.2 (hgood'.of_suffix hgr.log)
    have hp := hr _ _ _ _ _ _ hr' hgood' (i0.of_eq rfl rfl rfl)
    exact ⟨hp.inv, by rw [hp.active]; exact a0, by rw [c0, hp.cp, cpUnion]⟩
  have hany : ∀ {gs : List G} {a : AltSt} {st1 : St}, anyLoop r ctx pos gs {} st = some (a, st1) →
      GoodLog K (anyFinish a st1).2.log → OPost K st (anyFinish a st1).1 (anyFinish a st1).2 := by
    intro gs a st1 hl hgood
    have hA := anyLoop_ind r ctx pos
      (fun a s => Grow st s ∧ (GoodLog K s.log → OInv K s ∧ s.active = st.active ∧ a.cp = [])) gs
      (fun g' _ a s o' s' hA hr' => by rw [(altErr_fields pos _ o'.err).1]; exact call hr' hA)
      {} st a st1 ⟨Grow.refl _, fun _ => ⟨hinv, rfl, rfl⟩⟩ hl
    rcases anyFinish_cases a st1 with ⟨_, e⟩ | ⟨_, e⟩ <;> rw [e] at hgood ⊢
    · obtain ⟨i1, a1, c1⟩ := hA.2 hgood
      exact ⟨i1, a1, c1⟩
    · rw [setError_log] at hgood
      obtain ⟨i1, a1, c1⟩ := hA.2 hgood
      exact ⟨i1.setError _, by rw [setError_active]; exact a1, c1⟩
  refine runStep_elim (motive := fun _ x => GoodLog K x.2.log → OPost K st x.1 x.2)
    ?term ?empty ?eof ?ref ?refNil ?memo ?any ?choice ?wrap ?seq g (o, st') h
  case term =>
    intro t _
    rcases termStep_cases cfg t pos st with ⟨_, _, e⟩ | ⟨_, _, e⟩ | ⟨_, _, e⟩ <;> rw [e]
    · exact ⟨hinv, rfl, rfl⟩
    · exact logged _ _ nofun rfl
    · exact ⟨hinv, rfl, rfl⟩
  case empty => exact fun _ => ⟨hinv, rfl, rfl⟩
  case eof =>
    intro _
    rcases eofStep_cases cfg pos st with ⟨_, e⟩ | ⟨_, e⟩ <;> rw [e]
    · exact ⟨hinv, rfl, rfl⟩
    · exact logged _ _ nofun rfl
  case ref => exact fun _ _ _ _ h1 hgood => hr _ _ _ _ _ _ h1 hgood hinv
  case refNil => exact fun _ _ _ => ⟨hinv, rfl, rfl⟩
  case memo =>
    intro idx body x h
    refine memoStep_elim (motive := fun x => GoodLog K x.2.log → OPost K st x.1 x.2) ?_ ?_ ?_ h
    · exact fun e hc _ => logged _ _ nofun (hinv.ent e (cacheGet_some hc).1).2
    · intro _ _ hgood
      rw [logEv_ghost hgh] at hgood
      exact absurd (List.mem_cons_self ..) (hgood.1 idx pos)
    · intro o2 st2 hc _ hr2 hgood
      rw [memoEnter, logEv_ghost hgh] at hr2
      have hsuf := (hgrow _ _ _ _ _ _ hr2).log
      -- a body started before is either in the cache (but this was a miss) or still active (then this start is a re-entry)
      have hzero : K → bodyRuns st.log idx pos = 0 := by
        intro k
        have h1 := hinv.once k idx pos
        by_cases h0 : bodyRuns st.log idx pos = 0
        · exact h0
        · exfalso
          have h1' : bodyRuns st.log idx pos = 1 := by omega
          cases hinv.done k idx pos h1' with
          | inr hk =>
            obtain ⟨e, he⟩ := cacheGet_of_hasKey hinv.ent hk ctx
            rw [hc] at he; cases he
          | inl hact =>
            have hd := (hgood.2 k) idx pos _ (hsuf.subset (List.mem_cons_self ..))
            have hpos : 0 < (st.active.filter (fun a => a.1 == idx && a.2 == pos)).length := by
              apply List.length_pos_of_mem (a := (idx, pos))
              exact List.mem_filter.mpr ⟨hact, by simp⟩
            omega
      generalize (st.active.filter (fun a => a.1 == idx && a.2 == pos)).length + 1 = dd at hr2 hsuf
      have hinv1 : OInv K { st with active := (idx, pos) :: st.active, log := Ev.body idx pos dd :: st.log } := by
        refine ⟨hinv.ent, ?_, ?_⟩
        · intro k i p
          simp only [bodyRuns_cons_body]
          have := hinv.once k i p
          by_cases hip : idx = i ∧ pos = p
          · obtain ⟨rfl, rfl⟩ := hip
            have := hzero k
            simp; omega
          · simp only [hip, ↓reduceIte]; omega
        · intro k i p
          simp only [bodyRuns_cons_body]
          by_cases hip : idx = i ∧ pos = p
          · obtain ⟨rfl, rfl⟩ := hip
            intro _; exact .inl (List.mem_cons_self ..)
          · simp only [hip, ↓reduceIte, Nat.add_zero]
            intro h1
            cases hinv.done k i p h1 with
            | inl ha => exact .inl (List.mem_cons_of_mem _ ha)
            | inr hk => exact .inr hk
      have hp := hr _ _ _ _ _ _ hr2 hgood hinv1
      have hact2 : st2.active = (idx, pos) :: st.active := hp.active
      refine ⟨⟨?_, hp.inv.once, ?_⟩, rfl, hp.cp⟩
      · intro e he
        cases mem_cacheSave he with
        | inl h1 => subst h1; simp only [hp.cp, Ctx.filter_nil, and_self]
        | inr h1 => exact hp.inv.ent e h1
      · intro k i p h1
        cases hp.inv.done k i p h1 with
        | inl ha =>
          rw [hact2] at ha
          cases ha with
          | head => exact .inr (hasKey_cacheSave_self st2.cache _)
          | tail _ ha => exact .inl ha
        | inr hk => exact .inr (hasKey_cacheSave hk _)
  case any => exact fun _ _ _ hl => hany hl
  case choice => exact fun _ _ _ _ _ _ hl => hany hl
  case wrap =>
    intro g w o1 st1 hw h1 hgood
    have hp := hr _ _ _ _ _ _ h1 hgood hinv
    exact ⟨hp.inv, hp.active, wrap_out_cp hw _ hp.cp⟩
  case seq =>
    intro g sh b ss st1 hs hsp hgood
    obtain ⟨hcp, hst⟩ := seqFinish_fields sh pos ss st1
    have hfl := (St.frame_of_or hst).2.2.1
    obtain ⟨_, hE⟩ := seqParse_once K r hgrow hr sh fuel ⟨0, [], ctx, pos, true⟩ {} st b ss st1
      (fun _ => ⟨hinv, rfl⟩) rfl hsp
    obtain ⟨i1, c1, a1⟩ := hE (by rw [← hfl]; exact hgood) hinv rfl
    rcases hst with h1 | h1 <;> rw [h1]
    · exact ⟨i1, a1, by rw [hcp]; exact c1⟩
    · exact ⟨i1.setError _, by rw [setError_active]; exact a1, by rw [hcp]; exact c1⟩

theorem run_once (K : Prop) (cfg : Cfg) (hgh : cfg.ghost = true) : ∀ fuel, RunOnce K (run cfg fuel) := by
  intro fuel
  induction fuel with
  | zero => intro g ctx pos st o st' h; cases h
  | succ fuel ih =>
    exact fun g ctx pos st o st' h => runStep_once K cfg hgh (run_grow cfg _) ih _ g ctx pos st o st' (run_some_step h)

end PV
