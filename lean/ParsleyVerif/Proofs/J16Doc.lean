/-
  C16, full value theorem — the supported subset (`JDoc`, Spec/JsonRender.lean) is a part of the parser's language
  (`AccDoc`, Spec/J16AccLang.lean): `JDoc.toAcc` reads a supported document as a document of the language (a number
  by its lexeme, a string by its rendered body and decoded value, every gap's whitespace as it is) and keeps bytes,
  tree and value, so `value_ok`, `items_ok`, `mems_ok` of Proofs/J16AccFwd.lean hold of the subset.  Then the root
  `Sentence(Trim(value))` on a supported document, `parse`, the JSON value of the expected tree, `evaluate`.
-/
import ParsleyVerif.Proofs.J16AccFwd
import ParsleyVerif.Proofs.J16Num
import ParsleyVerif.Props.C16
namespace PV
open PV.Text

mutual
def JDoc.toAcc : JDoc → AccDoc
  | .null => .lit .null
  | .bool b => .lit (.bool b)
  | .int i => .lit (.int (renderInt i))
  | .dec d => .lit (.flt d.render)
  | .str s => .lit (.str (renderElems s) (decodeStr s))
  | .arr items close => .arr items.toAcc close
  | .obj mems close => .obj mems.toAcc close
def JItems.toAcc : JItems → AccItems
  | .nil => .nil
  | .cons wc wb d r => .cons wc wb d.toAcc r.toAcc
def JMems.toAcc : JMems → AccMems
  | .nil => .nil
  | .cons wc wb k wk wv d r => .cons wc wb (renderElems k) (decodeStr k) wk wv d.toAcc r.toAcc
end

namespace J16

theorem strLex_renderElems (s : List SElem) : strLex (renderElems s) = renderStr s := rfl

mutual
theorem toAcc_render : ∀ (d : JDoc), d.toAcc.render = d.render
  | .null => rfl
  | .bool true => rfl
  | .bool false => rfl
  | .int _ => rfl
  | .dec _ => rfl
  | .str _ => rfl
  | .arr .nil _ => rfl
  | .arr (.cons _ _ d r) _ => by
    simp only [JDoc.toAcc, JItems.toAcc, AccDoc.render, JDoc.render, toAcc_render d, toAcc_renderItems r]
  | .obj .nil _ => rfl
  | .obj (.cons _ _ _ _ _ d r) _ => by
    simp only [JDoc.toAcc, JMems.toAcc, AccDoc.render, JDoc.render, strLex_renderElems, toAcc_render d,
      toAcc_renderMems r]
theorem toAcc_renderItems : ∀ (r : JItems), r.toAcc.renderMore = r.renderMore
  | .nil => rfl
  | .cons _ _ d r => by
    simp only [JItems.toAcc, AccItems.renderMore, JItems.renderMore, toAcc_render d, toAcc_renderItems r]
theorem toAcc_renderMems : ∀ (r : JMems), r.toAcc.renderMore = r.renderMore
  | .nil => rfl
  | .cons _ _ _ _ _ d r => by
    simp only [JMems.toAcc, AccMems.renderMore, JMems.renderMore, strLex_renderElems, toAcc_render d,
      toAcc_renderMems r]
end

theorem accKvNode_renderStr (k : List SElem) (wk wv : Bytes) (vlen : Nat) (vt : Nat → Node) (p : Nat) :
    accKvNode (renderStr k).length (decodeStr k) wk wv vlen vt p = kvNode k wk wv vlen vt p := rfl

mutual
theorem toAcc_tree : ∀ (d : JDoc) (p : Nat), d.toAcc.tree p = d.tree p
  | .null, _ => rfl
  | .bool true, _ => rfl
  | .bool false, _ => rfl
  | .int i, _ => by
    simp only [JDoc.toAcc, AccDoc.tree, JDoc.tree, AccLit.tok, AccLit.val, AccLit.lex, intValue_renderInt]
  | .dec _, _ => rfl
  | .str _, _ => rfl
  | .arr .nil _, _ => rfl
  | .arr (.cons _ _ d r) _, _ => by
    simp only [JDoc.toAcc, JItems.toAcc, AccDoc.tree, JDoc.tree, toAcc_render, toAcc_renderItems, toAcc_tree d,
      toAcc_moreItems r]
  | .obj .nil _, _ => rfl
  | .obj (.cons _ _ k _ _ d r) _, _ => by
    simp only [JDoc.toAcc, JMems.toAcc, AccDoc.tree, JDoc.tree, toAcc_render, toAcc_renderMems,
      funext (toAcc_tree d), toAcc_moreMems r, accKvNode_renderStr, strLex_renderElems]
theorem toAcc_moreItems : ∀ (r : JItems) (p : Nat), r.toAcc.moreNodes p = r.moreNodes p
  | .nil, _ => rfl
  | .cons _ _ d r, _ => by
    simp only [JItems.toAcc, AccItems.moreNodes, JItems.moreNodes, toAcc_render, toAcc_tree d, toAcc_moreItems r]
theorem toAcc_moreMems : ∀ (r : JMems) (p : Nat), r.toAcc.moreNodes p = r.moreNodes p
  | .nil, _ => rfl
  | .cons _ _ k _ _ d r, _ => by
    simp only [JMems.toAcc, AccMems.moreNodes, JMems.moreNodes, toAcc_render, funext (toAcc_tree d),
      toAcc_moreMems r, accKvNode_renderStr, strLex_renderElems]
end

mutual
theorem toAcc_val : ∀ (d : JDoc), d.toAcc.val = d.val
  | .null => rfl
  | .bool _ => rfl
  | .int i => by simp only [JDoc.toAcc, AccDoc.val, AccLit.jval, JDoc.val, intValue_renderInt]
  | .dec _ => rfl
  | .str _ => rfl
  | .arr items _ => by simp only [JDoc.toAcc, AccDoc.val, JDoc.val, toAcc_valsItems items]
  | .obj mems _ => by simp only [JDoc.toAcc, AccDoc.val, JDoc.val, toAcc_valsMems mems]
theorem toAcc_valsItems : ∀ (r : JItems), r.toAcc.vals = r.vals
  | .nil => rfl
  | .cons _ _ d r => by simp only [JItems.toAcc, AccItems.vals, JItems.vals, toAcc_val d, toAcc_valsItems r]
theorem toAcc_valsMems : ∀ (r : JMems), r.toAcc.vals = r.vals
  | .nil => rfl
  | .cons _ _ _ _ _ d r => by simp only [JMems.toAcc, AccMems.vals, JMems.vals, toAcc_val d, toAcc_valsMems r]
end

mutual
/-- the supported subset with an admissible layout lies inside the language: `WsNl ⊆ WsNlF`, and the lexemes by
    Proofs/J16Num.lean -/
theorem toAcc_ok (P : Params) : ∀ (d : JDoc), d.OK → d.FloatsOk P → d.toAcc.OK P
  | .null, _, _ => trivial
  | .bool _, _, _ => trivial
  | .int i, h, _ => ⟨isInt_renderInt i, by rw [intValue_renderInt]; exact h.1, by rw [intValue_renderInt]; exact h.2⟩
  | .dec x, h, hf => ⟨isFloat_render x h, hf⟩
  | .str s, h, _ => isStrBody_render s h
  | .arr items _, h, hf => by
    simp only [JDoc.OK] at h
    simp only [JDoc.FloatsOk] at hf
    exact ⟨toAcc_okItems P items h.1 hf, J16Acc.wsNl_wsNlF h.2⟩
  | .obj mems _, h, hf => by
    simp only [JDoc.OK] at h
    simp only [JDoc.FloatsOk] at hf
    exact ⟨toAcc_okMems P mems h.1 hf, J16Acc.wsNl_wsNlF h.2⟩
theorem toAcc_okItems (P : Params) : ∀ (r : JItems), r.OK → r.FloatsOk P → r.toAcc.OK P
  | .nil, _, _ => trivial
  | .cons _ _ d r, h, hf => by
    simp only [JItems.OK] at h
    simp only [JItems.FloatsOk] at hf
    exact ⟨h.1, J16Acc.wsNl_wsNlF h.2.1, toAcc_ok P d h.2.2.1 hf.1, toAcc_okItems P r h.2.2.2 hf.2⟩
theorem toAcc_okMems (P : Params) : ∀ (r : JMems), r.OK → r.FloatsOk P → r.toAcc.OK P
  | .nil, _, _ => trivial
  | .cons _ _ k _ _ d r, h, hf => by
    simp only [JMems.OK] at h
    simp only [JMems.FloatsOk] at hf
    exact ⟨h.1, J16Acc.wsNl_wsNlF h.2.1, isStrBody_render k h.2.2.1, h.2.2.2.1, J16Acc.wsNl_wsNlF h.2.2.2.2.1,
      toAcc_ok P d h.2.2.2.2.2.1 hf.1, toAcc_okMems P r h.2.2.2.2.2.2 hf.2⟩
end

theorem value_ok {cfg : Cfg} (hS : Std cfg) (d : JDoc) (hd : d.OK) (hf : d.FloatsOk cfg.params) (pos : Nat)
    (tail : Bytes) (hat : At cfg pos (d.render ++ tail)) (ht : J16Acc.ADelim tail) :
    Succ cfg (.ref 0) pos (d.tree pos) := by
  have := J16Acc.value_ok hS d.toAcc (toAcc_ok _ d hd hf) pos tail (by rw [toAcc_render]; exact hat) ht
  rwa [toAcc_tree] at this

theorem items_ok {cfg : Cfg} (hS : Std cfg) : ∀ (r : JItems), r.OK → r.FloatsOk cfg.params →
    ∀ (depth pos : Nat) (close tail : Bytes), depth % 2 = 1 → WsNl close →
    At cfg pos (r.renderMore ++ (close ++ 93 :: tail)) → ShChain cfg elemsShape depth pos (r.moreNodes pos) := by
  intro r hr hf depth pos close tail hdep hc hat
  have := J16Acc.items_ok hS r.toAcc (toAcc_okItems _ r hr hf) depth pos close tail hdep (J16Acc.wsNl_wsNlF hc)
    (by rw [toAcc_renderItems]; exact hat)
  rwa [toAcc_moreItems] at this

theorem mems_ok {cfg : Cfg} (hS : Std cfg) : ∀ (r : JMems), r.OK → r.FloatsOk cfg.params →
    ∀ (depth pos : Nat) (close tail : Bytes), depth % 2 = 1 → WsNl close →
    At cfg pos (r.renderMore ++ (close ++ 125 :: tail)) → ShChain cfg membersShape depth pos (r.moreNodes pos) := by
  intro r hr hf depth pos close tail hdep hc hat
  have := J16Acc.mems_ok hS r.toAcc (toAcc_okMems _ r hr hf) depth pos close tail hdep (J16Acc.wsNl_wsNlF hc)
    (by rw [toAcc_renderMems]; exact hat)
  rwa [toAcc_moreMems] at this

end J16

end PV

namespace PV.J16
open PV PV.Text

/-- the tree under the Sentence node: the document's tree, its end moved past the trailing whitespace (RightTrim) -/
def rootTree (off : Nat) (lead : Bytes) (d : JDoc) (trail : Bytes) : Node :=
  bump trail.length (d.tree (off + lead.length))

theorem rootTree_toAcc (off : Nat) (lead : Bytes) (d : JDoc) (trail : Bytes) :
    J16Acc.rootTree off lead d.toAcc trail = rootTree off lead d trail := by
  unfold rootTree J16Acc.rootTree; rw [toAcc_tree]

theorem stop_nil : Stop [] := by intro c h; cases h

theorem root_ok {cfg : Cfg} (hS : Std cfg) (lead : Bytes) (d : JDoc) (trail : Bytes) (hd : d.OK)
    (hf : d.FloatsOk cfg.params) (hlead : WsNl lead) (htrail : WsNl trail)
    (hdata : cfg.file.data = renderDoc lead d trail) :
    Succ cfg Gjson.root (cfg.file.pos 0) (sentenceNode (rootTree cfg.file.offset lead d trail)) := by
  have := J16Acc.root_ok hS lead d.toAcc trail (toAcc_ok _ d hd hf) (J16Acc.wsNl_wsNlF hlead)
    (J16Acc.wsNl_wsNlF htrail) (by rw [hdata, renderAcc, renderDoc, toAcc_render])
  rwa [rootTree_toAcc] at this

theorem parse_of_succ {cfg : Cfg} {g : G} {n : Node} (h : Succ cfg g (cfg.file.pos 0) n) :
    ∃ F, ∀ fuel, F ≤ fuel → ∃ st, parse cfg fuel g = some { res := .one n, err := none, msg := none, st := st } := by
  obtain ⟨F, hF⟩ := h
  refine ⟨F, fun fuel hf => ?_⟩
  obtain ⟨st', hr⟩ := hF fuel hf [] {}
  exact ⟨st', parse_of_ok hr rfl rfl⟩

theorem jvalOf_runeLeaf (c p : Nat) : jvalOf (runeLeaf c p) = none := rfl

theorem jval_tree (d : JDoc) (p : Nat) : jvalOf (d.tree p) = some d.val := by
  rw [← toAcc_tree, ← toAcc_val]; exact J16Acc.jval_tree _ _

theorem jval_items : ∀ (r : JItems) (e : Nat) (v : JVal),
    allSome (everySecond (some v :: jvalOfList (r.moreNodes e))) = some (v :: r.vals) := by
  intro r e v
  rw [← toAcc_moreItems, ← toAcc_valsItems]; exact J16Acc.jval_items _ e v

theorem jkv_node (k : List SElem) (wk wv : Bytes) : ∀ (d : JDoc) (p : Nat),
    jkvOf (kvNode k wk wv d.render.length d.tree p) = some (decodeStr k, d.val) :=
  fun d _ => J16Acc.jkvOf_kv _ _ _ _ _ _ _ _ _ _ (jval_tree d _)

theorem jkv_mems : ∀ (r : JMems) (e : Nat) (kv : Bytes × JVal),
    allSome (everySecond (some kv :: jkvOfList (r.moreNodes e))) = some (kv :: r.vals) := by
  intro r e kv
  rw [← toAcc_moreMems, ← toAcc_valsMems]; exact J16Acc.jkv_mems _ e kv

theorem jval_rootTree (off : Nat) (lead : Bytes) (d : JDoc) (trail : Bytes) :
    jvalOf (rootTree off lead d trail) = some d.val := by
  unfold rootTree; rw [J16Acc.jvalOf_bump, jval_tree]

/-- `t.depth + 2`: one level for the Sentence node, one for "fuel above the depth" (`c16_value`) -/
theorem evaluate_of_parse {cfg : Cfg} (henv : cfg.env = Gjson.env) (ce : CustomEval) {t : Node} {j : JVal}
    (hj : jvalOf t = some j) {fuel : Nat} (hfuel : t.depth + 2 ≤ fuel) {p : ParseOut}
    (hp : parse cfg fuel Gjson.root = some p) (hres : p.res = .one (sentenceNode t)) (hmsg : p.msg = none) :
    evaluate cfg ce fuel Gjson.root = some (.value (denote j)) := by
  obtain ⟨t', ht', _, hx⟩ := c16_parse_tree cfg henv fuel _ hp (sentenceNode t) (by simp [hres, Res.alts])
  have : t = t' := sentenceNode_inj hx
  subst this
  obtain ⟨k, rfl⟩ : ∃ k, fuel = k + 1 := ⟨fuel - 1, by omega⟩
  have hev := c16_value cfg.file t ht' j hj ce k (by omega)
  simp only [evaluate, hp, hmsg, hres, evalRes, evalNode_sentenceNode, hev]

theorem evaluate_of_succ {cfg : Cfg} (henv : cfg.env = Gjson.env) (ce : CustomEval) {t : Node} {j : JVal}
    (hj : jvalOf t = some j) (h : Succ cfg Gjson.root (cfg.file.pos 0) (sentenceNode t)) :
    ∃ F, ∀ fuel, F ≤ fuel → evaluate cfg ce fuel Gjson.root = some (.value (denote j)) := by
  obtain ⟨F, hF⟩ := parse_of_succ h
  refine ⟨max F (t.depth + 2), fun fuel hfuel => ?_⟩
  obtain ⟨st, hp⟩ := hF fuel (by omega)
  exact evaluate_of_parse henv ce hj (by omega) hp rfl rfl

end PV.J16
