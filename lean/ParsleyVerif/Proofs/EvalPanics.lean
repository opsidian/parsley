/-
  Evaluation panics only in ways that are allowed: `PanicsIn A o` — the outcome `o` is a panic only with a message in `A`.
  On a tree whose interpreters are applicable (`Node.EvalSafe`), with custom interpreters that keep to `A`, `evalNode` keeps to
  `A`, provided its own "out of fuel" is in `A` or the fuel is above the nesting depth (`evalNode_panicsIn`).  Its two uses:
  `NoRealPanic` (A = "out of fuel" only, any fuel: `evalNode_noPanic`, for C04) and `NeverPanics` (A empty, enough fuel:
  `evalNode_np`; the translated code has no "out of fuel" value, so the tie of C04P needs this form).
  Array and Object are read through their `everySecond` specifications (Proofs/Walk.lean), so the list facts are plain inductions.
-/
import ParsleyVerif.Proofs.Sentence
import ParsleyVerif.Proofs.Walk
namespace PV
open PV.Text

def PanicsIn (A : String → Prop) (o : EvalOut) : Prop := ∀ s, o = .panic s → A s

theorem PanicsIn.ok {A : String → Prop} (v : V) : PanicsIn A (.ok v) := fun _ h => nomatch h
theorem PanicsIn.err {A : String → Prop} (p : Nat) (m : Bytes) : PanicsIn A (.err p m) := fun _ h => nomatch h

theorem PanicsIn.ofExcept {A : String → Prop} {α} (f : α → V) {x : Except EvalOut α}
    (h : ∀ e, x = .error e → PanicsIn A e) : PanicsIn A (EvalOut.ofExcept f x) := by
  cases x with
  | ok a => exact .ok _
  | error e => exact h e rfl

theorem PanicsIn.toExcept {A : String → Prop} {o : EvalOut} (h : PanicsIn A o) : ∀ e, o.toExcept = .error e → PanicsIn A e := by
  intro e he
  cases o with
  | ok v => cases he
  | err p m => cases he; exact .err p m
  | panic s => cases he; exact h

/-- a left-to-right traversal `F` in `Except`, given by its two equations (`evalSeq`, `kvSeq`), fails only with the error of
    one of its elements -/
theorem seq_panicsIn {A : String → Prop} {α β : Type} {f : α → Except EvalOut β} {F : List α → Except EvalOut (List β)}
    (hnil : F [] = pure []) (hcons : ∀ a r, F (a :: r) = (do let b ← f a; let bs ← F r; pure (b :: bs))) :
    ∀ l : List α, (∀ a ∈ l, ∀ e, f a = .error e → PanicsIn A e) → ∀ e, F l = .error e → PanicsIn A e
  | [], _, e, he => by rw [hnil] at he; cases he
  | a :: r, h, e, he => by
    rw [hcons] at he
    cases ha : f a with
    | error e' => rw [ha] at he; cases he; exact h a (by simp) _ ha
    | ok b =>
      rw [ha, Walk.except_bind_ok] at he
      cases hr : F r <;> rw [hr] at he <;> cases he
      exact seq_panicsIn hnil hcons r (fun x hx => h x (by simp [hx])) _ hr

/-- a key/value node of the documented shape: the key is a string literal, so only the value can fail -/
theorem kvOf_panicsIn {A : String → Prop} (ev : Node → EvalOut) (d : Nat)
    (hev : ∀ c : Node, c.EvalSafe → c.depth ≤ d → PanicsIn A (ev c))
    (hstr : ∀ t k p r, ev (.term t (.str k) p r) = .ok (.str k) ∨ ∃ m, ev (.term t (.str k) p r) = .panic m ∧ A m)
    (kv : Node) (hs : kv.EvalSafe) (hk : KvShape kv) (hd : kv.depth ≤ d + 1) :
    ∀ e, kvOf ev kv = .error e → PanicsIn A e := by
  unfold KvShape at hk
  split at hk
  case h_2 => exact hk.elim
  case h_1 tk t key p0 r0 k1 vn rest3 p r i =>
    intro e he
    have hvn : vn.EvalSafe := EvalSafeList_mem (EvalSafe_nt _ _ _ _ _ hs).1 vn (by simp)
    have hvd : vn.depth ≤ d := by
      have := depth_le_depthAll (c := vn) (cs := Node.term t (.str key) p0 r0 :: k1 :: vn :: rest3) (by simp)
      simp only [Node.depth] at hd
      omega
    simp only [kvOf, List.getElem?_cons_zero, List.getElem?_cons_succ, Option.elim, Walk.except_pure,
      Walk.except_bind_ok] at he
    rcases hstr t key p0 r0 with h1 | ⟨m, h1, hm⟩
    · rw [h1, show (EvalOut.ok (V.str key)).toExcept = .ok (V.str key) from rfl, Walk.except_bind_ok] at he
      cases hv : (ev vn).toExcept with
      | error e' => rw [hv] at he; cases he; exact (hev vn hvn hvd).toExcept _ hv
      | ok v => rw [hv] at he; cases he
    · rw [h1] at he
      cases he
      intro s hs'; cases hs'; exact hm

theorem objShape_everySecond : ∀ cs : List Node, ObjShape cs → ∀ kv ∈ everySecond cs, KvShape kv
  | [], _, _, h => nomatch h
  | [c], ho, kv, h => by
    simp only [everySecond, List.mem_singleton] at h
    subst h; simpa only [ObjShape] using ho
  | c :: _ :: rest, ho, kv, h => by
    have ho' : KvShape c ∧ ObjShape rest := by simpa only [ObjShape] using ho
    simp only [everySecond, List.mem_cons] at h
    rcases h with rfl | h
    · exact ho'.1
    · exact objShape_everySecond rest ho'.2 kv h

/-- **the evaluator panics only as `A` allows** on a tree whose interpreters are applicable, if the custom interpreters do
    so; its own "out of fuel" must be allowed, or the fuel be above the nesting depth -/
theorem evalNode_panicsIn (A : String → Prop) (ce : CustomEval)
    (hce : ∀ id cs pos ev, (∀ c ∈ cs, PanicsIn A (ev c)) → PanicsIn A (ce id cs pos ev)) :
    ∀ (fuel : Nat) (x : Node), x.EvalSafe → (A "out of fuel" ∨ x.depth < fuel) → PanicsIn A (evalNode ce fuel x) := by
  intro fuel
  induction fuel with
  | zero =>
    intro x _ hA s h
    rcases hA with hA | hA
    · cases h; exact hA
    · omega
  | succ fuel ih =>
    intro x hx hA
    cases x with
    | term t v p r => exact .ok _
    | empty p => exact .err _ _
    | eof p => exact .ok _
    | nt tk cs p r interp =>
      have hx' := EvalSafe_nt tk cs p r interp hx
      have hch : ∀ c ∈ cs, PanicsIn A (evalNode ce fuel c) := fun c hc =>
        ih c (EvalSafeList_mem hx'.1 c hc) (hA.imp id fun h => by
          have := depth_le_depthAll hc; simp only [Node.depth] at h; omega)
      cases interp with
      | none => exact absurd rfl hx'.2.1
      | nilI => exact .ok _
      | select i =>
        have hi : i < cs.length := hx'.2.2.1 i rfl
        rw [evalNode, List.getElem?_eq_getElem hi]
        exact hch cs[i] (List.getElem_mem hi)
      | array =>
        rw [evalNode, evalArray_spec]
        exact .ofExcept _ (seq_panicsIn (F := evalSeq _) rfl (fun _ _ => rfl) _ fun c hc => (hch c (everySecond_subset cs c hc)).toExcept)
      | object =>
        rw [evalNode, evalObject_spec]
        refine .ofExcept _ (seq_panicsIn (F := kvSeq _) rfl (fun _ _ => rfl) _ fun kv hm e he => ?_)
        have hkm := everySecond_subset cs kv hm
        have hks := objShape_everySecond cs (hx'.2.2.2 rfl) kv hm
        have hkd := depth_le_depthAll hkm
        refine kvOf_panicsIn _ (kv.depth - 1)
          (fun c hc hcd => ih c hc (hA.imp id fun h => by simp only [Node.depth] at h; omega)) (fun t k p' r' => ?_)
          kv (EvalSafeList_mem hx'.1 kv hkm) hks (by omega) e he
        cases fuel with
        | succ f => exact .inl rfl
        | zero =>
          refine .inr ⟨_, rfl, hA.resolve_right fun h => ?_⟩
          -- a key/value node is a non-terminal, so the depth is at least 1
          cases kv with
          | nt => simp only [Node.depth] at hkd h; omega
          | _ => exact hks.elim
      | custom id =>
        rw [evalNode]
        exact hce id cs p (evalNode ce fuel) hch

theorem evalNode_noPanic (ce : CustomEval)
    (hce : ∀ id cs pos ev, (∀ c ∈ cs, NoRealPanic (ev c)) → NoRealPanic (ce id cs pos ev)) :
    ∀ (fuel : Nat) (x : Node), x.EvalSafe → NoRealPanic (evalNode ce fuel x) :=
  fun fuel x hx => evalNode_panicsIn (· = "out of fuel") ce hce fuel x hx (.inl rfl)

end PV

namespace PV.TreeTie

def NeverPanics (o : EvalOut) : Prop := ∀ s, o ≠ .panic s

theorem evalNode_np (ce : CustomEval)
    (hce : ∀ id cs pos ev, (∀ c ∈ cs, NeverPanics (ev c)) → NeverPanics (ce id cs pos ev)) :
    ∀ (fuel : Nat) (x : PV.Node), x.EvalSafe → x.depth < fuel → NeverPanics (evalNode ce fuel x) :=
  fun fuel x hx hd => evalNode_panicsIn (fun _ => False) ce hce fuel x hx (.inr hd)

end PV.TreeTie
