/-
  C05 (full value theorem): the fragment `ref, memo, any, seq .seqOf, Trim(terminal)` — the combinators of the
  arithmetic grammar — and two derivation relations on it, both with the trims read EXACTLY (the node a
  `Trim(terminal)` returns has its end moved past the whitespace; `Derives` of Spec/Derives.lean is the
  monotone reading that also allows the un-moved node):

  * `DC cfg c g pos x`   curtailed derivations (the relation `DerivesCW` of Spec/DerivesW.lean on this fragment):
                         what the parser is guaranteed to find under the left-recursion counters `c`;
  * `DSR cfg R g pos x`  derivations with the rule references abstracted by `R` (the relation `DerivesW` on this
                         fragment, abstracted as `DerivesR` of Proofs/ArithAbs.lean abstracts `Derives`): what the
                         parser can return.
-/
import ParsleyVerif.Spec.DerivesC
import ParsleyVerif.Proofs.A05Lex
namespace PV.A05
open PV PV.Text

/-- text.Trim(terminal) -/
def trimT (t : Terminal) : G := .rtrim (.ltrim (.term t) .spacesNl) .spacesNl

theorem trimT_eq (t : Terminal) : trimT t = Garith.trim (.term t) := rfl

mutual
inductive DC (cfg : Cfg) : (Nat → Nat) → G → Nat → Node → Prop
  | trim {c t pos n} : t.parse cfg.params cfg.file (sk cfg.file pos) = .node n →
      DC cfg c (trimT t) pos (mv cfg.file n)
  | ref {c k g pos x} : cfg.env[k]? = some g → DC cfg c g pos x → DC cfg c (.ref k) pos x
  | memo {c i g pos x} : c i ≤ remaining cfg.file pos + Facts.curtailSlack →
      DC cfg (bump c i) g pos x → DC cfg c (.memo i g) pos x
  | any {c gs g pos x} : g ∈ gs → DC cfg c g pos x → DC cfg c (.any gs) pos x
  | seqOf {c gs o sh pos nodes} : (G.seq .seqOf gs o).shape = some sh → DCSeq cfg c sh 0 pos nodes →
      sh.lenCheck nodes.length = true → DC cfg c (.seq .seqOf gs o) pos (handleResult sh pos nodes)
inductive DCSeq (cfg : Cfg) : (Nat → Nat) → SeqShape → Nat → Nat → List Node → Prop
  | nil {c sh d pos} : DCSeq cfg c sh d pos []
  | cons {c sh d pos g n rest} : sh.lookup d = some g → DC cfg c g pos n →
      DCSeq cfg (if n.rpos > pos then zeroC else c) sh (d + 1) n.rpos rest →
      DCSeq cfg c sh d pos (n :: rest)
end

mutual
inductive DSR (cfg : Cfg) (R : Nat → Nat → Node → Prop) : G → Nat → Node → Prop
  | trim {t pos n} : t.parse cfg.params cfg.file (sk cfg.file pos) = .node n →
      DSR cfg R (trimT t) pos (mv cfg.file n)
  | ref {k pos x} : R k pos x → DSR cfg R (.ref k) pos x
  | memo {i g pos x} : DSR cfg R g pos x → DSR cfg R (.memo i g) pos x
  | any {gs g pos x} : g ∈ gs → DSR cfg R g pos x → DSR cfg R (.any gs) pos x
  | seqOf {gs o sh pos nodes} : (G.seq .seqOf gs o).shape = some sh → DSRSeq cfg R sh 0 pos nodes →
      sh.lenCheck nodes.length = true → DSR cfg R (.seq .seqOf gs o) pos (handleResult sh pos nodes)
inductive DSRSeq (cfg : Cfg) (R : Nat → Nat → Node → Prop) : SeqShape → Nat → Nat → List Node → Prop
  | nil {sh d pos} : DSRSeq cfg R sh d pos []
  | cons {sh d pos g n rest} : sh.lookup d = some g → DSR cfg R g pos n →
      DSRSeq cfg R sh (d + 1) n.rpos rest → DSRSeq cfg R sh d pos (n :: rest)
end

def Closed (cfg : Cfg) (R : Nat → Nat → Node → Prop) : Prop :=
  ∀ k g pos x, cfg.env[k]? = some g → DSR cfg R g pos x → R k pos x

def TermNoEOF (cfg : Cfg) (t : Terminal) : Prop :=
  ∀ pos n, t.parse cfg.params cfg.file pos = .node n → n.token ≠ eofTok

mutual
/-- the fragment; `eofOK` says whether `End` is allowed (it is for soundness, it is not for completeness:
    a sequence stops enumerating at the first alternative that ends with an EOF node) -/
def Frag (cfg : Cfg) (eofOK : Bool) : G → Prop
  | .ref _ => True
  | .eof => eofOK = true
  | .memo _ g => Frag cfg eofOK g
  | .any gs => FragL cfg eofOK gs
  | .seq .seqOf gs o => o.token.getD seqTok ≠ eofTok ∧ FragL cfg eofOK gs
  | .rtrim (.ltrim (.term t) .spacesNl) .spacesNl => TermNoEOF cfg t
  | _ => False
def FragL (cfg : Cfg) (eofOK : Bool) : List G → Prop
  | [] => True
  | g :: gs => Frag cfg eofOK g ∧ FragL cfg eofOK gs
end

theorem FragL_mem {cfg : Cfg} {b : Bool} {gs : List G} : FragL cfg b gs → ∀ g ∈ gs, Frag cfg b g :=
  forall_mem_of_cons fun _ _ h => h

theorem Frag_rtrim {cfg : Cfg} {b : Bool} {g : G} {m : WsMode} (h : Frag cfg b (.rtrim g m)) :
    ∃ t, g = .ltrim (.term t) .spacesNl ∧ m = .spacesNl ∧ TermNoEOF cfg t := by
  cases g with
  | ltrim g1 m1 =>
    cases g1 with
    | term t =>
      cases m1 <;> cases m <;> simp only [Frag] at h
      exact ⟨t, rfl, rfl, h⟩
    | _ => simp only [Frag] at h
  | _ => simp only [Frag] at h

theorem Frag_seq {cfg : Cfg} {b : Bool} {k : SeqKind} {gs : List G} {o : SeqOpts} (h : Frag cfg b (.seq k gs o)) :
    k = .seqOf ∧ o.token.getD seqTok ≠ eofTok ∧ FragL cfg b gs := by
  cases k <;> simp only [Frag] at h
  exact ⟨rfl, h⟩

mutual
theorem Frag_mono {cfg : Cfg} : ∀ (g : G), Frag cfg false g → Frag cfg true g
  | .ref _, _ => by simp only [Frag]
  | .eof, h => by simp [Frag] at h
  | .memo _ g, h => by simp only [Frag] at h ⊢; exact Frag_mono g h
  | .any gs, h => by simp only [Frag] at h ⊢; exact FragL_mono gs h
  | .seq k gs o, h => by
    obtain ⟨rfl, h1, h2⟩ := Frag_seq h
    simp only [Frag]; exact ⟨h1, FragL_mono gs h2⟩
  | .rtrim g m, h => by
    obtain ⟨t, rfl, rfl, ht⟩ := Frag_rtrim h
    simp only [Frag]; exact ht
  | .term _, h => by simp [Frag] at h
  | .empty, h => by simp [Frag] at h
  | .choice _, h => by simp [Frag] at h
  | .many _ _ _, h => by simp [Frag] at h
  | .sepBy _ _ _ _, h => by simp [Frag] at h
  | .optional _, h => by simp [Frag] at h
  | .name _ _, h => by simp [Frag] at h
  | .ltrim _ _, h => by simp [Frag] at h
  | .single _, h => by simp [Frag] at h
  | .suppress _, h => by simp [Frag] at h
theorem FragL_mono {cfg : Cfg} : ∀ (gs : List G), FragL cfg false gs → FragL cfg true gs
  | [], _ => by simp only [FragL]
  | g :: gs, h => by
    simp only [FragL] at h ⊢; exact ⟨Frag_mono g h.1, FragL_mono gs h.2⟩
end

theorem mv_rpos_term (f : File) (t : Bytes) (v : Val) (p r : Nat) : (mv f (.term t v p r)).rpos = sk f r := by
  rw [mv_term]; rfl

end PV.A05
