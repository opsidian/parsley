/-
  The simple wrappers — combinator.Optional, Single, SuppressError, parser.ReturnError (= Name),
  parser.Empty, parser.End — translated closure vs. the matching case of `run`.
-/
import ParsleyVerif.Proofs.CoreTieBasics
import ParsleyVerif.Proofs.RunEqns
namespace PV.CoreTie
open PV.FactsCore

theorem tie_Optional (W : World Context) (cfg : Cfg) (h0 : cfg.maxCalls = 0) (fuel : Nat) (p : Parser) (g : G)
    (hp : Agrees W cfg fuel p g) : AgreesF (Optional_parse W p) cfg (fuel + 1) (.optional g) := by
  intro m c pos s st hm hs
  rw [run_wrap cfg fuel _ _ c pos st rfl, if_neg (run_budget0 cfg h0 st)]
  exact corr_iff.mpr (hp.bind hm pos hs fun o s1 st1 r1 =>
    ⟨_, s1, bind_ok (tie_AppendNode W o.res (.one (.empty pos)) s1), rfl, r1⟩)

theorem tie_SuppressError (W : World Context) (cfg : Cfg) (h0 : cfg.maxCalls = 0) (fuel : Nat) (p : Parser) (g : G)
    (hp : Agrees W cfg fuel p g) : AgreesF (SuppressError_parse W p) cfg (fuel + 1) (.suppress g) := by
  intro m c pos s st hm hs
  rw [run_wrap cfg fuel _ _ c pos st rfl, if_neg (run_budget0 cfg h0 st)]
  exact corr_iff.mpr (hp.bind hm pos hs fun o s1 st1 r1 => .ret ⟨rfl, r1⟩)

@[simp] theorem asNonTerminal_eNode_nt (t : Text.Bytes) (c : List PV.Node) (p r : Nat) (i : Interp) :
    CorePrelude.Node.asNonTerminalNode (eNode (.nt t c p r i)) = (eNode (.nt t c p r i), true) := by
  simp [eNode, CorePrelude.Node.asNonTerminalNode]

theorem asNonTerminal_eRes_other (r : PV.Res) (h : ∀ t c p q i, r ≠ .one (.nt t c p q i)) :
    (CorePrelude.Node.asNonTerminalNode (eRes r)).2 = false := by
  cases r with
  | nil => rfl
  | list l => rfl
  | one n =>
    cases n with
    | nt t c p q i => exact absurd rfl (h t c p q i)
    | _ => rfl

theorem tie_Single (W : World Context) (cfg : Cfg) (h0 : cfg.maxCalls = 0) (fuel : Nat) (p : Parser) (g : G)
    (hp : Agrees W cfg fuel p g) : AgreesF (Single_parse W p) cfg (fuel + 1) (.single g) := by
  intro m c pos s st hm hs
  rw [run_wrap cfg fuel _ _ c pos st rfl, if_neg (run_budget0 cfg h0 st)]
  refine corr_iff.mpr (hp.bind hm pos hs fun o s1 st1 r1 => ⟨_, s1, ?_, rfl, r1⟩)
  obtain ⟨res, cp, err⟩ := o
  cases err with
  | some e => simp [singleOut, eOut]
  | none =>
    -- only a non-terminal node with exactly one child is replaced
    cases res with
    | one n =>
      cases n with
      | nt t ch p' q i =>
        match ch with
        | [] => simp [singleOut, eOut, eNode, CorePrelude.Node.asNonTerminalNode, CorePrelude.Node_Children, CorePrelude.Go.len]
        | [x] => simp [singleOut, eOut, eNode, CorePrelude.Node.asNonTerminalNode, CorePrelude.Node_Children, CorePrelude.Go.len,
            CorePrelude.Go.nth]
        | x :: y :: rest =>
          have : ¬ ((rest.length : Int) + 1 + 1 = 1) := by omega
          simp [singleOut, eOut, eNode, CorePrelude.Node.asNonTerminalNode, CorePrelude.Node_Children, CorePrelude.Go.len, this]
      | _ => simp [singleOut, eOut, eNode, CorePrelude.Node.asNonTerminalNode]
    | _ => simp [singleOut, eOut, CorePrelude.Node.asNonTerminalNode]

theorem tie_ReturnError (W : World Context) (cfg : Cfg) (h0 : cfg.maxCalls = 0) (fuel : Nat) (p : Parser) (g : G)
    (nm : Text.Bytes) (hp : Agrees W cfg fuel p g) :
    AgreesF (ReturnError_parse W p (CorePrelude.NotFoundError nm)) cfg (fuel + 1) (.name g nm) := by
  intro m c pos s st hm hs
  rw [run_wrap cfg fuel _ _ c pos st rfl, if_neg (run_budget0 cfg h0 st)]
  refine corr_iff.mpr (hp.bind hm pos hs fun o s1 st1 r1 => ⟨_, s1, ?_, rfl, r1⟩)
  obtain ⟨res, cp, err⟩ := o
  cases err with
  | some e =>
    by_cases hpos : e.pos = pos <;> cases hk : e.kind.isNotFound <;>
      simp [nameOut, eOut, Int.natCast_inj, hpos, hk, CorePrelude.NewError, CorePrelude.NotFoundError]
  | none => cases res <;> simp [nameOut, eOut, PV.Res.isNil, CorePrelude.NewError, CorePrelude.NotFoundError]

theorem tie_Empty (W : World Context) (cfg : Cfg) (h0 : cfg.maxCalls = 0) (fuel : Nat) :
    AgreesF (Empty_parse W) cfg (fuel + 1) .empty := by
  intro m c pos s st hm hs
  rw [run_succ0 h0]
  exact ⟨s, rfl, hs⟩

/-- parser.End; its captured `notFoundErr` is `errors.New("was expecting the end of input")` -/
theorem tie_End (W : World Context) (cfg : Cfg) (h0 : cfg.maxCalls = 0) (hw : WorldRel W cfg) (fuel : Nat) :
    AgreesF (End_parse W (CorePrelude.errors_New (CorePrelude.Go.str "was expecting the end of input"))) cfg (fuel + 1) .eof := by
  intro m c pos s st hm hs
  rw [run_succ0 h0]
  have hk : CorePrelude.errors_New (CorePrelude.Go.str "was expecting the end of input") = eKind (.other endErrMsg) := rfl
  simp only [runStep, eofStep]
  cases he : Text.isEOF cfg.file pos
  · exact ⟨s, by simp [End_parse, Context_Reader, hw.isEOF, he, hk]; rfl, hs.logEv cfg _⟩
  · exact ⟨s, by simp [End_parse, Context_Reader, hw.isEOF, he]; rfl, hs⟩

end PV.CoreTie
