/-
  C12: the hypothesis of `c12_parse` about the two file sets holds for the file sets the library
  builds: the same file added to two file sets (the second one already holding `b` more positions) gets
  base offsets `b` apart, and every position of the file renders the same line:column in both.
-/
import ParsleyVerif.Spec.Shift
import ParsleyVerif.Proofs.Search
namespace PV
open PV.Text

/-- (f *File) Position does not look at the base offset -/
theorem Text.File.position_offset (f : File) (o : Nat) (p : Nat) :
    File.position { f with offset := o } p = File.position f p := by
  unfold File.position; rfl

/-- a position from the next free one on belongs to the file added last: the search passes every recorded offset -/
theorem Text.FileSet.position_last (fs0 : FileSet) (h : fs0.WF) (f : File) (p : Nat) (hp : fs0.pos ≤ p) :
    (fs0.addFile f).1.position p =
      if p ≥ fs0.pos + f.len + Facts.fileSetGap then .unknown else f.position (p - fs0.pos) := by
  have hall (k : Nat) : decide ((fs0.offsets ++ [fs0.pos]).getD k 0 > p) = false := by
    refine decide_eq_false (Nat.not_lt.2 ?_)
    rw [List.getD_eq_getElem?_getD]
    cases hk : (fs0.offsets ++ [fs0.pos])[k]? with
    | none => exact Nat.zero_le p
    | some o =>
      rcases List.mem_append.1 (List.mem_of_getElem? hk) with ho | ho
      · exact Nat.le_trans (h.le o ho) hp
      · cases List.mem_singleton.1 ho; exact hp
  have hs := goSearch_unique (fun i => decide ((fs0.offsets ++ [fs0.pos]).getD i 0 > p)) (fs0.files.length + 1) _
    (fun a _ _ _ hfa => by rw [hall a] at hfa; cases hfa) (Nat.le_refl _) (fun k _ => hall k)
    (fun hlt => absurd hlt (Nat.lt_irrefl _))
  unfold FileSet.position FileSet.addFile
  simp only [hs, List.length_append, List.length_singleton, Nat.add_one_ne_zero, if_false, Nat.add_sub_cancel,
    ← h.len, List.getElem?_concat_length, show ¬ p = 0 from Nat.ne_of_gt (Nat.lt_of_lt_of_le h.pos hp), false_or]
  rw [h.len, List.getElem?_concat_length]
  rfl

theorem Text.FileSet.addFile_shift (fs0 fs0' : FileSet) (h : fs0.WF) (h' : fs0'.WF) (f : File) (hle : fs0.pos ≤ fs0'.pos) :
    (fs0'.addFile f).2 = shiftFile (fs0'.pos - fs0.pos) (fs0.addFile f).2 ∧
    ∀ p, (fs0.addFile f).2.offset ≤ p →
      (fs0'.addFile f).1.position (p + (fs0'.pos - fs0.pos)) = (fs0.addFile f).1.position p := by
  constructor
  · simp only [FileSet.addFile, shiftFile, Nat.add_sub_cancel' hle]
  · intro p hp
    have hp' : fs0.pos ≤ p := hp
    rw [FileSet.position_last fs0 h f p hp', FileSet.position_last fs0' h' f _ (by omega),
      show p + (fs0'.pos - fs0.pos) - fs0'.pos = p - fs0.pos by omega]
    exact ite_congr (propext (by omega)) (fun _ => rfl) (fun _ => rfl)

theorem Text.FileSet.WF_empty : FileSet.WF {} := ⟨rfl, fun o ho => (by cases ho), by decide⟩

theorem Text.FileSet.WF_addFile (fs : FileSet) (h : fs.WF) (f : File) : (fs.addFile f).1.WF := by
  refine ⟨?_, ?_, ?_⟩
  · simp [FileSet.addFile, h.len]
  · intro o ho
    simp only [FileSet.addFile, List.mem_append, List.mem_singleton] at ho ⊢
    rcases ho with ho | rfl
    · have := h.le o ho; omega
    · omega
  · have := h.pos
    simp only [FileSet.addFile]; omega

end PV
