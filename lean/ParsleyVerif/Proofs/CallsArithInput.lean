/-
  C17, the operator grammars — the inputs.  Every string `1 o₁ 1 … o_k 1` with operators in `A ++ M` (`arData ops`)
  satisfies the hypotheses of CallsArith.lean / CallsArithCount.lean (`arData_isLv`, `arData_terms`: its terms are the
  maximal runs of operators of `M`), so its parse makes `arCountK` calls in the spine of `E` (`lv_ops_parse`); and the
  harness's input of every length parameter is such a string, of which the operators are known (`build_blocks`).
-/
import ParsleyVerif.Proofs.CallsArithCount
namespace PV.C17b
open PV.Text PV.C17

/-- `1 o₁ 1 o₂ … o_k 1` -/
def arData (ops : List Nat) : Bytes := 49 :: ops.flatMap (fun o => [o, 49])

theorem arData_cons (o : Nat) (os : List Nat) : arData (o :: os) = 49 :: o :: arData os := by
  simp [arData]

theorem arData_length : ∀ ops, (arData ops).length = 2 * ops.length + 1 := by
  intro ops
  induction ops with
  | nil => rfl
  | cons o os ih => rw [arData_cons]; simp only [List.length_cons, ih]; omega

theorem arData_even : ∀ ops i, (arData ops)[2 * i]? = if i ≤ ops.length then some 49 else none := by
  intro ops
  induction ops with
  | nil =>
    intro i
    cases i with
    | zero => rfl
    | succ i => simp [arData]
  | cons o os ih =>
    intro i
    cases i with
    | zero => simp [arData]
    | succ i =>
      rw [arData_cons, show 2 * (i + 1) = 2 * i + 1 + 1 by omega, List.getElem?_cons_succ, List.getElem?_cons_succ, ih]
      simp

theorem arData_odd : ∀ ops i, (arData ops)[2 * i + 1]? = ops[i]? := by
  intro ops
  induction ops with
  | nil => intro i; simp [arData]
  | cons o os ih =>
    intro i
    cases i with
    | zero => simp [arData]
    | succ i =>
      rw [arData_cons, show 2 * (i + 1) + 1 = (2 * i + 1) + 1 + 1 by omega, List.getElem?_cons_succ,
        List.getElem?_cons_succ, ih]
      simp

theorem fol_arData_even (ops : List Nat) (ch a : Nat) : fol (arData ops) ch (2 * a + 2) = (ops[a]? == some ch) := by
  rw [fol, show 2 * a + 2 - 1 = 2 * a + 1 by omega, arData_odd]

theorem fol_arData_odd (ops : List Nat) (ch a : Nat) :
    fol (arData ops) ch (2 * a + 1) = decide (a ≤ ops.length ∧ ch = 49) := by
  rw [fol, show 2 * a + 1 - 1 = 2 * a by omega, arData_even]
  by_cases h : a ≤ ops.length
  · by_cases h' : ch = 49
    · subst h'; simp [h]
    · have : ¬ (49 = ch) := fun x => h' x.symm
      simp [h, h', this]
  · simp [h]

theorem fol_arData_zero (ops : List Nat) (ch : Nat) : fol (arData ops) ch 0 = decide (ch = 49) := by
  simp only [fol, arData, Nat.zero_sub, List.getElem?_cons_zero]
  by_cases h' : ch = 49
  · subst h'; simp
  · have : ¬ (49 = ch) := fun x => h' x.symm
    simp [h', this]

theorem parity_cases (p : Nat) : p = 0 ∨ (∃ a, p = 2 * a + 1) ∨ (∃ a, p = 2 * a + 2) := by
  by_cases h0 : p = 0
  · exact .inl h0
  · by_cases h1 : p % 2 = 1
    · exact .inr (.inl ⟨p / 2, by omega⟩)
    · exact .inr (.inr ⟨p / 2 - 1, by omega⟩)

def bump : List Nat → List Nat
  | r :: rest => (r + 1) :: rest
  | [] => [1]

def rfOf (rs : List Nat) (i : Nat) : Nat := rs.getD i 0

theorem pre_shift (f : Nat → Nat) : ∀ i, pre f (i + 1) = f 0 + 1 + pre (fun j => f (j + 1)) i := by
  intro i
  induction i with
  | zero => simp [pre]
  | succ i ih => rw [pre, ih, pre]; omega

theorem rfOf_cons_succ (a : Nat) (rs : List Nat) : (fun j => rfOf (a :: rs) (j + 1)) = rfOf rs := by
  funext j; simp [rfOf]

def blocks (ops : List Nat) : Bytes := ops.flatMap (fun o => [49, o])

theorem blocks_snoc (ops : List Nat) (o : Nat) : blocks ops ++ [49, o] = blocks (ops ++ [o]) := by
  simp [blocks]

theorem blocks_end : ∀ ops, blocks ops ++ [49] = arData ops := by
  intro ops
  induction ops with
  | nil => rfl
  | cons o os ih =>
    rw [arData_cons, ← ih]
    simp [blocks]

namespace Lv
variable {A M : List Nat}

def lvCfg (A M : List Nat) (ops : List Nat) : Cfg := famCfg (lvEnv A M) (arData ops)

/-- the operator characters of a grammar: ASCII, none of `1`, `(`; none at both levels -/
structure OpsOK (A M : List Nat) : Prop where
  addNe : A ≠ []
  mulNe : M ≠ []
  ascii : ∀ c ∈ A ++ M, c < 128
  no1 : 49 ∉ A ++ M
  noParen : 40 ∉ A ++ M
  nodup : (A ++ M).Nodup

theorem arData_isLv (h : OpsOK A M) (ops : List Nat) (hops : ∀ o ∈ ops, o ∈ A ++ M) :
    IsLv A M ops.length (lvCfg A M ops) where
  env := rfl
  off := rfl
  max := rfl
  len := arData_length ops
  addNe := h.addNe
  mulNe := h.mulNe
  noParen := by
    intro p
    show fol (arData ops) 40 p = false
    rcases parity_cases p with rfl | ⟨a, rfl⟩ | ⟨a, rfl⟩
    · rw [fol_arData_zero]; simp
    · rw [fol_arData_odd]; simp
    · rw [fol_arData_even]
      cases h' : ops[a]? with
      | none => simp
      | some o =>
        have := hops o (List.mem_of_getElem? h')
        have : o ≠ 40 := fun e => h.noParen (e ▸ this)
        simpa using this
  one := by
    intro p h1 h2
    show fol (arData ops) 49 p = true
    obtain ⟨a, rfl⟩ : ∃ a, p = 2 * a + 1 := ⟨p / 2, by omega⟩
    rw [fol_arData_odd]
    simp; omega
  op := by
    intro c hc
    have hne : c ≠ 49 := fun e => h.no1 (e ▸ hc)
    refine ⟨h.ascii c hc, fun p hp => ?_⟩
    have h' : fol (arData ops) c p = true := hp
    rcases parity_cases p with rfl | ⟨a, rfl⟩ | ⟨a, rfl⟩
    · rw [fol_arData_zero] at h'; simp at h'; exact absurd h' hne
    · rw [fol_arData_odd] at h'; simp at h'; exact absurd h'.2 hne
    · rw [fol_arData_even] at h'
      have : a < ops.length := by
        rcases Nat.lt_or_ge a ops.length with h1 | h1
        · exact h1
        · rw [List.getElem?_eq_none_iff.mpr h1] at h'; simp at h'
      omega

/-- the numbers of operators of `M` of the terms -/
def splitK (M : List Nat) : List Nat → List Nat
  | [] => [0]
  | o :: os => if o ∈ M then bump (splitK M os) else 0 :: splitK M os

theorem splitK_ne (M : List Nat) : ∀ ops, splitK M ops ≠ [] := by
  intro ops
  induction ops with
  | nil => simp [splitK]
  | cons o os ih =>
    rw [splitK]
    split
    · cases h : splitK M os with
      | nil => exact absurd h ih
      | cons r rest => simp [bump]
    · simp

/-- the operator in front of the second `1` -/
theorem anyOp_arData_two (o : Nat) (os X : List Nat) : anyOp (arData (o :: os)) X 2 = decide (o ∈ X) := by
  rw [arData_cons]
  simp only [anyOp, fol, List.getElem?_cons_succ, List.getElem?_cons_zero]
  by_cases ho : o ∈ X
  · simp only [ho, decide_true, List.any_eq_true]
    exact ⟨o, ho, by simp⟩
  · simp only [ho, decide_false, List.any_eq_false]
    intro c hc
    have : o ≠ c := fun e => ho (e ▸ hc)
    simp [this]

/-- behind it the input is the input without its first operator, two positions on -/
theorem anyOp_arData_shift (o : Nat) (os X : List Nat) (p : Nat) (hp : 1 ≤ p) :
    anyOp (arData (o :: os)) X (p + 2) = anyOp (arData os) X p := by
  obtain ⟨q, rfl⟩ : ∃ q, p = q + 1 := ⟨p - 1, by omega⟩
  rw [arData_cons]
  rfl

/-- **the terms of an operator string** are what `splitK` counts: behind the `t`-th `1` of term `i` stands an operator of `M`
    while `t < rf i`, and behind its last `1` an operator of `A` unless it is the last term.  By induction over the string:
    an operator of `M` in front makes the first term one longer, any other puts an empty term in front, and every position
    moves by two. -/
theorem arData_split (h : OpsOK A M) : ∀ ops : List Nat, (∀ o ∈ ops, o ∈ A ++ M) →
    pre (rfOf (splitK M ops)) (splitK M ops).length = ops.length + 1 ∧
    ∀ i, i < (splitK M ops).length → ∀ t, t ≤ rfOf (splitK M ops) i →
      anyOp (arData ops) M (qf (rfOf (splitK M ops)) i + 1 + 2 * t) = decide (t < rfOf (splitK M ops) i) ∧
      anyOp (arData ops) A (qf (rfOf (splitK M ops)) i + 1 + 2 * t) =
        decide (t = rfOf (splitK M ops) i ∧ i + 1 < (splitK M ops).length)
  | [], _ => by
    refine ⟨rfl, fun i hi t ht => ?_⟩
    obtain rfl : i = 0 := by simpa [splitK] using hi
    obtain rfl : t = 0 := by simpa [rfOf, splitK] using ht
    simp [anyOp, fol, arData, qf, pre, rfOf, splitK]
  | o :: os, hops => by
    obtain ⟨htot, ih⟩ := arData_split h os fun x hx => hops x (List.mem_cons_of_mem _ hx)
    obtain ⟨r', rest', hrs⟩ : ∃ r' rest', splitK M os = r' :: rest' := by
      cases hs : splitK M os with
      | nil => exact absurd hs (splitK_ne M os)
      | cons a b => exact ⟨a, b, rfl⟩
    rw [hrs] at htot ih
    by_cases hm : o ∈ M
    · have hoA : o ∉ A := fun hA => (List.nodup_append.mp h.nodup).2.2 o hA o hm rfl
      have hpre : ∀ i, pre (rfOf ((r' + 1) :: rest')) (i + 1) = pre (rfOf (r' :: rest')) (i + 1) + 1 := by
        intro i
        rw [pre_shift, pre_shift, rfOf_cons_succ, rfOf_cons_succ]
        simp [rfOf]; omega
      rw [show splitK M (o :: os) = (r' + 1) :: rest' by simp [splitK, hm, hrs, bump]]
      refine ⟨by rw [List.length_cons] at htot ⊢; rw [hpre, htot, List.length_cons], fun i hi t ht => ?_⟩
      match i, t with
      | 0, 0 => simp [qf, pre, anyOp_arData_two, hm, hoA, rfOf]
      | 0, t + 1 =>
        have e : qf (rfOf ((r' + 1) :: rest')) 0 + 1 + 2 * (t + 1) = qf (rfOf (r' :: rest')) 0 + 1 + 2 * t + 2 := by
          simp only [qf, pre]; omega
        have ht' : t ≤ r' := Nat.le_of_succ_le_succ ht
        rw [e, anyOp_arData_shift o os _ _ (by omega), anyOp_arData_shift o os _ _ (by omega), (ih 0 hi t ht').1, (ih 0 hi t ht').2]
        simp [rfOf]
      | i + 1, t =>
        have e : qf (rfOf ((r' + 1) :: rest')) (i + 1) + 1 + 2 * t = qf (rfOf (r' :: rest')) (i + 1) + 1 + 2 * t + 2 := by
          unfold qf; rw [hpre]; omega
        rw [e, anyOp_arData_shift o os _ _ (by omega), anyOp_arData_shift o os _ _ (by omega)]
        exact ih (i + 1) hi t ht
    · have hoA : o ∈ A := (List.mem_append.mp (hops o (List.mem_cons_self ..))).resolve_right hm
      have hpre : ∀ i, pre (rfOf (0 :: r' :: rest')) (i + 1) = pre (rfOf (r' :: rest')) i + 1 := by
        intro i
        rw [pre_shift, rfOf_cons_succ]
        simp [rfOf]; omega
      rw [show splitK M (o :: os) = 0 :: r' :: rest' by simp [splitK, hm, hrs]]
      refine ⟨by rw [List.length_cons, hpre, htot, List.length_cons], fun i hi t ht => ?_⟩
      match i with
      | 0 =>
        obtain rfl : t = 0 := by simpa [rfOf] using ht
        simp [qf, pre, anyOp_arData_two, hm, hoA, rfOf]
      | i + 1 =>
        have e : qf (rfOf (0 :: r' :: rest')) (i + 1) + 1 + 2 * t = qf (rfOf (r' :: rest')) i + 1 + 2 * t + 2 := by
          unfold qf; rw [hpre]; omega
        have ht' : t ≤ rfOf (r' :: rest') i := ht
        have hi' : i < (r' :: rest').length := Nat.lt_of_succ_lt_succ hi
        rw [e, anyOp_arData_shift o os _ _ (by omega), anyOp_arData_shift o os _ _ (by omega), (ih i hi' t ht').1, (ih i hi' t ht').2]
        refine ⟨rfl, ?_⟩
        show _ = decide (t = rfOf (r' :: rest') i ∧ i + 1 + 1 < (r' :: rest').length + 1)
        simp

theorem arData_terms (h : OpsOK A M) (ops : List Nat) (hops : ∀ o ∈ ops, o ∈ A ++ M) :
    LvTerms A M (lvCfg A M ops).file.data ops.length (rfOf (splitK M ops)) ((splitK M ops).length - 1) := by
  obtain ⟨htot, hfact⟩ := arData_split h ops hops
  have hl : 0 < (splitK M ops).length := List.length_pos_iff.mpr (splitK_ne M ops)
  have hnd := List.nodup_append.mp h.nodup
  refine ⟨by rw [Nat.sub_add_cancel hl]; exact htot, fun i hi t ht => (hfact i (by omega) t ht).1, fun i hi t ht => ?_,
    hnd.1, hnd.2.1⟩
  rw [show (lvCfg A M ops).file.data = arData ops from rfl, (hfact i (by omega) t ht).2]
  congr 1
  exact propext ⟨fun ⟨a, b⟩ => ⟨a, by omega⟩, fun ⟨a, b⟩ => ⟨a, by omega⟩⟩

/-- **every operator string over `A ++ M`**: the parse succeeds; `arCountK` calls in the spine of `E` (exact, explicit),
    one for the element of Sentence and one `End` per alternative of `E` up to the one that spans the input -/
theorem lv_ops_parse (h : OpsOK A M) (ops : List Nat) (hops : ∀ o ∈ ops, o ∈ A ++ M) :
    ∃ p, parse (lvCfg A M ops) (24 * ops.length + 50) (G.sentence (.ref 0)) = some p ∧ p.err = none ∧
      p.res.isNil = false ∧
      arCountK A.length M.length ops.length ((splitK M ops).length - 1) (rfOf (splitK M ops)) + 2 ≤ p.st.calls ∧
      p.st.calls ≤
        arCountK A.length M.length ops.length ((splitK M ops).length - 1) (rfOf (splitK M ops)) + ops.length + 2 ∧
      ((EN A M (arData ops) ops.length (2 * ops.length + 3)).Pairwise (fun x y => x.rpos > y.rpos) →
        p.st.calls =
          arCountK A.length M.length ops.length ((splitK M ops).length - 1) (rfOf (splitK M ops)) + 2) := by
  have ht := arData_terms h ops hops
  exact lv_parse (arData_isLv h ops hops) ht

/-- the operators of the input of length parameter `2m` or `2m+1`, when `g len` is put behind a prefix of length `len` -/
def hOps (g : Nat → Nat) (m : Nat) : List Nat := (List.range m).map fun i => g (2 * i)

theorem blocks_length (ops : List Nat) : (blocks ops).length = 2 * ops.length := by
  induction ops with
  | nil => rfl
  | cons o os ih => simp only [blocks, List.flatMap_cons, List.length_append, List.length_cons, List.length_nil] at ih ⊢; omega

theorem build_blocks (B : Nat → Nat → Bytes → Bytes) (g : Nat → Nat) (n : Nat) (h0 : ∀ acc, B 0 n acc = acc)
    (hs : ∀ fuel acc, B (fuel + 1) n acc = if acc.length < n - 1 then B fuel n (acc ++ [49, g acc.length]) else acc) :
    ∀ fuel i, n / 2 ≤ i + fuel → i ≤ n / 2 → B fuel n (blocks (hOps g i)) = blocks (hOps g (n / 2)) := by
  intro fuel
  induction fuel with
  | zero =>
    intro i h1 h2
    rw [h0, show i = n / 2 by omega]
  | succ fuel ih =>
    intro i h1 h2
    have hlen : (blocks (hOps g i)).length = 2 * i := by rw [blocks_length, hOps, List.length_map, List.length_range]
    rw [hs, hlen]
    by_cases h : 2 * i < n - 1
    · rw [if_pos h, blocks_snoc, ← ih (i + 1) (by omega) (by omega), hOps, hOps, List.range_succ, List.map_append]
      rfl
    · rw [if_neg h, show i = n / 2 by omega]

theorem arData_ops (ops : List Nat) :
    (List.range ((arData ops).length / 2)).map (fun i => (arData ops).getD (2 * i + 1) 0) = ops := by
  apply List.ext_getElem
  · rw [List.length_map, List.length_range, arData_length]; omega
  · intro i h1 h2
    rw [List.getElem_map, List.getElem_range, List.getD_eq_getElem?_getD, arData_odd, List.getElem?_eq_getElem h2]
    rfl

end Lv
end PV.C17b
