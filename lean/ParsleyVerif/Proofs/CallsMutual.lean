/-
  C17: the exact call count of the mutually left-recursive pair `A → B a | x ; B → A b | y` (family 3 of
  the harness: env = [Memoize₀(Any(SeqOf(B,'a'),'x')), Memoize₁(Any(SeqOf(A,'b'),'y'))], root = Sentence(A), input
  `x (ba)^k`), for EVERY k.

  What the run does (`mut_parse`, an instance of `Runs.spine` whose step `mut_step` is two activations deep): at position 1
  the two memoized rules are entered alternately — `A` with left-recursion counts (t, t), `B` with (t+1, t) — for
  t = 0, …, 2k+2 (n = 2k+1 is the input length), and `A` is curtailed at count 2k+3 > Remaining + 1.  The `m`-th activation
  of `A` above the curtailed one returns the min(m, k+1) shortest `A`-prefixes `x`, `xba`, … (end positions
  2·min(m,k+1), …, 4, 2), the activation of `B` below it the min(m-1, k) shortest `B`-prefixes `xb`, `xbab`, … (end positions
  …, 5, 3).  Each activation costs 3 calls (the sequence, its element, the base alternative: `Runs.lrBody`) plus one per
  alternative its inner activation returned: level `m` costs 6 + min m (k+1) + min m k.  Sentence adds 2.
  Total: 6(2k+3) + Σ_{m<2k+3} (min m (k+1) + min m k) + 2 = 3k² + 18k + 22.
  Nothing is read from the cache: both entries at position 1 are overwritten on the way up.
-/
import ParsleyVerif.Proofs.CallsSentence
import ParsleyVerif.Proofs.CallsSum
import ParsleyVerif.Proofs.CallsEnds
namespace PV.C17b
open PV.Text PV.C17

def mutA : G := .memo 0 (.any [lrS 1 97, runeT 120])
def mutB : G := .memo 1 (.any [lrS 0 98, runeT 121])

theorem mutualEnv_eq : mutualEnv = [mutA, mutB] := rfl

def mutFile (k : Nat) : File := { name := "f", data := mutualInput k, offset := 1 }

structure IsMut (k : Nat) (cfg : Cfg) : Prop where
  env : cfg.env = mutualEnv
  file : cfg.file = mutFile k
  max : cfg.maxCalls = 0

variable {k : Nat} {cfg : Cfg}

theorem mut_off (hc : IsMut k cfg) : cfg.file.offset = 1 := by rw [hc.file]; rfl

theorem ba_length : ∀ k, ((List.replicate k [98, 97]).flatten : Bytes).length = 2 * k := by
  intro k
  induction k with
  | zero => rfl
  | succ k ih => simp only [List.replicate_succ, List.flatten_cons, List.length_append, ih]; simp; omega

theorem ba_get : ∀ k i, ((List.replicate k [98, 97]).flatten : Bytes)[2 * i]? = (if i < k then some 98 else none) ∧
    ((List.replicate k [98, 97]).flatten : Bytes)[2 * i + 1]? = if i < k then some 97 else none
  | 0, _ => ⟨rfl, rfl⟩
  | _ + 1, 0 => ⟨rfl, rfl⟩
  | k + 1, i + 1 => by
    show ((List.replicate k [98, 97]).flatten : Bytes)[2 * i]? = _ ∧
      ((List.replicate k [98, 97]).flatten : Bytes)[2 * i + 1]? = _
    rw [(ba_get k i).1, (ba_get k i).2]
    by_cases h : i < k
    · rw [if_pos h, if_pos h, if_pos (Nat.succ_lt_succ h), if_pos (Nat.succ_lt_succ h)]; exact ⟨rfl, rfl⟩
    · have h' : ¬ i + 1 < k + 1 := fun h' => h (Nat.lt_of_succ_lt_succ h')
      rw [if_neg h, if_neg h, if_neg h', if_neg h']; exact ⟨rfl, rfl⟩

/-- the input behind its first byte: `b` at the even positions 2 … 2k, `a` at the odd positions 3 … 2k+1 -/
theorem mut_fol_ev (hc : IsMut k cfg) (ch i : Nat) :
    fol cfg.file.data ch (2 * i + 2) = (decide (i < k) && 98 == ch) := by
  rw [hc.file, fol, show (mutFile k).data = 120 :: (List.replicate k [98, 97]).flatten from rfl,
    show 2 * i + 2 - 1 = 2 * i + 1 from rfl, List.getElem?_cons_succ, (ba_get k i).1]
  by_cases h : i < k
  · rw [if_pos h, decide_eq_true h]; rfl
  · rw [if_neg h, decide_eq_false h]; rfl

theorem mut_fol_od (hc : IsMut k cfg) (ch i : Nat) :
    fol cfg.file.data ch (2 * i + 3) = (decide (i < k) && 97 == ch) := by
  rw [hc.file, fol, show (mutFile k).data = 120 :: (List.replicate k [98, 97]).flatten from rfl,
    show 2 * i + 3 - 1 = 2 * i + 1 + 1 from rfl, List.getElem?_cons_succ, (ba_get k i).2]
  by_cases h : i < k
  · rw [if_pos h, decide_eq_true h]; rfl
  · rw [if_neg h, decide_eq_false h]; rfl

theorem mut_fol_x (hc : IsMut k cfg) : fol cfg.file.data 120 1 = true := by
  rw [hc.file]; rfl

theorem mut_fol_y (hc : IsMut k cfg) : fol cfg.file.data 121 1 = false := by
  rw [hc.file]; rfl

theorem mut_length (hc : IsMut k cfg) : cfg.file.data.length = 2 * k + 1 := by
  rw [hc.file]
  exact (congrArg (· + 1) (ba_length k) :)

theorem mut_remaining (hc : IsMut k cfg) : remaining cfg.file 1 + Facts.curtailSlack = 2 * k + 2 := by
  rw [remaining_one (mut_off hc), mut_length hc]

/-- the left-recursion contexts: `A` is entered with counts (t, t), `B` with (t+1, t) -/
def ctxA : Nat → Ctx
  | 0 => []
  | t + 1 => [(0, t + 1), (1, t + 1)]
def ctxB : Nat → Ctx
  | 0 => [(0, 1)]
  | t + 1 => [(0, t + 2), (1, t + 1)]

theorem ctxA_inc (t : Nat) : (ctxA t).inc 0 = ctxB t := by
  cases t <;> simp [ctxA, ctxB, Ctx.inc]
theorem ctxB_inc (t : Nat) : (ctxB t).inc 1 = ctxA (t + 1) := by
  cases t <;> simp [ctxA, ctxB, Ctx.inc]
theorem ctxA_get (t : Nat) : (ctxA t).get 0 = t := by
  cases t <;> simp [ctxA, Ctx.get]
theorem ctxB_get (t : Nat) : (ctxB t).get 1 = t := by
  cases t <;> simp [ctxB, Ctx.get]

theorem mut_fil_ev (hc : IsMut k cfg) : ∀ j, j ≤ k → (ev j).filter (fol cfg.file.data 98) = ev j
  | 0, _ => rfl
  | j + 1, h => by
    rw [show ev (j + 1) = (2 * j + 2) :: ev j from rfl,
      List.filter_cons_of_pos (by rw [mut_fol_ev hc, decide_eq_true (show j < k from h)]; rfl), mut_fil_ev hc j (by omega)]

theorem mut_fil_od (hc : IsMut k cfg) : ∀ j, j ≤ k → (od j).filter (fol cfg.file.data 97) = od j
  | 0, _ => rfl
  | j + 1, h => by
    rw [show od (j + 1) = (2 * j + 3) :: od j from rfl,
      List.filter_cons_of_pos (by rw [mut_fol_od hc, decide_eq_true (show j < k from h)]; rfl), mut_fil_od hc j (by omega)]

/-- the `B`-prefixes from the `A`-prefixes: every one that `b` follows -/
theorem mut_nextB (hc : IsMut k cfg) (j : Nat) (hj : j ≤ k + 1) :
    ((ev j).filter (fol cfg.file.data 98)).map (· + 1) ++ (if fol cfg.file.data 121 1 then [2] else []) = od (min j k) := by
  rw [mut_fol_y hc, if_neg Bool.false_ne_true, List.append_nil]
  by_cases h : j ≤ k
  · rw [mut_fil_ev hc j h, ev_map_succ, Nat.min_eq_left h]
  · obtain rfl : j = k + 1 := by omega
    rw [show ev (k + 1) = (2 * k + 2) :: ev k from rfl, List.filter_cons_of_neg (by
        rw [mut_fol_ev hc, decide_eq_false (Nat.lt_irrefl k)]; exact Bool.false_ne_true),
      mut_fil_ev hc k (Nat.le_refl k), ev_map_succ, Nat.min_eq_right (Nat.le_succ k)]

/-- the `A`-prefixes from the `B`-prefixes: each followed by `a`, and `x` -/
theorem mut_nextA (hc : IsMut k cfg) (j : Nat) (hj : j ≤ k) :
    ((od j).filter (fol cfg.file.data 97)).map (· + 1) ++ (if fol cfg.file.data 120 1 then [2] else []) = ev (j + 1) := by
  rw [mut_fol_x hc, if_pos rfl, mut_fil_od hc j hj, od_map_succ]

/-- what an activation of `B`, and of `A` above it, returns when the activation of `A` below returns `L` -/
def mutNextB (data : Bytes) (L : List Node) : List Node := extAllG (lrSh 0 98) [] 98 data L ++ baseL data 121
def mutNext (data : Bytes) (L : List Node) : List Node :=
  extAllG (lrSh 1 97) [] 97 data (mutNextB data L) ++ baseL data 120

theorem mutNextB_rpos (hc : IsMut k cfg) {L : List Node} {j : Nat} (hL : L.map Node.rpos = ev j) (hj : j ≤ k + 1) :
    (mutNextB cfg.file.data L).map Node.rpos = od (min j k) := by
  rw [mutNextB, lrBody_rpos, hL, mut_nextB hc j hj]

/-- the `m`-th activation of `A` above the curtailed one returns the min(m, k+1) shortest `A`-prefixes -/
theorem mutN_rpos (hc : IsMut k cfg) : ∀ m, (lvN (mutNext cfg.file.data) m).map Node.rpos = ev (min m (k + 1))
  | 0 => by rw [Nat.zero_min]; rfl
  | m + 1 => by
    rw [lvN, mutNext, lrBody_rpos, mutNextB_rpos hc (mutN_rpos hc m) (Nat.min_le_right _ _),
      mut_nextA hc _ (Nat.min_le_right _ _)]
    congr 1; omega

/-- **one level**: the body of `A` under count `t` once the activation of `A` under count `t + 1` answers with `L`; between
    the two stands an activation of `B`.  Each of the two bodies costs 3 calls and one per alternative from below. -/
theorem mut_step (hc : IsMut k cfg) {t f c j : Nat} (ht : t ≤ 2 * k + 2) {L : List Node} (hL : L.map Node.rpos = ev j)
    (hj : j ≤ k + 1) (inner : Runs cfg Z (f + 2) mutA (ctxA (t + 1)) 1 (· = []) L [0] c (fun _ => True)) :
    Runs cfg Z (f + 2 + 7) (.any [lrS 1 97, runeT 120]) (ctxB t) 1 (· = []) (mutNext cfg.file.data L) [0]
      (c + (3 + L.length + (3 + (mutNextB cfg.file.data L).length))) (fun _ => True) := by
  have stepB := (Runs.memo (idx := 1) hc.max (fun K hK => by rw [hK]; rfl) (by rw [ctxB_get, mut_remaining hc]; omega)
    (Runs.lrBody (j := 0) (ch := 98) (bch := 121) hc.max (mut_off hc) (by decide) (by decide) (by rw [hc.env]; rfl)
      (rpos_gt_of_map hL fun p hp => (ev_mem _ p hp).1) (ctxB_inc t ▸ inner))
    fun _ _ _ _ => rfl).post fun _ _ => trivial
  exact Runs.of_eq rfl rfl (by omega)
    (Runs.lrBody (j := 1) (ch := 97) (bch := 120) hc.max (mut_off hc) (by decide) (by decide) (by rw [hc.env]; rfl)
      (rpos_gt_of_map (mutNextB_rpos hc hL hj) fun p hp => Nat.le_of_succ_le (od_mem _ p hp).1) stepB)

theorem mutC_eq (hc : IsMut k cfg) : ∀ m,
    lvC (mutNext cfg.file.data) (fun L => 3 + L.length + (3 + (mutNextB cfg.file.data L).length)) m =
      6 * m + triS (k + 1) m + triS k m
  | 0 => rfl
  | m + 1 => by
    have h1 : (lvN (mutNext cfg.file.data) m).length = min m (k + 1) := by
      rw [← List.length_map (f := Node.rpos), mutN_rpos hc m, ev_length]
    have h2 : (mutNextB cfg.file.data (lvN (mutNext cfg.file.data) m)).length = min m k := by
      rw [← List.length_map (f := Node.rpos), mutNextB_rpos hc (mutN_rpos hc m) (Nat.min_le_right _ _), od_length,
        Nat.min_assoc, Nat.min_eq_right (Nat.le_succ k)]
    rw [lvC, mutC_eq hc m, h1, h2, triS, triS]
    omega

def mutCalls (k : Nat) : Nat := 3 * k * k + 18 * k + 22

theorem mut_total (k : Nat) : 6 * (2 * k + 3) + triS (k + 1) (2 * k + 3) + triS k (2 * k + 3) + 2 = mutCalls k := by
  have a1 := triS_high (k + 1) (k + 2)
  have a2 := triS_high k (k + 3)
  rw [show k + 1 + (k + 2) = 2 * k + 3 by omega, sq_succ, Nat.add_mul k 2, Nat.mul_succ] at a1
  rw [show k + (k + 3) = 2 * k + 3 by omega, Nat.add_mul k 3] at a2
  rw [mutCalls, Nat.mul_assoc 3 k k]
  omega

/-- **the closed form for the mutually left-recursive pair**, for every configuration whose grammar table is that of
    family 3 and whose file holds `x (ba)^k` at base offset 1 (any ghost flag, file set, terminal parameters) -/
theorem mut_parse (hc : IsMut k cfg) :
    ∃ p, parse cfg (16 * k + 30) (G.sentence (.ref 0)) = some p ∧ p.err = none ∧ p.res.isNil = false ∧
      p.st.calls = mutCalls k := by
  have lvl := Runs.spine hc.max (P := (· = [])) (pos := 1) (idx := 0) (body := .any [lrS 1 97, runeT 120]) ctxA ctxA_get
    (by rw [mut_remaining hc]) (fun K hK t => by rw [hK]; rfl) (mutNext cfg.file.data)
    (fun L => 3 + L.length + (3 + (mutNextB cfg.file.data L).length)) 1 7
    (fun m t F c ht hF inner => by
      obtain ⟨f, rfl⟩ : ∃ f, F = f + 2 := ⟨F - 2, by omega⟩
      rw [ctxA_inc]
      exact mut_step hc (by omega) (mutN_rpos hc m) (Nat.min_le_right _ _) inner)
    (2 * k + 3) 0 (by omega)
  have hLm := mutN_rpos hc (2 * k + 3)
  rw [Nat.min_eq_right (by omega)] at hLm
  rw [mutC_eq hc] at lvl
  obtain ⟨p, h1, h2, h3, h4⟩ := Runs.sentence_ends (F := 16 * k + 26) hc.max (mut_off hc) (by rw [mut_length hc]; omega)
    (show cfg.env[0]? = some mutA by rw [hc.env]; rfl) (pre := []) (lvl.mono (by omega)) (by rw [hLm, mut_length hc]; rfl)
    (fun _ h => nomatch h)
  exact ⟨p, h1, h2, h3, h4.trans (mut_total k)⟩

def mutCfg (k : Nat) : Cfg := famCfg mutualEnv (mutualInput k)

theorem mutCfg_is (k : Nat) : IsMut k (mutCfg k) := ⟨rfl, rfl, rfl⟩
end PV.C17b
