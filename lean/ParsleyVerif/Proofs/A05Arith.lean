/-
  C05 (full value theorem): the arithmetic grammar is in the fragment; its exact derivations are the trees `T`
  of Proofs/A05Unique.lean; what `run` / `parse` return on the text of a well-formed expression (`Input`).
-/
import ParsleyVerif.Proofs.A05Derive
import ParsleyVerif.Proofs.A05Sentence
import ParsleyVerif.Props.C05
namespace PV.A05
open PV PV.Text

theorem DC.toDerives {cfg : Cfg} {c : Nat → Nat} {g : G} {pos : Nat} {x : Node} (h : DC cfg c g pos x) :
    Derives cfg g pos x := by
  refine @DC.rec cfg (fun _ g pos x _ => Derives cfg g pos x) (fun _ sh d pos nodes _ => DerivesSeq cfg sh d pos nodes)
    ?_ ?_ ?_ ?_ ?_ ?_ ?_ c g pos x h
  · intro c t pos n hp
    exact Derives.rtrimMove (Derives.ltrim (Derives.term hp))
  · intro c k g pos x hk _ ih; exact .ref hk ih
  · intro c i g pos x _ _ ih; exact .memo ih
  · intro c gs g pos x hm _ ih; exact .any hm ih
  · intro c gs o sh pos nodes hs _ hl ih; exact .seqfam hs ih hl
  · intro c sh d pos; exact .nil
  · intro c sh d pos g n rest hl _ _ ih1 ih2; exact .cons hl ih1 ih2

section
variable {cfg : Cfg} {R : Nat → Nat → Node → Prop}

theorem DSR.ref_inv {k pos x} (h : DSR cfg R (.ref k) pos x) : R k pos x := by
  cases h with
  | ref h => exact h

theorem DSR.memo_inv {i g pos x} (h : DSR cfg R (.memo i g) pos x) : DSR cfg R g pos x := by
  cases h with
  | memo h => exact h

theorem DSR.any_inv {gs pos x} (h : DSR cfg R (.any gs) pos x) : ∃ g ∈ gs, DSR cfg R g pos x := by
  cases h with
  | any hm h => exact ⟨_, hm, h⟩

theorem DSR.trim_inv {t pos x} (h : DSR cfg R (trimT t) pos x) :
    ∃ n, t.parse cfg.params cfg.file (sk cfg.file pos) = .node n ∧ x = mv cfg.file n := by
  generalize hg : trimT t = g at h
  cases h with
  | trim hp =>
    simp only [trimT, G.rtrim.injEq, G.ltrim.injEq, G.term.injEq, and_true] at hg
    subst hg
    exact ⟨_, hp, rfl⟩
  | _ => simp [trimT] at hg

theorem DSR.seqOf3_inv {a b c : G} {o : SeqOpts} {pos x}
    (h : DSR cfg R (.seq .seqOf [a, b, c] o) pos x) :
    ∃ x1 x2 x3, DSR cfg R a pos x1 ∧ DSR cfg R b x1.rpos x2 ∧ DSR cfg R c x2.rpos x3 ∧
      x = .nt (o.token.getD seqTok) [x1, x2, x3] x1.pos x3.rpos o.interp := by
  cases h with
  | seqOf hs hd hl =>
    simp only [G.shape, Option.some.injEq] at hs
    subst hs
    simp only [List.length_cons, List.length_nil, beq_iff_eq] at hl
    cases hd with
    | nil => simp at hl
    | cons l1 h1 hr1 =>
      cases hr1 with
      | nil => simp at hl
      | cons l2 h2 hr2 =>
        cases hr2 with
        | nil => simp at hl
        | cons l3 h3 hr3 =>
          cases hr3 with
          | cons _ _ _ => simp at hl
          | nil =>
            simp only [List.getElem?_cons_zero, Option.some.injEq, Nat.zero_add, List.getElem?_cons_succ] at l1 l2 l3
            subst l1 l2 l3
            exact ⟨_, _, _, h1, h2, h3, by simp [handleResult]⟩

end

/-- what the three rules derive -/
def arithRT (P : Params) (f : File) (k q : Nat) (x : Node) : Prop := k ≤ 2 → T P f k q x

theorem T.mono {P : Params} {f : File} {k k' q : Nat} {x : Node} (h : T P f k q x) (hk : k' ≤ k) : T P f k' q x := by
  cases h with
  | lit h => exact .lit h
  | paren h1 h2 h3 => exact .paren h1 h2 h3
  | bin h1 h2 h3 h4 h5 => exact .bin (by omega) h2 h3 h4 h5

theorem trim_rune_at {cfg : Cfg} {R : Nat → Nat → Node → Prop} {c pos x}
    (h : DSR cfg R (Garith.trim (Garith.rn c)) pos x) : RuneAtQ cfg.params cfg.file c pos x := by
  have h' : DSR cfg R (trimT (.rune c [34, c, 34])) pos x := h
  obtain ⟨n, hn, rfl⟩ := h'.trim_inv
  exact ⟨n, hn, rfl⟩

theorem opAt_of_ops {cfg : Cfg} {R : Nat → Nat → Node → Prop} {j pos x} (hj : j ≤ 1)
    (h : DSR cfg R (opsAt j) pos x) : OpAt cfg.params cfg.file j pos x := by
  obtain ⟨c1, c2, o1, o2, he, h1, h2, l1, l2⟩ := opsAt_eq hj
  rw [he] at h
  obtain ⟨g, hm, dg⟩ := h.any_inv
  rcases mem_pair hm with rfl | rfl
  · exact ⟨c1, o1, h1, l1, trim_rune_at dg⟩
  · exact ⟨c2, o2, h2, l2, trim_rune_at dg⟩

theorem arith_closedT (cfg : Cfg) (henv : cfg.env = Garith.env) : Closed cfg (arithRT cfg.params cfg.file) := by
  intro k g pos x hk h hk2
  rcases Nat.lt_or_ge k 2 with hlt | hge
  · -- `expr`, `term`: `X_k → X_k op_k X_{k+1} | X_{k+1}`
    have hk1 : k ≤ 1 := by omega
    rw [level_rule cfg henv hk1] at hk
    cases hk
    obtain ⟨g, hm, dg⟩ := h.memo_inv.any_inv
    rcases mem_pair hm with rfl | rfl
    · obtain ⟨x1, x2, x3, d1, d2, d3, rfl⟩ := dg.seqOf3_inv
      exact T.bin (Nat.le_refl _) hk1 (d1.ref_inv hk2) (opAt_of_ops hk1 d2) (d3.ref_inv (by omega))
    · exact T.mono (dg.ref_inv (by omega)) (by omega)
  · -- `factor → INTEGER | ( expr )`
    obtain rfl : k = 2 := by omega
    rw [env2 cfg henv] at hk
    cases hk
    obtain ⟨g, hm, dg⟩ := h.any_inv
    rcases mem_pair hm with rfl | rfl
    · have dg' : DSR cfg _ (trimT .integer) pos x := dg
      obtain ⟨n, hn, rfl⟩ := dg'.trim_inv
      exact .lit ⟨n, hn, rfl⟩
    · obtain ⟨x1, x2, x3, d1, d2, d3, rfl⟩ := dg.seqOf3_inv
      exact T.paren (trim_rune_at d1) (d2.ref_inv (by omega)) (trim_rune_at d3)

theorem arith_frag (cfg : Cfg) : ∀ g' ∈ Garith.env, Frag cfg false g' := by
  have r : ∀ c, Utf8.encodeRune c ≠ eofTok → Frag cfg false (Garith.trim (Garith.rn c)) := by
    intro c hc
    show Frag cfg false (.rtrim (.ltrim (.term (.rune c [34, c, 34])) .spacesNl) .spacesNl)
    simp only [Frag]
    exact C1TNV.c1t_fragLocalW_rune cfg c _ hc
  have hi : Frag cfg false (Garith.trim (.term .integer)) := by
    show Frag cfg false (.rtrim (.ltrim (.term .integer) .spacesNl) .spacesNl)
    simp only [Frag]
    exact C1TNV.c1t_fragLocalW_integer cfg
  have tok : (none : Option Bytes).getD seqTok ≠ eofTok := by decide
  intro g' hg'
  simp only [Garith.env, List.mem_cons, List.not_mem_nil, or_false] at hg'
  rcases hg' with rfl | rfl | rfl
  · simp only [Garith.expr, Garith.exprBody, Garith.exprSeq, Garith.addop, Garith.bin, Frag, FragL, and_true, true_and]
    exact ⟨tok, r 43 (by decide), r 45 (by decide)⟩
  · simp only [Garith.term, Garith.termBody, Garith.termSeq, Garith.mulop, Garith.bin, Frag, FragL, and_true, true_and]
    exact ⟨tok, r 42 (by decide), r 47 (by decide)⟩
  · simp only [Garith.factor, Garith.parenSeq, Garith.sel1, Frag, FragL, and_true, true_and]
    exact ⟨hi, tok, r 40 (by decide), r 41 (by decide)⟩

/-- everything `run` returns on the root — on every input, for every fuel — is `Sentence[y, EOF]` around an EXACT
    expression tree `y` that ends at the end of the input: it is an exact derivation (`S04W.sentence_sound_w`), and
    the exact derivations of the three rules are the trees `T` -/
theorem run_soundT (cfg : Cfg) (henv : cfg.env = Garith.env) (fuel : Nat) (o : Out) (st' : St)
    (h : run cfg fuel Garith.root [] (cfg.file.pos 0) {} = some (o, st')) :
    ∀ x ∈ o.res.alts, ∃ y, T cfg.params cfg.file 0 (cfg.file.pos 0) y ∧ isEOF cfg.file y.rpos = true ∧
      x = sentenceNode y := by
  intro x hx
  have hsc := C1TNV.arith_scopeW cfg henv
  have hroot := C1TNV.c1t_root cfg Garith.bodyOf 0
  obtain ⟨y, hy, heof, rfl⟩ := S04W.sentence_sound_w cfg Garith.bodyOf
    (fun g' hg' => ⟨(hsc g' hg').1.frag, (hsc g' hg').2, (hsc g' hg').1.gok⟩) (.ref 0)
    ⟨hroot.1.frag, hroot.2, hroot.1.gok⟩ fuel _ {} (by intro e he; cases he) o st' h x hx
  have hd := DSR.ofDerivesW (arith_closedT cfg henv) (fun g' hg' => arith_frag cfg g' (henv ▸ hg')) hy
    (by simp only [Frag])
  exact ⟨y, hd.ref_inv (by omega), heof, rfl⟩

/-- the parsed file holds `ws0 ++ render e`: leading whitespace, then the text of a well-formed expression -/
structure Input (cfg : Cfg) (ws0 : Bytes) (e : Cst) : Prop where
  env : cfg.env = Garith.env
  off : 1 ≤ cfg.file.offset
  data : cfg.file.data = ws0 ++ e.render
  ws0 : WsOK ws0
  wf : e.WF 0

section
variable {cfg : Cfg} {ws0 : Bytes} {e : Cst} (hin : Input cfg ws0 e)
include hin

/-- where the first token starts -/
def start (cfg : Cfg) (ws0 : Bytes) : Nat := cfg.file.offset + ws0.length

theorem Input.rest0 : rest cfg.file (cfg.file.pos 0) = ws0 ++ e.render := by
  unfold rest File.pos
  simp [hin.data]

theorem Input.sk0 : sk cfg.file (cfg.file.pos 0) = start cfg ws0 := by
  obtain ⟨b, t, hbt, hb⟩ := e.render_head 0 hin.wf
  rw [sk_ws cfg.file hin.off _ ws0 e.render (pos0_inFile _) hin.rest0 hin.ws0]
  · rfl
  · intro b' hb'
    rw [hbt] at hb'
    simp only [List.head?_cons, Option.some.injEq] at hb'
    subst hb'
    exact (isWs_eq_false_iff b).mpr (by omega)

theorem Input.restStart : rest cfg.file (start cfg ws0) = e.render ++ [] := by
  have := (rest_drop cfg.file (cfg.file.pos 0) ws0.length ws0 e.render (pos0_inFile _) hin.rest0 rfl).2
  simpa [start, File.pos] using this

theorem Input.tree_end : (e.tree (start cfg ws0)).rpos = cfg.file.offset + cfg.file.len := by
  rw [Cst.tree_rpos]
  simp [start, File.len, hin.data]; omega

theorem Input.tree_eof : isEOF cfg.file (e.tree (start cfg ws0)).rpos = true := by
  rw [hin.tree_end]; simp [isEOF]

theorem Input.treeT : T cfg.params cfg.file 0 (cfg.file.pos 0) (e.tree (start cfg ws0)) := by
  have := T_of_cst (P := cfg.params) hin.off e 0 _ [] hin.wf (pos0_inFile _) (by rw [hin.sk0]; exact hin.restStart) Stop_nil
  rwa [hin.sk0] at this

theorem Input.dc : DC cfg zeroC (.ref 0) (cfg.file.pos 0) (e.tree (start cfg ws0)) :=
  hin.treeT.dc cfg hin.env hin.off (pos0_inFile _) (by omega) zeroC (Room.zero 0 (hin.treeT.pos hin.off (pos0_inFile _)).2)

theorem Input.run_root (fuel : Nat) (o : Out) (st' : St)
    (h : run cfg fuel Garith.root [] (cfg.file.pos 0) {} = some (o, st')) :
    o.res = .one (sentenceNode (e.tree (start cfg ws0))) ∧ o.err = none := by
  have hsc := C1TNV.arith_scopeW cfg hin.env
  have hroot := C1TNV.c1t_root cfg Garith.bodyOf 0
  -- a result is returned
  obtain ⟨hne, herr⟩ := sentence_completeT cfg Garith.bodyOf (fun g' hg' => ⟨(hsc g' hg').1.frag, (hsc g' hg').1.gok⟩)
    (.ref 0) hroot.1.frag hroot.1.gok fuel _ {} (by intro e he; cases he) o st' h _ hin.dc hin.tree_eof
  -- it is a single tree
  rcases sentence_res_one cfg fuel (.ref 0) [] _ {} o st' h with hnil | ⟨x, hx⟩
  · rw [hnil] at hne; exact absurd rfl hne
  -- which is the Sentence node around an exact tree that ends at the end of the input
  obtain ⟨y, hy, heof, rfl⟩ := run_soundT cfg hin.env fuel o st' h x (by rw [hx]; simp [Res.alts])
  -- unambiguity
  have hyend : y.rpos = cfg.file.offset + cfg.file.len := by
    have := (hy.pos hin.off (pos0_inFile _)).2
    unfold InFile at this
    simp only [isEOF, ge_iff_le, decide_eq_true_eq] at heof
    omega
  have : y = e.tree (start cfg ws0) := T_unique hin.off (pos0_inFile _) hy hin.treeT (by rw [hyend, hin.tree_end])
  subst this
  exact ⟨hx, herr⟩

theorem Input.parse_root (fuel : Nat) (p : ParseOut) (h : parse cfg fuel Garith.root = some p) :
    p.res = .one (sentenceNode (e.tree (start cfg ws0))) ∧ p.err = none ∧ p.msg = none := by
  obtain ⟨o, st1, hr, ⟨_, _, h3, h4, h5⟩ | ⟨hn, _⟩⟩ := parse_answer cfg fuel _ {} p h
  · exact ⟨h3 ▸ (hin.run_root fuel o st1 hr).1, h4, h5⟩
  · obtain ⟨h1, h2⟩ := hin.run_root fuel o st1 hr
    exact (hn ⟨by rw [h1]; rfl, h2⟩).elim

end

end PV.A05
