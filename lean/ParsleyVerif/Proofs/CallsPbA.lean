/-
  C17: the exact call count of the left-recursive family `P → P b | a` (family 1 of the harness, harness/cmd/corr/c17.go:
  env = [Memoize(Any(SeqOf(P, 'b'), 'a'))], root = Sentence(P), input `a b^(n-1)`), for EVERY n ≥ 1.

  What the run does (`ab_parse`, an instance of `Runs.spine`; shared with family 4, which has the same input): at position 1
  Memoize is entered with left-recursion count 0, 1, …, n+1 (the cache has no entry yet on the way down) and curtailed at count
  n+2 > Remaining+1.  The activation `m` levels above the curtailed one returns the min(m, n) shortest prefixes
  `a b^(m-1), …, a b, a` (longest first; end positions `dn (min m n)`) and makes `a` calls of its own — here 3:
  `P b`, its element `P`, and `a` (`Runs.lrBody`) — plus one `b` per alternative the inner activation returned.  The two
  outermost activations (count 1 and 0) get all `n` prefixes from below; the longest ends at the end of the input, its `b`
  fails, and the same `n` prefixes are returned.  Sentence adds 2 (its element `P`, and `End` after the longest
  alternative — which matches, so the loop over the alternatives stops).
  Total: Σ_{i<n} (3 + i) + 2(3+n) + 2 = (n² + 9n + 16)/2.
  The cache entry for (P, 1) is overwritten at every level on the way up and never read.
  Family 4 (hidden left recursion, `P → x? P b | a`, namespace `PV.C17b`) follows at the end of the file.
-/
import ParsleyVerif.Proofs.CallsSentence
import ParsleyVerif.Proofs.CallsSum
import ParsleyVerif.Proofs.CallsEnds
namespace PV.C17
open PV.Text PV.C17b

def pbaNmA : Bytes := [34, 97, 34]
def pbaNmB : Bytes := [34, 98, 34]
def pbaA : G := .term (.rune 97 pbaNmA)
def pbaB : G := .term (.rune 98 pbaNmB)
def pbaS : G := .seq .seqOf [.ref 0, pbaB] {}
def pbaBody : G := .any [pbaS, pbaA]
def pbaP : G := .memo 0 pbaBody
def pbaEnv : List G := [pbaP]
def pbaData (n : Nat) : Bytes := 97 :: List.replicate (n - 1) 98
def pbaFile (n : Nat) : File := { name := "f", data := pbaData n, offset := 1 }

structure IsPbA (n : Nat) (cfg : Cfg) : Prop where
  env : cfg.env = pbaEnv
  file : cfg.file = pbaFile n
  max : cfg.maxCalls = 0

variable {n : Nat} {cfg : Cfg}

theorem pba_fol (p : Nat) (h2 : 2 ≤ p) : fol (pbaData n) 98 p = decide (p ≤ n) := by
  obtain ⟨q, rfl⟩ : ∃ q, p = q + 2 := ⟨p - 2, by omega⟩
  rw [fol, pbaData, show q + 2 - 1 = q + 1 from rfl, List.getElem?_cons_succ, List.getElem?_replicate]
  by_cases h : q + 2 ≤ n
  · rw [if_pos (by omega), decide_eq_true h]; rfl
  · rw [if_neg (by omega), decide_eq_false h]; rfl

theorem pbaData_length (hn : 1 ≤ n) : (pbaData n).length = n := by
  rw [pbaData, List.length_cons, List.length_replicate]
  omega

/-- the end positions m+1, …, 2 of the `m` shortest prefixes -/
def dn : Nat → List Nat
  | 0 => []
  | m + 1 => (m + 2) :: dn m

theorem dn_mem (m p : Nat) (hp : p ∈ dn m) : 2 ≤ p ∧ p ≤ m + 1 := by
  obtain ⟨i, hi, rfl⟩ := (C17b.mem_iff_of_succ_cons (L := dn) rfl (fun _ => rfl) m p).mp hp
  omega

theorem dn_map_succ : ∀ m, (dn m).map (· + 1) ++ [2] = dn (m + 1)
  | 0 => rfl
  | m + 1 => congrArg ((m + 2 + 1) :: ·) (dn_map_succ m)

theorem dn_length : ∀ m, (dn m).length = m := C17b.length_of_succ_cons rfl fun _ => rfl

theorem dn_filter (m : Nat) (hm : m + 1 ≤ n) : (dn m).filter (fol (pbaData n) 98) = dn m := by
  apply List.filter_eq_self.mpr
  intro p hp
  have := dn_mem m p hp
  rw [pba_fol p this.1, decide_eq_true (by omega)]

/-- the end positions one level up: every prefix that `b` follows, extended by it, and `a`; saturated at `n` -/
theorem dn_next (hn : 1 ≤ n) (m : Nat) (hm : m ≤ n) :
    ((dn m).filter (fol (pbaData n) 98)).map (· + 1) ++ [2] = dn (min (m + 1) n) := by
  by_cases h : m + 1 ≤ n
  · rw [dn_filter m h, dn_map_succ, Nat.min_eq_left h]
  · obtain ⟨j, rfl⟩ : ∃ j, n = j + 1 := ⟨n - 1, by omega⟩
    obtain rfl : m = j + 1 := by omega
    have h1 : fol (pbaData (j + 1)) 98 (j + 2) = false := by rw [pba_fol _ (by omega), decide_eq_false (by omega)]
    have : (dn (j + 1)).filter (fol (pbaData (j + 1)) 98) = dn j := by
      rw [show dn (j + 1) = (j + 2) :: dn j from rfl, List.filter_cons_of_neg (by rw [h1]; exact Bool.false_ne_true)]
      exact dn_filter j (Nat.le_refl _)
    rw [this, dn_map_succ, Nat.min_eq_right (by omega)]

/-- a rule on `a b^(n-1)` whose activation returns the alternatives of the one below that `b` follows, extended, and `a`:
    the activation `m` levels above the curtailed one returns the min(m, n) shortest prefixes -/
theorem ab_rpos {next : List Node → List Node} (hn : 1 ≤ n)
    (hnext : ∀ L, (next L).map Node.rpos = ((L.map Node.rpos).filter (fol (pbaData n) 98)).map (· + 1) ++ [2]) :
    ∀ m, (lvN next m).map Node.rpos = dn (min m n)
  | 0 => by rw [Nat.zero_min]; rfl
  | m + 1 => by
    rw [lvN, hnext, ab_rpos hn hnext m, dn_next hn _ (Nat.min_le_right _ _)]
    congr 1; omega

/-- … and, making `a` calls of its own and one per alternative from below, costs `a` per level and Σ_{i<m} min(i, n) -/
theorem ab_cost {next : List Node → List Node} (hn : 1 ≤ n)
    (hnext : ∀ L, (next L).map Node.rpos = ((L.map Node.rpos).filter (fol (pbaData n) 98)).map (· + 1) ++ [2]) (a : Nat) :
    ∀ m, lvC next (fun L => a + L.length) m = a * m + triS n m
  | 0 => (Nat.mul_zero a).symm
  | m + 1 => by
    rw [lvC, ab_cost hn hnext a m, ← List.length_map (f := Node.rpos), ab_rpos hn hnext m, dn_length, triS, Nat.mul_succ]
    omega

/-- **the left spine on `a b^(n-1)`, under Sentence,** of a memoized rule `P` (parser 0) whose body, given the alternatives
    `L` of the inner activation, returns `next L` — those that `b` follows, extended, and `a` — at `a` calls of its own and
    one per alternative in `L` (`step`; `fi + 1`, `fa + 1`: the fuel of the curtailed activation, and per level): `n + 2`
    levels, the outermost of which returns all `n` prefixes, the longest first, which spans the input. -/
theorem ab_parse {next : List Node → List Node} (h0 : cfg.maxCalls = 0) (hn : 1 ≤ n) (hfile : cfg.file = pbaFile n) {body : G}
    (henv : cfg.env[0]? = some (.memo 0 body))
    (hnext : ∀ L, (next L).map Node.rpos = ((L.map Node.rpos).filter (fol (pbaData n) 98)).map (· + 1) ++ [2])
    (a fi fa F : Nat) (hF : (fa + 1) * (n + 2) + (fi + 1) ≤ F + 2)
    (step : ∀ (L : List Node) (ctx : Ctx) (F c : Nat), fi + 1 ≤ F → (∀ x ∈ L, 1 < x.rpos) →
      Runs cfg Z F (.memo 0 body) ctx 1 (· = []) L [0] c (fun _ => True) →
      Runs cfg Z (F + fa) body ctx 1 (· = []) (next L) [0] (c + (a + L.length)) (fun _ => True)) :
    ∃ p, parse cfg (F + 4) (G.sentence (.ref 0)) = some p ∧ p.err = none ∧ p.res.isNil = false ∧
      p.st.calls = a * (n + 2) + triS n (n + 2) + 2 := by
  have hoff : cfg.file.offset = 1 := by rw [hfile]; rfl
  have hlen : cfg.file.data.length = n := by rw [hfile]; exact pbaData_length hn
  have lvl := Runs.spine h0 (P := (· = [])) (pos := 1) (idx := 0) (body := body) ctx0 ctx0_get
    (by rw [remaining_one hoff, hlen]) (fun K hK t => by rw [hK]; rfl) next (fun L => a + L.length) fi fa
    (fun m t F c _ hF inner => by
      rw [ctx0_inc]
      exact step _ _ F c hF (rpos_gt_of_map (ab_rpos hn hnext m) fun p hp => (dn_mem _ p hp).1) inner)
    (n + 2) 0 rfl
  have hL := ab_rpos hn hnext (n + 2)
  rw [Nat.min_eq_right (by omega)] at hL
  obtain ⟨m, rfl⟩ : ∃ m, n = m + 1 := ⟨n - 1, by omega⟩
  rw [ab_cost hn hnext] at lvl
  exact Runs.sentence_ends h0 hoff (by omega) henv (pre := []) (lvl.mono hF) (by rw [hL, hlen]; rfl) (fun _ h => nomatch h)

def pbaCalls (n : Nat) : Nat := (n * n + 9 * n + 16) / 2

/-- **the closed form for `P → P b | a`**, for every configuration whose grammar table is `[Memoize(P b | a)]`
    and whose file holds `a b^(n-1)` at base offset 1 (any ghost flag, any file set, any terminal parameters) -/
theorem pba_parse (hc : IsPbA n cfg) (hn : 1 ≤ n) :
    ∃ p, parse cfg (4 * n + 12) (G.sentence (.ref 0)) = some p ∧ p.err = none ∧ p.res.isNil = false ∧
      p.st.calls = pbaCalls n := by
  have hoff : cfg.file.offset = 1 := by rw [hc.file]; rfl
  have henv : cfg.env[0]? = some pbaP := by rw [hc.env]; rfl
  have hdata : cfg.file.data = pbaData n := by rw [hc.file]; rfl
  obtain ⟨p, h1, h2, h3, h4⟩ := ab_parse hc.max hn hc.file henv
    (next := fun L => extAllG (lrSh 0 98) [] 98 cfg.file.data L ++ baseL cfg.file.data 97)
    (fun L => by rw [lrBody_rpos, hdata]; rfl) 3 1 3 (4 * n + 8) (by omega)
    (fun L ctx F c hF hL inner => by
      obtain ⟨f, rfl⟩ : ∃ f, F = f + 2 := ⟨F - 2, by omega⟩
      exact Runs.lrBody hc.max hoff (by omega) (by omega) henv hL inner)
  refine ⟨p, h1, h2, h3, ?_⟩
  have := triS_high n 2
  rw [h4, pbaCalls]
  omega

def pbaCfg (n : Nat) : Cfg :=
  { env := pbaEnv, file := pbaFile n, fileSet := {},
    params := { floatOk := fun _ => true, durErr := fun _ => none, regexp := fun _ _ => none } }

theorem pbaCfg_is (n : Nat) : IsPbA n (pbaCfg n) := ⟨rfl, rfl, rfl⟩
end PV.C17

/-
  C17: the exact call count of the hidden-left-recursion family `P → x? P b | a` (family 4 of the harness:
  env = [Memoize(Any(SeqOf(Optional('x'), P, 'b'), 'a'))], root = Sentence(P), input `a b^(n-1)`), for EVERY n ≥ 1.

  The run has the shape of family 1 (`ab_parse` above): at position 1 Memoize is entered with left-recursion
  count 0, 1, …, n+1 and curtailed at count n+2; `x?` answers with the EMPTY node without consuming, so the
  left-recursion context is handed on to `P` unchanged.  An activation makes 4 calls of its own (`x? P b`, its
  elements `x?` and `P`, and `a`) and one `b` per alternative of the inner activation; Sentence adds 2:
  Σ_{i<n} (4 + i) + 2(4+n) + 2 = (n² + 11n + 20)/2.
-/
namespace PV.C17b
open PV.Text PV.C17

def hidX : G := runeT 120
def hidB : G := runeT 98
def hidA : G := runeT 97
def hidS : G := seqOfT [.optional hidX, .ref 0, hidB]
def hidBody : G := .any [hidS, hidA]
def hidP : G := .memo 0 hidBody

theorem hiddenEnv_eq : hiddenEnv = [hidP] := rfl

structure IsHid (n : Nat) (cfg : Cfg) : Prop where
  env : cfg.env = hiddenEnv
  file : cfg.file = pbaFile n
  max : cfg.maxCalls = 0

def hidSh : SeqShape :=
  { lookup := fun i => [G.optional hidX, G.ref 0, hidB][i]?, lenCheck := fun len => len == 3, token := seqTok,
    interp := .none, single := false, name := none }


variable {n : Nat} {cfg : Cfg}

/-- **the body of `P → x? P b | a` at position 1** of an input that does not begin with `x`, once the inner `P` answers with
    `L`: 4 calls (`x? P b`, its elements `x?` — the EMPTY node, nothing consumed — and `P`, `a`) and one (`b`) per
    alternative in `L` -/
theorem hid_body {Φ : Cache → Nat} {f c : Nat} {ctx : Ctx} {P Q : Cache → Prop} {L : List Node} {cp0 : List Nat}
    (h0 : cfg.maxCalls = 0) (hoff : cfg.file.offset = 1) (hx : fol cfg.file.data 120 1 = false)
    (henv : cfg.env[0]? = some hidP) (hL : ∀ x ∈ L, 1 < x.rpos) (inner : Runs cfg Φ (f + 3) hidP ctx 1 P L cp0 c Q) :
    Runs cfg Φ (f + 6) hidBody ctx 1 P (extAllG hidSh [.empty 1] 98 cfg.file.data L ++ baseL cfg.file.data 97) cp0
      (c + (4 + L.length)) Q := by
  have hS : Runs cfg Φ (f + 5) hidS ctx 1 P (extAllG hidSh [.empty 1] 98 cfg.file.data L) cp0 (2 + c + L.length) Q :=
    Runs.of_eq (List.nil_append _) (by rw [cpStep_nil, cpStep_first]) (by omega)
      (Runs.seq h0 (sh := hidSh) rfl
        (SeqR.opt_no h0 rfl (Runs.rune_no (F := f + 2) h0 hoff (ch := 120) (by decide) (Nat.le_refl 1) hx)
          (SeqR.alts rfl (Runs.ref h0 henv inner) (.inr rfl) (AltsR.tail h0 hoff (by decide) rfl rfl rfl rfl [.empty 1] L hL))))
  exact Runs.of_eq (List.nil_append _ ▸ rfl) (by rw [cpUnion_nil_right, cpUnion_nil_left]) (by omega)
    (Runs.any h0 (AnyR.cons hS (extAllG_notEmpty _ _ _ _ _)
      (AnyR.cons (Runs.base h0 hoff (by decide)) (baseL_notEmpty _ _) AnyR.nil)))

def hidCalls (n : Nat) : Nat := (n * n + 11 * n + 20) / 2

/-- **the closed form for `P → x? P b | a`**, for every configuration whose grammar table is that of family 4 and
    whose file holds `a b^(n-1)` at base offset 1 (any ghost flag, any file set, any terminal parameters) -/
theorem hid_parse (hc : IsHid n cfg) (hn : 1 ≤ n) :
    ∃ p, parse cfg (5 * n + 17) (G.sentence (.ref 0)) = some p ∧ p.err = none ∧ p.res.isNil = false ∧
      p.st.calls = hidCalls n := by
  have hoff : cfg.file.offset = 1 := by rw [hc.file]; rfl
  have henv : cfg.env[0]? = some hidP := by rw [hc.env]; rfl
  have hdata : cfg.file.data = pbaData n := by rw [hc.file]; rfl
  obtain ⟨p, h1, h2, h3, h4⟩ := ab_parse hc.max hn hc.file henv
    (next := fun L => extAllG hidSh [.empty 1] 98 cfg.file.data L ++ baseL cfg.file.data 97)
    (fun L => by rw [List.map_append, extAllG_rpos, baseL_rpos, hdata]; rfl) 4 2 3 (5 * n + 13) (by omega)
    (fun L ctx F c hF hL inner => by
      obtain ⟨f, rfl⟩ : ∃ f, F = f + 3 := ⟨F - 3, by omega⟩
      exact hid_body hc.max hoff (by rw [hdata]; rfl) henv hL inner)
  refine ⟨p, h1, h2, h3, ?_⟩
  have := triS_high n 2
  rw [h4, hidCalls]
  omega

def hidCfg (n : Nat) : Cfg := famCfg hiddenEnv (hiddenInput n)

theorem hidCfg_is (n : Nat) : IsHid n (hidCfg n) := ⟨rfl, rfl, rfl⟩
end PV.C17b
