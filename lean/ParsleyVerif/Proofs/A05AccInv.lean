/-
  C05, the CONVERSE ("ill-formed input is rejected"): inversion of exact trees.  `A05.T P f k q x`
  (Proofs/A05Unique.lean) says `x` is an exact tree of nonterminal `k` of the arithmetic grammar started at `q`;
  by `c05_returned_exact` everything `run` returns on the root is `Sentence[y, EOF]` around such a `y`.
  `T_toCst`: every exact tree IS the tree of a well-formed `A05.Cst` whose text is what the file holds between the
  first token and the end of the tree (the literal case takes the language of the Integer terminal from
  `c08_integer_value`).  `render_of_cst`: every `Cst` is the layout of a `PExpr` under a whitespace function
  (`strip`, `chunks`).
-/
import ParsleyVerif.Props.C05V
namespace PV.A05Acc
open PV PV.Text PV.A05

def wsAt (f : File) (q : Nat) : Bytes := (rest f q).takeWhile isWs

theorem wsAt_ok (f : File) (q : Nat) : WsOK (wsAt f q) := by
  intro b hb
  exact mem_takeWhile_isWs _ b hb

section
variable {P : Params} {f : File} (hoff : 1 ≤ f.offset)
include hoff

theorem sk_len (q : Nat) (hq : InFile f q) : sk f q = q + (wsAt f q).length := by
  rw [sk_eq f q hq hoff]; rfl

theorem rest_split (q : Nat) (hq : InFile f q) : rest f q = wsAt f q ++ rest f (sk f q) := by
  rw [rest_sk f q hq hoff]
  exact (List.takeWhile_append_dropWhile (p := isWs) (l := rest f q)).symm

theorem sk_idem (q : Nat) (hq : InFile f q) : sk f (sk f q) = sk f q :=
  sk_of_head f (sk f q) (sk_inFile f q hq hoff) hoff (fun b hb => head_sk_not_ws f q hq hoff b hb)

theorem rune_leaf {c q : Nat} {x : Node} (h : RuneAtQ P f c q x) (hq : InFile f q) (hc : c < 0x80) :
    rest f (sk f q) = c :: (wsAt f (sk f q + 1) ++ rest f x.rpos) ∧
    x = .term (Utf8.encodeRune c) (.rune c) (sk f q) (sk f q + 1 + (wsAt f (sk f q + 1)).length) ∧
    sk f x.rpos = x.rpos ∧ InFile f x.rpos := by
  obtain ⟨hh, rfl⟩ := h.form hoff hq hc
  have h1 := sk_inFile f q hq hoff
  cases hr : rest f (sk f q) with
  | nil => rw [hr] at hh; cases hh
  | cons b t =>
    rw [hr] at hh
    simp only [List.head?_cons, Option.some.injEq] at hh
    subst hh
    have h2 : InFile f (sk f q + 1) := inFile_advance h1 (by rw [hr]; simp)
    have h3 : rest f (sk f q + 1) = t := by rw [rest_advance h1 1, hr]; rfl
    refine ⟨?_, ?_, ?_, ?_⟩
    · simp only [Node.rpos]
      rw [← rest_split hoff _ h2, h3]
    · rw [sk_len hoff _ h2]
    · simp only [Node.rpos]; exact sk_idem hoff _ h2
    · simp only [Node.rpos]; exact sk_inFile f _ h2 hoff

theorem lit_leaf {q : Nat} {x : Node} (h : LitAt P f q x) (hq : InFile f q) :
    ∃ lex, LitOK lex ∧ rest f (sk f q) = lex ++ (wsAt f (sk f q + lex.length) ++ rest f x.rpos) ∧
      x = .term (tokOf "INTEGER") (.int (Lang.intValue lex)) (sk f q)
        (sk f q + lex.length + (wsAt f (sk f q + lex.length)).length) ∧
      sk f x.rpos = x.rpos ∧ InFile f x.rpos := by
  obtain ⟨n, hn, rfl⟩ := h
  have h1 := sk_inFile f q hq hoff
  obtain ⟨k, hk, _, hlo, hhi, rfl⟩ := (c08_integer_value P f (sk f q) n h1).mp hn
  have hle := longestPrefix_le hk
  have hlen : ((rest f (sk f q)).take k).length = k := by rw [List.length_take]; omega
  have h2 : InFile f (sk f q + k) := inFile_advance h1 hle
  have h3 : rest f (sk f q + k) = (rest f (sk f q)).drop k := rest_advance h1 k
  refine ⟨(rest f (sk f q)).take k, ⟨longestPrefix_mem hk, hlo, hhi⟩, ?_, ?_, ?_, ?_⟩
  · rw [hlen, mv_term]
    simp only [Node.rpos]
    rw [← rest_split hoff _ h2, h3, List.take_append_drop]
  · rw [hlen, mv_term, sk_len hoff _ h2]
  · rw [mv_term]; simp only [Node.rpos]; exact sk_idem hoff _ h2
  · rw [mv_term]; simp only [Node.rpos]; exact sk_inFile f _ h2 hoff

omit hoff in
theorem opByte_of_ofRune {c : Nat} {o : Op} (h : Op.ofRune c = some o) : opByte o = c := by
  unfold Op.ofRune at h
  split at h <;> first | (cases h; rfl) | (subst_vars; cases h; rfl) | cases h

theorem T_toCst {k q : Nat} {x : Node} (h : T P f k q x) : InFile f q →
    ∃ e : Cst, e.WF k ∧ rest f (sk f q) = e.render ++ rest f x.rpos ∧ x = e.tree (sk f q) ∧
      sk f x.rpos = x.rpos ∧ InFile f x.rpos := by
  induction h with
  | @lit k q x h =>
    intro hq
    obtain ⟨lex, hl, hr, hx, hs, hi⟩ := lit_leaf hoff h hq
    refine ⟨.lit lex (wsAt f (sk f q + lex.length)), ⟨hl, wsAt_ok _ _⟩, ?_, ?_, hs, hi⟩
    · simpa [Cst.render] using hr
    · simpa [Cst.tree] using hx
  | @paren k q lp e rp h1 _ h3 ih =>
    intro hq
    obtain ⟨r1, x1, s1, i1⟩ := rune_leaf hoff h1 hq (by omega)
    obtain ⟨e', hwf, r2, x2, s2, i2⟩ := ih i1
    obtain ⟨r3, x3, s3, i3⟩ := rune_leaf hoff h3 i2 (by omega)
    rw [s1] at r2 x2
    rw [s2] at r3 x3
    have hlp : lp.rpos = sk f q + 1 + (wsAt f (sk f q + 1)).length := by rw [x1]; rfl
    have hep : e.rpos = lp.rpos + e'.render.length := by rw [x2, Cst.tree_rpos]
    refine ⟨.paren (wsAt f (sk f q + 1)) e' (wsAt f (e.rpos + 1)), ⟨wsAt_ok _ _, hwf, wsAt_ok _ _⟩, ?_, ?_, ?_, ?_⟩
    · rw [parN_rpos, r1, r2, r3]
      simp [Cst.render]
    · have e1 : lp = .term (Utf8.encodeRune 40) (.rune 40) (sk f q) lp.rpos := by rw [x1]; rfl
      simp only [Cst.tree]
      rw [← hlp, ← hep, ← x2, ← x3, ← e1]
    · rw [parN_rpos]; exact s3
    · rw [parN_rpos]; exact i3
  | @bin k j q l op r hkj hj1 _ h2 _ ih1 ih2 =>
    intro hq
    obtain ⟨l', hwl, r1, x1, s1, i1⟩ := ih1 hq
    obtain ⟨c, o, hco, hlev, hrune⟩ := h2
    obtain ⟨r2, x2, s2, i2⟩ := rune_leaf hoff hrune i1 (ofRune_ascii hco)
    obtain ⟨r', hwr, r3, x3, s3, i3⟩ := ih2 i2
    rw [s1] at r2 x2
    rw [s2] at r3 x3
    have hc : opByte o = c := opByte_of_ofRune hco
    have hlp : l.rpos = sk f q + l'.render.length := by rw [x1, Cst.tree_rpos]
    have hop : op.rpos = l.rpos + 1 + (wsAt f (l.rpos + 1)).length := by rw [x2]; rfl
    refine ⟨.bin o l' (wsAt f (l.rpos + 1)) r', ⟨by omega, by rw [hlev]; exact hwl, wsAt_ok _ _, by rw [hlev]; exact hwr⟩,
      ?_, ?_, ?_, ?_⟩
    · rw [binN_rpos, r1, r2, r3]
      simp [Cst.render, hc]
    · have e2 : op = .term (Utf8.encodeRune c) (.rune c) l.rpos op.rpos := by rw [x2]; rfl
      simp only [Cst.tree]
      rw [hc, ← hlp, ← hop, ← x1, ← x3, ← e2]
    · rw [binN_rpos]; exact s3
    · rw [binN_rpos]; exact i3

end

def strip : Cst → PExpr
  | .lit lex _ => .lit lex
  | .bin o l _ r => .bin o (strip l) (strip r)
  | .paren _ e _ => .paren (strip e)

/-- the whitespace chunks in token order (one per token) -/
def chunks : Cst → List Bytes
  | .lit _ ws => [ws]
  | .bin _ l ws r => chunks l ++ ws :: chunks r
  | .paren ws1 e ws2 => ws1 :: (chunks e ++ [ws2])

theorem strip_WF (e : Cst) : ∀ n, e.WF n → (strip e).WF n := by
  induction e with
  | lit lex ws => intro n h; exact h.1
  | bin o l ws r ihl ihr => intro n h; exact ⟨h.1, ihl _ h.2.1, ihr _ h.2.2.2⟩
  | paren ws1 e ws2 ih => intro n h; exact ih _ h.2.1

theorem chunks_ok (e : Cst) : ∀ n, e.WF n → ∀ b ∈ chunks e, WsOK b := by
  induction e with
  | lit lex ws =>
    intro n h b hb
    simp only [chunks, List.mem_singleton] at hb
    subst hb; exact h.2
  | bin o l ws r ihl ihr =>
    intro n h b hb
    simp only [chunks, List.mem_append, List.mem_cons] at hb
    rcases hb with hb | rfl | hb
    · exact ihl _ h.2.1 b hb
    · exact h.2.2.1
    · exact ihr _ h.2.2.2 b hb
  | paren ws1 e ws2 ih =>
    intro n h b hb
    simp only [chunks, List.mem_append, List.mem_cons, List.not_mem_nil, or_false] at hb
    rcases hb with rfl | hb | rfl
    · exact h.1
    · exact ih _ h.2.1 b hb
    · exact h.2.2

def Agree (ws : Nat → Bytes) (i : Nat) (l : List Bytes) : Prop := ∀ k b, l[k]? = some b → ws (i + k) = b

theorem Agree.head {ws : Nat → Bytes} {i : Nat} {w : Bytes} {l : List Bytes} (h : Agree ws i (w :: l)) : ws i = w :=
  h 0 w rfl

theorem Agree.tail {ws : Nat → Bytes} {i : Nat} {w : Bytes} {l : List Bytes} (h : Agree ws i (w :: l)) :
    Agree ws (i + 1) l := fun k b hk => by
  rw [Nat.add_assoc, Nat.add_comm 1 k]; exact h (k + 1) b hk

theorem Agree.left {ws : Nat → Bytes} {i : Nat} {l₁ l₂ : List Bytes} (h : Agree ws i (l₁ ++ l₂)) : Agree ws i l₁ :=
  fun k b hk => h k b (by rw [List.getElem?_append_left (List.getElem?_eq_some_iff.mp hk).1]; exact hk)

theorem Agree.right {ws : Nat → Bytes} {i : Nat} {l₁ l₂ : List Bytes} (h : Agree ws i (l₁ ++ l₂)) :
    Agree ws (i + l₁.length) l₂ := fun k b hk => by
  rw [Nat.add_assoc]
  exact h (l₁.length + k) b (by rw [List.getElem?_append_right (Nat.le_add_right ..), Nat.add_sub_cancel_left]; exact hk)

theorem layout_strip (e : Cst) : ∀ (ws : Nat → Bytes) (i : Nat), Agree ws i (chunks e) →
    (strip e).layout ws i = (e, i + (chunks e).length) := by
  induction e with
  | lit lex w =>
    intro ws i h
    simp only [strip, PExpr.layout, chunks, h.head, List.length_singleton]
  | bin o l w r ihl ihr =>
    intro ws i h
    simp only [chunks] at h
    simp only [strip, PExpr.layout, ihl ws i h.left, h.right.head, ihr ws _ h.right.tail, chunks, List.length_append,
      List.length_cons]
    congr 1; omega
  | paren w1 e w2 ih =>
    intro ws i h
    simp only [chunks] at h
    simp only [strip, PExpr.layout, h.head, ih ws _ h.tail.left, h.tail.right.head, chunks, List.length_append,
      List.length_cons, List.length_nil]
    congr 1; omega

def wsFn (ws0 : Bytes) (e : Cst) : Nat → Bytes
  | 0 => ws0
  | k + 1 => (chunks e)[k]?.getD []

theorem wsFn_layout (ws0 : Bytes) (e : Cst) : ((strip e).layout (wsFn ws0 e) 1).1 = e := by
  rw [layout_strip e (wsFn ws0 e) 1 (by
    intro k b hk
    rw [Nat.add_comm]
    simp [wsFn, hk])]

theorem wsFn_admissible (ws0 : Bytes) (e : Cst) (n : Nat) (h0 : WsOK ws0) (he : e.WF n) : Admissible (wsFn ws0 e) := by
  intro i
  cases i with
  | zero => exact h0
  | succ k =>
    simp only [wsFn]
    cases hk : (chunks e)[k]? with
    | none => intro b hb; simp at hb
    | some c =>
      simp only [Option.getD_some]
      exact chunks_ok e n he c (List.mem_of_getElem? hk)

theorem render_of_cst (ws0 : Bytes) (e : Cst) (h0 : WsOK ws0) (he : e.WF 0) :
    ∃ (pe : PExpr) (ws : Nat → Bytes), pe.WF 0 ∧ Admissible ws ∧ ws 0 = ws0 ∧ (pe.layout ws 1).1 = e ∧
      render pe ws = ws0 ++ e.render :=
  ⟨strip e, wsFn ws0 e, strip_WF e 0 he, wsFn_admissible ws0 e 0 h0 he, rfl, wsFn_layout ws0 e,
    by simp only [render, wsFn_layout]; rfl⟩

end PV.A05Acc
