/-
  C03, the syntactic link: in a grammar accepted by the certificate `lrf` (Spec/LRF.lean) no memoized body
  is ever started while it is running at the same position, and nothing is curtailed.

  Invariant of a call `run g ctx pos st` (by induction on fuel, on top of the positional invariant `posInv`
  and the soundness of `mayBeEmpty`, `WFT.consInv` at `rxNone`, both through `RunInv.run`):

    `Disj`     — no frame `(i, pos)` of the activation stack at the CURRENT position has its index `i` among
                 the Memoize indexes that `g` can enter at its start position (`lrfMemos`);
    `CtxExact` — the left-recursion context counts EXACTLY the frames at the current position
                 (`ctx.get k = actCount st.active k pos`; `ActOK` of RunPos.lean is the inequality `≥`);
    `Clean`    — the ghost log has no curtail event and only body events of depth 1.

  Descending to a sub-parser at a left position shrinks `lrfMemos` (a reference: closure (i) of the
  certificate); entering `memo i b` pushes `(i, pos)`, and `i ∉ lrfMemos b` is condition (ii); an element of
  a sequence that is reached after a consuming element runs at a later position, where the stack has no
  frame at all and the context was reset; an element reached at the same position is a left position
  because every earlier element returned a zero-width node, hence may be empty (`run_cons`).
  At a Memoize entry `Disj` gives `actCount = 0`, so the logged depth is 1, and `CtxExact` gives
  `ctx.get i = 0`, so the curtailment test fails.
-/
import ParsleyVerif.Spec.LRF
import ParsleyVerif.Proofs.WFCons
import ParsleyVerif.Proofs.MemoBasics
import ParsleyVerif.Proofs.RunMono
namespace PV.LRF
open PV PV.Text

theorem memosAny_mem {c : LRFCert} {gs : List G} {g : G} : g ∈ gs → ∀ i ∈ lrfMemos c g, i ∈ lrfMemosAny c gs :=
  mem_appendAll fun _ _ => rfl

theorem memos_lookup {c : LRFCert} {g : G} {sh : SeqShape} (hs : g.shape = some sh) (d : Nat) (gd : G)
    (hprev : ∀ i, i < d → ∀ gi, sh.lookup i = some gi → mayBeEmpty c.wf gi = true)
    (hl : sh.lookup d = some gd) : ∀ k ∈ lrfMemos c gd, k ∈ lrfMemos c g :=
  G.shape_left (fun _ _ _ _ => rfl) (fun _ _ _ => rfl) (fun _ _ _ _ => rfl) hs hprev hl

def Clean (log : List Ev) : Prop := NoCurtail log ∧ NoReentry log

theorem Clean_cons {log : List Ev} {ev : Ev} (h : Clean log) (h1 : ∀ i p, ev ≠ .curtail i p)
    (h2 : ∀ i p d, ev = .body i p d → d = 1) : Clean (ev :: log) := by
  refine ⟨fun i p hm => ?_, fun i p d hm => ?_⟩
  · cases hm with
    | head => exact h1 i p rfl
    | tail _ hm => exact h.1 i p hm
  · cases hm with
    | head => exact h2 i p d rfl
    | tail _ hm => exact h.2 i p d hm

theorem Clean_logEv {cfg : Cfg} {st : St} {ev : Ev} (h : Clean st.log) (h1 : ∀ i p, ev ≠ .curtail i p)
    (h2 : ∀ i p d, ev = .body i p d → d = 1) : Clean (st.logEv cfg ev).log := by
  cases (logEv_fields st cfg ev).2.2.2.2 with
  | inl e => rw [e]; exact h
  | inr e => rw [e]; exact Clean_cons h h1 h2

def Disj (c : LRFCert) (g : G) (pos : Nat) (act : List (Nat × Nat)) : Prop :=
  ∀ a ∈ act, a.2 = pos → a.1 ∉ lrfMemos c g

theorem Disj.mono {c : LRFCert} {g g' : G} {pos : Nat} {act : List (Nat × Nat)} (h : Disj c g pos act)
    (hsub : ∀ i ∈ lrfMemos c g', i ∈ lrfMemos c g) : Disj c g' pos act :=
  fun a ha hp hm => h a ha hp (hsub _ hm)

def CtxExact (ctx : Ctx) (pos : Nat) (act : List (Nat × Nat)) : Prop := ∀ k, ctx.get k = actCount act k pos

/-- condition (ii) of the certificate as a predicate on one sub-parser -/
def LrfP (c : LRFCert) : G → Prop
  | .memo i g => i ∉ lrfMemos c g
  | _ => True

/-- obtained from the decidable check `lrf` and the scope by `LRF.envLRF_of_lrf` (Props/C03L.lean) -/
structure EnvLRF (c : LRFCert) (cfg : Cfg) : Prop where
  env : EnvOK c.wf cfg
  loc : ∀ g ∈ cfg.env, g.All (LrfP c)
  closed : ∀ k g, cfg.env[k]? = some g → ∀ i ∈ lrfMemos c g, i ∈ c.lm k

structure LPre (c : LRFCert) (cfg : Cfg) (g : G) (ctx : Ctx) (pos : Nat) (st : St) : Prop where
  good : Good c.wf cfg ctx pos st
  disj : Disj c g pos st.active
  ctxEq : CtxExact ctx pos st.active
  clean : Clean st.log

def RunLrfOK (c : LRFCert) (cfg : Cfg) (r : RunFn) : Prop :=
  ∀ g ctx pos st o st', GWF c.wf cfg g → g.All (LrfP c) → LPre c cfg g ctx pos st →
    r g ctx pos st = some (o, st') → Clean st'.log

def LJ (c : LRFCert) (cfg : Cfg) (henv : EnvLRF c cfg) (g : G) (sh : SeqShape) (pos0 : Nat) (act0 : List (Nat × Nat))
    (fr : Frame) (ss : SeqSt) (st : St) : Prop :=
  RunInv.SeqJ (posInv cfg henv.env.core) g sh pos0 fr ss st ∧
  RunInv.SeqJ (WFT.consInv WFT.rxNone c.wf cfg henv.env.toI) g sh pos0 fr ss st ∧
  st.active = act0 ∧ CtxExact fr.ctx fr.pos act0 ∧ Clean st.log

def LE (c : LRFCert) (cfg : Cfg) (henv : EnvLRF c cfg) (g : G) (pos0 : Nat) (ss : SeqSt) (st : St) (ss' : SeqSt) (st' : St) :
    Prop :=
  RunInv.SeqE (posInv cfg henv.env.core) g pos0 ss st ss' st' ∧
  RunInv.SeqE (WFT.consInv WFT.rxNone c.wf cfg henv.env.toI) g pos0 ss st ss' st' ∧ (Clean st.log → Clean st'.log)

theorem seqParse_lrf (c : LRFCert) (cfg : Cfg) (henv : EnvLRF c cfg) (r : RunFn) (hr : (posInv cfg henv.env.core).OK r)
    (hc : (WFT.consInv WFT.rxNone c.wf cfg henv.env.toI).OK r)
    (hl : RunLrfOK c cfg r) (g : G) (sh : SeqShape) (hg : GWF c.wf cfg g) (hall : g.All (LrfP c))
    (hs : g.shape = some sh) (pos0 : Nat) (act0 : List (Nat × Nat))
    (hdisj : Disj c g pos0 act0) (hle : ∀ a ∈ act0, a.2 ≤ pos0) :
    ∀ (fuel : Nat) (fr : Frame) ss st b ss' st', LJ c cfg henv g sh pos0 act0 fr ss st →
      fr.depth = fr.nodes.length →
      seqParse r sh fuel fr.depth fr.nodes fr.ctx fr.pos fr.merge ss st = some (b, ss', st') →
      LE c cfg henv g pos0 ss st ss' st' := by
  refine seqParse_ind r sh (LJ c cfg henv g sh pos0 act0) (LE c cfg henv g pos0) ?_ ?_ ?_ ?_ ?_
  · exact fun ss st => ⟨.refl ss st, .refl ss st, id⟩
  · exact fun a b c' d e f h1 h2 => ⟨.trans a b c' d e f h1.1 h2.1, .trans a b c' d e f h1.2.1 h2.2.1, h2.2.2 ∘ h1.2.2⟩
  · rintro fr ss st ss' st' ⟨hP, hC, hact, hex, hcl⟩ hE
    exact ⟨.stable fr ss st ss' st' hP hE.1, .stable fr ss st ss' st' hC hE.2.1, hE.1.2.2.1.trans hact, hex, hE.2.2 hcl⟩
  · rintro fr ss st g' o st1 ⟨hP, hC, hact, hex, hcl⟩ hd hlk hrun
    obtain ⟨pP, p1, p2, p3⟩ := RunInv.SeqJ.call hr hg.core hs hP hd hlk hrun
    obtain ⟨_, c1, c2, c3⟩ := RunInv.SeqJ.call hc hg.inScopeT.weak hs hC hd hlk hrun
    have hg' := hg.kid (G.shape_kids hs hlk)
    have hall' := shape_lookup_all hall hs fr.depth g' hlk
    have hgood : Good c.wf cfg fr.ctx fr.pos st.regCall :=
      ⟨⟨hP.1.1, StOK_regCall hP.1.2.1, hP.1.2.2⟩, cacheAll_of_eq hC.1.2.1.cacheCons rfl⟩
    have hdisj' : Disj c g' fr.pos st.regCall.active := by
      show Disj c g' fr.pos st.active
      rw [hact]
      intro a ha hap
      by_cases he : fr.pos = pos0
      · exact fun hm => hdisj a ha (by omega) (memos_lookup hs fr.depth g'
          (fun i hi gi hgi => by rw [← WFT.mayBeEmptyT_false]; exact hC.2.1.prev he i (hd ▸ hi) gi hgi) hlk _ hm)
      · have := hle a ha
        have := hC.2.1.le
        omega
    have hclean1 : Clean st1.log :=
      hl g' fr.ctx fr.pos st.regCall o st1 hg' hall'
        ⟨hgood, hdisj', (by show CtxExact fr.ctx fr.pos st.active; rw [hact]; exact hex), hcl⟩ hrun
    refine ⟨⟨p1, c1, fun _ => hclean1⟩, fun n hn => ?_, fun h1 h2 => ⟨p3 h1 h2, c3 h1 h2, fun _ => hclean1⟩⟩
    have hb := Node.WF_bounds cfg.hi n (pP.nodes n hn).2
    have hnp := (pP.nodes n hn).1
    refine ⟨p2 n hn, c2 n hn, pP.active.trans hact, ?_, hclean1⟩
    simp only [Frame.next]
    exact ctxExact_next hex hle hC.2.1.le n.rpos (by omega)
  · rintro fr ss st ⟨hP, hC, _⟩ hd hlk hlc
    exact ⟨RunInv.SeqJ.none hg.core hs fr ss st hP hd hlk hlc,
      RunInv.SeqJ.none hg.inScopeT.weak hs fr ss st hC hd hlk hlc, id⟩

theorem lrfMemos_wrap {c : LRFCert} {f : File} {pos : Nat} {g : G} {w : Wrap} (hw : g.wrap f pos = some w) :
    lrfMemos c w.child = lrfMemos c g := by
  refine G.wrap_cases ?_ ?_ ?_ ?_ ?_ ?_ hw <;> intros <;> simp only [lrfMemos]

theorem runStep_lrf (c : LRFCert) (cfg : Cfg) (henv : EnvLRF c cfg) {r : RunFn} (hP : (posInv cfg henv.env.core).OK r)
    (hC : (WFT.consInv WFT.rxNone c.wf cfg henv.env.toI).OK r) (hl : RunLrfOK c cfg r) (fuel : Nat) :
    RunLrfOK c cfg (runStep cfg r fuel) := by
  have hconsOK : RunConsOK c.wf cfg r := .of_inv henv.env hC
  intro g ctx pos st o st' hg hall hpre h
  obtain ⟨hgood, hdisj, hex, hcl⟩ := hpre
  have logged : ∀ ev, (∀ i p, ev ≠ .curtail i p) → (∀ i p d, ev = .body i p d → d = 1) → Clean (st.logEv cfg ev).log :=
    fun ev h1 h2 => Clean_logEv hcl h1 h2
  -- Any over `gs` on behalf of `g` (Any itself, or Choice on the alternatives it tried): each alternative is called where
  -- the previous ones left the context
  have hany : ∀ {g : G} {gs : List G} {a : AltSt} {st1 : St}, Disj c g pos st.active →
      (∀ g' ∈ gs, GWF c.wf cfg g' ∧ g'.All (LrfP c) ∧ ∀ i ∈ lrfMemos c g', i ∈ lrfMemos c g) →
      anyLoop r ctx pos gs {} st = some (a, st1) → Clean (anyFinish a st1).2.log := by
    intro g gs a st1 hdisj hgs hl1
    rw [(St.frame_of_or (anyFinish_st a st1)).2.2.1]
    refine (anyLoop_ind r ctx pos (fun _ s => Good c.wf cfg ctx pos s ∧ s.active = st.active ∧ Clean s.log) gs
      (fun g' hg' _ s o' s' ⟨a1, a2, a3⟩ hr => ?_) {} st a st1 ⟨hgood, rfl, hcl⟩ hl1).2.2
    obtain ⟨hg', hall', hsub⟩ := hgs g' hg'
    have hgr := Good_regCall a1
    have hpost := hP g' ctx pos s.regCall o' s' hg'.core hgr.1 hr
    refine ⟨Good_after hgr ⟨hpost.nodes, hpost.err, hpost.st, hpost.active, hpost.calls⟩
      (hconsOK g' ctx pos s.regCall o' s' hg' hgr hr), by rw [hpost.active]; exact a2, ?_⟩
    exact hl g' ctx pos s.regCall o' s' hg' hall'
      ⟨hgr, (by show Disj c g' pos s.active; rw [a2]; exact hdisj.mono hsub),
        (by show CtxExact ctx pos s.active; rw [a2]; exact hex), a3⟩ hr
  revert hg hall hdisj
  refine runStep_elim (motive := fun g x => GWF c.wf cfg g → g.All (LrfP c) → Disj c g pos st.active → Clean x.2.log)
    ?term ?empty ?eof ?ref ?refNil ?memo ?any ?choice ?wrap ?seq g (o, st') h
  case term =>
    intro t _ _ _
    rcases termStep_cases cfg t pos st with ⟨_, _, e⟩ | ⟨_, _, e⟩ | ⟨_, _, e⟩ <;> rw [e]
    · exact hcl
    · exact logged _ (fun _ _ hc => by cases hc) (fun _ _ _ hc => by cases hc)
    · exact hcl
  case empty => exact fun _ _ _ => hcl
  case eof =>
    intro _ _ _
    rcases eofStep_cases cfg pos st with ⟨_, e⟩ | ⟨_, e⟩ <;> rw [e]
    · exact hcl
    · exact logged _ (fun _ _ hc => by cases hc) (fun _ _ _ hc => by cases hc)
  case ref =>
    intro k g' x hk h1 _ _ hdisj
    have hm := List.mem_of_getElem? hk
    exact hl g' ctx pos st x.1 x.2 (henv.env.rules g' hm) (henv.loc g' hm)
      ⟨hgood, hdisj.mono (fun i hi => by simp only [lrfMemos]; exact henv.closed k g' hk i hi), hex, hcl⟩ h1
  case refNil => exact fun _ _ _ _ _ => hcl
  case memo =>
    intro idx body x h hg hall hdisj
    obtain ⟨hnot, hallb⟩ : idx ∉ lrfMemos c body ∧ body.All (LrfP c) := hall
    have hbody : GWF c.wf cfg body := ⟨hg.core, hg.loc.2⟩
    -- the Memoize is not on the stack at this position: depth 1, counter 0
    have hz : actCount st.active idx pos = 0 :=
      actCount_zero (fun a ha hc => hdisj a ha hc.2 (by simp only [lrfMemos, hc.1]; exact List.mem_cons_self ..))
    have hcur : ¬ ctx.get idx > remaining cfg.file pos + Facts.curtailSlack := by
      rw [hex idx, hz]; omega
    refine memoStep_elim (motive := fun x => Clean x.2.log) ?_ ?_ ?_ h
    · exact fun _ _ => logged _ (fun _ _ hc => by cases hc) (fun _ _ _ hc => by cases hc)
    · exact fun _ hcur' => absurd hcur' hcur
    · intro o2 st2 _ _ hr
      show Clean st2.log
      obtain ⟨hf1, _, _, hf4, _⟩ := memoEnter_frame cfg idx pos st
      have hlen : (st.active.filter (fun a : Nat × Nat => a.1 == idx && a.2 == pos)).length = 0 := hz
      have hcl1 : Clean (memoEnter cfg idx pos st).log :=
        Clean_logEv (st := { st with active := (idx, pos) :: st.active }) hcl (by intro _ _ hc; cases hc)
          (by intro _ _ d hc; cases hc; omega)
      refine hl body (ctx.inc idx) pos _ o2 st2 hbody hallb
        ⟨⟨Pre_memoEnter hgood.1 hcur, cacheAll_of_eq hgood.2 hf1⟩, ?_, ?_, hcl1⟩ hr
      · rw [hf4]
        intro a ha hap
        cases ha with
        | head => exact hnot
        | tail _ ha => exact fun hm => hdisj a ha hap (by simp only [lrfMemos]; exact List.mem_cons_of_mem _ hm)
      · rw [hf4]
        exact ctxExact_enter hex idx
  case any =>
    exact fun gs a st1 hl1 hg hall hdisj => hany hdisj (fun g' hg' => ⟨hg.kid hg',
      AllList_mem hall.2 g' hg', fun i hi => by simp only [lrfMemos]; exact memosAny_mem hg' i hi⟩) hl1
  case choice =>
    exact fun gs pre a st1 hp _ hl1 hg hall hdisj => hany hdisj (fun g' hg' => ⟨hg.kid (hp.subset hg'),
      AllList_mem hall.2 g' (hp.subset hg'),
      fun i hi => by simp only [lrfMemos]; exact memosAny_mem (hp.subset hg') i hi⟩) hl1
  case wrap =>
    intro g w o1 st1 hw hr hg hall hdisj
    obtain ⟨hcore, hp⟩ := hg.core.wrap hw
    rw [hp] at hr
    exact hl w.child ctx pos st o1 st1 ⟨hcore, hg.loc.wrap hw⟩ (hall.wrap hw)
      ⟨hgood, hdisj.mono (fun i hi => by rw [← lrfMemos_wrap hw]; exact hi), hex, hcl⟩ hr
  case seq =>
    intro g sh b ss st1 hsh hsp hg hall hdisj
    rw [(St.frame_of_or (seqFinish_fields sh pos ss st1).2).2.2.1]
    exact (seqParse_lrf c cfg henv r hP hC hl g sh hg hall hsh pos st.active
      hdisj hgood.1.2.2.1 fuel ⟨0, [], ctx, pos, true⟩ {} st b ss st1
      ⟨.init hg.core hsh hgood.1, .init hg.inScopeT.weak hsh hgood.toT.pre, rfl, hex, hcl⟩ rfl hsp).2.2 hcl

theorem run_lrf (c : LRFCert) (cfg : Cfg) (henv : EnvLRF c cfg) : ∀ fuel, RunLrfOK c cfg (run cfg fuel) := by
  intro fuel
  induction fuel with
  | zero => intro g ctx pos st o st' _ _ _ h; cases h
  | succ fuel ih =>
    exact fun g ctx pos st o st' hg hall hpre h =>
      runStep_lrf c cfg henv (RunInv.run _) (RunInv.run _) ih _ g ctx pos st o st' hg hall hpre (run_some_step h)

/-! ### the work budget

The work budget of the driver (`Cfg.maxCalls`) can only turn an answer of `run` into `none`: whatever `run` answers under a
budget, it answers without one.  (C03L is stated for every budget although the termination machinery it builds on —
`EnvOK` — is stated for `maxCalls = 0`.) -/

def noBudget (cfg : Cfg) : Cfg := { cfg with maxCalls := 0 }

/-- one level of `run` does not look at the budget: the test stands in front of it (`run_succ`) -/
theorem runStep_noBudget (cfg : Cfg) (r : RunFn) (fuel : Nat) (g : G) (ctx : Ctx) (pos : Nat) (st : St) :
    runStep (noBudget cfg) r fuel g ctx pos st = runStep cfg r fuel g ctx pos st := by
  cases g <;> rfl

theorem run_noBudget (cfg : Cfg) (f : Nat) : RunLe (run cfg f) (run (noBudget cfg) f) := by
  induction f with
  | zero => intro g ctx pos st x h; cases h
  | succ f ih =>
    intro g ctx pos st x h
    rw [run_succ0 (cfg := noBudget cfg) rfl, runStep_noBudget]
    exact runStep_mono cfg ih (Nat.le_refl f) _ _ _ _ _ (run_some_step h)

end PV.LRF
