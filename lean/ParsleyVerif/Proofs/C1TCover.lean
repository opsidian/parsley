/-
  THE COMBINATORIAL HALF WITH TRIMS (C01 with trims, completeness, half B) — no `run` here.

  Every end position an exact derivation (`DerivesW`) reaches is reached by a CURTAILED derivation (`DerivesCW`)
  from the zero counters — although LeftTrim hands the counters of the position BEFORE the whitespace to its
  operand.  The cut argument of Proofs/Cut.lean without leaves: `DerivesW` is its derivations, `DerivesCW` its
  curtailed derivations.

  Trees.  `ContainsW cfg k e g pos x`: the tree `x` has an exact derivation from `g` at `pos` in which — on the part
  that still STARTS AT `pos` (through references, memoized bodies, alternatives, options, sequence elements
  preceded by zero-width elements only, a LeftTrim that skipped NOTHING, a RightTrim) — a `memo k` node spans
  `pos … e`.  A LeftTrim that skipped whitespace ends that part: what follows starts elsewhere.
  `AcyclicW`: no derivation of the body of `memo k` spanning `pos … e` contains a `memo k` node with the same
  span.  Under `AcyclicW` every exact derivation IS a curtailed derivation from the zero counters, tree for
  tree — with the phase argument of Proofs/Cut.lean: after a LeftTrim that moved, the first
  activation of `k` may end where the innermost activation before the whitespace ends (relaxed bound), and the
  `+ 1` of the curtailment test pays for it.
-/
import ParsleyVerif.Proofs.Guarded
namespace PV.C1T
open PV PV.Text PV.Cut

theorem dn_of_derivesW {cfg : Cfg} {g : G} {pos : Nat} {x : Node} (h : DerivesW cfg g pos x) :
    ∃ n, DN cfg noLeaves n g pos x :=
  @DerivesW.rec cfg (fun g pos x _ => ∃ n, DN cfg noLeaves n g pos x)
    (fun sh d pos nodes _ => ∃ n, DSN cfg noLeaves n sh d pos nodes)
    (fun h => ⟨1, .term h⟩) ⟨1, .empty⟩
    (fun hk _ ⟨n, hn⟩ => ⟨n + 1, .ref id hk hn⟩)
    (fun _ ⟨n, hn⟩ => ⟨n + 1, .memo id hn⟩)
    (fun hm _ ⟨n, hn⟩ => ⟨n + 1, .any hm hn⟩)
    (fun _ ⟨n, hn⟩ => ⟨n + 1, .optSome hn⟩) ⟨1, .optNone⟩
    (fun hs _ hl ⟨n, hn⟩ => ⟨n + 1, .seqOf hs hn hl⟩)
    (fun hws _ ⟨n, hn⟩ => ⟨n + 1, .ltrim hws hn⟩)
    (fun _ hok ⟨n, hn⟩ => ⟨n + 1, .rtrim hn hok⟩)
    ⟨0, .nil⟩ (fun hl _ _ ⟨a, ha⟩ ⟨b, hb⟩ => ⟨a + b + 1, .cons hl ha hb⟩) g pos x h

theorem dsn_of_derivesSeqW {cfg : Cfg} {sh : SeqShape} : ∀ {nodes : List Node} {d pos : Nat},
    DerivesSeqW cfg sh d pos nodes → ∃ n, DSN cfg noLeaves n sh d pos nodes
  | [], _, _, _ => ⟨0, .nil⟩
  | _ :: _, _, _, .cons hl hd hrest =>
    have ⟨a, ha⟩ := dn_of_derivesW hd
    have ⟨b, hb⟩ := dsn_of_derivesSeqW hrest
    ⟨a + b + 1, .cons hl ha hb⟩

theorem derivesW_of_dn {cfg : Cfg} {n : Nat} {g : G} {pos : Nat} {x : Node} (h : DN cfg noLeaves n g pos x) :
    DerivesW cfg g pos x :=
  @DN.rec cfg noLeaves (fun _ g pos x _ => DerivesW cfg g pos x) (fun _ sh d pos nodes _ => DerivesSeqW cfg sh d pos nodes)
    (fun hl _ => hl.elim) .term .empty (fun _ hk _ => .ref hk) (fun _ _ => .memo) (fun hm _ => .any hm) (fun _ => .optSome)
    .optNone (fun hs _ hl ih => .seqOf hs ih hl) (fun hws _ => .ltrim hws) (fun _ hok ih => .rtrim ih hok)
    .nil (fun hl _ _ => .cons hl) n g pos x h

theorem derivesSeqW_of_dsn {cfg : Cfg} {sh : SeqShape} : ∀ {nodes : List Node} {n d pos : Nat},
    DSN cfg noLeaves n sh d pos nodes → DerivesSeqW cfg sh d pos nodes
  | [], _, _, _, _ => .nil
  | _ :: _, _, _, _, .cons hl hx hrest => .cons hl (derivesW_of_dn hx) (derivesSeqW_of_dsn hrest)

theorem curtailedW (cfg : Cfg) (Sc : G → Prop) : Curtailed cfg noLeaves Sc (DerivesCW cfg) (DerivesSeqCW cfg) where
  leaf hl := hl.elim
  term hp := .term hp
  empty := .empty
  ref _ hk h := .ref hk h
  memo _ hle h := .memo hle h
  any hm h := .any hm h
  optSome h := .optSome h
  optNone := .optNone
  seqOf hs h hl := .seqOf hs h hl
  ltrim _ hws h := .ltrim hws h
  rtrim _ h hok := .rtrim h hok
  nil := .nil
  cons hl h hrest := .cons hl h hrest

theorem derives_of_derivesW {cfg : Cfg} {g : G} {pos : Nat} {x : Node} (h : DerivesW cfg g pos x) : Derives cfg g pos x :=
  @DerivesW.rec cfg (fun g pos x _ => Derives cfg g pos x) (fun sh d pos nodes _ => DerivesSeq cfg sh d pos nodes)
    .term .empty (fun hk _ => .ref hk) (fun _ => .memo) (fun hm _ => .any hm) (fun _ => .optSome) .optNone
    (fun hs _ hl h => .seqfam hs h hl) (fun _ _ => .ltrim) (fun _ _ => .rtrimMove)
    .nil (fun hl _ _ => .cons hl) g pos x h

theorem derivesSeq_of_derivesSeqW {cfg : Cfg} {sh : SeqShape} : ∀ {nodes : List Node} {d pos : Nat},
    DerivesSeqW cfg sh d pos nodes → DerivesSeq cfg sh d pos nodes
  | [], _, _, _ => .nil
  | _ :: _, _, _, .cons hl hd hrest => .cons hl (derives_of_derivesW hd) (derivesSeq_of_derivesSeqW hrest)

/-- every `Memoize` index wraps one parser, terminals stay within the file -/
def GoodW (cfg : Cfg) (bodyOf : Nat → G) (g : G) : Prop := GOK bodyOf g ∧ TermsW cfg g

theorem GoodW.optional {cfg : Cfg} {bodyOf : Nat → G} {g : G} (h : GoodW cfg bodyOf (.optional g)) :
    GoodW cfg bodyOf g := ⟨h.1.kid (.head _), h.2.kid (.head _)⟩

theorem GoodW.lookup {cfg : Cfg} {bodyOf : Nat → G} {g : G} {sh : SeqShape} (h : GoodW cfg bodyOf g)
    (hs : g.shape = some sh) : ∀ d g', sh.lookup d = some g' → GoodW cfg bodyOf g' :=
  fun d g' hl => ⟨shape_lookup_all h.1 hs d g' hl, shape_lookup_all h.2 hs d g' hl⟩

theorem termsW_scope {cfg : Cfg} (henv : ∀ g' ∈ cfg.env, TermsW cfg g') : Closed cfg noLeaves (TermsW cfg) where
  term h := G.All_self (P := TermsLocalW cfg) h
  leaf _ hl := hl.elim
  ref _ _ hk := henv _ (List.mem_of_getElem? hk)
  memo h _ := h.kid (.head _)
  any h _ hm := h.kid hm
  optional h := h.kid (.head _)
  ltrim h := h.kid (.head _)
  rtrim h := h.kid (.head _)
  lookup h hs := shape_lookup_all h hs

theorem GoodW.scope {cfg : Cfg} {bodyOf : Nat → G} (henv : ∀ g' ∈ cfg.env, GoodW cfg bodyOf g') :
    Closed cfg noLeaves (GoodW cfg bodyOf) :=
  (termsW_scope (fun g' hg' => (henv g' hg').2)).withAll (LocalOK bodyOf) (fun g' hg' => (henv g' hg').1)

theorem GoodW.oneBody {cfg : Cfg} {bodyOf : Nat → G} : OneBody bodyOf noLeaves (GoodW cfg bodyOf) :=
  fun h _ => G.All_self (P := LocalOK bodyOf) h.1

theorem hi_eq (cfg : Cfg) : cfg.hi = cfg.file.offset + cfg.file.len := rfl

theorem derivesW_pos (cfg : Cfg) (henv : ∀ g' ∈ cfg.env, TermsW cfg g') {g : G} {pos : Nat} {x : Node}
    (h : DerivesW cfg g pos x) (hg : TermsW cfg g) (hin : InFile cfg.file pos) :
    pos ≤ x.rpos ∧ x.rpos ≤ cfg.hi ∧ NotEof x := by
  obtain ⟨n, hn⟩ := dn_of_derivesW h
  exact (dn_pos (termsW_scope henv) n).1 _ _ _ hg hin hn

/-- **(B), ends, with trims.**  Every end position that an exact derivation reaches is reached by a curtailed
    derivation from the empty left-recursion context. -/
theorem derivesCW_of_derivesW_ends (cfg : Cfg) (bodyOf : Nat → G)
    (henv : ∀ g' ∈ cfg.env, GoodW cfg bodyOf g') (g : G) (hg : GoodW cfg bodyOf g)
    (pos : Nat) (hin : InFile cfg.file pos) (x : Node) (h : DerivesW cfg g pos x) :
    ∃ y, DerivesCW cfg zeroC g pos y ∧ y.rpos = x.rpos := by
  obtain ⟨n, hn⟩ := dn_of_derivesW h
  exact covers_ends (GoodW.scope henv) GoodW.oneBody (curtailedW cfg _) hg hin hn

mutual
inductive ContainsW (cfg : Cfg) (k e : Nat) : G → Nat → Node → Prop
  | here {body pos x} : DerivesW cfg (.memo k body) pos x → x.rpos = e → ContainsW cfg k e (.memo k body) pos x
  | ref {r g pos x} : cfg.env[r]? = some g → ContainsW cfg k e g pos x → ContainsW cfg k e (.ref r) pos x
  | memo {i g pos x} : ContainsW cfg k e g pos x → ContainsW cfg k e (.memo i g) pos x
  | any {gs g pos x} : g ∈ gs → ContainsW cfg k e g pos x → ContainsW cfg k e (.any gs) pos x
  | optSome {g pos x} : ContainsW cfg k e g pos x → ContainsW cfg k e (.optional g) pos x
  | seqOf {gs o sh pos nodes} : (G.seq .seqOf gs o).shape = some sh → ContainsSeqW cfg k e sh 0 pos nodes →
      sh.lenCheck nodes.length = true → ContainsW cfg k e (.seq .seqOf gs o) pos (handleResult sh pos nodes)
  | ltrim {g m pos x} : (skipWhitespaces cfg.file pos m).2 = none → (skipWhitespaces cfg.file pos m).1 = pos →
      ContainsW cfg k e g pos x → ContainsW cfg k e (.ltrim g m) pos x
  | rtrim {g m pos x} : ContainsW cfg k e g pos x → movedErr cfg m x = none →
      ContainsW cfg k e (.rtrim g m) pos (moved cfg m x)
inductive ContainsSeqW (cfg : Cfg) (k e : Nat) : SeqShape → Nat → Nat → List Node → Prop
  | head {sh d pos g n rest} : sh.lookup d = some g → ContainsW cfg k e g pos n →
      DerivesSeqW cfg sh (d + 1) n.rpos rest → ContainsSeqW cfg k e sh d pos (n :: rest)
  | tail {sh d pos g n rest} : sh.lookup d = some g → DerivesW cfg g pos n → n.rpos = pos →
      ContainsSeqW cfg k e sh (d + 1) n.rpos rest → ContainsSeqW cfg k e sh d pos (n :: rest)
end

def AcyclicW (cfg : Cfg) (bodyOf : Nat → G) : Prop :=
  ∀ k pos x, InFile cfg.file pos → ¬ ContainsW cfg k x.rpos (bodyOf k) pos x

theorem derivesSeqW_pos (cfg : Cfg) (henv : ∀ g' ∈ cfg.env, TermsW cfg g') {sh : SeqShape} {d pos : Nat} {nodes : List Node}
    (h : DerivesSeqW cfg sh d pos nodes) (hg : ∀ d g', sh.lookup d = some g' → TermsW cfg g') (hin : InFile cfg.file pos) :
    pos ≤ endOf pos nodes ∧ endOf pos nodes ≤ cfg.hi := by
  obtain ⟨n, hn⟩ := dsn_of_derivesSeqW h
  obtain ⟨a, b, _⟩ := (dn_pos (termsW_scope henv) n).2 _ _ _ _ hg hin hn
  exact ⟨a, b⟩

theorem nest_of_containsW {cfg : Cfg} {k e : Nat} {g : G} {pos : Nat} {x : Node}
    (h : ContainsW cfg k e g pos x) : Nest cfg noLeaves k e g pos x :=
  @ContainsW.rec cfg k e (fun g pos x _ => Nest cfg noLeaves k e g pos x)
    (fun sh d pos nodes _ => NestS cfg noLeaves k e sh d pos nodes)
    (fun hd he => have ⟨_, hn⟩ := dn_of_derivesW hd; .here id hn he)
    (fun hk _ ih => .ref id hk ih) (fun _ ih => .memo id ih) (fun hm _ ih => .any hm ih) (fun _ ih => .optSome ih)
    (fun hs _ hl ih => .seqOf hs ih hl) (fun hws hmv _ ih => .ltrim hws hmv ih) (fun _ hok ih => .rtrim ih hok)
    (fun hl _ hds ih => have ⟨_, hb⟩ := dsn_of_derivesSeqW hds; .head hl ih hb)
    (fun hl hd hz _ ih => have ⟨_, ha⟩ := dn_of_derivesW hd; .tail hl ha hz ih)
    g pos x h

/-- `AcyclicW` from the test of Proofs/Guarded.lean on every rule body -/
theorem acyclicW_of_guards (cfg : Cfg) (bodyOf : Nat → G) (henv : ∀ g' ∈ cfg.env, GoodW cfg bodyOf g')
    (hb : ∀ k, GoodW cfg bodyOf (bodyOf k) ∧ ∃ n, (bodyOf k).guards cfg.env (fun _ => false) k n = true) :
    AcyclicW cfg bodyOf := fun k _ _ hin hc =>
  have ⟨hg, _, hn⟩ := hb k
  not_nest_of_guards (lf := fun _ => false) (GoodW.scope henv) (fun _ => id) nofun hg hn hin (nest_of_containsW hc)

theorem nestingW (cfg : Cfg) (Sc : G → Prop) : Nesting cfg noLeaves Sc (ContainsW cfg) (ContainsSeqW cfg) where
  here _ _ hd he := .here (derivesW_of_dn hd) he
  ref _ hk h := .ref hk h
  memo _ h := .memo h
  any hm h := .any hm h
  optSome h := .optSome h
  seqOf hs h hl := .seqOf hs h hl
  ltrim _ hws hmv h := .ltrim hws hmv h
  rtrim _ h hok := .rtrim h hok
  head _ hl h hrest := .head hl h (derivesSeqW_of_dsn hrest)
  tail _ hl hd hz h := .tail hl (derivesW_of_dn hd) hz h

/-- **(B), trees, with trims.**  In an acyclic grammar every exact derivation is a curtailed derivation from
    the empty left-recursion context — the same tree. -/
theorem derivesCW_of_derivesW_tree (cfg : Cfg) (bodyOf : Nat → G)
    (henv : ∀ g' ∈ cfg.env, GoodW cfg bodyOf g') (hac : AcyclicW cfg bodyOf)
    (g : G) (hg : GoodW cfg bodyOf g)
    (pos : Nat) (hin : InFile cfg.file pos) (x : Node) (h : DerivesW cfg g pos x) :
    DerivesCW cfg zeroC g pos x := by
  obtain ⟨n, hn⟩ := dn_of_derivesW h
  exact covers_trees (GoodW.scope henv) GoodW.oneBody (curtailedW cfg _) (nestingW cfg _)
    (fun k _ pos x _ hin => hac k pos x hin) hg hin hn

end PV.C1T
