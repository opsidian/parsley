/-
  Stratified grammars (Spec/Strat.lean): the scope predicates the proofs work with, their projections to
  sub-parsers, and what the stratum-0 part of the certificate says about DERIVATIONS (no `run` here):

  `low_derives` — for a stratum-0 parser `g` and a derivation `Derives cfg g pos x` (the monotone reading, of
  which every exact `Big` result is an instance): the tree starts at `pos`, is well formed, carries no "EOF"
  token anywhere, and if it has zero width then `mayBeEmpty g` (soundness of the nullable tables of the
  certificate at derivation level).
-/
import ParsleyVerif.Spec.Strat
import ParsleyVerif.Proofs.WFCons
import ParsleyVerif.Proofs.CurtailCover
import ParsleyVerif.Proofs.BigStepRules
namespace PV.Strat
open PV PV.Text

/-- a stratum-0 parser in scope: accepted by the check, one parser per Memoize index, terminals in scope -/
structure LowS (cfg : Cfg) (s : Cert) (bodyOf : Nat → G) (g : G) : Prop where
  ok : lowOK s g = true
  gok : GOK bodyOf g
  terms : TermsOK cfg g
  cons : TermsCons cfg g

structure UpS (cfg : Cfg) (s : Cert) (bodyOf : Nat → G) (g : G) : Prop where
  ok : upOK s g = true
  gok : GOK bodyOf g
  terms : TermsOK cfg g
  cons : LeafCons cfg s g

/-- obtained from the decidable check `stratOK` and the scopes by `Strat.scope_of_stratOK` (Props/C01S.lean) -/
structure EnvS (cfg : Cfg) (s : Cert) (bodyOf : Nat → G) : Prop where
  low : ∀ k g, cfg.env[k]? = some g → s.lowRule k = true → LowS cfg s bodyOf g
  up : ∀ k g, cfg.env[k]? = some g → s.lowRule k = false → UpS cfg s bodyOf g
  nullable : ∀ k g, cfg.env[k]? = some g → s.lowRule k = true → mayBeEmpty s.lrf.wf g = true →
    s.lrf.wf.nullable k = true
  closed : ∀ k g, cfg.env[k]? = some g → s.lowRule k = true → ∀ i ∈ lrfMemos s.lrf g, i ∈ s.lrf.lm k

theorem lowOKList_mem {s : Cert} {gs : List G} : lowOKList s gs = true → ∀ g ∈ gs, lowOK s g = true :=
  forall_mem_of_cons (L := (lowOKList s · = true)) fun _ _ => Bool.and_eq_true_iff.mp

theorem upOKList_mem {s : Cert} {gs : List G} : upOKList s gs = true → ∀ g ∈ gs, upOK s g = true :=
  forall_mem_of_cons (L := (upOKList s · = true)) fun _ _ => Bool.and_eq_true_iff.mp

theorem tokOK_ne {o : SeqOpts} {d : Bytes} (h : tokOK o d = true) : o.token.getD d ≠ eofTok := by
  simpa [tokOK] using h

theorem lowOK_kids {s : Cert} {g : G} (h : lowOK s g = true) : ∀ k ∈ g.kids, lowOK s k = true := by
  intro k hk
  cases g with
  | memo _ g | many g _ _ =>
    simp only [lowOK, Bool.and_eq_true] at h; cases List.mem_singleton.mp hk; exact h.2
  | optional g | name g _ | single g | suppress g =>
    simp only [lowOK] at h; cases List.mem_singleton.mp hk; exact h
  | any gs | choice gs => simp only [lowOK] at h; exact lowOKList_mem h k hk
  | seq _ gs _ => simp only [lowOK, Bool.and_eq_true] at h; exact lowOKList_mem h.2 k hk
  | sepBy v sp _ _ =>
    simp only [lowOK, Bool.and_eq_true] at h
    rcases List.mem_cons.mp hk with rfl | hk
    · exact h.1.2
    · cases List.mem_singleton.mp hk; exact h.2
  | term | empty | eof | ref => cases hk
  | ltrim | rtrim => simp [lowOK] at h

namespace LowS
variable {cfg : Cfg} {s : Cert} {bodyOf : Nat → G}

theorem term {t : Terminal} (h : LowS cfg s bodyOf (.term t)) : TermS cfg (.term t) ∧ ConsT cfg (.term t) := by
  have h1 := h.terms
  have h2 := h.cons
  exact ⟨by simpa [TermsOK, G.All] using h1, by simpa [TermsCons, G.All] using h2⟩

theorem memo {i : Nat} {b : G} (h : LowS cfg s bodyOf (.memo i b)) :
    s.lowIdx i = true ∧ i ∉ lrfMemos s.lrf b ∧ (mayBeEmpty s.lrf.wf b = true → s.lrf.wf.nullM i = true) ∧
      b = bodyOf i ∧ LowS cfg s bodyOf b := by
  have h1 := h.ok
  simp only [lowOK, Bool.and_eq_true, Bool.not_eq_true', Bool.or_eq_true, List.contains_eq_mem,
    decide_eq_false_iff_not] at h1
  have h2 : b = bodyOf i ∧ GOK bodyOf b := by simpa [GOK, G.All, LocalOK] using h.gok
  have h3 : TermS cfg (.memo i b) ∧ b.All (TermS cfg) := by simpa [TermsOK, G.All] using h.terms
  have h4 : ConsT cfg (.memo i b) ∧ b.All (ConsT cfg) := by simpa [TermsCons, G.All] using h.cons
  refine ⟨h1.1.1.1, h1.1.1.2, ?_, h2.1, ⟨h1.2, h2.2, h3.2, h4.2⟩⟩
  intro hm
  cases h1.1.2 with
  | inl h4 => rw [hm] at h4; cases h4
  | inr h4 => exact h4

theorem kid {g k : G} (h : LowS cfg s bodyOf g) (hk : k ∈ g.kids) : LowS cfg s bodyOf k :=
  ⟨lowOK_kids h.ok k hk, h.gok.kid hk, h.terms.kid hk, h.cons.kid hk⟩

theorem any {gs : List G} (h : LowS cfg s bodyOf (.any gs)) : ∀ g ∈ gs, LowS cfg s bodyOf g := fun _ => h.kid

theorem choice {gs : List G} (h : LowS cfg s bodyOf (.choice gs)) : ∀ g ∈ gs, LowS cfg s bodyOf g := fun _ => h.kid

theorem optional {g : G} (h : LowS cfg s bodyOf (.optional g)) : LowS cfg s bodyOf g := h.kid (.head _)

theorem name {g : G} {nm : Bytes} (h : LowS cfg s bodyOf (.name g nm)) : LowS cfg s bodyOf g := h.kid (.head _)

theorem single {g : G} (h : LowS cfg s bodyOf (.single g)) : LowS cfg s bodyOf g := h.kid (.head _)

theorem suppress {g : G} (h : LowS cfg s bodyOf (.suppress g)) : LowS cfg s bodyOf g := h.kid (.head _)

theorem lookup {g : G} {sh : SeqShape} (h : LowS cfg s bodyOf g) (hs : g.shape = some sh) :
    (∀ d g', sh.lookup d = some g' → LowS cfg s bodyOf g') ∧ sh.token ≠ eofTok := by
  refine ⟨fun d g' hd => h.kid (G.shape_kids hs hd), ?_⟩
  have hok := h.ok
  cases g <;> cases hs <;> simp only [lowOK, Bool.and_eq_true] at hok
  case seq => exact tokOK_ne hok.1
  case many => exact tokOK_ne hok.1
  case sepBy => exact tokOK_ne hok.1.1

end LowS

theorem mbeAny_mem {c : WFCert} {gs : List G} {g : G} (hg : g ∈ gs) (h : mayBeEmpty c g = true) : mbeAny c gs = true :=
  WFT.mbeAnyT_false c gs ▸ WFT.mbeAnyT_true hg ((WFT.mayBeEmptyT_false c g).symm ▸ h)

theorem InFile_hi {cfg : Cfg} {pos : Nat} (h : InFile cfg.file pos) : pos ≤ cfg.hi := h.2

structure DOut (cfg : Cfg) (s : Cert) (g : G) (pos : Nat) (x : Node) : Prop where
  start : x.pos = pos
  wf : x.WF cfg.hi
  tok : NoEofDeep x
  null : x.rpos = pos → mayBeEmpty s.lrf.wf g = true

theorem DOut.inFile {cfg : Cfg} {s : Cert} {g : G} {pos : Nat} {x : Node} (h : DOut cfg s g pos x)
    (hin : InFile cfg.file pos) : pos ≤ x.rpos ∧ x.rpos ≤ cfg.hi ∧ InFile cfg.file x.rpos := by
  have hb := Node.WF_bounds cfg.hi x h.wf
  rw [h.start] at hb
  exact ⟨hb.1, hb.2, InFile_of_le hin hb.1 hb.2⟩

theorem noEofDeep_token : ∀ {x : Node}, NoEofDeep x → x.token ≠ eofTok
  | .term _ _ _ _, h => by simpa [NoEofDeep, Node.token] using h
  | .empty _, _ => by simp [Node.token, eofTok]
  | .eof _, h => by simp [NoEofDeep] at h
  | .nt _ _ _ _ _, h => by
    simp only [NoEofDeep] at h
    simpa [Node.token] using h.1

theorem noEofDeep_handleResult (sh : SeqShape) (p : Nat) (nodes : List Node) (ht : sh.token ≠ eofTok)
    (hn : NoEofDeepList nodes) : NoEofDeep (handleResult sh p nodes) := by
  rcases handleResult_cases sh p nodes with ⟨n, rfl, e⟩ | e <;> rw [e]
  · exact hn.1
  · unfold NoEofDeep; exact ⟨ht, hn⟩

theorem noEofDeepList_mem : ∀ {l : List Node}, NoEofDeepList l → ∀ n ∈ l, NoEofDeep n :=
  forall_mem_of_cons fun _ _ h => h

theorem low_cons {cfg : Cfg} {s : Cert} {sh : SeqShape} {d pos : Nat} {g : G} {n : Node} {rest : List Node}
    (hl : sh.lookup d = some g) (hin : InFile cfg.file pos) (ih1 : DOut cfg s g pos n)
    (ih2 : InFile cfg.file n.rpos → Chain cfg.hi rest n.rpos (endOf n.rpos rest) ∧ NoEofDeepList rest ∧
      (endOf n.rpos rest = n.rpos → ∀ i, i < rest.length → ∀ gi, sh.lookup (d + 1 + i) = some gi →
        mayBeEmpty s.lrf.wf gi = true)) :
    Chain cfg.hi (n :: rest) pos (endOf pos (n :: rest)) ∧ NoEofDeepList (n :: rest) ∧
      (endOf pos (n :: rest) = pos → ∀ i, i < (n :: rest).length → ∀ gi, sh.lookup (d + i) = some gi →
        mayBeEmpty s.lrf.wf gi = true) := by
  obtain ⟨b1, b2, b3⟩ := ih1.inFile hin
  obtain ⟨c1, c2, c3⟩ := ih2 b3
  have hcb := Chain_bounds cfg.hi rest n.rpos _ c1
  refine ⟨?_, ⟨ih1.tok, c2⟩, ?_⟩
  · rw [endOf_cons]
    exact Chain_cons.mpr ⟨ih1.start, ih1.wf, c1⟩
  · intro hz i hi gi hgi
    rw [endOf_cons] at hz
    have hn : n.rpos = pos := by omega
    cases i with
    | zero =>
      simp only [Nat.add_zero] at hgi
      rw [hl] at hgi
      cases hgi
      exact ih1.null hn
    | succ j =>
      refine c3 (by omega) j (by simp at hi; omega) gi ?_
      rw [← hgi]; congr 1; omega

theorem low_derives {cfg : Cfg} {s : Cert} {bodyOf : Nat → G} (henv : EnvS cfg s bodyOf) {g : G} {pos : Nat} {x : Node}
    (h : Derives cfg g pos x) : LowS cfg s bodyOf g → InFile cfg.file pos → DOut cfg s g pos x := by
  -- a rule that hands its operand's tree on: only the nullable table changes
  have pass : ∀ {g g' : G} {pos : Nat} {x : Node}, DOut cfg s g' pos x →
      (mayBeEmpty s.lrf.wf g' = true → mayBeEmpty s.lrf.wf g = true) → DOut cfg s g pos x :=
    fun ih hm => ⟨ih.start, ih.wf, ih.tok, fun hz => hm (ih.null hz)⟩
  refine @Derives.rec cfg (fun g pos x _ => LowS cfg s bodyOf g → InFile cfg.file pos → DOut cfg s g pos x)
    (fun sh d pos nodes _ => (∀ d g', sh.lookup d = some g' → LowS cfg s bodyOf g') → InFile cfg.file pos →
      Chain cfg.hi nodes pos (endOf pos nodes) ∧ NoEofDeepList nodes ∧
      (endOf pos nodes = pos → ∀ i, i < nodes.length → ∀ gi, sh.lookup (d + i) = some gi →
        mayBeEmpty s.lrf.wf gi = true))
    ?term ?empty ?eof ?ref ?memo ?any ?choice ?optSome ?optNone ?name ?suppress ?singleUnwrap ?singleKeep
    ?ltrim ?rtrimMove ?rtrimKeep ?seqfam ?nil ?cons g pos x h
  case term =>
    intro t pos n hp hg hin
    obtain ⟨⟨t1, t3⟩, t2⟩ := hg.term
    obtain ⟨a1, a2⟩ := (t1 pos hin).1 n hp
    refine ⟨a1, a2, t3 pos n hp, fun hz => ?_⟩
    have := t2 pos n hin hp
    omega
  case empty => exact fun _ hin => ⟨rfl, hin.2, trivial, fun _ => rfl⟩
  case optNone => exact fun _ hin => ⟨rfl, hin.2, trivial, fun _ => rfl⟩
  case eof => exact fun _ hg _ => absurd hg.ok (by simp [lowOK])
  case ltrim => exact fun _ _ hg _ => absurd hg.ok (by simp [lowOK])
  case rtrimMove => exact fun _ _ hg _ => absurd hg.ok (by simp [lowOK])
  case rtrimKeep => exact fun _ _ hg _ => absurd hg.ok (by simp [lowOK])
  case ref =>
    intro k g pos x hk _ ih hg hin
    have hlow : s.lowRule k = true := hg.ok
    exact pass (ih (henv.low k g hk hlow) hin) (henv.nullable k g hk hlow)
  case memo => exact fun _ ih hg hin => pass (ih hg.memo.2.2.2.2 hin) hg.memo.2.2.1
  case any => exact fun hm _ ih hg hin => pass (ih (hg.any _ hm) hin) (mbeAny_mem hm)
  case choice => exact fun hm _ ih hg hin => pass (ih (hg.choice _ hm) hin) (mbeAny_mem hm)
  case optSome => exact fun _ ih hg hin => pass (ih hg.optional hin) (fun _ => rfl)
  case name => exact fun _ ih hg hin => pass (ih hg.name hin) id
  case suppress => exact fun _ ih hg hin => pass (ih hg.suppress hin) id
  case singleKeep => exact fun _ ih hg hin => pass (ih hg.single hin) id
  case singleUnwrap =>
    intro g pos tk c p r i _ ih hg hin
    have ih := ih hg.single hin
    have hp : p = pos := ih.start
    have hw : c.pos = p ∧ c.WF cfg.hi ∧ (c.rpos = r ∧ r ≤ cfg.hi) := by
      have := ih.wf; simpa only [Node.WF, Chain] using this
    have ht : tk ≠ eofTok ∧ (NoEofDeep c ∧ True) := by
      have := ih.tok; simpa only [NoEofDeep, NoEofDeepList] using this
    refine ⟨by rw [hw.1, hp], hw.2.1, ht.2.1, fun hz => ?_⟩
    refine ih.null ?_
    show r = pos
    rw [← hw.2.2.1]; exact hz
  case seqfam =>
    intro g sh pos nodes hs _ hl ih hg hin
    obtain ⟨l1, l2⟩ := hg.lookup hs
    obtain ⟨c1, c2, c3⟩ := ih l1 hin
    have hok := handleResult_ok cfg.hi sh pos (endOf pos nodes) nodes c1
    rw [← handleResult_endOf sh (p0 := pos) (ns := nodes) rfl]
    refine ⟨hok.1, hok.2, noEofDeep_handleResult sh _ nodes l2 c2, fun hz => ?_⟩
    rw [handleResult_rpos_chain cfg.hi sh pos _ nodes c1] at hz
    cases hmb : mayBeEmpty s.lrf.wf g with
    | true => rfl
    | false =>
      exact (shape_emit_cons hs hmb nodes.length hl (fun i hi gi hgi => c3 hz i hi gi (by simpa using hgi))).elim
  case nil => exact fun _ hin => ⟨⟨rfl, hin.2⟩, trivial, fun _ i hi => absurd hi (Nat.not_lt_zero i)⟩
  case cons => exact fun hl _ _ ih1 ih2 hg hin => low_cons hl hin (ih1 (hg _ _ hl) hin) (ih2 hg)

theorem low_derivesSeq {cfg : Cfg} {s : Cert} {bodyOf : Nat → G} (henv : EnvS cfg s bodyOf) :
    ∀ {sh : SeqShape} {d pos : Nat} {nodes : List Node}, DerivesSeq cfg sh d pos nodes →
      (∀ d g', sh.lookup d = some g' → LowS cfg s bodyOf g') → InFile cfg.file pos →
      Chain cfg.hi nodes pos (endOf pos nodes) ∧ NoEofDeepList nodes ∧
      (endOf pos nodes = pos → ∀ i, i < nodes.length → ∀ gi, sh.lookup (d + i) = some gi →
        mayBeEmpty s.lrf.wf gi = true)
  | _, _, _, _, .nil, _, hin => ⟨⟨rfl, hin.2⟩, trivial, fun _ i hi => absurd hi (Nat.not_lt_zero i)⟩
  | _, _, _, _, .cons hl hd hrest, hg, hin =>
    low_cons hl hin (low_derives henv hd (hg _ _ hl) hin) (low_derivesSeq henv hrest hg)

theorem low_big {cfg : Cfg} {s : Cert} {bodyOf : Nat → G} (henv : EnvS cfg s bodyOf) {g : G} {pos : Nat} {R : Res}
    {e : Bool} (hb : Big cfg g pos R e) (hg : LowS cfg s bodyOf g) (hin : InFile cfg.file pos) :
    ∀ x ∈ R.alts, DOut cfg s g pos x :=
  fun x hx => low_derives henv (Big.big_derives hb x hx) hg hin

namespace UpS
variable {cfg : Cfg} {s : Cert} {bodyOf : Nat → G}

theorem leaf {g : G} (h : UpS cfg s bodyOf g) (hl : isLowLeaf s g = true) :
    LowS cfg s bodyOf g ∧ ∀ i ∈ lrfMemos s.lrf g, s.lowIdx i = true := by
  have key : leafOK s g = true → LowS cfg s bodyOf g ∧ ∀ i ∈ lrfMemos s.lrf g, s.lowIdx i = true := by
    intro hk
    simp only [leafOK, Bool.and_eq_true, List.all_eq_true] at hk
    exact ⟨⟨hk.1, h.gok, h.terms, G.All_self h.cons hl⟩, hk.2⟩
  have hok := h.ok
  cases g with
  | term | empty | any | optional => simp [isLowLeaf] at hl
  | eof | ltrim | rtrim => simp [upOK] at hok
  | ref k =>
    simp only [isLowLeaf] at hl
    simp only [upOK, hl, Bool.not_true, Bool.false_or] at hok
    exact key hok
  | memo i b =>
    simp only [isLowLeaf] at hl
    simp only [upOK, hl, ↓reduceIte] at hok
    exact key hok
  | seq k gs o =>
    cases k with
    | seqOf => simp [isLowLeaf] at hl
    | seqTry | seqFirstOrAll => simp only [upOK] at hok; exact key hok
  | choice | many | sepBy | name | single | suppress => simp only [upOK] at hok; exact key hok

theorem term {t : Terminal} (h : UpS cfg s bodyOf (.term t)) : TermS cfg (.term t) := by
  have := h.terms; simpa [TermsOK, G.All] using this

theorem kid {g g' : G} (h : UpS cfg s bodyOf g) (hok : upOK s g' = true) (hk : g' ∈ g.kids) : UpS cfg s bodyOf g' :=
  ⟨hok, h.gok.kid hk, h.terms.kid hk, h.cons.kid hk⟩

theorem memo {i : Nat} {b : G} (h : UpS cfg s bodyOf (.memo i b)) (hi : s.lowIdx i = false) :
    b = bodyOf i ∧ UpS cfg s bodyOf b :=
  ⟨G.All_self (P := LocalOK bodyOf) h.gok, h.kid (by have := h.ok; simpa [upOK, hi] using this) (.head _)⟩

theorem any {gs : List G} (h : UpS cfg s bodyOf (.any gs)) : ∀ g ∈ gs, UpS cfg s bodyOf g :=
  fun g hg => h.kid (upOKList_mem h.ok g hg) hg

theorem optional {g : G} (h : UpS cfg s bodyOf (.optional g)) : UpS cfg s bodyOf g := h.kid h.ok (.head _)

theorem seqOf {gs : List G} {o : SeqOpts} {sh : SeqShape} (h : UpS cfg s bodyOf (.seq .seqOf gs o))
    (hs : (G.seq .seqOf gs o).shape = some sh) :
    (∀ d g', sh.lookup d = some g' → UpS cfg s bodyOf g') ∧ sh.token ≠ eofTok := by
  have h1 : tokOK o seqTok = true ∧ upOKList s gs = true := by simpa [upOK] using h.ok
  cases hs
  exact ⟨fun d g' hd => h.kid (upOKList_mem h1.2 g' (List.mem_of_getElem? hd)) (List.mem_of_getElem? hd), tokOK_ne h1.1⟩

end UpS

end PV.Strat
