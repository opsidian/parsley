/-
  Induction over parsers through their operands.  `g.kids` lists the operands of `g` (none for a leaf, the
  operand of a one-child combinator, the members of Any / Choice / a Sequence, value and separator of SepBy);
  `G.induct` is induction over `G` with the hypothesis for all of them.  The recursive predicates on parsers
  (`G.All`, `G.Core`) are read through `kids` once (`G.All_kids`, `G.Core_kids`), so that a fact about them is one
  induction instead of one case per combinator.  A list-valued function on parsers that a certificate defines by mutual
  recursion (`leftRefsT`, `lrfMemos`, `nameBodies`, …) is reasoned about through its equations: `mem_appendAll` for its
  companion on lists, `G.shape_left` for the left positions of the Sequence family.
-/
import ParsleyVerif.Spec.Derives
import ParsleyVerif.Spec.Core
import ParsleyVerif.Proofs.RunEqns
namespace PV

def G.kids : G → List G
  | .memo _ g | .many g _ _ | .optional g | .name g _ | .ltrim g _ | .rtrim g _ | .single g | .suppress g => [g]
  | .any gs | .choice gs | .seq _ gs _ => gs
  | .sepBy v s _ _ => [v, s]
  | .term _ | .empty | .eof | .ref _ => []

mutual
theorem G.induct {motive : G → Prop} (h : ∀ g, (∀ k ∈ g.kids, motive k) → motive g) : ∀ g, motive g
  | .term _ => h _ nofun
  | .empty => h _ nofun
  | .eof => h _ nofun
  | .ref _ => h _ nofun
  | .memo _ g => h _ (List.forall_mem_singleton.mpr (G.induct h g))
  | .many g _ _ => h _ (List.forall_mem_singleton.mpr (G.induct h g))
  | .optional g => h _ (List.forall_mem_singleton.mpr (G.induct h g))
  | .name g _ => h _ (List.forall_mem_singleton.mpr (G.induct h g))
  | .ltrim g _ => h _ (List.forall_mem_singleton.mpr (G.induct h g))
  | .rtrim g _ => h _ (List.forall_mem_singleton.mpr (G.induct h g))
  | .single g => h _ (List.forall_mem_singleton.mpr (G.induct h g))
  | .suppress g => h _ (List.forall_mem_singleton.mpr (G.induct h g))
  | .any gs => h _ (G.inductList h gs)
  | .choice gs => h _ (G.inductList h gs)
  | .seq _ gs _ => h _ (G.inductList h gs)
  | .sepBy v s _ _ => h _ (List.forall_mem_cons.mpr ⟨G.induct h v, List.forall_mem_singleton.mpr (G.induct h s)⟩)
theorem G.inductList {motive : G → Prop} (h : ∀ g, (∀ k ∈ g.kids, motive k) → motive g) :
    ∀ gs : List G, ∀ k ∈ gs, motive k
  | [] => nofun
  | g :: gs => List.forall_mem_cons.mpr ⟨G.induct h g, G.inductList h gs⟩
end

theorem G.kids_sizeOf {g k : G} (hk : k ∈ g.kids) : sizeOf k < sizeOf g := by
  cases g <;> simp only [G.kids, List.mem_cons, List.not_mem_nil, or_false] at hk
  case any gs => have := List.sizeOf_lt_of_mem hk; simp only [G.any.sizeOf_spec]; omega
  case choice gs => have := List.sizeOf_lt_of_mem hk; simp only [G.choice.sizeOf_spec]; omega
  case seq _ gs _ => have := List.sizeOf_lt_of_mem hk; simp only [G.seq.sizeOf_spec]; omega
  case sepBy v s _ _ => rcases hk with rfl | rfl <;> simp only [G.sepBy.sizeOf_spec] <;> omega
  all_goals subst hk; simp +arith

theorem G.shape_kids {g : G} {sh : SeqShape} (hs : g.shape = some sh) {i : Nat} {g' : G}
    (hl : sh.lookup i = some g') : g' ∈ g.kids := by
  cases g <;> simp only [G.shape, Option.some.injEq, reduceCtorEq] at hs <;> subst hs <;> simp only at hl
  case seq _ gs _ => exact List.mem_of_getElem? hl
  case many g _ _ => cases hl; exact List.mem_singleton.mpr rfl
  case sepBy v s _ _ => split at hl <;> cases hl <;> simp [G.kids]

/-- `FL` appends `F` over a list (`leftRefsAllT`, `lrfMemosAny`, `nameBodiesL`, `labelsL`: each defined by mutual recursion
    with its `F`, hence given here by its equation) -/
theorem mem_appendAll {α β : Type} {F : α → List β} {FL : List α → List β} (hcons : ∀ x xs, FL (x :: xs) = F x ++ FL xs) :
    ∀ {xs : List α} {x : α}, x ∈ xs → ∀ b ∈ F x, b ∈ FL xs
  | y :: xs, x, hm, b, hb => by
    rw [hcons, List.mem_append]
    cases hm with
    | head => exact .inl hb
    | tail _ hm => exact .inr (mem_appendAll hcons hm b hb)

/-- `F` collects what stands at the left positions of a parser (`leftRefsT`, `lrfMemos`), `e` says which parsers may
    be empty: what `F` finds in an element of a sequence before which every element may be empty, it finds in the
    sequence -/
theorem G.seq_left {α : Type} {F : G → List α} {e : G → Bool} {k : SeqKind} {o : SeqOpts}
    (hseq : ∀ g gs, F (.seq k (g :: gs) o) = F g ++ if e g then F (.seq k gs o) else []) :
    ∀ (gs : List G) (d : Nat) {gd : G}, (∀ i, i < d → ∀ gi, gs[i]? = some gi → e gi = true) → gs[d]? = some gd →
      ∀ a ∈ F gd, a ∈ F (.seq k gs o)
  | [], d, gd, _, hl => by simp at hl
  | g :: gs, 0, gd, _, hl => by
    cases hl
    exact fun a ha => hseq g gs ▸ List.mem_append_left _ ha
  | g :: gs, d + 1, gd, hprev, hl => by
    intro a ha
    rw [hseq, if_pos (hprev 0 (by omega) g rfl)]
    exact List.mem_append_right _ (G.seq_left hseq gs d (fun i hi => hprev (i + 1) (by omega)) hl a ha)

/-- element `d` of a Sequence-family parser is a left position when every earlier element may be empty (`F`, `e` as in
    `G.seq_left`) -/
theorem G.shape_left {α : Type} {F : G → List α} {e : G → Bool}
    (hseq : ∀ k g gs o, F (.seq k (g :: gs) o) = F g ++ if e g then F (.seq k gs o) else [])
    (hmany : ∀ g ae o, F (.many g ae o) = F g)
    (hsep : ∀ v s ae o, F (.sepBy v s ae o) = F v ++ if e v then F s else [])
    {g : G} {sh : SeqShape} (hs : g.shape = some sh) {d : Nat} {gd : G}
    (hprev : ∀ i, i < d → ∀ gi, sh.lookup i = some gi → e gi = true)
    (hl : sh.lookup d = some gd) : ∀ a ∈ F gd, a ∈ F g := by
  cases g with
  | seq k gs o =>
    cases hs
    exact G.seq_left (hseq k · · o) gs d hprev hl
  | many g1 ae o =>
    cases hs
    cases hl
    exact fun a ha => hmany gd ae o ▸ ha
  | sepBy v s ae o =>
    cases hs
    intro a ha
    rw [hsep]
    by_cases he : (d % 2 == 0) = true
    · simp only [he, ↓reduceIte, Option.some.injEq] at hl
      subst hl
      exact List.mem_append_left _ ha
    · simp only [he, Bool.false_eq_true, ↓reduceIte, Option.some.injEq] at hl
      subst hl
      have hd : 0 < d := by
        cases d with
        | zero => simp at he
        | succ d => omega
      rw [if_pos (hprev 0 hd v (by simp))]
      exact List.mem_append_right _ ha
  | _ => cases hs

theorem AllList_iff {P : G → Prop} : ∀ {gs : List G}, AllList P gs ↔ ∀ g ∈ gs, g.All P
  | [] => by simp [AllList]
  | g :: gs => by simp only [AllList, List.forall_mem_cons, AllList_iff]

theorem G.All_kids {P : G → Prop} {g : G} : g.All P ↔ P g ∧ ∀ k ∈ g.kids, k.All P := by
  cases g <;> simp [G.All, G.kids, AllList_iff]

theorem G.All.kid {P : G → Prop} {g k : G} (h : g.All P) (hk : k ∈ g.kids) : k.All P :=
  (G.All_kids.mp h).2 k hk

theorem CoreList_iff {T : Terminal → Prop} : ∀ {gs : List G}, CoreList T gs ↔ ∀ g ∈ gs, g.Core T
  | [] => by simp [CoreList]
  | g :: gs => by simp only [CoreList, List.forall_mem_cons, CoreList_iff]

/-- `T` of the terminal when the parser is one, nothing otherwise -/
def AtTerm (T : Terminal → Prop) : G → Prop
  | .term t => T t
  | _ => True

/-- what `G.Core T` asks of the parser itself: `T` of a terminal, and not a trim -/
def CoreAt (T : Terminal → Prop) : G → Prop
  | .term t => T t
  | .ltrim _ _ | .rtrim _ _ => False
  | _ => True

theorem G.Core_kids {T : Terminal → Prop} {g : G} : g.Core T ↔ CoreAt T g ∧ ∀ k ∈ g.kids, k.Core T := by
  cases g <;> simp [G.Core, CoreAt, G.kids, CoreList_iff]

theorem G.Core.kid {T : Terminal → Prop} {g k : G} (h : g.Core T) (hk : k ∈ g.kids) : k.Core T :=
  (G.Core_kids.mp h).2 k hk

theorem AtTerm.of_all {T : Terminal → Prop} (h : ∀ t, T t) (g : G) : AtTerm T g := by
  cases g with
  | term t => exact h t
  | _ => trivial

theorem CoreAt.imp {T T' : Terminal → Prop} (h : ∀ t, T t → T' t) {g : G} (hg : CoreAt T g) : CoreAt T' g := by
  cases g with
  | term t => exact h t hg
  | _ => exact hg

theorem G.Core_mono {T T' : Terminal → Prop} (h : ∀ t, T t → T' t) : ∀ g : G, g.Core T → g.Core T' :=
  G.induct fun g ih hc => by
    rw [G.Core_kids] at hc ⊢
    exact ⟨hc.1.imp h, fun k hk => ih k hk (hc.2 k hk)⟩

theorem G.All_imp {P Q : G → Prop} (h : ∀ g, P g → Q g) : ∀ g : G, g.All P → g.All Q :=
  G.induct fun g ih hp => by
    rw [G.All_kids] at hp ⊢
    exact ⟨h g hp.1, fun k hk => ih k hk (hp.2 k hk)⟩

/-- several conditions asked at every sub-parser are one condition: a closed grammar is walked once for all of them -/
theorem G.All_and {P Q : G → Prop} {g : G} : g.All (fun g => P g ∧ Q g) ↔ g.All P ∧ g.All Q :=
  ⟨fun h => ⟨G.All_imp (fun _ h => h.1) g h, G.All_imp (fun _ h => h.2) g h⟩, fun h => h.1.map₂ (fun _ => And.intro) h.2⟩

theorem G.All_of_Core {T : Terminal → Prop} {P Q : G → Prop} (h : ∀ g, CoreAt T g → P g → Q g) :
    ∀ g : G, g.Core T → g.All P → g.All Q :=
  G.induct fun g ih hc hp => by
    rw [G.All_kids] at hp ⊢
    rw [G.Core_kids] at hc
    exact ⟨h g hc.1 hp.1, fun k hk => ih k hk (hc.2 k hk) (hp.2 k hk)⟩

@[elab_as_elim] theorem G.wrap_cases {f : Text.File} {pos : Nat} {motive : G → Wrap → Prop}
    (optional : ∀ g', motive (.optional g') ⟨g', pos, fun o => ⟨appendNode o.res (.one (.empty pos)), o.cp, o.err⟩⟩)
    (name : ∀ g' nm, motive (.name g' nm) ⟨g', pos, nameOut pos nm⟩)
    (single : ∀ g', motive (.single g') ⟨g', pos, singleOut⟩)
    (suppress : ∀ g', motive (.suppress g') ⟨g', pos, fun o => ⟨o.res, o.cp, none⟩⟩)
    (ltrim : ∀ g' m, motive (.ltrim g' m) ⟨g', (Text.skipWhitespaces f pos m).1,
      ltrimOut pos (Text.skipWhitespaces f pos m).1 (wsToErr (Text.skipWhitespaces f pos m).2)⟩)
    (rtrim : ∀ g' m, motive (.rtrim g' m) ⟨g', pos, rtrimOut f m⟩)
    {g : G} {w : Wrap} (hw : g.wrap f pos = some w) : motive g w := by
  cases g with
  | optional g' => cases hw; exact optional g'
  | name g' nm => cases hw; exact name g' nm
  | single g' => cases hw; exact single g'
  | suppress g' => cases hw; exact suppress g'
  | ltrim g' m => cases hw; exact ltrim g' m
  | rtrim g' m => cases hw; exact rtrim g' m
  | _ => cases hw

theorem G.wrap_kid {f : Text.File} {pos : Nat} {g : G} {w : Wrap} (hw : g.wrap f pos = some w) : w.child ∈ g.kids := by
  refine G.wrap_cases ?_ ?_ ?_ ?_ ?_ ?_ hw <;> intros <;> exact .head _

theorem G.Core.wrap {T : Terminal → Prop} {f : Text.File} {pos : Nat} {g : G} {w : Wrap} (hg : g.Core T)
    (hw : g.wrap f pos = some w) : w.child.Core T ∧ w.cpos = pos := by
  cases g <;> simp only [G.wrap, Option.some.injEq, reduceCtorEq] at hw <;> subst hw <;>
    first | exact ⟨hg, rfl⟩ | exact hg.elim

theorem G.All.wrap {P : G → Prop} {f : Text.File} {pos : Nat} {g : G} {w : Wrap} (hg : g.All P)
    (hw : g.wrap f pos = some w) : w.child.All P :=
  hg.kid (G.wrap_kid hw)

end PV
