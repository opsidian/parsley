/-
  C17: the ghost flag (`cfg.ghost`: whether the model keeps its event log) does not influence the run.
  `run` with the flag off, from the state with the log erased, returns the same outcome and the same state
  up to the log — in particular the same call count.  For EVERY grammar.
  Erasing the log is a transport (Proofs/RunComm) that moves neither positions nor indexes.
-/
import ParsleyVerif.Proofs.RunComm
namespace PV.C17
open PV.Text

def noLog (st : St) : St := { st with log := [] }

def noLogOS (x : Out × St) : Out × St := (x.1, noLog x.2)

theorem noLog_setError (st : St) (e : Option Err) : noLog (st.setError e) = (noLog st).setError e := by
  unfold St.setError
  cases e with
  | none => rfl
  | some e =>
    simp only [noLog]
    split
    · rfl
    · split <;> rfl

theorem noLog_logEv (cfg : Cfg) (st : St) (e : Ev) : noLog (st.logEv cfg e) = noLog st := by
  unfold St.logEv
  split <;> rfl

theorem logEv_off (cfg : Cfg) (st : St) (e : Ev) : st.logEv { cfg with ghost := false } e = st := by
  simp [St.logEv]

def ghostTr : Tr := { PosTr.keep, IdxTr.keep with st := noLog }

theorem ghostTr_ok (cfg : Cfg) : ghostTr.OK cfg { cfg with ghost := false } where
  pos := PosTr.keep_ok
  idx := IdxTr.keep_ok
  file := PosTr.keep_file _ _
  env k := by show cfg.env[k]? = _; cases cfg.env[k]? <;> rfl
  maxCalls := rfl
  st_calls _ := rfl
  st_regCall _ := rfl
  st_setError st e := (noLog_setError st e).symm
  st_logEv st e := (logEv_off cfg _ _).trans (noLog_logEv cfg st e).symm
  st_cacheGet st i p c := by show cacheGet st.cache i p c = _; cases cacheGet st.cache i p c <;> rfl
  st_memoEnter i p st := by
    show memoEnter { cfg with ghost := false } i p (noLog st) = noLog (memoEnter cfg i p st)
    simp only [memoEnter, logEv_off, noLog_logEv]; rfl
  st_memoLeave _ _ _ _ _ _ := rfl

/-- **the ghost flag is not observable**: outcome, cache, furthest error, call count and activation stack
    are the same with the event log switched off -/
theorem run_ghost (cfg : Cfg) : ∀ fuel g ctx pos st,
    run { cfg with ghost := false } fuel g ctx pos (noLog st) = (run cfg fuel g ctx pos st).map noLogOS :=
  (ghostTr_ok cfg).run_comm

theorem parse_ghost (cfg : Cfg) (fuel : Nat) (g : G) (st : St) :
    parse { cfg with ghost := false } fuel g (noLog st) =
      (parse cfg fuel g st).map (fun p => { p with st := noLog p.st }) := by
  simp only [parse]
  rw [show File.pos ({ cfg with ghost := false } : Cfg).file 0 = cfg.file.pos 0 from rfl, run_ghost]
  cases run cfg fuel g [] (cfg.file.pos 0) st with
  | none => rfl
  | some x =>
    obtain ⟨o, s⟩ := x
    simp only [Option.map_some, noLogOS]
    rw [show (noLog s).ctxErr = s.ctxErr from rfl]
    split <;> rfl

end PV.C17
