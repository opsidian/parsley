/-
  C17: the end positions of the prefixes that the rules of families 3 and 7 return at position 1 — every second position,
  longest first: `ev j` = 2j, …, 4, 2 and `od j` = 2j+1, …, 5, 3.  Behind each element of one list stands one of the other.
-/
namespace PV.C17b

def ev : Nat → List Nat
  | 0 => []
  | j + 1 => (2 * j + 2) :: ev j
def od : Nat → List Nat
  | 0 => []
  | j + 1 => (2 * j + 3) :: od j

section
variable {α : Type} {L : Nat → List α} {g : Nat → α} (h0 : L 0 = []) (hs : ∀ m, L (m + 1) = g m :: L m)
include h0 hs

/-- for the position lists `ev`, `od` here, `tl`, `starts` (Proofs/CallsArithCount.lean) and `dn` (Proofs/CallsPbA.lean) -/
theorem mem_iff_of_succ_cons : ∀ m x, x ∈ L m ↔ ∃ i, i < m ∧ x = g i
  | 0, x => by rw [h0]; exact ⟨nofun, fun ⟨_, h, _⟩ => absurd h (Nat.not_lt_zero _)⟩
  | m + 1, x => by
    rw [hs, List.mem_cons, mem_iff_of_succ_cons m x]
    constructor
    · rintro (rfl | ⟨i, hi, rfl⟩)
      · exact ⟨m, Nat.lt_succ_self m, rfl⟩
      · exact ⟨i, Nat.lt_succ_of_lt hi, rfl⟩
    · rintro ⟨i, hi, rfl⟩
      rcases Nat.lt_succ_iff_lt_or_eq.mp hi with h | rfl
      · exact .inr ⟨i, h, rfl⟩
      · exact .inl rfl

theorem length_of_succ_cons : ∀ m, (L m).length = m
  | 0 => by rw [h0]; rfl
  | m + 1 => by rw [hs, List.length_cons, length_of_succ_cons m]

end

theorem ev_mem (j p : Nat) (hp : p ∈ ev j) : 2 ≤ p ∧ p ≤ 2 * j := by
  obtain ⟨i, hi, rfl⟩ := (mem_iff_of_succ_cons (L := ev) rfl (fun _ => rfl) j p).mp hp
  omega

theorem od_mem (j p : Nat) (hp : p ∈ od j) : 3 ≤ p ∧ p ≤ 2 * j + 1 := by
  obtain ⟨i, hi, rfl⟩ := (mem_iff_of_succ_cons (L := od) rfl (fun _ => rfl) j p).mp hp
  omega

theorem ev_length : ∀ j, (ev j).length = j := length_of_succ_cons rfl fun _ => rfl
theorem od_length : ∀ j, (od j).length = j := length_of_succ_cons rfl fun _ => rfl

theorem ev_map_succ : ∀ j, (ev j).map (· + 1) = od j := by
  intro j; induction j with
  | zero => rfl
  | succ j ih => simp only [ev, od, List.map_cons, ih]

theorem od_map_succ : ∀ j, (od j).map (· + 1) ++ [2] = ev (j + 1) := by
  intro j; induction j with
  | zero => rfl
  | succ j ih =>
    show (2 * j + 3 + 1) :: ((od j).map (· + 1) ++ [2]) = _
    rw [ih]; rfl

end PV.C17b
