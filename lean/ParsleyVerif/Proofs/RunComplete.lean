/-
  The reuse invariant for the curtailed derivations of the trim-free fragment (`DerivesC`, Spec/DerivesC.lean):
  the instance `coverC` of Proofs/Cover.lean.  `CacheC` is the cache invariant (`EntryC.complete`: the promise of an
  entry against its stored context), `run_complete` the theorem: the answer covers the curtailed derivations of the
  parser, no returned tree carries the token EOF, and `CacheC` holds afterwards.  The fragment has no operator of
  its own.
-/
import ParsleyVerif.Proofs.Cover
import ParsleyVerif.Proofs.Sentence
namespace PV
open PV.Text

def OutC (cfg : Cfg) (g : G) (ctx : Ctx) (pos : Nat) (o : Out) : Prop :=
  ∀ (c' : Nat → Nat) (x : Node), (∀ k ∈ o.cp, ctx.get k ≤ c' k) → DerivesC cfg c' g pos x → x ∈ o.res.alts

structure EntryC (cfg : Cfg) (bodyOf : Nat → G) (e : CacheEntry) : Prop where
  /-- `Filter(cp)`: only counters of curtailed parsers are stored -/
  keys : ∀ kv ∈ e.ctx, kv.1 ∈ e.cp
  /-- the premise is the test of `ResultCache.Get` -/
  complete : ∀ (c' : Nat → Nat) (x : Node), (∀ kv ∈ e.ctx, kv.2 ≤ c' kv.1) →
      DerivesC cfg c' (.memo e.idx (bodyOf e.idx)) e.pos x → x ∈ e.res.alts
  noEOF : NoEOF e.res

def CacheC (cfg : Cfg) (bodyOf : Nat → G) (st : St) : Prop := ∀ e ∈ st.cache, EntryC cfg bodyOf e

theorem FragLocal.isMono {cfg : Cfg} {g : G} (h : FragLocal cfg g) : g.isMono = true := by
  cases g with
  | seq k gs o => cases k <;> first | rfl | exact False.elim h
  | term | empty | ref | memo | any | optional => rfl
  | _ => exact False.elim h

/-- curtailed derivations of the trim-free fragment: nothing but the monotone operators, the promise is `NoEOF` -/
def coverC (cfg : Cfg) (bodyOf : Nat → G) (henv : ∀ g' ∈ cfg.env, Frag cfg g' ∧ GOK bodyOf g') : Cover cfg where
  D := DerivesC cfg
  DS := DerivesSeqC cfg
  leaf := fun _ => False
  Sg := fun g => Frag cfg g ∧ GOK bodyOf g
  Sc := fun _ _ => True
  Q := fun _ _ x => x.token ≠ eofTok
  QS := fun _ _ _ => True
  X := fun _ _ => True
  Inv := CacheC cfg bodyOf
  x_term := trivial
  x_one := trivial
  x_nil := trivial
  x_ref := fun _ _ => trivial
  x_memo := fun _ => trivial
  x_any := trivial
  x_opt := trivial
  x_seq := trivial
  d_inv := fun _ _ h => by
    cases h with
    | term a => exact .term a
    | empty => exact .empty
    | ref a b => exact .ref a b
    | memo a b => exact .memo a b
    | any a b => exact .any a b
    | optSome a => exact .optSome a
    | optNone => exact .optNone
    | seqOf a b c => exact .seqOf a b c
  ds_inv := fun h => by cases h with | cons hl hn hrest => exact ⟨_, hl, hn, hrest⟩
  sg_kids := fun hg _ _ k hk => ⟨hg.1.kid hk, hg.2.kid hk⟩
  sg_ref := fun _ _ hk => henv _ (List.mem_of_getElem? hk)
  sg_tok := fun hg _ => G.All_self (P := FragLocal cfg) hg.1
  sc_inc := fun _ _ _ => trivial
  sc_next := fun _ _ => ⟨trivial, trivial⟩
  q_tok := id
  q_step := fun hg _ _ hx => by
    cases hx with
    | term hp => exact G.All_self (P := FragLocal cfg) hg.1 _ _ hp
    | empty => exact emptyNode_token _
    | ref _ h => exact h
    | memo h => exact h
    | any _ h => exact h
    | optSome h => exact h
    | optNone => exact emptyNode_token _
    | seqOf hs _ hn _ =>
      exact handleResult_token _ _ _ ((seqOf_shape hs).2 ▸ G.All_self (P := FragLocal cfg) hg.1) hn
  qs_nil := fun _ => trivial
  qs_snoc := fun _ _ _ => trivial
  inv_frame := cacheAll_of_eq
  inv_hit := fun hI hg _ hc => by
    obtain ⟨hm, rfl, rfl⟩ := cacheGet_some hc
    have hE := hI _ hm
    have hb := G.All_self (P := LocalOK bodyOf) hg.2
    exact ⟨hE.keys, hb ▸ hE.complete, hE.noEOF, trivial⟩
  inv_save := fun hI hg _ _ hcov hq _ e he => by
    cases mem_cacheSave he with
    | inl h => subst h; exact ⟨fun kv hkv => (mem_ctx_filter.mp hkv).2, G.All_self (P := LocalOK bodyOf) hg.2 ▸ hcov, hq⟩
    | inr h => exact hI e h

theorem run_complete (cfg : Cfg) (bodyOf : Nat → G) (henv : ∀ g' ∈ cfg.env, Frag cfg g' ∧ GOK bodyOf g') :
    ∀ fuel g ctx pos st o st', Frag cfg g → GOK bodyOf g → CacheC cfg bodyOf st → run cfg fuel g ctx pos st = some (o, st') →
      OutC cfg g ctx pos o ∧ NoEOF o.res ∧ CacheC cfg bodyOf st' := fun fuel g ctx pos st o st' hf hg hcs h =>
  (coverC cfg bodyOf henv).run_cover
    (fun _ _ g _ _ _ _ _ hg _ _ hl _ =>
      absurd (G.All_self (P := FragLocal cfg) hg.1).isMono (hl.elim False.elim fun e => by rw [e]; exact Bool.noConfusion))
    fuel g ctx pos st o st' ⟨hf, hg⟩ trivial hcs h |> fun a => ⟨a.1, a.2.1, a.2.2.2⟩

/-- **Sentence completeness** (partial correctness): if the operand has a curtailed derivation from the
    empty context that ends at the end of the input, `Sentence(operand)` returns a result. -/
theorem sentence_complete (cfg : Cfg) (bodyOf : Nat → G) (henv : ∀ g' ∈ cfg.env, Frag cfg g' ∧ GOK bodyOf g')
    (g : G) (hf : Frag cfg g) (hg : GOK bodyOf g) (fuel : Nat) (pos : Nat) (st : St) (hst : CacheC cfg bodyOf st)
    (o : Out) (st' : St) (h : run cfg fuel (G.sentence g) [] pos st = some (o, st'))
    (y : Node) (hy : DerivesC cfg zeroC g pos y) (hend : isEOF cfg.file y.rpos = true) :
    o.res.alts ≠ [] ∧ o.err = none :=
  sentence_complete_of_operand cfg g fuel pos st o st' h y
    (fun fuel' o1 st2 hr =>
      (run_complete cfg bodyOf henv fuel' g [] pos st.regCall o1 st2 hf hg (cacheAll_of_eq hst rfl) hr).1 zeroC y
        (fun _ _ => Nat.zero_le _) hy)
    hend

end PV
