/-
  Lemmas for property C13: `walk`, `check`, `transform` (Model/Walk.lean) against Spec/Postorder.lean
  (`postorder`, `checkSpec`, `verdicts` / `checkedPrefix`, `transformSpec`), and array / object / fuel lemmas for
  `evalNode` (Model/Eval.lean).  `T` is a nested inductive (children are a `List T`), so every induction is a
  mutual structural recursion over trees and lists of trees (`T.rec₂`).
-/
import ParsleyVerif.Spec.Postorder

namespace PV.Walk

/-- The shape of every step of `walk`. -/
theorem takeThrough_any_append {α} (p : α → Bool) (l₁ l₂ : List α) :
    (takeThrough p (l₁ ++ l₂), (l₁ ++ l₂).any p) =
      match (takeThrough p l₁, l₁.any p) with
      | (tr, true) => (tr, true)
      | (tr, false) => (tr ++ takeThrough p l₂, l₂.any p) := by
  induction l₁ with
  | nil => rfl
  | cons a l ih =>
    have ih' := Prod.mk.inj ih
    rw [List.cons_append, takeThrough, takeThrough, List.any_cons, List.any_cons, ih'.1, ih'.2]
    cases p a
    · cases l.any p <;> rfl
    · rfl

theorem takeThrough_any_concat {α} (p : α → Bool) (l : List α) (a : α) :
    (takeThrough p (l ++ [a]), (l ++ [a]).any p) =
      match (takeThrough p l, l.any p) with
      | (tr, true) => (tr, true)
      | (tr, false) => (tr ++ [a], p a) := by
  rw [takeThrough_any_append]
  cases l.any p
  · simp only [takeThrough, ite_self, List.any_cons, List.any_nil, Bool.or_false]
  · rfl

/-- `takeThrough` by core's functions: the prefix up to and including the first hit -/
theorem takeThrough_eq_take {α} (p : α → Bool) (l : List α) : takeThrough p l = l.take (l.findIdx p + 1) := by
  induction l with
  | nil => rfl
  | cons a l ih => rw [takeThrough, List.findIdx_cons, ih]; cases p a <;> rfl

theorem takeThrough_of_none {α} (p : α → Bool) (l : List α) (h : l.any p = false) : takeThrough p l = l := by
  rw [takeThrough_eq_take, List.take_of_length_le]
  rw [List.findIdx_eq_length_of_false fun x hx => Bool.eq_false_iff.2 (List.any_eq_false.1 h x hx)]
  exact Nat.le_succ _

theorem takeThrough_of_some {α} (p : α → Bool) (l : List α) (h : l.any p = true) :
    ∃ pre x post, l = pre ++ x :: post ∧ (∀ y ∈ pre, p y = false) ∧ p x = true ∧ takeThrough p l = pre ++ [x] := by
  have hlt : l.findIdx p < l.length := List.findIdx_lt_length.2 (List.any_eq_true.1 h)
  refine ⟨l.take (l.findIdx p), l[l.findIdx p], l.drop (l.findIdx p + 1), ?_, fun y hy => ?_, List.findIdx_getElem,
    by rw [takeThrough_eq_take, List.take_succ_eq_append_getElem hlt]⟩
  · rw [← List.drop_eq_getElem_cons hlt, List.take_append_drop]
  · obtain ⟨i, hi, rfl⟩ := List.mem_take_iff_getElem.1 hy
    exact List.not_of_lt_findIdx (Nat.lt_of_lt_of_le hi (Nat.min_le_left ..))

theorem takeThrough_prefix {α} (p : α → Bool) (l : List α) : takeThrough p l <+: l :=
  takeThrough_eq_take p l ▸ List.take_prefix _ l

theorem takeThrough_eq {α} (p : α → Bool) (l : List α) :
    takeThrough p l = l.takeWhile (fun a => !p a) ++ (l.dropWhile (fun a => !p a)).head?.toList := by
  rw [takeThrough_eq_take, List.take_add_one, List.takeWhile_eq_take_findIdx_not, List.dropWhile_eq_drop_findIdx_not,
    List.head?_drop]
  simp only [Bool.not_not]

/-- Trees and child sequences together, in the cases the passes distinguish: a list stands for its first item. -/
theorem T.rec₂ {P : T → Prop} {Q : List T → Prop}
    (leaf : ∀ i, P (.leaf i)) (nt : ∀ i interp s cs, Q cs → P (.nt i interp s cs))
    (list₀ : ∀ i, P (.list i [])) (list : ∀ i f r, P f → P (.list i (f :: r)))
    (nil : Q []) (cons : ∀ c cs, P c → Q cs → Q (c :: cs)) : (∀ t, P t) ∧ (∀ cs, Q cs) :=
  have R := @T.rec P (fun cs => Q cs ∧ ∀ i, P (.list i cs)) leaf (fun i a b cs h => nt i a b cs h.1)
    (fun i _ h => h.2 i) ⟨nil, list₀⟩ (fun c cs h1 h2 => ⟨cons c cs h1 h2.1, fun i => list i c cs h1⟩)
  ⟨R, fun cs => (@T.rec_1 P (fun cs => Q cs ∧ ∀ i, P (.list i cs)) leaf (fun i a b cs h => nt i a b cs h.1)
    (fun i _ h => h.2 i) ⟨nil, list₀⟩ (fun c cs h1 h2 => ⟨cons c cs h1 h2.1, fun i => list i c cs h1⟩) cs).1⟩

theorem T.ind {P : T → Prop} (h : ∀ t, (∀ c ∈ t.kids, P c) → P t) (t : T) : P t :=
  (T.rec₂ (Q := fun cs => ∀ c ∈ cs, P c) (fun i => h _ (fun _ hc => nomatch hc)) (fun i a b cs ih => h _ ih)
    (fun i => h _ (fun _ hc => nomatch hc)) (fun i f r ih => h _ (fun c hc => List.mem_singleton.mp hc ▸ ih))
    (fun _ hc => nomatch hc) (fun c cs h1 h2 x hx => (List.mem_cons.mp hx).elim (· ▸ h1) (h2 x))).1 t

private theorem T.ind_all {P : T → Prop} (leaf : ∀ i, P (.leaf i))
    (nt : ∀ i interp s cs, (∀ c ∈ cs, P c) → P (.nt i interp s cs))
    (list : ∀ i items, (∀ c ∈ items, P c) → P (.list i items)) : ∀ l : List T, ∀ c ∈ l, P c :=
  @T.rec_1 P (fun cs => ∀ c ∈ cs, P c) leaf nt list (fun _ h => nomatch h)
    (fun _ _ h1 h2 x hx => (List.mem_cons.mp hx).elim (· ▸ h1) (h2 x))

theorem walk_walkList_spec (stop : Nat → Bool) :
    (∀ t, walk stop t = (takeThrough stop (postorder t), (postorder t).any stop)) ∧
    ∀ cs, walkList stop cs = (takeThrough stop (postorderAll cs), (postorderAll cs).any stop) := by
  refine T.rec₂ (fun i => (takeThrough_any_concat stop [] i).symm) (fun i _ _ cs ih => ?_)
    (fun i => (takeThrough_any_concat stop [] i).symm) (fun i first _ ih => ?_) rfl (fun c cs h1 h2 => ?_)
  · rw [walk, ih, postorder, takeThrough_any_concat]; cases (postorderAll cs).any stop <;> rfl
  · rw [walk, ih, postorder, takeThrough_any_concat]; cases (postorder first).any stop <;> rfl
  · rw [walkList, h1, h2, postorderAll, takeThrough_any_append]; cases (postorder c).any stop <;> rfl

theorem walk_spec (stop : Nat → Bool) (t : T) : walk stop t = (takeThrough stop (postorder t), (postorder t).any stop) :=
  (walk_walkList_spec stop).1 t

theorem walkList_spec (stop : Nat → Bool) :
    ∀ cs, walkList stop cs = (takeThrough stop (postorderAll cs), (postorderAll cs).any stop) :=
  (walk_walkList_spec stop).2

theorem postorderAll_eq_flatMap (cs : List T) : postorderAll cs = cs.flatMap postorder := by
  induction cs with
  | nil => rfl
  | cons c cs ih => simp [postorderAll, ih]

theorem idsAll_eq_flatMap (cs : List T) : idsAll cs = cs.flatMap T.ids := by
  induction cs with
  | nil => rfl
  | cons c cs ih => simp [idsAll, ih]

theorem postorder_eq (t : T) : postorder t = t.kids.flatMap postorder ++ [t.id] := by
  cases t with
  | leaf i => simp [postorder, T.kids, T.id]
  | nt i a b cs => simp [postorder, T.kids, T.id, postorderAll_eq_flatMap]
  | list i items => cases items <;> simp [postorder, T.kids, T.id]

theorem postorder_postorderAll_perm : (∀ t : T, (postorder t).Perm t.ids) ∧ ∀ cs : List T, (postorderAll cs).Perm (idsAll cs) :=
  T.rec₂ (fun _ => .refl _)
    (fun i _ _ _ ih => (List.perm_append_singleton _ _).trans (ih.cons i))
    (fun _ => .refl _)
    (fun i _ _ ih => (List.perm_append_singleton _ _).trans (ih.cons i))
    (.refl _) (fun _ _ h1 h2 => h1.append h2)

theorem postorder_perm (t : T) : (postorder t).Perm t.ids := postorder_postorderAll_perm.1 t

theorem postorderAll_perm : ∀ cs : List T, (postorderAll cs).Perm (idsAll cs) :=
  postorder_postorderAll_perm.2

theorem id_mem_postorder (t : T) : t.id ∈ postorder t := by
  rw [postorder_eq]; simp

theorem mem_postorder_of_sub {n t : T} (h : Sub n t) : n.id ∈ postorder t := by
  induction h with
  | self => exact id_mem_postorder n
  | @under c t hc _ ih =>
    rw [postorder_eq]
    exact List.mem_append_left _ (List.mem_flatMap.mpr ⟨c, hc, ih⟩)

theorem sub_of_mem_postorder (i : Nat) (t : T) : i ∈ postorder t → ∃ n, Sub n t ∧ n.id = i := by
  induction t using T.ind with
  | _ t ih =>
    intro h
    rw [postorder_eq] at h
    rcases List.mem_append.mp h with h | h
    · obtain ⟨c, hc, hi⟩ := List.mem_flatMap.mp h
      obtain ⟨n, hn, hid⟩ := ih c hc hi
      exact ⟨n, .under hc hn, hid⟩
    · exact ⟨t, .self _, (List.mem_singleton.mp h).symm⟩

def outcome {α} : α × Option Nat → Except Nat α
  | (a, none) => .ok a
  | (_, some e) => .error e

@[simp] theorem outcome_none {α} (a : α) : outcome (a, none) = .ok a := rfl
@[simp] theorem outcome_some {α} (a : α) (e : Nat) : outcome (a, some e) = .error e := rfl

@[simp] theorem except_bind_ok {ε α β} (a : α) (f : α → Except ε β) : ((Except.ok a : Except ε α) >>= f) = f a := rfl
@[simp] theorem except_bind_error {ε α β} (e : ε) (f : α → Except ε β) : ((Except.error e : Except ε α) >>= f) = .error e := rfl
@[simp] theorem except_pure {ε α} (a : α) : (pure a : Except ε α) = .ok a := rfl
@[simp] theorem except_map_ok {ε α β} (a : α) (f : α → β) : (f <$> (Except.ok a : Except ε α)) = .ok (f a) := rfl
@[simp] theorem except_map_error {ε α β} (e : ε) (f : α → β) : (f <$> (Except.error e : Except ε α)) = .error e := rfl

theorem capable_some (has : ICap → Bool) (caps : Nat → ICap) (k : Nat) :
    capable has caps (some k) = if has (caps k) then some k else none := Option.filter_some

@[simp] theorem capable_none (has : ICap → Bool) (caps : Nat → ICap) : capable has caps none = none := rfl

theorem checkSpec_eq (caps : Nat → ICap) (chk : Checker) :
    (∀ t, checkSpec caps chk t = outcome (check caps chk t)) ∧
    ∀ cs, checkSpecAll caps chk cs = outcome (checkList caps chk cs) := by
  refine T.rec₂ (fun _ => rfl) (fun i interp schema cs ih => ?_) (fun _ => rfl) (fun i first rest ih => ?_) rfl
    (fun c cs h1 h2 => ?_)
  · rw [checkSpec, check, ih]
    rcases checkList caps chk cs with ⟨cs', _ | e⟩
    · cases interp with
      | none => rfl
      | some k =>
        simp only [outcome_none, except_bind_ok, capable_some]
        cases (caps k).checker
        · rfl
        · simp only [if_true]
          cases chk k (.nt i (some k) schema cs') <;> rfl
    · rfl
  · rw [checkSpec, check, ih]
    rcases check caps chk first with ⟨f', _ | e⟩ <;> rfl
  · rw [checkSpecAll, checkList, h1, h2]
    rcases check caps chk c with ⟨c', _ | e⟩
    · rcases checkList caps chk cs with ⟨cs', _ | e⟩ <;> rfl
    · rfl

theorem checkSpecAll_eq (caps : Nat → ICap) (chk : Checker) :
    ∀ cs, checkSpecAll caps chk cs = outcome (checkList caps chk cs) :=
  (checkSpec_eq caps chk).2

theorem recorded_of_checkSpec (caps : Nat → ICap) (chk : Checker) :
    (∀ t t', checkSpec caps chk t = .ok t' → Recorded caps chk t t') ∧
    ∀ cs cs', checkSpecAll caps chk cs = .ok cs' → RecordedAll caps chk cs cs' := by
  refine T.rec₂ (fun i t' h => (Except.ok.inj h).symm) (fun i interp schema cs ih t' => ?_)
    (fun i t' h => (Except.ok.inj h).symm) (fun i first rest ih t' => ?_) (fun cs' h => (Except.ok.inj h).symm)
    (fun c cs h1 h2 l' => ?_)
  · rw [checkSpec, Recorded]
    cases h : checkSpecAll caps chk cs with
    | error e => exact fun h => nomatch h
    | ok cs' =>
      simp only [except_bind_ok]
      cases hc : capable (·.checker) caps interp with
      | none => exact fun h' => ⟨schema, cs', (Except.ok.inj h').symm, ih cs' h, rfl⟩
      | some k =>
        simp only []
        cases hk : chk k (.nt i interp schema cs') with
        | error e => exact fun h => nomatch h
        | ok s => exact fun h' => ⟨s, cs', (Except.ok.inj h').symm, ih cs' h, hk⟩
  · rw [checkSpec, Recorded]
    cases h : checkSpec caps chk first with
    | error e => exact fun h => nomatch h
    | ok f' => exact fun h' => ⟨f', (Except.ok.inj h').symm, ih f' h⟩
  · rw [checkSpecAll, RecordedAll]
    cases h : checkSpec caps chk c with
    | error e => exact fun h => nomatch h
    | ok c' =>
      cases h' : checkSpecAll caps chk cs with
      | error e => exact fun h => nomatch h
      | ok cs' => exact fun hl => ⟨c', cs', (Except.ok.inj hl).symm, h1 c' h, h2 cs' h'⟩

theorem recordedAll_of_checkSpecAll (caps : Nat → ICap) (chk : Checker) :
    ∀ cs cs', checkSpecAll caps chk cs = .ok cs' → RecordedAll caps chk cs cs' :=
  (recorded_of_checkSpec caps chk).2

def firstBad (l : List (Option Nat)) : Nat := l.findIdx Option.isSome
def firstErr (l : List (Option Nat)) : Option Nat := l.findSome? id

@[simp] theorem firstBad_nil : firstBad [] = 0 := rfl
@[simp] theorem firstErr_nil : firstErr [] = none := rfl
@[simp] theorem firstBad_none (l : List (Option Nat)) : firstBad (none :: l) = firstBad l + 1 := List.findIdx_cons
@[simp] theorem firstBad_some (e : Nat) (l : List (Option Nat)) : firstBad (some e :: l) = 0 := List.findIdx_cons
@[simp] theorem firstErr_none (l : List (Option Nat)) : firstErr (none :: l) = firstErr l := rfl
@[simp] theorem firstErr_some (e : Nat) (l : List (Option Nat)) : firstErr (some e :: l) = some e := rfl

theorem firstErr_none_iff (l : List (Option Nat)) : firstErr l = none ↔ firstBad l = l.length := by
  rw [firstErr, firstBad, List.findSome?_eq_none_iff, List.findIdx_eq_length]
  exact forall₂_congr fun x _ => by cases x <;> simp

theorem firstBad_of_none (l : List (Option Nat)) (h : firstErr l = none) : firstBad l = l.length :=
  (firstErr_none_iff l).1 h

theorem firstBad_of_some (l : List (Option Nat)) (e : Nat) (h : firstErr l = some e) : firstBad l < l.length :=
  Nat.lt_of_le_of_ne List.findIdx_le_length (mt (firstErr_none_iff l).2 (h ▸ Option.some_ne_none e))

theorem first_append_some (l₁ l₂ : List (Option Nat)) (e : Nat) (h : firstErr l₁ = some e) :
    firstBad (l₁ ++ l₂) = firstBad l₁ ∧ firstErr (l₁ ++ l₂) = some e := by
  have lt := firstBad_of_some l₁ e h
  refine ⟨?_, ?_⟩
  · simp only [firstBad] at lt ⊢; rw [List.findIdx_append, if_pos lt]
  · rw [firstErr, List.findSome?_append, ← firstErr, h]; rfl

theorem first_append_none (l₁ l₂ : List (Option Nat)) (h : firstErr l₁ = none) :
    firstBad (l₁ ++ l₂) = l₁.length + firstBad l₂ ∧ firstErr (l₁ ++ l₂) = firstErr l₂ := by
  have eq := firstBad_of_none l₁ h
  refine ⟨?_, ?_⟩
  · simp only [firstBad] at eq ⊢; rw [List.findIdx_append, eq, if_neg (Nat.lt_irrefl _), Nat.add_comm]
  · rw [firstErr, List.findSome?_append, ← firstErr, h]; rfl

theorem first_spec (l : List (Option Nat)) (e : Nat) (h : firstErr l = some e) :
    l[firstBad l]? = some (some e) ∧ ∀ j, j < firstBad l → l[j]? = some none := by
  induction l with
  | nil => simp at h
  | cons a l ih =>
    cases a with
    | none =>
      simp at h
      obtain ⟨h1, h2⟩ := ih h
      refine ⟨by simpa using h1, ?_⟩
      intro j hj
      cases j with
      | zero => simp
      | succ j => simp at hj; simpa using h2 j hj
    | some e' => simp at h; simp [h]

theorem sizeAll_cons (c : T) (cs : List T) : sizeAll (c :: cs) = c.size + sizeAll cs := by
  simp [sizeAll, T.size, postorderAll]

@[simp] theorem sizeAll_nil : sizeAll [] = 0 := rfl

theorem size_nt (i : Nat) (a b : Option Nat) (cs : List T) : (T.nt i a b cs).size = sizeAll cs + 1 := by
  simp [sizeAll, T.size, postorder]

theorem size_list_cons (i : Nat) (f : T) (r : List T) : (T.list i (f :: r)).size = f.size + 1 := by
  simp [T.size, postorder]

theorem verdicts_length (caps : Nat → ICap) (chk : Checker) :
    (∀ t, (verdicts caps chk t).length = t.size) ∧ ∀ cs, (verdictsAll caps chk cs).length = sizeAll cs := by
  refine T.rec₂ (fun _ => rfl) (fun i a b cs ih => ?_) (fun _ => rfl) (fun i f r ih => ?_) rfl (fun c cs h1 h2 => ?_)
  · rw [verdicts, size_nt, List.length_append, ih]; rfl
  · rw [verdicts, size_list_cons, List.length_append, ih]; rfl
  · rw [verdictsAll, sizeAll_cons, List.length_append, h1, h2]

theorem checkedPrefix_zero (caps : Nat → ICap) (chk : Checker) :
    (∀ t, checkedPrefix caps chk 0 t = t) ∧ ∀ cs, checkedPrefixAll caps chk 0 cs = cs := by
  refine T.rec₂ (fun _ => rfl) (fun i a b cs ih => ?_) (fun _ => rfl) (fun i f r ih => ?_) rfl (fun c cs h1 h2 => ?_)
  · rw [checkedPrefix, ih]; rfl
  · rw [checkedPrefix, ih]
  · rw [checkedPrefixAll, h1, Nat.zero_sub, h2]

theorem checkedPrefix_sat (caps : Nat → ICap) (chk : Checker) :
    (∀ t n, t.size ≤ n → checkedPrefix caps chk n t = checkedPrefix caps chk t.size t) ∧
    ∀ cs n, sizeAll cs ≤ n → checkedPrefixAll caps chk n cs = checkedPrefixAll caps chk (sizeAll cs) cs := by
  refine T.rec₂ (fun _ _ _ => rfl) (fun i a b cs ih n h => ?_) (fun _ _ _ => rfl) (fun i f r ih n h => ?_)
    (fun _ _ => rfl) (fun c cs h1 h2 n h => ?_)
  · rw [size_nt] at h
    rw [checkedPrefix, checkedPrefix, size_nt, ih n (Nat.le_of_succ_le h), ih (sizeAll cs + 1) (Nat.le_succ _),
      if_pos (show sizeAll cs < n from h), if_pos (Nat.lt_succ_self _)]
  · rw [size_list_cons] at h
    rw [checkedPrefix, checkedPrefix, size_list_cons, ih n (Nat.le_of_succ_le h), ih (f.size + 1) (Nat.le_succ _)]
  · rw [sizeAll_cons] at h
    rw [checkedPrefixAll, checkedPrefixAll, sizeAll_cons, h1 n (Nat.le_trans (Nat.le_add_right _ _) h),
      h1 (c.size + sizeAll cs) (Nat.le_add_right _ _), h2 (n - c.size) (Nat.le_sub_of_add_le' h),
      Nat.add_sub_cancel_left]

theorem check_pos (caps : Nat → ICap) (chk : Checker) :
    (∀ t, check caps chk t =
      (checkedPrefix caps chk (firstBad (verdicts caps chk t)) t, firstErr (verdicts caps chk t))) ∧
    ∀ cs, checkList caps chk cs =
      (checkedPrefixAll caps chk (firstBad (verdictsAll caps chk cs)) cs, firstErr (verdictsAll caps chk cs)) := by
  have satAll := (checkedPrefix_sat caps chk).2
  refine T.rec₂ (fun _ => rfl) (fun i interp schema cs ih => ?_) (fun _ => rfl) (fun i f r ih => ?_) rfl
    (fun c cs h1 h2 => ?_)
  · have hlen := (verdicts_length caps chk).2 cs
    rw [check, ih, verdicts]
    cases hE : firstErr (verdictsAll caps chk cs) with
    | some e =>
      obtain ⟨h1, h2⟩ := first_append_some _ [verdictAt caps chk (.nt i interp schema cs)] e hE
      have h3 := firstBad_of_some _ e hE
      rw [h1, h2, checkedPrefix, if_neg (Nat.not_lt.2 (Nat.le_of_lt (hlen ▸ h3)))]
    | none =>
      obtain ⟨h1, h2⟩ := first_append_none _ [verdictAt caps chk (.nt i interp schema cs)] hE
      rw [h1, h2, firstBad_of_none _ hE, hlen, checkedPrefix]
      -- the node's own check, on the children as they stand after all of them have been checked
      cases interp with
      | none =>
        simp only [verdictAt, capable_none, firstBad_none, firstBad_nil, Nat.zero_add, Nat.lt_add_one, ↓reduceIte,
          firstErr_none, firstErr_nil, satAll cs _ (Nat.le_succ _)]
      | some k =>
        simp only [verdictAt, capable_some, checkedAll]
        cases (caps k).checker with
        | false =>
          simp only [Bool.false_eq_true, ↓reduceIte, firstBad_none, firstBad_nil, Nat.zero_add, Nat.lt_add_one,
            firstErr_none, firstErr_nil, satAll cs _ (Nat.le_succ _)]
        | true =>
          simp only [if_true]
          cases hk : chk k (.nt i (some k) schema (checkedPrefixAll caps chk (sizeAll cs) cs)) with
          | ok s =>
            simp only [firstBad_none, firstBad_nil, Nat.zero_add, Nat.lt_add_one, ↓reduceIte, firstErr_none, firstErr_nil,
              satAll cs _ (Nat.le_succ _), hk]
          | error e => simp only [firstBad_some, Nat.add_zero, Nat.lt_irrefl, ↓reduceIte, firstErr_some]
  · rw [check, ih, verdicts, checkedPrefix]
    cases hE : firstErr (verdicts caps chk f) with
    | some e =>
      obtain ⟨h1, h2⟩ := first_append_some _ [none] e hE
      rw [h1, h2]
    | none =>
      obtain ⟨h1, h2⟩ := first_append_none _ [none] hE
      rw [h1, h2, firstBad_of_none _ hE, (verdicts_length caps chk).1, (checkedPrefix_sat caps chk).1 f _ (Nat.le_add_right _ _)]
      rfl
  · have hlen := (verdicts_length caps chk).1 c
    rw [checkList, h1, h2, verdictsAll, checkedPrefixAll]
    cases hE : firstErr (verdicts caps chk c) with
    | some e =>
      obtain ⟨h1, h2⟩ := first_append_some _ (verdictsAll caps chk cs) e hE
      have h3 := firstBad_of_some _ e hE
      rw [h1, h2, Nat.sub_eq_zero_of_le (Nat.le_of_lt (hlen ▸ h3)), (checkedPrefix_zero caps chk).2]
    | none =>
      obtain ⟨h1, h2⟩ := first_append_none _ (verdictsAll caps chk cs) hE
      rw [h1, h2, firstBad_of_none _ hE, hlen, Nat.add_sub_cancel_left,
        (checkedPrefix_sat caps chk).1 c (c.size + _) (Nat.le_add_right _ _)]

theorem checkList_pos (caps : Nat → ICap) (chk : Checker) : ∀ cs,
    checkList caps chk cs =
      (checkedPrefixAll caps chk (firstBad (verdictsAll caps chk cs)) cs, firstErr (verdictsAll caps chk cs)) :=
  (check_pos caps chk).2

theorem transform_spec (caps : Nat → ICap) (tr : Transformer) :
    (∀ t, transform caps tr t = transformSpec caps tr t) ∧
    ∀ cs, transformList caps tr cs = transformSpecAll caps tr cs := by
  refine T.rec₂ (fun _ => rfl) (fun i interp schema cs ih => ?_) (fun _ => by rw [transform, transformSpec]; rfl)
    (fun _ _ _ _ => by rw [transform, transformSpec]; rfl) rfl (fun c cs h1 h2 => ?_)
  · cases interp with
    | none =>
      rw [transform, transformSpec, ih]
      cases transformSpecAll caps tr cs <;> rfl
    | some k =>
      rw [transform, transformSpec, ih, capable_some]
      cases (caps k).transformer
      · cases transformSpecAll caps tr cs <;> rfl
      · rfl
  · rw [transformList, transformSpecAll, h1, h2]
    cases transformSpec caps tr c with
    | error e => rfl
    | ok c' => cases transformSpecAll caps tr cs <;> rfl

theorem transformList_spec (caps : Nat → ICap) (tr : Transformer) :
    ∀ cs, transformList caps tr cs = transformSpecAll caps tr cs :=
  (transform_spec caps tr).2

theorem transformSpecAll_eq_mapM (caps : Nat → ICap) (tr : Transformer) (cs : List T) :
    transformSpecAll caps tr cs = cs.mapM (transformSpec caps tr) := by
  induction cs with
  | nil => simp [transformSpecAll]
  | cons c cs ih => simp [transformSpecAll, ih]

end PV.Walk

namespace PV
open PV.Text

theorem everySecond_length {α} : ∀ l : List α, (everySecond l).length = (l.length + 1) / 2
  | [] => by simp [everySecond]
  | [_] => by simp [everySecond]
  | _ :: _ :: r => by simp [everySecond, everySecond_length r]; omega

theorem everySecond_getElem? {α} : ∀ (l : List α) (j : Nat), (everySecond l)[j]? = l[2 * j]?
  | [], _ => rfl
  | [_], 0 => rfl
  | [_], _ + 1 => rfl
  | _ :: _ :: _, 0 => rfl
  | _ :: _ :: r, j + 1 => everySecond_getElem? r j

theorem mem_everySecond {α} {l : List α} {x : α} (h : x ∈ everySecond l) : ∃ i, l[i]? = some x ∧ i % 2 = 0 := by
  obtain ⟨j, hj⟩ := List.mem_iff_getElem?.mp h
  rw [everySecond_getElem?] at hj
  exact ⟨2 * j, hj, by omega⟩

theorem everySecond_subset {α} (l : List α) (x : α) (h : x ∈ everySecond l) : x ∈ l :=
  let ⟨_, hi, _⟩ := mem_everySecond h
  List.mem_of_getElem? hi

theorem everySecond_map {α β} (g : α → β) : ∀ l : List α, everySecond (l.map g) = (everySecond l).map g
  | [] => rfl
  | [_] => rfl
  | a :: _ :: rest => by simp [everySecond, everySecond_map g rest]

theorem evalArray_spec (ev : Node → EvalOut) : ∀ cs acc,
    evalArray ev cs acc = EvalOut.ofExcept (fun vs => .arr (acc ++ vs)) (evalSeq ev (everySecond cs))
  | [], acc => by rw [evalArray, everySecond, evalSeq]; simp only [Walk.except_pure, EvalOut.ofExcept, List.append_nil]
  | [c], acc => by
    rw [evalArray, everySecond, evalSeq, evalSeq]
    cases ev c <;> rfl
  | c :: _ :: rest, acc => by
    rw [evalArray, everySecond, evalSeq]
    cases ev c with
    | ok v =>
      simp only [EvalOut.toExcept, Walk.except_bind_ok, evalArray_spec ev rest]
      cases evalSeq ev (everySecond rest) with
      | ok vs =>
        simp only [EvalOut.ofExcept, Walk.except_bind_ok, Walk.except_pure, List.append_assoc, List.cons_append, List.nil_append]
      | error e => rfl
    | err p m => rfl
    | panic s => rfl

theorem evalKeyValue_spec (ev : Node → EvalOut) (kv : Node) (acc : List (Bytes × V)) :
    evalKeyValue ev kv acc = (fun p => objSet acc p.1 p.2) <$> kvOf ev kv := by
  cases kv with
  | nt tok kcs pos rpos interp =>
    dsimp only [evalKeyValue, kvOf]
    cases kcs[0]? with
    | none => rfl
    | some kn =>
      dsimp only [Option.elim, Walk.except_pure, Walk.except_bind_ok]
      cases ev kn with
      | ok key =>
        dsimp only [EvalOut.toExcept, Walk.except_bind_ok]
        cases kcs[2]? with
        | none => rfl
        | some vn =>
          dsimp only [Option.elim, Walk.except_pure, Walk.except_bind_ok]
          cases ev vn with
          | ok v => cases key <;> rfl
          | err p m => rfl
          | panic s => rfl
      | err p m => rfl
      | panic s => rfl
  | term _ _ _ _ => rfl
  | empty _ => rfl
  | eof _ => rfl

theorem evalObject_spec (ev : Node → EvalOut) : ∀ cs acc,
    evalObject ev cs acc =
      EvalOut.ofExcept (fun kvs => .obj (kvs.foldl (fun m kv => objSet m kv.1 kv.2) acc)) (kvSeq ev (everySecond cs))
  | [], acc => rfl
  | [c], acc => by
    rw [evalObject, everySecond, kvSeq, kvSeq, evalKeyValue_spec]
    cases kvOf ev c <;> rfl
  | c :: _ :: rest, acc => by
    rw [evalObject, everySecond, kvSeq, evalKeyValue_spec]
    cases kvOf ev c with
    | error e => rfl
    | ok kv =>
      simp only [Walk.except_map_ok, Walk.except_bind_ok, evalObject_spec ev rest]
      cases kvSeq ev (everySecond rest) <;> rfl

theorem mapGet_objSet (m : List (Bytes × V)) (k' : Bytes) (v : V) (k : Bytes) :
    mapGet (objSet m k' v) k = if k = k' then some v else mapGet m k := by
  induction m with
  | nil => by_cases h : k = k' <;> simp [objSet, mapGet, h, eq_comm]
  | cons a m ih =>
    obtain ⟨ka, va⟩ := a
    unfold objSet
    by_cases h1 : k' = ka
    · subst h1
      by_cases h : k = k' <;> simp [mapGet, h, eq_comm]
    · simp only [h1, if_false]
      by_cases h2 : ka = k
      · subst h2
        have : ¬ ka = k' := fun h => h1 h.symm
        simp [mapGet, this]
      · have ih' := ih
        simp only [mapGet] at ih' ⊢
        simp [h2, ih']

theorem mapGet_foldl (kvs : List (Bytes × V)) (m : List (Bytes × V)) (k : Bytes) :
    mapGet (kvs.foldl (fun m kv => objSet m kv.1 kv.2) m) k =
      match kvs.reverse.find? (fun kv => kv.1 = k) with
      | some kv => some kv.2
      | none => mapGet m k := by
  induction kvs generalizing m with
  | nil => simp
  | cons kv kvs ih =>
    rw [List.foldl_cons, ih, List.reverse_cons, List.find?_append]
    cases kvs.reverse.find? (fun kv => decide (kv.1 = k)) with
    | some x => simp
    | none =>
      simp only [Option.none_or, mapGet_objSet, List.find?_cons]
      by_cases h : kv.1 = k
      · simp [h]
      · have : ¬ k = kv.1 := fun h' => h h'.symm
        simp [h, this]

theorem objSet_keys (m : List (Bytes × V)) (k : Bytes) (v : V) :
    (objSet m k v).map (·.1) = if k ∈ m.map (·.1) then m.map (·.1) else m.map (·.1) ++ [k] := by
  induction m with
  | nil => simp [objSet]
  | cons a m ih =>
    obtain ⟨ka, va⟩ := a
    unfold objSet
    by_cases h : k = ka
    · simp [h]
    · simp only [h, if_false, List.map_cons, ih, List.mem_cons, false_or]
      split <;> simp

theorem objSet_nodup (m : List (Bytes × V)) (k : Bytes) (v : V) (h : (m.map (·.1)).Nodup) :
    ((objSet m k v).map (·.1)).Nodup := by
  rw [objSet_keys]
  split
  · exact h
  · rename_i hk
    rw [List.nodup_append]
    exact ⟨h, by simp, by intro a ha b hb; simp at hb; subst hb; intro hab; subst hab; exact hk ha⟩

theorem foldl_objSet_nodup (kvs m : List (Bytes × V)) (h : (m.map (·.1)).Nodup) :
    ((kvs.foldl (fun m kv => objSet m kv.1 kv.2) m).map (·.1)).Nodup :=
  List.foldlRecOn kvs _ (motive := fun m => (m.map (·.1)).Nodup) h fun m h kv _ => objSet_nodup m kv.1 kv.2 h

theorem depth_le_depthAll {c : Node} : ∀ {cs : List Node}, c ∈ cs → c.depth ≤ depthAll cs
  | [], h => by simp at h
  | x :: xs, h => by
    simp only [depthAll]
    rcases List.mem_cons.mp h with h | h
    · subst h; omega
    · have := depth_le_depthAll h; omega

theorem evalSeq_congr (ev ev' : Node → EvalOut) : ∀ l, (∀ c ∈ l, ev c = ev' c) → evalSeq ev l = evalSeq ev' l
  | [], _ => rfl
  | c :: l, h => by
    rw [evalSeq, evalSeq, h c (List.mem_cons_self ..), evalSeq_congr ev ev' l fun y hy => h y (List.mem_cons_of_mem _ hy)]

theorem evalArray_congr (ev ev' : Node → EvalOut) (cs : List Node) (acc : List V) (h : ∀ c ∈ cs, ev c = ev' c) :
    evalArray ev cs acc = evalArray ev' cs acc := by
  rw [evalArray_spec, evalArray_spec, evalSeq_congr ev ev' _ fun c hc => h c (everySecond_subset cs c hc)]

theorem kvOf_congr (ev ev' : Node → EvalOut) (d : Nat) (h : ∀ c, c.depth < d → ev c = ev' c) (kv : Node)
    (hd : kv.depth ≤ d) : kvOf ev kv = kvOf ev' kv := by
  cases kv with
  | nt tok kcs pos rpos interp =>
    have hlt : ∀ {i c}, kcs[i]? = some c → ev c = ev' c := fun hi =>
      h _ (Nat.lt_of_le_of_lt (depth_le_depthAll (List.mem_of_getElem? hi)) hd)
    rw [kvOf, kvOf]
    cases h0 : kcs[0]? with
    | none => rfl
    | some kn =>
      dsimp only [Option.elim, Walk.except_pure, Walk.except_bind_ok]
      rw [hlt h0]
      cases h2 : kcs[2]? with
      | none => rfl
      | some vn => dsimp only [Option.elim, Walk.except_pure, Walk.except_bind_ok]; rw [hlt h2]
  | term _ _ _ _ => rfl
  | empty _ => rfl
  | eof _ => rfl

theorem kvSeq_congr (ev ev' : Node → EvalOut) (d : Nat) (h : ∀ c, c.depth < d → ev c = ev' c) :
    ∀ l, (∀ c ∈ l, c.depth ≤ d) → kvSeq ev l = kvSeq ev' l
  | [], _ => rfl
  | c :: l, hd => by
    rw [kvSeq, kvSeq, kvOf_congr ev ev' d h c (hd c (List.mem_cons_self ..)),
      kvSeq_congr ev ev' d h l fun y hy => hd y (List.mem_cons_of_mem _ hy)]

theorem evalObject_congr (ev ev' : Node → EvalOut) (d : Nat) (h : ∀ c, c.depth < d → ev c = ev' c)
    (cs : List Node) (acc : List (Bytes × V)) (hd : depthAll cs ≤ d) : evalObject ev cs acc = evalObject ev' cs acc := by
  rw [evalObject_spec, evalObject_spec, kvSeq_congr ev ev' d h _ fun c hc =>
    Nat.le_trans (depth_le_depthAll (everySecond_subset cs c hc)) hd]

end PV
