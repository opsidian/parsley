/-
  The tie of the PARSER CORE: vocabulary, and the value-level functions every combinator calls.

  `factgen -out-core` translates the parse closures of the combinators, the context, the result cache, AppendNode
  (Generated/FactsCore.lean; run-time Generated/CorePrelude.lean).  This file says how the values of the hand-written
  model (Model/Node.lean, Model/Run.lean) are read as values of the translation:

  * `eNode` / `eRes` / `eErr` / `eSet` / `eOut`: FUNCTIONS from model values to translated values (nodes, results, errors,
    curtailing sets, the triple a parser returns); positions `Nat ↦ Int`;
  * `CtxRel m c`: the translated left-recursion context `m` (a data.IntMap at value level: ascending association list)
    holds the same counters as the model's `c` (insertion-ordered list) — a RELATION, the order is not observable;
  * `StRel s st`: the translated `parsley.Context` `s` (call count, furthest error, result cache as nested finite maps)
    shows the model state `st` (the ghost fields `active`, `log` are ignored); transformation and static check are off
    (the model's `parse` is parsley.Parse without them);
  * `Corr x y`: the outcome `x` of a translated call corresponds to the outcome `y` of a model run (fuel exhausted on
    both sides, or the embedded triple in a related state);
  * `Agrees W cfg fuel p g`: the world's `parse` on the handle `p` simulates `run cfg fuel g` — the hypothesis of every
    combinator tie about its operands (discharged by induction on the fuel when the world is built from the ties);
    `AgreesF f cfg fuel g`: the same for a translated parse function `f` in place of `W.parse p` — the conclusion of every
    combinator tie;
  * `Sim R x y`: the general form of `Corr` — both sides out of fuel, or answers related by `R` — with the rules the ties
    are composed by (`Sim.bind`, `Agrees.bind`);
  * `WorldRel W cfg`: the world's reader answers what the model's file functions answer (C10P proves exactly these
    equations of the TRANSLATED reader functions, on positions `offset ≤ pos`).

  The functions: ast.AppendNode / (*NodeList).Append against `appendNode`, `nlAppend`; parsley/context.go (RegisterCall,
  SetError, Error) against `St.regCall`, `St.setError`, `st.ctxErr`.
-/
import ParsleyVerif.Proofs.RunBasics
import ParsleyVerif.Generated.FactsCore
import ParsleyVerif.Proofs.GoMonad
namespace PV.CoreTie
open PV.FactsCore

abbrev CNode := PV.CorePrelude.Node
abbrev CErr := PV.CorePrelude.Err
abbrev CCause := PV.CorePrelude.Cause
abbrev CRes := PV.CorePrelude.Res
abbrev CM := PV.FactsCore.M
abbrev World := PV.CorePrelude.World
abbrev Parser := PV.CorePrelude.Parser
abbrev IntSet := PV.CorePrelude.IntSet
abbrev IntMap := PV.CorePrelude.IntMap
abbrev CMap := PV.CorePrelude.Map

@[simp] theorem pure_apply {α : Type} (a : α) (s : Context) : (pure a : CM α) s = .ok a s := rfl

export GoM (bind_apply ite_apply bind_ok bind_nofuel pure_bind bind_bind dec_true dec_false)
attribute [simp] GoM.bind_apply GoM.ite_apply

/-- a `do` block that ends in a computation returning `v` whatever came before, and leaving the state alone
    (`simp only [← bind_bind]` brings a block into this form) -/
theorem bind_const {α β : Type} {x : CM α} {f : α → CM β} {v : β} (hf : ∀ a s', f a s' = .ok v s') {s s2 : Context} {a : α}
    (hx : x s = .ok a s2) : (x >>= f) s = .ok v s2 := by
  rw [bind_ok hx, hf]

@[simp] theorem res_match_id {α : Type} (r : CRes Context α) :
    (match r with
      | .ok a s' => CorePrelude.Res.ok a s'
      | .panic => .panic
      | .nofuel => .nofuel) = r := by
  cases r <;> rfl

@[simp] theorem read_apply {α : Type} (f : Context → α) (s : Context) : CorePrelude.Go.read f s = .ok (f s) s := rfl
@[simp] theorem modify_apply (f : Context → Context) (s : Context) : CorePrelude.Go.modify f s = .ok () (f s) := rfl
@[simp] theorem panic_apply {α : Type} (s : Context) : (CorePrelude.Go.panic : CM α) s = .panic := rfl
@[simp] theorem outOfFuel_apply {α : Type} (s : Context) : (CorePrelude.Go.outOfFuel : CM α) s = .nofuel := rfl

@[simp] theorem map_default {α : Type} : (default : CMap α) = .nil := rfl
@[simp] theorem mapSet_mk {α : Type} (f : Int → Option α) (k : Int) (v : α) (s : Context) :
    (CorePrelude.Go.mapSet (.mk f) k v : CM (CMap α)) s = .ok (.mk fun k' => if k' = k then some v else f k') s := rfl
@[simp] theorem deref_some {α : Type} (a : α) (s : Context) : (CorePrelude.Go.deref (some a) : CM α) s = .ok a s := rfl
@[simp] theorem deref_none {α : Type} (s : Context) : (CorePrelude.Go.deref (none : Option α) : CM α) s = .panic := rfl

/-- The tags 0 … 6 are those of `TermPrelude.Val.ofRune` … `Val.nil` (Generated/TermPrelude.lean), with which the translated
    terminal closures and node constructors build their values: `c08r_*_model` (Props/C08R.lean) hold by `rfl` only because
    the two tables agree. -/
def eVal : Val → CorePrelude.Opaque
  | .rune c => [0, c]
  | .str b => 1 :: b.map Int.ofNat
  | .int i => [2, i]
  | .float l => 3 :: l.map Int.ofNat
  | .dur l => 4 :: l.map Int.ofNat
  | .bool b => [5, if b then 1 else 0]
  | .nil => [6]
  | .opaque id => [7, id]

def eInterp : Interp → CorePrelude.Opaque
  | .none => []
  | .select i => [1, i]
  | .array => [2]
  | .object => [3]
  | .nilI => [4]
  | .custom id => [5, id]

mutual
def eNode : PV.Node → CNode
  | .term t v p r => .leaf t (eVal v) p r
  | .empty p => .empty p
  | .eof p => .eof p
  | .nt t c p r i => .nonterm t (eNodes c) p r (eInterp i)
def eNodes : List PV.Node → List CNode
  | [] => []
  | n :: r => eNode n :: eNodes r
end

@[simp] theorem eNodes_eq_map (l : List PV.Node) : eNodes l = l.map eNode := by
  induction l with
  | nil => rfl
  | cons n r ih => simp [eNodes, ih]

def eRes : PV.Res → CNode
  | .nil => .nil
  | .one n => eNode n
  | .list l => .list (l.map eNode)

@[simp] theorem isNil_nil : CorePrelude.Node.isNil .nil = true := rfl
@[simp] theorem isNil_list (l : List CNode) : CorePrelude.Node.isNil (.list l) = false := rfl
@[simp] theorem isNil_empty (p : Int) : CorePrelude.Node.isNil (.empty p) = false := rfl
@[simp] theorem isNil_eof (p : Int) : CorePrelude.Node.isNil (.eof p) = false := rfl
@[simp] theorem asNodeList_list (l : List CNode) : CorePrelude.Node.asNodeList (.list l) = (l, true) := rfl
@[simp] theorem asNodeList_nil : CorePrelude.Node.asNodeList .nil = ([], false) := rfl
@[simp] theorem errIsNil_nil : CorePrelude.Err.isNil .nil = true := rfl
@[simp] theorem errIsNil_mk (p : Int) (c : CCause) : CorePrelude.Err.isNil (.mk p c) = false := rfl

@[simp] theorem eRes_nil : eRes .nil = .nil := rfl
@[simp] theorem eRes_one (n : PV.Node) : eRes (.one n) = eNode n := rfl
@[simp] theorem eRes_list (l : List PV.Node) : eRes (.list l) = .list (l.map eNode) := rfl

/-- `.other 1`: a panic inside a terminal is an error VALUE in the model, an `errors.New`-like cause with a tag of its own
    here (`TermTie.panicAsValue` builds the same one); the Go program panics (Proofs/TermTieLeaf.lean). -/
def eKind : ErrKind → CCause
  | .notFound n => .notFound n
  | .ws e => .whitespace (tokOf e.msg)
  | .other m => .other 0 m
  | .panic s => .other 1 s

@[simp] theorem eKind_notFound (n : Text.Bytes) : eKind (.notFound n) = .notFound n := rfl

def eErr1 (e : PV.Err) : CErr := .mk e.pos (eKind e.kind)

def eErr : Option PV.Err → CErr
  | none => .nil
  | some e => eErr1 e

def eSet (l : List Nat) : IntSet := l.map Int.ofNat

def eOut (o : Out) : CNode × IntSet × CErr := (eRes o.res, eSet o.cp, eErr o.err)

@[simp] theorem eNode_isNil (n : PV.Node) : (eNode n).isNil = false := by cases n <;> simp [eNode, CorePrelude.Node.isNil]

@[simp] theorem eNode_ne_nil (n : PV.Node) : eNode n ≠ .nil := by cases n <;> simp [eNode]

@[simp] theorem eRes_isNil (r : PV.Res) : (eRes r).isNil = r.isNil := by
  cases r with
  | nil => rfl
  | one n => simp [eRes, PV.Res.isNil]
  | list l => rfl

@[simp] theorem eErr_isNil (e : Option PV.Err) : (eErr e).isNil = e.isNone := by
  cases e <;> simp [eErr, eErr1, CorePrelude.Err.isNil]

@[simp] theorem eErr_none : eErr none = .nil := rfl
@[simp] theorem eErr_some (e : PV.Err) : eErr (some e) = .mk e.pos (eKind e.kind) := rfl

@[simp] theorem errPos_some (e : PV.Err) (s : Context) :
    (CorePrelude.Err_Pos (.mk (e.pos : Int) (eKind e.kind)) : CM Int) s = .ok (e.pos : Int) s := rfl

@[simp] theorem errPos_mk (p : Int) (c : CCause) (s : Context) : (CorePrelude.Err_Pos (.mk p c) : CM Int) s = .ok p s := rfl
@[simp] theorem errCause_mk (p : Int) (c : CCause) (s : Context) : (CorePrelude.Err_Cause (.mk p c) : CM CCause) s = .ok c s := rfl

@[simp] theorem isNotFound_mk (p : Int) (k : ErrKind) :
    CorePrelude.IsNotFoundError (.mk p (eKind k)) = k.isNotFound := by
  cases k <;> rfl

@[simp] theorem isWhitespace_mk (p : Int) (k : ErrKind) :
    CorePrelude.IsWhitespaceError (.mk p (eKind k)) = k.isWs := by
  cases k <;> rfl

structure CtxRel (m : IntMap) (c : Ctx) : Prop where
  /-- the value-level invariant of data.IntMap: keys strictly ascending -/
  sorted : (m.map (·.1)).Pairwise (· < ·)
  fwd : ∀ k v, (k, v) ∈ m → ∃ kn vn : Nat, k = kn ∧ v = vn ∧ (kn, vn) ∈ c
  bwd : ∀ kn vn : Nat, (kn, vn) ∈ c → ((kn : Int), (vn : Int)) ∈ m
  func : ∀ k v v', (k, v) ∈ c → (k, v') ∈ c → v = v'

structure ResultRel (r : Result) (e : CacheEntry) : Prop where
  node : r.Node = eRes e.res
  cp : r.CurtailingParsers = eSet e.cp
  err : r.Error = eErr e.err
  ctx : CtxRel r.LeftRecCtx e.ctx

/-- `rc[idx][pos]` with Go's comma-ok reading -/
def lookup (rc : CMap (CMap (Option Result))) (idx pos : Int) : Option (Option Result) :=
  ((rc.find idx).getD .nil).find pos

def cacheFind (c : List CacheEntry) (idx pos : Nat) : Option CacheEntry :=
  c.find? (fun e => e.idx == idx && e.pos == pos)

structure CacheRel (rc : CMap (CMap (Option Result))) (c : List CacheEntry) : Prop where
  /-- NewResultCache made the map; every inner map was made by Save -/
  notNil : rc.isNil = false
  innerNotNil : ∀ (idx : Int) m, rc.find idx = some m → m.isNil = false
  entries : ∀ idx pos : Nat,
    match cacheFind c idx pos with
    | none => lookup rc idx pos = none
    | some e => ∃ r, lookup rc idx pos = some (some r) ∧ ResultRel r e

structure StRel (s : Context) (st : St) : Prop where
  calls : s.callCount = (st.calls : Int)
  err : s.err = eErr st.ctxErr
  cache : CacheRel s.resultCache st.cache
  noTransform : s.transformationEnabled = false
  noStaticCheck : s.staticCheckEnabled = false

theorem StRel.of_fields {s : Context} {st st' : St} (rel : StRel s st) (h1 : st'.calls = st.calls)
    (h2 : st'.ctxErr = st.ctxErr) (h3 : st'.cache = st.cache) : StRel s st' :=
  ⟨by rw [h1]; exact rel.calls, by rw [h2]; exact rel.err, by rw [h3]; exact rel.cache, rel.noTransform, rel.noStaticCheck⟩

theorem StRel.logEv {s : Context} {st : St} (rel : StRel s st) (cfg : Cfg) (ev : Ev) : StRel s (st.logEv cfg ev) :=
  rel.of_fields (logEv_fields st cfg ev).2.2.1 (logEv_fields st cfg ev).2.1 (logEv_fields st cfg ev).1

def Corr (x : CRes Context (CNode × IntSet × CErr)) (y : Option (Out × St)) : Prop :=
  match y with
  | none => x = .nofuel
  | some (o, st') => ∃ s', x = .ok (eOut o) s' ∧ StRel s' st'

def Agrees (W : World Context) (cfg : Cfg) (fuel : Nat) (p : Parser) (g : G) : Prop :=
  ∀ (m : IntMap) (c : Ctx) (pos : Nat) (s : Context) (st : St), CtxRel m c → StRel s st →
    Corr (W.parse p m (pos : Int) s) (run cfg fuel g c pos st)

/-- `Agrees` for a translated parse function `f` in place of `W.parse p` (`agrees_iff`): the conclusion of every combinator
    tie.  The ties assume `cfg.maxCalls = 0`: the model's work budget is off, the Go code has none. -/
def AgreesF (f : IntMap → Int → CM (CNode × IntSet × CErr)) (cfg : Cfg) (fuel : Nat) (g : G) : Prop :=
  ∀ (m : IntMap) (c : Ctx) (pos : Nat) (s : Context) (st : St), CtxRel m c → StRel s st →
    Corr (f m (pos : Int) s) (run cfg fuel g c pos st)

theorem agrees_iff (W : World Context) (cfg : Cfg) (fuel : Nat) (p : Parser) (g : G) :
    Agrees W cfg fuel p g ↔ AgreesF (W.parse p) cfg fuel g := Iff.rfl

/-- the outcome `x` of a translated computation simulates the outcome `y` of the model's: both are out of fuel, or both
    answer and `R` relates the translated answer and final context to the model's answer.  `Corr` is `Sim ROut`
    (`corr_iff`); the ties compose such statements with `Sim.bind` and, for the call of an operand, `Agrees.bind`. -/
def Sim {α γ : Type} (R : α → Context → γ → Prop) (x : CRes Context α) (y : Option γ) : Prop :=
  match y with
  | none => x = .nofuel
  | some c => ∃ a s', x = .ok a s' ∧ R a s' c

theorem Sim.ret {α γ : Type} {R : α → Context → γ → Prop} {a : α} {s : Context} {c : γ} (h : R a s c) :
    Sim R (.ok a s) (some c) := ⟨a, s, rfl, h⟩

theorem Sim.of_eq {α γ : Type} {R : α → Context → γ → Prop} {x x' : CRes Context α} {y : Option γ} (e : x = x')
    (h : Sim R x' y) : Sim R x y := e ▸ h

theorem Sim.mono {α γ : Type} {R R' : α → Context → γ → Prop} {x : CRes Context α} {y : Option γ} (h : Sim R x y)
    (hR : ∀ a s c, R a s c → R' a s c) : Sim R' x y := by
  cases y with
  | none => exact h
  | some c => obtain ⟨a, s', e, r⟩ := h; exact ⟨a, s', e, hR _ _ _ r⟩

/-- sequencing: a step that simulates, followed by a continuation that simulates whatever the model goes on to (`z`,
    which is out of fuel when the step is) on related answers.  (`z` is not written as a `match` on `y`: the `match` of
    another declaration would not unify with it.) -/
theorem Sim.bind {α β γ δ : Type} {R : α → Context → γ → Prop} {Q : β → Context → δ → Prop} {x : CM α} {f : α → CM β}
    {s : Context} {y : Option γ} {z : Option δ} (h : Sim R (x s) y) (hn : y = none → z = none)
    (hk : ∀ a s' c, y = some c → R a s' c → Sim Q (f a s') z) : Sim Q ((x >>= f) s) z := by
  cases y with
  | none => rw [hn rfl]; exact bind_nofuel h
  | some c =>
    obtain ⟨a, s', e, r⟩ := h
    rw [bind_ok e]
    exact hk a s' c rfl r

/-- the relation of a parser's answer: the embedded triple, in a related state -/
def ROut (a : CNode × IntSet × CErr) (s' : Context) (r : Out × St) : Prop := a = eOut r.1 ∧ StRel s' r.2

theorem corr_iff {x : CRes Context (CNode × IntSet × CErr)} {y : Option (Out × St)} : Corr x y ↔ Sim ROut x y := by
  cases y with
  | none => exact Iff.rfl
  | some r => exact ⟨fun ⟨s', e, h⟩ => ⟨_, s', e, rfl, h⟩, fun ⟨a, s', e, ha, h⟩ => ⟨s', ha ▸ e, h⟩⟩

/-- the call rule: an operand that agrees is called, and what follows simulates what the model does with each answer;
    the model side is the `match` that `run_wrap`, `anyLoop`, `choiceLoop` and `memoStep_body` have -/
theorem Agrees.bind {W : World Context} {cfg : Cfg} {fuel : Nat} {p : Parser} {g : G} (hp : Agrees W cfg fuel p g)
    {m : IntMap} {c : Ctx} (hm : CtxRel m c) (pos : Nat) {s : Context} {st : St} (hs : StRel s st)
    {β δ : Type} {Q : β → Context → δ → Prop} {f : CNode × IntSet × CErr → CM β} {k : Out → St → Option δ}
    (hk : ∀ o s1 st1, StRel s1 st1 → Sim Q (f (eOut o) s1) (k o st1)) :
    Sim Q ((W.parse p m pos >>= f) s) (match run cfg fuel g c pos st with | none => none | some (o, st1) => k o st1) :=
  Sim.bind (corr_iff.mp (hp m c pos s st hm hs)) (fun h => by rw [h]) fun _ s1 r hr h => by
    rw [hr, h.1]; exact hk r.1 s1 r.2 h.2

def modeCode : Text.WsMode → Int
  | .none => 0
  | .spaces => 1
  | .spacesNl => 2
  | .forceNl => 3

structure WorldRel (W : World Context) (cfg : Cfg) : Prop where
  remaining : ∀ p : Nat, W.Reader_Remaining p = (Text.remaining cfg.file p : Nat)
  isEOF : ∀ p : Nat, W.Reader_IsEOF p = Text.isEOF cfg.file p
  pos0 : W.Reader_Pos 0 = (cfg.file.pos 0 : Nat)
  skipWs : ∀ (p : Nat) (m : Text.WsMode),
    W.Reader_SkipWhitespaces p (modeCode m) =
      ((((Text.skipWhitespaces cfg.file p m).1 : Nat) : Int), eErr (wsToErr (Text.skipWhitespaces cfg.file p m).2))

@[simp] theorem eqEmptyNode_eNode (n : PV.Node) (p : Nat) :
    CorePrelude.Node.eqEmptyNode (eNode n) (p : Int) = n.isEmptyAt p := by
  cases n with
  | empty q =>
    by_cases h : q = p
    · subst h; simp [eNode, CorePrelude.Node.eqEmptyNode, PV.Node.isEmptyAt]
    · have h1 : (q : Int) ≠ p := by omega
      have h2 : ¬ p = q := fun e => h e.symm
      simp [eNode, CorePrelude.Node.eqEmptyNode, PV.Node.isEmptyAt, h1, h2]
  | _ => simp [eNode, CorePrelude.Node.eqEmptyNode, PV.Node.isEmptyAt]

@[simp] theorem asNodeList_eNode (n : PV.Node) : CorePrelude.Node.asNodeList (eNode n) = ([], false) := by
  cases n <;> rfl

theorem append_loop1 (W : World Context) (orig : List CNode) (p : Nat) (r : List CNode → CNode → CM (List CNode))
    (l : List PV.Node) (s : Context) :
    NodeList_Append_loop1 W orig (p : Int) r (l.map eNode) s =
      .ok (if l.any (PV.Node.isEmptyAt p) then .ret orig else .done ()) s := by
  induction l with
  | nil => simp [NodeList_Append_loop1]
  | cons n rest ih =>
    simp only [List.map_cons, NodeList_Append_loop1, eqEmptyNode_eNode, List.any_cons, ite_apply]
    by_cases h : n.isEmptyAt p = true
    · simp [h]
    · simp [h, ih]

theorem rec_list (W : World Context) (fuel : Nat) (nl l : List CNode) (s : Context) :
    NodeList_Append_rec W (fuel + 1) nl (.list l) s = NodeList_Append_loop2 W (NodeList_Append_rec W fuel) l nl s := by
  simp [NodeList_Append_rec, CorePrelude.Node.asNodeList]

theorem append_one (W : World Context) (fuel : Nat) (nl : List PV.Node) (n : PV.Node) (s : Context) :
    NodeList_Append_rec W (fuel + 1) (nl.map eNode) (eNode n) s = .ok ((nlAppend1 nl n).map eNode) s := by
  cases n with
  | empty p =>
    cases h : nl.any (PV.Node.isEmptyAt p) <;>
      simp [NodeList_Append_rec, eNode, CorePrelude.Node.asNodeList, CorePrelude.Node.asEmptyNode, append_loop1,
        nlAppend1, h, CorePrelude.Go.append]
  | _ => simp [NodeList_Append_rec, eNode, CorePrelude.Node.asNodeList, CorePrelude.Node.asEmptyNode, nlAppend1, CorePrelude.Go.append]

theorem append_loop2 (W : World Context) (fuel : Nat) (l nl : List PV.Node) (s : Context) :
    NodeList_Append_loop2 W (NodeList_Append_rec W (fuel + 1)) (l.map eNode) (nl.map eNode) s =
      .ok ((l.foldl nlAppend1 nl).map eNode) s := by
  induction l generalizing nl with
  | nil => simp [NodeList_Append_loop2]
  | cons n rest ih =>
    simp only [List.map_cons, NodeList_Append_loop2, bind_apply, append_one, List.foldl_cons]
    exact ih _

theorem depth_eNode (n : PV.Node) : (eNode n).depth = 0 := by cases n <;> rfl

theorem depthList_map (l : List PV.Node) : CorePrelude.Node.depth.depthList (l.map eNode) = 0 := by
  induction l with
  | nil => rfl
  | cons n r ih => simp [CorePrelude.Node.depth.depthList, depth_eNode, ih]

theorem tie_NodeList_Append (W : World Context) (nl : List PV.Node) (b : PV.Res) (hb : b.isNil = false) (s : Context) :
    NodeList_Append W (nl.map eNode) (eRes b) s = .ok ((nlAppend nl b).map eNode) s := by
  cases b with
  | nil => simp [PV.Res.isNil] at hb
  | one n =>
    simp only [NodeList_Append, eRes_one, depth_eNode, nlAppend]
    exact append_one W 0 nl n s
  | list l =>
    have hd : (CorePrelude.Node.list (l.map eNode)).depth + 1 = (0 + 1) + 1 := by
      simp [CorePrelude.Node.depth, depthList_map]
    simp only [NodeList_Append, eRes_list, nlAppend, hd]
    rw [rec_list, append_loop2]

theorem tie_AppendNode (W : World Context) (a b : PV.Res) (s : Context) :
    AppendNode W (eRes a) (eRes b) s = .ok (eRes (appendNode a b)) s := by
  cases hb : b.isNil
  · cases a with
    | nil => cases b <;> simp [AppendNode, appendNode]
    | one n =>
      have h1 := tie_NodeList_Append W [n] b hb s
      simp only [List.map_cons, List.map_nil] at h1
      have e : appendNode (.one n) b = .list (nlAppend [n] b) := by cases b <;> simp_all [appendNode, PV.Res.isNil]
      simp [AppendNode, hb, h1, e]
    | list l =>
      have h1 := tie_NodeList_Append W l b hb s
      have e : appendNode (.list l) b = .list (nlAppend l b) := by cases b <;> simp_all [appendNode, PV.Res.isNil]
      simp [AppendNode, hb, h1, e]
  · have : b = .nil := by cases b <;> simp_all [PV.Res.isNil]
    subst this
    cases a <;> simp [AppendNode, appendNode]

theorem tie_RegisterCall (W : World Context) (s : Context) (st : St) (rel : StRel s st) :
    ∃ s', Context_RegisterCall W s = .ok () s' ∧ StRel s' st.regCall := by
  refine ⟨{ s with callCount := s.callCount + 1 }, ?_, ?_⟩
  · simp [Context_RegisterCall]
  · obtain ⟨h1, h2, h3, h4, h5⟩ := rel
    refine ⟨?_, h2, h3, h4, h5⟩
    simp [St.regCall, h1]

theorem tie_Error (W : World Context) (s : Context) (st : St) (rel : StRel s st) :
    Context_Error W s = .ok (eErr st.ctxErr) s := by
  simp [Context_Error, rel.err]

theorem tie_SetError (W : World Context) (s : Context) (st : St) (rel : StRel s st) (e : Option PV.Err) :
    ∃ s', Context_SetError W (eErr e) s = .ok () s' ∧ StRel s' (st.setError e) := by
  obtain ⟨h1, h2, h3, h4, h5⟩ := rel
  obtain ⟨-, f2, -, -, f5⟩ := setError_ctxErr st e
  -- the error is taken (the context's `err` field is overwritten) or the context stays as it is
  have take : ∀ e', st.setError e = { st with ctxErr := some e' } →
      StRel { s with err := eErr (some e') } (st.setError e) := fun e' h =>
    ⟨by rw [f5]; exact h1, by rw [h], by rw [f2]; exact h3, h4, h5⟩
  have keep : st.setError e = st → StRel s (st.setError e) := fun h => by rw [h]; exact ⟨h1, h2, h3, h4, h5⟩
  cases e with
  | none => exact ⟨s, by simp [Context_SetError], keep rfl⟩
  | some e =>
    cases hc : st.ctxErr with
    | none => exact ⟨_, by simp [Context_SetError, h2, hc], take e (by simp [St.setError, hc])⟩
    | some c =>
      by_cases hge : e.pos ≥ c.pos
      · exact ⟨_, by simp [Context_SetError, h2, hc, hge], take e (by simp [St.setError, hc, hge])⟩
      · exact ⟨s, by simp [Context_SetError, h2, hc, hge], keep (by simp [St.setError, hc, hge])⟩

end PV.CoreTie
