import ParsleyVerif.Model.Slice
/-
  The heap of the slice machine of C07, and what reading it depends on.

  Arrays, slice headers, `append`, NodeList.Append.  `top a` is a ghost bound: no header that anybody can still read
  through has more than `top a` cells of array `a` in view.  An operation is *framed* (`FrameA top`) when it leaves the
  first `top a` cells of every array as they are.  A header is *safe* when an in-place append through it writes at or
  above `top`.

  `render`: if two states agree on a set of nodes that is closed under "child of" (the node objects and the views of
  their children slices), every handle into that set reads the same in both.  Instances: the append family (all old
  nodes, `render_frame`) and SetReaderPos (the nodes that cannot see the trimmed objects, Proofs/SliceRun.lean).
-/
namespace PV.Slice

theorem build_length {α : Type} (f : List α → Nat → α) (k : Nat) : (build f k).length = k := by
  induction k with
  | zero => rfl
  | succ k ih => simp [build, ih]

theorem build_get {α : Type} (f : List α → Nat → α) (k n : Nat) (h : n < k) :
    (build f k)[n]? = some (f (build f n) n) := by
  induction k with
  | zero => omega
  | succ k ih =>
    by_cases hn : n < k
    · simp only [build]
      rw [List.getElem?_append_left (by rw [build_length]; exact hn)]
      exact ih hn
    · have : n = k := by omega
      subst this
      simp only [build]
      rw [List.getElem?_append_right (by rw [build_length]; exact Nat.le_refl _)]
      simp [build_length]

theorem build_agree {α : Type} (f g : List α → Nat → α) (good : Nat → Prop)
    (h : ∀ n, good n → ∀ t t' : List α, t.length = n → t'.length = n →
        (∀ m, m < n → good m → t[m]? = t'[m]?) → f t n = g t' n) :
    ∀ n k k', n < k → n < k' → good n → (build f k)[n]? = (build g k')[n]? := by
  intro n
  induction n using Nat.strongRecOn with
  | _ n ih =>
    intro k k' hk hk' hg
    rw [build_get f k n hk, build_get g k' n hk']
    congr 1
    apply h n hg _ _ (build_length _ _) (build_length _ _)
    intro m hm hgm
    exact ih m hm n n hm hm hgm

theorem cells_writeCell (h : Arrs) (a i : Nat) (v : Handle) (b : Nat) :
    cells (writeCell h a i v) b = if a = b then (cells h b).set i v else cells h b := by
  unfold writeCell cells
  rw [List.getD_eq_getElem?_getD, List.getD_eq_getElem?_getD, List.getElem?_modify]
  by_cases hab : a = b
  · simp only [if_pos hab]; cases h[b]? <;> rfl
  · simp only [if_neg hab]; cases h[b]? <;> rfl

theorem length_writeCell (h : Arrs) (a i : Nat) (v : Handle) : (writeCell h a i v).length = h.length :=
  List.length_modify ..

theorem cells_append_lt (h : Arrs) (c : List Handle) (a : Nat) (ha : a < h.length) :
    cells (h ++ [c]) a = cells h a := by
  simp [cells, List.getD_eq_getElem?_getD, List.getElem?_append_left ha]

theorem cells_append_eq (h : Arrs) (c : List Handle) : cells (h ++ [c]) h.length = c := by
  simp [cells, List.getD_eq_getElem?_getD]

theorem cells_oob (h : Arrs) (a : Nat) (ha : h.length ≤ a) : cells h a = [] := by
  simp [cells, List.getD_eq_getElem?_getD, List.getElem?_eq_none ha]

/-- a well-formed slice header (the nil slice, `cap = 0`, needs no array) -/
def SWF (arrs : Arrs) (s : Slice) : Prop :=
  s.len ≤ s.cap ∧ (s.cap = 0 ∨ (s.arr < arrs.length ∧ s.cap ≤ (cells arrs s.arr).length))

/-- what a cell may hold: never a list.  This is the flatness the header of Model/Slice.lean relies on (`c07_cells_flat`). -/
def CellOK (n : Nat) : Handle → Prop
  | .ptr m => m < n
  | .list _ => False
  | _ => True

theorem CellOK.mono {n n' : Nat} {c : Handle} (h : CellOK n c) (hn : n ≤ n') : CellOK n' c := by
  cases c <;> simp [CellOK] at h ⊢
  omega

def CellsOK (n : Nat) (arrs : Arrs) : Prop := ∀ a c, c ∈ cells arrs a → CellOK n c

theorem CellsOK.mono {n n' : Nat} {arrs : Arrs} (h : CellsOK n arrs) (hn : n ≤ n') : CellsOK n' arrs :=
  fun a c hc => (h a c hc).mono hn

def FrameA (top : Nat → Nat) (h h' : Arrs) : Prop :=
  h.length ≤ h'.length ∧
  (∀ a, a < h.length → (cells h' a).length = (cells h a).length) ∧
  (∀ a, (cells h' a).take (top a) = (cells h a).take (top a))

theorem FrameA.refl (top : Nat → Nat) (h : Arrs) : FrameA top h h :=
  ⟨Nat.le_refl _, fun _ _ => rfl, fun _ => rfl⟩

theorem FrameA.trans {top : Nat → Nat} {h1 h2 h3 : Arrs} (a : FrameA top h1 h2) (b : FrameA top h2 h3) :
    FrameA top h1 h3 :=
  ⟨Nat.le_trans a.1 b.1,
   fun x hx => by rw [b.2.1 x (by have := a.1; omega), a.2.1 x hx],
   fun x => by rw [b.2.2 x, a.2.2 x]⟩

theorem FrameA.view_eq {top : Nat → Nat} {h h' : Arrs} (f : FrameA top h h') (s : Slice)
    (hs : s.len ≤ top s.arr) : view h' s = view h s := by
  unfold view
  have := f.2.2 s.arr
  calc (cells h' s.arr).take s.len = ((cells h' s.arr).take (top s.arr)).take s.len := by
        rw [List.take_take, Nat.min_eq_left hs]
    _ = ((cells h s.arr).take (top s.arr)).take s.len := by rw [this]
    _ = (cells h s.arr).take s.len := by rw [List.take_take, Nat.min_eq_left hs]

/-- under `FrameA.swf` and `SameShape.swf` -/
theorem SWF.of_lengths {h h' : Arrs} {s : Slice} (w : SWF h s) (hl : h.length ≤ h'.length)
    (hc : ∀ a, a < h.length → (cells h' a).length = (cells h a).length) : SWF h' s :=
  ⟨w.1, w.2.imp id fun ⟨h1, h2⟩ => ⟨Nat.lt_of_lt_of_le h1 hl, by rw [hc s.arr h1]; exact h2⟩⟩

theorem FrameA.swf {top : Nat → Nat} {h h' : Arrs} (f : FrameA top h h') {s : Slice} (w : SWF h s) :
    SWF h' s :=
  w.of_lengths f.1 f.2.1

theorem frameA_append (top : Nat → Nat) (h : Arrs) (c : List Handle) (tz : ∀ a, h.length ≤ a → top a = 0) :
    FrameA top h (h ++ [c]) := by
  refine ⟨by simp, fun a ha => by rw [cells_append_lt h c a ha], fun a => ?_⟩
  by_cases ha : a < h.length
  · rw [cells_append_lt h c a ha]
  · rw [tz a (by omega)]; simp

theorem frameA_write (top : Nat → Nat) (h : Arrs) (a i : Nat) (v : Handle) (hi : top a ≤ i) :
    FrameA top h (writeCell h a i v) := by
  refine ⟨Nat.le_of_eq (length_writeCell ..).symm, fun b _ => ?_, fun b => ?_⟩ <;> rw [cells_writeCell] <;> split
  · exact List.length_set
  · rfl
  · rename_i hab; exact List.take_set_of_le (hab ▸ hi)
  · rfl

theorem cellsOK_write {n : Nat} {h : Arrs} (ok : CellsOK n h) (a i : Nat) (v : Handle) (hv : CellOK n v) :
    CellsOK n (writeCell h a i v) := by
  intro b c hc
  rw [cells_writeCell] at hc
  split at hc
  · rcases List.mem_or_eq_of_mem_set hc with h1 | h1
    · exact ok b c h1
    · exact h1 ▸ hv
  · exact ok b c hc

theorem cellsOK_append {n : Nat} {h : Arrs} (ok : CellsOK n h) (c : List Handle) (hc : ∀ x ∈ c, CellOK n x) :
    CellsOK n (h ++ [c]) := by
  intro b x hx
  by_cases hb : b < h.length
  · rw [cells_append_lt h c b hb] at hx; exact ok b x hx
  · by_cases hb2 : b = h.length
    · subst hb2; rw [cells_append_eq] at hx; exact hc x hx
    · rw [cells_oob (h ++ [c]) b (by simp; omega)] at hx; simp at hx

theorem view_cellOK {n : Nat} {h : Arrs} (ok : CellsOK n h) (s : Slice) : ∀ x ∈ view h s, CellOK n x :=
  fun x hx => ok s.arr x (List.mem_of_mem_take hx)

theorem getD_cellOK {n : Nat} {h : Arrs} (ok : CellsOK n h) (a k : Nat) : CellOK n ((cells h a).getD k Handle.nil) := by
  rw [List.getD_eq_getElem?_getD]
  cases hk : (cells h a)[k]? with
  | none => trivial
  | some c => exact ok a c (List.mem_of_getElem? hk)

def Safe (top : Nat → Nat) (s : Slice) : Prop := s.len < s.cap → top s.arr ≤ s.len

/-- where the result of an append-like operation on `s` lives: still on `s`'s array (unchanged header, or
    extended in place, which was safe), or on an array allocated by the operation -/
def Placed (h : Arrs) (s s' : Slice) : Prop :=
  (s'.arr = s.arr ∧ s'.cap = s.cap ∧ (s' = s ∨ (s.len < s.cap ∧ s.len < s'.len))) ∨ h.length ≤ s'.arr

/-- the common postcondition of `append`, `NodeList.Append` and its loop -/
structure AppRes (top : Nat → Nat) (n : Nat) (h : Arrs) (s : Slice) (h' : Arrs) (s' : Slice) : Prop where
  frame : FrameA top h h'
  swf : SWF h' s'
  safe : Safe top s'
  ok : CellsOK n h'
  placed : Placed h s s'
  pos : 0 < s.len → 0 < s'.len

theorem view_length {h : Arrs} {s : Slice} (w : SWF h s) : (view h s).length = s.len := by
  rw [view, List.length_take]
  have := w.1
  rcases w.2 with h0 | ⟨_, h2⟩ <;> omega

theorem sliceAppend_spec (grow : Nat → Nat) (top : Nat → Nat) (n : Nat) (h : Arrs) (s : Slice) (v : Handle)
    (w : SWF h s) (sf : Safe top s) (tz : ∀ a, h.length ≤ a → top a = 0) (ok : CellsOK n h) (hv : CellOK n v) :
    AppRes top n h s (sliceAppend grow h s v).1 (sliceAppend grow h s v).2 := by
  unfold sliceAppend
  by_cases hlt : s.len < s.cap
  · rw [if_pos hlt]
    rcases w.2 with h0 | ⟨w1, w2⟩
    · omega
    have fr := frameA_write top h s.arr s.len v (sf hlt)
    refine ⟨fr, ⟨Nat.succ_le_of_lt hlt, Or.inr ⟨Nat.lt_of_lt_of_le w1 fr.1, ?_⟩⟩, ?_, cellsOK_write ok _ _ _ hv,
      Or.inl ⟨rfl, rfl, Or.inr ⟨hlt, Nat.lt_succ_self _⟩⟩, fun _ => Nat.succ_pos _⟩
    · show s.cap ≤ (cells (writeCell h s.arr s.len v) s.arr).length
      rw [fr.2.1 s.arr w1]; exact w2
    · intro _
      exact Nat.le_succ_of_le (sf hlt)
  · rw [if_neg hlt]
    have hvl := view_length w
    refine ⟨frameA_append top h _ tz, ⟨Nat.le_max_right _ _, Or.inr ⟨?_, ?_⟩⟩, ?_, ?_, Or.inr (Nat.le_refl _),
      fun _ => Nat.succ_pos _⟩
    · show h.length < (h ++ [_]).length
      rw [List.length_append]; exact Nat.lt_succ_self _
    · show max (grow s.cap) (s.len + 1) ≤ (cells (h ++ [_]) h.length).length
      rw [cells_append_eq, List.length_append, List.length_append, hvl, List.length_replicate, List.length_singleton]
      omega
    · intro _
      show top h.length ≤ s.len + 1
      rw [tz h.length (Nat.le_refl _)]; exact Nat.zero_le _
    · apply cellsOK_append ok
      intro x hx
      simp only [List.mem_append, List.mem_singleton, List.mem_replicate] at hx
      rcases hx with (hx | hx) | hx
      · exact view_cellOK ok s x hx
      · subst hx; exact hv
      · rw [hx.2]; trivial

theorem AppRes.refl {top : Nat → Nat} {n : Nat} {h : Arrs} {s : Slice} (w : SWF h s) (sf : Safe top s)
    (ok : CellsOK n h) : AppRes top n h s h s :=
  ⟨FrameA.refl _ _, w, sf, ok, Or.inl ⟨rfl, rfl, Or.inl rfl⟩, id⟩

theorem AppRes.trans {top : Nat → Nat} {n : Nat} {h1 h2 h3 : Arrs} {s1 s2 s3 : Slice}
    (a : AppRes top n h1 s1 h2 s2) (b : AppRes top n h2 s2 h3 s3) : AppRes top n h1 s1 h3 s3 := by
  refine ⟨a.frame.trans b.frame, b.swf, b.safe, b.ok, ?_, fun hp => b.pos (a.pos hp)⟩
  have hl := a.frame.1
  rcases b.placed with ⟨b1, b2, b4⟩ | b5
  · rcases a.placed with ⟨a1, a2, a4⟩ | a5
    · refine Or.inl ⟨by rw [b1, a1], by rw [b2, a2], ?_⟩
      rcases a4 with a4 | a4
      · subst a4
        exact b4
      · rcases b4 with b4 | b4
        · subst b4; exact Or.inr a4
        · exact Or.inr ⟨a4.1, by omega⟩
    · exact Or.inr (by rw [b1]; exact a5)
  · exact Or.inr (by omega)

theorem nlAppend1_spec (grow : Nat → Nat) (top : Nat → Nat) (n : Nat) (h : Arrs) (s : Slice) (v : Handle)
    (w : SWF h s) (sf : Safe top s) (tz : ∀ a, h.length ≤ a → top a = 0) (ok : CellsOK n h) (hv : CellOK n v) :
    AppRes top n h s (nlAppend1 grow h s v).1 (nlAppend1 grow h s v).2 := by
  unfold nlAppend1
  split
  · split
    · exact AppRes.refl w sf ok
    · exact sliceAppend_spec grow top n h s _ w sf tz ok hv
  · exact sliceAppend_spec grow top n h s _ w sf tz ok hv

theorem sliceAppend_view (grow : Nat → Nat) (h : Arrs) (s : Slice) (v : Handle) (w : SWF h s) :
    view (sliceAppend grow h s v).1 (sliceAppend grow h s v).2 = view h s ++ [v] := by
  unfold sliceAppend
  by_cases hlt : s.len < s.cap
  · rw [if_pos hlt]
    rcases w.2 with h0 | ⟨w1, w2⟩
    · omega
    have hl : s.len < (cells h s.arr).length := by omega
    show List.take (s.len + 1) (cells (writeCell h s.arr s.len v) s.arr) = List.take s.len (cells h s.arr) ++ [v]
    rw [cells_writeCell, if_pos rfl, List.take_add_one, List.take_set_of_le (Nat.le_refl _), List.getElem?_set_self hl]
    rfl
  · rw [if_neg hlt]
    have hv := view_length w
    show List.take (s.len + 1) (cells (h ++ [_]) h.length) = view h s ++ [v]
    rw [cells_append_eq, List.take_append_of_le_length (by simp only [List.length_append, hv, List.length_singleton]; omega),
      List.take_of_length_le (by simp only [List.length_append, hv, List.length_singleton]; omega)]

theorem nlAppend1_mem (grow : Nat → Nat) (h : Arrs) (s : Slice) (v : Handle) (w : SWF h s) :
    ∀ x ∈ view (nlAppend1 grow h s v).1 (nlAppend1 grow h s v).2, x ∈ view h s ∨ x = v := by
  have happ : ∀ x ∈ view (sliceAppend grow h s v).1 (sliceAppend grow h s v).2, x ∈ view h s ∨ x = v := by
    rw [sliceAppend_view grow h s v w]; simp
  unfold nlAppend1
  split
  · split
    · exact fun x hx => Or.inl hx
    · exact happ
  · exact happ

theorem getD_mem_view {h : Arrs} {src : Slice} {k : Nat} (hk : k < (view h src).length) :
    (cells h src.arr).getD k Handle.nil ∈ view h src := by
  have h1 : k < src.len ∧ k < (cells h src.arr).length := by
    simp only [view, List.length_take] at hk; omega
  apply List.mem_of_getElem? (i := k)
  simp only [view, List.getElem?_take, if_pos h1.1, List.getD_eq_getElem?_getD]
  rw [List.getElem?_eq_getElem h1.2]; rfl

/-- the loop of `NodeList.Append` over a list: the common postcondition, and if the source is under the bound (so that
    the loop reads what the source showed at the start) the result shows nothing that was not shown before -/
theorem nlAppendLoop_spec (grow : Nat → Nat) (top : Nat → Nat) (n : Nat) (src : Slice) :
    ∀ (cnt k : Nat) (h : Arrs) (s : Slice), SWF h s → Safe top s → (∀ a, h.length ≤ a → top a = 0) → CellsOK n h →
      AppRes top n h s (nlAppendLoop grow src cnt k h s).1 (nlAppendLoop grow src cnt k h s).2 ∧
      (src.len ≤ top src.arr → k + cnt ≤ (view h src).length →
        ∀ x ∈ view (nlAppendLoop grow src cnt k h s).1 (nlAppendLoop grow src cnt k h s).2, x ∈ view h s ∨ x ∈ view h src) := by
  intro cnt
  induction cnt with
  | zero => intro k h s w sf tz ok; exact ⟨AppRes.refl w sf ok, fun _ _ x hx => Or.inl hx⟩
  | succ cnt ih =>
    intro k h s w sf tz ok
    simp only [nlAppendLoop]
    have hc := getD_cellOK ok src.arr k
    have r1 := nlAppend1_spec grow top n h s _ w sf tz ok hc
    obtain ⟨r2, v2⟩ := ih (k + 1) _ _ r1.swf r1.safe (fun a ha => tz a (by have := r1.frame.1; omega)) r1.ok
    refine ⟨r1.trans r2, fun hsrc hk x hx => ?_⟩
    have hv1 := r1.frame.view_eq src hsrc
    rcases v2 hsrc (by rw [hv1]; omega) x hx with h1 | h1
    · rcases nlAppend1_mem grow h s _ w x h1 with h2 | h2
      · exact Or.inl h2
      · exact Or.inr (h2 ▸ getD_mem_view (by omega))
    · exact Or.inr (hv1 ▸ h1)

theorem nlAppend_spec (grow : Nat → Nat) (top : Nat → Nat) (n : Nat) (h : Arrs) (s : Slice) (v : Handle)
    (w : SWF h s) (sf : Safe top s) (tz : ∀ a, h.length ≤ a → top a = 0) (ok : CellsOK n h)
    (hv : (∀ sl, v ≠ Handle.list sl) → CellOK n v) :
    AppRes top n h s (nlAppend grow h s v).1 (nlAppend grow h s v).2 ∧
    (Handle.nil ∉ view h s → v ≠ Handle.nil →
      (∀ src, v = Handle.list src → SWF h src ∧ src.len ≤ top src.arr ∧ Handle.nil ∉ view h src) →
      Handle.nil ∉ view (nlAppend grow h s v).1 (nlAppend grow h s v).2) := by
  unfold nlAppend
  split
  · rename_i src
    obtain ⟨r, m⟩ := nlAppendLoop_spec grow top n src src.len 0 h s w sf tz ok
    refine ⟨r, fun hn _ hsrc hx => ?_⟩
    obtain ⟨ws, ht, hns⟩ := hsrc src rfl
    exact (m ht (by rw [view_length ws]; omega) _ hx).elim hn hns
  · rename_i hne
    refine ⟨nlAppend1_spec grow top n h s v w sf tz ok (hv (fun sl e => hne sl e)), fun hn hv _ hx => ?_⟩
    exact (nlAppend1_mem grow h s v w _ hx).elim hn (fun e => hv e.symm)

theorem flatMap_congr' {α β : Type} {l : List α} {f g : α → List β} (h : ∀ x ∈ l, f x = g x) :
    l.flatMap f = l.flatMap g := by
  rw [List.flatMap_def, List.flatMap_def, List.map_congr_left h]

theorem table_length (s : St) : (table s).length = s.nodes.length := build_length _ _

structure Agree (s s' : St) (good : Nat → Prop) : Prop where
  lt : ∀ n, good n → n < s.nodes.length ∧ n < s'.nodes.length
  node : ∀ n, good n → s'.nodes[n]? = s.nodes[n]?
  view : ∀ n tok sl pos rpos, good n → s.nodes[n]? = some (.nt tok sl pos rpos) → view s'.arrs sl = view s.arrs sl
  child : ∀ n tok sl pos rpos m, good n → s.nodes[n]? = some (.nt tok sl pos rpos) →
    Handle.ptr m ∈ PV.Slice.view s.arrs sl → m < n → good m

theorem table_agree {s s' : St} {good : Nat → Prop} (ag : Agree s s' good) :
    ∀ n, good n → (table s')[n]? = (table s)[n]? := by
  intro n hg
  unfold table
  apply build_agree (renderNode s'.nodes s'.arrs) (renderNode s.nodes s.arrs) good ?_ n _ _ (ag.lt n hg).2 (ag.lt n hg).1 hg
  intro n hg t t' hl hl' hag
  unfold renderNode
  rw [ag.node n hg]
  cases hn : s.nodes[n]? with
  | none => rfl
  | some o =>
    cases o with
    | term tok val pos rpos => rfl
    | nt tok sl pos rpos =>
      simp only
      rw [ag.view n tok sl pos rpos hg hn]
      congr 2
      apply flatMap_congr'
      intro c hc
      cases c with
      | ptr m =>
        simp only [renderCell, List.getD_eq_getElem?_getD]
        by_cases hm : m < n
        · rw [hag m hm (ag.child n tok sl pos rpos m hg hn hc hm)]
        · rw [List.getElem?_eq_none (by omega), List.getElem?_eq_none (by omega)]
      | _ => rfl

def GoodH (s : St) (good : Nat → Prop) : Handle → Prop
  | .ptr m => good m
  | .list sl => ∀ m, Handle.ptr m ∈ view s.arrs sl → good m
  | _ => True

theorem render_agree {s s' : St} {good : Nat → Prop} (ag : Agree s s' good) (h : Handle) (gh : GoodH s good h)
    (hv : ∀ sl, h = Handle.list sl → view s'.arrs sl = view s.arrs sl) : render s' h = render s h := by
  unfold render
  cases h with
  | ptr m =>
    simp only [renderWith, renderCell, List.getD_eq_getElem?_getD]
    rw [table_agree ag m gh]
  | list sl =>
    simp only [renderWith]
    rw [hv sl rfl]
    congr 2
    apply flatMap_congr'
    intro c hc
    cases c with
    | ptr m =>
      simp only [renderCell, List.getD_eq_getElem?_getD]
      rw [table_agree ag m (gh m hc)]
    | _ => rfl
  | _ => rfl

/-- a well-formed handle: a list is non-empty, without nil element, and wholly under the bound of its array -/
def HWF (s : St) (top : Nat → Nat) : Handle → Prop
  | .ptr m => m < s.nodes.length
  | .list sl => SWF s.arrs sl ∧ 0 < sl.len ∧ sl.len ≤ top sl.arr ∧ Handle.nil ∉ view s.arrs sl
  | _ => True

def NodesWF (s : St) (top : Nat → Nat) : Prop :=
  ∀ (n tok : Nat) (sl : Slice) (pos rpos : Nat), s.nodes[n]? = some (NodeObj.nt tok sl pos rpos) → SWF s.arrs sl ∧ sl.len ≤ top sl.arr

def StFrame (top : Nat → Nat) (s s' : St) : Prop :=
  (∃ l, s'.nodes = s.nodes ++ l) ∧ FrameA top s.arrs s'.arrs

theorem StFrame.agree {top : Nat → Nat} {s s' : St} (fr : StFrame top s s') (nw : NodesWF s top)
    (ok : CellsOK s.nodes.length s.arrs) : Agree s s' (fun n => n < s.nodes.length) := by
  obtain ⟨⟨l, hl⟩, fa⟩ := fr
  refine ⟨fun n hn => ⟨hn, by rw [hl]; simp; omega⟩, fun n hn => ?_, fun n tok sl pos rpos hn hs => ?_,
    fun n tok sl pos rpos m _ _ hm _ => ?_⟩
  · rw [hl, List.getElem?_append_left hn]
  · exact fa.view_eq sl (nw n tok sl pos rpos hs).2
  · exact view_cellOK ok sl _ hm

theorem render_frame {top : Nat → Nat} {s s' : St} (fr : StFrame top s s') (nw : NodesWF s top)
    (ok : CellsOK s.nodes.length s.arrs) (h : Handle) (hw : HWF s top h) : render s' h = render s h := by
  apply render_agree (fr.agree nw ok) h
  · cases h with
    | ptr m => exact hw
    | list sl => intro m hm; exact view_cellOK ok sl _ hm
    | _ => trivial
  · intro sl hsl
    subst hsl
    exact fr.2.view_eq sl hw.2.2.1

end PV.Slice
