/-
  Lemmas for property C10: the whitespace verdict in the property's vocabulary (`wsOk`, `wsFail`); `run` on a
  decorated parser (`run_deco`: every decoration, exact fuel) and on a decorated terminal (`run_deco_term`: the whole
  answer as `Deco.out` of what the terminal answers); what `Deco.out` is when the sides accept or reject, as facts
  about that function alone; SetReaderPos on a single node; the token-sequence induction over `seqParse`.
-/
import ParsleyVerif.Spec.TrimSpec
import ParsleyVerif.Proofs.TermProgram
import ParsleyVerif.Proofs.RunEqns
namespace PV
open PV.Text

/-- the driver's work budget does not stop this call (`maxCalls = 0` = no budget) -/
def Budget (cfg : Cfg) (st : St) : Prop := cfg.maxCalls = 0 ∨ st.calls ≤ cfg.maxCalls

theorem budget_guard {cfg : Cfg} {st : St} (h : Budget cfg st) : ¬ (cfg.maxCalls ≠ 0 ∧ st.calls > cfg.maxCalls) := by
  unfold Budget at h; omega

theorem wsVerdict_ok (m : WsMode) (pos : Nat) (ws : Bytes) (h : wsOk m ws) : wsVerdict m pos ws = none := by
  cases m <;> simp only [wsOk] at h <;> simp only [wsVerdict]
  · rw [if_neg (by omega)]
  · rw [h]
  · cases hb : firstBreak ws with
    | none => exact absurd hb h
    | some i => rfl

theorem wsVerdict_fail (m : WsMode) (pos : Nat) (ws : Bytes) (h : ¬ wsOk m ws) :
    wsToErr (wsVerdict m pos ws) = some (wsFail m pos ws) := by
  cases m <;> simp only [wsOk] at h <;> simp only [wsVerdict, wsFail]
  · rw [if_pos (by omega)]; rfl
  · cases hb : firstBreak ws with
    | none => exact absurd hb h
    | some i => rfl
  · exact absurd trivial h
  · cases hb : firstBreak ws with
    | none => rfl
    | some i => rw [hb] at h; simp at h

theorem wsToErr_verdict (m : WsMode) (pos : Nat) (ws : Bytes) :
    wsToErr (wsVerdict m pos ws) = if wsOk m ws then none else some (wsFail m pos ws) := by
  by_cases h : wsOk m ws
  · rw [if_pos h, wsVerdict_ok m pos ws h]; rfl
  · rw [if_neg h, wsVerdict_fail m pos ws h]

theorem wsFail_pos_ge (m : WsMode) (p : Nat) (ws : Bytes) : p ≤ (wsFail m p ws).pos := by
  cases m with
  | none | spacesNl => exact Nat.le_refl _
  | spaces | forceNl => exact Nat.le_add_right _ _

theorem wsFail_isWs (m : WsMode) (pos : Nat) (ws : Bytes) : (wsFail m pos ws).kind.isWs = true := by
  cases m <;> rfl

theorem inFile_ws (f : File) (pos : Nat) (h : InFile f pos) : InFile f (pos + wsRun (rest f pos)) :=
  inFile_advance h (wsRun_le _)

theorem run_term (cfg : Cfg) (fuel : Nat) (t : Terminal) (ctx : Ctx) (pos : Nat) (st : St) (hb : Budget cfg st) :
    run cfg (fuel + 1) (.term t) ctx pos st =
      match t.parse cfg.params cfg.file pos with
      | .node n => some (⟨.one n, [], none⟩, st)
      | .err e => some (⟨.nil, [], some e⟩, st.logEv cfg (.termFail e.pos e.kind))
      | .panic site => some (⟨.nil, [], some ⟨pos, .panic (tokOf site)⟩⟩, st) := by
  rw [run_succ, if_neg (budget_guard hb)]
  simp only [runStep, termStep]
  cases t.parse cfg.params cfg.file pos <;> rfl

/-- LeftTrim's verdict on the operand's outcome: `ltrimOut` (the `if err != nil { … }` cascade of trim.go) with the
    position after the run and the mode's error, if the run violates the mode -/
def ltrimAt (f : File) (pos : Nat) (m : WsMode) (o : Out) : Out :=
  ltrimOut pos (pos + wsRun (rest f pos)) (if wsOk m (rest f pos) then none else some (wsFail m pos (rest f pos))) o

theorem run_ltrim_out (cfg : Cfg) (fuel : Nat) (g : G) (m : WsMode) (ctx : Ctx) (pos : Nat) (st : St)
    (hb : Budget cfg st) (hin : InFile cfg.file pos) (hoff : 1 ≤ cfg.file.offset) :
    run cfg (fuel + 1) (.ltrim g m) ctx pos st =
      match run cfg fuel g ctx (pos + wsRun (rest cfg.file pos)) st with
      | none => none
      | some (o, st') => some (ltrimAt cfg.file pos m o, st') := by
  rw [run_wrap cfg fuel _ _ ctx pos st rfl, if_neg (budget_guard hb)]
  simp only [skipWhitespaces_spec cfg.file pos m hin hoff, wsToErr_verdict]
  cases run cfg fuel g ctx (pos + wsRun (rest cfg.file pos)) st <;> rfl

theorem ltrimAt_res (f : File) (pos : Nat) (m : WsMode) (res : Res) (cp : List Nat) :
    ltrimAt f pos m ⟨res, cp, none⟩ =
      if wsOk m (rest f pos) then ⟨res, cp, none⟩ else ⟨.nil, [], some (wsFail m pos (rest f pos))⟩ := by
  unfold ltrimAt
  by_cases h : wsOk m (rest f pos)
  · rw [if_pos h, if_pos h]; rfl
  · rw [if_neg h, if_neg h]; rfl

theorem ltrimAt_err (f : File) (pos : Nat) (m : WsMode) (res : Res) (cp : List Nat) (e : Err) :
    ltrimAt f pos m ⟨res, cp, some e⟩ =
      if wsOk m (rest f pos) then ⟨res, cp, some e⟩
      else if e.pos > pos + wsRun (rest f pos) then ⟨.nil, [], some (wsFail m pos (rest f pos))⟩
      else if e.kind.isNotFound then ⟨res, cp, some ⟨pos, e.kind⟩⟩
      else ⟨res, cp, some e⟩ := by
  unfold ltrimAt
  by_cases h : wsOk m (rest f pos)
  · rw [if_pos h, if_pos h]; rfl
  · rw [if_neg h, if_neg h]; rfl

theorem run_rtrim_out (cfg : Cfg) (fuel : Nat) (g : G) (m : WsMode) (ctx : Ctx) (pos : Nat) (st : St) (hb : Budget cfg st) :
    run cfg (fuel + 1) (.rtrim g m) ctx pos st =
      match run cfg fuel g ctx pos st with
      | none => none
      | some (o, st') => some (rtrimOut cfg.file m o, st') :=
  (run_wrap cfg fuel _ _ ctx pos st rfl).trans (if_neg (budget_guard hb))

/-- ast.SetReaderPos on a single TerminalNode: only its end moves, past the run, if the mode accepts the run -/
theorem rtrimOut_term (f : File) (m : WsMode) (tok : Bytes) (v : Val) (p r : Nat) (cp : List Nat)
    (hin : InFile f r) (hoff : 1 ≤ f.offset) :
    rtrimOut f m ⟨.one (.term tok v p r), cp, none⟩ =
      if wsOk m (rest f r) then ⟨.one (.term tok v p (r + wsRun (rest f r))), cp, none⟩
      else ⟨.nil, [], some (wsFail m r (rest f r))⟩ := by
  simp only [rtrimOut, setRposRes, setRposNode, skipWhitespaces_spec f r m hin hoff, wsToErr_verdict]
  by_cases h : wsOk m (rest f r)
  · simp only [if_pos h]
  · simp only [if_neg h]

theorem rtrimOut_err (f : File) (m : WsMode) (res : Res) (cp : List Nat) (e : Err)
    (hin : e.kind.isWs = false → InFile f e.pos) (hoff : 1 ≤ f.offset) :
    rtrimOut f m ⟨res, cp, some e⟩ =
      ⟨res, cp, some (if e.kind.isWs then e else ⟨e.pos + wsRun (rest f e.pos), e.kind⟩)⟩ := by
  cases hw : e.kind.isWs with
  | true => simp only [rtrimOut, hw, Bool.not_true, Bool.false_and, Bool.false_eq_true, if_false, if_true]
  | false =>
    simp only [rtrimOut, skipWhitespaces_spec f e.pos m (hin hw) hoff, hw, Bool.not_false, Bool.true_and,
      decide_eq_true_eq, Bool.false_eq_true, if_false]
    by_cases h : wsRun (rest f e.pos) = 0
    · simp only [h, Nat.add_zero, gt_iff_lt, Nat.lt_irrefl, if_false]
    · rw [if_pos (Nat.lt_add_of_pos_right (Nat.pos_of_ne_zero h))]

theorem rtrimOut_wsErr (f : File) (m : WsMode) (res : Res) (cp : List Nat) (e : Err) (hoff : 1 ≤ f.offset)
    (hw : e.kind.isWs = true) : rtrimOut f m ⟨res, cp, some e⟩ = ⟨res, cp, some e⟩ := by
  rw [rtrimOut_err f m res cp e (fun h => absurd (hw.symm.trans h) Bool.noConfusion) hoff, if_pos hw]

def Deco.out (f : File) (pos : Nat) : Deco → Out → Out
  | .bare, o => o
  | .l m, o => ltrimAt f pos m o
  | .r m, o => rtrimOut f m o
  | .lr lm rm, o => ltrimAt f pos lm (rtrimOut f rm o)
  | .rl lm rm, o => rtrimOut f rm (ltrimAt f pos lm o)

def Deco.depth : Deco → Nat
  | .bare => 0 | .l _ => 1 | .r _ => 1 | .lr _ _ => 2 | .rl _ _ => 2

theorem Deco.depth_le : ∀ d : Deco, d.depth ≤ 2
  | .bare => Nat.zero_le 2 | .l _ => Nat.le_succ 1 | .r _ => Nat.le_succ 1
  | .lr _ _ => Nat.le_refl 2 | .rl _ _ => Nat.le_refl 2

/-- **every decoration, every operand, exact fuel**: `d.apply g` costs `d.depth` more than `g`, asks `g` after the
    leading run if it trims on the left, and applies `Deco.out` to the answer.  (No hypothesis on `g`; `InFile pos`
    only if there is a left trim.) -/
theorem run_deco (cfg : Cfg) (d : Deco) (g : G) (ctx : Ctx) (pos : Nat) (st : St) (F : Nat)
    (hb : Budget cfg st) (hin : ∀ lm, d.left = some lm → InFile cfg.file pos) (hoff : 1 ≤ cfg.file.offset) :
    run cfg (F + d.depth) (d.apply g) ctx pos st =
      match run cfg F g ctx (pos + (match d.left with | some _ => wsRun (rest cfg.file pos) | none => 0)) st with
      | none => none
      | some (o, st') => some (d.out cfg.file pos o, st') := by
  cases d <;> dsimp only [Deco.left, Nat.add_zero]
  case bare => show run cfg F g ctx pos st = _; cases run cfg F g ctx pos st <;> rfl
  case l m => exact run_ltrim_out cfg F g m ctx pos st hb (hin m rfl) hoff
  case r m => exact run_rtrim_out cfg F g m ctx pos st hb
  case lr lm rm =>
    refine (run_ltrim_out cfg (F + 1) _ lm ctx pos st hb (hin lm rfl) hoff).trans ?_
    rw [run_rtrim_out cfg F g rm ctx _ st hb]
    cases run cfg F g ctx (pos + wsRun (rest cfg.file pos)) st <;> rfl
  case rl lm rm =>
    refine (run_rtrim_out cfg (F + 1) _ rm ctx pos st hb).trans ?_
    rw [run_ltrim_out cfg F g lm ctx pos st hb (hin lm rfl) hoff]
    cases run cfg F g ctx (pos + wsRun (rest cfg.file pos)) st <;> rfl

/-- **one run of a decorated terminal**, the whole answer, as a function of what the terminal answers at the position it is
    asked (`a`): for every decoration, at every fuel that suffices -/
theorem run_deco_term (cfg : Cfg) (d : Deco) (t : Terminal) (ctx : Ctx) (pos : Nat) (st : St) (fuel : Nat) (a : TermOut)
    (hf : d.depth + 1 ≤ fuel) (hb : Budget cfg st)
    (hin : ∀ lm, d.left = some lm → InFile cfg.file pos) (hoff : 1 ≤ cfg.file.offset)
    (htok : t.parse cfg.params cfg.file
      (pos + (match d.left with | some _ => wsRun (rest cfg.file pos) | none => 0)) = a) :
    run cfg fuel (d.apply (.term t)) ctx pos st =
      match (generalizing := false) a with
      | .node n => some (d.out cfg.file pos ⟨.one n, [], none⟩, st)
      | .err e => some (d.out cfg.file pos ⟨.nil, [], some e⟩, st.logEv cfg (.termFail e.pos e.kind))
      | .panic site => some (d.out cfg.file pos ⟨.nil, [],
          some ⟨pos + (match d.left with | some _ => wsRun (rest cfg.file pos) | none => 0), .panic (tokOf site)⟩⟩, st) := by
  obtain ⟨F, rfl⟩ : ∃ F, fuel = F + 1 + d.depth := ⟨fuel - (d.depth + 1), by omega⟩
  rw [run_deco cfg d (.term t) ctx pos st (F + 1) hb hin hoff, run_term cfg F t ctx _ st hb, htok]
  cases a <;> rfl

theorem ltrimAt_ok (f : File) (pos : Nat) (m : WsMode) (o : Out) (h : wsOk m (rest f pos)) : ltrimAt f pos m o = o := by
  unfold ltrimAt; rw [if_pos h]; rcases o with ⟨res, cp, _ | e⟩ <;> rfl

theorem Deco.out_left_ok (f : File) (pos : Nat) (d : Deco) (o : Out)
    (hl : ∀ lm, d.left = some lm → wsOk lm (rest f pos)) :
    d.out f pos o = match d.right with | some rm => rtrimOut f rm o | none => o := by
  cases d with
  | bare => rfl
  | r m => rfl
  | l m => exact ltrimAt_ok f pos m o (hl m rfl)
  | lr lm rm => exact ltrimAt_ok f pos lm _ (hl lm rfl)
  | rl lm rm => exact congrArg (rtrimOut f rm) (ltrimAt_ok f pos lm o (hl lm rfl))

theorem Deco.out_accept (f : File) (pos : Nat) (d : Deco) (tok : Bytes) (v : Val) (p r : Nat) (cp : List Nat)
    (hoff : 1 ≤ f.offset)
    (hl : ∀ lm, d.left = some lm → wsOk lm (rest f pos))
    (hr : ∀ rm, d.right = some rm → InFile f r ∧ wsOk rm (rest f r)) :
    d.out f pos ⟨.one (.term tok v p r), cp, none⟩ =
      ⟨.one (.term tok v p (r + (match d.right with | some _ => wsRun (rest f r) | none => 0))), cp, none⟩ := by
  rw [Deco.out_left_ok f pos d _ hl]
  cases hd : d.right with
  | none => rfl
  | some rm => exact (rtrimOut_term f rm tok v p r cp (hr rm hd).1 hoff).trans (if_pos (hr rm hd).2)

theorem Deco.out_reject_left (f : File) (pos : Nat) (d : Deco) (lm : WsMode) (tok : Bytes) (v : Val) (p r : Nat)
    (hoff : 1 ≤ f.offset) (hd : d.left = some lm) (hok : ¬ wsOk lm (rest f pos))
    (hlr : ∀ rm, d = .lr lm rm → InFile f r ∧ (pos + wsRun (rest f pos) < r ∨ wsOk rm (rest f r))) :
    d.out f pos ⟨.one (.term tok v p r), [], none⟩ = ⟨.nil, [], some (wsFail lm pos (rest f pos))⟩ := by
  cases d <;> cases hd
  case l => rw [Deco.out, ltrimAt_res, if_neg hok]
  case rl rm => rw [Deco.out, ltrimAt_res, if_neg hok, rtrimOut_wsErr _ rm _ _ _ hoff (wsFail_isWs _ _ _)]
  case lr rm =>
    obtain ⟨hinr, hcase⟩ := hlr rm rfl
    rw [Deco.out, rtrimOut_term _ rm tok v _ r [] hinr hoff]
    by_cases hokr : wsOk rm (rest f r)
    · rw [if_pos hokr, ltrimAt_res, if_neg hok]
    · -- the right mode's error lies at or after the token's end, beyond the position LeftTrim skipped to
      have hpos : (wsFail rm r (rest f r)).pos > pos + wsRun (rest f pos) :=
        Nat.lt_of_lt_of_le (hcase.resolve_right hokr) (wsFail_pos_ge rm r _)
      rw [if_neg hokr, ltrimAt_err, if_neg hok, if_pos hpos]

theorem Deco.out_reject_right (f : File) (pos : Nat) (d : Deco) (rm : WsMode) (tok : Bytes) (v : Val) (p r : Nat)
    (hinr : InFile f r) (hoff : 1 ≤ f.offset) (hd : d.right = some rm)
    (hl : ∀ lm, d.left = some lm → wsOk lm (rest f pos)) (hok : ¬ wsOk rm (rest f r)) :
    d.out f pos ⟨.one (.term tok v p r), [], none⟩ = ⟨.nil, [], some (wsFail rm r (rest f r))⟩ := by
  rw [Deco.out_left_ok f pos d _ hl, hd]
  exact (rtrimOut_term f rm tok v p r [] hinr hoff).trans (if_neg hok)

/-- whatever follows does not continue a whitespace run -/
def Stop (tail : Bytes) : Prop := ∀ c, tail.head? = some c → isWs c = false

theorem wsRun_all (g : Bytes) (hg : ∀ b ∈ g, isWs b = true) : wsRun g = g.length := by
  have := wsRun_append g [] hg (fun _ h => nomatch h)
  rwa [List.append_nil] at this

theorem firstBreak_append (g tail : Bytes) (hg : ∀ b ∈ g, isWs b = true) (ht : Stop tail) :
    firstBreak (g ++ tail) = firstBreak g := by
  induction g with
  | nil =>
    cases tail with
    | nil => rfl
    | cons c t =>
      have := ht c rfl
      simp [firstBreak, this]
  | cons b r ih =>
    have hb := hg b (by simp)
    have := ih (fun x hx => hg x (by simp [hx]))
    simp only [List.cons_append, firstBreak, hb, if_true, this]

theorem wsOk_append (m : WsMode) (g tail : Bytes) (hg : ∀ b ∈ g, isWs b = true) (ht : Stop tail) :
    wsOk m (g ++ tail) ↔ wsOk m g := by
  have h1 := wsRun_append g tail hg ht
  have h2 := firstBreak_append g tail hg ht
  have h3 := wsRun_all g hg
  cases m <;> simp only [wsOk, h1, h2, h3]

/-- the input after the leading whitespace -/
def body : List Tok → Bytes
  | [] => []
  | t :: r => t.ch :: (t.gap ++ body r)

theorem weave_eq (g0 : Bytes) (toks : List Tok) : weave g0 toks = g0 ++ body toks := by
  induction toks generalizing g0 with
  | nil => simp [weave, body]
  | cons t r ih => simp [weave, body, ih]

theorem body_stop (toks : List Tok) (hwf : ∀ t ∈ toks, t.wf) : Stop (body toks) := by
  intro c hc
  cases toks with
  | nil => simp [body] at hc
  | cons t r =>
    simp only [body, List.head?_cons, Option.some.injEq] at hc
    subst hc
    exact (hwf t (by simp)).2.1

theorem stop_cons (c : Nat) (l : Bytes) (h : isWs c = false) : Stop (c :: l) := by
  intro x hx; simp at hx; subst hx; exact h


theorem rune_parse (P : Params) (f : File) (ch : Nat) (name : Bytes) (p : Nat) (tl : Bytes)
    (hch : ch < 0x80) (hin : InFile f p) (hrest : rest f p = ch :: tl) :
    (Terminal.rune ch name).parse P f p = .node (.term (Utf8.encodeRune ch) (.rune ch) p (p + 1)) := by
  simp only [Terminal.parse, readRune_ascii f p ch hin hch, hrest, List.head?_cons, if_true]

/-- the end of the node of token `t` standing `pend` after `pos`: past its gap exactly when it is right-trimmed -/
def Tok.stop (t : Tok) (pos : Nat) (pend : Bytes) : Nat :=
  pos + pend.length + 1 + (match t.d.right with | some _ => t.gap.length | none => 0)

/-- the whitespace between that end and the next token -/
def Tok.pend (t : Tok) : Bytes :=
  match t.d.right with | some _ => [] | none => t.gap

/-- a decorated single-byte token in front of `pend ++ ch :: gap ++ tail`: its node, and where and in front of what
    the parser stands after it -/
theorem tok_step (cfg : Cfg) (t : Tok) (pend tail : Bytes) (ctx : Ctx) (pos : Nat) (st : St) (F : Nat)
    (hwf : t.wf) (hp : ∀ b ∈ pend, isWs b = true)
    (htail : Stop tail) (hrest : rest cfg.file pos = pend ++ t.ch :: (t.gap ++ tail))
    (hin : InFile cfg.file pos) (hoff : 1 ≤ cfg.file.offset) (hb : Budget cfg st)
    (hl : match t.d.left with | some m => wsOk m pend | none => pend = [])
    (hr : match t.d.right with | some m => wsOk m t.gap | none => True) :
    run cfg (F + 3) t.g ctx pos st =
      some (⟨.one (.term (Utf8.encodeRune t.ch) (.rune t.ch) (pos + pend.length) (t.stop pos pend)), [], none⟩, st) ∧
    InFile cfg.file (t.stop pos pend) ∧ rest cfg.file (t.stop pos pend) = t.pend ++ tail := by
  obtain ⟨hch, hnw, hg⟩ := hwf
  have hstop : Stop (t.ch :: (t.gap ++ tail)) := stop_cons t.ch _ hnw
  have hk : wsRun (rest cfg.file pos) = pend.length := by rw [hrest]; exact wsRun_append pend _ hp hstop
  have hinP : InFile cfg.file (pos + pend.length) :=
    inFile_advance hin (by rw [hrest, List.length_append]; exact Nat.le_add_right _ _)
  have hrestP : rest cfg.file (pos + pend.length) = t.ch :: (t.gap ++ tail) := by
    rw [rest_advance hin, hrest, List.drop_left]
  have hinR : InFile cfg.file (pos + pend.length + 1) :=
    inFile_advance hinP (by rw [hrestP]; exact Nat.le_add_left _ _)
  have hrestR : rest cfg.file (pos + pend.length + 1) = t.gap ++ tail := by
    rw [rest_advance hinP, hrestP]; rfl
  have hskip : pos + (match t.d.left with | some _ => wsRun (rest cfg.file pos) | none => 0) = pos + pend.length := by
    cases hd : t.d.left with
    | some m => rw [hk]
    | none => rw [hd] at hl; rw [hl]; rfl
  refine ⟨?_, ?_⟩
  · refine (run_deco_term cfg t.d _ ctx pos st (F + 3) (.node (.term _ _ _ _))
      (Nat.succ_le_succ (Nat.le_trans t.d.depth_le (Nat.le_add_left 2 F))) hb (fun _ _ => hin) hoff (by
        rw [hskip]
        exact rune_parse cfg.params cfg.file t.ch t.name _ _ hch hinP hrestP)).trans (congrArg (fun o => some (o, st)) ?_)
    rw [Deco.out_accept cfg.file pos t.d _ _ _ _ [] hoff
        (fun lm hd => by rw [hd] at hl; rw [hrest]; exact (wsOk_append lm pend _ hp hstop).2 hl)
        (fun rm hd => by rw [hd] at hr; rw [hrestR]; exact ⟨hinR, (wsOk_append rm t.gap _ hg htail).2 hr⟩),
      hrestR, wsRun_append t.gap _ hg htail]
    rfl
  · rw [Tok.stop, Tok.pend]
    cases t.d.right with
    | none => exact ⟨hinR, hrestR⟩
    | some _ =>
      exact ⟨inFile_advance hinR (by rw [hrestR, List.length_append]; exact Nat.le_add_right _ _),
        by rw [rest_advance hinR, hrestR, List.drop_left]; rfl⟩

theorem tokNodes_cons (pos : Nat) (pend : Bytes) (t : Tok) (r : List Tok) :
    tokNodes pos pend (t :: r) =
      .term (Utf8.encodeRune t.ch) (.rune t.ch) (pos + pend.length) (t.stop pos pend) :: tokNodes (t.stop pos pend) t.pend r := by
  rw [tokNodes, Tok.stop, Tok.pend]; cases t.d.right <;> rfl

theorem endPos_cons (pos : Nat) (pend : Bytes) (t : Tok) (r : List Tok) :
    endPos pos pend (t :: r) = endPos (t.stop pos pend) t.pend r := by
  rw [endPos, Tok.stop, Tok.pend]; cases t.d.right <;> rfl

theorem adm_cons {pend : Bytes} {t : Tok} {r : List Tok} (h : Adm pend (t :: r)) :
    (match t.d.left with | some m => wsOk m pend | none => pend = []) ∧
    (match t.d.right with | some m => wsOk m t.gap | none => True) ∧ Adm t.pend r := by
  rw [Adm, Tok.pend] at *
  cases hd : t.d.right <;> rw [hd] at h
  · exact ⟨h.1, trivial, h.2⟩
  · exact ⟨h.1, h.2.1, h.2.2⟩

theorem Tok.pend_ws {t : Tok} (h : t.wf) : ∀ b ∈ t.pend, isWs b = true := by
  rw [Tok.pend]; cases t.d.right
  · exact h.2.2
  · exact fun b hb => absurd hb (List.not_mem_nil)

/-- seq.go's `parse(depth, nodes, …)` in front of the token suffix `suf`: `nodes` are the nodes of the tokens taken so far, `pend` the
    whitespace not yet skipped.  Every token answers one node (`tok_step`), so the loop emits once, at the end, the node of
    `nodes ++ tokNodes …`, and registers one call per token.  `F + 3`: a terminal under at most two wrappers (`Deco.depth_le`). -/
theorem seqParse_toks (cfg : Cfg) (hmc : cfg.maxCalls = 0) (hoff : 1 ≤ cfg.file.offset) (sh : SeqShape) (F : Nat) :
    ∀ (suf : List Tok) (depth : Nat) (nodes : List Node) (pend : Bytes) (ctx : Ctx) (pos : Nat) (merge : Bool)
      (ss : SeqSt) (st : St) (fuel : Nat),
      (∀ i, sh.lookup (depth + i) = (suf.map Tok.g)[i]?) → sh.lenCheck (depth + suf.length) = true →
      (depth = 0 → nodes = []) → (∀ t ∈ suf, t.wf) → (∀ b ∈ pend, isWs b = true) →
      rest cfg.file pos = weave pend suf → InFile cfg.file pos → Adm pend suf → suf.length + 1 ≤ fuel →
      ∃ b, seqParse (run cfg (F + 3)) sh fuel depth nodes ctx pos merge ss st =
        some (b, { ss with result := appendNode ss.result (.one (handleResult sh (endPos pos pend suf) (nodes ++ tokNodes pos pend suf))) },
              { st with calls := st.calls + suf.length }) := by
  intro suf
  induction suf with
  | nil =>
    intro depth nodes pend ctx pos merge ss st fuel hlk hlen hnodes hwf hp hrest hin hadm hfuel
    obtain _ | fuel := fuel
    · cases hfuel
    have h0 : sh.lookup depth = none := hlk 0
    have hlen : sh.lenCheck depth = true := hlen
    rw [seqParse]
    simp only [h0, hlen, if_true, pickErr, tokNodes, List.append_nil, endPos]
    simp only [cpUnion_nil_right, ite_self, List.length_nil, Nat.add_zero]
    by_cases hd : depth > 0
    · rw [if_pos hd]; exact ⟨_, rfl⟩
    · rw [if_neg hd, hnodes (by omega)]; exact ⟨_, rfl⟩
  | cons t r ih =>
    intro depth nodes pend ctx pos merge ss st fuel hlk hlen hnodes hwf hp hrest hin hadm hfuel
    obtain _ | fuel := fuel
    · cases hfuel
    have h0 : sh.lookup depth = some t.g := hlk 0
    have hwfr : ∀ t' ∈ r, t'.wf := fun t' h' => hwf t' (List.mem_cons_of_mem _ h')
    obtain ⟨hl, hr, hadm'⟩ := adm_cons hadm
    have hrest' : rest cfg.file pos = pend ++ t.ch :: (t.gap ++ body r) := by
      rw [hrest, weave_eq]; rfl
    obtain ⟨hstep, hinN, hrestN⟩ := tok_step cfg t pend (body r) ctx pos st.regCall F (hwf t (List.mem_cons_self ..)) hp
      (body_stop r hwfr) hrest' hin hoff (Or.inl hmc) hl hr
    rw [← weave_eq] at hrestN
    obtain ⟨b, hb⟩ := ih (depth + 1)
      (nodes ++ [.term (Utf8.encodeRune t.ch) (.rune t.ch) (pos + pend.length) (t.stop pos pend)]) t.pend
      (if t.stop pos pend > pos then [] else ctx) (t.stop pos pend) (merge && !decide (t.stop pos pend > pos))
      ss st.regCall fuel
      (fun i => by rw [Nat.add_assoc, Nat.add_comm 1 i]; exact hlk (i + 1))
      (by rw [Nat.add_assoc, Nat.add_comm 1 r.length]; exact hlen)
      (fun h => absurd h (Nat.succ_ne_zero _)) hwfr (Tok.pend_ws (hwf t (List.mem_cons_self ..))) hrestN hinN hadm'
      (Nat.le_of_succ_le_succ hfuel)
    have hb' := (seqAlts_one (fun n ss st =>
        seqParse (run cfg (F + 3)) sh fuel (depth + 1) (nodes ++ [n]) (if n.rpos > pos then [] else ctx) n.rpos
          (merge && !decide (n.rpos > pos)) ss st) _ _ _).trans hb
    refine ⟨b, ?_⟩
    rw [seqParse]
    simp only [h0, hstep, pickErr, cpUnion_nil_right, ite_self, Res.alts]
    rw [hb', tokNodes_cons, endPos_cons]
    simp only [List.append_assoc, List.cons_append, List.nil_append, St.regCall, List.length_cons]
    congr 4
    omega

theorem endPos_nil (pos : Nat) (pend : Bytes) : endPos pos pend [] = pos := rfl

theorem run_seqOf_toks (cfg : Cfg) (hmc : cfg.maxCalls = 0) (hoff : 1 ≤ cfg.file.offset)
    (toks : List Tok) (o : SeqOpts) (g0 : Bytes) (ctx : Ctx) (pos : Nat) (st : St) (fuel : Nat) (sh : SeqShape)
    (hsh : (G.seq .seqOf (toks.map Tok.g) o).shape = some sh)
    (hwf : ∀ t ∈ toks, t.wf) (hg0 : ∀ b ∈ g0, isWs b = true)
    (hrest : rest cfg.file pos = weave g0 toks) (hin : InFile cfg.file pos) (hadm : Adm g0 toks)
    (hfuel : toks.length + 4 ≤ fuel) :
    run cfg fuel (.seq .seqOf (toks.map Tok.g) o) ctx pos st =
      some (⟨.one (handleResult sh pos (tokNodes pos g0 toks)), [], none⟩,
            { st with calls := st.calls + toks.length }) := by
  obtain ⟨F, rfl⟩ : ∃ F, fuel = F + 4 := ⟨fuel - 4, by omega⟩
  have hlk : ∀ i, sh.lookup (0 + i) = (toks.map Tok.g)[i]? := by
    intro i; simp only [G.shape, Option.some.injEq] at hsh; subst hsh; simp
  have hlen : sh.lenCheck (0 + toks.length) = true := by
    simp only [G.shape, Option.some.injEq] at hsh; subst hsh; simp
  obtain ⟨b, hsp⟩ := seqParse_toks cfg hmc hoff sh F toks 0 [] g0 ctx pos true {} st (F + 3) hlk hlen (fun _ => rfl)
    hwf hg0 hrest hin hadm (by omega)
  rw [run_seqfam cfg (F + 3) _ sh ctx pos st hsh, if_neg (budget_guard (Or.inl hmc)), runSeq, hsp]
  simp only [seqFinish, appendNode, Res.isNil, List.nil_append, Bool.false_eq_true, if_false, St.setError]
  cases toks with
  | nil => rfl
  | cons t r => rw [tokNodes_cons, handleResult_pos_irrel sh _ pos _ (List.cons_ne_nil _ _)]

theorem firstBreak_spec (ws : Bytes) (i : Nat) (h : firstBreak ws = some i) :
    i < wsRun ws ∧ isBreak (ws.getD i 0) = true ∧ ∀ j, j < i → isBreak (ws.getD j 0) = false := by
  induction ws generalizing i with
  | nil => simp [firstBreak] at h
  | cons b r ih =>
    unfold firstBreak at h
    rw [wsRun_cons]
    by_cases hw : isWs b = true
    · rw [if_pos hw] at h ⊢
      by_cases hb : isBreak b = true
      · rw [if_pos hb] at h; cases h
        exact ⟨Nat.succ_pos _, by simpa using hb, fun j hj => absurd hj (Nat.not_lt_zero _)⟩
      · rw [if_neg hb] at h
        cases hfb : firstBreak r with
        | none => simp [hfb] at h
        | some k =>
          simp [hfb] at h; subst h
          obtain ⟨h1, h2, h3⟩ := ih k hfb
          refine ⟨Nat.succ_lt_succ h1, by simpa using h2, ?_⟩
          intro j hj
          cases j with
          | zero => simpa using hb
          | succ j => simpa using h3 j (by omega)
    · rw [if_neg hw] at h; cases h

theorem handleResult_cons (sh : SeqShape) (p : Nat) (n : Node) (l : List Node) (hs : sh.single = false) :
    handleResult sh p (n :: l) = .nt sh.token (n :: l) n.pos ((((n :: l).getLast?).getD n).rpos) sh.interp := by
  rw [handleResult_nt sh hs, List.getLast?_cons]; rfl

theorem tokNodes_shift (pos : Nat) (pend : Bytes) (toks : List Tok) :
    tokNodes pos pend toks = tokNodes (pos + pend.length) [] toks := by
  cases toks with
  | nil => rfl
  | cons t r => simp only [tokNodes, List.length_nil, Nat.add_zero]

theorem endPos_shift (pos : Nat) (pend : Bytes) (toks : List Tok) (hne : toks ≠ []) :
    endPos pos pend toks = endPos (pos + pend.length) [] toks := by
  cases toks with
  | nil => exact absurd rfl hne
  | cons t r => simp only [endPos, List.length_nil, Nat.add_zero]

theorem tokNodes_length (pos : Nat) (pend : Bytes) (toks : List Tok) : (tokNodes pos pend toks).length = toks.length := by
  induction toks generalizing pos pend with
  | nil => rfl
  | cons t r ih => rw [tokNodes_cons, List.length_cons, ih, List.length_cons]

theorem weave_length (g0 : Bytes) (toks : List Tok) : (weave g0 toks).length = g0.length + (weave [] toks).length := by
  rw [weave_eq, weave_eq, List.length_append, List.length_append, List.length_nil, Nat.zero_add]

theorem Tok.stop_add_weave (t : Tok) (pos : Nat) (pend : Bytes) (l : List Tok) :
    t.stop pos pend + (weave t.pend l).length = pos + (pend ++ t.ch :: weave t.gap l).length := by
  rw [Tok.stop, Tok.pend, List.length_append, List.length_cons, weave_length t.gap]
  cases t.d.right
  · show pos + pend.length + 1 + 0 + (weave t.gap l).length = _
    rw [weave_length t.gap]; omega
  · show pos + pend.length + 1 + t.gap.length + (weave [] l).length = _
    omega

theorem tokNodes_get (pos : Nat) (pend : Bytes) (toks : List Tok) (i : Nat) (t : Tok) (h : toks[i]? = some t) :
    (tokNodes pos pend toks)[i]? = some (.term (Utf8.encodeRune t.ch) (.rune t.ch)
      (pos + (weave pend (toks.take i)).length)
      (pos + (weave pend (toks.take i)).length + 1 + (match t.d.right with | some _ => t.gap.length | none => 0))) := by
  induction toks generalizing pos pend i with
  | nil => cases h
  | cons t0 r ih =>
    rw [tokNodes_cons]
    cases i with
    | zero => cases h; rfl
    | succ i =>
      rw [List.getElem?_cons_succ, ih _ _ i h, List.take_succ_cons, weave, t0.stop_add_weave]

theorem weave_byte (g0 : Bytes) (toks : List Tok) (i : Nat) (t : Tok) (h : toks[i]? = some t) :
    (weave g0 toks)[(weave g0 (toks.take i)).length]? = some t.ch := by
  induction toks generalizing g0 i with
  | nil => cases h
  | cons t0 r ih =>
    cases i with
    | zero => cases h; exact List.getElem?_append_right (Nat.le_refl _) |>.trans (by rw [Nat.sub_self]; rfl)
    | succ i =>
      rw [List.take_succ_cons, weave, weave, List.length_append, List.length_cons,
        List.getElem?_append_right (Nat.le_add_right _ _), Nat.add_sub_cancel_left, List.getElem?_cons_succ]
      exact ih _ i h

theorem tokNodes_tv (pos : Nat) (pend : Bytes) (toks : List Tok) :
    (tokNodes pos pend toks).map Node.tv = toks.map (fun t => (Utf8.encodeRune t.ch, some (Val.rune t.ch))) := by
  induction toks generalizing pos pend with
  | nil => rfl
  | cons t r ih => rw [tokNodes_cons, List.map_cons, ih, List.map_cons]; rfl

/-- the default of `getLast?` is never used on the nodes behind a node that ends where they start -/
theorem tokNodes_getLast (d : Node) (q : Nat) (pd : Bytes) (r : List Tok) (hd : d.rpos = q) :
    ((tokNodes q pd r).getLast?.getD d).rpos = endPos q pd r := by
  induction r generalizing d q pd with
  | nil => exact hd
  | cons t r ih =>
    rw [tokNodes_cons, endPos_cons,
      ← ih (.term (Utf8.encodeRune t.ch) (.rune t.ch) (q + pd.length) (t.stop q pd)) (t.stop q pd) t.pend rfl]
    cases hl : tokNodes (t.stop q pd) t.pend r with
    | nil => rfl
    | cons a l =>
      rw [List.getLast?_cons_cons]
      cases hg : (a :: l).getLast? with
      | none => exact absurd (List.getLast?_eq_none_iff.1 hg) (List.cons_ne_nil _ _)
      | some x => rfl

theorem handleResult_tokNodes (sh : SeqShape) (p pos : Nat) (g0 : Bytes) (toks : List Tok) (hne : toks ≠ [])
    (hs : sh.single = false) :
    handleResult sh p (tokNodes pos g0 toks) =
      .nt sh.token (tokNodes pos g0 toks) (pos + g0.length) (endPos pos g0 toks) sh.interp := by
  cases toks with
  | nil => exact absurd rfl hne
  | cons t r =>
    rw [tokNodes_cons, endPos_cons, handleResult_cons _ _ _ _ hs,
      ← tokNodes_getLast (.term (Utf8.encodeRune t.ch) (.rune t.ch) (pos + g0.length) (t.stop pos g0)) (t.stop pos g0) t.pend r rfl]
    cases tokNodes (t.stop pos g0) t.pend r with
    | nil => rfl
    | cons a l => rw [List.getLast?_cons_cons]; rfl

end PV
