/-
  Derivations with the rule references abstracted (used by C05 and C16).

  `DerivesR cfg R g pos x` is `Derives cfg g pos x` except for one rule: a reference `.ref k` derives `x`
  when `R k pos x` holds.  If `R` is closed under the rule bodies (`ClosedR`: whatever the body of rule `k`
  derives with references read as `R` satisfies `R k`), every real derivation is an abstract one
  (`derives_abs`).  Abstract derivations of a closed term contain no recursion through the rules, so they can
  be inverted completely by case analysis: this turns "which trees does the recursive grammar derive?" into
  one finite check per rule.
-/
import ParsleyVerif.Spec.Derives
import ParsleyVerif.Proofs.RunBasics
namespace PV
open PV.Text

mutual
inductive DerivesR (cfg : Cfg) (R : Nat → Nat → Node → Prop) : G → Nat → Node → Prop
  | term {t pos n} : t.parse cfg.params cfg.file pos = .node n → DerivesR cfg R (.term t) pos n
  | empty {pos} : DerivesR cfg R .empty pos (.empty pos)
  | eof {pos} : isEOF cfg.file pos = true → DerivesR cfg R .eof pos (.eof pos)
  | ref {k pos x} : R k pos x → DerivesR cfg R (.ref k) pos x
  | memo {i g pos x} : DerivesR cfg R g pos x → DerivesR cfg R (.memo i g) pos x
  | any {gs g pos x} : g ∈ gs → DerivesR cfg R g pos x → DerivesR cfg R (.any gs) pos x
  | choice {gs g pos x} : g ∈ gs → DerivesR cfg R g pos x → DerivesR cfg R (.choice gs) pos x
  | optSome {g pos x} : DerivesR cfg R g pos x → DerivesR cfg R (.optional g) pos x
  | optNone {g pos} : DerivesR cfg R (.optional g) pos (.empty pos)
  | name {g nm pos x} : DerivesR cfg R g pos x → DerivesR cfg R (.name g nm) pos x
  | suppress {g pos x} : DerivesR cfg R g pos x → DerivesR cfg R (.suppress g) pos x
  | singleUnwrap {g pos tk c p r i} : DerivesR cfg R g pos (.nt tk [c] p r i) → DerivesR cfg R (.single g) pos c
  | singleKeep {g pos x} : DerivesR cfg R g pos x → DerivesR cfg R (.single g) pos x
  | ltrim {g m pos x} : DerivesR cfg R g (skipWhitespaces cfg.file pos m).1 x → DerivesR cfg R (.ltrim g m) pos x
  | rtrimMove {g m pos x} : DerivesR cfg R g pos x → DerivesR cfg R (.rtrim g m) pos (setRposNode cfg.file m x none).1
  | rtrimKeep {g m pos x} : DerivesR cfg R g pos x → DerivesR cfg R (.rtrim g m) pos x
  | seqfam {g sh pos nodes} : g.shape = some sh → DerivesSeqR cfg R sh 0 pos nodes →
      sh.lenCheck nodes.length = true → DerivesR cfg R g pos (handleResult sh pos nodes)
inductive DerivesSeqR (cfg : Cfg) (R : Nat → Nat → Node → Prop) : SeqShape → Nat → Nat → List Node → Prop
  | nil {sh d pos} : DerivesSeqR cfg R sh d pos []
  | cons {sh d pos g n rest} : sh.lookup d = some g → DerivesR cfg R g pos n →
      DerivesSeqR cfg R sh (d + 1) n.rpos rest → DerivesSeqR cfg R sh d pos (n :: rest)
end

theorem mem_pair {α : Type} {a b c : α} (h : a ∈ [b, c]) : a = b ∨ a = c := by simpa using h

def ClosedR (cfg : Cfg) (R : Nat → Nat → Node → Prop) : Prop :=
  ∀ k g pos x, cfg.env[k]? = some g → DerivesR cfg R g pos x → R k pos x

theorem derives_abs (cfg : Cfg) (R : Nat → Nat → Node → Prop) (hR : ClosedR cfg R) :
    ∀ {g pos x}, Derives cfg g pos x → DerivesR cfg R g pos x := by
  intro g pos x h
  refine @Derives.rec cfg (fun g pos x _ => DerivesR cfg R g pos x)
    (fun sh d pos nodes _ => DerivesSeqR cfg R sh d pos nodes)
    ?_ ?_ ?_ ?_ ?_ ?_ ?_ ?_ ?_ ?_ ?_ ?_ ?_ ?_ ?_ ?_ ?_ ?_ ?_ g pos x h
  · intro t pos n h; exact .term h
  · intro pos; exact .empty
  · intro pos h; exact .eof h
  · intro k g pos x hk _ ih; exact .ref (hR k g pos x hk ih)
  · intro i g pos x _ ih; exact .memo ih
  · intro gs g pos x hm _ ih; exact .any hm ih
  · intro gs g pos x hm _ ih; exact .choice hm ih
  · intro g pos x _ ih; exact .optSome ih
  · intro g pos; exact .optNone
  · intro g nm pos x _ ih; exact .name ih
  · intro g pos x _ ih; exact .suppress ih
  · intro g pos tk c p r i _ ih; exact .singleUnwrap ih
  · intro g pos x _ ih; exact .singleKeep ih
  · intro g m pos x _ ih; exact .ltrim ih
  · intro g m pos x _ ih; exact .rtrimMove ih
  · intro g m pos x _ ih; exact .rtrimKeep ih
  · intro g sh pos nodes hs _ hl ih; exact .seqfam hs ih hl
  · intro sh d pos; exact .nil
  · intro sh d pos g n rest hl _ _ ih1 ih2; exact .cons hl ih1 ih2

variable {cfg : Cfg} {R : Nat → Nat → Node → Prop}

theorem DerivesR.term_inv {t pos x} (h : DerivesR cfg R (.term t) pos x) :
    t.parse cfg.params cfg.file pos = .node x := by
  cases h with
  | term h => exact h
  | seqfam hs _ _ => simp [G.shape] at hs

theorem DerivesR.ref_inv {k pos x} (h : DerivesR cfg R (.ref k) pos x) : R k pos x := by
  cases h with
  | ref h => exact h
  | seqfam hs _ _ => simp [G.shape] at hs

theorem DerivesR.memo_inv {i g pos x} (h : DerivesR cfg R (.memo i g) pos x) : DerivesR cfg R g pos x := by
  cases h with
  | memo h => exact h
  | seqfam hs _ _ => simp [G.shape] at hs

theorem DerivesR.name_inv {g nm pos x} (h : DerivesR cfg R (.name g nm) pos x) : DerivesR cfg R g pos x := by
  cases h with
  | name h => exact h
  | seqfam hs _ _ => simp [G.shape] at hs

theorem DerivesR.any_inv {gs pos x} (h : DerivesR cfg R (.any gs) pos x) : ∃ g ∈ gs, DerivesR cfg R g pos x := by
  cases h with
  | any hm h => exact ⟨_, hm, h⟩
  | seqfam hs _ _ => simp [G.shape] at hs

theorem DerivesR.choice_inv {gs pos x} (h : DerivesR cfg R (.choice gs) pos x) :
    ∃ g ∈ gs, DerivesR cfg R g pos x := by
  cases h with
  | choice hm h => exact ⟨_, hm, h⟩
  | seqfam hs _ _ => simp [G.shape] at hs

theorem DerivesR.ltrim_inv {g m pos x} (h : DerivesR cfg R (.ltrim g m) pos x) :
    DerivesR cfg R g (skipWhitespaces cfg.file pos m).1 x := by
  cases h with
  | ltrim h => exact h
  | seqfam hs _ _ => simp [G.shape] at hs

theorem DerivesR.rtrim_inv {g m pos x} (h : DerivesR cfg R (.rtrim g m) pos x) :
    ∃ y, DerivesR cfg R g pos y ∧ (x = y ∨ x = (setRposNode cfg.file m y none).1) := by
  cases h with
  | rtrimMove h => exact ⟨_, h, .inr rfl⟩
  | rtrimKeep h => exact ⟨_, h, .inl rfl⟩
  | seqfam hs _ _ => simp [G.shape] at hs

theorem DerivesR.seq_inv {g sh pos x} (h : DerivesR cfg R g pos x) (hs : g.shape = some sh) :
    ∃ nodes, DerivesSeqR cfg R sh 0 pos nodes ∧ sh.lenCheck nodes.length = true ∧ x = handleResult sh pos nodes := by
  cases h with
  | seqfam hs' hd hl =>
    rw [hs] at hs'
    cases hs'
    exact ⟨_, hd, hl, rfl⟩
  | _ => simp [G.shape] at hs

theorem DerivesSeqR.get {sh : SeqShape} : ∀ {nodes : List Node} {d pos : Nat}, DerivesSeqR cfg R sh d pos nodes →
    ∀ i n, nodes[i]? = some n → ∃ g p, sh.lookup (d + i) = some g ∧ DerivesR cfg R g p n
  | [], _, _, _, i, n, hn => by simp at hn
  | m :: rest, d, pos, h, i, n, hn => by
    cases h with
    | cons hl hm hrest =>
      cases i with
      | zero =>
        simp only [List.getElem?_cons_zero, Option.some.injEq] at hn
        subst hn
        exact ⟨_, _, hl, hm⟩
      | succ j =>
        simp only [List.getElem?_cons_succ] at hn
        obtain ⟨g, p, hg, hd⟩ := DerivesSeqR.get hrest j n hn
        exact ⟨g, p, by rw [← hg]; congr 1; omega, hd⟩

theorem DerivesR.seqOf3_inv {a b c : G} {o : SeqOpts} {pos x}
    (h : DerivesR cfg R (.seq .seqOf [a, b, c] o) pos x) :
    ∃ x1 x2 x3, DerivesR cfg R a pos x1 ∧ DerivesR cfg R b x1.rpos x2 ∧ DerivesR cfg R c x2.rpos x3 ∧
      x = .nt (o.token.getD seqTok) [x1, x2, x3] x1.pos x3.rpos o.interp := by
  obtain ⟨nodes, hd, hl, rfl⟩ := h.seq_inv rfl
  simp only [List.length_cons, List.length_nil, beq_iff_eq] at hl
  cases hd with
  | nil => simp at hl
  | cons l1 h1 hr1 =>
    cases hr1 with
    | nil => simp at hl
    | cons l2 h2 hr2 =>
      cases hr2 with
      | nil => simp at hl
      | cons l3 h3 hr3 =>
        cases hr3 with
        | cons _ _ _ => simp at hl
        | nil =>
          simp only [List.getElem?_cons_zero, Option.some.injEq, Nat.zero_add, List.getElem?_cons_succ] at l1 l2 l3
          subst l1 l2 l3
          exact ⟨_, _, _, h1, h2, h3, by simp [handleResult]⟩

theorem DerivesR.sepBy_inv {v s : G} {ae : Bool} {o : SeqOpts} {pos x} (ho : o.single = false)
    (h : DerivesR cfg R (.sepBy v s ae o) pos x) :
    ∃ nodes p q, x = .nt (o.token.getD sepByTok) nodes p q o.interp ∧ (nodes = [] ∨ nodes.length % 2 = 1) ∧
      (∀ i n, nodes[i]? = some n → i % 2 = 0 → ∃ p', DerivesR cfg R v p' n) ∧
      (∀ i n, nodes[i]? = some n → i % 2 = 1 → ∃ p', DerivesR cfg R s p' n) := by
  let sh : SeqShape :=
    { lookup := fun i => if i % 2 == 0 then some v else some s, lenCheck := fun len => (len == 0 && ae) || len % 2 == 1,
      token := o.token.getD sepByTok, interp := o.interp, single := o.single, name := o.name }
  obtain ⟨nodes, hd, hl, rfl⟩ := h.seq_inv (sh := sh) rfl
  refine ⟨nodes, _, _, handleResult_nt sh ho pos nodes, ?_, ?_, ?_⟩
  · simp only [sh, Bool.or_eq_true, Bool.and_eq_true, beq_iff_eq] at hl
    rcases hl with ⟨h0, _⟩ | h1
    · exact .inl (List.length_eq_zero_iff.mp h0)
    · exact .inr h1
  · intro i n hn hi
    obtain ⟨g, p', hg, hdn⟩ := hd.get i n hn
    simp only [sh, Nat.zero_add, hi, beq_self_eq_true, ↓reduceIte, Option.some.injEq] at hg
    subst hg
    exact ⟨p', hdn⟩
  · intro i n hn hi
    obtain ⟨g, p', hg, hdn⟩ := hd.get i n hn
    simp only [sh, Nat.zero_add, hi] at hg
    simp at hg
    subst hg
    exact ⟨p', hdn⟩

end PV
