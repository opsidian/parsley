/-
  Basics for the text-level ties of the statement-level translator: states that only grow (`Grows`), views of
  sub-slices, the byte-string primitives of Generated/ProgPrelude.lean; and heap reasoning for code that appends to a
  slice it allocated (the translated unquoteString, AddFile): states in which everything below a base index is untouched
  (`Keeps`) or at most one array may have been written (`Only`), well-formed slice headers, buffers (`Buf`), the one write
  `append(s, vs...)` (`sat_appendList`; `append(s, v)` is its instance), `make`.
  Hand-written sides only; nothing here depends on the generated file.
-/
import ParsleyVerif.Proofs.ProgTieText
namespace PV.TxtTie
open PV.ProgPrelude PV.ProgTie

/-- the bytes of the model as the integers of the translation -/
def ints (l : List Nat) : List Int := l.map Int.ofNat

@[simp] theorem ints_length (l : List Nat) : (ints l).length = l.length := by simp [ints]
@[simp] theorem ints_nil : ints [] = [] := rfl
@[simp] theorem ints_cons (a : Nat) (l : List Nat) : ints (a :: l) = (a : Int) :: ints l := rfl
theorem ints_drop (l : List Nat) (n : Nat) : ints (l.drop n) = (ints l).drop n := by simp [ints, List.map_drop]
theorem ints_take (l : List Nat) (n : Nat) : ints (l.take n) = (ints l).take n := by simp [ints, List.map_take]
theorem ints_append (a b : List Nat) : ints (a ++ b) = ints a ++ ints b := by simp [ints]
theorem ints_eq_nil {l : List Nat} : ints l = [] ↔ l = [] := by simp [ints]
theorem ints_toNat (l : List Nat) : (ints l).map Int.toNat = l := by
  induction l with
  | nil => rfl
  | cons a r ih => simp [ints] at ih ⊢; exact ih
theorem ints_inj {a b : List Nat} (h : ints a = ints b) : a = b := by
  have := congrArg (List.map Int.toNat) h
  rwa [ints_toNat, ints_toNat] at this
theorem ints_getElem? (l : List Nat) (i : Nat) : (ints l)[i]? = (l[i]?).map Int.ofNat := by simp [ints]
theorem ints_getD (l : List Nat) (i : Nat) : (ints l).getD i 0 = ((l.getD i 0 : Nat) : Int) := by
  rw [List.getD_eq_getElem?_getD, List.getD_eq_getElem?_getD, ints_getElem?]
  cases l[i]? <;> rfl

/-- `st'` is `st` with fresh arrays appended: nothing that existed was written -/
structure Grows (st st' : St) : Prop where
  arrays : ∃ e, st'.arrays = st.arrays ++ e
  maps : st'.maps = st.maps
  grow : st'.grow = st.grow

theorem Grows.refl (st : St) : Grows st st := ⟨⟨[], by simp⟩, rfl, rfl⟩

theorem Grows.trans {a b c : St} (h1 : Grows a b) (h2 : Grows b c) : Grows a c := by
  obtain ⟨⟨e1, h1a⟩, h1m, h1g⟩ := h1
  obtain ⟨⟨e2, h2a⟩, h2m, h2g⟩ := h2
  exact ⟨⟨e1 ++ e2, by rw [h2a, h1a, List.append_assoc]⟩, by rw [h2m, h1m], by rw [h2g, h1g]⟩

theorem Grows.push (st : St) (x : List Int) : Grows st { st with arrays := st.arrays ++ [x] } :=
  ⟨⟨[x], rfl⟩, rfl, rfl⟩

theorem cells_grows {st st' : St} (g : Grows st st') {a : Nat} (h : a < st.arrays.length) : cells st' a = cells st a := by
  obtain ⟨e, he⟩ := g.arrays
  simp only [cells, he, List.getD_eq_getElem?_getD, List.getElem?_append_left h]

theorem view_grows {st st' : St} (g : Grows st st') (s : Sl) (h : (view st s).length = s.len) : view st' s = view st s := by
  by_cases ha : s.arr < st.arrays.length
  · simp only [view, cells_grows g ha]
  · have hc : cells st s.arr = [] := by
      simp only [cells, List.getD_eq_getElem?_getD]
      rw [List.getElem?_eq_none (by omega)]; rfl
    have h0 : s.len = 0 := by rw [← h]; simp [view, hc]
    simp [view, h0]

theorem fileRel_grows {st st' : St} {F : FactsProg.File} {f : Text.File} (rel : FileRel st F f) (g : Grows st st') :
    FileRel st' F f := by
  refine ⟨?_, rel.dlen, rel.len, rel.off, rel.name⟩
  rw [view_grows g F.data (by rw [rel.data]; simp [rel.dlen]), rel.data]

theorem len_data {st : St} {F : FactsProg.File} {f : Text.File} (rel : FileRel st F f) :
    Go.len F.data = (f.data.length : Int) := by simp [Go.len, rel.dlen]

/-- `r.file.data[c:]` (`FileRel.sat_rest`) shows the rest of the file -/
theorem _root_.PV.ProgTie.FileRel.view_rest {st : St} {F : FactsProg.File} {f : Text.File} (rel : FileRel st F f) (c : Nat) :
    view st (F.data.from c) = ints (f.data.drop c) := by
  rw [view_from, rel.data, ints_drop]; rfl

/-- a well-formed slice header: the length within the capacity, and nil only when empty -/
structure SlWF (s : Sl) : Prop where
  cap : s.len ≤ s.cap
  nil : s.isNil = true → s.len = 0

theorem sliceFrom_panic (st : St) (s : Sl) (lo : Int) (h : lo < 0 ∨ (s.len : Int) < lo) : Go.sliceFrom s lo st = .panic := by
  simp only [Go.sliceFrom]
  rw [if_neg (by omega)]

/-- `[]byte(str)`, as a specification for `Res.Sat.bind` -/
theorem sat_bytesOf (st : St) (str : Str) :
    (Go.bytesOf str st).Sat (fun s st' => Grows st st' ∧ view st' s = str ∧ s.len = str.length ∧
      st'.arrays.length = st.arrays.length + 1) False :=
  ⟨Grows.push st _, by simp [view, cells, List.getD_eq_getElem?_getD], rfl, by simp⟩

theorem strIdx_ok (st : St) (s : Str) (i : Nat) (v : Int) (h : s[i]? = some v) : Go.strIdx s (i : Int) st = .ok v st := by
  simp only [Go.strIdx, Int.toNat_natCast, h]
  rw [if_pos (by omega)]

/-- `int8(ch) == int8(b)` for an ASCII rune and a byte, whichever way round it is written -/
theorem wrap8_eq_iff (ch b : Nat) (hc : ch < 128) (hb : b < 256) :
    (Go.wrap 8 true (ch : Int) = Go.wrap 8 true (b : Int) ↔ ch = b) ∧
    (Go.wrap 8 true (b : Int) = Go.wrap 8 true (ch : Int) ↔ ch = b) := by
  simp only [Go.wrap, if_true]
  have e1 : (2 : Int) ^ (8 - 1) = 128 := by decide
  have e2 : (2 : Int) ^ 8 = 256 := by decide
  rw [e1, e2]
  omega

theorem isPrefixOf_ints (a b : List Nat) : (ints a).isPrefixOf (ints b) = a.isPrefixOf b := by
  induction a generalizing b with
  | nil => simp
  | cons x a ih =>
    cases b with
    | nil => simp
    | cons y b =>
      simp only [ints_cons, List.isPrefixOf_cons_cons, ih]
      congr 1
      rw [Bool.eq_iff_iff]; simp only [beq_iff_eq]; omega

/-- every array below index `n` is untouched, no array disappeared, maps and growth policy are the same -/
structure Keeps (n : Nat) (st st' : St) : Prop where
  frame : Data.Frame n st.arrays st'.arrays
  maps : st'.maps = st.maps
  grow : st'.grow = st.grow

theorem Keeps.refl (n : Nat) (st : St) : Keeps n st st := ⟨Data.Frame.refl _ _, rfl, rfl⟩

theorem Keeps.trans {n : Nat} {a b c : St} (h1 : Keeps n a b) (h2 : Keeps n b c) : Keeps n a c :=
  ⟨h1.frame.trans h2.frame, by rw [h2.maps, h1.maps], by rw [h2.grow, h1.grow]⟩

theorem Keeps.cells {n : Nat} {st st' : St} (k : Keeps n st st') {a : Nat} (ha : a < n) : cells st' a = cells st a :=
  k.frame.2 a ha

theorem Keeps.view {n : Nat} {st st' : St} (k : Keeps n st st') (s : Sl) (ha : s.arr < n) : view st' s = view st s := by
  unfold ProgPrelude.view
  rw [k.cells ha]

theorem Keeps.len {n : Nat} {st st' : St} (k : Keeps n st st') : st.arrays.length ≤ st'.arrays.length := k.frame.1

theorem Keeps.grows {st st' : St} (k : Keeps st.arrays.length st st') : Grows st st' := by
  refine ⟨⟨st'.arrays.drop st.arrays.length, ?_⟩, k.maps, k.grow⟩
  have hl := k.len
  apply List.ext_getElem?
  intro a
  by_cases ha : a < st.arrays.length
  · rw [List.getElem?_append_left ha]
    have hc := k.cells ha
    simp only [ProgPrelude.cells, List.getD_eq_getElem?_getD] at hc
    rw [List.getElem?_eq_getElem ha, List.getElem?_eq_getElem (by omega)] at hc ⊢
    simp only [Option.getD_some] at hc
    rw [hc]
  · rw [List.getElem?_append_right (by omega), List.getElem?_drop]
    congr 1; omega

theorem Grows.keeps {st st' : St} (g : Grows st st') : Keeps st.arrays.length st st' := by
  obtain ⟨e, he⟩ := g.arrays
  refine ⟨⟨by rw [he]; simp, fun a ha => cells_grows g ha⟩, g.maps, g.grow⟩

theorem _root_.PV.ProgTie.FileRel.keeps {n : Nat} {st st' : St} {F : FactsProg.File} {f : Text.File} (rel : FileRel st F f)
    (k : Keeps n st st') (hd : F.data.arr < n) (L : Sl) : FileRel st' { F with lines := L } f :=
  ⟨by show view st' F.data = _; rw [k.view _ hd]; exact rel.data, rel.dlen, rel.len, rel.off, rel.name⟩

/-- a slice header that lies inside its array -/
structure SWFs (st : St) (s : Sl) : Prop where
  arr : s.arr < st.arrays.length
  cap : s.len ≤ s.cap
  fits : s.off + s.cap ≤ (cells st s.arr).length

theorem SWFs.view_length {st : St} {s : Sl} (w : SWFs st s) : (view st s).length = s.len := by
  have := w.cap; have := w.fits
  simp only [view, List.length_take, List.length_drop]; omega

theorem cells_modify_same (st : St) (a : Nat) (f : List Int → List Int) (ha : a < st.arrays.length) :
    cells { st with arrays := st.arrays.modify a f } a = f (cells st a) :=
  Data.cells_modify_same st.arrays a f ha

theorem cells_modify_ne (st : St) (a b : Nat) (f : List Int → List Int) (hne : a ≠ b) :
    cells { st with arrays := st.arrays.modify a f } b = cells st b :=
  Data.cells_modify_ne st.arrays a b f hne

theorem window_splice (c : List Int) (off len : Nat) (vs : List Int) (h : off + len + vs.length ≤ c.length) :
    ((c.take (off + len) ++ vs ++ c.drop (off + len + vs.length)).drop off).take (len + vs.length) =
      (c.drop off).take len ++ vs := by
  have e2 : ((c.drop off).take len).length = len := by rw [List.length_take, List.length_drop]; omega
  rw [List.append_assoc, List.drop_append_of_le_length (by rw [List.length_take]; omega), List.drop_take,
    Nat.add_sub_cancel_left, ← List.append_assoc, List.take_append_of_le_length (by rw [List.length_append, e2]; omega),
    List.take_of_length_le (by rw [List.length_append, e2]; omega)]

/-- every array that existed, except possibly `a`, is untouched -/
structure Only (a : Nat) (st st' : St) : Prop where
  cells : ∀ b, b < st.arrays.length → b ≠ a → ProgPrelude.cells st' b = ProgPrelude.cells st b
  len : st.arrays.length ≤ st'.arrays.length
  maps : st'.maps = st.maps
  grow : st'.grow = st.grow

/-! what a step may have written, from the strongest to the weakest: `Grows` (fresh arrays only), `Keeps st.arrays.length`
    (the same), `Only a` (at most the one array `a`), `Keeps n` for `n ≤ a` -/

theorem Keeps.only {st st' : St} (k : Keeps st.arrays.length st st') (a : Nat) : Only a st st' :=
  ⟨fun _ hb _ => k.cells hb, k.len, k.maps, k.grow⟩

theorem Only.refl (a : Nat) (st : St) : Only a st st := (Keeps.refl _ st).only a

theorem Only.view {a : Nat} {st st' : St} (o : Only a st st') (s : Sl) (h1 : s.arr < st.arrays.length) (h2 : s.arr ≠ a) :
    view st' s = view st s := by
  unfold ProgPrelude.view
  rw [o.cells _ h1 h2]

theorem Only.keeps {a n : Nat} {st st' : St} (o : Only a st st') (hn : n ≤ a) (hl : n ≤ st.arrays.length) : Keeps n st st' :=
  ⟨⟨o.len, fun b hb => o.cells b (by omega) (by omega)⟩, o.maps, o.grow⟩

/-- THE write: `append(s, vs...)` on a well-formed slice.  The result shows the old content followed by `vs`; at most the
    array of `s` is written (in place, when the capacity suffices), otherwise the result is one fresh array. -/
theorem sat_appendList {st : St} {s : Sl} (w : SWFs st s) (vs : List Int) :
    (Go.appendList s vs st).Sat (fun s' st' => Only s.arr st st' ∧ view st' s' = view st s ++ vs ∧ SWFs st' s' ∧
      (s'.isNil = false ∨ s' = s) ∧ ((s'.arr = s.arr ∧ s'.off = s.off) ∨ (s'.arr = st.arrays.length ∧ s'.off = 0)) ∧
      (s.off + s.cap = (cells st s.arr).length → s'.off + s'.cap = (cells st' s'.arr).length)) False := by
  have hvl := w.view_length
  unfold Go.appendList
  by_cases h0 : vs = []
  · subst h0
    rw [if_pos rfl]
    exact ⟨Only.refl _ _, by simp, w, .inr rfl, .inl ⟨rfl, rfl⟩, id⟩
  rw [if_neg h0]
  by_cases h1 : s.len + vs.length ≤ s.cap
  · have hfit := w.fits
    have hc := cells_modify_same st s.arr (fun c => c.take (s.off + s.len) ++ vs ++ c.drop (s.off + s.len + vs.length)) w.arr
    rw [if_pos h1]
    refine ⟨⟨fun b _ hb => cells_modify_ne st s.arr b _ (fun e => hb e.symm), by simp, rfl, rfl⟩, ?_, ⟨by simpa using w.arr, h1, ?_⟩,
      .inl rfl, .inl ⟨rfl, rfl⟩, fun he => ?_⟩
    · unfold ProgPrelude.view
      rw [hc]
      exact window_splice _ s.off s.len vs (by omega)
    · rw [hc]
      show s.off + s.cap ≤ _
      simp only [List.length_append, List.length_take, List.length_drop]
      omega
    · rw [hc]
      show s.off + s.cap = _
      simp only [List.length_append, List.length_take, List.length_drop]
      omega
  · have hc : cells { st with arrays := st.arrays ++ [view st s ++ vs ++ List.replicate (max (st.grow s.cap) (s.len + vs.length) - (s.len + vs.length)) 0] } st.arrays.length
          = view st s ++ vs ++ List.replicate (max (st.grow s.cap) (s.len + vs.length) - (s.len + vs.length)) 0 :=
        Data.cells_append_eq st.arrays _
    rw [if_neg h1]
    refine ⟨⟨fun b hb _ => Data.cells_append_lt st.arrays _ b hb, by simp, rfl, rfl⟩, ?_, ⟨by simp, Nat.le_max_right _ _, ?_⟩,
      .inl rfl, .inr ⟨rfl, rfl⟩, fun _ => ?_⟩
    · show List.take (s.len + vs.length) (List.drop 0 (cells _ st.arrays.length)) = _
      rw [hc, List.drop_zero]
      rw [List.take_append_of_le_length (by rw [List.length_append, hvl]; omega)]
      rw [List.take_of_length_le (by rw [List.length_append, hvl]; omega)]
    · rw [hc]
      simp only [List.length_append, List.length_replicate, hvl]
      omega
    · rw [hc]
      show 0 + max (st.grow s.cap) (s.len + vs.length) = _
      simp only [List.length_append, List.length_replicate, hvl]
      omega

/-- `append(s, v)` is `append(s, []T{v}...)` -/
theorem append_eq_appendList {st : St} {s : Sl} (w : SWFs st s) (v : Int) : Go.append s v st = Go.appendList s [v] st := by
  have hfit := w.fits
  unfold Go.append Go.appendList
  rw [if_neg (List.cons_ne_nil _ _)]
  by_cases h1 : s.len < s.cap
  · rw [if_pos h1, if_pos (show s.len + [v].length ≤ s.cap from h1), Data.modify_eq_setCells, Data.modify_eq_setCells,
      List.set_eq_take_append_cons_drop, if_pos (show s.off + s.len < (Data.cells st.arrays s.arr).length from by
        show _ < (cells st s.arr).length; omega)]
    simp
  · rw [if_neg h1, if_neg (show ¬ s.len + [v].length ≤ s.cap from h1)]
    rfl

/-- `append(s, v)`: the one write, for a single element -/
theorem sat_append {st : St} {s : Sl} (w : SWFs st s) (v : Int) :
    (Go.append s v st).Sat (fun s' st' => Only s.arr st st' ∧ view st' s' = view st s ++ [v] ∧ SWFs st' s' ∧
      s'.isNil = false ∧ ((s'.arr = s.arr ∧ s'.off = s.off) ∨ (s'.arr = st.arrays.length ∧ s'.off = 0)) ∧
      (s.off + s.cap = (cells st s.arr).length → s'.off + s'.cap = (cells st' s'.arr).length)) False := by
  rw [append_eq_appendList w]
  refine (sat_appendList w [v]).mono (fun s' st' ⟨o, v', w', n, a⟩ => ⟨o, v', w', n.resolve_right (fun e => ?_), a⟩) id
  have := congrArg List.length v'
  rw [w'.view_length, e, List.length_append, w.view_length] at this
  simp at this

/-- a state that kept the maps and the growth policy of `⟨h, mh, g⟩` -/
theorem Keeps.state_eq {n : Nat} {h : Data.Heap} {mh : Data.MHeap} {g : Nat → Nat} {st' : St} (k : Keeps n ⟨h, mh, g⟩ st') :
    st' = ⟨st'.arrays, mh, g⟩ := by
  obtain ⟨a, m, gr⟩ := st'
  have := k.maps; have := k.grow
  simp_all

/-- a non-nil header at offset 0 whose capacity is the size of its array is a slice of Model/Data.lean -/
theorem SWFs.toData {st : St} {s : Sl} (w : SWFs st s) (ho : s.off = 0) (hn : s.isNil = false)
    (he : s.off + s.cap = (cells st s.arr).length) :
    s = sl ⟨s.arr, s.len, s.cap⟩ ∧ Data.SWF st.arrays ⟨s.arr, s.len, s.cap⟩ := by
  obtain ⟨a, o, l, c, n⟩ := s
  simp only at ho hn he
  subst ho hn
  exact ⟨rfl, w.arr, w.cap, by show (cells st a).length = c; omega⟩

/-- a buffer the running function owns: a well-formed, non-nil slice in an array at or above `base`, showing `l` -/
structure Buf (base : Nat) (st : St) (s : Sl) (l : List Int) : Prop where
  wf : SWFs st s
  above : base ≤ s.arr
  nonnil : s.isNil = false
  view : view st s = l

theorem Buf.len {base : Nat} {st : St} {s : Sl} {l : List Int} (b : Buf base st s l) : s.len = l.length := by
  rw [← b.view, b.wf.view_length]

/-- `append(s, vs...)` on a buffer: a buffer showing the old content followed by `vs`; nothing below
    `base` is touched -/
theorem Buf.sat_appendList {base : Nat} {st : St} {s : Sl} {l : List Int} (b : Buf base st s l) (vs : List Int) :
    (Go.appendList s vs st).Sat (fun s' st' => Keeps base st st' ∧ Buf base st' s' (l ++ vs)) False := by
  refine (TxtTie.sat_appendList b.wf vs).mono (fun s' st' ⟨o, v, w', n, a, _⟩ => ?_) id
  have := b.wf.arr
  refine ⟨o.keeps b.above (by have := b.above; omega), w', ?_, ?_, by rw [v, b.view]⟩
  · rcases a with a | a <;> rw [a.1]
    · exact b.above
    · have := b.above; omega
  · rcases n with n | n
    · exact n
    · rw [n]; exact b.nonnil

/-- `make([]T, 0, c)`: an empty buffer in a fresh array -/
theorem sat_mkSlice (st : St) (c : Nat) :
    (Go.mkSlice 0 (c : Int) st).Sat (fun s st' => Grows st st' ∧ Buf st.arrays.length st' s []) False := by
  unfold Go.mkSlice
  rw [if_pos ⟨by omega, by omega⟩, Int.toNat_natCast]
  refine ⟨Grows.push st _, ⟨by simp, Nat.zero_le _, ?_⟩, Nat.le_refl _, rfl, by simp [view]⟩
  have : cells { st with arrays := st.arrays ++ [List.replicate c 0] } st.arrays.length = List.replicate c 0 :=
    Data.cells_append_eq st.arrays _
  show 0 + c ≤ (cells _ st.arrays.length).length
  rw [this]; simp

end PV.TxtTie
