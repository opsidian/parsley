/-
  The tie between the slice machine of C07 (Model/Slice.lean) and the in-place primitives TRANSLATED from the Go source on
  every run (Generated/FactsAst.lean, namespace PV.FactsAstProg; run-time Generated/SlicePrelude.lean).

  `conc` turns a state of the machine (node objects, arrays of handles) into a store of the run-time (node structs, arrays
  of interface values); the theorems say that running the translated function on `conc s` gives `conc` of what the machine
  computes — for every growth policy, every amount of fuel above an explicit bound.
-/
import ParsleyVerif.Proofs.SliceRun
import ParsleyVerif.Generated.FactsAst
-- the ties hand the same monad and heap equations to every `simp`, whether the step at hand needs each of them or not
set_option linter.unusedSimpArgs false
namespace PV.AstTie
open PV.Slice
open PV.SlicePrelude (Node Kind Cell Sl Res M Go.idx Go.setIdx Go.readerPos Go.setReaderPos Go.len Go.append Go.litSlice)
open PV.FactsAstProg

def concSl (s : Slice) : Sl := ⟨s.arr, s.len, s.cap⟩

def isNT (nodes : List NodeObj) (n : Nat) : Bool :=
  match nodes[n]? with
  | some (.nt _ _ _ _) => true
  | _ => false

/-- a handle of the machine as an interface value: the dynamic type of a pointer is that of the object it points to -/
def concH (nodes : List NodeObj) : Handle → Node
  | .nil => .nil
  | .ptr n => if isNT nodes n then .nonterm n else .term n
  | .empty p => .empty p
  | .eof p => .eof p
  | .list s => .list (concSl s)

def concObj : NodeObj → Cell
  | .term tok val pos rpos => { readerPos := rpos, pos := pos, token := tok, value := val, children := ⟨0, 0, 0⟩ }
  | .nt tok ch pos rpos => { readerPos := rpos, pos := pos, token := tok, value := 0, children := concSl ch }

def conc (grow : Nat → Nat) (nodes : List NodeObj) (arrs : Arrs) : SlicePrelude.St :=
  { cells := nodes.map concObj, arrays := arrs.map (fun c => c.map (concH nodes)), grow := grow }

theorem bind_ok {α β : Type} (x : M α) (f : α → M β) (s s' : SlicePrelude.St) (a : α) (h : x s = .ok a s') :
    (x >>= f) s = f a s' := by
  show SlicePrelude.M.bind x f s = _
  simp [SlicePrelude.M.bind, h]

theorem pure_run {α : Type} (a : α) (s : SlicePrelude.St) : (pure a : M α) s = .ok a s := rfl

theorem isNT_sim {nodes nodes' : List NodeObj} (h : NodesSim nodes nodes') (n : Nat) : isNT nodes' n = isNT nodes n := by
  unfold isNT
  cases hn : nodes[n]? with
  | some o =>
    obtain ⟨e, he⟩ := h.2 n o hn
    rw [he]
    cases o <;> rfl
  | none =>
    have : nodes'[n]? = none := by
      rw [List.getElem?_eq_none_iff] at hn ⊢
      rw [h.1]; exact hn
    rw [this]

theorem concH_sim {nodes nodes' : List NodeObj} (h : NodesSim nodes nodes') : concH nodes' = concH nodes := by
  funext c
  cases c <;> simp [concH, isNT_sim h]

theorem isNT_bump (nodes : List NodeObj) (n d m : Nat) : isNT (nodes.modify n (NodeObj.bump d)) m = isNT nodes m :=
  isNT_sim (NodesSim.modify nodes n d) m

theorem concH_bump (nodes : List NodeObj) (n d : Nat) : concH (nodes.modify n (NodeObj.bump d)) = concH nodes :=
  concH_sim (NodesSim.modify nodes n d)

theorem concObj_bump (o : NodeObj) (d : Nat) :
    concObj (o.bump d) = { concObj o with readerPos := (concObj o).readerPos + d } := by
  cases o <;> simp [concObj, NodeObj.bump]

theorem conc_bump (grow : Nat → Nat) (nodes : List NodeObj) (arrs : Arrs) (n d : Nat) (o : NodeObj) (hn : nodes[n]? = some o) :
    conc grow (nodes.modify n (NodeObj.bump d)) arrs =
      { conc grow nodes arrs with
        cells := (conc grow nodes arrs).cells.set n { concObj o with readerPos := (concObj o).readerPos + d } } := by
  unfold conc
  simp only [concH_bump]
  congr 1
  apply List.ext_getElem?
  intro i
  rw [List.getElem?_map, List.getElem?_modify, List.getElem?_set]
  by_cases h : n = i
  · subst h
    have hl : n < nodes.length := by
      rcases Nat.lt_or_ge n nodes.length with h | h
      · exact h
      · rw [List.getElem?_eq_none h] at hn; cases hn
    have ho : nodes[n] = o := by
      rw [List.getElem?_eq_getElem hl] at hn
      exact Option.some.inj hn
    subst ho
    simp [hl, concObj_bump]
  · simp [h]

theorem bind_run {α β : Type} (x : M α) (f : α → M β) (s : SlicePrelude.St) :
    (x >>= f) s = match x s with
      | .ok a s' => f a s'
      | .panic => .panic
      | .nofuel => .nofuel := rfl

theorem readerPos_conc (grow : Nat → Nat) (nodes : List NodeObj) (arrs : Arrs) (n : Nat) (o : NodeObj)
    (hn : nodes[n]? = some o) :
    Go.readerPos n (conc grow nodes arrs) = .ok (o.rpos : Int) (conc grow nodes arrs) := by
  unfold SlicePrelude.Go.readerPos
  have : (conc grow nodes arrs).cells[n]? = some (concObj o) := by simp [conc, hn]
  rw [this]
  cases o <;> rfl

theorem setReaderPos_conc (grow : Nat → Nat) (nodes : List NodeObj) (arrs : Arrs) (n d : Nat) (o : NodeObj)
    (hn : nodes[n]? = some o) :
    Go.setReaderPos n ((o.rpos : Int) + d) (conc grow nodes arrs) =
      .ok () (conc grow (nodes.modify n (NodeObj.bump d)) arrs) := by
  unfold SlicePrelude.Go.setReaderPos
  have : (conc grow nodes arrs).cells[n]? = some (concObj o) := by simp [conc, hn]
  rw [this, conc_bump grow nodes arrs n d o hn]
  cases o <;> rfl

/-- the call-back of the machine: `f = (· + d)` -/
def shift (d : Nat) : Int → Int := fun p => p + d

theorem setRP_term_tie (grow : Nat → Nat) (nodes : List NodeObj) (arrs : Arrs) (n d fuel : Nat) (o : NodeObj)
    (hn : nodes[n]? = some o) :
    TerminalNode_SetReaderPos (fuel + 1) n (shift d) (conc grow nodes arrs) =
      .ok () (conc grow (nodes.modify n (NodeObj.bump d)) arrs) ∧
    NonTerminalNode_SetReaderPos (fuel + 1) n (shift d) (conc grow nodes arrs) =
      .ok () (conc grow (nodes.modify n (NodeObj.bump d)) arrs) := by
  rw [TerminalNode_SetReaderPos, NonTerminalNode_SetReaderPos]
  simp only [bind_run, readerPos_conc grow nodes arrs n o hn, shift, setReaderPos_conc grow nodes arrs n d o hn, pure_run,
    and_self]

theorem setRP_eof_tie (fuel : Nat) (p : Int) (f : Int → Int) (s : SlicePrelude.St) :
    EndNode_SetReaderPos (fuel + 1) p f s = .ok () s := by
  rw [EndNode_SetReaderPos]
  rfl

theorem setRP_cell_tie (grow : Nat → Nat) (nodes : List NodeObj) (arrs : Arrs) (d fuel : Nat) (c : Handle)
    (hc : CellOK nodes.length c) (hnil : c ≠ Handle.nil) :
    SetReaderPos (fuel + 2) (concH nodes c) (shift d) (conc grow nodes arrs) =
      .ok (concH (setRPCell d nodes c).1 (setRPCell d nodes c).2) (conc grow (setRPCell d nodes c).1 arrs) := by
  rw [SetReaderPos]
  cases c with
  | nil => exact absurd rfl hnil
  | list sl => exact absurd hc (by simp [CellOK])
  | empty p =>
    simp [concH, setRPCell, SlicePrelude.Node.hasKind, SlicePrelude.Node.kind, SlicePrelude.Node.asEmpty, pure_run, shift]
  | eof p =>
    simp [concH, setRPCell, SlicePrelude.Node.hasKind, SlicePrelude.Node.kind, bind_run, setRP_eof_tie, pure_run]
  | ptr n =>
    have hn : n < nodes.length := hc
    have ho : nodes[n]? = some nodes[n] := List.getElem?_eq_getElem hn
    simp only [setRPCell, concH, isNT_bump]
    by_cases hk : isNT nodes n = true
    · simp [hk, SlicePrelude.Node.hasKind, SlicePrelude.Node.kind, bind_run, (setRP_term_tie grow nodes arrs n d fuel _ ho).2, pure_run]
    · simp [hk, SlicePrelude.Node.hasKind, SlicePrelude.Node.kind, bind_run, (setRP_term_tie grow nodes arrs n d fuel _ ho).1, pure_run]

theorem cellsOf_conc (grow : Nat → Nat) (nodes : List NodeObj) (arrs : Arrs) (a : Nat) :
    SlicePrelude.cellsOf (conc grow nodes arrs) a = (cells arrs a).map (concH nodes) := by
  simp only [SlicePrelude.cellsOf, conc, cells, List.getD_eq_getElem?_getD, List.getElem?_map]
  cases arrs[a]? <;> simp

theorem idx_conc (grow : Nat → Nat) (nodes : List NodeObj) (arrs : Arrs) (sl : Slice) (k : Nat)
    (hk : k < sl.len) (hl : sl.len ≤ (cells arrs sl.arr).length) :
    Go.idx (concSl sl) (k : Int) (conc grow nodes arrs) =
      .ok (concH nodes ((cells arrs sl.arr).getD k Handle.nil)) (conc grow nodes arrs) := by
  unfold SlicePrelude.Go.idx
  have h1 : (0 : Int) ≤ (k : Int) ∧ (k : Int) < ((concSl sl).len : Int) := by
    simp only [concSl]; omega
  rw [if_pos h1, cellsOf_conc]
  have hk' : k < (cells arrs sl.arr).length := by omega
  simp [concSl, hk', List.getD_eq_getElem?_getD]

theorem conc_write (grow : Nat → Nat) (nodes : List NodeObj) (arrs : Arrs) (a i : Nat) (v : Handle) :
    ({ conc grow nodes arrs with
        arrays := (conc grow nodes arrs).arrays.modify a (fun c => c.set i (concH nodes v)) } : SlicePrelude.St) =
      conc grow nodes (writeCell arrs a i v) := by
  simp only [conc, writeCell]
  congr 1
  apply List.ext_getElem?
  intro j
  simp only [List.getElem?_modify, List.getElem?_map]
  by_cases h : a = j
  · subst h
    cases arrs[a]? <;> simp [List.map_set]
  · simp [h]

theorem setIdx_conc (grow : Nat → Nat) (nodes : List NodeObj) (arrs : Arrs) (sl : Slice) (k : Nat) (v : Handle)
    (hk : k < sl.len) (hl : sl.len ≤ (cells arrs sl.arr).length) :
    Go.setIdx (concSl sl) (k : Int) (concH nodes v) (conc grow nodes arrs) =
      .ok () (conc grow nodes (writeCell arrs sl.arr k v)) := by
  unfold SlicePrelude.Go.setIdx
  have h1 : (0 : Int) ≤ (k : Int) ∧ (k : Int) < ((concSl sl).len : Int) ∧
      (k : Int).toNat < (SlicePrelude.cellsOf (conc grow nodes arrs) (concSl sl).arr).length := by
    rw [cellsOf_conc]
    simp only [concSl, List.length_map, Int.toNat_natCast]; omega
  rw [if_pos h1, ← conc_write]
  rfl

/-- what `NodeList.SetReaderPos` needs of the list it is applied to: the view lies inside the array, and every element
    in view is neither nil (Go would panic) nor a list (the machine does not recurse), pointers point to existing objects -/
def ListOK (nodes : Nat) (arrs : Arrs) (sl : Slice) : Prop :=
  sl.len ≤ (cells arrs sl.arr).length ∧
  ∀ i, i < sl.len → (cells arrs sl.arr).getD i Handle.nil ≠ Handle.nil ∧ CellOK nodes ((cells arrs sl.arr).getD i Handle.nil)

theorem setRPCell_length (d : Nat) (nodes : List NodeObj) (c : Handle) : (setRPCell d nodes c).1.length = nodes.length := by
  cases c <;> simp [setRPCell]

theorem setRPCell_ok (d : Nat) (nodes : List NodeObj) (c : Handle) (hc : CellOK nodes.length c) (hnil : c ≠ Handle.nil) :
    (setRPCell d nodes c).2 ≠ Handle.nil ∧ CellOK nodes.length (setRPCell d nodes c).2 := by
  cases c <;> simp_all [setRPCell, CellOK]

theorem ListOK.write {n : Nat} {arrs : Arrs} {sl : Slice} (h : ListOK n arrs sl) (k : Nat) (v : Handle)
    (hv : v ≠ Handle.nil ∧ CellOK n v) : ListOK n (writeCell arrs sl.arr k v) sl := by
  have hc : cells (writeCell arrs sl.arr k v) sl.arr = (cells arrs sl.arr).set k v := by
    rw [cells_writeCell, if_pos rfl]
  unfold ListOK
  rw [hc]
  refine ⟨by simpa using h.1, fun i hi => ?_⟩
  have hi' : i < (cells arrs sl.arr).length := by have := h.1; omega
  simp only [List.getD_eq_getElem?_getD, List.getElem?_set]
  by_cases hki : k = i
  · subst hki
    simpa [hi'] using hv
  · simpa [hki, List.getD_eq_getElem?_getD] using h.2 i hi

theorem setRP_loop_tie (grow : Nat → Nat) (d : Nat) (sl : Slice) :
    ∀ (n k fuel : Nat) (nodes : List NodeObj) (arrs : Arrs), k + n = sl.len → n + 3 ≤ fuel →
      ListOK nodes.length arrs sl →
      NodeList_SetReaderPos_loop1 fuel (concSl sl) (shift d) (k : Int) (conc grow nodes arrs) =
        .ok () (conc grow (trimLoop d sl.arr n k nodes arrs).1 (trimLoop d sl.arr n k nodes arrs).2) := by
  intro n
  induction n with
  | zero =>
    intro k fuel nodes arrs hk hf _
    obtain ⟨f, rfl⟩ : ∃ f, fuel = f + 1 := ⟨fuel - 1, by omega⟩
    rw [NodeList_SetReaderPos_loop1]
    have : ¬ ((k : Int) < Go.len (concSl sl)) := by simp only [SlicePrelude.Go.len, concSl]; omega
    simp [this, trimLoop, pure_run]
  | succ n ih =>
    intro k fuel nodes arrs hk hf hok
    obtain ⟨f, rfl⟩ : ∃ f, fuel = f + 3 := ⟨fuel - 3, by omega⟩
    rw [NodeList_SetReaderPos_loop1]
    have hlt : (k : Int) < Go.len (concSl sl) := by simp only [SlicePrelude.Go.len, concSl]; omega
    have hk' : k < sl.len := by omega
    have hc := hok.2 k hk'
    have hcell := setRP_cell_tie grow nodes arrs d f _ hc.2 hc.1
    have hok' := setRPCell_ok d nodes _ hc.2 hc.1
    have hlen := setRPCell_length d nodes ((cells arrs sl.arr).getD k Handle.nil)
    have hw : ListOK (setRPCell d nodes ((cells arrs sl.arr).getD k Handle.nil)).1.length
        (writeCell arrs sl.arr k (setRPCell d nodes ((cells arrs sl.arr).getD k Handle.nil)).2) sl := by
      rw [hlen]; exact hok.write k _ hok'
    have hrec := ih (k + 1) (f + 2) _ _ (by omega) (by omega) hw
    have hcast : ((k : Int) + 1) = ((k + 1 : Nat) : Int) := by omega
    simp only [hlt, decide_true, if_true, bind_run, idx_conc grow nodes arrs sl k hk' hok.1, hcell,
      setIdx_conc grow _ arrs sl k _ hk' hok.1, hcast, hrec, trimLoop]

/-- what `ast.SetReaderPos` needs of its operand (the machine rejects a nil operand before `setRP`) -/
def TrimOK (s : St) : Handle → Prop
  | .nil => False
  | .ptr n => n < s.nodes.length
  | .list sl => ListOK s.nodes.length s.arrs sl
  | _ => True

/-- a node: SetReaderPos → the node's method (2); a list: SetReaderPos → NodeList.SetReaderPos (2), whose loop is translated
    with fuel and takes `sl.len + 3` (`setRP_loop_tie`) -/
def trimFuel : Handle → Nat
  | .list sl => sl.len + 5
  | _ => 2

theorem setRP_tie (grow : Nat → Nat) (d : Nat) (s : St) (h : Handle) (hok : TrimOK s h) (fuel : Nat)
    (hf : trimFuel h ≤ fuel) :
    SetReaderPos fuel (concH s.nodes h) (shift d) (conc grow s.nodes s.arrs) =
      .ok (concH (setRP d s h).1.nodes (setRP d s h).2) (conc grow (setRP d s h).1.nodes (setRP d s h).1.arrs) := by
  cases h with
  | nil => exact absurd hok (by simp [TrimOK])
  | list sl =>
    obtain ⟨f, rfl⟩ : ∃ f, fuel = f + 2 := ⟨fuel - 2, by simp only [trimFuel] at hf; omega⟩
    have hl := setRP_loop_tie grow d sl sl.len 0 f s.nodes s.arrs (by omega) (by simp only [trimFuel] at hf; omega) hok
    rw [SetReaderPos]
    have hcast : ((0 : Nat) : Int) = 0 := rfl
    rw [hcast] at hl
    have hkind : ∀ nodes, concH nodes (Handle.list sl) = Node.list (concSl sl) := fun _ => rfl
    simp only [hkind, setRP, SlicePrelude.Node.hasKind, SlicePrelude.Node.kind, bind_run, pure_run]
    rw [NodeList_SetReaderPos]
    simp [bind_run, hl, pure_run]
  | ptr n =>
    obtain ⟨f, rfl⟩ : ∃ f, fuel = f + 2 := ⟨fuel - 2, by simp only [trimFuel] at hf; omega⟩
    simpa [setRP, setRPCell] using setRP_cell_tie grow s.nodes s.arrs d f (Handle.ptr n) hok Handle.noConfusion
  | empty p =>
    obtain ⟨f, rfl⟩ : ∃ f, fuel = f + 2 := ⟨fuel - 2, by simp only [trimFuel] at hf; omega⟩
    simpa [setRP, setRPCell] using setRP_cell_tie grow s.nodes s.arrs d f (Handle.empty p) trivial Handle.noConfusion
  | eof p =>
    obtain ⟨f, rfl⟩ : ∃ f, fuel = f + 2 := ⟨fuel - 2, by simp only [trimFuel] at hf; omega⟩
    simpa [setRP, setRPCell] using setRP_cell_tie grow s.nodes s.arrs d f (Handle.eof p) trivial Handle.noConfusion

theorem isNil_concH (nodes : List NodeObj) (h : Handle) : Node.isNil (concH nodes h) = decide (h = Handle.nil) := by
  cases h with
  | ptr n => by_cases hk : isNT nodes n = true <;> simp [concH, SlicePrelude.Node.isNil, hk]
  | _ => simp [concH, SlicePrelude.Node.isNil]

theorem concH_eq_empty (nodes : List NodeObj) (c : Handle) (p : Nat) :
    concH nodes c = Node.empty (p : Int) ↔ c = Handle.empty p := by
  cases c with
  | ptr n => by_cases hk : isNT nodes n = true <;> simp [concH, hk]
  | empty q => simp only [concH, Node.empty.injEq, Handle.empty.injEq]; omega
  | _ => simp [concH]

theorem asList_concH (nodes : List NodeObj) (h : Handle) (hn : ∀ sl, h ≠ Handle.list sl) :
    Node.asList (concH nodes h) = none := by
  cases h with
  | ptr n => by_cases hk : isNT nodes n = true <;> simp [concH, SlicePrelude.Node.asList, hk]
  | list sl => exact absurd rfl (hn sl)
  | _ => simp [concH, SlicePrelude.Node.asList]

theorem asEmpty_concH (nodes : List NodeObj) (h : Handle) (hn : ∀ p, h ≠ Handle.empty p) :
    Node.asEmpty (concH nodes h) = none := by
  cases h with
  | ptr n => by_cases hk : isNT nodes n = true <;> simp [concH, SlicePrelude.Node.asEmpty, hk]
  | empty p => exact absurd rfl (hn p)
  | _ => simp [concH, SlicePrelude.Node.asEmpty]

theorem view_conc (grow : Nat → Nat) (nodes : List NodeObj) (arrs : Arrs) (s : Slice) :
    SlicePrelude.view (conc grow nodes arrs) (concSl s) = (view arrs s).map (concH nodes) := by
  simp [SlicePrelude.view, view, cellsOf_conc, concSl, List.map_take]

/-- `append(s, v)`: exactly the machine's `sliceAppend`, for every header (in place — a write into the array every other
    header onto it shares — when len < cap, a fresh array otherwise) -/
theorem append_conc (grow : Nat → Nat) (nodes : List NodeObj) (arrs : Arrs) (s : Slice) (v : Handle) :
    Go.append (concSl s) (concH nodes v) (conc grow nodes arrs) =
      .ok (concSl (sliceAppend grow arrs s v).2) (conc grow nodes (sliceAppend grow arrs s v).1) := by
  unfold SlicePrelude.Go.append sliceAppend
  by_cases h : s.len < s.cap
  · have h' : (concSl s).len < (concSl s).cap := h
    rw [if_pos h', if_pos h]
    show Res.ok _ _ = Res.ok _ _
    rw [show (concSl s).arr = s.arr from rfl, show (concSl s).len = s.len from rfl, conc_write]
    rfl
  · have h' : ¬ (concSl s).len < (concSl s).cap := h
    rw [if_neg h', if_neg h]
    show Res.ok _ _ = Res.ok _ _
    congr 1
    · simp [conc, concSl]
    · rw [view_conc]
      simp [conc, concSl, concH]

theorem litSlice_conc (grow : Nat → Nat) (nodes : List NodeObj) (arrs : Arrs) (h : Handle) :
    Go.litSlice [concH nodes h] (conc grow nodes arrs) =
      .ok (concSl ⟨arrs.length, 1, 1⟩) (conc grow nodes (arrs ++ [[h]])) := by
  simp [SlicePrelude.Go.litSlice, conc, concSl]

theorem swf_len {arrs : Arrs} {s : Slice} (w : SWF arrs s) : s.len ≤ (cells arrs s.arr).length := by
  rcases w.2 with h0 | ⟨_, h1⟩
  · have := w.1; omega
  · have := w.1; omega

/-- the scanning loop of the EmptyNode case (`for _, node := range *nl { if node == v { return } }; *nl = append(*nl, v)`),
    from index `k`: nothing happens when the value is among the elements from `k` on, else the append -/
theorem dedupe_tie (grow : Nat → Nat) (nodes : List NodeObj) (arrs : Arrs) (nl : Slice) (p : Nat)
    (hl : nl.len ≤ (cells arrs nl.arr).length) :
    ∀ (n k fuel : Nat), k + n = nl.len → n + 1 ≤ fuel →
      NodeList_Append_loop2 fuel (concSl nl) (p : Int) (k : Int) (conc grow nodes arrs) =
        if Handle.empty p ∈ (view arrs nl).drop k then .ok (concSl nl) (conc grow nodes arrs)
        else .ok (concSl (sliceAppend grow arrs nl (Handle.empty p)).2)
          (conc grow nodes (sliceAppend grow arrs nl (Handle.empty p)).1) := by
  have hvl : (view arrs nl).length = nl.len := by simp [view]; omega
  intro n
  induction n with
  | zero =>
    intro k fuel hk hf
    obtain ⟨f, rfl⟩ : ∃ f, fuel = f + 1 := ⟨fuel - 1, by omega⟩
    rw [NodeList_Append_loop2]
    have : ¬ ((k : Int) < Go.len (concSl nl)) := by simp only [SlicePrelude.Go.len, concSl]; omega
    have hd : (view arrs nl).drop k = [] := List.drop_eq_nil_of_le (by omega)
    have ha := append_conc grow nodes arrs nl (Handle.empty p)
    simp only [concH] at ha
    simp [this, hd, bind_run, ha, pure_run]
  | succ n ih =>
    intro k fuel hk hf
    obtain ⟨f, rfl⟩ : ∃ f, fuel = f + 1 := ⟨fuel - 1, by omega⟩
    rw [NodeList_Append_loop2]
    have hlt : (k : Int) < Go.len (concSl nl) := by simp only [SlicePrelude.Go.len, concSl]; omega
    have hk' : k < nl.len := by omega
    have hkv : k < (view arrs nl).length := by omega
    have hkc : k < (cells arrs nl.arr).length := by omega
    have hget : (cells arrs nl.arr).getD k Handle.nil = (view arrs nl)[k] := by
      simp [view, List.getD_eq_getElem?_getD, hkc]
    have hd : (view arrs nl).drop k = (cells arrs nl.arr).getD k Handle.nil :: (view arrs nl).drop (k + 1) := by
      rw [hget]; exact List.drop_eq_getElem_cons hkv
    have hcast : ((k : Int) + 1) = ((k + 1 : Nat) : Int) := by omega
    have hrec := ih (k + 1) f (by omega) (by omega)
    simp only [hlt, decide_true, if_true, bind_run, idx_conc grow nodes arrs nl k hk' hl, hcast, hrec, hd,
      List.mem_cons]
    generalize (cells arrs nl.arr).getD k Handle.nil = c
    by_cases hc : c = Handle.empty p
    · have : concH nodes c = Node.empty (p : Int) := (concH_eq_empty nodes _ p).2 hc
      rw [if_pos (decide_eq_true this)]
      simp [hc, pure_run]
    · have : ¬ concH nodes c = Node.empty (p : Int) := fun e => hc ((concH_eq_empty nodes _ p).1 e)
      have hc' : ¬ Handle.empty p = c := fun e => hc e.symm
      rw [if_neg (by simp [this]), hrec]
      simp [hc']

/-- `(nl *NodeList).Append(c)` for a `c` that is not a list -/
theorem append1_tie (grow : Nat → Nat) (nodes : List NodeObj) (arrs : Arrs) (nl : Slice) (c : Handle)
    (hc : ∀ sl, c ≠ Handle.list sl) (hl : nl.len ≤ (cells arrs nl.arr).length) (fuel : Nat) (hf : nl.len + 3 ≤ fuel) :
    NodeList_Append fuel (concSl nl) (concH nodes c) (conc grow nodes arrs) =
      .ok (concSl (nlAppend1 grow arrs nl c).2) (conc grow nodes (nlAppend1 grow arrs nl c).1) := by
  obtain ⟨f, rfl⟩ : ∃ f, fuel = f + 1 := ⟨fuel - 1, by omega⟩
  rw [NodeList_Append, asList_concH nodes c hc]
  by_cases he : ∃ p, c = Handle.empty p
  · obtain ⟨p, rfl⟩ := he
    have hd := dedupe_tie grow nodes arrs nl p hl nl.len 0 f (by omega) (by omega)
    have hcast : ((0 : Nat) : Int) = 0 := rfl
    rw [hcast] at hd
    simp only [concH, SlicePrelude.Node.asEmpty, hd, List.drop_zero, nlAppend1]
    split <;> rfl
  · have he' : ∀ p, c ≠ Handle.empty p := fun p e => he ⟨p, e⟩
    rw [asEmpty_concH nodes c he']
    have ha := append_conc grow nodes arrs nl c
    have h1 : nlAppend1 grow arrs nl c = sliceAppend grow arrs nl c := by
      cases c <;> first | rfl | exact absurd rfl (he' _)
    simp only [bind_run, ha, pure_run, h1]

theorem nlAppend1_len (grow : Nat → Nat) (arrs : Arrs) (nl : Slice) (c : Handle) :
    (nlAppend1 grow arrs nl c).2.len ≤ nl.len + 1 := by
  unfold nlAppend1 sliceAppend
  repeat' split
  all_goals simp

/-- the loop of the NodeList case (`for _, node := range v { nl.Append(node) }`) from index `k`, `n` rounds to go; the
    elements read are never lists in a heap whose cells are all `CellOK` -/
theorem appendLoop_tie (grow : Nat → Nat) (nodes : List NodeObj) (N : Nat) (src : Slice) :
    ∀ (n k fuel : Nat) (arrs : Arrs) (nl : Slice), k + n = src.len → nl.len + 2 * n + 4 ≤ fuel →
      CellsOK N arrs → SWF arrs nl → SWF arrs src →
      NodeList_Append_loop1 fuel (concSl nl) (concSl src) (k : Int) (conc grow nodes arrs) =
        .ok (concSl (nlAppendLoop grow src n k arrs nl).2) (conc grow nodes (nlAppendLoop grow src n k arrs nl).1) := by
  intro n
  induction n with
  | zero =>
    intro k fuel arrs nl hk hf _ _ _
    obtain ⟨f, rfl⟩ : ∃ f, fuel = f + 1 := ⟨fuel - 1, by omega⟩
    rw [NodeList_Append_loop1]
    have : ¬ ((k : Int) < Go.len (concSl src)) := by simp only [SlicePrelude.Go.len, concSl]; omega
    simp [this, nlAppendLoop, pure_run]
  | succ n ih =>
    intro k fuel arrs nl hk hf ok w ws
    obtain ⟨f, rfl⟩ : ∃ f, fuel = f + 1 := ⟨fuel - 1, by omega⟩
    rw [NodeList_Append_loop1]
    have hlt : (k : Int) < Go.len (concSl src) := by simp only [SlicePrelude.Go.len, concSl]; omega
    have hk' : k < src.len := by omega
    have hsl := swf_len ws
    have hcok := getD_cellOK ok src.arr k
    have hnl : ∀ sl, (cells arrs src.arr).getD k Handle.nil ≠ Handle.list sl := by
      intro sl e; rw [e] at hcok; exact hcok
    have r1 := nlAppend1_spec grow (fun _ => 0) N arrs nl _ w (fun _ => Nat.zero_le _) (fun _ _ => rfl) ok hcok
    have hlen := nlAppend1_len grow arrs nl ((cells arrs src.arr).getD k Handle.nil)
    have h1 := append1_tie grow nodes arrs nl _ hnl (swf_len w) f (by omega)
    have hrec := ih (k + 1) f _ _ (by omega) (by omega) r1.ok r1.swf (r1.frame.swf ws)
    have hcast : ((k : Int) + 1) = ((k + 1 : Nat) : Int) := by omega
    simp only [hlt, decide_true, if_true, bind_run, idx_conc grow nodes arrs src k hk' hsl, h1, hcast, hrec, nlAppendLoop]

/-- the number of elements an operand contributes -/
def hLen : Handle → Nat
  | .list s => s.len
  | _ => 1

/-- what the append family needs of an operand: a list header lies inside its array, a pointer points to an existing
    object (what every reachable state guarantees of every held handle) -/
def AppOK (n : Nat) (arrs : Arrs) : Handle → Prop
  | .list sl => SWF arrs sl
  | .ptr m => m < n
  | _ => True

/-- `(nl *NodeList).Append(h2)` is the machine's `nlAppend` -/
theorem nlAppend_tie (grow : Nat → Nat) (nodes : List NodeObj) (N : Nat) (arrs : Arrs) (nl : Slice) (h2 : Handle)
    (ok : CellsOK N arrs) (w : SWF arrs nl) (h2ok : AppOK N arrs h2) (fuel : Nat) (hf : nl.len + 2 * hLen h2 + 5 ≤ fuel) :
    NodeList_Append fuel (concSl nl) (concH nodes h2) (conc grow nodes arrs) =
      .ok (concSl (nlAppend grow arrs nl h2).2) (conc grow nodes (nlAppend grow arrs nl h2).1) := by
  by_cases hl : ∃ src, h2 = Handle.list src
  · obtain ⟨src, rfl⟩ := hl
    obtain ⟨f, rfl⟩ : ∃ f, fuel = f + 1 := ⟨fuel - 1, by omega⟩
    have hloop := appendLoop_tie grow nodes N src src.len 0 f arrs nl (by omega) (by simp only [hLen] at hf; omega) ok w h2ok
    have hcast : ((0 : Nat) : Int) = 0 := rfl
    rw [hcast] at hloop
    rw [NodeList_Append]
    simp only [concH, SlicePrelude.Node.asList, hloop, nlAppend]
  · have hn : ∀ sl, h2 ≠ Handle.list sl := fun sl e => hl ⟨sl, e⟩
    have h1 : nlAppend grow arrs nl h2 = nlAppend1 grow arrs nl h2 := by
      cases h2 <;> first | rfl | exact absurd rfl (hn _)
    rw [h1]
    exact append1_tie grow nodes arrs nl h2 hn (swf_len w) fuel (by omega)

/-- `ast.AppendNode(h1, h2)`, neither nil, `h1` not a list: a fresh one-element list, then `Append` -/
theorem appendNode_fresh_tie (grow : Nat → Nat) (nodes : List NodeObj) (arrs : Arrs) (h1 h2 : Handle)
    (hn1 : h1 ≠ Handle.nil) (hn2 : h2 ≠ Handle.nil) (hn : ∀ sl, h1 ≠ Handle.list sl)
    (ok : CellsOK nodes.length arrs) (h1ok : AppOK nodes.length arrs h1) (h2ok : AppOK nodes.length arrs h2)
    (f : Nat) (hf : 2 * hLen h2 + 6 ≤ f) :
    AppendNode (f + 1) (concH nodes h1) (concH nodes h2) (conc grow nodes arrs) =
      .ok (Node.list (concSl (nlAppend grow (arrs ++ [[h1]]) ⟨arrs.length, 1, 1⟩ h2).2))
        (conc grow nodes (nlAppend grow (arrs ++ [[h1]]) ⟨arrs.length, 1, 1⟩ h2).1) := by
  rw [AppendNode]
  simp only [isNil_concH, hn1, hn2, decide_false, if_false, Bool.false_eq_true]
  have hc1 : CellOK nodes.length h1 := by
    cases h1 <;> first | trivial | exact h1ok | exact absurd rfl (hn _)
  have ok' : CellsOK nodes.length (arrs ++ [[h1]]) :=
    cellsOK_append ok [h1] (fun x hx => by simp at hx; subst hx; exact hc1)
  have w' : SWF (arrs ++ [[h1]]) ⟨arrs.length, 1, 1⟩ :=
    ⟨Nat.le_refl _, Or.inr ⟨by simp, by rw [cells_append_eq]; simp⟩⟩
  have fr := frameA_append (fun _ => 0) arrs [h1] (fun _ _ => rfl)
  have h2ok' : AppOK nodes.length (arrs ++ [[h1]]) h2 := by
    cases h2 <;> first | trivial | exact h2ok | exact fr.swf h2ok
  have ht := nlAppend_tie grow nodes nodes.length (arrs ++ [[h1]]) ⟨arrs.length, 1, 1⟩ h2 ok' w' h2ok' f
    (by show 1 + 2 * hLen h2 + 5 ≤ f; omega)
  simp only [asList_concH nodes h1 hn, bind_run, litSlice_conc, ht, pure_run]

/-- `ast.AppendNode(h1, h2)` is the machine's `appendNodeCore` -/
theorem appendNode_tie (grow : Nat → Nat) (nodes : List NodeObj) (arrs : Arrs) (h1 h2 : Handle)
    (ok : CellsOK nodes.length arrs) (h1ok : AppOK nodes.length arrs h1) (h2ok : AppOK nodes.length arrs h2)
    (fuel : Nat) (hf : hLen h1 + 2 * hLen h2 + 6 ≤ fuel) :
    AppendNode fuel (concH nodes h1) (concH nodes h2) (conc grow nodes arrs) =
      .ok (concH nodes (appendNodeCore grow arrs h1 h2).2) (conc grow nodes (appendNodeCore grow arrs h1 h2).1) := by
  obtain ⟨f, rfl⟩ : ∃ f, fuel = f + 1 := ⟨fuel - 1, by omega⟩
  by_cases hn1 : h1 = Handle.nil
  · rw [AppendNode]
    simp [appendNodeCore, isNil_concH, hn1, pure_run]
  by_cases hn2 : h2 = Handle.nil
  · rw [AppendNode]
    simp [appendNodeCore, isNil_concH, hn1, hn2, pure_run]
  by_cases hl : ∃ sl, h1 = Handle.list sl
  · obtain ⟨sl, rfl⟩ := hl
    rw [AppendNode]
    have ht := nlAppend_tie grow nodes nodes.length arrs sl h2 ok h1ok h2ok f
      (by have : hLen (Handle.list sl) = sl.len := rfl
          omega)
    have e : appendNodeCore grow arrs (Handle.list sl) h2 =
        ((nlAppend grow arrs sl h2).1, Handle.list (nlAppend grow arrs sl h2).2) := by
      unfold appendNodeCore; rw [if_neg hn1, if_neg hn2]
    rw [e, show concH nodes (Handle.list sl) = Node.list (concSl sl) from rfl]
    have hnil1 : Node.isNil (Node.list (concSl sl)) = false := rfl
    simp only [hnil1, isNil_concH, hn2, decide_false, if_false, Bool.false_eq_true, reduceCtorEq,
      SlicePrelude.Node.asList, bind_run, ht, pure_run]
    rfl
  · -- a single node: the machine and the translation both start from the one-element list
    have hn : ∀ sl, h1 ≠ Handle.list sl := fun sl e => hl ⟨sl, e⟩
    have e : appendNodeCore grow arrs h1 h2 =
        ((nlAppend grow (arrs ++ [[h1]]) ⟨arrs.length, 1, 1⟩ h2).1,
          Handle.list (nlAppend grow (arrs ++ [[h1]]) ⟨arrs.length, 1, 1⟩ h2).2) := by
      cases h1 with
      | nil => exact absurd rfl hn1
      | list sl => exact absurd rfl (hn sl)
      | _ => unfold appendNodeCore; rw [if_neg hn1, if_neg hn2]
    have h1len : hLen h1 = 1 := by
      cases h1 <;> first | rfl | exact absurd rfl (hn _)
    rw [e]
    exact appendNode_fresh_tie grow nodes arrs h1 h2 hn1 hn2 hn ok h1ok h2ok f (by omega)

/-! ### any store: an append through a header WITHOUT spare capacity never writes into an existing array

  Directly about the translated functions, for every store of the run-time (not only those that correspond to a state of the
  machine) and every argument (nested lists included).  `Away N nl`: an in-place append through `nl` — if `nl` has spare
  capacity at all — goes to an array allocated after the first `N`.  A clipped header (len = cap) is `Away N` for every `N`,
  and stays so through `Append`: its first append allocates, the later ones extend that new array. -/

def Pres (N : Nat) (st st' : SlicePrelude.St) : Prop :=
  st'.cells = st.cells ∧ st'.grow = st.grow ∧ N ≤ st'.arrays.length ∧ st'.arrays.take N = st.arrays.take N

def Away (N : Nat) (nl : Sl) : Prop := nl.len < nl.cap → N ≤ nl.arr

theorem Pres.refl {N : Nat} {st : SlicePrelude.St} (h : N ≤ st.arrays.length) : Pres N st st := ⟨rfl, rfl, h, rfl⟩

theorem Pres.trans {N : Nat} {a b c : SlicePrelude.St} (h1 : Pres N a b) (h2 : Pres N b c) : Pres N a c :=
  ⟨h2.1.trans h1.1, h2.2.1.trans h1.2.1, h2.2.2.1, h2.2.2.2.trans h1.2.2.2⟩

theorem bind_ok_inv {α β : Type} (x : M α) (f : α → M β) (s s' : SlicePrelude.St) (b : β)
    (h : (x >>= f) s = .ok b s') : ∃ a s1, x s = .ok a s1 ∧ f a s1 = .ok b s' := by
  rw [bind_run] at h
  cases hx : x s with
  | ok a s1 => exact ⟨a, s1, rfl, by simpa [hx] using h⟩
  | panic => simp [hx] at h
  | nofuel => simp [hx] at h

theorem append_away {N : Nat} {s s' : Sl} {v : Node} {st st' : SlicePrelude.St} (hN : N ≤ st.arrays.length)
    (ha : Away N s) (h : Go.append s v st = .ok s' st') : Away N s' ∧ Pres N st st' := by
  unfold SlicePrelude.Go.append at h
  by_cases hlt : s.len < s.cap
  · rw [if_pos hlt] at h
    simp only [Res.ok.injEq] at h
    obtain ⟨rfl, rfl⟩ := h
    have hNa := ha hlt
    refine ⟨fun _ => hNa, rfl, rfl, by simpa using hN, ?_⟩
    apply List.ext_getElem?
    intro i
    simp only [List.getElem?_take, List.getElem?_modify]
    by_cases hi : i < N
    · have : ¬ s.arr = i := by omega
      simp [hi, this]
    · simp [hi]
  · rw [if_neg hlt] at h
    simp only [Res.ok.injEq] at h
    obtain ⟨rfl, rfl⟩ := h
    refine ⟨fun _ => hN, rfl, rfl, by simp; omega, ?_⟩
    simp [List.take_append_of_le_length hN]

theorem idx_state {s : Sl} {i : Int} {st st' : SlicePrelude.St} {v : Node} (h : Go.idx s i st = .ok v st') : st' = st := by
  unfold SlicePrelude.Go.idx at h
  split at h
  · split at h
    · simp only [Res.ok.injEq] at h; exact h.2.symm
    · cases h
  · cases h

theorem append_away_all (N : Nat) : ∀ fuel : Nat,
    (∀ (nl : Sl) (node : Node) (st : SlicePrelude.St) (nl' : Sl) (st' : SlicePrelude.St), N ≤ st.arrays.length → Away N nl →
      NodeList_Append fuel nl node st = .ok nl' st' → Away N nl' ∧ Pres N st st') ∧
    (∀ (nl v : Sl) (k : Int) (st : SlicePrelude.St) (nl' : Sl) (st' : SlicePrelude.St), N ≤ st.arrays.length → Away N nl →
      NodeList_Append_loop1 fuel nl v k st = .ok nl' st' → Away N nl' ∧ Pres N st st') ∧
    (∀ (nl : Sl) (p k : Int) (st : SlicePrelude.St) (nl' : Sl) (st' : SlicePrelude.St), N ≤ st.arrays.length → Away N nl →
      NodeList_Append_loop2 fuel nl p k st = .ok nl' st' → Away N nl' ∧ Pres N st st') := by
  intro fuel
  induction fuel with
  | zero =>
    refine ⟨?_, ?_, ?_⟩
    · intro nl node st nl' st' _ _ h; rw [NodeList_Append] at h; cases h
    · intro nl v k st nl' st' _ _ h; rw [NodeList_Append_loop1] at h; cases h
    · intro nl p k st nl' st' _ _ h; rw [NodeList_Append_loop2] at h; cases h
  | succ f ih =>
    obtain ⟨ihA, ih1, ih2⟩ := ih
    refine ⟨?_, ?_, ?_⟩
    · intro nl node st nl' st' hN ha h
      rw [NodeList_Append] at h
      cases hl : Node.asList node with
      | some v =>
        simp only [hl] at h
        exact ih1 _ _ _ _ _ _ hN ha h
      | none =>
        simp only [hl] at h
        cases he : Node.asEmpty node with
        | some p =>
          simp only [he] at h
          exact ih2 _ _ _ _ _ _ hN ha h
        | none =>
          simp only [he] at h
          exact append_away hN ha h
    · intro nl v k st nl' st' hN ha h
      rw [NodeList_Append_loop1] at h
      split at h
      · obtain ⟨c, s1, h1, h2⟩ := bind_ok_inv _ _ _ _ _ h
        have := idx_state h1; subst this
        obtain ⟨nl1, s2, h3, h4⟩ := bind_ok_inv _ _ _ _ _ h2
        have r1 := ihA _ _ _ _ _ hN ha h3
        have r2 := ih1 _ _ _ _ _ _ r1.2.2.2.1 r1.1 h4
        exact ⟨r2.1, r1.2.trans r2.2⟩
      · simp only [pure_run, Res.ok.injEq] at h
        obtain ⟨rfl, rfl⟩ := h
        exact ⟨ha, Pres.refl hN⟩
    · intro nl p k st nl' st' hN ha h
      rw [NodeList_Append_loop2] at h
      split at h
      · obtain ⟨c, s1, h1, h2⟩ := bind_ok_inv _ _ _ _ _ h
        have := idx_state h1; subst this
        split at h2
        · simp only [pure_run, Res.ok.injEq] at h2
          obtain ⟨rfl, rfl⟩ := h2
          exact ⟨ha, Pres.refl hN⟩
        · exact ih2 _ _ _ _ _ _ hN ha h2
      · exact append_away hN ha h

theorem trimOK_of_hwf {s : St} {top : Nat → Nat} (inv : Inv s top) {h : Handle} (hw : HWF s top h)
    (hnil : h ≠ Handle.nil) : TrimOK s h := by
  cases h with
  | nil => exact absurd rfl hnil
  | ptr n => exact hw
  | empty p => trivial
  | eof p => trivial
  | list sl =>
    obtain ⟨hswf, hpos, _, hnn⟩ := hw
    have hlen := swf_len hswf
    refine ⟨hlen, fun i hi => ?_⟩
    have hi' : i < (cells s.arrs sl.arr).length := by omega
    have hget : (cells s.arrs sl.arr).getD i Handle.nil = (cells s.arrs sl.arr)[i] := by
      simp [List.getD_eq_getElem?_getD, hi']
    rw [hget]
    refine ⟨fun hc => hnn ?_, inv.cellok sl.arr _ (List.getElem_mem hi')⟩
    rw [← hc]
    simp only [view]
    exact List.mem_iff_getElem.mpr ⟨i, by simp; omega, by simp⟩

end PV.AstTie
