/-
  C05 (full value theorem), lexical layer: what `Trim(Rune(c))` and `Trim(Integer())` find at a position,
  as facts about `rest f pos`; the whitespace skip of mode WsSpacesNl.
-/
import ParsleyVerif.Props.C08
import ParsleyVerif.Proofs.Reader
import ParsleyVerif.Spec.Arith
import ParsleyVerif.Proofs.Lexeme
namespace PV.A05
open PV PV.Text

/-- where `SkipWhitespaces(pos, WsSpacesNl)` stops -/
def sk (f : File) (q : Nat) : Nat := (skipWhitespaces f q .spacesNl).1
/-- `SetReaderPos` with the WsSpacesNl skip -/
def mv (f : File) (n : Node) : Node := (setRposNode f .spacesNl n none).1

theorem mv_term (f : File) (t : Bytes) (v : Val) (p r : Nat) : mv f (.term t v p r) = .term t v p (sk f r) := by
  simp [mv, setRposNode, sk]

theorem sk_eq (f : File) (q : Nat) (h : InFile f q) (hoff : 1 ≤ f.offset) : sk f q = q + wsRun (rest f q) := by
  unfold sk
  rw [skipWhitespaces_spec f q .spacesNl h hoff]

theorem sk_inFile (f : File) (q : Nat) (h : InFile f q) (hoff : 1 ≤ f.offset) : InFile f (sk f q) := by
  rw [sk_eq f q h hoff]
  exact inFile_advance h (wsRun_le _)

theorem sk_ge (f : File) (q : Nat) (h : InFile f q) (hoff : 1 ≤ f.offset) : q ≤ sk f q := by
  rw [sk_eq f q h hoff]; omega

theorem rest_sk (f : File) (q : Nat) (h : InFile f q) (hoff : 1 ≤ f.offset) :
    rest f (sk f q) = (rest f q).dropWhile isWs := by
  rw [sk_eq f q h hoff, rest_wsRun h]

theorem head_sk_not_ws (f : File) (q : Nat) (h : InFile f q) (hoff : 1 ≤ f.offset) (b : Nat)
    (hb : (rest f (sk f q)).head? = some b) : isWs b = false := by
  rw [rest_sk f q h hoff] at hb
  exact dropWhile_isWs_head _ b hb

theorem sk_of_head (f : File) (q : Nat) (h : InFile f q) (hoff : 1 ≤ f.offset)
    (hh : ∀ b, (rest f q).head? = some b → isWs b = false) : sk f q = q := by
  rw [sk_eq f q h hoff, ws_split_unique (w := []) rfl nofun hh]; rfl

theorem integer_node_head (P : Params) (f : File) (p : Nat) (n : Node) (h : InFile f p)
    (hn : Terminal.parse P f .integer p = .node n) :
    ∃ b, (rest f p).head? = some b ∧ (b = 43 ∨ b = 45 ∨ (48 ≤ b ∧ b ≤ 57)) ∧
      ∃ v k, 0 < k ∧ k ≤ (rest f p).length ∧ n = .term (tokOf "INTEGER") (.int v) p (p + k) := by
  obtain ⟨k, hk, _, _, _, rfl⟩ := (c08_integer_value P f p n h).mp hn
  have hm := longestPrefix_mem hk
  have hle := longestPrefix_le hk
  obtain ⟨b, r, hbr, hb⟩ := isInt_head hm
  have hk0 : 0 < k := by
    cases k with
    | zero => simp at hbr
    | succ k => omega
  refine ⟨b, ?_, by omega, _, k, hk0, hle, rfl⟩
  cases hr : rest f p with
  | nil => rw [hr] at hbr; simp at hbr
  | cons c t =>
    rw [hr] at hbr
    cases k with
    | zero => omega
    | succ k =>
      simp only [List.take_succ_cons, List.cons.injEq] at hbr
      simp [hbr.1]

end PV.A05
