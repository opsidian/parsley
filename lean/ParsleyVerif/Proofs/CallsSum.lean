/-
  C17: the sum behind the count of every left spine.  The activation `i` levels above the curtailed one gets min(i, n)
  alternatives from below — one more per level until the input is used up — and pays for each of them, so the spine costs
  a linear term and multiples of `triS n m` = Σ_{i<m} min(i, n): a triangle while it grows, a rectangle above.
-/
namespace PV.C17b

/-- Σ_{i<m} min(i, n) -/
def triS (n : Nat) : Nat → Nat
  | 0 => 0
  | m + 1 => triS n m + min m n

theorem sq_succ (m : Nat) : (m + 1) * (m + 1) = m * m + 2 * m + 1 := by
  rw [Nat.add_mul, Nat.mul_add]; omega

theorem triS_low (n : Nat) : ∀ m, m ≤ n → 2 * triS n m + m = m * m
  | 0, _ => rfl
  | m + 1, hm => by
    have := triS_low n m (by omega)
    rw [triS, Nat.min_eq_left (by omega), sq_succ]
    omega

theorem triS_high (n : Nat) : ∀ d, 2 * triS n (n + d) + n = n * n + 2 * (d * n)
  | 0 => by simpa using triS_low n n (Nat.le_refl _)
  | d + 1 => by
    have := triS_high n d
    rw [show n + (d + 1) = (n + d) + 1 from rfl, triS, Nat.min_eq_right (by omega), Nat.add_mul, Nat.one_mul]
    omega

end PV.C17b
