/-
  C03 (Memoize is transparent, deterministic, at most once per position) — vocabulary and first facts.

  * `pn st`: the position of the furthest recorded error, as a number (0 = no error recorded, p + 1 =
    an error at position p), so that "SetError keeps the furthest" reads `pn (st.setError e) = max …`;
  * `Grow st st'`: what every call does to the context — the ghost log is only appended to, the call count
    and the furthest error position never decrease (`run_grow`, for every grammar);
  * the one-child combinators post-process the answer of their operand without looking at its curtailing set
    (`wrap_out_mapCp`);
  * the predicates on the ghost log that C03 speaks about: `bodyRuns`, `NoCurtail`, `NoReentry`.
-/
import ParsleyVerif.Proofs.RunBasics
import ParsleyVerif.Proofs.RunLoops
import ParsleyVerif.Proofs.GInduct
import ParsleyVerif.Spec.Strip
namespace PV
open PV.Text

def pe : Option Err → Nat
  | none => 0
  | some e => e.pos + 1

def pn (st : St) : Nat := pe st.ctxErr

theorem pe_eq_iff (a b : Option Err) : pe a = pe b ↔ a.map Err.pos = b.map Err.pos := by
  cases a <;> cases b <;> simp [pe]

theorem pn_setError (st : St) (e : Option Err) : pn (st.setError e) = max (pn st) (pe e) := by
  cases e with
  | none => exact (Nat.max_zero _).symm
  | some e =>
    unfold pn St.setError
    cases hc : st.ctxErr with
    | none => exact (Nat.zero_max _).symm
    | some c =>
      by_cases hge : e.pos ≥ c.pos
      · simp only [hge, ↓reduceIte, pe]; omega
      · simp only [hge, ↓reduceIte, hc, pe]; omega

theorem pn_logEv (st : St) (cfg : Cfg) (ev : Ev) : pn (st.logEv cfg ev) = pn st :=
  congrArg pe (logEv_fields st cfg ev).2.1

def Out.mapCp (k : List Nat → List Nat) (o : Out) : Out := { o with cp := k o.cp }

theorem wrap_out_mapCp {f : File} {pos : Nat} {g : G} {w : Wrap} (hw : g.wrap f pos = some w)
    {k : List Nat → List Nat} (hk : k [] = []) (o : Out) : w.out (o.mapCp k) = (w.out o).mapCp k := by
  obtain ⟨r, c, e⟩ := o
  refine G.wrap_cases (fun _ => rfl) ?name ?single (fun _ => rfl) ?ltrim ?rtrim hw
  case name =>
    intro g' nm
    rcases e with _ | e
    · rcases r with _ | n | l <;> rfl
    · show (if _ then _ else _) = Out.mapCp k (if _ then _ else _)
      split <;> rfl
  case single =>
    intro g'
    rcases e with _ | e
    · rcases r with _ | n | l
      · rfl
      · rcases n with _ | _ | _ | ⟨t, _ | ⟨c, _ | _⟩, p, r, i⟩ <;> rfl
      · rfl
    · rfl
  case ltrim =>
    intro g' m
    show ltrimOut _ _ _ _ = Out.mapCp k (ltrimOut _ _ _ _)
    generalize wsToErr (skipWhitespaces f pos m).2 = ws
    rcases e with _ | e <;> rcases ws with _ | w
    · rfl
    · exact congrArg (fun c => (⟨.nil, c, some w⟩ : Out)) hk.symm
    · rfl
    · simp only [ltrimOut, Out.mapCp]
      split
      · rw [hk]
      · split <;> rfl
  case rtrim =>
    intro g' m
    rcases e with _ | e
    · simp only [Out.mapCp, rtrimOut]; split <;> simp only [hk]
    · rfl

theorem wrap_out_cp {f : File} {pos : Nat} {g : G} {w : Wrap} (hw : g.wrap f pos = some w) (o : Out)
    (ho : o.cp = []) : (w.out o).cp = [] := by
  have h := wrap_out_mapCp hw (k := fun _ => []) rfl o
  have ho' : o.mapCp (fun _ => []) = o := by cases o; cases ho; rfl
  rw [ho'] at h; rw [h]; rfl

theorem wrap_out_congr {f : File} {pos : Nat} {g : G} {w : Wrap} (hw : g.wrap f pos = some w) (o o0 : Out)
    (hr : o.res = o0.res) (he : o.err = o0.err) :
    (w.out o).res = (w.out o0).res ∧ (w.out o).err = (w.out o0).err := by
  have h := wrap_out_mapCp hw (k := fun _ => []) rfl o
  have e : o.mapCp (fun _ => []) = o0.mapCp (fun _ => []) := by
    cases o; cases o0; cases hr; cases he; rfl
  rw [e, wrap_out_mapCp hw (k := fun _ => []) rfl o0] at h
  exact ⟨(congrArg Out.res h).symm, (congrArg Out.err h).symm⟩

theorem wrap_strip (S : Nat → Bool) {f : File} {pos : Nat} {g : G} {w : Wrap} (hw : g.wrap f pos = some w) :
    (g.strip S).wrap f pos = some { w with child := w.child.strip S } := by
  refine G.wrap_cases ?_ ?_ ?_ ?_ ?_ ?_ hw <;> intros <;> rfl

/-- for `CacheC`, `CacheS`, `CacheBig`, `CacheCons`, `CacheSound`, `CacheBlame`, `MixCache`, which all have this form -/
theorem cacheAll_of_eq {E : CacheEntry → Prop} {st st' : St} (h : ∀ e ∈ st.cache, E e) (hc : st'.cache = st.cache) :
    ∀ e ∈ st'.cache, E e := hc ▸ h

structure Grow (st st' : St) : Prop where
  log : st.log <:+ st'.log
  calls : st.calls ≤ st'.calls
  pn : pn st ≤ pn st'

theorem Grow.refl (st : St) : Grow st st := ⟨List.suffix_refl _, Nat.le_refl _, Nat.le_refl _⟩

theorem Grow.trans {a b c : St} (h1 : Grow a b) (h2 : Grow b c) : Grow a c :=
  ⟨h1.log.trans h2.log, Nat.le_trans h1.calls h2.calls, Nat.le_trans h1.pn h2.pn⟩

theorem Grow.of_eq {st st' : St} (hl : st'.log = st.log) (hc : st'.calls = st.calls) (he : st'.ctxErr = st.ctxErr) :
    Grow st st' :=
  ⟨by rw [hl]; exact List.suffix_refl _, by rw [hc]; exact Nat.le_refl _, by unfold PV.pn; rw [he]; exact Nat.le_refl _⟩

theorem Grow.regCall (st : St) : Grow st st.regCall :=
  ⟨List.suffix_refl _, Nat.le_succ _, Nat.le_refl _⟩

theorem Grow.setError (st : St) (e : Option Err) : Grow st (st.setError e) :=
  ⟨by rw [setError_log]; exact List.suffix_refl _, by rw [setError_calls]; exact Nat.le_refl _,
   by rw [pn_setError]; omega⟩

theorem Grow.logEv (st : St) (cfg : Cfg) (ev : Ev) : Grow st (st.logEv cfg ev) :=
  ⟨logEv_suffix st cfg ev, by rw [(logEv_fields st cfg ev).2.2.1]; exact Nat.le_refl _,
    by rw [pn_logEv]; exact Nat.le_refl _⟩

def RunGrow (r : RunFn) : Prop := ∀ g ctx pos st o st', r g ctx pos st = some (o, st') → Grow st st'

theorem anyLoop_grow {r : RunFn} (hr : RunGrow r) (ctx : Ctx) (pos : Nat) (gs : List G) (a : AltSt) (st : St)
    (a' : AltSt) (st' : St) (h : anyLoop r ctx pos gs a st = some (a', st')) : Grow st st' :=
  anyLoop_elim r ctx pos (motive := fun _ _ st _ st' => Grow st st') (fun _ st => Grow.refl st)
    (fun _ _ _ st _ _ _ _ h1 _ ih => ((Grow.regCall st).trans (hr _ _ _ _ _ _ h1)).trans ih) gs a st a' st' h

theorem choiceLoop_grow {r : RunFn} (hr : RunGrow r) (ctx : Ctx) (pos : Nat) (gs : List G) (a : AltSt) (st : St)
    (out : Option Out) (a' : AltSt) (st' : St) (h : choiceLoop r ctx pos gs a st = some (out, a', st')) :
    Grow st st' :=
  choiceLoop_elim r ctx pos (motive := fun _ _ st _ _ st' => Grow st st') (fun _ st => Grow.refl st)
    (fun _ _ _ st _ _ h1 _ => ((Grow.regCall st).trans (hr _ _ _ _ _ _ h1)).trans (Grow.setError _ _))
    (fun _ _ _ st _ _ _ _ _ h1 _ _ ih => ((Grow.regCall st).trans (hr _ _ _ _ _ _ h1)).trans ih) gs a st out a' st' h

theorem seqAlts_grow (k : Node → SeqSt → St → Option (Bool × SeqSt × St))
    (hk : ∀ n ss st b ss' st', k n ss st = some (b, ss', st') → Grow st st') :
    ∀ l ss st b ss' st', seqAlts k l ss st = some (b, ss', st') → Grow st st' :=
  seqAlts_elim k (motive := fun _ _ st _ _ st' => Grow st st') (fun _ st => Grow.refl st)
    (fun n _ ss st ss' st' h1 => hk n ss st true ss' st' h1)
    (fun n _ ss st ss1 st1 _ _ _ h1 _ ih => (hk n ss st false ss1 st1 h1).trans ih)

theorem seqParse_grow {r : RunFn} (hr : RunGrow r) (sh : SeqShape) (fuel : Nat) (fr : Frame) (ss : SeqSt) (st : St)
    (b : Bool) (ss' : SeqSt) (st' : St) (hd : fr.depth = fr.nodes.length)
    (h : seqParse r sh fuel fr.depth fr.nodes fr.ctx fr.pos fr.merge ss st = some (b, ss', st')) : Grow st st' :=
  seqParse_ind r sh (fun _ _ _ => True) (fun _ s _ s' => Grow s s')
    (fun _ s => Grow.refl s) (fun _ _ _ _ _ _ h1 h2 => h1.trans h2) (fun _ _ _ _ _ _ _ => trivial)
    (fun fr _ s g o s1 _ _ _ hrun =>
      have h1 : Grow s s1 := (Grow.regCall s).trans (hr g fr.ctx fr.pos _ o s1 hrun)
      ⟨h1, fun _ _ => trivial, fun _ _ => h1⟩)
    (fun _ _ s _ _ _ _ => Grow.refl s)
    fuel fr ss st b ss' st' trivial hd h

theorem Grow.of_or {st st' : St} {e : Option Err} (h : st' = st ∨ st' = st.setError e) : Grow st st' := by
  rcases h with h | h <;> rw [h]
  · exact Grow.refl _
  · exact Grow.setError _ _

theorem memoEnter_grow (cfg : Cfg) (idx pos : Nat) (st : St) : Grow st (memoEnter cfg idx pos st) :=
  Grow.trans (b := { st with active := (idx, pos) :: st.active }) (Grow.of_eq rfl rfl rfl) (Grow.logEv _ _ _)

theorem runStep_grow (cfg : Cfg) {r : RunFn} (hr : RunGrow r) (fuel : Nat) : RunGrow (runStep cfg r fuel) := by
  intro g ctx pos st o st' h
  refine runStep_elim (motive := fun _ x => Grow st x.2) ?term ?empty ?eof ?ref ?refNil ?memo ?any ?choice ?wrap ?seq
    g (o, st') h
  case term =>
    intro t
    rcases termStep_cases cfg t pos st with ⟨_, _, e⟩ | ⟨_, _, e⟩ | ⟨_, _, e⟩ <;> rw [e]
    · exact Grow.refl _
    · exact Grow.logEv _ _ _
    · exact Grow.refl _
  case empty => exact Grow.refl _
  case eof =>
    rcases eofStep_cases cfg pos st with ⟨_, e⟩ | ⟨_, e⟩ <;> rw [e]
    · exact Grow.refl _
    · exact Grow.logEv _ _ _
  case ref => exact fun _ _ _ _ h1 => hr _ _ _ _ _ _ h1
  case refNil => exact fun _ _ => Grow.refl _
  case memo =>
    intro idx body x h
    refine memoStep_elim (motive := fun x => Grow st x.2) ?_ ?_ ?_ h
    · exact fun _ _ => Grow.logEv _ _ _
    · exact fun _ _ => Grow.logEv _ _ _
    · exact fun _ _ _ _ h1 => ((memoEnter_grow cfg idx pos st).trans (hr _ _ _ _ _ _ h1)).trans (Grow.of_eq rfl rfl rfl)
  case any => exact fun gs a st1 h1 => (anyLoop_grow hr ctx pos gs {} st a st1 h1).trans (.of_or (anyFinish_st a st1))
  case choice =>
    exact fun _ pre a st1 _ _ h1 => (anyLoop_grow hr ctx pos pre {} st a st1 h1).trans (.of_or (anyFinish_st a st1))
  case wrap => exact fun _ _ _ _ _ h1 => hr _ _ _ _ _ _ h1
  case seq =>
    exact fun _ sh b ss st1 _ h1 => (seqParse_grow hr sh fuel ⟨0, [], ctx, pos, true⟩ {} st b ss st1 rfl h1).trans
      (.of_or (seqFinish_fields sh pos ss st1).2)

theorem run_grow (cfg : Cfg) : ∀ fuel, RunGrow (run cfg fuel)
  | 0 => fun _ _ _ _ _ _ h => nomatch h
  | fuel + 1 => fun g ctx pos st o st' h =>
    runStep_grow cfg (run_grow cfg fuel) fuel g ctx pos st o st' (run_some_step h)

/-- number of times the body of Memoize `idx` was started at `pos` -/
def bodyRuns (log : List Ev) (idx pos : Nat) : Nat :=
  log.countP (fun e => match e with | .body i p _ => i == idx && p == pos | _ => false)

def NoCurtail (log : List Ev) : Prop := ∀ i p, Ev.curtail i p ∉ log

/-- no memoized body was started while the same body was running at the same position -/
def NoReentry (log : List Ev) : Prop := ∀ i p d, Ev.body i p d ∈ log → d = 1

theorem NoCurtail.of_suffix {l l' : List Ev} (h : NoCurtail l') (hs : l <:+ l') : NoCurtail l :=
  fun i p hm => h i p (hs.subset hm)

theorem NoReentry.of_suffix {l l' : List Ev} (h : NoReentry l') (hs : l <:+ l') : NoReentry l :=
  fun i p d hm => h i p d (hs.subset hm)

theorem bodyRuns_cons_body (log : List Ev) (i p d idx pos : Nat) :
    bodyRuns (Ev.body i p d :: log) idx pos = bodyRuns log idx pos + (if i = idx ∧ p = pos then 1 else 0) := by
  unfold bodyRuns
  rw [List.countP_cons]
  simp only [Bool.and_eq_true, beq_iff_eq]

theorem bodyRuns_cons_other (log : List Ev) (ev : Ev) (h : ∀ i p d, ev ≠ Ev.body i p d) (idx pos : Nat) :
    bodyRuns (ev :: log) idx pos = bodyRuns log idx pos := by
  unfold bodyRuns
  rw [List.countP_cons]
  cases ev with
  | body i p d => exact absurd rfl (h i p d)
  | _ => rfl

instance (log : List Ev) : Decidable (NoCurtail log) :=
  decidable_of_iff (log.all (fun e => match e with | .curtail _ _ => false | _ => true) = true) (by
    simp only [List.all_eq_true, NoCurtail]
    constructor
    · intro h i p hm
      have := h _ hm
      simp at this
    · intro h e he
      cases e with
      | curtail i p => exact absurd he (h i p)
      | _ => rfl)

instance (log : List Ev) : Decidable (NoReentry log) :=
  decidable_of_iff (log.all (fun e => match e with | .body _ _ d => d == 1 | _ => true) = true) (by
    simp only [List.all_eq_true, NoReentry]
    constructor
    · intro h i p d hm
      have := h _ hm
      simpa using this
    · intro h e he
      cases e with
      | body i p d => simpa using h i p d he
      | _ => rfl)

end PV
