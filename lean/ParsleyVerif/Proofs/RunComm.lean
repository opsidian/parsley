/-
  Transports: maps of everything a run reads and writes that commute with `run`.
  A transport moves every position by a strictly monotone map (`PosTr`: with it the nodes, results and errors,
  which store positions), every Memoize index by another map (`IdxTr`: with it the grammar, the left-recursion
  context and the curtailing sets, which store indexes), and the context state by a map of its own.  Every
  comparison the parser core makes is between two positions or between two indexes, so it has the same answer on
  both sides.  If moreover the state map commutes with what the parser core does to the state, and the image
  configuration reads its file and its grammar table as the original does (`Tr.OK`), then one level of `run`
  commutes with the transport (`Tr.OK.runStep_comm`), hence `run` at the same fuel (`Tr.OK.run_comm`):
      run cfg' fuel (T.g g) (T.ctx ctx) (T.pos pos) (T.st st) = (run cfg fuel g ctx pos st).map T.os
  An instance says what its maps do to the primitives; no law speaks of a loop or of a combinator.  Instances: the
  shift of the file (Proofs/ShiftRun: positions move), the renaming of the Memoize indexes (Proofs/MemoRename:
  indexes move), the ghost log switched off (Proofs/CallsGhost: only the state moves).
-/
import ParsleyVerif.Proofs.RunEqns
import ParsleyVerif.Proofs.RunLoops
import ParsleyVerif.Proofs.GInduct
namespace PV
open PV.Text

/-- `node`, `res` and `oerr` are determined by `pos` (`PosTr.OK`); they are fields so that an instance can name
    the maps it has, and so that the identity is the identity by `rfl` -/
structure PosTr where
  pos : Nat → Nat
  node : Node → Node
  res : Res → Res
  oerr : Option Err → Option Err

namespace PosTr

def termOut (P : PosTr) : TermOut → TermOut
  | .node n => .node (P.node n)
  | .err e => .err ⟨P.pos e.pos, e.kind⟩
  | .panic s => .panic s

/-- what SkipWhitespaces returns -/
def ws (P : PosTr) (r : Nat × Option (Nat × WsErr)) : Nat × Option (Nat × WsErr)
    := (P.pos r.1, r.2.map fun x => (P.pos x.1, x.2))

structure OK (P : PosTr) : Prop where
  pos_lt : ∀ a b, P.pos a < P.pos b ↔ a < b
  node_term : ∀ t v p r, P.node (.term t v p r) = .term t v (P.pos p) (P.pos r)
  node_empty : ∀ p, P.node (.empty p) = .empty (P.pos p)
  node_eof : ∀ p, P.node (.eof p) = .eof (P.pos p)
  node_nt : ∀ t cs p r i, P.node (.nt t cs p r i) = .nt t (cs.map P.node) (P.pos p) (P.pos r) i
  res_nil : P.res .nil = .nil
  res_one : ∀ n, P.res (.one n) = .one (P.node n)
  res_list : ∀ l, P.res (.list l) = .list (l.map P.node)
  oerr_none : P.oerr none = none
  oerr_some : ∀ e, P.oerr (some e) = some ⟨P.pos e.pos, e.kind⟩

/-- the image file answers, asked at the image position, what the file answers (with the image parameters) -/
structure FileOK (P : PosTr) (f f' : File) (pr pr' : Params) : Prop where
  parse : ∀ t p, Terminal.parse pr' f' t (P.pos p) = P.termOut (Terminal.parse pr f t p)
  isEOF : ∀ p, isEOF f' (P.pos p) = isEOF f p
  remaining : ∀ p, remaining f' (P.pos p) = remaining f p
  skipWs : ∀ p m, skipWhitespaces f' (P.pos p) m = P.ws (skipWhitespaces f p m)

def keep : PosTr := ⟨id, id, id, id⟩

theorem keep_ok : keep.OK where
  pos_lt _ _ := Iff.rfl
  node_term _ _ _ _ := rfl
  node_empty _ := rfl
  node_eof _ := rfl
  node_nt _ cs _ _ _ := congrArg (Node.nt _ · _ _ _) (List.map_id cs).symm
  res_nil := rfl
  res_one _ := rfl
  res_list l := congrArg Res.list (List.map_id l).symm
  oerr_none := rfl
  oerr_some _ := rfl

theorem keep_file (f : File) (pr : Params) : keep.FileOK f f pr pr where
  parse t p := by cases h : Terminal.parse pr f t p <;> exact h
  isEOF _ := rfl
  remaining _ := rfl
  skipWs p m := by
    show skipWhitespaces f p m = _
    rcases skipWhitespaces f p m with ⟨q, _ | ⟨x, k⟩⟩ <;> rfl

theorem OK.pos_le {P : PosTr} (h : P.OK) (a b : Nat) : P.pos a ≤ P.pos b ↔ a ≤ b := by
  rw [← Nat.not_lt, ← Nat.not_lt, h.pos_lt]

theorem OK.pos_inj {P : PosTr} (h : P.OK) (a b : Nat) : P.pos a = P.pos b ↔ a = b := by
  rw [Nat.le_antisymm_iff, h.pos_le, h.pos_le, ← Nat.le_antisymm_iff]

theorem OK.pos_beq {P : PosTr} (h : P.OK) (a b : Nat) : (P.pos a == P.pos b) = (a == b) := by
  rw [Bool.eq_iff_iff]; simp only [beq_iff_eq, h.pos_inj]

theorem OK.node_pos {P : PosTr} (h : P.OK) (n : Node) : (P.node n).pos = P.pos n.pos := by
  cases n <;> simp only [h.node_term, h.node_empty, h.node_eof, h.node_nt, Node.pos]

theorem OK.node_rpos {P : PosTr} (h : P.OK) (n : Node) : (P.node n).rpos = P.pos n.rpos := by
  cases n <;> simp only [h.node_term, h.node_empty, h.node_eof, h.node_nt, Node.rpos]

theorem OK.node_token {P : PosTr} (h : P.OK) (n : Node) : (P.node n).token = n.token := by
  cases n <;> simp only [h.node_term, h.node_empty, h.node_eof, h.node_nt, Node.token]

theorem OK.node_isEmptyAt {P : PosTr} (h : P.OK) (p : Nat) (n : Node) : (P.node n).isEmptyAt (P.pos p) = n.isEmptyAt p := by
  cases n <;> simp only [h.node_term, h.node_empty, h.node_eof, h.node_nt, Node.isEmptyAt, h.pos_beq]

theorem OK.res_isNil {P : PosTr} (h : P.OK) (r : Res) : (P.res r).isNil = r.isNil := by
  cases r <;> simp only [h.res_nil, h.res_one, h.res_list, Res.isNil]

theorem OK.res_alts {P : PosTr} (h : P.OK) (r : Res) : (P.res r).alts = r.alts.map P.node := by
  cases r <;> simp only [h.res_nil, h.res_one, h.res_list, Res.alts, List.map_nil, List.map_cons]

theorem OK.nlAppend1_comm {P : PosTr} (h : P.OK) (l : List Node) (n : Node) :
    nlAppend1 (l.map P.node) (P.node n) = (nlAppend1 l n).map P.node := by
  cases n with
  | empty p =>
    simp only [h.node_empty, nlAppend1, List.any_map, Function.comp_def, h.node_isEmptyAt, apply_ite (List.map P.node),
      List.map_append, List.map_cons, List.map_nil]
  | _ => simp only [h.node_term, h.node_eof, h.node_nt, nlAppend1, List.map_append, List.map_cons, List.map_nil]

theorem OK.nlAppend_comm {P : PosTr} (h : P.OK) (l : List Node) (r : Res) :
    nlAppend (l.map P.node) (P.res r) = (nlAppend l r).map P.node := by
  cases r with
  | nil => rw [h.res_nil]; rfl
  | one n => rw [h.res_one]; exact h.nlAppend1_comm l n
  | list l2 =>
    rw [h.res_list]
    simp only [nlAppend]
    induction l2 generalizing l with
    | nil => rfl
    | cons n ns ih => simp only [List.map_cons, List.foldl_cons, h.nlAppend1_comm, ih]

theorem OK.appendNode_comm {P : PosTr} (h : P.OK) (a c : Res) : appendNode (P.res a) (P.res c) = P.res (appendNode a c) := by
  cases a <;> cases c <;>
    simp only [h.res_nil, h.res_one, h.res_list, appendNode, ← h.nlAppend_comm, List.map_cons, List.map_nil]

/-- seqDefaultResultHandler reads the shape through its token, interpreter and ReturnSingle flag only -/
theorem OK.handleResult_comm {P : PosTr} (h : P.OK) {sh sh' : SeqShape} (ht : sh'.token = sh.token)
    (hi : sh'.interp = sh.interp) (hs : sh'.single = sh.single) (pos : Nat) (nodes : List Node) :
    handleResult sh' (P.pos pos) (nodes.map P.node) = P.node (handleResult sh pos nodes) := by
  unfold handleResult
  rw [ht, hi, hs]
  match nodes with
  | [] => simp only [List.map_nil, h.node_nt]
  | [n] => simp only [List.map_cons, List.map_nil, apply_ite P.node, h.node_nt, h.node_pos, h.node_rpos]
  | n :: m :: rest =>
    simp only [List.map_cons, h.node_nt, h.node_pos]
    rw [← List.map_cons, List.getLast?_map]
    cases (m :: rest).getLast? <;> simp only [Option.map_some, Option.map_none, Option.getD_some, Option.getD_none, h.node_rpos]

theorem OK.pickErr_comm {P : PosTr} (h : P.OK) (cur new : Option Err) :
    pickErr (P.oerr cur) (P.oerr new) = P.oerr (pickErr cur new) := by
  rcases new with _ | e <;> rcases cur with _ | c <;>
    simp only [pickErr, h.oerr_none, h.oerr_some, ge_iff_le, h.pos_le, apply_ite P.oerr]

theorem OK.wsToErr_comm {P : PosTr} (h : P.OK) (e : Option (Nat × WsErr)) :
    wsToErr (e.map fun x => (P.pos x.1, x.2)) = P.oerr (wsToErr e) := by
  cases e <;> simp only [Option.map_none, Option.map_some, wsToErr, h.oerr_none, h.oerr_some]

theorem OK.setRposNode_comm {P : PosTr} (h : P.OK) {f f' : File} {pr pr' : Params} (hf : P.FileOK f f' pr pr')
    (m : WsMode) (n : Node) (w : Option Err) :
    setRposNode f' m (P.node n) (P.oerr w) = (P.node (setRposNode f m n w).1, P.oerr (setRposNode f m n w).2) := by
  cases n with
  | eof p => rw [h.node_eof]; simp only [setRposNode, h.node_eof]
  | term t v p r => simp only [h.node_term, setRposNode, hf.skipWs r m, ws, h.wsToErr_comm]
  | nt t c p r i => simp only [h.node_nt, setRposNode, hf.skipWs r m, ws, h.wsToErr_comm]
  | empty p => simp only [h.node_empty, setRposNode, hf.skipWs p m, ws, h.wsToErr_comm]

theorem OK.setRposList_comm {P : PosTr} (h : P.OK) {f f' : File} {pr pr' : Params} (hf : P.FileOK f f' pr pr')
    (m : WsMode) (l : List Node) : ∀ w : Option Err,
    setRposList f' m (l.map P.node) (P.oerr w)
      = ((setRposList f m l w).1.map P.node, P.oerr (setRposList f m l w).2) := by
  induction l with
  | nil => intro w; rfl
  | cons n rest ih => intro w; simp only [setRposList, List.map_cons, h.setRposNode_comm hf, ih]

theorem OK.setRposRes_comm {P : PosTr} (h : P.OK) {f f' : File} {pr pr' : Params} (hf : P.FileOK f f' pr pr')
    (m : WsMode) (r : Res) :
    setRposRes f' m (P.res r) = (P.res (setRposRes f m r).1, P.oerr (setRposRes f m r).2) := by
  cases r with
  | nil => simp only [h.res_nil, setRposRes, h.oerr_none]
  | one n =>
    have := h.setRposNode_comm hf m n none
    rw [h.oerr_none] at this
    simp only [h.res_one, setRposRes, this]
  | list l =>
    have := h.setRposList_comm hf m l none
    rw [h.oerr_none] at this
    simp only [h.res_list, setRposRes, this]

end PosTr

structure IdxTr where
  idx : Nat → Nat
  g : G → G
  ctx : Ctx → Ctx
  cp : List Nat → List Nat

namespace IdxTr

/-- the Sequence shape of the image parser: its elements are the images, the rest is the same -/
structure Shape (I : IdxTr) (sh sh' : SeqShape) : Prop where
  lookup : ∀ i, sh'.lookup i = (sh.lookup i).map I.g
  lenCheck : ∀ i, sh'.lenCheck i = sh.lenCheck i
  token : sh'.token = sh.token
  interp : sh'.interp = sh.interp
  single : sh'.single = sh.single
  name : sh'.name = sh.name

structure OK (I : IdxTr) : Prop where
  cp_nil : I.cp [] = []
  cp_one : ∀ i, I.cp [i] = [I.idx i]
  cp_union : ∀ a b, cpUnion (I.cp a) (I.cp b) = I.cp (cpUnion a b)
  ctx_nil : I.ctx [] = []
  ctx_get : ∀ c i, (I.ctx c).get (I.idx i) = c.get i
  ctx_inc : ∀ c i, (I.ctx c).inc (I.idx i) = I.ctx (c.inc i)
  g_term : ∀ t, I.g (.term t) = .term t
  g_empty : I.g .empty = .empty
  g_eof : I.g .eof = .eof
  g_ref : ∀ k, I.g (.ref k) = .ref k
  g_memo : ∀ i body, I.g (.memo i body) = .memo (I.idx i) (I.g body)
  g_any : ∀ gs, I.g (.any gs) = .any (gs.map I.g)
  g_choice : ∀ gs, I.g (.choice gs) = .choice (gs.map I.g)
  /-- the image of a one-child combinator is the same combinator around the image of the child -/
  g_wrap : ∀ g f pos, (I.g g).wrap f pos = (g.wrap f pos).map fun w => { w with child := I.g w.child }
  g_shape : ∀ g sh, g.shape = some sh → ∃ sh', (I.g g).shape = some sh' ∧ I.Shape sh sh'

def keep : IdxTr := ⟨id, id, id, id⟩

theorem keep_ok : keep.OK where
  cp_nil := rfl
  cp_one _ := rfl
  cp_union _ _ := rfl
  ctx_nil := rfl
  ctx_get _ _ := rfl
  ctx_inc _ _ := rfl
  g_term _ := rfl
  g_empty := rfl
  g_eof := rfl
  g_ref _ := rfl
  g_memo _ _ := rfl
  g_any gs := congrArg G.any (List.map_id gs).symm
  g_choice gs := congrArg G.choice (List.map_id gs).symm
  g_wrap g f pos := by
    show g.wrap f pos = _
    cases g.wrap f pos <;> rfl
  g_shape _ sh hs := ⟨sh, hs, fun i => by cases sh.lookup i <;> rfl, fun _ => rfl, rfl, rfl, rfl, rfl⟩

end IdxTr

structure Tr extends PosTr, IdxTr where
  st : St → St

namespace Tr

def out (T : Tr) (o : Out) : Out := ⟨T.res o.res, T.cp o.cp, T.oerr o.err⟩
def alt (T : Tr) (a : AltSt) : AltSt := ⟨T.cp a.cp, T.res a.res, T.oerr a.err, T.oerr a.nf⟩
def ss (T : Tr) (s : SeqSt) : SeqSt := ⟨T.cp s.cp, T.res s.result, T.oerr s.err⟩
def frame (T : Tr) (fr : Frame) : Frame := ⟨fr.depth, fr.nodes.map T.node, T.ctx fr.ctx, T.pos fr.pos, fr.merge⟩
def entry (T : Tr) (e : CacheEntry) : CacheEntry :=
  ⟨T.idx e.idx, T.pos e.pos, T.ctx e.ctx, T.cp e.cp, T.oerr e.err, T.res e.res⟩
def ev (T : Tr) : Ev → Ev
  | .termFail p k => .termFail (T.pos p) k
  | .body i p d => .body (T.idx i) (T.pos p) d
  | .hit i p => .hit (T.idx i) (T.pos p)
  | .curtail i p => .curtail (T.idx i) (T.pos p)

def os (T : Tr) (x : Out × St) : Out × St := (T.out x.1, T.st x.2)
def anyR (T : Tr) (x : AltSt × St) : AltSt × St := (T.alt x.1, T.st x.2)
def choiceR (T : Tr) (x : Option Out × AltSt × St) : Option Out × AltSt × St := (x.1.map T.out, T.alt x.2.1, T.st x.2.2)
def seqR (T : Tr) (x : Bool × SeqSt × St) : Bool × SeqSt × St := (x.1, T.ss x.2.1, T.st x.2.2)

def Rel (T : Tr) (r r' : RunFn) : Prop :=
  ∀ g ctx pos st, r' (T.g g) (T.ctx ctx) (T.pos pos) (T.st st) = (r g ctx pos st).map T.os

/-- `T` carries runs under `cfg` to runs under `cfg'`: positions and indexes move consistently, the state map
    commutes with every operation of the parser core on the state, and `cfg'` is the image of `cfg` -/
structure OK (T : Tr) (cfg cfg' : Cfg) : Prop where
  pos : T.toPosTr.OK
  idx : T.toIdxTr.OK
  file : T.toPosTr.FileOK cfg.file cfg'.file cfg.params cfg'.params
  env : ∀ k : Nat, cfg'.env[k]? = (cfg.env[k]?).map T.g
  maxCalls : cfg'.maxCalls = cfg.maxCalls
  st_calls : ∀ st, (T.st st).calls = st.calls
  st_regCall : ∀ st, (T.st st).regCall = T.st st.regCall
  st_setError : ∀ st e, (T.st st).setError (T.oerr e) = T.st (st.setError e)
  st_logEv : ∀ st e, (T.st st).logEv cfg' (T.ev e) = T.st (st.logEv cfg e)
  st_cacheGet : ∀ st i p c, cacheGet (T.st st).cache (T.idx i) (T.pos p) (T.ctx c) = (cacheGet st.cache i p c).map T.entry
  st_memoEnter : ∀ i p st, memoEnter cfg' (T.idx i) (T.pos p) (T.st st) = T.st (memoEnter cfg i p st)
  st_memoLeave : ∀ i p c st o st2,
    memoLeave (T.idx i) (T.pos p) (T.ctx c) (T.st st) (T.out o) (T.st st2) = T.st (memoLeave i p c st o st2)

theorem seqAlts_comm (T : Tr) (k k' : Node → SeqSt → St → Option (Bool × SeqSt × St))
    (hk : ∀ n s st, k' (T.node n) (T.ss s) (T.st st) = (k n s st).map T.seqR) :
    ∀ (l : List Node) s st, seqAlts k' (l.map T.node) (T.ss s) (T.st st) = (seqAlts k l s st).map T.seqR
  | [], _, _ => rfl
  | n :: rest, s, st => by
    simp only [List.map_cons, seqAlts, hk]
    rcases k n s st with _ | ⟨_ | _, s1, st1⟩
    · rfl
    · exact seqAlts_comm T k k' hk rest s1 st1
    · rfl

theorem OK.out_nil {T : Tr} {cfg cfg' : Cfg} (h : T.OK cfg cfg') : T.out ⟨.nil, [], none⟩ = ⟨.nil, [], none⟩ := by
  simp only [out, h.pos.res_nil, h.idx.cp_nil, h.pos.oerr_none]

theorem OK.alt_nil {T : Tr} {cfg cfg' : Cfg} (h : T.OK cfg cfg') : T.alt {} = {} := by
  simp only [alt, h.pos.res_nil, h.idx.cp_nil, h.pos.oerr_none]

theorem OK.ss_nil {T : Tr} {cfg cfg' : Cfg} (h : T.OK cfg cfg') : T.ss {} = {} := by
  simp only [ss, h.pos.res_nil, h.idx.cp_nil, h.pos.oerr_none]

theorem OK.altErr_comm {T : Tr} {cfg cfg' : Cfg} (h : T.OK cfg cfg') (pos : Nat) (a : AltSt) (e : Option Err) :
    altErr (T.pos pos) (T.alt a) (T.oerr e) = T.alt (altErr pos a e) := by
  rcases e with _ | e
  · simp only [h.pos.oerr_none, altErr]
  · rcases a with ⟨cp, res, _ | c, nf⟩ <;> simp only [altErr, h.pos.oerr_some, apply_ite T.alt] <;>
      simp only [alt, h.pos.oerr_none, h.pos.oerr_some, ge_iff_le, gt_iff_lt, h.pos.pos_le, h.pos.pos_lt]

theorem OK.finalErr_comm {T : Tr} {cfg cfg' : Cfg} (h : T.OK cfg cfg') (a : AltSt) :
    (T.alt a).finalErr = T.oerr a.finalErr := by
  rcases a with ⟨cp, res, _ | e, nf⟩ <;> simp only [alt, AltSt.finalErr, h.pos.oerr_none, h.pos.oerr_some]

theorem OK.anyLoop_comm {T : Tr} {cfg cfg' : Cfg} (h : T.OK cfg cfg') {r r' : RunFn} (hr : T.Rel r r')
    (ctx : Ctx) (pos : Nat) :
    ∀ (gs : List G) (a : AltSt) (st : St),
      anyLoop r' (T.ctx ctx) (T.pos pos) (gs.map T.g) (T.alt a) (T.st st) = (anyLoop r ctx pos gs a st).map T.anyR
  | [], _, _ => rfl
  | g :: gs, a, st => by
    simp only [List.map_cons, anyLoop, h.st_regCall, hr g ctx pos st.regCall]
    rcases r g ctx pos st.regCall with _ | ⟨o, st1⟩
    · rfl
    · have := h.altErr_comm pos ⟨cpUnion a.cp o.cp, appendNode a.res o.res, a.err, a.nf⟩ o.err
      simp only [alt, ← h.idx.cp_union, ← h.pos.appendNode_comm] at this
      simp only [Option.map_some, os, alt, out, this]
      exact OK.anyLoop_comm h hr ctx pos gs _ st1

theorem OK.choiceLoop_comm {T : Tr} {cfg cfg' : Cfg} (h : T.OK cfg cfg') {r r' : RunFn} (hr : T.Rel r r')
    (ctx : Ctx) (pos : Nat) :
    ∀ (gs : List G) (a : AltSt) (st : St),
      choiceLoop r' (T.ctx ctx) (T.pos pos) (gs.map T.g) (T.alt a) (T.st st)
        = (choiceLoop r ctx pos gs a st).map T.choiceR
  | [], _, _ => rfl
  | g :: gs, a, st => by
    simp only [List.map_cons, choiceLoop, h.st_regCall, hr g ctx pos st.regCall]
    rcases r g ctx pos st.regCall with _ | ⟨o, st1⟩
    · rfl
    · have := h.altErr_comm pos ⟨cpUnion a.cp o.cp, a.res, a.err, a.nf⟩ o.err
      simp only [alt, ← h.idx.cp_union] at this
      simp only [Option.map_some, os, alt, out, this, h.pos.res_isNil]
      split
      · simp only [h.st_setError, Option.map_some, choiceR, out, alt, Option.map_some, h.pos.oerr_none]
      · exact OK.choiceLoop_comm h hr ctx pos gs _ st1

theorem OK.anyFinish_comm {T : Tr} {cfg cfg' : Cfg} (h : T.OK cfg cfg') (a : AltSt) (st : St) :
    anyFinish (T.alt a) (T.st st) = T.os (anyFinish a st) := by
  unfold anyFinish
  rw [h.finalErr_comm, show (T.alt a).res = T.res a.res from rfl, h.pos.res_isNil,
    show (T.alt a).err = T.oerr a.err from rfl, h.st_setError]
  split <;> simp only [os, out, alt, h.pos.res_nil, h.pos.oerr_none]

theorem OK.choiceFinish_comm {T : Tr} {cfg cfg' : Cfg} (h : T.OK cfg cfg') (x : Option Out × AltSt × St) :
    choiceFinish (T.choiceR x) = T.os (choiceFinish x) := by
  rcases x with ⟨_ | o, a, st⟩
  · show ((⟨.nil, (T.alt a).cp, (T.alt a).finalErr⟩ : Out), T.st st) = _
    rw [h.finalErr_comm]
    simp only [choiceFinish, os, out, h.pos.res_nil]
    rfl
  · rfl

theorem OK.seqAfter_comm {T : Tr} {cfg cfg' : Cfg} (h : T.OK cfg cfg') (m : Bool) (s : SeqSt) (o : Out) :
    seqAfter m (T.ss s) (T.out o) = T.ss (seqAfter m s o) := by
  cases m <;> simp only [seqAfter, ss, out, h.pos.pickErr_comm, h.idx.cp_union, if_true, Bool.false_eq_true, if_false]

theorem OK.seqExit_comm {T : Tr} {cfg cfg' : Cfg} (h : T.OK cfg cfg') (fr : Frame) : seqExit (T.frame fr) = seqExit fr := by
  simp only [seqExit, frame, List.getLast?_map]
  cases fr.nodes.getLast? <;> simp only [Option.map_some, Option.map_none, h.pos.node_token]

theorem OK.seqEmit_comm {T : Tr} {cfg cfg' : Cfg} (h : T.OK cfg cfg') {sh sh' : SeqShape} (hsh : T.Shape sh sh')
    (fr : Frame) (s : SeqSt) :
    seqEmit sh' (T.frame fr) (T.ss s) = T.ss (seqEmit sh fr s) := by
  show SeqSt.mk _ (appendNode (T.res s.result) (.one (handleResult sh' (T.pos fr.pos)
    (if fr.depth > 0 then fr.nodes.map T.node else [])))) _ = _
  rw [show (if fr.depth > 0 then fr.nodes.map T.node else []) = (if fr.depth > 0 then fr.nodes else []).map T.node
    by split <;> rfl, h.pos.handleResult_comm hsh.token hsh.interp hsh.single, ← h.pos.res_one, h.pos.appendNode_comm]
  rfl

theorem OK.frame_next {T : Tr} {cfg cfg' : Cfg} (h : T.OK cfg cfg') (fr : Frame) (n : Node) :
    (T.frame fr).next (T.node n) = T.frame (fr.next n) := by
  simp only [Frame.next, frame, h.pos.node_rpos, gt_iff_lt, h.pos.pos_lt, List.map_append, List.map_cons, List.map_nil,
    apply_ite T.ctx, h.idx.ctx_nil]

theorem OK.seqCall_comm {T : Tr} {cfg cfg' : Cfg} (h : T.OK cfg cfg') {sh sh' : SeqShape} (hsh : T.Shape sh sh')
    {r r' : RunFn} (hr : T.Rel r r') (fr : Frame) (st : St) :
    seqCall r' sh' (T.frame fr) (T.st st) = (seqCall r sh fr st).map T.os := by
  unfold seqCall
  rw [show (T.frame fr).depth = fr.depth from rfl, hsh.lookup, h.st_regCall]
  cases sh.lookup fr.depth with
  | none => exact congrArg (fun o => some (o, T.st st)) h.out_nil.symm
  | some g => exact hr g fr.ctx fr.pos st.regCall

theorem OK.seqParse_comm {T : Tr} {cfg cfg' : Cfg} (h : T.OK cfg cfg') {sh sh' : SeqShape} (hsh : T.Shape sh sh')
    {r r' : RunFn} (hr : T.Rel r r') :
    ∀ fuel (fr : Frame) s st,
      seqParse r' sh' fuel (T.frame fr).depth (T.frame fr).nodes (T.frame fr).ctx (T.frame fr).pos (T.frame fr).merge
          (T.ss s) (T.st st)
        = (seqParse r sh fuel fr.depth fr.nodes fr.ctx fr.pos fr.merge s st).map T.seqR := by
  intro fuel
  induction fuel with
  | zero => intros; rfl
  | succ fuel ih =>
    intro fr s st
    rw [seqParse_deeper, seqParse_deeper, h.seqCall_comm hsh hr]
    rcases seqCall r sh fr st with _ | ⟨o, st1⟩
    · rfl
    · rw [show (T.frame fr).merge = fr.merge from rfl, show (T.frame fr).depth = fr.depth from rfl]
      simp only [Option.map_some, os, show (T.out o).res = T.res o.res from rfl, h.pos.res_isNil, hsh.lenCheck, h.seqAfter_comm,
        h.seqExit_comm, h.seqEmit_comm hsh, h.pos.res_alts]
      split
      · split <;> rfl
      · refine seqAlts_comm T _ _ (fun n s st => ?_) _ _ _
        rw [seqDeeper, h.frame_next]
        exact ih (fr.next n) s st

theorem OK.seqFinish_comm {T : Tr} {cfg cfg' : Cfg} (h : T.OK cfg cfg') {sh sh' : SeqShape} (hsh : T.Shape sh sh')
    (pos : Nat) (s : SeqSt) (st : St) :
    seqFinish sh' (T.pos pos) (T.ss s) (T.st st) = T.os (seqFinish sh pos s st) := by
  unfold seqFinish
  rw [hsh.name, show (T.ss s).result = T.res s.result from rfl, h.pos.res_isNil, show (T.ss s).err = T.oerr s.err from rfl,
    h.st_setError]
  by_cases hnil : s.result.isNil = true
  · simp only [hnil, if_true]
    rcases s.err with _ | e <;> rcases sh.name with _ | nm <;>
      simp only [h.pos.oerr_none, h.pos.oerr_some, h.pos.pos_inj, os, out, ss, h.pos.res_nil, apply_ite T.oerr]
  · simp only [hnil, Bool.false_eq_true, if_false]
    rcases sh.name with _ | nm <;> simp only [os, out, ss, h.pos.oerr_none]

theorem OK.nameOut_comm {T : Tr} {cfg cfg' : Cfg} (h : T.OK cfg cfg') (pos : Nat) (nm : Bytes) (o : Out) :
    nameOut (T.pos pos) nm (T.out o) = T.out (nameOut pos nm o) := by
  rcases o with ⟨res, cp, _ | e⟩ <;>
    simp only [nameOut, out, h.pos.oerr_none, h.pos.oerr_some, h.pos.res_isNil, h.pos.pos_inj] <;>
    split <;> simp only [h.pos.res_nil, h.pos.oerr_some, h.pos.oerr_none]

theorem OK.singleOut_comm {T : Tr} {cfg cfg' : Cfg} (h : T.OK cfg cfg') (o : Out) :
    singleOut (T.out o) = T.out (singleOut o) := by
  rcases o with ⟨res, cp, _ | e⟩
  · rcases res with _ | n | l
    · simp only [out, h.pos.res_nil, h.pos.oerr_none, singleOut]
    · rcases n with _ | _ | _ | ⟨t, _ | ⟨c, _ | _⟩, p, r, i⟩ <;>
        simp only [out, h.pos.res_one, h.pos.node_term, h.pos.node_empty, h.pos.node_eof, h.pos.node_nt, h.pos.oerr_none,
          List.map_cons, List.map_nil, singleOut]
    · simp only [out, h.pos.res_list, h.pos.oerr_none, singleOut]
  · simp only [out, h.pos.oerr_some, h.pos.res_nil, singleOut]

theorem OK.ltrimOut_comm {T : Tr} {cfg cfg' : Cfg} (h : T.OK cfg cfg') (pos pos' : Nat) (w : Option Err) (o : Out) :
    ltrimOut (T.pos pos) (T.pos pos') (T.oerr w) (T.out o) = T.out (ltrimOut pos pos' w o) := by
  rcases o with ⟨res, cp, _ | e⟩ <;> rcases w with _ | w <;>
    simp only [ltrimOut, out, h.pos.oerr_none, h.pos.oerr_some, h.pos.res_nil, h.idx.cp_nil, gt_iff_lt, h.pos.pos_lt]
  by_cases h1 : pos' < e.pos <;> by_cases h2 : e.kind.isNotFound = true <;>
    simp only [h1, h2, if_true, if_false, h.pos.res_nil, h.idx.cp_nil, h.pos.oerr_some, Bool.false_eq_true]

theorem OK.rtrimOut_comm {T : Tr} {cfg cfg' : Cfg} (h : T.OK cfg cfg') (m : WsMode) (o : Out) :
    rtrimOut cfg'.file m (T.out o) = T.out (rtrimOut cfg.file m o) := by
  rcases o with ⟨res, cp, _ | e⟩
  · simp only [rtrimOut, out, h.pos.oerr_none, h.pos.setRposRes_comm h.file]
    rcases setRposRes cfg.file m res with ⟨res', _ | w⟩ <;> simp only [h.pos.oerr_none, h.pos.oerr_some, h.pos.res_nil, h.idx.cp_nil]
  · simp only [rtrimOut, out, h.pos.oerr_some, h.file.skipWs e.pos m, PosTr.ws, gt_iff_lt, h.pos.pos_lt]
    split <;> rfl

theorem OK.wrap_comm {T : Tr} {cfg cfg' : Cfg} (h : T.OK cfg cfg') {g : G} {w : Wrap} {pos : Nat}
    (hw : g.wrap cfg.file pos = some w) :
    ∃ w', (T.g g).wrap cfg'.file (T.pos pos) = some w' ∧ w'.child = T.g w.child ∧ w'.cpos = T.pos w.cpos ∧
      ∀ o, w'.out (T.out o) = T.out (w.out o) := by
  rw [h.idx.g_wrap]
  refine G.wrap_cases ?_ ?_ ?_ ?_ ?_ ?_ hw
  · exact fun g' => ⟨_, rfl, rfl, rfl, fun o => by
      simp only [out, ← h.pos.appendNode_comm, h.pos.res_one, h.pos.node_empty]⟩
  · exact fun g' nm => ⟨_, rfl, rfl, rfl, h.nameOut_comm pos nm⟩
  · exact fun g' => ⟨_, rfl, rfl, rfl, h.singleOut_comm⟩
  · exact fun g' => ⟨_, rfl, rfl, rfl, fun o => by simp only [out, h.pos.oerr_none]⟩
  · intro g' m
    refine ⟨_, rfl, rfl, ?_, ?_⟩ <;> simp only [h.file.skipWs pos m, PosTr.ws, h.pos.wsToErr_comm]
    exact h.ltrimOut_comm pos _ _
  · exact fun g' m => ⟨_, rfl, rfl, rfl, h.rtrimOut_comm m⟩

theorem OK.termStep_comm {T : Tr} {cfg cfg' : Cfg} (h : T.OK cfg cfg') (t : Terminal) (pos : Nat) (st : St) :
    termStep cfg' t (T.pos pos) (T.st st) = T.os (termStep cfg t pos st) := by
  unfold termStep
  rw [h.file.parse]
  cases Terminal.parse cfg.params cfg.file t pos with
  | node n => simp only [PosTr.termOut, os, out, h.pos.res_one, h.idx.cp_nil, h.pos.oerr_none]
  | err e =>
    simp only [PosTr.termOut, os, out, h.pos.res_nil, h.idx.cp_nil, h.pos.oerr_some]
    exact congrArg (Prod.mk _) (h.st_logEv st (.termFail e.pos e.kind))
  | panic s => simp only [PosTr.termOut, os, out, h.pos.res_nil, h.idx.cp_nil, h.pos.oerr_some]

theorem OK.eofStep_comm {T : Tr} {cfg cfg' : Cfg} (h : T.OK cfg cfg') (pos : Nat) (st : St) :
    eofStep cfg' (T.pos pos) (T.st st) = T.os (eofStep cfg pos st) := by
  unfold eofStep
  rw [h.file.isEOF]
  split
  · simp only [os, out, h.pos.res_one, h.pos.node_eof, h.idx.cp_nil, h.pos.oerr_none]
  · simp only [os, out, h.pos.res_nil, h.idx.cp_nil, h.pos.oerr_some]
    exact congrArg (Prod.mk _) (h.st_logEv st (.termFail pos (.other endErrMsg)))

theorem OK.memoStep_comm {T : Tr} {cfg cfg' : Cfg} (h : T.OK cfg cfg') {r r' : RunFn} (hr : T.Rel r r')
    (idx : Nat) (body : G) (ctx : Ctx) (pos : Nat) (st : St) :
    memoStep cfg' r' (T.idx idx) (T.g body) (T.ctx ctx) (T.pos pos) (T.st st)
      = (memoStep cfg r idx body ctx pos st).map T.os := by
  unfold memoStep
  rw [h.st_cacheGet, h.idx.ctx_get, h.file.remaining, h.st_memoEnter, h.idx.ctx_inc, hr]
  cases cacheGet st.cache idx pos ctx with
  | some e => exact congrArg (fun x => some (_, x)) (h.st_logEv st (.hit idx pos))
  | none =>
    simp only [Option.map_none]
    split
    · simp only [Option.map_some, os, out, h.pos.res_nil, h.idx.cp_one, h.pos.oerr_none]
      exact congrArg (fun x => some (_, x)) (h.st_logEv st (.curtail idx pos))
    · rcases r body (ctx.inc idx) pos (memoEnter cfg idx pos st) with _ | ⟨o, st2⟩
      · rfl
      · exact congrArg (fun x => some (_, x)) (h.st_memoLeave idx pos ctx st o st2)

theorem OK.runStep_comm {T : Tr} {cfg cfg' : Cfg} (h : T.OK cfg cfg') {r r' : RunFn} (hr : T.Rel r r') (fuel : Nat) :
    T.Rel (runStep cfg r fuel) (runStep cfg' r' fuel) := by
  intro g ctx pos st
  cases g using G.shapes cfg.file pos with
  | term t => rw [h.idx.g_term]; exact congrArg some (h.termStep_comm t pos st)
  | empty =>
    rw [h.idx.g_empty]
    simp only [runStep, Option.map_some, os, out, h.pos.res_one, h.pos.node_empty, h.idx.cp_nil, h.pos.oerr_none]
  | eof => rw [h.idx.g_eof]; exact congrArg some (h.eofStep_comm pos st)
  | ref k =>
    rw [h.idx.g_ref]
    simp only [runStep, h.env]
    cases cfg.env[k]? with
    | none => simp only [Option.map_none, Option.map_some, os, out, h.pos.res_nil, h.idx.cp_nil, h.pos.oerr_some]
    | some g' => exact hr g' ctx pos st
  | memo idx body => rw [h.idx.g_memo]; exact h.memoStep_comm hr idx body ctx pos st
  | any gs =>
    have key := h.anyLoop_comm hr ctx pos gs {} st
    rw [h.alt_nil] at key
    simp only [h.idx.g_any, runStep, key]
    rcases anyLoop r ctx pos gs {} st with _ | ⟨a, st1⟩
    · rfl
    · exact congrArg some (h.anyFinish_comm a st1)
  | choice gs =>
    have key := h.choiceLoop_comm hr ctx pos gs {} st
    rw [h.alt_nil] at key
    simp only [h.idx.g_choice, runStep, key]
    rcases choiceLoop r ctx pos gs {} st with _ | x
    · rfl
    · exact congrArg some (h.choiceFinish_comm x)
  | wrap g w hw =>
    obtain ⟨w', hw', hch, hcp, hout⟩ := h.wrap_comm hw
    rw [runStep_wrap cfg _ _ ctx st hw, runStep_wrap cfg' _ _ _ _ hw', hch, hcp, hr]
    rcases r w.child ctx w.cpos st with _ | ⟨o, st1⟩
    · rfl
    · exact congrArg (fun x => some (x, T.st st1)) (hout o)
  | seq g sh hs =>
    obtain ⟨sh', hs', hsh⟩ := h.idx.g_shape g sh hs
    rw [runStep_shape cfg _ _ ctx pos st hs, runStep_shape cfg' _ _ _ _ _ hs']
    have key := h.seqParse_comm hsh hr fuel ⟨0, [], ctx, pos, true⟩ {} st
    rw [h.ss_nil] at key
    simp only [runSeq, show T.frame ⟨0, [], ctx, pos, true⟩ = ⟨0, [], T.ctx ctx, T.pos pos, true⟩ from rfl] at key ⊢
    rw [key]
    rcases seqParse r sh fuel 0 [] ctx pos true {} st with _ | ⟨b, s, st1⟩
    · rfl
    · exact congrArg some (h.seqFinish_comm hsh pos s st1)

theorem OK.run_comm {T : Tr} {cfg cfg' : Cfg} (h : T.OK cfg cfg') : ∀ fuel, T.Rel (run cfg fuel) (run cfg' fuel) := by
  intro fuel
  induction fuel with
  | zero => intro _ _ _ _; rfl
  | succ fuel ih =>
    intro g ctx pos st
    rw [run_succ, run_succ, h.maxCalls, h.st_calls, h.runStep_comm ih]
    split <;> rfl

end Tr
end PV
