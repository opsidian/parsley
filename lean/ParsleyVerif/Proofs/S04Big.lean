/-
  The exact meaning `Big` (Spec/BigStep.lean) of `Sentence(g) = SeqOf(g, End)` with Select(0), by inversion
  (`big_sentence_inv`): NOTHING when no alternative of the exact result of `g` ends at the end of the input,
  otherwise exactly ONE tree — the Sentence node over an alternative of `g` that does (the enumeration stops after a
  chain that ends with the End node) — and then no error.
  (`PV.S04`: what Props/C04S.lean needs of the `Sentence` wrapper, per meaning — `Big` here, `DerivesS` in S04Strat.)
-/
import ParsleyVerif.Proofs.BigStepFun
import ParsleyVerif.Proofs.Sentence
namespace PV.S04
open PV PV.Text PV.Big

/-- the tree `Sentence` builds over an alternative `n` of its operand -/
def sentNode (n : Node) : Node := .nt seqTok [n, .eof n.rpos] n.pos n.rpos (.select 0)

theorem sentNode_rpos (n : Node) : (sentNode n).rpos = n.rpos := rfl
theorem sentNode_pos (n : Node) : (sentNode n).pos = n.pos := rfl

theorem handleResult_sent (g : G) (p : Nat) (n : Node) :
    handleResult (sentenceShape g) p [n, .eof n.rpos] = sentNode n := by
  simp [handleResult, sentenceShape, sentNode, Node.rpos]

/-- `BigSeq` where there is no element `depth`: the chain is emitted if its length is accepted -/
theorem bigSeq_none {cfg : Cfg} {sh : SeqShape} {depth : Nat} {nodes : List Node} {pos : Nat} {em : List Node}
    {stop e : Bool} (hl : sh.lookup depth = none) (h : BigSeq cfg sh depth nodes pos em stop e) :
    em = (if sh.lenCheck depth then [handleResult sh pos nodes] else []) ∧
      stop = (sh.lenCheck depth && lastIsEOF nodes) := by
  cases h with
  | last => exact ⟨rfl, rfl⟩
  | fail hl' => rw [hl] at hl'; cases hl'
  | step hl' => rw [hl] at hl'; cases hl'

/-- `BigSeq` where element `depth` is `g`: `g` yields nothing and the chain is emitted as above, or the chain is
    extended by each alternative of what `g` yields -/
theorem bigSeq_some {cfg : Cfg} {sh : SeqShape} {depth : Nat} {nodes : List Node} {pos : Nat} {em : List Node}
    {stop e : Bool} {g : G} (hl : sh.lookup depth = some g) (h : BigSeq cfg sh depth nodes pos em stop e) :
    (∃ e', Big cfg g pos .nil e' ∧ em = (if sh.lenCheck depth then [handleResult sh pos nodes] else []) ∧
        stop = (sh.lenCheck depth && lastIsEOF nodes)) ∨
    (∃ R e1 e2, Big cfg g pos R e1 ∧ R.isNil = false ∧ BigAlts cfg sh depth nodes R.alts em stop e2) := by
  cases h with
  | last hl' => rw [hl] at hl'; cases hl'
  | fail hl' hb => rw [hl] at hl'; cases hl'; exact .inl ⟨_, hb, rfl, rfl⟩
  | step hl' hb hn ha => rw [hl] at hl'; cases hl'; exact .inr ⟨_, _, _, hb, hn, ha⟩

theorem bigAlts_nil {cfg : Cfg} {sh : SeqShape} {depth : Nat} {nodes em : List Node} {stop e : Bool}
    (h : BigAlts cfg sh depth nodes [] em stop e) : em = [] := by
  cases h; rfl

/-- `BigAlts` over a first alternative `n`: the enumeration below `n` stopped everything, or it goes on with the rest -/
theorem bigAlts_cons {cfg : Cfg} {sh : SeqShape} {depth : Nat} {nodes : List Node} {n : Node} {rest em : List Node}
    {stop e : Bool} (h : BigAlts cfg sh depth nodes (n :: rest) em stop e) :
    (∃ e', BigSeq cfg sh (depth + 1) (nodes ++ [n]) n.rpos em true e' ∧ stop = true) ∨
    (∃ em1 e1 em2 e2, BigSeq cfg sh (depth + 1) (nodes ++ [n]) n.rpos em1 false e1 ∧
        BigAlts cfg sh depth nodes rest em2 stop e2 ∧ em = em1 ++ em2) := by
  cases h with
  | stop h1 => exact .inl ⟨_, h1, rfl⟩
  | next h1 ht => exact .inr ⟨_, _, _, _, h1, ht, rfl⟩

theorem big_eof_inv {cfg : Cfg} {pos : Nat} {R : Res} {e : Bool} (h : Big cfg .eof pos R e) :
    (isEOF cfg.file pos = true ∧ R = .one (.eof pos)) ∨ (isEOF cfg.file pos = false ∧ R = .nil) := by
  cases h with
  | eofOk he => exact .inl ⟨he, rfl⟩
  | eofFail he => exact .inr ⟨he, rfl⟩
  | seqfam hs _ _ _ => simp [G.shape] at hs

theorem sent_alt {cfg : Cfg} {g : G} {n : Node} {p : Nat} {em : List Node} {stop e : Bool}
    (h : BigSeq cfg (sentenceShape g) 1 [n] p em stop e) :
    (isEOF cfg.file p = true ∧ em = [handleResult (sentenceShape g) p [n, .eof p]] ∧ stop = true) ∨
    (isEOF cfg.file p = false ∧ em = [] ∧ stop = false) := by
  rcases bigSeq_some (g := .eof) rfl h with ⟨e', hb, hem, hst⟩ | ⟨R, e1, e2, hb, hn, ha⟩
  · rcases big_eof_inv hb with ⟨_, hR⟩ | ⟨he, _⟩
    · cases hR
    · exact .inr ⟨he, by rw [hem]; simp [sentenceShape], by rw [hst]; simp [sentenceShape]⟩
  · rcases big_eof_inv hb with ⟨he, hR⟩ | ⟨_, hR⟩
    · subst hR
      simp only [Res.alts] at ha
      -- after the End node there is no further element: the chain `n, End` is emitted and stops the enumeration
      rcases bigAlts_cons ha with ⟨e', hs2, hstop⟩ | ⟨em1, e1', em2, e2', hs2, _, _⟩
      · refine .inl ⟨he, ?_, hstop⟩
        rw [(bigSeq_none rfl hs2).1]
        simp [sentenceShape, Node.rpos]
      · have hst := (bigSeq_none rfl hs2).2
        simp [sentenceShape, lastIsEOF, Node.token, eofTok] at hst
    · subst hR
      simp [Res.isNil] at hn

theorem sent_alts {cfg : Cfg} {g : G} : ∀ (alts em : List Node) (stop e : Bool),
    BigAlts cfg (sentenceShape g) 0 [] alts em stop e →
    ((∀ n ∈ alts, isEOF cfg.file n.rpos = false) ∧ em = []) ∨
    (∃ n ∈ alts, isEOF cfg.file n.rpos = true ∧ em = [sentNode n]) := by
  intro alts
  induction alts with
  | nil =>
    intro em stop e h
    exact .inl ⟨nofun, bigAlts_nil h⟩
  | cons a rest ih =>
    intro em stop e h
    rcases bigAlts_cons h with ⟨e', hs, _⟩ | ⟨em1, e1, em2, e2, hs, ht, hem⟩
    · rcases sent_alt (g := g) (n := a) (by simpa using hs) with ⟨he, hem, _⟩ | ⟨_, _, hst⟩
      · exact .inr ⟨a, List.mem_cons_self .., he, by rw [hem, handleResult_sent]⟩
      · cases hst
    · rcases sent_alt (g := g) (n := a) (by simpa using hs) with ⟨_, _, hst⟩ | ⟨he, hem1, _⟩
      · cases hst
      · subst hem1
        rcases ih em2 stop e2 ht with ⟨hall, hem2⟩ | ⟨n, hn, hne, hem2⟩
        · refine .inl ⟨?_, by rw [hem, hem2]; rfl⟩
          intro n hn
          cases hn with
          | head => exact he
          | tail _ hm => exact hall n hm
        · exact .inr ⟨n, List.mem_cons_of_mem _ hn, hne, by rw [hem, hem2]; rfl⟩

theorem big_sentence_inv {cfg : Cfg} {g : G} {pos : Nat} {R : Res} {e : Bool} (h : Big cfg (G.sentence g) pos R e) :
    ∃ Rg eg, Big cfg g pos Rg eg ∧
      (((∀ n ∈ Rg.alts, isEOF cfg.file n.rpos = false) ∧ R = .nil) ∨
       (∃ n ∈ Rg.alts, isEOF cfg.file n.rpos = true ∧ R = .one (sentNode n) ∧ e = false)) := by
  unfold G.sentence at h
  cases h with
  | seqfam hs hseq hR he =>
    rename_i sh em stop e0
    have hsh : sh = sentenceShape g := by
      have := sentence_shape g
      unfold G.sentence at this
      rw [this] at hs
      injection hs with hs
      exact hs.symm
    subst hsh
    rcases bigSeq_some (g := g) rfl hseq with ⟨e', hb, hem, _⟩ | ⟨Rg, e1, e2, hb, hn, ha⟩
    · refine ⟨.nil, e', hb, .inl ⟨nofun, ?_⟩⟩
      have : em = [] := by rw [hem]; simp [sentenceShape]
      rw [hR, this]; rfl
    · refine ⟨Rg, e1, hb, ?_⟩
      rcases sent_alts Rg.alts em stop e2 ha with ⟨hall, hem⟩ | ⟨n, hn, hne, hem⟩
      · exact .inl ⟨hall, by rw [hR, hem]; rfl⟩
      · have hRR : R = .one (sentNode n) := by rw [hR, hem]; simp [foldEmit, appendNode]
        exact .inr ⟨n, hn, hne, hRR, by rw [he, hRR]; rfl⟩

end PV.S04
