/-
  THE REUSE INVARIANT (C01, completeness, half A), for a variable relation: the result cache, the curtailing sets and
  the context reset of `run` never lose a CURTAILED derivation.

  If `run cfg fuel g ctx pos st = some (o, st')` from a cache that satisfies the invariant, then for EVERY counter
  function `c'` that dominates `ctx` on the keys of the returned curtailing set `o.cp` (and is arbitrary elsewhere)
  every tree `x` with a curtailed derivation under `c'` is among `o.res` (`Covers`), and the invariant holds of `st'`.
  The invariant says the same of every stored entry, with the entry's STORED context in place of `ctx` — the premise
  is literally the test `ResultCache.Get` performs.

  Which curtailed derivations are meant is a parameter.  The induction runs over the seven monotone operators
  {term, empty, ref, memo, any, optional, seqOf}; what it uses of the relation is that a derivation can be taken apart
  by one rule (`StepC`: the relation lies below the rule functional), and of what is promised about the returned trees
  that it is closed under one rule (`StepQ`).  `Cover` is that interface, `Cover.runStep_cover` the one induction
  step, `Cover.run_cover` its lift to `run`; every other operator of a family (a trim, a low leaf of a stratified
  grammar) is the caller's (`hleaf`).  Instances: Proofs/RunComplete.lean (`DerivesC`), Proofs/C1TComplete.lean
  (`DerivesCW`, trims), Proofs/StratRun.lean (`DerivesSC`, stratum 1 over stratum 0).
-/
import ParsleyVerif.Proofs.RunCompleteBasics
import ParsleyVerif.Proofs.RunLoops
import ParsleyVerif.Proofs.RunEqns
import ParsleyVerif.Proofs.RunSound
import ParsleyVerif.Proofs.GInduct
namespace PV
open PV.Text

def NoEOF (r : Res) : Prop := ∀ x ∈ r.alts, x.token ≠ eofTok

/-- every tree that `D` derives under counters dominating `ctx` on the curtailing set `cp` is among `alts` -/
def Covers (D : (Nat → Nat) → Node → Prop) (ctx : Ctx) (cp : List Nat) (alts : List Node) : Prop :=
  ∀ (c' : Nat → Nat) (x : Node), (∀ k ∈ cp, ctx.get k ≤ c' k) → D c' x → x ∈ alts

namespace Covers
variable {D D' : (Nat → Nat) → Node → Prop} {ctx : Ctx} {cp cp' : List Nat} {alts alts' : List Node}

theorem mono (h : Covers D ctx cp alts) (hcp : ∀ k ∈ cp, k ∈ cp') (ha : ∀ x ∈ alts, x ∈ alts') :
    Covers D ctx cp' alts' :=
  fun c' x hdom hd => ha x (h c' x (fun k hk => hdom k (hcp k hk)) hd)

theorem imp (h : Covers D' ctx cp alts) (hD : ∀ c' x, D c' x → D' c' x) : Covers D ctx cp alts :=
  fun c' x hdom hd => h c' x hdom (hD c' x hd)

/-- Memoize runs its body under the incremented context; a derivation enters the body under `bump` -/
theorem bump {idx : Nat} (h : Covers D' (ctx.inc idx) cp alts) (hD : ∀ c' x, D c' x → D' (bump c' idx) x) :
    Covers D ctx cp alts := by
  intro c' x hdom hd
  refine h (PV.bump c' idx) x ?_ (hD c' x hd)
  intro k hk
  have := hdom k hk
  by_cases hki : k = idx
  · subst hki
    rw [Ctx.get_inc_self]
    simp only [PV.bump, ↓reduceIte]; omega
  · rw [Ctx.get_inc_other _ _ _ hki]
    simp only [PV.bump, hki, ↓reduceIte]; exact this

/-- curtailment: no derivation enters `idx` under counters that dominate `ctx` on it -/
theorem curtail {idx n : Nat} (hcur : ctx.get idx > n) (hD : ∀ c' x, D c' x → c' idx ≤ n) : Covers D ctx [idx] [] := by
  intro c' x hdom hd
  have h1 := hdom idx (List.mem_singleton_self _)
  have h2 := hD c' x hd
  omega

/-- reuse: the test of `ResultCache.Get` is the premise of the entry's promise -/
theorem hit {c : List CacheEntry} {idx pos : Nat} {e : CacheEntry} (hc : cacheGet c idx pos ctx = some e)
    (hk : ∀ kv ∈ e.ctx, kv.1 ∈ e.cp)
    (he : ∀ (c' : Nat → Nat) (x : Node), (∀ kv ∈ e.ctx, kv.2 ≤ c' kv.1) → D c' x → x ∈ e.res.alts) :
    Covers D ctx e.cp e.res.alts := by
  intro c' x hdom hd
  refine he c' x ?_ hd
  intro kv hkv
  have h1 := cacheGet_ctx hc kv hkv
  have h2 := hdom kv.1 (hk kv hkv)
  omega

/-- what Memoize saves under `ctx.Filter(cp)` keeps the promise against the stored context -/
theorem save (h : Covers D ctx cp alts) (c' : Nat → Nat) (x : Node)
    (hdom : ∀ kv ∈ ctx.filter cp, kv.2 ≤ c' kv.1) (hd : D c' x) : x ∈ alts :=
  h c' x (get_le_of_filter hdom) hd

/-! from the empty context every counter function dominates: with soundness (`hsound`) and a cover of the
    derivations `D` by curtailed derivations from the zero counters (`hcov`), the answer is exact -/

theorem zero (h : Covers D [] cp alts) {x : Node} (hx : D zeroC x) : x ∈ alts :=
  h zeroC x (fun _ _ => Nat.zero_le _) hx

theorem complete_ends (h : Covers D [] cp alts) {T : Node → Prop}
    (hcov : ∀ x, T x → ∃ y, D zeroC y ∧ y.rpos = x.rpos) : ∀ x, T x → ∃ y ∈ alts, y.rpos = x.rpos := by
  intro x hx
  obtain ⟨y, hy, he⟩ := hcov x hx
  exact ⟨y, h.zero hy, he⟩

theorem ends_exact (h : Covers D [] cp alts) {T : Node → Prop}
    (hcov : ∀ x, T x → ∃ y, D zeroC y ∧ y.rpos = x.rpos) (hsound : ∀ x ∈ alts, T x) (e : Nat) :
    (∃ x, T x ∧ x.rpos = e) ↔ e ∈ alts.map Node.rpos := by
  constructor
  · rintro ⟨x, hx, rfl⟩
    obtain ⟨y, hy, he⟩ := h.complete_ends hcov x hx
    exact List.mem_map.mpr ⟨y, hy, he⟩
  · intro he
    obtain ⟨y, hy, rfl⟩ := List.mem_map.mp he
    exact ⟨y, hsound y hy, rfl⟩

end Covers

theorem anyFinish_fields (a : AltSt) (st : St) :
    (anyFinish a st).1.res.alts = a.res.alts ∧ (anyFinish a st).1.cp = a.cp ∧ (anyFinish a st).2.cache = st.cache := by
  rcases anyFinish_cases a st with ⟨hnil, h⟩ | ⟨_, h⟩ <;> rw [h]
  · exact ⟨(alts_nil_of_isNil hnil).symm, rfl, rfl⟩
  · exact ⟨rfl, rfl, setError_cache st a.err⟩

theorem seqFinish_alts (sh : SeqShape) (pos : Nat) (ss : SeqSt) (st : St) :
    (seqFinish sh pos ss st).1.res.alts = ss.result.alts ∧ (seqFinish sh pos ss st).1.cp = ss.cp := by
  rcases seqFinish_cases sh pos ss st with ⟨hnil, _, h, _⟩ | ⟨_, h⟩ <;> rw [h]
  · exact ⟨(alts_nil_of_isNil hnil).symm, rfl⟩
  · exact ⟨rfl, rfl⟩

/-- the Any loop collects what every alternative's answer covers; `Inv` is the invariant of the state, `Q` a property
    of the trees -/
theorem anyLoop_complete {r : RunFn} {ctx : Ctx} {pos : Nat} (Inv : St → Prop) (Q : Node → Prop)
    (D : G → (Nat → Nat) → Node → Prop) :
    ∀ gs a st a' st', anyLoop r ctx pos gs a st = some (a', st') →
      (∀ g ∈ gs, ∀ st o st1, Inv st → r g ctx pos st.regCall = some (o, st1) →
        Inv st1 ∧ (∀ x ∈ o.res.alts, Q x) ∧ Covers (D g) ctx o.cp o.res.alts) →
      Inv st → (∀ x ∈ a.res.alts, Q x) →
        Inv st' ∧ (∀ x ∈ a'.res.alts, Q x) ∧ (∀ x ∈ a.res.alts, x ∈ a'.res.alts) ∧ (∀ k ∈ a.cp, k ∈ a'.cp) ∧
        ∀ g ∈ gs, Covers (D g) ctx a'.cp a'.res.alts := by
  refine anyLoop_elim r ctx pos ?_ ?_
  · exact fun a st _ hI hN => ⟨hI, hN, fun x hx => hx, fun k hk => hk, (fun g hg => nomatch hg)⟩
  · intro g gs a st o st1 a' st' hrun _ ih hgs hI hN
    obtain ⟨hI1, hQo, hO⟩ := hgs g (List.mem_cons_self ..) st o st1 hI hrun
    obtain ⟨f1, f2, _, _⟩ := altErr_fields pos { a with cp := cpUnion a.cp o.cp, res := appendNode a.res o.res } o.err
    obtain ⟨c1, c2, c3, c4, c5⟩ := ih (fun g' hg' => hgs g' (List.mem_cons_of_mem _ hg')) hI1
      (by rw [f2]; exact fun x hx => (mem_appendNode _ _ _ hx).elim (hN x) (hQo x))
    rw [f2] at c3
    rw [f1] at c4
    refine ⟨c1, c2, fun x hx => c3 x (mem_appendNode_left _ _ _ hx), fun k hk => c4 k (mem_cpUnion_left _ _ _ hk), ?_⟩
    intro g' hg'
    cases hg' with
    | head => exact hO.mono (fun k hk => c4 k (mem_cpUnion_right _ _ _ hk)) (fun x hx => c3 x (mem_appendNode_right _ _ _ hx))
    | tail _ hm => exact c5 g' hm

/-- how the `sequence` object may evolve: results and curtailing parsers are only ever added, and trees with `Q` to
    trees with `Q` -/
def SeqLe (Q : Node → Prop) (ss ss' : SeqSt) : Prop :=
  (∀ x ∈ ss.result.alts, x ∈ ss'.result.alts) ∧ (∀ k ∈ ss.cp, k ∈ ss'.cp) ∧
    ((∀ x ∈ ss.result.alts, Q x) → ∀ x ∈ ss'.result.alts, Q x)

theorem SeqLe.refl (Q : Node → Prop) (ss : SeqSt) : SeqLe Q ss ss := ⟨fun _ h => h, fun _ h => h, id⟩
theorem SeqLe.trans {Q : Node → Prop} {a b c : SeqSt} (h1 : SeqLe Q a b) (h2 : SeqLe Q b c) : SeqLe Q a c :=
  ⟨fun x hx => h2.1 x (h1.1 x hx), fun k hk => h2.2.1 k (h1.2.1 k hk), fun h => h2.2.2 (h1.2.2 h)⟩

theorem seqExit_false (fr : Frame) (h : ∀ n ∈ fr.nodes, n.token ≠ eofTok) : seqExit fr = false := by
  unfold seqExit
  split
  · split
    · rename_i l hl
      have := h l (List.mem_of_getLast? hl)
      simpa using this
    · rfl
  · rfl

theorem SeqLe_after (Q : Node → Prop) (m : Bool) (ss : SeqSt) (o : Out) : SeqLe Q ss (seqAfter m ss o) :=
  ⟨by rw [seqAfter_result]; exact fun _ h => h, seqAfter_cp_left m ss o, by rw [seqAfter_result]; exact id⟩

/-- what the frames of one (*sequence).Parse started at `pos0` satisfy: the depth is the number of nodes, the context
    is empty once merging is off, no node so far carries the token EOF (the early exit never fires), the position
    is the end of the last node -/
structure Frame.OK (pos0 : Nat) (fr : Frame) : Prop where
  depth : fr.depth = fr.nodes.length
  reset : fr.merge = false → fr.ctx = []
  noEOF : ∀ n ∈ fr.nodes, n.token ≠ eofTok
  pos : endOf pos0 fr.nodes = fr.pos

theorem Frame.OK.init (ctx : Ctx) (pos : Nat) : Frame.OK pos ⟨0, [], ctx, pos, true⟩ :=
  ⟨rfl, fun h => (nomatch h), fun _ hn => (nomatch hn), rfl⟩

theorem Frame.OK.next {pos0 : Nat} {fr : Frame} (h : Frame.OK pos0 fr) {n : Node} (hn : n.token ≠ eofTok) :
    Frame.OK pos0 (fr.next n) := by
  refine ⟨Frame.next_depth h.depth n, ?_, ?_, by simp only [Frame.next]; exact endOf_snoc _ _ _⟩
  · intro hmf
    simp only [Frame.next] at hmf ⊢
    by_cases hc : n.rpos > fr.pos
    · simp [hc]
    · simp only [hc, decide_false, Bool.not_false, Bool.and_true] at hmf
      simp only [hc, ↓reduceIte]
      exact h.reset hmf
  · intro m hmm
    simp only [Frame.next, List.mem_append, List.mem_singleton] at hmm
    cases hmm with
    | inl h1 => exact h.noEOF m h1
    | inr h1 => rw [h1]; exact hn

/-- **Completeness principle for the sequence loop**: every chain of nodes the elements can derive from the frame
    on — under counters that dominate the frame's context on the FINAL curtailing set while merging is on, under any
    counters once it is off — is emitted.

    `D g pos` are the derivations of an element, `DS` the chains (`hDS`: a chain is an element's tree and a chain,
    under the zero counters once input was consumed); `hcall` is what the call of an element gives: it keeps the
    invariant `Inv` of the state, covers the element's derivations, and every tree it returns does not carry the token
    EOF and leads to a frame with `F`; `hemit`: what is emitted has `Q`.

    An instance of `seqParse_rel`: `E` is "`Inv` is kept and the `sequence` object only grows" (`SeqLe`), `Q fr` "every
    chain derivable from `fr` on is among the results" — stable under `E` because results and curtailing sets only
    grow —, and the early exit never fires (`X := False`). -/
theorem seqParse_complete {r : RunFn} {sh : SeqShape} {pos0 : Nat} (Inv : St → Prop) (F : Frame → Prop)
    (Q : Node → Prop) (D : G → Nat → (Nat → Nat) → Node → Prop)
    (DS : (Nat → Nat) → Nat → Nat → List Node → Prop)
    (hDS : ∀ {c d pos n rest}, DS c d pos (n :: rest) →
      ∃ g, sh.lookup d = some g ∧ D g pos c n ∧ DS (if n.rpos > pos then zeroC else c) (d + 1) n.rpos rest)
    (hcall : ∀ fr g st o st1, Frame.OK pos0 fr → F fr → Inv st → sh.lookup fr.depth = some g →
      r g fr.ctx fr.pos st.regCall = some (o, st1) →
      Inv st1 ∧ Covers (D g fr.pos) fr.ctx o.cp o.res.alts ∧ ∀ n ∈ o.res.alts, n.token ≠ eofTok ∧ F (fr.next n))
    (hemit : ∀ fr, Frame.OK pos0 fr → F fr → sh.lenCheck fr.depth = true → Q (handleResult sh pos0 fr.nodes))
    (hlc : ∀ d g, sh.lookup d = some g → sh.lenCheck d = false)
    (fuel : Nat) (fr : Frame) (ss : SeqSt) (st : St) (b : Bool) (ss' : SeqSt) (st' : St) (hfr : Frame.OK pos0 fr) (hF : F fr)
    (hI : Inv st) (h : seqParse r sh fuel fr.depth fr.nodes fr.ctx fr.pos fr.merge ss st = some (b, ss', st')) :
    b = false ∧ Inv st' ∧ SeqLe Q ss ss' ∧
      ∀ (c' : Nat → Nat) (rest : List Node), (fr.merge = true → ∀ k ∈ ss'.cp, fr.ctx.get k ≤ c' k) →
        DS c' fr.depth fr.pos rest → sh.lenCheck (fr.depth + rest.length) = true →
        handleResult sh pos0 (fr.nodes ++ rest) ∈ ss'.result.alts := by
  have emitEq : ∀ fr, Frame.OK pos0 fr →
      handleResult sh fr.pos (if fr.depth > 0 then fr.nodes else []) = handleResult sh pos0 fr.nodes := by
    intro fr hfr
    rw [emitNodes_eq fr hfr.depth]
    exact handleResult_endOf sh hfr.pos
  have emitLe : ∀ fr ss, Frame.OK pos0 fr → F fr → sh.lenCheck fr.depth = true → SeqLe Q ss (seqEmit sh fr ss) := by
    intro fr ss hfr hF hlcd
    refine ⟨fun x hx => mem_appendNode_left _ _ _ hx, fun k hk => hk, fun hN x hx => ?_⟩
    rcases mem_appendNode _ _ _ hx with h1 | h1
    · exact hN x h1
    · cases List.mem_singleton.mp h1; rw [emitEq fr hfr]; exact hemit fr hfr hF hlcd
  have emitMem : ∀ fr ss, Frame.OK pos0 fr → handleResult sh pos0 fr.nodes ∈ (seqEmit sh fr ss).result.alts := by
    intro fr ss hfr
    refine mem_appendNode_right _ _ _ ?_
    rw [emitEq fr hfr]; exact List.mem_singleton_self _
  obtain ⟨e, q, x⟩ := seqParse_rel r sh (fun fr _ st => Frame.OK pos0 fr ∧ F fr ∧ Inv st)
    (fun ss st ss' st' => (Inv st → Inv st') ∧ SeqLe Q ss ss')
    (fun fr ss' _ => ∀ (c' : Nat → Nat) (rest : List Node), (fr.merge = true → ∀ k ∈ ss'.cp, fr.ctx.get k ≤ c' k) →
      DS c' fr.depth fr.pos rest → sh.lenCheck (fr.depth + rest.length) = true →
      handleResult sh pos0 (fr.nodes ++ rest) ∈ ss'.result.alts)
    (fun _ _ => False)
    (fun _ _ => ⟨id, SeqLe.refl _ _⟩) (fun _ _ _ _ _ _ h1 h2 => ⟨h2.1 ∘ h1.1, h1.2.trans h2.2⟩)
    (fun _ _ _ _ _ hJ hE => ⟨hJ.1, hJ.2.1, hE.1 hJ.2.2⟩)
    (fun _ _ _ _ _ hQ hE c' rest hdom hds hlen =>
      hE.2.1 _ (hQ c' rest (fun hm k hk => hdom hm k (hE.2.2.1 k hk)) hds hlen))
    (by
      intro fr ss st g o st1 ⟨hfr, hF, hI⟩ _ hl hrun
      obtain ⟨hI1, hO, hN⟩ := hcall fr g st o st1 hfr hF hI hl hrun
      have hafter : (Inv st → Inv st1) ∧ SeqLe Q ss (seqAfter fr.merge ss o) := ⟨fun _ => hI1, SeqLe_after _ _ _ _⟩
      -- no chain starts with a tree the element did not return
      have hdomEl : ∀ (c' : Nat → Nat) (fin : SeqSt), SeqLe Q (seqAfter fr.merge ss o) fin →
          (fr.merge = true → ∀ k ∈ fin.cp, fr.ctx.get k ≤ c' k) → ∀ k ∈ o.cp, fr.ctx.get k ≤ c' k := by
        intro c' fin hle hdom k hk
        cases hmg : fr.merge with
        | true => exact hdom hmg k (hle.2.1 k (by rw [hmg]; exact seqAfter_cp_right ss o k hk))
        | false => rw [hfr.reset hmg]; exact Nat.zero_le _
      have hhead : ∀ c' n rest1 fin, SeqLe Q (seqAfter fr.merge ss o) fin →
          (fr.merge = true → ∀ k ∈ fin.cp, fr.ctx.get k ≤ c' k) → DS c' fr.depth fr.pos (n :: rest1) →
          n ∈ o.res.alts ∧ DS (if n.rpos > fr.pos then zeroC else c') (fr.depth + 1) n.rpos rest1 := by
        intro c' n rest1 fin hle hdom hds
        obtain ⟨g', hl', hn', hrest⟩ := hDS hds
        cases hl.symm.trans hl'
        exact ⟨hO c' n (hdomEl c' fin hle hdom) hn', hrest⟩
      refine ⟨fun _ => ⟨fun n hn => ⟨hfr.next (hN n hn).1, (hN n hn).2, hI1⟩, fun b ss' st' hE hq _ =>
        ⟨⟨hE.1 ∘ hafter.1, hafter.2.trans hE.2⟩, fun hb c' rest hdom hds hlen => ?_⟩⟩, fun hnil hlcd => ?_, fun hnil hlcd => ?_⟩
      · cases rest with
        | nil => rw [List.length_nil, Nat.add_zero, hlc _ _ hl] at hlen; cases hlen
        | cons n rest1 =>
          obtain ⟨hnm, hrest⟩ := hhead c' n rest1 ss' hE.2 hdom hds
          have := hq hb n hnm (if n.rpos > fr.pos then zeroC else c') rest1 ?_ (by simpa [Frame.next] using hrest)
            (by simpa [Frame.next, Nat.add_assoc, Nat.add_comm 1] using hlen)
          · simpa [Frame.next, List.append_assoc] using this
          · intro hmg k hk3
            simp only [Frame.next] at hmg ⊢
            by_cases hc : n.rpos > fr.pos
            · simp [hc] at hmg
            · simp only [hc, decide_false, Bool.not_false, Bool.and_true] at hmg
              simp only [hc, ↓reduceIte]
              exact hdom hmg k hk3
      · rw [hlc _ _ hl] at hlcd; cases hlcd
      · refine ⟨hafter, fun c' rest hdom hds hlen => ?_⟩
        cases rest with
        | nil => rw [List.length_nil, Nat.add_zero, hlcd] at hlen; cases hlen
        | cons n rest1 =>
          have := (hhead c' n rest1 _ (SeqLe.refl _ _) hdom hds).1
          rw [alts_nil_of_isNil hnil] at this; cases this)
    (by
      intro fr ss st ⟨hfr, hF, hI⟩ _ hl
      have hnone : ∀ c' n rest1, ¬ DS c' fr.depth fr.pos (n :: rest1) := fun c' n rest1 hds => by
        obtain ⟨g', hl', _⟩ := hDS hds
        rw [hl] at hl'; cases hl'
      refine ⟨fun hlcd => ⟨⟨id, emitLe fr ss hfr hF hlcd⟩, fun c' rest _ hds _ => ?_, fun hx => ?_⟩,
        fun hlcd c' rest _ hds hlen => ?_⟩
      · cases rest with
        | nil => rw [List.append_nil]; exact emitMem fr ss hfr
        | cons n rest1 => exact absurd hds (hnone c' n rest1)
      · rw [seqExit_false fr hfr.noEOF] at hx; cases hx
      · cases rest with
        | nil => rw [List.length_nil, Nat.add_zero, hlcd] at hlen; cases hlen
        | cons n rest1 => exact absurd hds (hnone c' n rest1))
    fuel fr ss st b ss' st' ⟨hfr, hF, hI⟩ hfr.depth h
  have hb : b = false := by cases b with | false => rfl | true => exact (x rfl).elim
  exact ⟨hb, e.1 hI, e.2, q hb⟩

theorem seqOf_shape {gs : List G} {o : SeqOpts} {sh : SeqShape} (hs : (G.seq .seqOf gs o).shape = some sh) :
    (∀ d g', sh.lookup d = some g' → sh.lenCheck d = false) ∧ sh.token = o.token.getD seqTok := by
  simp only [G.shape, Option.some.injEq] at hs
  subst hs
  refine ⟨?_, rfl⟩
  intro d g' hl
  simp only at hl ⊢
  have hlt : d < gs.length := by
    rcases Nat.lt_or_ge d gs.length with h | h
    · exact h
    · rw [List.getElem?_eq_none h] at hl; cases hl
  simp only [beq_eq_false_iff_ne, ne_eq]
  omega

def G.isMono : G → Bool
  | .term _ | .empty | .ref _ | .memo _ _ | .any _ | .optional _ | .seq .seqOf _ _ => true
  | _ => false

/-- one rule of a curtailed derivation over the relations `D` (trees) and `DS` (chains) for the premises -/
inductive StepC (cfg : Cfg) (D : (Nat → Nat) → G → Nat → Node → Prop)
    (DS : (Nat → Nat) → SeqShape → Nat → Nat → List Node → Prop) : (Nat → Nat) → G → Nat → Node → Prop
  | term {c t pos n} : t.parse cfg.params cfg.file pos = .node n → StepC cfg D DS c (.term t) pos n
  | empty {c pos} : StepC cfg D DS c .empty pos (.empty pos)
  | ref {c k g pos x} : cfg.env[k]? = some g → D c g pos x → StepC cfg D DS c (.ref k) pos x
  | memo {c i g pos x} : c i ≤ remaining cfg.file pos + Facts.curtailSlack → D (bump c i) g pos x →
      StepC cfg D DS c (.memo i g) pos x
  | any {c gs g pos x} : g ∈ gs → D c g pos x → StepC cfg D DS c (.any gs) pos x
  | optSome {c g pos x} : D c g pos x → StepC cfg D DS c (.optional g) pos x
  | optNone {c g pos} : StepC cfg D DS c (.optional g) pos (.empty pos)
  | seqOf {c gs o sh pos nodes} : (G.seq .seqOf gs o).shape = some sh → DS c sh 0 pos nodes →
      sh.lenCheck nodes.length = true → StepC cfg D DS c (.seq .seqOf gs o) pos (handleResult sh pos nodes)

/-- one rule of the (uncurtailed) meaning, over `Q` for the operands' trees and `QS` for the chain of a sequence -/
inductive StepQ (cfg : Cfg) (Q : G → Nat → Node → Prop) (QS : SeqShape → Nat → List Node → Prop) :
    G → Nat → Node → Prop
  | term {t pos n} : t.parse cfg.params cfg.file pos = .node n → StepQ cfg Q QS (.term t) pos n
  | empty {pos} : StepQ cfg Q QS .empty pos (.empty pos)
  | ref {k g pos x} : cfg.env[k]? = some g → Q g pos x → StepQ cfg Q QS (.ref k) pos x
  | memo {i g pos x} : Q g pos x → StepQ cfg Q QS (.memo i g) pos x
  | any {gs g pos x} : g ∈ gs → Q g pos x → StepQ cfg Q QS (.any gs) pos x
  | optSome {g pos x} : Q g pos x → StepQ cfg Q QS (.optional g) pos x
  | optNone {g pos} : StepQ cfg Q QS (.optional g) pos (.empty pos)
  | seqOf {gs o sh pos nodes} : (G.seq .seqOf gs o).shape = some sh → QS sh pos nodes →
      (∀ n ∈ nodes, n.token ≠ eofTok) → sh.lenCheck nodes.length = true →
      StepQ cfg Q QS (.seq .seqOf gs o) pos (handleResult sh pos nodes)

/-- a family of curtailed derivations with its scope, its promise about returned trees and its cache invariant.
    `Sc` and `QS` (with `sc_*`, `qs_*`) are there for the stratified family only (calls inside the file under a context that
    counts no stratum-0 index; chains of `DerivesS`), `X` (with `x_*`) for the family with trims only; the others set them `True`. -/
structure Cover (cfg : Cfg) where
  D : (Nat → Nat) → G → Nat → Node → Prop
  DS : (Nat → Nat) → SeqShape → Nat → Nat → List Node → Prop
  /-- handled by the family itself (a low leaf; every non-monotone operator is one anyway) -/
  leaf : G → Prop
  /-- the parser is in scope -/
  Sg : G → Prop
  /-- the call (context, position) is in scope -/
  Sc : Ctx → Nat → Prop
  /-- promised of every returned tree -/
  Q : G → Nat → Node → Prop
  /-- promised of the chain a sequence has built so far -/
  QS : SeqShape → Nat → List Node → Prop
  /-- promised of an answer as a whole (nothing, or what the scope of the trims needs: `C1T.OutShape`) -/
  X : G → Out → Prop
  Inv : St → Prop
  d_inv : ∀ {c g pos x}, ¬ leaf g → g.isMono = true → D c g pos x → StepC cfg D DS c g pos x
  ds_inv : ∀ {c sh d pos n rest}, DS c sh d pos (n :: rest) →
    ∃ g, sh.lookup d = some g ∧ D c g pos n ∧ DS (if n.rpos > pos then zeroC else c) sh (d + 1) n.rpos rest
  sg_kids : ∀ {g}, Sg g → ¬ leaf g → g.isMono = true → ∀ k ∈ g.kids, Sg k
  sg_ref : ∀ {k g'}, Sg (.ref k) → ¬ leaf (.ref k) → cfg.env[k]? = some g' → Sg g'
  sg_tok : ∀ {gs o}, Sg (.seq .seqOf gs o) → ¬ leaf (.seq .seqOf gs o) → o.token.getD seqTok ≠ eofTok
  sc_inc : ∀ {ctx pos i b}, Sc ctx pos → Sg (.memo i b) → ¬ leaf (.memo i b) → Sc (ctx.inc i) pos
  sc_next : ∀ {ctx pos g n}, Sc ctx pos → Q g pos n → Sc ctx n.rpos ∧ Sc [] n.rpos
  q_tok : ∀ {g pos x}, Q g pos x → x.token ≠ eofTok
  q_step : ∀ {g ctx pos x}, Sg g → ¬ leaf g → Sc ctx pos → StepQ cfg Q QS g pos x → Q g pos x
  qs_nil : ∀ {sh ctx pos}, Sc ctx pos → QS sh pos []
  qs_snoc : ∀ {sh pos nodes g n}, QS sh pos nodes → sh.lookup nodes.length = some g → Q g (endOf pos nodes) n →
    QS sh pos (nodes ++ [n])
  x_term : ∀ {t pos st}, X (.term t) (termStep cfg t pos st).1
  x_one : ∀ {g n}, X g ⟨.one n, [], none⟩
  x_nil : ∀ {g cp err}, X g ⟨.nil, cp, err⟩
  x_ref : ∀ {k g o}, cfg.env[k]? = some g → X g o → X (.ref k) o
  x_memo : ∀ {i b o}, X b o → X (.memo i b) o
  x_any : ∀ {gs a st}, X (.any gs) (anyFinish a st).1
  x_opt : ∀ {g o}, X (.optional g) o
  x_seq : ∀ {gs so sh pos ss st}, X (.seq .seqOf gs so) (seqFinish sh pos ss st).1
  inv_frame : ∀ {st st' : St}, Inv st → st'.cache = st.cache → Inv st'
  /-- an entry that `ResultCache.Get` hands out keeps the promise against its stored context -/
  inv_hit : ∀ {st i b pos ctx e}, Inv st → Sg (.memo i b) → ¬ leaf (.memo i b) → cacheGet st.cache i pos ctx = some e →
    (∀ kv ∈ e.ctx, kv.1 ∈ e.cp) ∧
    (∀ (c' : Nat → Nat) (x : Node), (∀ kv ∈ e.ctx, kv.2 ≤ c' kv.1) → D c' (.memo i b) pos x → x ∈ e.res.alts) ∧
    (∀ x ∈ e.res.alts, Q (.memo i b) pos x) ∧ X (.memo i b) ⟨e.res, e.cp, e.err⟩
  inv_save : ∀ {st st2 : St} {i b pos} {ctx : Ctx} {o : Out}, Inv st2 → Sg (.memo i b) → ¬ leaf (.memo i b) → Sc ctx pos →
    (∀ (c' : Nat → Nat) (x : Node), (∀ kv ∈ ctx.filter o.cp, kv.2 ≤ c' kv.1) → D c' (.memo i b) pos x → x ∈ o.res.alts) →
    (∀ x ∈ o.res.alts, Q (.memo i b) pos x) → X (.memo i b) o → Inv (memoLeave i pos ctx st o st2)

theorem emptyNode_token (pos : Nat) : (Node.empty pos).token ≠ eofTok := by simp [Node.token, eofTok]

namespace Cover

/-- what a call in scope gives: the answer covers the curtailed derivations, its trees have `Q`, the cache stays good -/
def Ans {cfg : Cfg} (M : Cover cfg) (g : G) (ctx : Ctx) (pos : Nat) (o : Out) (st' : St) : Prop :=
  Covers (fun c x => M.D c g pos x) ctx o.cp o.res.alts ∧ (∀ x ∈ o.res.alts, M.Q g pos x) ∧ M.X g o ∧ M.Inv st'

def Run {cfg : Cfg} (M : Cover cfg) (r : RunFn) : Prop :=
  ∀ g ctx pos st o st', M.Sg g → M.Sc ctx pos → M.Inv st → r g ctx pos st = some (o, st') → M.Ans g ctx pos o st'

/-- **one level of `run` keeps the reuse invariant on the monotone operators**; the other operators of the family
    are the caller's (`hleaf`) -/
theorem runStep_cover {cfg : Cfg} (M : Cover cfg) {r : RunFn} (hr : M.Run r) (fuel : Nat)
    (hleaf : ∀ g ctx pos st o st', M.Sg g → M.Sc ctx pos → M.Inv st → (M.leaf g ∨ g.isMono = false) →
      runStep cfg r fuel g ctx pos st = some (o, st') → M.Ans g ctx pos o st') :
    M.Run (runStep cfg r fuel) := by
  intro g ctx pos st o st' hg hc hI h
  by_cases hlf : M.leaf g
  · exact hleaf g ctx pos st o st' hg hc hI (.inl hlf) h
  cases hm : g.isMono with
  | false => exact hleaf g ctx pos st o st' hg hc hI (.inr hm) h
  | true =>
  have hkids := M.sg_kids hg hlf hm
  have hq : ∀ {x}, StepQ cfg M.Q M.QS g pos x → M.Q g pos x := fun hx => M.q_step hg hlf hc hx
  suffices ∀ x, runStep cfg r fuel g ctx pos st = some x → M.Ans g ctx pos x.1 x.2 from this _ h
  clear h o st'
  intro x h
  cases g with
  | term t =>
    cases h
    refine ⟨?_, fun x hx => hq (.term (mem_termStep.mp hx)), M.x_term, M.inv_frame hI (termStep_cache ..)⟩
    intro c' x _ hd
    cases M.d_inv hlf hm hd with
    | term hp => exact mem_termStep.mpr hp
  | empty =>
    cases h
    refine ⟨?_, fun x hx => by cases List.mem_singleton.mp hx; exact hq .empty, M.x_one, hI⟩
    intro c' x _ hd
    cases M.d_inv hlf hm hd with
    | empty => exact List.mem_singleton_self _
  | ref k =>
    rcases runStep_ref_some h with ⟨g', hk, h'⟩ | ⟨hk, rfl⟩
    · obtain ⟨h1, h2, hx, h3⟩ := hr g' ctx pos st x.1 x.2 (M.sg_ref hg hlf hk) hc hI h'
      refine ⟨Covers.imp h1 ?_, fun x hx => hq (.ref hk (h2 x hx)), M.x_ref hk hx, h3⟩
      intro c' x hd
      cases M.d_inv hlf hm hd with
      | ref hk' hd' => rw [hk] at hk'; cases hk'; exact hd'
    · refine ⟨?_, (fun _ hx => by cases hx), M.x_nil, hI⟩
      intro c' x _ hd
      cases M.d_inv hlf hm hd with
      | ref hk' hd' => rw [hk'] at hk; cases hk
  | memo idx body =>
    have hinv : ∀ c' x, M.D c' (.memo idx body) pos x →
        c' idx ≤ remaining cfg.file pos + Facts.curtailSlack ∧ M.D (bump c' idx) body pos x := by
      intro c' x hd
      cases M.d_inv hlf hm hd with
      | memo h1 h2 => exact ⟨h1, h2⟩
    rcases memoStep_some (show memoStep cfg r idx body ctx pos st = some x from h) with
      ⟨e, hcg, rfl⟩ | ⟨_, hcur, rfl⟩ | ⟨_, _, o, st2, hrun, rfl⟩
    · obtain ⟨e1, e2, e3, e4⟩ := M.inv_hit hI hg hlf hcg
      exact ⟨Covers.hit hcg e1 e2, e3, e4, M.inv_frame hI (logEv_fields st cfg _).1⟩
    · exact ⟨Covers.curtail hcur (fun c' x hd => (hinv c' x hd).1), (fun _ hx => by cases hx), M.x_nil,
        M.inv_frame hI (logEv_fields st cfg _).1⟩
    · obtain ⟨h1, h2, hx, h3⟩ := hr _ _ _ _ _ _ (hkids body (.head _)) (M.sc_inc hc hg hlf)
        (M.inv_frame hI (memoEnter_cache ..)) hrun
      have hOut : Covers (fun c x => M.D c (.memo idx body) pos x) ctx o.cp o.res.alts :=
        Covers.bump (D' := fun c x => M.D c body pos x) h1 (fun c' x hd => (hinv c' x hd).2)
      have hQ : ∀ x ∈ o.res.alts, M.Q (.memo idx body) pos x := fun x hx => hq (.memo (h2 x hx))
      exact ⟨hOut, hQ, M.x_memo hx, M.inv_save h3 hg hlf hc (Covers.save hOut) hQ (M.x_memo hx)⟩
  | any gs =>
    obtain ⟨a, st1, hl, rfl⟩ := runStep_any_some h
    obtain ⟨a1, a2, _, _, a5⟩ := anyLoop_complete M.Inv (M.Q (.any gs) pos) (fun g c' x => M.D c' g pos x) gs
      {} st a st1 hl
      (fun g hg' st o st1 hC hrun =>
        have ⟨x, y, _, z⟩ := hr g ctx pos st.regCall o st1 (hkids g hg') hc (M.inv_frame hC rfl) hrun
        ⟨z, fun n hn => hq (.any hg' (y n hn)), x⟩)
      hI ((fun _ hx => by cases hx))
    obtain ⟨f1, f2, f3⟩ := anyFinish_fields a st1
    refine ⟨?_, fun x hx => a2 x (f1 ▸ hx), M.x_any, M.inv_frame a1 f3⟩
    intro c' x hdom hd
    rw [f1]
    rw [f2] at hdom
    cases M.d_inv hlf hm hd with
    | any hmem hd' => exact a5 _ hmem c' x hdom hd'
  | optional g' =>
    obtain ⟨o1, st1, hrun, rfl⟩ := runStep_wrap_some (w := ⟨g', pos, _⟩) rfl h
    obtain ⟨h1, h2, _, h3⟩ := hr g' ctx pos st o1 _ (hkids g' (.head _)) hc hI hrun
    refine ⟨?_, ?_, M.x_opt, h3⟩
    · intro c' x hdom hd
      cases M.d_inv hlf hm hd with
      | optSome hd' => exact mem_appendNode_left _ _ _ (h1 c' x hdom hd')
      | optNone => exact mem_appendNode_right _ _ _ (List.mem_singleton_self _)
    · intro x hx
      cases mem_appendNode _ _ _ hx with
      | inl hx1 => exact hq (.optSome (h2 x hx1))
      | inr hx1 => cases List.mem_singleton.mp hx1; exact hq .optNone
  | seq k gs so =>
    cases k with
    | seqOf =>
      obtain ⟨sh, hsh⟩ : ∃ sh, (G.seq .seqOf gs so).shape = some sh := ⟨_, rfl⟩
      obtain ⟨b, ss, st1, hsp, rfl⟩ := runStep_seq_some hsh h
      obtain ⟨hal, hcp⟩ := seqFinish_alts sh pos ss st1
      have hca := (seqFinish_res sh pos ss st1).2
      obtain ⟨s1, s2⟩ := seqOf_shape hsh
      obtain ⟨_, c2, c3, c4⟩ := seqParse_complete (pos0 := pos) M.Inv
        (fun fr => M.Sc fr.ctx fr.pos ∧ M.QS sh pos fr.nodes) (M.Q (.seq .seqOf gs so) pos)
        (fun g pos c x => M.D c g pos x) (fun c d pos nodes => M.DS c sh d pos nodes) M.ds_inv
        (by
          intro fr g st o st1 hfr ⟨q1, q2⟩ hC hl hrun
          obtain ⟨hO, hN, _, hC1⟩ := hr g fr.ctx fr.pos st.regCall o st1 (hkids g (G.shape_kids hsh hl)) q1
            (M.inv_frame hC rfl) hrun
          refine ⟨hC1, hO, fun n hn => ⟨M.q_tok (hN n hn), ?_, ?_⟩⟩
          · have := M.sc_next q1 (hN n hn)
            simp only [Frame.next]
            split
            · exact this.2
            · exact this.1
          · exact M.qs_snoc q2 (hfr.depth ▸ hl) (hfr.pos ▸ hN n hn))
        (fun fr hfr hF hlcd => hq (.seqOf hsh hF.2 hfr.noEOF (hfr.depth ▸ hlcd)))
        s1 fuel ⟨0, [], ctx, pos, true⟩ {} st b ss st1 (Frame.OK.init ctx pos) ⟨hc, M.qs_nil hc⟩ hI hsp
      have hQ := c3.2.2 ((fun _ hx => by cases hx))
      refine ⟨?_, fun x hx => hQ x (hal ▸ hx), M.x_seq, M.inv_frame c2 hca⟩
      intro c' x hdom hd
      rw [hal]
      cases M.d_inv hlf hm hd with
      | seqOf hs' hds hlen =>
        cases hsh.symm.trans hs'
        have := c4 c' _ (fun _ k hk => hdom k (by rw [hcp]; exact hk)) hds (by simpa using hlen)
        simpa using this
    | _ => cases hm
  | _ => cases hm

/-- the lift to `run`: the family proves its own operators for the runner `run cfg fuel` -/
theorem run_cover {cfg : Cfg} (M : Cover cfg)
    (hleaf : ∀ fuel, M.Run (run cfg fuel) → ∀ g ctx pos st o st', M.Sg g → M.Sc ctx pos → M.Inv st →
      (M.leaf g ∨ g.isMono = false) → runStep cfg (run cfg fuel) fuel g ctx pos st = some (o, st') →
      M.Ans g ctx pos o st') :
    ∀ fuel, M.Run (run cfg fuel)
  | 0 => fun _ _ _ _ _ _ _ _ _ h => nomatch h
  | fuel + 1 => fun g ctx pos st o st' hg hc hI h =>
    M.runStep_cover (M.run_cover hleaf fuel) fuel (hleaf fuel (M.run_cover hleaf fuel)) g ctx pos st o st' hg hc hI
      (run_some_step h)

end Cover

end PV
