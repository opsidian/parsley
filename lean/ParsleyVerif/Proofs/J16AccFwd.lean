/-
  C16 — the example grammar FINDS the tree of every document of its language: `AccDoc` (Spec/J16AccLang.lean), the
  exact accepted syntax — hex / octal / `+` integers, floats without integer part, Go's string escapes, raw control
  characters, form feeds.  The supported subset of the full value theorem is a part of it (Proofs/J16Doc.lean).

    `value_ok`   by structural recursion on the document: the `value` rule started at the first byte of `d.render`
                 (followed by a delimiter) answers exactly `d.tree pos` — for every left-recursion context, every
                 state, all sufficiently large fuel;
    `items_ok`   after an array element, SepBy's chain continues through `, value` for every further item and stops
                 (the separator fails) where the closer stands; `mems_ok`: the same for the members of an object;
    `root_ok`    `Sentence(Trim(value))` on the document between whitespace;
    `jval_tree`  the tree denotes the document's value.

  The leaves go through the byte specifications of Proofs/J16AccNum.lean, J16AccStr.lean.
-/
import ParsleyVerif.Proofs.J16Value
import ParsleyVerif.Props.C05
namespace PV.J16Acc
open PV PV.Text PV.J16

theorem wsNlF_nil : WsNlF [] := by intro b hb; cases hb

theorem wsNlF_isWs {w : Bytes} (h : WsNlF w) : ∀ b ∈ w, isWs b = true := by
  intro b hb
  rcases h b hb with rfl | rfl | rfl | rfl <;> decide

theorem wsNl_wsNlF {w : Bytes} (h : WsNl w) : WsNlF w := fun b hb => by
  rcases h b hb with h | h | h
  · exact .inl h
  · exact .inr (.inl h)
  · exact .inr (.inr (.inl h))

theorem wsSp_wsNlF {w : Bytes} (h : WsSp w) : WsNlF w := fun b hb => by
  rcases h b hb with h | h
  · exact .inl h
  · exact .inr (.inl h)

theorem adelim_ws {w : Bytes} (h : WsNlF w) : ADelim w := by
  cases w with
  | nil => exact adelim_nil
  | cons b r => exact adelim_cons (.inl (wsNlF_isWs h b (by simp)))

theorem adelim_ws_then (w : Bytes) (c : Nat) (l : Bytes) (hw : WsNlF w) (hc : c = 44 ∨ c = 93 ∨ c = 125) :
    ADelim (w ++ c :: l) := by
  cases w with
  | nil => exact adelim_cons (.inr hc)
  | cons b r => exact adelim_cons (.inl (wsNlF_isWs hw b (by simp)))

theorem tree_pos : ∀ (d : AccDoc) (p : Nat), (d.tree p).pos = p
  | .lit _, _ => rfl
  | .arr .nil _, _ => rfl
  | .arr (.cons _ _ _ _) _, _ => rfl
  | .obj .nil _, _ => rfl
  | .obj (.cons _ _ _ _ _ _ _ _) _, _ => rfl

theorem tree_rpos : ∀ (d : AccDoc) (p : Nat), (d.tree p).rpos = p + d.render.length
  | .lit _, _ => rfl
  | .arr .nil close, p => by
    simp only [AccDoc.tree, AccDoc.render, Node.rpos, List.length_cons, List.length_append, List.length_nil]; omega
  | .arr (.cons _ wb d r) close, p => by
    simp only [AccDoc.tree, AccDoc.render, Node.rpos, List.length_cons, List.length_append, List.length_nil]; omega
  | .obj .nil close, p => by
    simp only [AccDoc.tree, AccDoc.render, Node.rpos, List.length_cons, List.length_append, List.length_nil]; omega
  | .obj (.cons _ wb k kv wk wv d r) close, p => by
    simp only [AccDoc.tree, AccDoc.render, Node.rpos, List.length_cons, List.length_append, List.length_nil]; omega

theorem tree_isTN : ∀ (d : AccDoc) (p : Nat), IsTN (d.tree p)
  | .lit _, _ => trivial
  | .arr .nil _, _ => trivial
  | .arr (.cons _ _ _ _) _, _ => trivial
  | .obj .nil _, _ => trivial
  | .obj (.cons _ _ _ _ _ _ _ _) _, _ => trivial

theorem items_last : ∀ (r : AccItems) (n : Node) (e : Nat), n.rpos = e →
    lastRpos n (r.moreNodes e) = e + r.renderMore.length
  | .nil, n, e, h => by simp [AccItems.moreNodes, AccItems.renderMore, lastRpos_nil, h]
  | .cons wc wb d r, n, e, _ => by
    simp only [AccItems.moreNodes, AccItems.renderMore, lastRpos_cons]
    rw [items_last r _ _ (tree_rpos d _)]
    simp only [List.length_append, List.length_cons]; omega

theorem items_even : ∀ (r : AccItems) (p : Nat), (r.moreNodes p).length % 2 = 0
  | .nil, _ => rfl
  | .cons wc wb d r, p => by
    simp only [AccItems.moreNodes, List.length_cons]
    rw [Nat.add_assoc, Nat.add_mod_right]
    exact items_even r _

theorem accKvNode_rpos (klen : Nat) (kv wk wv : Bytes) (vlen : Nat) (vt : Nat → Node) (p : Nat) :
    (accKvNode klen kv wk wv vlen vt p).rpos = p + klen + wk.length + 1 + wv.length + vlen := rfl

theorem mems_last : ∀ (r : AccMems) (n : Node) (e : Nat), n.rpos = e →
    lastRpos n (r.moreNodes e) = e + r.renderMore.length
  | .nil, n, e, h => by simp [AccMems.moreNodes, AccMems.renderMore, lastRpos_nil, h]
  | .cons wc wb k kv wk wv d r, n, e, _ => by
    simp only [AccMems.moreNodes, AccMems.renderMore, lastRpos_cons]
    rw [mems_last r _ _ (accKvNode_rpos _ _ _ _ _ _ _)]
    simp only [List.length_append, List.length_cons]; omega

theorem mems_even : ∀ (r : AccMems) (p : Nat), (r.moreNodes p).length % 2 = 0
  | .nil, _ => rfl
  | .cons wc wb k kv wk wv d r, p => by
    simp only [AccMems.moreNodes, List.length_cons]
    rw [Nat.add_assoc, Nat.add_mod_right]
    exact mems_even r _

theorem lit_head (P : Params) (a : AccLit) (ha : a.OK P) : ∃ c t, a.lex = c :: t ∧ isWs c = false ∧
    (c = 110 ∨ c = 116 ∨ c = 102 ∨ c = 34 ∨ c = 45 ∨ c = 43 ∨ c = 46 ∨ (48 ≤ c ∧ c ≤ 57)) := by
  cases a with
  | null => exact ⟨110, _, rfl, by decide, .inl rfl⟩
  | bool b => cases b
              · exact ⟨102, _, rfl, by decide, .inr (.inr (.inl rfl))⟩
              · exact ⟨116, _, rfl, by decide, .inr (.inl rfl)⟩
  | int l =>
    obtain ⟨c, t, hct, hc⟩ := isInt_head ha.1
    exact ⟨c, t, hct, (isWs_eq_false_iff c).mpr (by omega), .inr (.inr (.inr (.inr (hc.imp_right fun h => h.imp_right .inr))))⟩
  | flt l =>
    obtain ⟨c, t, hct, hc⟩ := isFloat_head ha.1
    exact ⟨c, t, hct, (isWs_eq_false_iff c).mpr (by omega), .inr (.inr (.inr (.inr hc)))⟩
  | str b v => exact ⟨34, _, rfl, by decide, .inr (.inr (.inr (.inl rfl)))⟩

/-- the first byte of a document of the language -/
def Starter (c : Nat) : Prop :=
  c = 91 ∨ c = 123 ∨ c = 110 ∨ c = 116 ∨ c = 102 ∨ c = 34 ∨ c = 45 ∨ c = 43 ∨ c = 46 ∨ (48 ≤ c ∧ c ≤ 57)

theorem render_head (P : Params) : ∀ (d : AccDoc), d.OK P → ∃ c t, d.render = c :: t ∧ isWs c = false ∧ Starter c
  | .lit a, hd => by
    obtain ⟨c, t, h1, h2, h3⟩ := lit_head P a hd
    exact ⟨c, t, h1, h2, .inr (.inr h3)⟩
  | .arr .nil _, _ => ⟨91, _, rfl, by decide, .inl rfl⟩
  | .arr (.cons _ _ _ _) _, _ => ⟨91, _, rfl, by decide, .inl rfl⟩
  | .obj .nil _, _ => ⟨123, _, rfl, by decide, .inr (.inl rfl)⟩
  | .obj (.cons _ _ _ _ _ _ _ _) _, _ => ⟨123, _, rfl, by decide, .inr (.inl rfl)⟩

theorem render_stop (P : Params) (d : AccDoc) (hd : d.OK P) (T : Bytes) : Stop (d.render ++ T) := by
  obtain ⟨c, t, hct, hc, _⟩ := render_head P d hd
  rw [hct, List.cons_append]; exact stop_cons c _ hc

theorem strLex_stop (k : Bytes) (T : Bytes) : Stop (strLex k ++ T) := by
  simp only [strLex, List.cons_append]; exact stop_cons 34 _ (by decide)

theorem adelim_items (P : Params) (r : AccItems) (hr : r.OK P) (close : Bytes) (hc : WsNlF close) (tail : Bytes) :
    ADelim (r.renderMore ++ (close ++ 93 :: tail)) := by
  cases r with
  | nil => exact adelim_ws_then close 93 tail hc (by omega)
  | cons wc wb d r =>
    simp only [AccItems.renderMore, List.append_assoc, List.cons_append]
    exact adelim_ws_then wc 44 _ (wsSp_wsNlF (by simp only [AccItems.OK] at hr; exact hr.1)) (by omega)

theorem adelim_mems (P : Params) (r : AccMems) (hr : r.OK P) (close : Bytes) (hc : WsNlF close) (tail : Bytes) :
    ADelim (r.renderMore ++ (close ++ 125 :: tail)) := by
  cases r with
  | nil => exact adelim_ws_then close 125 tail hc (by omega)
  | cons wc wb k kv wk wv d r =>
    simp only [AccMems.renderMore, List.append_assoc, List.cons_append]
    exact adelim_ws_then wc 44 _ (wsSp_wsNlF (by simp only [AccMems.OK] at hr; exact hr.1)) (by omega)

theorem spec_null (P : Params) (tail : Bytes) (pos : Nat) (ht : ADelim tail) :
    Terminal.spec P ([110, 117, 108, 108] ++ tail) pos (.nil [110, 117, 108, 108]) =
      .node (.term nilTok .nil pos (pos + 4)) := by
  simp only [Terminal.spec, wordAt_adelim _ tail ht, if_true, tok_nil]; rfl

theorem spec_true (P : Params) (tail : Bytes) (pos : Nat) (ht : ADelim tail) :
    Terminal.spec P ([116, 114, 117, 101] ++ tail) pos (.bool [116, 114, 117, 101] [102, 97, 108, 115, 101]) =
      .node (.term boolTok (.bool true) pos (pos + 4)) := by
  simp only [Terminal.spec, wordAt_adelim _ tail ht, if_true, tok_bool]; rfl

theorem spec_false (P : Params) (tail : Bytes) (pos : Nat) (ht : ADelim tail) :
    Terminal.spec P ([102, 97, 108, 115, 101] ++ tail) pos (.bool [116, 114, 117, 101] [102, 97, 108, 115, 101]) =
      .node (.term boolTok (.bool false) pos (pos + 5)) := by
  have h1 : wordAt [116, 114, 117, 101] ([102, 97, 108, 115, 101] ++ tail) = false :=
    wordAt_head_ne _ _ 116 102 _ ([97, 108, 115, 101] ++ tail) rfl rfl (by omega)
  simp only [Terminal.spec, h1, wordAt_adelim _ tail ht, if_true, tok_bool, Bool.false_eq_true, if_false]; rfl

section
variable {cfg : Cfg} (hS : Std cfg)
include hS

theorem succ_strLit {k kv : Bytes} (hk : IsStrBody k kv) {pos : Nat} {tail : Bytes} (hat : At cfg pos (strLex k ++ tail)) :
    Succ cfg (.term (.string false)) pos (.term strTok (.str kv) pos (pos + (strLex k).length)) := by
  apply succ_of_spec hS (t := .string false) True.intro True.intro hat
  simp only [Terminal.spec]
  exact stringSpec_fwd hk tail pos

theorem value_lit (a : AccLit) (ha : a.OK cfg.params) {pos : Nat} {tail : Bytes} (hat : At cfg pos (a.lex ++ tail))
    (ht : ADelim tail) : Succ cfg (.ref 0) pos (.term a.tok a.val pos (pos + a.lex.length)) := by
  cases a with
  | null =>
    exact succ_value hS (pre := Gjson.alts.take 6) rfl (fails_pre hS (c := 110) hat 6 rfl)
      (succ_of_spec hS nil_wf True.intro hat (spec_null cfg.params tail pos ht))
  | bool b =>
    cases b
    · exact succ_value hS (pre := Gjson.alts.take 5) rfl (fails_pre hS (c := 102) hat 5 rfl)
        (succ_of_spec hS bool_wf True.intro hat (spec_false cfg.params tail pos ht))
    · exact succ_value hS (pre := Gjson.alts.take 5) rfl (fails_pre hS (c := 116) hat 5 rfl)
        (succ_of_spec hS bool_wf True.intro hat (spec_true cfg.params tail pos ht))
  | int l =>
    obtain ⟨h1, h2, h3⟩ := ha
    obtain ⟨c, r, hcr, hc⟩ := isInt_head h1
    have hat0 : At cfg pos (l ++ tail) := hat
    have hat' : At cfg pos (c :: (r ++ tail)) := by
      have : l ++ tail = c :: (r ++ tail) := by rw [hcr, List.cons_append]
      exact this ▸ hat0
    refine succ_value hS (pre := [.term (.string false), .term .float]) rfl ?_ ?_
    · intro g' hg'
      simp only [List.mem_cons, List.not_mem_nil, or_false] at hg'
      rcases hg' with rfl | rfl
      · exact fails_string hS hat' (by simp; omega)
      · exact fails_float hS hat0 (floatMatch_int h1 ht)
    · apply succ_of_spec hS (t := .integer) True.intro True.intro hat0
      simp only [Terminal.spec]
      exact integerSpec_fwd h1 ⟨h2, h3⟩ ht pos
  | flt l =>
    obtain ⟨h1, h2⟩ := ha
    obtain ⟨c, r, hcr, hc⟩ := isFloat_head h1
    have hat0 : At cfg pos (l ++ tail) := hat
    have hat' : At cfg pos (c :: (r ++ tail)) := by
      have : l ++ tail = c :: (r ++ tail) := by rw [hcr, List.cons_append]
      exact this ▸ hat0
    refine succ_value hS (pre := [.term (.string false)]) rfl ?_ ?_
    · intro g' hg'
      simp only [List.mem_cons, List.not_mem_nil, or_false] at hg'
      subst hg'
      exact fails_string hS hat' (by simp; omega)
    · apply succ_of_spec hS (t := .float) True.intro True.intro hat0
      simp only [Terminal.spec]
      exact floatSpec_fwd cfg.params h1 h2 ht pos
  | str b v =>
    exact succ_value hS (pre := []) rfl (fun g' hg' => by cases hg') (succ_strLit hS ha hat)

theorem ltrim_nlf_ok {g : G} {p : Nat} {w l : Bytes} {n : Node} (hat : At cfg p (w ++ l)) (hw : WsNlF w) (hl : Stop l)
    (h : Succ cfg g (p + w.length) n) : Succ cfg (.ltrim g .spacesNl) p n :=
  succ_ltrim' hS hat (wsNlF_isWs hw) hl trivial h

theorem comma_fails {c : Nat} (hcw : isWs c = false) (hne : c ≠ 44) {p : Nat} {w l : Bytes} (hat : At cfg p (w ++ c :: l))
    (hw : WsNlF w) : Fails cfg Gjson.comma p :=
  fails_ltrim' hS hat (wsNlF_isWs hw) (stop_cons c l hcw) (fails_rune hS (by omega) hat.adv (by simp; omega))

theorem closer_ok {c : Nat} (hc : c < 0x80) (hcw : isWs c = false) {p : Nat} {w l : Bytes} (hat : At cfg p (w ++ c :: l))
    (hw : WsNlF w) : Succ cfg (.ltrim (Gjson.rn c) .spacesNl) p (runeLeaf c (p + w.length)) :=
  ltrim_nlf_ok hS hat hw (stop_cons c l hcw) (succ_rune hS hc hat.adv)

theorem bracket_ok {o c : Nat} (ho : o < 0x80) (hc : c < 0x80) (hcw : isWs c = false) {body : G} {opts : SeqOpts}
    {pos : Nat} {X close tail : Bytes} {en : Node} (hat : At cfg pos (o :: X)) (hel : Succ cfg body (pos + 1) en)
    (hat2 : At cfg en.rpos (close ++ c :: tail)) (hcl : WsNlF close) :
    Succ cfg (.seq .seqOf [Gjson.rn o, body, .ltrim (Gjson.rn c) .spacesNl] opts) pos
      (.nt (opts.token.getD seqTok) [runeLeaf o pos, en, runeLeaf c (en.rpos + close.length)] pos
        (en.rpos + close.length + 1) opts.interp) :=
  succ_seqOf3 hS.mc (succ_rune hS ho hat) hel (closer_ok hS hc hcw hat2 hcl)

theorem elems_empty {p : Nat} {close tail : Bytes} (hat : At cfg p (close ++ 93 :: tail)) (hc : WsNlF close) :
    Succ cfg Gjson.elems p (.nt sepByTok [] p p .array) := by
  have hf : Fails cfg (.ltrim Gjson.value .spacesNl) p :=
    fails_ltrim' hS hat (wsNlF_isWs hc) (stop_cons 93 tail (by decide)) (fails_value_closer hS hat.adv (.inl rfl))
  exact succ_seqfam hS.mc elems_shape (.stopFail (g := .ltrim Gjson.value .spacesNl) rfl hf) rfl

theorem members_empty {p : Nat} {close tail : Bytes} (hat : At cfg p (close ++ 125 :: tail)) (hc : WsNlF close) :
    Succ cfg Gjson.members p (.nt sepByTok [] p p .object) := by
  have hf : Fails cfg (.ltrim Gjson.keyValue .spacesNl) p :=
    fails_ltrim' hS hat (wsNlF_isWs hc) (stop_cons 125 tail (by decide))
      (fails_seqOf hS.mc (fails_string hS hat.adv (by simp)))
  exact succ_seqfam hS.mc members_shape (.stopFail (g := .ltrim Gjson.keyValue .spacesNl) rfl hf) rfl

theorem kv_ok (k kv : Bytes) (hk : IsStrBody k kv) (wk wv : Bytes) (hwk : WsSp wk) (hwv : WsNlF wv) (d : AccDoc)
    (hd : d.OK cfg.params) {p : Nat} {T : Bytes} (hat : At cfg p (strLex k ++ (wk ++ 58 :: (wv ++ (d.render ++ T)))))
    (hv : Succ cfg (.ref 0) (p + (strLex k).length + wk.length + 1 + wv.length)
      (d.tree (p + (strLex k).length + wk.length + 1 + wv.length))) :
    Succ cfg Gjson.keyValue p (accKvNode (strLex k).length kv wk wv d.render.length d.tree p) := by
  have hat1 := hat.adv
  have hat2 := hat1.adv.adv1
  have hcolon := sep_ok hS (c := 58) (by omega) (by decide) hat1 hwk
  have hval : Succ cfg (.ltrim Gjson.value .spacesNl) (p + (strLex k).length + wk.length + 1)
      (d.tree (p + (strLex k).length + wk.length + 1 + wv.length)) :=
    ltrim_nlf_ok hS hat2 hwv (render_stop cfg.params d hd T) hv
  have := succ_seqOf3 hS.mc (o := {}) (succ_strLit hS hk hat) hcolon hval
  rwa [tree_rpos] at this

end

theorem arr_render_cons (wc wb : Bytes) (d : AccDoc) (r : AccItems) (close tail : Bytes) :
    (AccDoc.arr (.cons wc wb d r) close).render ++ tail =
      91 :: (wb ++ (d.render ++ (r.renderMore ++ (close ++ 93 :: tail)))) := by
  simp [AccDoc.render]

theorem arr_render_nil (close tail : Bytes) : (AccDoc.arr .nil close).render ++ tail = 91 :: (close ++ 93 :: tail) := by
  simp [AccDoc.render]

theorem obj_render_cons (wc wb k kv wk wv : Bytes) (d : AccDoc) (r : AccMems) (close tail : Bytes) :
    (AccDoc.obj (.cons wc wb k kv wk wv d r) close).render ++ tail =
      123 :: (wb ++ (strLex k ++ (wk ++ 58 :: (wv ++ (d.render ++ (r.renderMore ++ (close ++ 125 :: tail))))))) := by
  simp [AccDoc.render]

theorem obj_render_nil (close tail : Bytes) : (AccDoc.obj .nil close).render ++ tail = 123 :: (close ++ 125 :: tail) := by
  simp [AccDoc.render]

theorem items_renderMore_cons (wc wb : Bytes) (d : AccDoc) (r : AccItems) (Z : Bytes) :
    (AccItems.cons wc wb d r).renderMore ++ Z = wc ++ 44 :: (wb ++ (d.render ++ (r.renderMore ++ Z))) := by
  simp [AccItems.renderMore]

theorem mems_renderMore_cons (wc wb k kv wk wv : Bytes) (d : AccDoc) (r : AccMems) (Z : Bytes) :
    (AccMems.cons wc wb k kv wk wv d r).renderMore ++ Z =
      wc ++ 44 :: (wb ++ (strLex k ++ (wk ++ 58 :: (wv ++ (d.render ++ (r.renderMore ++ Z)))))) := by
  simp [AccMems.renderMore]

mutual
theorem value_ok {cfg : Cfg} (hS : Std cfg) : ∀ (d : AccDoc), d.OK cfg.params → ∀ (pos : Nat) (tail : Bytes),
    At cfg pos (d.render ++ tail) → ADelim tail → Succ cfg (.ref 0) pos (d.tree pos)
  | .lit a, hd, _, _, hat, ht => value_lit hS a hd hat ht
  | .arr .nil close, hd, pos, tail, hat, _ => by
    have hc : WsNlF close := by simp only [AccDoc.OK] at hd; exact hd.2
    have hat0 : At cfg pos (91 :: (close ++ 93 :: tail)) := arr_render_nil close tail ▸ hat
    have hel := elems_empty hS hat0.adv1 hc
    have := bracket_ok hS (c := 93) (opts := Gjson.sel1) (by omega) (by omega) (by decide) hat0 hel hat0.adv1 hc
    exact value_of_array hS hat0 this
  | .arr (.cons wc wb d r) close, hd, pos, tail, hat, _ => by
    simp only [AccDoc.OK, AccItems.OK] at hd
    obtain ⟨⟨_, hwb, hdd, hr⟩, hc⟩ := hd
    have hat0 := arr_render_cons wc wb d r close tail ▸ hat
    have hat1 := hat0.adv1
    have hat2 := hat1.adv
    have hat3 := hat2.adv
    have hat4 := hat3.adv
    have hv := value_ok hS d hdd _ _ hat2 (adelim_items cfg.params r hr close hc tail)
    have hfirst := ltrim_nlf_ok hS hat1 hwb (render_stop cfg.params d hdd _) hv
    have hrest := items_ok hS r hr 1 _ close tail rfl hc hat3
    have hch : ShChain cfg elemsShape 0 (pos + 1)
        (d.tree (pos + 1 + wb.length) :: r.moreNodes (pos + 1 + wb.length + d.render.length)) :=
      .step (g := .ltrim Gjson.value .spacesNl) rfl hfirst (by rw [tree_rpos]; exact hrest)
    have hel := elems_of_chain hS hch (items_even r _)
    rw [tree_pos, items_last r _ _ (tree_rpos d _)] at hel
    have := bracket_ok hS (c := 93) (opts := Gjson.sel1) (by omega) (by omega) (by decide) hat0 hel hat4 hc
    rw [AccDoc.tree]
    exact value_of_array hS hat0 this
  | .obj .nil close, hd, pos, tail, hat, _ => by
    have hc : WsNlF close := by simp only [AccDoc.OK] at hd; exact hd.2
    have hat0 : At cfg pos (123 :: (close ++ 125 :: tail)) := obj_render_nil close tail ▸ hat
    have hel := members_empty hS hat0.adv1 hc
    have := bracket_ok hS (c := 125) (opts := Gjson.sel1) (by omega) (by omega) (by decide) hat0 hel hat0.adv1 hc
    exact value_of_object hS hat0 this
  | .obj (.cons wc wb k kv wk wv d r) close, hd, pos, tail, hat, _ => by
    simp only [AccDoc.OK, AccMems.OK] at hd
    obtain ⟨⟨_, hwb, hk, hwk, hwv, hdd, hr⟩, hc⟩ := hd
    have hat0 := obj_render_cons wc wb k kv wk wv d r close tail ▸ hat
    have hat1 := hat0.adv1
    have hat2 := hat1.adv
    have hat3 := hat2.adv.adv.adv1.adv
    have hat4 := hat3.adv
    have hat5 := hat4.adv
    have hv := value_ok hS d hdd _ _ hat3 (adelim_mems cfg.params r hr close hc tail)
    have hkv := kv_ok hS k kv hk wk wv hwk hwv d hdd hat2 hv
    have hfirst := ltrim_nlf_ok hS hat1 hwb (strLex_stop k _) hkv
    have hrest := mems_ok hS r hr 1 _ close tail rfl hc hat4
    have hch : ShChain cfg membersShape 0 (pos + 1)
        (accKvNode (strLex k).length kv wk wv d.render.length d.tree (pos + 1 + wb.length) ::
          r.moreNodes (pos + 1 + wb.length + (strLex k).length + wk.length + 1 + wv.length + d.render.length)) :=
      .step (g := .ltrim Gjson.keyValue .spacesNl) rfl hfirst (by rw [accKvNode_rpos]; exact hrest)
    have hel := members_of_chain hS hch (mems_even r _)
    rw [mems_last r _ _ (accKvNode_rpos _ _ _ _ _ _ _)] at hel
    have := bracket_ok hS (c := 125) (opts := Gjson.sel1) (by omega) (by omega) (by decide) hat0 hel hat5 hc
    rw [AccDoc.tree]
    exact value_of_object hS hat0 this

theorem items_ok {cfg : Cfg} (hS : Std cfg) : ∀ (r : AccItems), r.OK cfg.params →
    ∀ (depth pos : Nat) (close tail : Bytes), depth % 2 = 1 → WsNlF close →
    At cfg pos (r.renderMore ++ (close ++ 93 :: tail)) → ShChain cfg elemsShape depth pos (r.moreNodes pos)
  | .nil, _, depth, pos, close, tail, hdep, hc, hat => by
    have hat0 : At cfg pos (close ++ 93 :: tail) := hat
    exact .stopFail (g := Gjson.comma) (lookup_odd elemsShape _ _ rfl depth hdep)
      (comma_fails hS (by decide) (by omega) hat0 hc)
  | .cons wc wb d r, hr, depth, pos, close, tail, hdep, hc, hat => by
    simp only [AccItems.OK] at hr
    obtain ⟨hwc, hwb, hdd, hr'⟩ := hr
    have hat0 := items_renderMore_cons wc wb d r (close ++ 93 :: tail) ▸ hat
    have hat1 := hat0.adv.adv1
    have hat2 := hat1.adv
    have hat3 := hat2.adv
    have hcomma := sep_ok hS (c := 44) (by omega) (by decide) hat0 hwc
    have hv := value_ok hS d hdd _ _ hat2 (adelim_items cfg.params r hr' close hc tail)
    have hval := ltrim_nlf_ok hS hat1 hwb (render_stop cfg.params d hdd _) hv
    have hrest := items_ok hS r hr' (depth + 1 + 1) _ close tail (odd_succ_succ hdep) hc hat3
    rw [AccItems.moreNodes]
    exact .step (g := Gjson.comma) (lookup_odd elemsShape _ _ rfl depth hdep) hcomma
      (.step (g := .ltrim Gjson.value .spacesNl) (lookup_even elemsShape _ _ rfl (depth + 1) (even_succ hdep)) hval
        (by rw [tree_rpos]; exact hrest))

theorem mems_ok {cfg : Cfg} (hS : Std cfg) : ∀ (r : AccMems), r.OK cfg.params →
    ∀ (depth pos : Nat) (close tail : Bytes), depth % 2 = 1 → WsNlF close →
    At cfg pos (r.renderMore ++ (close ++ 125 :: tail)) → ShChain cfg membersShape depth pos (r.moreNodes pos)
  | .nil, _, depth, pos, close, tail, hdep, hc, hat => by
    have hat0 : At cfg pos (close ++ 125 :: tail) := hat
    exact .stopFail (g := Gjson.comma) (lookup_odd membersShape _ _ rfl depth hdep)
      (comma_fails hS (by decide) (by omega) hat0 hc)
  | .cons wc wb k kv wk wv d r, hr, depth, pos, close, tail, hdep, hc, hat => by
    simp only [AccMems.OK] at hr
    obtain ⟨hwc, hwb, hk, hwk, hwv, hdd, hr'⟩ := hr
    have hat0 := mems_renderMore_cons wc wb k kv wk wv d r (close ++ 125 :: tail) ▸ hat
    have hat1 := hat0.adv.adv1
    have hat2 := hat1.adv
    have hat3 := hat2.adv.adv.adv1.adv
    have hat4 := hat3.adv
    have hcomma := sep_ok hS (c := 44) (by omega) (by decide) hat0 hwc
    have hv := value_ok hS d hdd _ _ hat3 (adelim_mems cfg.params r hr' close hc tail)
    have hkv := kv_ok hS k kv hk wk wv hwk hwv d hdd hat2 hv
    have hval := ltrim_nlf_ok hS hat1 hwb (strLex_stop k _) hkv
    have hrest := mems_ok hS r hr' (depth + 1 + 1) _ close tail (odd_succ_succ hdep) hc hat4
    rw [AccMems.moreNodes]
    exact .step (g := Gjson.comma) (lookup_odd membersShape _ _ rfl depth hdep) hcomma
      (.step (g := .ltrim Gjson.keyValue .spacesNl) (lookup_even membersShape _ _ rfl (depth + 1) (even_succ hdep)) hval
        (by rw [accKvNode_rpos]; exact hrest))
end

/-- the tree under the Sentence node: the document's tree, its end moved past the trailing whitespace (RightTrim) -/
def rootTree (off : Nat) (lead : Bytes) (d : AccDoc) (trail : Bytes) : Node :=
  bump trail.length (d.tree (off + lead.length))

theorem root_ok {cfg : Cfg} (hS : Std cfg) (lead : Bytes) (d : AccDoc) (trail : Bytes) (hd : d.OK cfg.params)
    (hlead : WsNlF lead) (htrail : WsNlF trail) (hdata : cfg.file.data = renderAcc lead d trail) :
    Succ cfg Gjson.root (cfg.file.pos 0) (sentenceNode (rootTree cfg.file.offset lead d trail)) := by
  have hpos : cfg.file.pos 0 = cfg.file.offset := by simp [File.pos]
  rw [hpos]
  have hat0 : At cfg cfg.file.offset (lead ++ (d.render ++ trail)) := by
    refine ⟨⟨Nat.le_refl _, by omega⟩, ?_⟩
    simp [rest, hdata, renderAcc]
  have hat1 := hat0.adv
  have hat2 := hat1.adv
  have hat3 : At cfg (cfg.file.offset + lead.length + d.render.length + trail.length) [] :=
    At.adv (b := []) (by rw [List.append_nil]; exact hat2)
  have hv := value_ok hS d hd _ _ hat1 (adelim_ws htrail)
  have hl := ltrim_nlf_ok hS hat0 hlead (render_stop cfg.params d hd _) hv
  have hin : InFile cfg.file (d.tree (cfg.file.offset + lead.length)).rpos := by rw [tree_rpos]; exact hat2.1
  have hr := succ_rtrim_nl hS.mc hS.off (tree_isTN d _) hin hl
  have hws : wsRun (rest cfg.file (d.tree (cfg.file.offset + lead.length)).rpos) = trail.length := by
    rw [tree_rpos, hat2.2]; exact wsRun_all trail (wsNlF_isWs htrail)
  rw [hws] at hr
  have hrp : (rootTree cfg.file.offset lead d trail).rpos =
      cfg.file.offset + lead.length + d.render.length + trail.length := by
    unfold rootTree; rw [bump_rpos _ _ (tree_isTN d _), tree_rpos]
  have heof : isEOF cfg.file (rootTree cfg.file.offset lead d trail).rpos = true := by
    rw [hrp]; exact (isEOF_spec _ _ hat3.1).2 hat3.2
  have hch : ShChain cfg (sentenceShape (.rtrim (.ltrim (.ref 0) .spacesNl) .spacesNl)) 0 cfg.file.offset
      [rootTree cfg.file.offset lead d trail, .eof (rootTree cfg.file.offset lead d trail).rpos] :=
    .step (g := .rtrim (.ltrim (.ref 0) .spacesNl) .spacesNl) rfl hr
      (.step (g := .eof) rfl (succ_eof hS.mc heof) (.stopNone rfl))
  exact succ_seqfam hS.mc (sentence_shape _) hch rfl

theorem jvalOf_bump (k : Nat) (n : Node) : jvalOf (bump k n) = jvalOf n := by
  cases n with
  | term t v p r => cases v <;> rfl
  | nt t c p r i => simp only [bump, jvalOf]
  | empty p => rfl
  | eof p => rfl

theorem jkvOf_kv (tk tok k : Bytes) (kp kr : Nat) (colon v : Node) (p q : Nat) (i : Interp) {j : JVal}
    (h : jvalOf v = some j) : jkvOf (.nt tk [.term tok (.str k) kp kr, colon, v] p q i) = some (k, j) := by
  simp only [jkvOf, jvalOfList, h]

theorem jval_lit (a : AccLit) (p r : Nat) : jvalOf (.term a.tok a.val p r) = some a.jval := by
  cases a <;> rfl

mutual
theorem jval_tree : ∀ (d : AccDoc) (p : Nat), jvalOf (d.tree p) = some d.val
  | .lit a, p => jval_lit a _ _
  | .arr .nil _, _ => rfl
  | .arr (.cons wc wb d r) close, p => by
    simp only [AccDoc.tree, jvalOf, jvalOfList, AccDoc.val, AccItems.vals]
    rw [jval_tree d, jval_items r _ d.val]
    rfl
  | .obj .nil _, _ => rfl
  | .obj (.cons wc wb k kv wk wv d r) close, p => by
    simp only [AccDoc.tree, jvalOf, jvalOfList, AccDoc.val, AccMems.vals, jkvOfList, accKvNode]
    rw [jkvOf_kv _ _ _ _ _ _ _ _ _ _ (jval_tree d _), jkv_mems r _ (kv, d.val)]
    rfl
theorem jval_items : ∀ (r : AccItems) (e : Nat) (v : JVal),
    allSome (everySecond (some v :: jvalOfList (r.moreNodes e))) = some (v :: r.vals)
  | .nil, _, _ => rfl
  | .cons wc wb d r, e, v => by
    simp only [AccItems.moreNodes, jvalOfList, everySecond, allSome, AccItems.vals]
    rw [jval_tree d, jval_items r _ d.val]
    rfl
theorem jkv_mems : ∀ (r : AccMems) (e : Nat) (kvj : Bytes × JVal),
    allSome (everySecond (some kvj :: jkvOfList (r.moreNodes e))) = some (kvj :: r.vals)
  | .nil, _, _ => rfl
  | .cons wc wb k kv wk wv d r, e, kvj => by
    simp only [AccMems.moreNodes, jkvOfList, everySecond, allSome, AccMems.vals, accKvNode]
    rw [jkvOf_kv _ _ _ _ _ _ _ _ _ _ (jval_tree d _), jkv_mems r _ (kv, d.val)]
    rfl
end

theorem jkv_node (klen : Nat) (kv wk wv : Bytes) : ∀ (d : AccDoc) (p : Nat),
    jkvOf (accKvNode klen kv wk wv d.render.length d.tree p) = some (kv, d.val) :=
  fun d _ => jkvOf_kv _ _ _ _ _ _ _ _ _ _ (jval_tree d _)

theorem jval_rootTree (off : Nat) (lead : Bytes) (d : AccDoc) (trail : Bytes) :
    jvalOf (rootTree off lead d trail) = some d.val := by
  unfold rootTree; rw [jvalOf_bump, jval_tree]

end PV.J16Acc
