/-
  C17, family 2 of the harness:
      expr → expr + term | term ;  term → term * factor | factor ;  factor → 1 | ( expr )
  — the operator grammar with one operator per level, `A = [+]`, `M = [*]` (CallsArith.lean … CallsArithDouble.lean).
  Its counts written out (`split`, `tcLevels`, `arCount`) are those of the general development at these operators (`split_eq`,
  `tcLevels_eq`, `arCount_eq`); `TN`, `TCache`, `tCache`, `pCache` spell out the alternatives and the cache after each step
  and are used by no proof of the counts.  Every operator string over {*, +} is parsed with exactly
  `arCalls ops` calls (`ar_ops_parse`: with one operator per level the first alternative of `expr` spans the input),
  at least (36k² + 85k + 51)/8 of them, so that an input with at most 2k+1 operators costs at most 16 times the calls of
  any input with k operators (`ar_double`).
-/
import ParsleyVerif.Proofs.CallsArithDouble
namespace PV.C17b
open PV.Text PV.C17

def arTS : G := seqOfT [.ref 1, runeT 42, .ref 2]
def arTBody : G := .any [arTS, .ref 2]
def arT : G := .memo 1 arTBody
def arES : G := seqOfT [.ref 0, runeT 43, .ref 1]
def arEBody : G := .any [arES, .ref 1]
def arE : G := .memo 0 arEBody

theorem arithEnv_eq : arithEnv = [arE, arT, arF] := rfl

/-- what the proofs use of the input: length 2k+1, no `(`, `1` at the odd positions, `*` and `+` only at even
    positions (so that a `1` follows) -/
structure IsAr (k : Nat) (cfg : Cfg) : Prop where
  env : cfg.env = arithEnv
  off : cfg.file.offset = 1
  max : cfg.maxCalls = 0
  len : cfg.file.data.length = 2 * k + 1
  noParen : ∀ p, fol cfg.file.data 40 p = false
  one : ∀ p, p % 2 = 1 → p ≤ 2 * k + 1 → fol cfg.file.data 49 p = true
  star : ∀ p, fol cfg.file.data 42 p = true → p % 2 = 0 ∧ p ≤ 2 * k
  plus : ∀ p, fol cfg.file.data 43 p = true → p % 2 = 0 ∧ p ≤ 2 * k

variable {k : Nat} {cfg : Cfg}

def arTSh : SeqShape :=
  { lookup := fun i => [G.ref 1, runeT 42, G.ref 2][i]?, lenCheck := fun len => len == 3, token := seqTok,
    interp := .none, single := false, name := none }

/-- the node of `T * F` from the node `x` of `T` -/
def starExt (x : Node) : Node :=
  handleResult arTSh (x.rpos + 2) [x, runeNode 42 x.rpos, runeNode 49 (x.rpos + 1)]

def isStar (data : Bytes) (x : Node) : Bool := fol data 42 x.rpos

/-- the alternatives of `T` at `q`, `j` levels above the curtailed activation -/
def TN (data : Bytes) (q : Nat) : Nat → List Node
  | 0 => []
  | j + 1 => ((TN data q j).filter (isStar data)).map starExt ++ [runeNode 49 q]

/-- the cache entry that level `j` of the spine of `T` at `q` leaves behind (`t`: the count it was entered with) -/
def TEntry (data : Bytes) (q j t : Nat) : CacheEntry :=
  { idx := 1, pos := q, ctx := cT [] t, cp := [1], err := none, res := resOf (TN data q j) }

/-- the cache after level `j` (entered with count `D - j`) returned -/
def TCache (data : Bytes) (q D : Nat) (K : List CacheEntry) : Nat → List CacheEntry
  | 0 => K
  | j + 1 => cacheSave (TCache data q D K j) (TEntry data q (j + 1) (D - (j + 1)))

theorem look_TCache (data : Bytes) (q D : Nat) (K : List CacheEntry) (j i p : Nat) :
    look (TCache data q D K j) i p = if 1 ≤ j ∧ i = 1 ∧ p = q then some (TEntry data q j (D - j)) else look K i p := by
  induction j with
  | zero => simp [TCache]
  | succ j ih =>
    rw [TCache, look_cacheSave, ih]
    by_cases h : i = 1 ∧ p = q
    · obtain ⟨rfl, rfl⟩ := h
      simp [TEntry]
    · have h1 : ¬ ((TEntry data q (j + 1) (D - (j + 1))).idx = i ∧ (TEntry data q (j + 1) (D - (j + 1))).pos = p) := by
        intro x; exact h ⟨x.1.symm, x.2.symm⟩
      rw [if_neg h1, if_neg (fun x => h x.2), if_neg (fun x => h x.2)]

/-- the alternatives and the cache of a whole first run of `T` at `q` -/
def TNf (data : Bytes) (k q : Nat) : List Node := TN data q (2 * k + 4 - q)
def TKf (data : Bytes) (k q : Nat) (K : List CacheEntry) : List CacheEntry :=
  TCache data q (2 * k + 4 - q) K (2 * k + 4 - q)

/-- every entry of `T` in the cache is the result of a whole first run -/
def TInv (data : Bytes) (k : Nat) (K : List CacheEntry) : Prop :=
  ∀ q e, look K 1 q = some e → e = TEnt q [] (TNf data k q)

/-- the cache after a call of `T` at `q`: a look-up, or the first run -/
def tCache (data : Bytes) (k : Nat) (K : List CacheEntry) (q : Nat) : List CacheEntry :=
  match look K 1 q with
  | some _ => K
  | none => TKf data k q K

theorem look_tCache_other (data : Bytes) (k : Nat) (K : List CacheEntry) (q i p : Nat) (h : ¬ (i = 1 ∧ p = q)) :
    look (tCache data k K q) i p = look K i p := by
  unfold tCache
  cases look K 1 q with
  | some e => rfl
  | none => exact (look_TCache data q _ K _ i p).trans (if_neg fun x => h x.2)

theorem look_tCache_self (data : Bytes) (k : Nat) (K : List CacheEntry) (q : Nat) (hq : q ≤ 2 * k + 1)
    (h : TInv data k K) : look (tCache data k K q) 1 q = some (TEnt q [] (TNf data k q)) := by
  unfold tCache
  cases hl : look K 1 q with
  | some e => rw [hl, h q e hl]
  | none =>
    show look (TKf data k q K) 1 q = _
    rw [TKf, look_TCache, if_pos ⟨by omega, rfl, rfl⟩, Nat.sub_self]
    rfl

def isPlus (data : Bytes) (x : Node) : Bool := fol data 43 x.rpos

/-- the cache after the loop of `E + T` over the alternatives `l` of the inner `E` -/
def pCache (data : Bytes) (k : Nat) : List CacheEntry → List Node → List CacheEntry
  | K, [] => K
  | K, x :: l => if isPlus data x then pCache data k (tCache data k K (x.rpos + 1)) l else pCache data k K l

/-- the entries of `T` at position 1 and the entries of `E` are not touched by the loop -/
theorem look_pCache_other (hc : IsAr k cfg) (i p : Nat) (hip : i ≠ 1 ∨ p = 1) : ∀ (l : List Node),
    (∀ x ∈ l, goodNode k 1 x) → ∀ K, look (pCache cfg.file.data k K l) i p = look K i p := by
  intro l
  induction l with
  | nil => intro _ K; rfl
  | cons x l ih =>
    intro hl K
    have ih := ih fun y hy => hl y (List.mem_cons_of_mem _ hy)
    rw [pCache]
    split
    · rw [ih, look_tCache_other]
      intro e
      have := (hl x (List.mem_cons_self ..)).1
      rcases hip with h | h
      · exact h e.1
      · omega
    · exact ih K

def arCfg (ops : List Nat) : Cfg := famCfg arithEnv (arData ops)

theorem opsOK : Lv.OpsOK [43] [42] := ⟨by simp, by simp, by simp, by simp, by simp, by simp⟩

theorem mem_ops {ops : List Nat} (hops : ∀ o ∈ ops, o = 42 ∨ o = 43) : ∀ o ∈ ops, o ∈ [43] ++ [42] := by
  intro o ho
  rcases hops o ho with rfl | rfl <;> simp

theorem arData_isAr (ops : List Nat) (hops : ∀ o ∈ ops, o = 42 ∨ o = 43) : IsAr ops.length (arCfg ops) :=
  have h := Lv.arData_isLv opsOK ops (mem_ops hops)
  ⟨rfl, rfl, rfl, h.len, h.noParen, h.one, (h.op 42 (by simp)).2, (h.op 43 (by simp)).2⟩

/-- the numbers of stars of the terms -/
def split : List Nat → List Nat
  | [] => [0]
  | o :: os => if o = 42 then bump (split os) else 0 :: split os

theorem split_eq : ∀ ops, split ops = Lv.splitK [42] ops := by
  intro ops
  induction ops with
  | nil => rfl
  | cons o os ih => simp only [split, Lv.splitK, ih, List.mem_singleton]

theorem split_ne : ∀ ops, split ops ≠ [] := by
  intro ops
  rw [split_eq]
  exact Lv.splitK_ne [42] ops

/-- the calls of the first `j` levels of the spine of `T` at a term with `r` stars -/
def tcLevels (r : Nat) : Nat → Nat
  | 0 => 0
  | j + 1 => tcLevels r j + 6 + min j (r + 1) + 4 * min (min j (r + 1)) r

theorem tcLevels_eq (r : Nat) : ∀ j, tcLevels r j = Lv.tcLv 1 r j := by
  intro j
  induction j with
  | zero => rfl
  | succ j ih => rw [tcLevels, Lv.tcLv, ih]; omega

/-- the first runs of `T` for the terms 0 … m-1 -/
def firstRunsX (k : Nat) (rf : Nat → Nat) : Nat → Nat
  | 0 => 0
  | m + 1 => tcLevels (rf m) (2 * k + 4 - qf rf m) + firstRunsX k rf m

theorem firstRunsX_eq (k : Nat) (rf : Nat → Nat) : ∀ m, firstRunsX k rf m = Lv.firstRunsK 1 k rf m := by
  intro m
  induction m with
  | zero => rfl
  | succ m ih => rw [firstRunsX, Lv.firstRunsK, ih, tcLevels_eq]

/-- **the call count of the arithmetic family** on the input with `k` operators whose terms 0 … s have `rf i`
    stars: per level of the spine of `E` (2k+3 levels) 3 calls, one per alternative of the level below (the ends of
    its first min(j, s+1) terms) and one `T` per `+` behind them; the first run of `T` for every term; 2 for Sentence -/
def arCount (k s : Nat) (rf : Nat → Nat) : Nat :=
  ((List.range (2 * k + 3)).map (fun j => 3 + pre rf (min j (s + 1)) + min j s)).sum + firstRunsX k rf (s + 1) + 2

theorem arCount_eq (k s : Nat) (rf : Nat → Nat) : arCount k s rf = Lv.arCountK 1 1 k s rf + 2 := by
  have e : (fun j => 3 + pre rf (min j (s + 1)) + min j s) = fun j => 1 + 1 * (2 + pre rf (min j (s + 1))) + min j s := by
    funext j; omega
  rw [arCount, Lv.arCountK, firstRunsX_eq, e]

def arCalls (ops : List Nat) : Nat := arCount ops.length ((split ops).length - 1) (rfOf (split ops))

theorem arCalls_eq (ops : List Nat) :
    arCalls ops = Lv.arCountK 1 1 ops.length ((Lv.splitK [42] ops).length - 1) (rfOf (Lv.splitK [42] ops)) + 2 := by
  rw [arCalls, arCount_eq, split_eq]

/-- **THEOREM (every operator string over {*, +})**: the parse succeeds with exactly `arCalls ops` calls, which is at
    most (2k+3)(9k+11) + 2 -/
theorem ar_ops_parse (ops : List Nat) (hops : ∀ o ∈ ops, o = 42 ∨ o = 43) :
    ∃ p, parse (arCfg ops) (24 * ops.length + 50) (G.sentence (.ref 0)) = some p ∧ p.err = none ∧
      p.res.isNil = false ∧ p.st.calls = arCalls ops ∧
      p.st.calls ≤ (2 * ops.length + 3) * (9 * ops.length + 11) + 2 := by
  obtain ⟨p, h1, h2, h3, _, _, h6⟩ := Lv.lv_ops_parse opsOK ops (mem_ops hops)
  have h4 : p.st.calls = arCalls ops := by
    rw [arCalls_eq]
    exact h6 (Lv.EN_sorted (Lv.arData_isLv opsOK ops (mem_ops hops)) (by omega) _)
  have h5 : Lv.arCountK 1 1 ops.length _ _ ≤ (2 * ops.length + 3) * (9 * ops.length + 11) :=
    Lv.arCountK_le 1 1 (Lv.arData_terms opsOK ops (mem_ops hops))
  refine ⟨p, h1, h2, h3, h4, ?_⟩
  rw [h4, arCalls_eq]
  omega

theorem arCalls_ge (ops : List Nat) (hops : ∀ o ∈ ops, o = 42 ∨ o = 43) :
    36 * (ops.length * ops.length) + 85 * ops.length + 51 ≤ 8 * arCalls ops := by
  have := Lv.arCountK_ge 1 1 ops.length _ _ (Lv.arData_terms opsOK ops (mem_ops hops)).total
  rw [Lv.mul_succ2 ops.length, sq_succ ops.length] at this
  rw [arCalls_eq]
  omega

/-- **doubling, for all inputs**: an input with at most 2k+1 operators (length at most 2n+1, n = 2k+1 the length of
    the other input) costs at most 16 times the calls -/
theorem ar_double (ops ops' : List Nat) (hops : ∀ o ∈ ops, o = 42 ∨ o = 43) (hops' : ∀ o ∈ ops', o = 42 ∨ o = 43)
    (hk : ops'.length ≤ 2 * ops.length + 1) : arCalls ops' ≤ 16 * arCalls ops := by
  have h1 := arCalls_ge ops hops
  obtain ⟨p, _, _, _, h4, h5⟩ := ar_ops_parse ops' hops'
  rw [h4] at h5
  have h6 : (2 * ops'.length + 3) * (9 * ops'.length + 11) ≤ (4 * ops.length + 5) * (18 * ops.length + 20) :=
    Nat.mul_le_mul (by omega) (by omega)
  rw [Lv.lin_mul 4 5 18 20] at h6
  omega

/-- the operator behind a prefix of length `len`: `*` where the length is 2 mod 7, `+` elsewhere -/
def harnessOp (len : Nat) : Nat := if len % 7 == 2 then 42 else 43

/-- the harness's input of every length parameter is `1 o₁ 1 … o_k 1`, k = n/2, with `*` at every seventh place from
    the second and `+` elsewhere -/
theorem arithInput_eq (n : Nat) : arithInput n = arData (Lv.hOps harnessOp (n / 2)) := by
  rw [arithInput, ← blocks_end]
  congr 1
  exact Lv.build_blocks arithBuild harnessOp n (fun _ => rfl)
    (fun fuel acc => by
      have e : (if acc.length % 7 == 2 then [49, 42] else [49, 43]) = [49, harnessOp acc.length] := by
        unfold harnessOp; split <;> rfl
      rw [arithBuild, e]) n 0 (by omega) (by omega)

theorem harnessOp_ok (m : Nat) : ∀ o ∈ Lv.hOps harnessOp m, o = 42 ∨ o = 43 := by
  intro o ho
  obtain ⟨i, _, rfl⟩ := List.mem_map.mp ho
  unfold harnessOp
  split <;> simp

/-- **doubling on the harness's inputs, every length parameter** -/
theorem ar_double_harness (n : Nat) :
    arCalls (Lv.hOps harnessOp (2 * n / 2)) ≤ 16 * arCalls (Lv.hOps harnessOp (n / 2)) :=
  ar_double _ _ (harnessOp_ok _) (harnessOp_ok _) (by simp only [Lv.hOps, List.length_map, List.length_range]; omega)

end PV.C17b
