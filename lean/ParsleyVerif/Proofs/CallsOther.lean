/-
  C17: three families of the suite (arith, mutual, hidden) as the harness builds them (harness/cmd/corr/c17.go), and the
  pair `famCalls` that the correspondence run prints — definitions only.  Their closed forms are proved in
  Proofs/CallsArith*.lean, CallsMutual.lean and CallsPbA.lean and stated in Props/C17B.lean; `c17_hidden_upto` and
  `c17_mutual_upto` of Props/C17.lean read them off at the lengths the run exercises.
-/
import ParsleyVerif.Model.Run
namespace PV.C17
open PV.Text

/-- `parser.Rune(c)`; the name is `strconv.Quote(string(c))` for these ASCII characters -/
def runeT (c : Nat) : G := .term (.rune c [34, c, 34])
def seqOfT (l : List G) : G := .seq .seqOf l {}

def famCfg (env : List G) (data : Bytes) : Cfg :=
  { env := env, file := { name := "f", data := data, offset := 1 }, fileSet := {},
    params := { floatOk := fun _ => true, durErr := fun _ => none, regexp := fun _ _ => none }, ghost := false }

/-- the call count and whether the parse succeeded -/
def famCalls (env : List G) (data : Bytes) (fuel : Nat) : Option (Nat × Bool) :=
  (parse (famCfg env data) fuel (G.sentence (.ref 0))).map fun p => (p.st.calls, p.err.isNone)

/-- family 2: expr → expr + term | term ; term → term * factor | factor ; factor → 1 | ( expr ) -/
def arithEnv : List G := [
  .memo 0 (.any [seqOfT [.ref 0, runeT 43, .ref 1], .ref 1]),
  .memo 1 (.any [seqOfT [.ref 1, runeT 42, .ref 2], .ref 2]),
  .any [runeT 49, seqOfT [runeT 40, .ref 0, runeT 41]]]

/-- the harness's input: "1+" repeated, "1*" where the length so far is 2 mod 7, while shorter than n-1; then "1" -/
def arithBuild : Nat → Nat → Bytes → Bytes
  | 0, _, acc => acc
  | fuel + 1, n, acc =>
    if acc.length < n - 1 then arithBuild fuel n (acc ++ (if acc.length % 7 == 2 then [49, 42] else [49, 43])) else acc
def arithInput (n : Nat) : Bytes := arithBuild n n [] ++ [49]

/-- family 3: A → B a | x ; B → A b | y -/
def mutualEnv : List G := [
  .memo 0 (.any [seqOfT [.ref 1, runeT 97], runeT 120]),
  .memo 1 (.any [seqOfT [.ref 0, runeT 98], runeT 121])]
def mutualInput (k : Nat) : Bytes := 120 :: (List.replicate k [98, 97]).flatten

/-- family 4: P → x? P b | a -/
def hiddenEnv : List G := [.memo 0 (.any [seqOfT [.optional (runeT 120), .ref 0, runeT 98], runeT 97])]
def hiddenInput (n : Nat) : Bytes := 97 :: List.replicate (n - 1) 98

end PV.C17
