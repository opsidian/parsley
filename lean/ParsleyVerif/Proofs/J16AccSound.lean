/-
  C16, the converse: a REFINED soundness theorem for the parser core.

  `Derives` (Spec/Derives.lean, C01) is the monotone reading: its LeftTrim rule does not record whether the
  whitespace that was skipped is acceptable in the trim's mode, so `Derives` over-approximates what `run`
  returns for grammars that use LeftTrim in mode WsSpaces / WsNone / WsSpacesForceNl (the JSON grammar does, before
  `,` and `:`).  `DerivesW cfg R g pos x` is the refinement used for the byte-level reject statement:

    * LeftTrim derives only when `skipWhitespaces` reports NO whitespace error for the mode;
    * RightTrim derives only the tree with its end moved (no "keep" rule);
    * references are abstract (`R k pos x`, as in Proofs/ArithAbs.lean), so derivations of a closed grammar
      term can be inverted by finite case analysis.

  Scope (`Strict`): grammars without `Memoize` and without `Optional` — every other combinator never returns a result
  TOGETHER WITH an error (`NoBoth`; `Optional` hands its operand's error through next to the EMPTY match, LeftTrim then
  decides by the error's position and RightTrim hands the tree on unmoved: for such operands the refinement is false).
  `run_soundW`: for a `Strict` grammar every answer is `NoBoth` and every returned tree is a `DerivesW` derivation — for
  every fuel, context, state and work budget.  It is the instance `soundInvW` of the walk over `runStep` in
  Proofs/RunInv.lean: the laws are the constructors of `DerivesW`, the answers' invariant is `NoBoth`.
-/
import ParsleyVerif.Spec.Derives
import ParsleyVerif.Proofs.RunSound
import ParsleyVerif.Proofs.Lexeme
namespace PV.J16Acc
open PV PV.Text

mutual
inductive DerivesW (cfg : Cfg) (R : Nat → Nat → Node → Prop) : G → Nat → Node → Prop
  | term {t pos n} : t.parse cfg.params cfg.file pos = .node n → DerivesW cfg R (.term t) pos n
  | empty {pos} : DerivesW cfg R .empty pos (.empty pos)
  | eof {pos} : isEOF cfg.file pos = true → DerivesW cfg R .eof pos (.eof pos)
  | ref {k pos x} : R k pos x → DerivesW cfg R (.ref k) pos x
  | any {gs g pos x} : g ∈ gs → DerivesW cfg R g pos x → DerivesW cfg R (.any gs) pos x
  | choice {gs g pos x} : g ∈ gs → DerivesW cfg R g pos x → DerivesW cfg R (.choice gs) pos x
  | name {g nm pos x} : DerivesW cfg R g pos x → DerivesW cfg R (.name g nm) pos x
  | suppress {g pos x} : DerivesW cfg R g pos x → DerivesW cfg R (.suppress g) pos x
  | singleUnwrap {g pos tk c p r i} : DerivesW cfg R g pos (.nt tk [c] p r i) → DerivesW cfg R (.single g) pos c
  | singleKeep {g pos x} : DerivesW cfg R g pos x → DerivesW cfg R (.single g) pos x
  | ltrim {g m pos x} : (skipWhitespaces cfg.file pos m).2 = none →
      DerivesW cfg R g (skipWhitespaces cfg.file pos m).1 x → DerivesW cfg R (.ltrim g m) pos x
  | rtrim {g m pos x} : DerivesW cfg R g pos x → DerivesW cfg R (.rtrim g m) pos (setRposNode cfg.file m x none).1
  | seqfam {g sh pos nodes} : g.shape = some sh → DerivesSeqW cfg R sh 0 pos nodes →
      sh.lenCheck nodes.length = true → DerivesW cfg R g pos (handleResult sh pos nodes)
inductive DerivesSeqW (cfg : Cfg) (R : Nat → Nat → Node → Prop) : SeqShape → Nat → Nat → List Node → Prop
  | nil {sh d pos} : DerivesSeqW cfg R sh d pos []
  | cons {sh d pos g n rest} : sh.lookup d = some g → DerivesW cfg R g pos n →
      DerivesSeqW cfg R sh (d + 1) n.rpos rest → DerivesSeqW cfg R sh d pos (n :: rest)
end

def ClosedW (cfg : Cfg) (R : Nat → Nat → Node → Prop) : Prop :=
  ∀ k g pos x, cfg.env[k]? = some g → DerivesW cfg R g pos x → R k pos x

def StrictLocal : G → Prop
  | .memo _ _ => False
  | .optional _ => False
  | _ => True

def Strict (g : G) : Prop := g.All StrictLocal

section Inv
variable {cfg : Cfg} {R : Nat → Nat → Node → Prop}

theorem DerivesW.term_inv {t pos x} (h : DerivesW cfg R (.term t) pos x) :
    t.parse cfg.params cfg.file pos = .node x := by
  cases h with
  | term h => exact h
  | seqfam hs _ _ => simp [G.shape] at hs

theorem DerivesW.empty_inv {pos x} (h : DerivesW cfg R .empty pos x) : x = .empty pos := by
  cases h with
  | empty => rfl
  | seqfam hs _ _ => simp [G.shape] at hs

theorem DerivesW.eof_inv {pos x} (h : DerivesW cfg R .eof pos x) : isEOF cfg.file pos = true ∧ x = .eof pos := by
  cases h with
  | eof h => exact ⟨h, rfl⟩
  | seqfam hs _ _ => simp [G.shape] at hs

theorem DerivesW.ref_inv {k pos x} (h : DerivesW cfg R (.ref k) pos x) : R k pos x := by
  cases h with
  | ref h => exact h
  | seqfam hs _ _ => simp [G.shape] at hs

theorem DerivesW.name_inv {g nm pos x} (h : DerivesW cfg R (.name g nm) pos x) : DerivesW cfg R g pos x := by
  cases h with
  | name h => exact h
  | seqfam hs _ _ => simp [G.shape] at hs

theorem DerivesW.suppress_inv {g pos x} (h : DerivesW cfg R (.suppress g) pos x) : DerivesW cfg R g pos x := by
  cases h with
  | suppress h => exact h
  | seqfam hs _ _ => simp [G.shape] at hs

theorem DerivesW.any_inv {gs pos x} (h : DerivesW cfg R (.any gs) pos x) : ∃ g ∈ gs, DerivesW cfg R g pos x := by
  cases h with
  | any hm h => exact ⟨_, hm, h⟩
  | seqfam hs _ _ => simp [G.shape] at hs

theorem DerivesW.choice_inv {gs pos x} (h : DerivesW cfg R (.choice gs) pos x) :
    ∃ g ∈ gs, DerivesW cfg R g pos x := by
  cases h with
  | choice hm h => exact ⟨_, hm, h⟩
  | seqfam hs _ _ => simp [G.shape] at hs

theorem DerivesW.ltrim_inv {g m pos x} (h : DerivesW cfg R (.ltrim g m) pos x) :
    (skipWhitespaces cfg.file pos m).2 = none ∧ DerivesW cfg R g (skipWhitespaces cfg.file pos m).1 x := by
  cases h with
  | ltrim hw h => exact ⟨hw, h⟩
  | seqfam hs _ _ => simp [G.shape] at hs

theorem DerivesW.rtrim_inv {g m pos x} (h : DerivesW cfg R (.rtrim g m) pos x) :
    ∃ y, DerivesW cfg R g pos y ∧ x = (setRposNode cfg.file m y none).1 := by
  cases h with
  | rtrim h => exact ⟨_, h, rfl⟩
  | seqfam hs _ _ => simp [G.shape] at hs

theorem DerivesW.seq_inv {g sh pos x} (h : DerivesW cfg R g pos x) (hs : g.shape = some sh) :
    ∃ nodes, DerivesSeqW cfg R sh 0 pos nodes ∧ sh.lenCheck nodes.length = true ∧ x = handleResult sh pos nodes := by
  cases h with
  | seqfam hs' hd hl =>
    rw [hs] at hs'
    cases hs'
    exact ⟨_, hd, hl, rfl⟩
  | _ => simp [G.shape] at hs

theorem DerivesW.seqOf3_inv {a b c : G} {o : SeqOpts} {pos x}
    (h : DerivesW cfg R (.seq .seqOf [a, b, c] o) pos x) :
    ∃ x1 x2 x3, DerivesW cfg R a pos x1 ∧ DerivesW cfg R b x1.rpos x2 ∧ DerivesW cfg R c x2.rpos x3 ∧
      x = .nt (o.token.getD seqTok) [x1, x2, x3] x1.pos x3.rpos o.interp := by
  obtain ⟨nodes, hd, hl, rfl⟩ := h.seq_inv rfl
  simp only [List.length_cons, List.length_nil, beq_iff_eq] at hl
  cases hd with
  | nil => simp at hl
  | cons l1 h1 hr1 =>
    cases hr1 with
    | nil => simp at hl
    | cons l2 h2 hr2 =>
      cases hr2 with
      | nil => simp at hl
      | cons l3 h3 hr3 =>
        cases hr3 with
        | cons _ _ _ => simp at hl
        | nil =>
          simp only [List.getElem?_cons_zero, Option.some.injEq, Nat.zero_add, List.getElem?_cons_succ] at l1 l2 l3
          subst l1 l2 l3
          exact ⟨_, _, _, h1, h2, h3, by simp [handleResult]⟩

theorem DerivesW.seqOf2_inv {a b : G} {o : SeqOpts} {pos x}
    (h : DerivesW cfg R (.seq .seqOf [a, b] o) pos x) :
    ∃ x1 x2, DerivesW cfg R a pos x1 ∧ DerivesW cfg R b x1.rpos x2 ∧
      x = .nt (o.token.getD seqTok) [x1, x2] x1.pos x2.rpos o.interp := by
  obtain ⟨nodes, hd, hl, rfl⟩ := h.seq_inv rfl
  simp only [List.length_cons, List.length_nil, beq_iff_eq] at hl
  cases hd with
  | nil => simp at hl
  | cons l1 h1 hr1 =>
    cases hr1 with
    | nil => simp at hl
    | cons l2 h2 hr2 =>
      cases hr2 with
      | cons _ _ _ => simp at hl
      | nil =>
        simp only [List.getElem?_cons_zero, Option.some.injEq, Nat.zero_add, List.getElem?_cons_succ] at l1 l2
        subst l1 l2
        exact ⟨_, _, h1, h2, by simp [handleResult]⟩

theorem DerivesSeqW.snoc {sh : SeqShape} {g : G} {n : Node} :
    ∀ {nodes : List Node} {d p : Nat}, DerivesSeqW cfg R sh d p nodes →
      sh.lookup (d + nodes.length) = some g → DerivesW cfg R g (endOf p nodes) n →
      DerivesSeqW cfg R sh d p (nodes ++ [n])
  | [], d, p, _, hl, hd => by
    simp only [List.length_nil, Nat.add_zero] at hl
    exact .cons hl (by simpa [endOf] using hd) .nil
  | m :: rest, d, p, h, hl, hd => by
    cases h with
    | cons hl' hm hrest =>
      refine .cons hl' hm (DerivesSeqW.snoc (g := g) hrest ?_ ?_)
      · simpa [Nat.add_assoc, Nat.add_comm 1] using hl
      · rw [endOf_cons] at hd; exact hd

end Inv

/-- an answer that is not a result together with an error -/
def NoBoth (o : Out) : Prop := o.res.isNil = false → o.err = none

theorem NoBoth.nil {cp : List Nat} {e : Option Err} : NoBoth ⟨.nil, cp, e⟩ := fun h => by cases h

theorem NoBoth.ok {res : Res} {cp : List Nat} : NoBoth ⟨res, cp, none⟩ := fun _ => rfl

/-- LeftTrim over such an answer: a result comes without an error, and only when the mode accepted the whitespace
    (with a result AND an error the code would decide by the error's position) -/
theorem ltrimOut_strict (pos pos' : Nat) (wsErr : Option Err) {o : Out} (ho : NoBoth o) :
    (ltrimOut pos pos' wsErr o).res.isNil = false → (ltrimOut pos pos' wsErr o).err = none ∧ wsErr = none := by
  rcases ltrimOut_cases pos pos' wsErr o with ⟨hw, h⟩ | ⟨_, _, h⟩ | ⟨e, _, he, _, h⟩ <;> rw [h]
  · exact fun hn => ⟨ho hn, hw⟩
  · intro hn; cases hn
  · intro hn; have := ho hn; rw [he] at this; cases this

theorem strict_optional {g : G} (h : Strict (.optional g)) : False := (G.All_kids.mp h).1

theorem strict_memo {i : Nat} {g : G} (h : Strict (.memo i g)) : False := (G.All_kids.mp h).1

theorem wrapOut_strict {f : File} {pos : Nat} {g : G} {w : Wrap} (hw : g.wrap f pos = some w) (hg : Strict g) {o : Out}
    (ho : NoBoth o) : NoBoth (w.out o) := by
  revert hg
  refine G.wrap_cases (motive := fun g w => Strict g → NoBoth (w.out o)) ?_ ?_ ?_ ?_ ?_ ?_ hw
  · exact fun _ hg => (strict_optional hg).elim
  · intro g' nm _
    show NoBoth (nameOut pos nm o)
    rcases nameOut_cases pos nm o with ⟨e, _, h⟩ | ⟨_, _, h⟩ | ⟨_, _, h⟩ <;> rw [h]
    · exact .nil
    · exact .nil
    · exact .ok
  · intro g' _
    show NoBoth (singleOut o)
    rcases singleOut_cases o with ⟨e, _, h⟩ | ⟨_, _, _, _, _, _, _, h⟩ | ⟨_, h⟩ <;> rw [h]
    · exact .nil
    · exact .ok
    · exact .ok
  · exact fun _ _ => .ok
  · exact fun _ _ _ hn => (ltrimOut_strict _ _ _ ho hn).1
  · intro g' m _
    show NoBoth (rtrimOut f m o)
    rcases rtrimOut_cases f m o with ⟨e, he, h⟩ | ⟨_, _, _, h⟩ | ⟨_, _, h⟩ <;> rw [h]
    · intro hn
      have := ho hn
      rw [he] at this; cases this
    · exact .nil
    · exact .ok

/-- soundness for the refined reading as an instance of `RunInv`: the trees are the `DerivesW` derivations, and every
    answer is `NoBoth` — which is what lets the LeftTrim rule record that the mode accepted the whitespace, and RightTrim
    never hand a tree on unmoved -/
def soundInvW (cfg : Cfg) (R : Nat → Nat → Node → Prop) (hR : ClosedW cfg R) (henv : ∀ g' ∈ cfg.env, Strict g') :
    RunInv cfg where
  Sc := Strict
  N := DerivesW cfg R
  O := fun _ => NoBoth
  Ch sh p0 ns p := DerivesSeqW cfg R sh 0 p0 ns ∧ endOf p0 ns = p
  scope := ⟨fun hg hk => hg.kid hk, henv⟩
  outs :=
    { fail := fun _ => .nil
      leaf := fun _ _ => .ok
      ref := fun _ _ ho => ho
      memo := fun _ ho => ho
      any := fun _ => .ok
      choice := fun _ => .ok
      seq := fun _ _ => .ok
      wrap := fun hg hw ho => wrapOut_strict hw hg ho }
  states :=
    { regCall := fun _ => trivial
      logEv := fun _ _ _ => trivial
      setError := fun _ _ _ => trivial
      enter := fun _ _ _ _ _ => trivial
      leave := fun _ _ _ _ _ _ => trivial
      hit := fun hg _ _ => (strict_memo hg).elim }
  trees :=
    { term := fun _ _ h => .term h
      empty := fun _ _ => .empty
      eof := fun _ _ h => .eof h
      ref := fun _ hk h => .ref (hR _ _ _ _ hk h)
      memo := fun hg _ => (strict_memo hg).elim
      any := fun _ hg h => .any hg h
      choice := fun _ hg h => .choice hg h
      pass := fun {g w pos o x} hg hw hnr _ ho hx h => by
        revert hg hnr hx h
        refine G.wrap_cases (motive := fun g w => Strict g → (∀ g' m, g ≠ .rtrim g' m) → x ∈ (w.out o).res.alts →
          DerivesW cfg R w.child w.cpos x → DerivesW cfg R g pos x) ?_ ?_ ?_ ?_ ?_ ?_ hw
        · exact fun _ hg => (strict_optional hg).elim
        · exact fun _ _ _ _ _ h => .name h
        · exact fun _ _ _ _ h => .singleKeep h
        · exact fun _ _ _ _ h => .suppress h
        · exact fun _ _ _ _ hx h => .ltrim (wsToErr_none (ltrimOut_strict _ _ _ ho (isNil_false_of_mem hx)).2) h
        · exact fun _ _ _ hnr => (hnr _ _ rfl).elim
      -- RightTrim hands a tree on unmoved only next to an error, which `NoBoth` excludes
      rkeep := fun _ _ ho he hx _ => by rw [ho (isNil_false_of_mem hx)] at he; cases he
      optNone := fun hg => (strict_optional hg).elim
      single := fun _ h => .singleUnwrap h
      rtrim := fun _ _ _ _ _ h => .rtrim h
      chNil := fun _ _ _ => ⟨.nil, rfl⟩
      chSnoc := fun _ _ hl h hn =>
        ⟨DerivesSeqW.snoc h.1 (by rw [Nat.zero_add]; exact hl) (by rw [h.2]; exact hn), endOf_snoc _ _ _⟩
      chEmit := fun {g sh p0 ns p} _ hs hlc h => by
        rw [handleResult_endOf sh h.2]
        exact DerivesW.seqfam hs h.1 hlc }

theorem run_soundW (cfg : Cfg) (R : Nat → Nat → Node → Prop) (hR : ClosedW cfg R) (henv : ∀ g' ∈ cfg.env, Strict g') :
    ∀ fuel g ctx pos st o st', Strict g → run cfg fuel g ctx pos st = some (o, st') →
      (o.res.isNil = false → o.err = none) ∧ ∀ x ∈ o.res.alts, DerivesW cfg R g pos x :=
  fun fuel g ctx pos st o st' hg h =>
    have hp := (soundInvW cfg R hR henv).run fuel g ctx pos st o st' hg ⟨trivial, trivial, trivial⟩ h
    ⟨hp.out, hp.nodes⟩

theorem parse_soundW (cfg : Cfg) (R : Nat → Nat → Node → Prop) (hR : ClosedW cfg R) (henv : ∀ g' ∈ cfg.env, Strict g')
    (fuel : Nat) (g : G) (hg : Strict g) (st : St) (p : ParseOut) (h : parse cfg fuel g st = some p) :
    ∀ x ∈ p.res.alts, DerivesW cfg R g (cfg.file.pos 0) x := by
  obtain ⟨o, st1, hr, ⟨_, _, hres, _⟩ | ⟨_, hres, _⟩⟩ := parse_answer cfg fuel g st p h <;> rw [hres]
  · exact (run_soundW cfg R hR henv fuel g [] _ st o st1 hg hr).2
  · exact noAlt

/-- a refined derivation is a derivation of the monotone reading (`Derives`, C01) when the references are read
    as real derivations of the rule bodies -/
theorem DerivesW.toDerives {cfg : Cfg} {g : G} {pos : Nat} {x : Node}
    (h : DerivesW cfg (fun k pos x => ∃ g, cfg.env[k]? = some g ∧ Derives cfg g pos x) g pos x) :
    Derives cfg g pos x := by
  refine @DerivesW.rec cfg (fun k pos x => ∃ g, cfg.env[k]? = some g ∧ Derives cfg g pos x)
    (fun g pos x _ => Derives cfg g pos x)
    (fun sh d pos nodes _ => DerivesSeq cfg sh d pos nodes)
    ?_ ?_ ?_ ?_ ?_ ?_ ?_ ?_ ?_ ?_ ?_ ?_ ?_ ?_ ?_ g pos x h
  · intro t pos n h; exact .term h
  · intro pos; exact .empty
  · intro pos h; exact .eof h
  · intro k pos x hk; obtain ⟨g, hg, hd⟩ := hk; exact .ref hg hd
  · intro gs g pos x hm _ ih; exact .any hm ih
  · intro gs g pos x hm _ ih; exact .choice hm ih
  · intro g nm pos x _ ih; exact .name ih
  · intro g pos x _ ih; exact .suppress ih
  · intro g pos tk c p r i _ ih; exact .singleUnwrap ih
  · intro g pos x _ ih; exact .singleKeep ih
  · intro g m pos x _ _ ih; exact .ltrim ih
  · intro g m pos x _ ih; exact .rtrimMove ih
  · intro g sh pos nodes hs _ hl ih; exact .seqfam hs ih hl
  · intro sh d pos; exact .nil
  · intro sh d pos g n rest hl _ _ ih1 ih2; exact .cons hl ih1 ih2

end PV.J16Acc
