/-
  The Sequence machinery of combinator/seq.go.  First the result handler
  (`seqDefaultResultHandler`) and the value-level list primitives; then the mutually recursive `sequence.parse` /
  `sequence.parseNext` (translated with fuel) vs. the model's `seqParse` / `seqAlts`; last (*sequence).Parse and
  (*Sequence).Parse vs. `run` on a parser of the Sequence family (SeqOf / SeqTry / SeqFirstOrAll / Many / SepBy), through
  `run_seqfam`.

  The translated struct `sequence` is read as: static fields (token, look-up, length check, interpreter, result handler) +
  the model's `SeqSt` (curtailing parsers, result, furthest error) + the node BUFFER `s.nodes`, whose first `depth`
  entries are the model's `nodes` argument (what lies beyond is left over from deeper calls and never read).
  Fuel: one level of the model's `seqParse` is two levels of the translation (parse → parseNext → parse):
  model fuel f ↦ translated fuel 2·f − 1.  One level of `seqParse` is read as in Proofs/RunLoops.lean (`seqParse_deeper`:
  `seqCall`, `seqAfter`, then `seqExit` / `seqEmit` or `seqAlts` over `seqDeeper`).
-/
import ParsleyVerif.Proofs.CoreTieWrap
import ParsleyVerif.Proofs.CoreTieData
import ParsleyVerif.Proofs.RunLoops
namespace PV.CoreTie
open PV.FactsCore

@[simp] theorem nodePos_eNode (n : PV.Node) (s : Context) : (CorePrelude.Node_Pos (eNode n) : CM Int) s = .ok (n.pos : Int) s := by
  cases n <;> rfl
@[simp] theorem nodeRpos_eNode (n : PV.Node) (s : Context) :
    (CorePrelude.Node_ReaderPos (eNode n) : CM Int) s = .ok (n.rpos : Int) s := by
  cases n <;> rfl
@[simp] theorem nodeToken_eNode (n : PV.Node) (s : Context) :
    (CorePrelude.Node_Token (eNode n) : CM CorePrelude.Bytes) s = .ok n.token s := by
  cases n with
  | term t v p r => rfl
  | empty p => simp [eNode, CorePrelude.Node_Token, PV.Node.token, CorePrelude.emptyToken]; decide +kernel
  | eof p => simp [eNode, CorePrelude.Node_Token, PV.Node.token, CorePrelude.eofToken]; decide +kernel
  | nt t c p r i => rfl

theorem eofTok_str : CorePrelude.Go.str "EOF" = eofTok := by decide +kernel

theorem any_isNil_map (l : List PV.Node) : (l.map eNode).any CorePrelude.Node.isNil = false := by
  induction l with
  | nil => rfl
  | cons n r ih => simp [ih]

theorem copy_replicate (l : List CNode) :
    CorePrelude.Go.copy (List.replicate l.length (default : CNode)) l = l := by
  simp [CorePrelude.Go.copy]

theorem mkList_len (l : List CNode) (s : Context) :
    (CorePrelude.Go.mkList (CorePrelude.Go.len l) : CM (List CNode)) s = .ok (List.replicate l.length default) s := by
  simp [CorePrelude.Go.mkList, CorePrelude.Go.len]

theorem newNonTerminal (tok : Text.Bytes) (n : PV.Node) (rest : List PV.Node) (i : Interp) (s : Context) :
    (CorePrelude.NewNonTerminalNode tok ((n :: rest).map eNode) (eInterp i) : CM CNode) s =
      .ok (eNode (.nt tok (n :: rest) n.pos ((rest.getLast?).getD n).rpos i)) s := by
  have hl : ((n :: rest).map eNode).getLast? = some (eNode ((rest.getLast?).getD n)) := by
    rw [List.getLast?_map]
    cases h : rest.getLast? with
    | none =>
      have : rest = [] := List.getLast?_eq_none_iff.mp h
      subst this; rfl
    | some x =>
      have : (n :: rest).getLast? = some x := by
        rw [List.getLast?_cons]; simp [h]
      simp [this]
  have ha := any_isNil_map (n :: rest)
  simp only [List.map_cons] at hl ha
  simp only [CorePrelude.NewNonTerminalNode, List.map_cons, hl, ha]
  simp [eNode]

/-- seqDefaultResultHandler(returnSingle) -/
theorem tie_handler (W : World Context) (sh : SeqShape) (pos : Nat) (nodes : List PV.Node) (s : Context) :
    seqDefaultResultHandler_parse W sh.single pos sh.token (nodes.map eNode) (eInterp sh.interp) s =
      .ok (eNode (handleResult sh pos nodes)) s := by
  match nodes with
  | [] => simp [seqDefaultResultHandler_parse, CorePrelude.Go.len, handleResult, CorePrelude.NewEmptyNonTerminalNode, eNode]
  | [n] =>
    cases hs : sh.single
    · have h1 := mkList_len [eNode n] s
      have h2 := copy_replicate [eNode n]
      have h3 := newNonTerminal sh.token n [] sh.interp s
      have hl : CorePrelude.Go.len [eNode n] = 1 := rfl
      simp only [List.map_cons, List.map_nil, List.length_cons, List.length_nil] at h1 h2 h3
      rw [hl] at h1
      have h2' : CorePrelude.Go.copy [(default : CNode)] [eNode n] = [eNode n] := h2
      have h3' : CorePrelude.NewNonTerminalNode sh.token [eNode n] (eInterp sh.interp) s =
          .ok (eNode (.nt sh.token [n] n.pos n.rpos sh.interp)) s := h3
      simp [seqDefaultResultHandler_parse, hs, handleResult, h1, hl, h2', h3']
    · simp [seqDefaultResultHandler_parse, hs, handleResult, CorePrelude.Go.len, CorePrelude.Go.nth]
  | n :: n2 :: rest =>
    have h1 := mkList_len ((n :: n2 :: rest).map eNode) s
    have h2 := copy_replicate ((n :: n2 :: rest).map eNode)
    have h3 := newNonTerminal sh.token n (n2 :: rest) sh.interp s
    generalize hL : CorePrelude.Go.len ((n :: n2 :: rest).map eNode) = L at h1
    have hl : ¬ (L = 0) := by rw [← hL]; simp [CorePrelude.Go.len]; omega
    have hl1 : ¬ (L = 1) := by rw [← hL]; simp [CorePrelude.Go.len]; omega
    simp only [List.length_map] at h2
    simp only [seqDefaultResultHandler_parse, hL, hl, hl1, decide_false, Bool.false_eq_true, if_false, bind_apply, h1,
      List.length_map, h2, h3, handleResult, pure_apply, ite_apply]

theorem slice_take (buf : List CNode) (d : Nat) (h : d ≤ buf.length) (s : Context) :
    (CorePrelude.Go.slice buf 0 (d : Int) : CM (List CNode)) s = .ok (buf.take d) s := by
  simp [CorePrelude.Go.slice, h]

theorem nth_ok (buf : List CNode) (i : Nat) (x : CNode) (h : buf[i]? = some x) (s : Context) :
    (CorePrelude.Go.nth buf (i : Int) : CM CNode) s = .ok x s := by
  simp [CorePrelude.Go.nth, h]

theorem setNth_ok (buf : List CNode) (d : Nat) (x : CNode) (h : d < buf.length) (s : Context) :
    (CorePrelude.Go.setNth buf (d : Int) x : CM (List CNode)) s = .ok (buf.set d x) s := by
  simp [CorePrelude.Go.setNth, h]

section
-- the ties list both `dec_true` and `dec_false`, so as not to depend on which way round the source writes a test
set_option linter.unusedSimpArgs false

/-- the translated `sequence` struct showing the model's `SeqSt`, with node buffer `buf` -/
def mkS (s0 : sequence) (ss : SeqSt) (buf : List CNode) : sequence :=
  { s0 with curtailingParsers := eSet ss.cp, result := eRes ss.result, err := eErr ss.err, nodes := buf }

/-- the static fields of the translated `sequence` are the model's `SeqShape` -/
structure Static (W : World Context) (cfg : Cfg) (fuel : Nat) (sh : SeqShape) (s0 : sequence) : Prop where
  tok : s0.token = sh.token
  interp : s0.interpreter = eInterp sh.interp
  look : ∀ d : Nat, ∃ h : Parser, (∀ s : Context, s0.parserLookUp (d : Int) s = .ok h s) ∧
    (match sh.lookup d with
      | none => h = .nil
      | some g => h.isNil = false ∧ Agrees W cfg fuel h g)
  len : ∀ (d : Nat) (s : Context), s0.lenCheck (d : Int) s = .ok (sh.lenCheck d) s
  hand : ∃ hd, s0.resultHandler = some hd ∧ ∀ (pos : Nat) (nodes : List PV.Node) (s : Context),
    hd pos sh.token (nodes.map eNode) (eInterp sh.interp) s = .ok (eNode (handleResult sh pos nodes)) s

/-- the simulation statement for one call working on a buffer whose first `depth` entries are `nodes` -/
def SimB (s0 : sequence) (depth : Nat) (nodes : List PV.Node) (x : CRes Context (sequence × Bool))
    (y : Option (Bool × SeqSt × St)) : Prop :=
  match y with
  | none => x = .nofuel
  | some (b, ss', st') => ∃ s' buf', x = .ok (mkS s0 ss' buf', b) s' ∧ StRel s' st' ∧ buf'.take depth = nodes.map eNode

/-- `SimB` is `Sim` of this relation -/
def RB (s0 : sequence) (depth : Nat) (nodes : List PV.Node) (a : sequence × Bool) (s' : Context) (r : Bool × SeqSt × St) : Prop :=
  ∃ buf', a = (mkS s0 r.2.1 buf', r.1) ∧ StRel s' r.2.2 ∧ buf'.take depth = nodes.map eNode

theorem simB_iff {s0 : sequence} {depth : Nat} {nodes : List PV.Node} {x : CRes Context (sequence × Bool)}
    {y : Option (Bool × SeqSt × St)} : SimB s0 depth nodes x y ↔ Sim (RB s0 depth nodes) x y := by
  cases y with
  | none => exact Iff.rfl
  | some r =>
    obtain ⟨b, ss, st⟩ := r
    exact ⟨fun ⟨s', buf', e, h1, h2⟩ => ⟨_, s', e, buf', rfl, h1, h2⟩,
      fun ⟨a, s', e, buf', ha, h1, h2⟩ => ⟨s', buf', ha ▸ e, h1, h2⟩⟩

/-- what follows a call may hand its answer on unchanged: `if t then return true … return false`, or `return t` -/
theorem Sim.bind_id {α γ : Type} {R : α → Context → γ → Prop} {x : CM α} {T : α → CM α} {s : Context} {y : Option γ}
    (h : Sim R (x s) y) (hT : ∀ a s', T a s' = .ok a s') : Sim R ((x >>= T) s) y :=
  Sim.bind h id fun a s' c hy r => by rw [hy, hT]; exact .ret r

/-- the loop's answer: `return true` as soon as `parseNext` says so -/
def RLoop (s0 : sequence) (depth : Nat) (nodes : List PV.Node) (a : CorePrelude.Brk (sequence × Bool) (sequence × Int))
    (s' : Context) (r : Bool × SeqSt × St) : Prop :=
  ∃ buf' i', a = (if r.1 then .ret (mkS s0 r.2.1 buf', true) else .done (mkS s0 r.2.1 buf', i')) ∧ StRel s' r.2.2 ∧
    buf'.take depth = nodes.map eNode

/-- the loop over the alternatives of a result -/
theorem seq_loop (W : World Context) (s0 : sequence) (depth : Nat) (m : IntMap) (pos : Int) (merge : Bool)
    (recP : sequence → Int → IntMap → Int → Bool → CM (sequence × Bool))
    (recN : sequence → Int → CNode → Int → IntMap → Int → Bool → CM (sequence × Bool))
    (K : PV.Node → SeqSt → St → Option (Bool × SeqSt × St)) (nodes : List PV.Node)
    (HK : ∀ n ss buf i s st, buf.take depth = nodes.map eNode → StRel s st →
      Sim (RB s0 depth nodes) (recN (mkS s0 ss buf) i (eNode n) depth m pos merge s) (K n ss st)) :
    ∀ (alts : List PV.Node) (ss : SeqSt) (buf : List CNode) (i : Int) (s : Context) (st : St),
      buf.take depth = nodes.map eNode → StRel s st →
      Sim (RLoop s0 depth nodes)
        (sequence_parse_loop1 W depth m pos merge recP recN (alts.map eNode) (mkS s0 ss buf) i s) (seqAlts K alts ss st) := by
  intro alts
  induction alts with
  | nil => exact fun ss buf i s st hb hs => .ret ⟨buf, i, rfl, hs, hb⟩
  | cons n rest ih =>
    intro ss buf i s st hb hs
    rw [seqAlts, List.map_cons, sequence_parse_loop1]
    refine Sim.bind (HK n ss buf i s st hb hs) (fun h => by rw [h]) ?_
    rintro _ s1 ⟨b, ss1, st1⟩ hr ⟨buf1, rfl, r1, hb1⟩
    rw [hr]
    cases b with
    | true => exact .ret ⟨buf1, i, rfl, r1, hb1⟩
    | false => exact ih ss1 buf1 _ s1 st1 hb1 r1

/-- `sequence.parse` at translated fuel `F` simulates `seqParse` at model fuel `f` -/
def PSim (W : World Context) (cfg : Cfg) (fuel : Nat) (sh : SeqShape) (s0 : sequence) (F f : Nat) : Prop :=
  ∀ (depth : Nat) (nodes : List PV.Node) (m : IntMap) (c : Ctx) (pos : Nat) (merge : Bool) (ss : SeqSt) (buf : List CNode)
    (s : Context) (st : St), nodes.length = depth → CtxRel m c → buf.take depth = nodes.map eNode → StRel s st →
    SimB s0 depth nodes (sequence_parse W F (mkS s0 ss buf) depth m pos merge s)
      (seqParse (run cfg fuel) sh f depth nodes c pos merge ss st)

theorem take_succ_of (buf' : List CNode) (nodes : List PV.Node) (n : PV.Node) (depth : Nat) (hlen : nodes.length = depth)
    (h : buf'.take (depth + 1) = (nodes ++ [n]).map eNode) : buf'.take depth = nodes.map eNode := by
  have h1 : buf'.take depth = (buf'.take (depth + 1)).take depth := by
    rw [List.take_take]; congr 1; omega
  rw [h1, h, List.map_append, List.take_append_of_le_length (by simp [hlen]), List.take_of_length_le (by simp [hlen])]

/-- the buffer after `parseNext` stored the node at `depth` -/
theorem buf_store (buf : List CNode) (nodes : List PV.Node) (n : PV.Node) (depth : Nat) (hlen : nodes.length = depth)
    (hb : buf.take depth = nodes.map eNode) :
    depth ≤ buf.length ∧
    (buf.length = depth → (buf ++ [eNode n]).take (depth + 1) = (nodes ++ [n]).map eNode) ∧
    (depth < buf.length → (buf.set depth (eNode n)).take (depth + 1) = (nodes ++ [n]).map eNode) := by
  have hl : depth ≤ buf.length := by
    have := congrArg List.length hb
    simp [hlen] at this
    omega
  refine ⟨hl, ?_, ?_⟩
  · intro he
    have : buf = nodes.map eNode := by rw [← hb, List.take_of_length_le (by omega)]
    subst this
    rw [List.take_of_length_le (by simp; omega)]
    simp
  · intro hlt
    rw [List.take_add_one, List.take_set_of_le (Nat.le_refl depth), hb]
    simp [List.getElem?_set_self hlt]

/-- `PSim` over RunLoops' `Frame` (the reading of `seqParse` that `seqParse_deeper` gives) -/
def PSimF (W : World Context) (cfg : Cfg) (fuel : Nat) (sh : SeqShape) (s0 : sequence) (F f : Nat) : Prop :=
  ∀ (fr : Frame) (m : IntMap) (ss : SeqSt) (buf : List CNode) (s : Context) (st : St),
    fr.nodes.length = fr.depth → CtxRel m fr.ctx → buf.take fr.depth = fr.nodes.map eNode → StRel s st →
    Sim (RB s0 fr.depth fr.nodes) (sequence_parse W F (mkS s0 ss buf) fr.depth m fr.pos fr.merge s)
      (seqParse (run cfg fuel) sh f fr.depth fr.nodes fr.ctx fr.pos fr.merge ss st)

/-- `sequence.parseNext`: the node is stored in the buffer at `fr.depth`, the left-recursion context is reset if input
    was consumed, and `sequence.parse` goes on in the frame `fr.next n` -/
theorem seq_next (W : World Context) (cfg : Cfg) (fuel : Nat) (sh : SeqShape) (s0 : sequence) (F f : Nat)
    (IH : PSimF W cfg fuel sh s0 F f) (fr : Frame) (hlen : fr.nodes.length = fr.depth) (m : IntMap) (hm : CtxRel m fr.ctx)
    (n : PV.Node) (ss : SeqSt) (buf : List CNode) (i : Int) (s : Context) (st : St)
    (hb : buf.take fr.depth = fr.nodes.map eNode) (hs : StRel s st) :
    Sim (RB s0 fr.depth fr.nodes) (sequence_parseNext W (F + 1) (mkS s0 ss buf) i (eNode n) fr.depth m fr.pos fr.merge s)
      (seqDeeper (run cfg fuel) sh f fr n ss st) := by
  obtain ⟨depth, nodes, c, pos, merge⟩ := fr
  dsimp only [seqDeeper, Frame.next] at hlen hm hb ⊢
  obtain ⟨hl, happ, hset⟩ := buf_store buf nodes n depth hlen hb
  -- the recursive call on the new buffer; what follows hands its answer on
  have fin : ∀ (buf1 : List CNode) (m' : IntMap) (c' : Ctx) (merge' : Bool) (T : sequence × Bool → CM (sequence × Bool)),
      buf1.take (depth + 1) = (nodes ++ [n]).map eNode → CtxRel m' c' → (∀ a s', T a s' = .ok a s') →
      Sim (RB s0 depth nodes) ((sequence_parse W F (mkS s0 ss buf1) ((depth : Int) + 1) m' n.rpos merge' >>= T) s)
        (seqParse (run cfg fuel) sh f (depth + 1) (nodes ++ [n]) c' n.rpos merge' ss st) := by
    intro buf1 m' c' merge' T hb1 hmc hT
    have ih := IH ⟨depth + 1, nodes ++ [n], c', n.rpos, merge'⟩ m' ss buf1 s st (by simp [hlen]) hmc hb1 hs
    dsimp only at ih
    rw [show ((depth + 1 : Nat) : Int) = (depth : Int) + 1 by omega] at ih
    exact (ih.mono fun _ _ _ ⟨buf', e, r1, hb'⟩ => ⟨buf', e, r1, take_succ_of buf' nodes n depth hlen hb'⟩).bind_id hT
  have hrp := nodeRpos_eNode n
  have hlb : CorePrelude.Go.len (mkS s0 ss buf).nodes = buf.length := rfl
  rw [sequence_parseNext]
  -- (the tests on the buffer length and on the positions are decided by omega, whichever way round the source writes them)
  by_cases he : buf.length = depth
  · simp (disch := omega) only [dec_true, dec_false]
    simp only [mkS, if_true, pure_bind, bind_ok (hrp _), sequence_parseNext_k1]
    by_cases hgt : n.rpos > pos <;> simp (disch := omega) only [dec_true, dec_false] <;>
      simp only [if_true, Bool.false_eq_true, if_false, pure_bind, bind_ok (hrp _), hgt, decide_true, decide_false, Bool.not_true,
        Bool.not_false, Bool.and_false, Bool.and_true]
    · exact fin _ _ _ _ _ (happ he) CtxRel.nil fun ⟨a, b⟩ s' => by cases b <;> rfl
    · exact fin _ _ _ _ _ (happ he) hm fun ⟨a, b⟩ s' => by cases b <;> rfl
  · simp (disch := omega) only [dec_true, dec_false]
    simp only [mkS, Bool.false_eq_true, if_false, pure_bind, bind_bind, bind_ok (setNth_ok buf depth _ (by omega) _),
      bind_ok (hrp _), sequence_parseNext_k1]
    by_cases hgt : n.rpos > pos <;> simp (disch := omega) only [dec_true, dec_false] <;>
      simp only [if_true, Bool.false_eq_true, if_false, pure_bind, bind_ok (hrp _), hgt, decide_true, decide_false, Bool.not_true,
        Bool.not_false, Bool.and_false, Bool.and_true]
    · exact fin _ _ _ _ _ (hset (by omega)) CtxRel.nil fun ⟨a, b⟩ s' => by cases b <;> rfl
    · exact fin _ _ _ _ _ (hset (by omega)) hm fun ⟨a, b⟩ s' => by cases b <;> rfl

/-- the part of the translated `sequence.parse` after the operand was called and `s.err` / `s.curtailingParsers` were
    updated: the generated continuation function `sequence_parse_k1`, with the recursion tied at fuel `F` -/
def seqTail (W : World Context) (F : Nat) (depth : Int) (m : IntMap) (pos : Int) (merge : Bool) (s : sequence) (res : CNode) :
    CM (sequence × Bool) :=
  sequence_parse_k1 W s depth m pos merge res (sequence_parse W F) (sequence_parseNext W F)

/-- the continuation of `sequence.parse`, against what `seqParse_deeper` says the model does with the operand's answer:
    no result — the length check and the result handler; one node — `parseNext`; a list — the loop -/
theorem seq_tail_sim (W : World Context) (cfg : Cfg) (fuel : Nat) (sh : SeqShape) (s0 : sequence)
    (S : Static W cfg fuel sh s0) (F f : Nat) (fr : Frame) (hlen : fr.nodes.length = fr.depth) (m : IntMap)
    (HK : ∀ n ss buf i s st, buf.take fr.depth = fr.nodes.map eNode → StRel s st →
      Sim (RB s0 fr.depth fr.nodes) (sequence_parseNext W F (mkS s0 ss buf) i (eNode n) fr.depth m fr.pos fr.merge s)
        (seqDeeper (run cfg fuel) sh f fr n ss st))
    (res : PV.Res) (ss : SeqSt) (buf : List CNode) (hb : buf.take fr.depth = fr.nodes.map eNode) (s : Context) (st : St)
    (hs : StRel s st) :
    Sim (RB s0 fr.depth fr.nodes) (seqTail W F fr.depth m fr.pos fr.merge (mkS s0 ss buf) (eRes res) s)
      (if res.isNil then
        if sh.lenCheck fr.depth then some (seqExit fr, seqEmit sh fr ss, st) else some (false, ss, st)
      else seqAlts (seqDeeper (run cfg fuel) sh f fr) res.alts ss st) := by
  cases res with
  | nil =>
    obtain ⟨depth, nodes, c, pos, merge⟩ := fr
    dsimp only at hlen hb ⊢
    obtain ⟨hd, hhd, hhand⟩ := S.hand
    have hlc : (mkS s0 ss buf).lenCheck depth s = .ok (sh.lenCheck depth) s := S.len depth s
    -- (as hypotheses, the facts about the result rewrite the tests together with their `Decidable` instances)
    have hn : (eRes Res.nil).isNil = true := rfl
    simp only [seqTail, sequence_parse_k1, hn, Bool.not_true, Bool.false_eq_true, if_false, if_true, bind_ok hlc]
    have hbl : depth ≤ buf.length := by
      have := congrArg List.length hb
      simp [hlen] at this
      omega
    have hderef : ∀ x : Context, (CorePrelude.Go.deref s0.resultHandler : CM _) x = .ok hd x := by
      rw [hhd]; exact fun _ => rfl
    have hh : ∀ nodes : List PV.Node, hd pos s0.token (nodes.map eNode) s0.interpreter s = .ok (eNode (handleResult sh pos nodes)) s := by
      rw [S.tok, S.interp]; exact fun nodes => hhand pos nodes s
    have happ := fun r => tie_AppendNode W ss.result (.one r) s
    simp only [eRes_one] at happ
    simp only [mkS]
    rw [if_pos (show Res.nil.isNil = true from rfl)]
    cases hl : sh.lenCheck depth
    · exact .ret ⟨buf, rfl, hs, hb⟩
    · by_cases hd0 : depth > 0
      · -- the last node
        obtain ⟨last, hlast⟩ : ∃ last, nodes.getLast? = some last := by
          cases hn : nodes.getLast? with
          | some l => exact ⟨l, rfl⟩
          | none => have := List.getLast?_eq_none_iff.mp hn; subst this; simp at hlen; omega
        have hidx : buf[depth - 1]? = some (eNode last) := by
          have h1 : (buf.take depth)[depth - 1]? = buf[depth - 1]? := by
            rw [List.getElem?_take]; simp; omega
          rw [← h1, hb, List.getElem?_map]
          have : nodes[depth - 1]? = nodes.getLast? := by rw [List.getLast?_eq_getElem?, hlen]
          rw [this, hlast]; rfl
        have hnth : ∀ x : Context, (CorePrelude.Go.nth buf ((depth : Int) - 1) : CM CNode) x = .ok (eNode last) x := by
          intro x
          have : ((depth : Int) - 1) = ((depth - 1 : Nat) : Int) := by omega
          rw [this]; exact nth_ok buf _ _ hidx x
        have hsl := slice_take buf depth hbl s
        rw [hb] at hsl
        have heof : decide (last.token = CorePrelude.Go.str "EOF") = (last.token == eofTok) := by
          rw [eofTok_str]; by_cases h : last.token = eofTok <;> simp [h]
        simp (disch := omega) only [dec_true, dec_false]
        simp only [seqExit, seqEmit, hd0, hlast, if_true, Bool.not_true, Bool.false_eq_true, if_false, bind_ok hsl, bind_ok (hderef _),
          bind_ok (hh nodes), bind_ok (happ _), bind_ok (hnth _), eNode_isNil, Bool.not_false, bind_ok (nodeToken_eNode last s),
          heof, pure_bind, bind_bind]
        refine ⟨_, s, ?_, buf, rfl, hs, hb⟩
        cases last.token == eofTok <;> rfl
      · have hd0' : depth = 0 := by omega
        subst hd0'
        have hn : nodes = [] := List.length_eq_zero_iff.mp hlen
        subst hn
        have hh0 : hd pos s0.token [] s0.interpreter s = .ok (eNode (handleResult sh pos [])) s := hh []
        simp (disch := omega) only [dec_true, dec_false]
        simp only [seqExit, seqEmit, Nat.lt_irrefl, if_true, Bool.not_true, Bool.false_eq_true, if_false, bind_ok (hderef _), bind_ok hh0,
          bind_ok (happ _)]
        exact .ret ⟨buf, rfl, hs, hb⟩
  | one n =>
    have hn : (eRes (.one n)).isNil = false := eNode_isNil n
    have hl : (eRes (.one n)).asNodeList = ([], false) := asNodeList_eNode n
    simp only [seqTail, sequence_parse_k1, hn, hl, Bool.not_false, if_true, Bool.false_eq_true, if_false, PV.Res.isNil,
      PV.Res.alts, seqAlts_one]
    exact (HK n ss buf 0 s st hb hs).bind_id fun ⟨a, b⟩ s' => by cases b <;> rfl
  | list l =>
    have hloop := seq_loop W s0 fr.depth m fr.pos fr.merge (sequence_parse W F) (sequence_parseNext W F) _ fr.nodes HK l ss buf 0 s st
      hb hs
    have hn : (eRes (.list l)).isNil = false := rfl
    have hl : (eRes (.list l)).asNodeList = (l.map eNode, true) := rfl
    simp only [seqTail, sequence_parse_k1, hn, hl, Bool.not_false, if_true, Bool.false_eq_true, if_false, PV.Res.isNil,
      PV.Res.alts]
    refine Sim.bind hloop id ?_
    rintro _ s' ⟨b, ss', st'⟩ hL ⟨buf', i', rfl, r1, hb'⟩
    rw [hL]
    exact ⟨_, s', by cases b <;> rfl, buf', rfl, r1, hb'⟩

theorem union_nil_right (a : IntSet) : CorePrelude.Data.IntSet_Union a [] = a := by
  cases a <;> simp [CorePrelude.Data.IntSet_Union]

/-- `sequence.parse` up to its continuation (`seqTail`) is the model's `seqCall`: the operand is looked up and, if there is
    one, registered and called; `s.err` and `s.curtailingParsers` are updated as in the model's `seqAfter` -/
theorem seq_call (W : World Context) (cfg : Cfg) (fuel : Nat) (sh : SeqShape) (s0 : sequence) (S : Static W cfg fuel sh s0)
    (F : Nat) (fr : Frame) (m : IntMap) (hm : CtxRel m fr.ctx) (ss : SeqSt) (buf : List CNode)
    (s : Context) (st : St) (hs : StRel s st)
    {δ : Type} {Q : sequence × Bool → Context → δ → Prop} {k : Out → St → Option δ}
    (hk : ∀ o s1 st1, StRel s1 st1 →
      Sim Q (seqTail W F fr.depth m fr.pos fr.merge (mkS s0 (seqAfter fr.merge ss o) buf) (eRes o.res) s1) (k o st1)) :
    Sim Q (sequence_parse W (F + 1) (mkS s0 ss buf) fr.depth m fr.pos fr.merge s)
      (match seqCall (run cfg fuel) sh fr st with | none => none | some (o, st1) => k o st1) := by
  obtain ⟨depth, nodes, c, pos, merge⟩ := fr
  dsimp only [seqCall] at hm hk ⊢
  obtain ⟨h, hlook, hspec⟩ := S.look depth
  have hlook' : (mkS s0 ss buf).parserLookUp depth s = .ok h s := hlook s
  rw [sequence_parse]
  simp only [bind_ok hlook']
  cases hlk : sh.lookup depth with
  | none =>
    rw [hlk] at hspec
    subst hspec
    refine Sim.of_eq ?_ (hk ⟨.nil, [], none⟩ s st hs)
    unfold seqTail
    generalize sequence_parse_k1 W = K
    cases merge <;> simp [mkS, seqAfter, pickErr, cpUnion_nil_right, union_nil_right, CorePrelude.Parser.isNil]
  | some g =>
    rw [hlk] at hspec
    obtain ⟨hnn, hag⟩ := hspec
    obtain ⟨s0', e0, r0⟩ := tie_RegisterCall W s st hs
    simp only [hnn, Bool.not_false, if_true, bind_bind, bind_ok e0]
    refine hag.bind hm pos r0 fun ⟨res, cp, err⟩ s1 st1 r1 => Sim.of_eq ?_ (hk _ s1 st1 r1)
    unfold seqTail
    generalize sequence_parse_k1 W = K
    cases merge <;> cases err with
    | none => simp [eOut, mkS, seqAfter, pickErr, eSet_union]
    | some e =>
      cases hse : ss.err with
      | none => simp [eOut, mkS, seqAfter, pickErr, hse, eSet_union]
      | some ce => by_cases hge : e.pos ≥ ce.pos <;> simp [← Nat.not_lt, eOut, mkS, seqAfter, pickErr, hse, hge, eSet_union]

theorem seq_parse_simF (W : World Context) (cfg : Cfg) (fuel : Nat) (sh : SeqShape) (s0 : sequence)
    (S : Static W cfg fuel sh s0) : ∀ f, PSimF W cfg fuel sh s0 (2 * f - 1) f
  | 0 => by
    intro fr m ss buf s st _ _ _ _
    simp [sequence_parse, seqParse, Sim]
  | f + 1 => by
    have IH := seq_parse_simF W cfg fuel sh s0 S f
    intro fr m ss buf s st hlen hm hb hs
    have e2 : 2 * (f + 1) - 1 = 2 * f + 1 := by omega
    rw [e2, seqParse_deeper]
    have HK : ∀ n ss buf i s st, buf.take fr.depth = fr.nodes.map eNode → StRel s st →
        Sim (RB s0 fr.depth fr.nodes) (sequence_parseNext W (2 * f) (mkS s0 ss buf) i (eNode n) fr.depth m fr.pos fr.merge s)
          (seqDeeper (run cfg fuel) sh f fr n ss st) := by
      intro n ss buf i s st hb hs
      cases f with
      | zero => simp [sequence_parseNext, seqDeeper, seqParse, Sim]
      | succ f' =>
        have : 2 * (f' + 1) = (2 * (f' + 1) - 1) + 1 := by omega
        rw [this]
        exact seq_next W cfg fuel sh s0 _ _ IH fr hlen m hm n ss buf i s st hb hs
    exact seq_call W cfg fuel sh s0 S (2 * f) fr m hm ss buf s st hs fun o s1 st1 r1 =>
      seq_tail_sim W cfg fuel sh s0 S (2 * f) f fr hlen m HK o.res _ buf hb s1 st1 r1

theorem seq_parse_sim (W : World Context) (cfg : Cfg) (fuel : Nat) (sh : SeqShape) (s0 : sequence)
    (S : Static W cfg fuel sh s0) (f : Nat) : PSim W cfg fuel sh s0 (2 * f - 1) f :=
  fun depth nodes m c pos merge ss buf s st h1 h2 h3 h4 =>
    simB_iff.mpr (seq_parse_simF W cfg fuel sh s0 S f ⟨depth, nodes, c, pos, merge⟩ m ss buf s st h1 h2 h3 h4)

end

/-- the translated `Sequence` struct (what the constructors SeqOf … and the setters Name / Token / Bind / HandleResult
    build) shows the model's `SeqShape` -/
structure SeqStatic (W : World Context) (cfg : Cfg) (fuel : Nat) (sh : SeqShape) (S : Sequence) : Prop where
  tok : S.token = sh.token
  interp : S.interpreter = eInterp sh.interp
  look : ∀ d : Nat, ∃ h : Parser, (∀ s : Context, S.parserLookUp (d : Int) s = .ok h s) ∧
    (match sh.lookup d with
      | none => h = .nil
      | some g => h.isNil = false ∧ Agrees W cfg fuel h g)
  len : ∀ (d : Nat) (s : Context), S.lenCheck (d : Int) s = .ok (sh.lenCheck d) s
  /-- no handler (the default, `seqDefaultResultHandler(false)`) or `ReturnSingle()` -/
  hand : (S.resultHandler = none ∧ sh.single = false) ∨
    (S.resultHandler = some (seqDefaultResultHandler_parse W true) ∧ sh.single = true)
  name : S.customErr = match sh.name with
    | none => .nil
    | some nm => CorePrelude.NotFoundError nm

/-- the struct `(*Sequence).Parse` builds -/
def seqOf (W : World Context) (sh : SeqShape) (S : Sequence) : sequence :=
  { token := S.token, parserLookUp := S.parserLookUp, lenCheck := S.lenCheck, interpreter := S.interpreter,
    curtailingParsers := CorePrelude.Data.EmptyIntSet, result := .nil, err := .nil, nodes := [],
    resultHandler := some (seqDefaultResultHandler_parse W sh.single) }

theorem seqOf_static (W : World Context) (cfg : Cfg) (fuel : Nat) (sh : SeqShape) (S : Sequence)
    (h : SeqStatic W cfg fuel sh S) : Static W cfg fuel sh (seqOf W sh S) :=
  ⟨h.tok, h.interp, h.look, h.len, ⟨_, rfl, fun pos nodes s => tie_handler W sh pos nodes s⟩⟩

/-- what (*sequence).Parse returns: the result, with the error handed to the context, or the error -/
def RSeq (a : sequence × CNode × IntSet × CErr) (s2 : Context) (r : Bool × SeqSt × St) : Prop :=
  a.2 = (if r.2.1.result.isNil then (.nil, eSet r.2.1.cp, eErr r.2.1.err) else (eRes r.2.1.result, eSet r.2.1.cp, .nil)) ∧
  StRel s2 (if r.2.1.result.isNil then r.2.2 else r.2.2.setError r.2.1.err)

/-- (*sequence).Parse: `parse` from depth 0 -/
theorem tie_sequence_Parse (W : World Context) (cfg : Cfg) (fuel : Nat) (sh : SeqShape) (s0 : sequence)
    (S : Static W cfg fuel sh s0) (h0 : s0 = mkS s0 {} []) (f : Nat) (m : IntMap) (c : Ctx) (hm : CtxRel m c) (pos : Nat)
    (s : Context) (st : St) (hs : StRel s st) :
    Sim RSeq (sequence_Parse W (2 * f - 1) s0 m pos s) (seqParse (run cfg fuel) sh f 0 [] c pos true {} st) := by
  have hsim := seq_parse_simF W cfg fuel sh s0 S f ⟨0, [], c, pos, true⟩ m {} [] s st rfl hm rfl hs
  dsimp only at hsim
  rw [← h0] at hsim
  refine Sim.bind hsim id ?_
  rintro _ s1 ⟨b, ss, st1⟩ hr ⟨buf1, rfl, r1, -⟩
  rw [hr]
  have hres : (mkS s0 ss buf1).result.isNil = ss.result.isNil := eRes_isNil _
  have herr : (mkS s0 ss buf1).err.isNil = ss.err.isNone := eErr_isNil _
  simp only [hres, herr]
  cases hn : ss.result.isNil
  · cases hse : ss.err with
    | none => exact .ret ⟨by dsimp only; rw [hn]; rfl, by simpa [hn, hse, St.setError] using r1⟩
    | some e =>
      obtain ⟨s2, e2, r2⟩ := tie_SetError W s1 st1 r1 ss.err
      have e2 : Context_SetError W (mkS s0 ss buf1).err s1 = .ok () s2 := e2
      exact ⟨_, s2, by
        simp only [Option.isNone_some, Bool.not_false, Bool.false_eq_true, if_true, if_false, bind_bind, bind_ok e2, pure_bind]; rfl,
        by dsimp only; rw [hn]; rfl, by simpa [hn] using r2⟩
  · exact .ret ⟨by dsimp only; rw [hn]; rfl, by simpa [hn] using r1⟩

theorem tie_Sequence_Parse (W : World Context) (cfg : Cfg) (h0 : cfg.maxCalls = 0) (fuel : Nat) (g : G) (sh : SeqShape)
    (hg : g.shape = some sh) (S : Sequence) (hS : SeqStatic W cfg fuel sh S) :
    AgreesF (Sequence_Parse W (2 * fuel - 1) S) cfg (fuel + 1) g := by
  intro m c pos s st hm hs
  rw [run_seqfam cfg fuel g sh c pos st hg, if_neg (run_budget0 cfg h0 st)]
  unfold runSeq
  have hend := tie_sequence_Parse W cfg fuel sh (seqOf W sh S) (seqOf_static W cfg fuel sh S hS) rfl fuel m c hm pos s st hs
  have hname := hS.name
  -- the struct built by Parse is `seqOf W sh S` (no handler: the default one; or ReturnSingle())
  rcases hS.hand with ⟨h1, h2⟩ | ⟨h1, h2⟩ <;>
  · simp only [seqOf, h2] at hend
    simp only [Sequence_Parse, h1, Option.isNone_none, Option.isNone_some, Bool.not_true, Bool.not_false, Bool.false_eq_true,
      if_true, if_false, pure_bind]
    refine corr_iff.mpr (Sim.bind hend (fun h => by rw [h]) ?_)
    rintro ⟨s0', out⟩ s2 ⟨b, ss, st1⟩ hr ⟨e, r2⟩
    rw [hr]
    dsimp only at e r2 ⊢
    subst e
    unfold seqFinish
    cases hn : ss.result.isNil <;> simp only [hn, Bool.false_eq_true, if_true, if_false] at r2 ⊢
    · -- a result: the error went to the context
      refine ⟨_, s2, ?_, rfl, r2⟩
      cases sh.name <;> simp [eOut]
    · -- no result: the error is returned, renamed if `Name` was set and it is a "not found" at the start
      refine ⟨_, s2, ?_, rfl, r2⟩
      cases hse : ss.err with
      | none => cases sh.name <;> simp [eOut, (isNil_iff _).mp hn]
      | some e =>
        cases hn' : sh.name with
        | none =>
          rw [hn'] at hname
          simp [eOut, (isNil_iff _).mp hn, hname, CorePrelude.Cause.isNil]
        | some nm =>
          rw [hn'] at hname
          by_cases hpos : e.pos = pos <;> cases hk : e.kind.isNotFound <;>
            simp [eOut, (isNil_iff _).mp hn, hname, CorePrelude.Cause.isNil, CorePrelude.NotFoundError, CorePrelude.NewError,
              Int.natCast_inj, hpos, hk]

end PV.CoreTie
