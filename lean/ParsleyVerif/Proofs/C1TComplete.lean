/-
  THE REUSE INVARIANT WITH TRIMS (C01 with trims, completeness, half A): the result cache, the curtailing
  sets, the context reset of seq.go and the two trims of text/trim.go never lose a CURTAILED derivation
  (`DerivesCW`, Spec/DerivesW.lean).  The instance `coverW` of Proofs/Cover.lean; the two trims are the operators the
  family proves itself.  The invariant carries, in addition, what the scope predicates `ErrFree` / `OneAlt` promise
  about an answer (`OutShape`, the field `X` of the instance) — also for cached answers.

  LeftTrim needs nothing new: `run` calls the operand at the position after the whitespace with the SAME
  context, `DerivesCW.ltrim` derives the operand there under the SAME counters, and `OutC` does not mention
  the relation between counters and positions at all.

  At the end, completeness THROUGH the `Sentence` wrapper (`sentence_completeW`): `sentence_complete_of_operand` of
  Proofs/Sentence.lean with `run_completeW` for the operand.
-/
import ParsleyVerif.Proofs.C1TBasics
import ParsleyVerif.Proofs.RunComplete
namespace PV.C1T
open PV PV.Text

def OutC (cfg : Cfg) (g : G) (ctx : Ctx) (pos : Nat) (o : Out) : Prop :=
  ∀ (c' : Nat → Nat) (x : Node), (∀ k ∈ o.cp, ctx.get k ≤ c' k) → DerivesCW cfg c' g pos x → x ∈ o.res.alts

structure EntryC (cfg : Cfg) (bodyOf : Nat → G) (e : CacheEntry) : Prop where
  keys : ∀ kv ∈ e.ctx, kv.1 ∈ e.cp
  complete : ∀ (c' : Nat → Nat) (x : Node), (∀ kv ∈ e.ctx, kv.2 ≤ c' kv.1) →
      DerivesCW cfg c' (.memo e.idx (bodyOf e.idx)) e.pos x → x ∈ e.res.alts
  noEOF : NoEOF e.res
  /-- a cached answer of an `ErrFree` body is a result or an error, never both -/
  shape : ErrFree cfg (bodyOf e.idx) → e.res.isNil = false → e.err = none

def CacheC (cfg : Cfg) (bodyOf : Nat → G) (st : St) : Prop := ∀ e ∈ st.cache, EntryC cfg bodyOf e

theorem FragW.rtrim {cfg : Cfg} {g : G} {m : WsMode} (h : FragW cfg (.rtrim g m)) :
    ErrFree cfg g ∧ (m = .spacesNl ∨ OneAlt g) := G.All_self (P := FragLocalW cfg) h

/-- the derivations of a token do not depend on the counters -/
theorem derivesCW_oneAlt (cfg : Cfg) (g : G) (ho : OneAlt g) {c c2 : Nat → Nat} {pos : Nat} {x : Node}
    (h : DerivesCW cfg c g pos x) : DerivesCW cfg c2 g pos x :=
  @DerivesCW.rec cfg (fun _ g pos x _ => OneAlt g → DerivesCW cfg c2 g pos x) (fun _ _ _ _ _ _ => True)
    (fun hp _ => .term hp) (fun _ => .empty) (fun _ _ _ ho => ho.elim) (fun _ _ _ ho => ho.elim)
    (fun _ _ _ ho => ho.elim) (fun _ _ ho => ho.elim) (fun ho => ho.elim) (fun _ _ _ _ ho => ho.elim)
    (fun hws _ ih ho => .ltrim hws (ih ho)) (fun _ hok ih ho => .rtrim (ih ho) hok)
    trivial (fun _ _ _ _ _ => trivial) c g pos x h ho

theorem FragLocalW.cases {cfg : Cfg} {g : G} (h : FragLocalW cfg g) :
    g.isMono = true ∨ (∃ g' m, g = .ltrim g' m) ∨ ∃ g' m, g = .rtrim g' m := by
  cases g with
  | seq k gs o => cases k <;> first | exact .inl rfl | exact False.elim h
  | term | empty | ref | memo | any | optional => exact .inl rfl
  | ltrim g' m => exact .inr (.inl ⟨_, _, rfl⟩)
  | rtrim g' m => exact .inr (.inr ⟨_, _, rfl⟩)
  | _ => exact False.elim h

def coverW (cfg : Cfg) (bodyOf : Nat → G) (henv : ∀ g' ∈ cfg.env, FragW cfg g' ∧ GOK bodyOf g') : Cover cfg where
  D := DerivesCW cfg
  DS := DerivesSeqCW cfg
  leaf := fun _ => False
  Sg := fun g => FragW cfg g ∧ GOK bodyOf g
  Sc := fun _ _ => True
  Q := fun _ _ x => x.token ≠ eofTok
  QS := fun _ _ _ => True
  X := OutShape cfg
  Inv := CacheC cfg bodyOf
  d_inv := fun {c g pos x} _ hm h => by
    cases h with
    | term a => exact .term a
    | empty => exact .empty
    | ref a b => exact .ref a b
    | memo a b => exact .memo a b
    | any a b => exact .any a b
    | optSome a => exact .optSome a
    | optNone => exact .optNone
    | seqOf a b c => exact .seqOf a b c
    | ltrim _ _ => cases hm
    | rtrim _ _ => cases hm
  ds_inv := fun h => by cases h with | cons hl hn hrest => exact ⟨_, hl, hn, hrest⟩
  sg_kids := fun hg _ _ k hk => ⟨hg.1.kid hk, hg.2.kid hk⟩
  sg_ref := fun _ _ hk => henv _ (List.mem_of_getElem? hk)
  sg_tok := fun hg _ => G.All_self (P := FragLocalW cfg) hg.1
  sc_inc := fun _ _ _ => trivial
  sc_next := fun _ _ => ⟨trivial, trivial⟩
  q_tok := id
  q_step := fun hg _ _ hx => by
    cases hx with
    | term hp => exact G.All_self (P := FragLocalW cfg) hg.1 _ _ hp
    | empty => exact emptyNode_token _
    | ref _ h => exact h
    | memo h => exact h
    | any _ h => exact h
    | optSome h => exact h
    | optNone => exact emptyNode_token _
    | seqOf hs _ hn _ =>
      exact handleResult_token _ _ _ ((seqOf_shape hs).2 ▸ G.All_self (P := FragLocalW cfg) hg.1) hn
  qs_nil := fun _ => trivial
  qs_snoc := fun _ _ _ => trivial
  x_term := OutShape_term ..
  x_one := OutShape_one ..
  x_nil := OutShape_nil ..
  x_ref := OutShape_ref
  x_memo := fun h => OutShape_memo h.1
  x_any := OutShape_any ..
  x_opt := OutShape_of_not _ (fun h => h) (fun h => h)
  x_seq := OutShape_seqOf ..
  inv_frame := cacheAll_of_eq
  inv_hit := fun hI hg _ hc => by
    obtain ⟨hm, rfl, rfl⟩ := cacheGet_some hc
    have hE := hI _ hm
    have hb := G.All_self (P := LocalOK bodyOf) hg.2
    exact ⟨hE.keys, hb ▸ hE.complete, hE.noEOF, OutShape_memo (hb ▸ hE.shape)⟩
  inv_save := fun hI hg _ _ hcov hq hx e he => by
    cases mem_cacheSave he with
    | inl h =>
      subst h
      exact ⟨fun kv hkv => (mem_ctx_filter.mp hkv).2, G.All_self (P := LocalOK bodyOf) hg.2 ▸ hcov, hq,
        G.All_self (P := LocalOK bodyOf) hg.2 ▸ hx.1⟩
    | inr h => exact hI e h

theorem run_completeW (cfg : Cfg) (bodyOf : Nat → G) (henv : ∀ g' ∈ cfg.env, FragW cfg g' ∧ GOK bodyOf g') :
    ∀ fuel g ctx pos st o st', FragW cfg g → GOK bodyOf g → CacheC cfg bodyOf st → run cfg fuel g ctx pos st = some (o, st') →
      OutC cfg g ctx pos o ∧ NoEOF o.res ∧ OutShape cfg g o ∧ CacheC cfg bodyOf st' := fun fuel g ctx pos st o st' hf hg hcs h => by
  have := (coverW cfg bodyOf henv).run_cover
    (fun fuel hr g ctx pos st o st' hg _ hcs hl h => by
      obtain ⟨hf, hg⟩ := hg
      rcases (G.All_self (P := FragLocalW cfg) hf).cases with hm | ⟨g', m, rfl⟩ | ⟨g', m, rfl⟩
      · exact absurd hm (hl.elim False.elim fun e => by rw [e]; exact Bool.noConfusion)
      · -- LeftTrim: the operand at the position after the whitespace, under the same context
        obtain ⟨o1, st1, hrun, heq⟩ := runStep_wrap_some (w := ⟨g', _, _⟩) rfl h
        cases heq
        obtain ⟨h1, h2, h3, h4⟩ := hr g' ctx _ st o1 _ ⟨hf.kid (.head _), hg.kid (.head _)⟩ trivial hcs hrun
        refine ⟨?_, fun x hx => h2 x (ltrimOut_alts _ _ _ _ x hx), OutShape_ltrim cfg g' m _ _ _ o1 h3,
          h4⟩
        intro c' x hdom hd
        cases hd with
        | ltrim hws hd' =>
          have hw : wsToErr (skipWhitespaces cfg.file pos m).2 = none := by rw [hws]; rfl
          simp only [hw] at hdom ⊢
          rw [ltrimOut_none] at hdom ⊢
          exact h1 c' x hdom hd'
      · -- RightTrim: every alternative of the operand, moved
        obtain ⟨o1, st1, hrun, heq⟩ := runStep_wrap_some (w := ⟨g', _, _⟩) rfl h
        cases heq
        obtain ⟨r1, r2⟩ := FragW.rtrim hf
        obtain ⟨h1, h2, h3, h4⟩ := hr g' ctx _ st o1 _ ⟨hf.kid (.head _), hg.kid (.head _)⟩ trivial hcs hrun
        have herr := h3.1 r1
        have hone : m = .spacesNl ∨ o1.res.alts.length ≤ 1 := r2.elim .inl (fun ho => .inr (h3.2 ho))
        refine ⟨?_, rtrimOut_noEOF cfg m o1 h2, OutShape_rtrim cfg g' m o1 h3, h4⟩
        intro c' x hdom hd
        cases hd with
        | rtrim hd' hok =>
          rename_i n
          have hdom' : ∀ k ∈ (rtrimOut cfg.file m o1).cp, ctx.get k ≤ c' k := hdom
          rcases rtrimOut_cases cfg.file m o1 with ⟨e, he, ho⟩ | ⟨_, w, hs, _⟩ | ⟨_, _, ho⟩
          · rw [ho] at hdom'
            have hn := h1 c' n hdom' hd'
            rw [alts_nil_of_isNil (isNil_of_err herr he)] at hn; cases hn
          · exfalso
            cases r2 with
            | inl h5 => subst h5; rw [setRposRes_snd_spacesNl] at hs; cases hs
            | inr h5 =>
              have hn := h1 (fun k => ctx.get k) n (fun k _ => Nat.le_refl _) (derivesCW_oneAlt cfg g' h5 hd')
              have hys := setRposRes_snd_one cfg.file m o1.res n hn (h3.2 h5)
              rw [hs] at hys
              have : movedErr cfg m n = some w := hys.symm
              rw [hok] at this; cases this
          · rw [ho] at hdom'
            exact (rtrimOut_complete cfg m o1 herr hone n (h1 c' n hdom' hd') hok).1)
    fuel g ctx pos st o st' ⟨hf, hg⟩ trivial hcs h
  exact this

theorem sentence_completeW (cfg : Cfg) (bodyOf : Nat → G) (henv : ∀ g' ∈ cfg.env, FragW cfg g' ∧ GOK bodyOf g')
    (g : G) (hf : FragW cfg g) (hg : GOK bodyOf g) (fuel : Nat) (pos : Nat) (st : St) (hst : CacheC cfg bodyOf st)
    (o : Out) (st' : St) (h : run cfg fuel (G.sentence g) [] pos st = some (o, st'))
    (y : Node) (hy : DerivesCW cfg zeroC g pos y) (hend : isEOF cfg.file y.rpos = true) :
    o.res.alts ≠ [] ∧ o.err = none := by
  refine sentence_complete_of_operand cfg g fuel pos st o st' h y ?_ hend
  intro fuel' o1 st2 hr
  obtain ⟨hO, _, _⟩ := run_completeW cfg bodyOf henv fuel' g [] pos st.regCall o1 st2 hf hg (cacheAll_of_eq hst rfl) hr
  exact hO zeroC y (by intro k _; exact Nat.zero_le _) hy

end PV.C1T
