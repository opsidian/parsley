/-
  The tie of the TERMINAL PARSERS (terminal/*.go): each translated parse closure `X_parse` (Generated/FactsTerm.lean)
  against `Terminal.parse`, kind by kind (`tie_Rune` … `tie_Regexp`), all kinds together (`termClosure`, `tie_terminal`),
  and the constructors as definitions (`termNew`, `NamesOK`).

  Every tie here goes the same way.  The closure's next world call is rewritten by its contract to the model's
  function, and the cases of the model's answer are the cases of `Terminal.parse`.  In a case that ends, closure and model
  compute to the same value (`rfl`, so the proof does not depend on how the Go source writes its tests).  In a case that
  goes on, `simp only [closureStep, …]` binds the answer and decides the tests on it, which brings the next call to the front.
-/
import ParsleyVerif.Proofs.TermTieBasics
import ParsleyVerif.Proofs.Lang
namespace PV.TermTie
open PV.CoreTie PV.Text PV.TermPrelude PV.FactsTerm

variable {σ : Type}

/-! Rune, Op, Word, Bool, Nil: one or two reader calls, a typed leaf. -/

/-- terminal.Rune(ch); `name` = strconv.Quote(string(ch)) -/
theorem tie_Rune (T : TWorld) (cfg : Cfg) (hT : TWorldRel T cfg) (ch : Nat) (name : Bytes) (m : IntMap) (pos : Nat) (s : σ) :
    CorrT (Rune_parse T (ch : Int) name m (pos : Int) s) s ((Terminal.rune ch name).parse cfg.params cfg.file pos) := by
  unfold Rune_parse Terminal.parse
  simp only [hT.readRune, stringOfRune_nat]
  rcases readRune cfg.file pos ch with _ | ⟨rp, _ | _⟩ <;> rfl

/-- terminal.Op(op); `name` = strconv.Quote(op) -/
theorem tie_Op (T : TWorld) (cfg : Cfg) (hT : TWorldRel T cfg) (op name : Bytes) (m : IntMap) (pos : Nat) (s : σ) :
    CorrT (Op_parse T op name m (pos : Int) s) s ((Terminal.op op name).parse cfg.params cfg.file pos) := by
  unfold Op_parse Terminal.parse
  simp only [hT.matchString]
  rcases matchString cfg.file pos op with _ | ⟨rp, _ | _⟩ <;> rfl

/-- terminal.Word(schema, word, value); `name` = strconv.Quote(word), the token is strings.ToUpper(word), the value is opaque -/
theorem tie_Word (T : TWorld) (cfg : Cfg) (hT : TWorldRel T cfg) (schema : CorePrelude.Opaque) (w : Bytes) (valId : Nat)
    (name : Bytes) (m : IntMap) (pos : Nat) (s : σ) :
    CorrT (Word_parse T schema w (eVal (.opaque valId)) name (upperAscii w) m (pos : Int) s) s
      ((Terminal.word w valId name).parse cfg.params cfg.file pos) := by
  unfold Word_parse Terminal.parse
  simp only [hT.matchWord]
  rcases matchWord cfg.file pos w with _ | ⟨rp, _ | _⟩ <;> rfl

/-- terminal.Bool(schema, trueStr, falseStr) -/
theorem tie_Bool (T : TWorld) (cfg : Cfg) (hT : TWorldRel T cfg) (schema : CorePrelude.Opaque) (ts fs : Bytes)
    (m : IntMap) (pos : Nat) (s : σ) :
    CorrT (Bool_parse T schema ts fs (CorePrelude.Go.str "boolean") m (pos : Int) s) s
      ((Terminal.bool ts fs).parse cfg.params cfg.file pos) := by
  unfold Bool_parse Terminal.parse
  simp only [hT.matchWord]
  rcases matchWord cfg.file pos ts with _ | ⟨rp, _ | _⟩
  · rfl
  · rcases matchWord cfg.file pos fs with _ | ⟨rp, _ | _⟩ <;> rfl
  · rfl

/-- terminal.Nil(schema, nilStr): the name in the error is the word itself -/
theorem tie_Nil (T : TWorld) (cfg : Cfg) (hT : TWorldRel T cfg) (schema : CorePrelude.Opaque) (w : Bytes)
    (m : IntMap) (pos : Nat) (s : σ) :
    CorrT (Nil_parse T schema w w m (pos : Int) s) s ((Terminal.nil w).parse cfg.params cfg.file pos) := by
  unfold Nil_parse Terminal.parse
  simp only [hT.matchWord]
  rcases matchWord cfg.file pos w with _ | ⟨rp, _ | _⟩ <;> rfl

/-! Integer, Float, TimeDuration: a literal regular expression, then a library conversion of the lexeme.
    The expressions in the Go source are the printed syntax trees of Spec/Regex.lean. -/

theorem rx_integer : CorePrelude.Go.str "[-+]?(?:[1-9][0-9]*|0[xX][0-9a-fA-F]+|0[0-7]*)" = rxBytes Rx.integerSx := by
  unfold rxBytes; rw [Rx.integerSx_src]; rfl

theorem rx_float : CorePrelude.Go.str "[-+]?[0-9]*\\.[0-9]+(?:[eE][-+]?[0-9]+)?" = rxBytes Rx.floatSx := by
  unfold rxBytes; rw [Rx.floatSx_src]; rfl

theorem rx_duration :
    CorePrelude.Go.str "[-+]?(?:[0-9]+(?:\\.[0-9]+)?(?:ns|us|µs|μs|ms|s|m|h))+" = rxBytes Rx.durationSx := by
  unfold rxBytes; rw [Rx.durationSx_src]; rfl

theorem readRegexp_integer_isInt (f : File) (pos rp : Nat) (lex : Bytes)
    (h : readRegexp integerMatch f pos = some (rp, some lex)) : Lang.IsInt lex := by
  rcases readRegexp_cases integerMatch f pos with e | e | ⟨m, hm, -, e, -⟩ <;> rw [e] at h <;> cases h
  exact integerMatch_sound _ m hm

theorem tie_Integer (T : TWorld) (cfg : Cfg) (hT : TWorldRel T cfg) (schema : CorePrelude.Opaque)
    (m : IntMap) (pos : Nat) (s : σ) :
    CorrT (Integer_parse T schema (CorePrelude.Go.str "integer value") m (pos : Int) s) s
      (Terminal.integer.parse cfg.params cfg.file pos) := by
  unfold Integer_parse Terminal.parse
  simp only [rx_integer, hT.reInteger]
  rcases h : readRegexp integerMatch cfg.file pos with _ | ⟨rp, _ | lex⟩
  · rfl
  · rfl
  · have hp := hT.parseInt lex (readRegexp_integer_isInt _ _ _ _ h)
    have h46 : T.Reader_ReadRune rp 46 = _ := hT.readRune rp 46
    rcases hq : T.strconv_ParseInt lex 0 64 with ⟨iv, er⟩
    rw [hq] at hp
    simp only [closureStep, h46, Go.stringOfBytes, hq]
    rcases readRune cfg.file rp 46 with _ | ⟨_, _ | _⟩
    · rfl
    · revert hp
      rcases parseInt0 lex with _ | v <;> intro hp
      · simp only [closureStep, show er.isNil = false from hp]
        rfl
      · cases (show (iv, er) = (v, .nil) from hp)
        rfl
    · rfl

/-- terminal.Float(schema): the value is symbolic (the lexeme) -/
theorem tie_Float (T : TWorld) (cfg : Cfg) (hT : TWorldRel T cfg) (schema : CorePrelude.Opaque)
    (m : IntMap) (pos : Nat) (s : σ) :
    CorrT (Float_parse T schema (CorePrelude.Go.str "float value") m (pos : Int) s) s
      (Terminal.float.parse cfg.params cfg.file pos) := by
  unfold Float_parse Terminal.parse
  simp only [rx_float, hT.reFloat]
  rcases readRegexp floatMatch cfg.file pos with _ | ⟨rp, _ | lex⟩
  · rfl
  · rfl
  · have hp := hT.parseFloat lex
    rcases hq : T.strconv_ParseFloat lex 64 with ⟨fv, er⟩
    rw [hq] at hp
    simp only [closureStep, Go.stringOfBytes, hq]
    revert hp
    cases cfg.params.floatOk lex <;> intro hp
    · simp only [closureStep, show er.isNil = false from hp]
      rfl
    · cases (show (fv, er) = (symOf lex, .nil) from hp)
      rfl

/-- terminal.TimeDuration(schema): the value is symbolic (the lexeme), the error is ParseDuration's -/
theorem tie_TimeDuration (T : TWorld) (cfg : Cfg) (hT : TWorldRel T cfg) (schema : CorePrelude.Opaque)
    (m : IntMap) (pos : Nat) (s : σ) :
    CorrT (TimeDuration_parse T schema (CorePrelude.Go.str "time duration") m (pos : Int) s) s
      (Terminal.duration.parse cfg.params cfg.file pos) := by
  unfold TimeDuration_parse Terminal.parse
  simp only [rx_duration, hT.reDuration]
  rcases readRegexp durationMatch cfg.file pos with _ | ⟨rp, _ | lex⟩
  · rfl
  · rfl
  · have hp := hT.parseDuration lex
    rcases hq : T.time_ParseDuration lex with ⟨dv, er⟩
    rw [hq] at hp
    simp only [closureStep, Go.stringOfBytes, hq]
    revert hp
    rcases cfg.params.durErr lex with _ | msg <;> intro hp
    · cases (show (dv, er) = (symOf lex, .nil) from hp)
      rfl
    · cases (show er = .other 0 msg from hp)
      rfl

/-! Char and String: several reader calls in a row, each with its own error position; UnquoteChar; the quote selection
    of String, the backquote body, Readf with unquoteString. -/

theorem rx_char :
    CorePrelude.Go.str "\\\\[abfnrtv']|\\\\x[0-9a-fA-F]{2,2}|\\\\u[0-9a-fA-F]{4,4}|\\\\U[0-9a-fA-F]{8,8}|[^']" =
      rxBytes Rx.charSx := by
  unfold rxBytes; rw [Rx.charSx_src]; rfl

theorem rx_backquote : CorePrelude.Go.str "[^`]+" = rxBytes Rx.backquoteSx := by
  unfold rxBytes; rw [Rx.backquoteSx_src]; rfl

theorem tie_Char (T : TWorld) (cfg : Cfg) (hT : TWorldRel T cfg) (schema : CorePrelude.Opaque)
    (m : IntMap) (pos : Nat) (s : σ) :
    CorrT (Char_parse T schema (CorePrelude.Go.str "char literal") m (pos : Int) s) s
      (Terminal.char.parse cfg.params cfg.file pos) := by
  unfold Char_parse Terminal.parse
  have h39 : ∀ p : Nat, T.Reader_ReadRune p 39 = _ := fun p => hT.readRune p 39
  simp only [h39]
  rcases readRune cfg.file pos 39 with _ | ⟨rp1, _ | _⟩
  · rfl
  · rfl
  · simp only [closureStep, rx_char, hT.reChar]
    rcases readRegexp charMatch cfg.file rp1 with _ | ⟨rp2, _ | res⟩
    · rfl
    · rfl
    · have hu := hT.unquoteChar res
      rcases hq : T.strconv_UnquoteChar res 39 with ⟨v, mb, tail, er⟩
      rw [hq] at hu
      simp only [closureStep, h39, Go.stringOfBytes, hq]
      rcases readRune cfg.file rp2 39 with _ | ⟨rp3, _ | _⟩
      · rfl
      · rfl
      · simp only [closureStep, goStr_empty]
        revert hu
        rcases unquoteChar res 39 with _ | ⟨v', tl⟩ <;> intro hu
        · simp only [closureStep, show er.isNil = false from hu]
          rfl
        · obtain ⟨mb', hu⟩ := hu
          cases hu
          cases tail <;> rfl

/-- `parsley.NewErrorf(readerPos, "was expecting '%s'", string(quote))` -/
theorem expecting_quote (a : Bytes) :
    Go.subst1 (CorePrelude.Go.str "was expecting '%s'") a = tokOf "was expecting '" ++ a ++ tokOf "'" := by
  have h : CorePrelude.Go.str "was expecting '%s'" = tokOf "was expecting '" ++ 37 :: 115 :: tokOf "'" ∧
      37 ∉ tokOf "was expecting '" := by decide +kernel
  rw [h.1, subst1_append _ _ _ h.2]

theorem tie_String (T : TWorld) (cfg : Cfg) (hT : TWorldRel T cfg) (schema : CorePrelude.Opaque) (bq : Bool)
    (m : IntMap) (pos : Nat) (s : σ) :
    CorrT (String_parse T schema bq (CorePrelude.Go.str "string literal") m (pos : Int) s) s
      ((Terminal.string bq).parse cfg.params cfg.file pos) := by
  unfold String_parse Terminal.parse
  have h34 : ∀ p : Nat, T.Reader_ReadRune p 34 = _ := fun p => hT.readRune p 34
  have h96 : ∀ p : Nat, T.Reader_ReadRune p 96 = _ := fun p => hT.readRune p 96
  simp only [h34]
  rcases readRune cfg.file pos 34 with _ | ⟨rp1, _ | _⟩
  · rfl
  · -- no double quote
    cases bq
    · rfl
    · simp only [closureStep, h96]
      rcases readRune cfg.file pos 96 with _ | ⟨rp1, _ | _⟩
      · rfl
      · rfl
      · -- a backquoted literal
        simp only [closureStep, h96]
        rcases readRune cfg.file rp1 96 with _ | ⟨rp2, _ | _⟩
        · rfl
        · simp +decide only [closureStep, rx_backquote, hT.reBackquote]
          rcases readRegexp backquoteMatch cfg.file rp2 with _ | ⟨rp3, value⟩
          · rfl
          · simp only [closureStep, h96, NewErrorf1, expecting_quote]
            rcases readRune cfg.file rp3 96 with _ | ⟨rp4, _ | _⟩
            · rfl
            · rfl
            · cases value <;> rfl
        · simp only [goStr_empty]
          rfl
  · -- a double-quoted literal
    simp only [closureStep, h34]
    rcases readRune cfg.file rp1 34 with _ | ⟨rp2, _ | _⟩
    · rfl
    · simp +decide only [closureStep, hT.readf]
      rcases readf unquoteString cfg.file rp2 with _ | ⟨rp3, value⟩
      · rfl
      · simp only [closureStep, h34, NewErrorf1, expecting_quote]
        rcases readRune cfg.file rp3 34 with _ | ⟨rp4, _ | _⟩
        · rfl
        · rfl
        · cases value <;> rfl
    · simp only [goStr_empty]
      rfl

/-! Regexp: a user expression; the whole match or a capturing group, the documented panic when the group does not
    exist. -/

theorem onth_some {α : Type} (ms : List α) (gi : Int) (v : α) (h0 : 0 < gi) (hv : ms[gi.toNat]? = some v) :
    (Go.onth (some ms) gi : TM σ α) = pure v := by
  simp only [Go.onth, CorePrelude.Go.nth, Int.le_of_lt h0, if_true, hv]

/-- terminal.Regexp(schema, token, name, regexp, groupIndex) for the model's expression `id` -/
theorem tie_Regexp (T : TWorld) (cfg : Cfg) (schema : CorePrelude.Opaque) (id : Nat) (tok name rx : Bytes) (gi : Int)
    (hasGroup : Bool) (hR : RegexpRel T cfg id rx gi) (hg : hasGroup = decide (gi ≠ 0)) (m : IntMap) (pos : Nat) (s : σ) :
    CorrT (Regexp_parse T schema tok rx gi name m (pos : Int) s) s
      ((Terminal.regexp id tok name hasGroup).parse cfg.params cfg.file pos) := by
  unfold Regexp_parse Terminal.parse
  subst hg
  by_cases h0 : gi = 0
  · -- the whole match
    have hw := hR.whole
    unfold userEngine at hw
    simp only [h0, closureStep, hw]
    rcases readRegexp _ cfg.file pos with _ | ⟨rp, _ | mm⟩ <;> rfl
  · -- the capturing group `gi`
    obtain ⟨hpos, hsub⟩ := hR.group h0
    have hs := hsub pos
    unfold userEngine at hs
    simp only [h0, ne_eq, not_false_eq_true, closureStep]
    revert hs
    rcases readRegexp _ cfg.file pos with _ | ⟨rp, _ | mm⟩ <;> intro hs
    · rw [show T.Reader_ReadRegexpSubmatch pos rx = none from hs]
      rfl
    · rw [show T.Reader_ReadRegexpSubmatch pos rx = some ((rp : Int), none) from hs]
      rfl
    · obtain ⟨ms, hms, hgr⟩ := hs
      simp only [hms, closureStep, Go.olen, ge_iff_le]
      revert hgr
      rcases cfg.params.regexp id (List.drop (pos - cfg.file.offset) cfg.file.data) with _ | ⟨ml, _ | g⟩ <;> intro hgr
      · -- no such group: the index is out of range
        simp only [show (ms.length : Int) ≤ gi from hgr, closureStep]
        rfl
      · simp only [show (ms.length : Int) ≤ gi from hgr, closureStep]
        rfl
      · obtain ⟨v, hv, rfl⟩ := hgr
        have hlt : ¬ (ms.length : Int) ≤ gi := by
          have := (List.getElem?_eq_some_iff.mp hv).1
          omega
        simp only [hlt, closureStep, onth_some ms gi v hpos hv]
        rfl

/-- how the Go program writes the model's user expressions: the text of the expression `id`, and the group index it passes
    to terminal.Regexp for the model's `hasGroup` (the model's engine parameter `Params.regexp id` reports the value of
    that group) -/
structure RxNames where
  text : Nat → Bytes
  group : Nat → Bool → Int

/-- the translated closure of a terminal: the generated function of its constructor, applied to the construction
    parameters the model's `Terminal` records (the captured `notFoundErr` is `parsley.NotFoundError` of the name the
    constructor computes; Word's token is strings.ToUpper(word), its value an opaque payload; the schema is arbitrary) -/
def termClosure (T : TWorld) (X : RxNames) (schema : CorePrelude.Opaque) :
    Terminal → IntMap → Int → TM σ (CNode × IntSet × CErr)
  | .rune ch name => Rune_parse T (ch : Int) name
  | .op op name => Op_parse T op name
  | .word w valId name => Word_parse T schema w (eVal (.opaque valId)) name (upperAscii w)
  | .bool ts fs => Bool_parse T schema ts fs (CorePrelude.Go.str "boolean")
  | .nil w => Nil_parse T schema w w
  | .integer => Integer_parse T schema (CorePrelude.Go.str "integer value")
  | .float => Float_parse T schema (CorePrelude.Go.str "float value")
  | .string bq => String_parse T schema bq (CorePrelude.Go.str "string literal")
  | .char => Char_parse T schema (CorePrelude.Go.str "char literal")
  | .duration => TimeDuration_parse T schema (CorePrelude.Go.str "time duration")
  | .regexp id tok name hasGroup => Regexp_parse T schema tok (X.text id) (X.group id hasGroup) name

/-- what is assumed of the regexp engine for a Regexp terminal (nothing for the others) -/
def RegexpOK (T : TWorld) (cfg : Cfg) (X : RxNames) : Terminal → Prop
  | .regexp id _ _ hasGroup =>
    RegexpRel T cfg id (X.text id) (X.group id hasGroup) ∧ hasGroup = decide (X.group id hasGroup ≠ 0)
  | _ => True

theorem tie_terminal (T : TWorld) (cfg : Cfg) (hT : TWorldRel T cfg) (X : RxNames) (schema : CorePrelude.Opaque)
    (t : Terminal) (hX : RegexpOK T cfg X t) (m : IntMap) (pos : Nat) (s : σ) :
    CorrT (termClosure T X schema t m (pos : Int) s) s (t.parse cfg.params cfg.file pos) := by
  cases t with
  | rune ch name => exact tie_Rune T cfg hT ch name m pos s
  | op op name => exact tie_Op T cfg hT op name m pos s
  | word w valId name => exact tie_Word T cfg hT schema w valId name m pos s
  | bool ts fs => exact tie_Bool T cfg hT schema ts fs m pos s
  | nil w => exact tie_Nil T cfg hT schema w m pos s
  | integer => exact tie_Integer T cfg hT schema m pos s
  | float => exact tie_Float T cfg hT schema m pos s
  | string bq => exact tie_String T cfg hT schema bq m pos s
  | char => exact tie_Char T cfg hT schema m pos s
  | duration => exact tie_TimeDuration T cfg hT schema m pos s
  | regexp id tok name hasGroup => exact tie_Regexp T cfg schema id tok name _ _ hasGroup hX.1 hX.2 m pos s

/-
  The constructors.  A constructor `func X(params) parser.Func { pre…; return func(ctx, leftRecCtx, pos) {…} }` runs `pre`
  once, when the grammar is built, and the closure captures the variables `pre` defines (`notFoundErr`, Word's `token`).  `factgen
  -out-term` translates `pre` as `X_new` (answers those variables) and the literal as `X_parse` (takes them as parameters).
  `termNew` is the constructor as a whole: `X_new`, then the closure over what it answered; `NamesOK`: the name a terminal
  of the model records is the one the constructor computes (strconv.Quote of the rune / operator / word — the model takes
  the quoted name as a construction parameter).  What is proved of them: `c08q_constructors` (Props/C08Q.lean).
-/

/-- the Go constructor of a terminal: the statements before the `return`, then the function literal over the variables
    they defined -/
def termNew (T : TWorld) (X : RxNames) (schema : CorePrelude.Opaque) :
    Terminal → TM σ (IntMap → Int → TM σ (CNode × IntSet × CErr))
  | .rune ch _ => do let nf ← Rune_new T (ch : Int); pure (Rune_parse T (ch : Int) nf)
  | .op op _ => do let nf ← Op_new T op; pure (Op_parse T op nf)
  | .word w valId _ => do
    let r ← Word_new T schema w (eVal (.opaque valId))
    pure (Word_parse T schema w (eVal (.opaque valId)) r.1 r.2)
  | .bool ts fs => do let nf ← Bool_new T schema ts fs; pure (Bool_parse T schema ts fs nf)
  | .nil w => do let nf ← Nil_new T schema w; pure (Nil_parse T schema w nf)
  | .integer => do let nf ← Integer_new T schema; pure (Integer_parse T schema nf)
  | .float => do let nf ← Float_new T schema; pure (Float_parse T schema nf)
  | .string bq => do let nf ← String_new T schema bq; pure (String_parse T schema bq nf)
  | .char => do let nf ← Char_new T schema; pure (Char_parse T schema nf)
  | .duration => do let nf ← TimeDuration_new T schema; pure (TimeDuration_parse T schema nf)
  | .regexp id tok name hasGroup => do
    let nf ← Regexp_new T schema tok name (X.text id) (X.group id hasGroup)
    pure (Regexp_parse T schema tok (X.text id) (X.group id hasGroup) nf)

/-- the name the model's terminal records is the one the constructor computes with strconv.Quote -/
def NamesOK (T : TWorld) : Terminal → Prop
  | .rune ch name => name = T.strconv_Quote (Utf8.encodeRune ch)
  | .op op name => name = T.strconv_Quote op
  | .word w _ name => name = T.strconv_Quote w
  | _ => True

end PV.TermTie
