/-
  C03, transparency: the run of a grammar with Memoize wrappers and the run of the same grammar with every
  wrapper removed are related — same results, same returned error, the furthest recorded error at the same
  position, and the memoized run registers no more calls (`run_transparent`: from an empty cache, for a run whose
  ghost log contains no curtail event).

  One relational induction on fuel (`run_sim`; its step, for any runner of the memoized side, is `runStep_sim`),
  used twice:
    * with `H := False` (no Memoize on either side, `cfg = cfg0`) it is the STATE INDEPENDENCE of a
      Memoize-free grammar: two runs from different left-recursion contexts and different context states
      return the same results and error and raise the furthest-error position by the same amount (`indep`);
    * with `H := True` it is the simulation: a cache hit returns what the un-memoized body returns when it is
      run again (by state independence, applied to the run recorded in the cache invariant), and leaves the
      furthest-error position where the re-run would leave it, because that run's errors were already
      recorded when the entry was stored.
  The curtailing sets (`Out.cp`) never influence results or errors, so the relation ignores them.
-/
import ParsleyVerif.Proofs.MemoBasics
namespace PV
open PV.Text

abbrev stripAll (g : G) : G := g.strip (fun _ => true)

theorem stripList_eq_map (S : Nat → Bool) : ∀ gs, stripList S gs = gs.map (G.strip S)
  | [] => by simp [stripList]
  | g :: gs => by simp only [stripList, List.map_cons, stripList_eq_map S gs]

def MemoOK (H : Prop) (bodyOf : Nat → G) : G → Prop
  | .memo i b => H ∧ b = bodyOf i
  | _ => True

mutual
theorem strip_of_noMemo (S : Nat → Bool) (bo : Nat → G) : ∀ g : G, g.All (MemoOK False bo) → g.strip S = g
  | .term _, _ => rfl
  | .empty, _ => rfl
  | .eof, _ => rfl
  | .ref _, _ => rfl
  | .memo _ _, h => h.1.1.elim
  | .any gs, h => congrArg G.any (stripList_of_noMemo S bo gs h.2)
  | .choice gs, h => congrArg G.choice (stripList_of_noMemo S bo gs h.2)
  | .seq k gs o, h => congrArg (G.seq k · o) (stripList_of_noMemo S bo gs h.2)
  | .many g ae o, h => congrArg (G.many · ae o) (strip_of_noMemo S bo g h.2)
  | .sepBy v s ae o, h => by rw [G.strip, strip_of_noMemo S bo v h.2.1, strip_of_noMemo S bo s h.2.2]
  | .optional g, h => congrArg G.optional (strip_of_noMemo S bo g h.2)
  | .name g nm, h => congrArg (G.name · nm) (strip_of_noMemo S bo g h.2)
  | .ltrim g m, h => congrArg (G.ltrim · m) (strip_of_noMemo S bo g h.2)
  | .rtrim g m, h => congrArg (G.rtrim · m) (strip_of_noMemo S bo g h.2)
  | .single g, h => congrArg G.single (strip_of_noMemo S bo g h.2)
  | .suppress g, h => congrArg G.suppress (strip_of_noMemo S bo g h.2)
theorem stripList_of_noMemo (S : Nat → Bool) (bo : Nat → G) :
    ∀ gs : List G, AllList (MemoOK False bo) gs → stripList S gs = gs
  | [], _ => rfl
  | g :: gs, h => by rw [stripList, strip_of_noMemo S bo g h.1, stripList_of_noMemo S bo gs h.2]
end

mutual
theorem noMemo_stripAll (bo : Nat → G) : ∀ g : G, (stripAll g).All (MemoOK False bo)
  | .term _ => trivial
  | .empty => trivial
  | .eof => trivial
  | .ref _ => trivial
  | .memo _ b => noMemo_stripAll bo b
  | .any gs => ⟨trivial, noMemo_stripList bo gs⟩
  | .choice gs => ⟨trivial, noMemo_stripList bo gs⟩
  | .seq _ gs _ => ⟨trivial, noMemo_stripList bo gs⟩
  | .many g _ _ => ⟨trivial, noMemo_stripAll bo g⟩
  | .sepBy v s _ _ => ⟨trivial, noMemo_stripAll bo v, noMemo_stripAll bo s⟩
  | .optional g => ⟨trivial, noMemo_stripAll bo g⟩
  | .name g _ => ⟨trivial, noMemo_stripAll bo g⟩
  | .ltrim g _ => ⟨trivial, noMemo_stripAll bo g⟩
  | .rtrim g _ => ⟨trivial, noMemo_stripAll bo g⟩
  | .single g => ⟨trivial, noMemo_stripAll bo g⟩
  | .suppress g => ⟨trivial, noMemo_stripAll bo g⟩
theorem noMemo_stripList (bo : Nat → G) : ∀ gs : List G, AllList (MemoOK False bo) (stripList (fun _ => true) gs)
  | [] => trivial
  | g :: gs => ⟨noMemo_stripAll bo g, noMemo_stripList bo gs⟩
end

structure StripCfg (cfg cfg0 : Cfg) : Prop where
  file : cfg0.file = cfg.file
  params : cfg0.params = cfg.params
  env : cfg0.env = cfg.env.map stripAll

/-- every cache entry is the answer of some run of the un-memoized body at the entry's position, and the
    furthest error position that run left behind is already covered by the current context -/
def CacheInv (cfg0 : Cfg) (bo : Nat → G) (st : St) : Prop :=
  ∀ e ∈ st.cache, ∃ fr cr sr orr sr', run cfg0 fr (stripAll (bo e.idx)) cr e.pos sr = some (orr, sr') ∧
    orr.res = e.res ∧ orr.err = e.err ∧ pn sr' ≤ pn st

theorem CacheInv.mono {cfg0 : Cfg} {bo : Nat → G} {st st' : St} (h : CacheInv cfg0 bo st)
    (hc : st'.cache = st.cache) (hp : pn st ≤ pn st') : CacheInv cfg0 bo st' := by
  intro e he
  rw [hc] at he
  obtain ⟨fr, cr, sr, orr, sr', h1, h2, h3, h4⟩ := h e he
  exact ⟨fr, cr, sr, orr, sr', h1, h2, h3, Nat.le_trans h4 hp⟩

def Indep (cfg0 : Cfg) (bo : Nat → G) : Prop :=
  ∀ g f1 c1 p s1 o1 s1' f2 c2 s2 o2 s2', g.All (MemoOK False bo) →
    run cfg0 f1 g c1 p s1 = some (o1, s1') → run cfg0 f2 g c2 p s2 = some (o2, s2') →
    o1.res = o2.res ∧ o1.err = o2.err ∧ ∃ M, pn s1' = max (pn s1) M ∧ pn s2' = max (pn s2) M

structure HitHyp (cfg cfg0 : Cfg) (bo : Nat → G) : Prop where
  ghost : cfg.ghost = true
  indep : Indep cfg0 bo

/-- the memoized side `st` against the stripped side `st0` before a call; `L` is the FINAL log of the memoized call
    (`NoCurtail` is asked of it and pulled back along suffixes, `SPre.sub`) -/
def SPre (H : Prop) (cfg0 : Cfg) (bo : Nat → G) (L : List Ev) (st st0 : St) : Prop :=
  H → NoCurtail L ∧ CacheInv cfg0 bo st ∧ pn st = pn st0

/-- what a pair of calls does to the pair of states.  `calls`: the memoized side registers no more calls than the stripped one;
    `far`: both furthest-error positions go up to a common `M` — a `max` and not an equality, because without `H` (state
    independence) the two sides start from different positions -/
structure Eff (H : Prop) (cfg0 : Cfg) (bo : Nat → G) (st st' st0 st0' : St) : Prop where
  calls : st'.calls + st0.calls ≤ st0'.calls + st.calls
  far : ∃ M, pn st' = max (pn st) M ∧ pn st0' = max (pn st0) M
  inv : H → CacheInv cfg0 bo st'

theorem SPre.sub {H : Prop} {cfg0 : Cfg} {bo : Nat → G} {L L' : List Ev} {st st0 : St}
    (h : SPre H cfg0 bo L st st0) (hs : L' <:+ L) : SPre H cfg0 bo L' st st0 :=
  fun hh => ⟨(h hh).1.of_suffix hs, (h hh).2⟩

theorem SPre.next {H : Prop} {cfg0 : Cfg} {bo : Nat → G} {L : List Ev} {st st' st0 st0' : St}
    (h : SPre H cfg0 bo L st st0) (e : Eff H cfg0 bo st st' st0 st0') : SPre H cfg0 bo L st' st0' := by
  intro hh
  obtain ⟨h1, _, h3⟩ := h hh
  obtain ⟨M, m1, m2⟩ := e.far
  exact ⟨h1, e.inv hh, by rw [m1, m2, h3]⟩

theorem Eff.refl {H : Prop} {cfg0 : Cfg} {bo : Nat → G} {L : List Ev} {st st0 : St}
    (h : SPre H cfg0 bo L st st0) : Eff H cfg0 bo st st st0 st0 :=
  ⟨Nat.le_of_eq (Nat.add_comm _ _), ⟨0, (Nat.max_zero _).symm, (Nat.max_zero _).symm⟩, fun hh => (h hh).2.1⟩

theorem Eff.trans {H : Prop} {cfg0 : Cfg} {bo : Nat → G} {a b c a0 b0 c0 : St}
    (h1 : Eff H cfg0 bo a b a0 b0) (h2 : Eff H cfg0 bo b c b0 c0) : Eff H cfg0 bo a c a0 c0 := by
  obtain ⟨M1, m1, m2⟩ := h1.far
  obtain ⟨M2, m3, m4⟩ := h2.far
  have := h1.calls
  have := h2.calls
  exact ⟨by omega, ⟨max M1 M2, by rw [m3, m1, Nat.max_assoc], by rw [m4, m2, Nat.max_assoc]⟩, h2.inv⟩

theorem Eff.step {H : Prop} {cfg0 : Cfg} {bo : Nat → G} {L : List Ev} {st st' st0 st0' : St}
    (h : SPre H cfg0 bo L st st0) (hc : st'.cache = st.cache)
    (hcalls : st'.calls + st0.calls ≤ st0'.calls + st.calls)
    (hpn : ∃ M, pn st' = max (pn st) M ∧ pn st0' = max (pn st0) M) : Eff H cfg0 bo st st' st0 st0' := by
  refine ⟨hcalls, hpn, fun hh => (h hh).2.1.mono hc ?_⟩
  obtain ⟨M, m1, _⟩ := hpn
  rw [m1]; exact Nat.le_max_left _ _

theorem Eff.regCall {H : Prop} {cfg0 : Cfg} {bo : Nat → G} {L : List Ev} {st st0 : St}
    (h : SPre H cfg0 bo L st st0) : Eff H cfg0 bo st st.regCall st0 st0.regCall :=
  Eff.step h rfl (by simp only [St.regCall]; omega) ⟨0, (Nat.max_zero _).symm, (Nat.max_zero _).symm⟩

theorem Eff.setError {H : Prop} {cfg0 : Cfg} {bo : Nat → G} {L : List Ev} {st st0 : St}
    (h : SPre H cfg0 bo L st st0) (e : Option Err) : Eff H cfg0 bo st (st.setError e) st0 (st0.setError e) :=
  Eff.step h (setError_cache _ _) (by rw [setError_calls, setError_calls]; omega)
    ⟨pe e, pn_setError _ _, pn_setError _ _⟩

structure SPost (H : Prop) (cfg0 : Cfg) (bo : Nat → G) (st st' st0 st0' : St) (o o0 : Out) : Prop where
  res : o.res = o0.res
  err : o.err = o0.err
  eff : Eff H cfg0 bo st st' st0 st0'

/-- the invariant of TWO runs (hence a walk of its own, not an instance of `RunInv`): `r` on the grammar, `r0` on its
    stripped form, under any two contexts -/
def Sim (H : Prop) (cfg0 : Cfg) (bo : Nat → G) (r r0 : RunFn) : Prop :=
  ∀ g ctx ctx0 pos st st0 x x0, g.All (MemoOK H bo) →
    r g ctx pos st = some x → r0 (stripAll g) ctx0 pos st0 = some x0 →
    SPre H cfg0 bo x.2.log st st0 → SPost H cfg0 bo st x.2 st0 x0.2 x.1 x0.1

def AltRel (a a0 : AltSt) : Prop := a.res = a0.res ∧ a.err = a0.err ∧ a.nf = a0.nf

theorem altErr_rel (pos : Nat) (a a0 : AltSt) (e : Option Err) (h : AltRel a a0) :
    AltRel (altErr pos a e) (altErr pos a0 e) := by
  obtain ⟨cp, res, err, nf⟩ := a
  obtain ⟨cp0, res0, err0, nf0⟩ := a0
  obtain ⟨rfl, rfl, rfl⟩ : res = res0 ∧ err = err0 ∧ nf = nf0 := h
  cases e with
  | none => exact ⟨rfl, rfl, rfl⟩
  | some e2 =>
    -- the two sides take the same branches: the tests read `err` only
    have key : ∀ c1 c2 : Bool, AltRel
        (if c1 then if c2 then ⟨cp, res, some e2, nf⟩ else ⟨cp, res, err, some e2⟩ else ⟨cp, res, err, nf⟩)
        (if c1 then if c2 then ⟨cp0, res, some e2, nf⟩ else ⟨cp0, res, err, some e2⟩ else ⟨cp0, res, err, nf⟩) := by
      intro c1 c2; cases c1 <;> cases c2 <;> exact ⟨rfl, rfl, rfl⟩
    exact key _ _

theorem anyLoop_sim {H : Prop} {cfg0 : Cfg} {bo : Nat → G} {r r0 : RunFn} (hs : Sim H cfg0 bo r r0) (hg : RunGrow r)
    (ctx ctx0 : Ctx) (pos : Nat) :
    ∀ (gs : List G) a st a' st', anyLoop r ctx pos gs a st = some (a', st') →
      ∀ a0 st0 a0' st0', AllList (MemoOK H bo) gs →
      anyLoop r0 ctx0 pos (stripList (fun _ => true) gs) a0 st0 = some (a0', st0') →
      AltRel a a0 → SPre H cfg0 bo st'.log st st0 →
      AltRel a' a0' ∧ Eff H cfg0 bo st st' st0 st0' := by
  refine anyLoop_elim r ctx pos ?_ ?_
  · intro a st a0 st0 a0' st0' _ h0 hrel hpre
    cases h0
    exact ⟨hrel, Eff.refl hpre⟩
  · intro g gs a st o st1 a' st' hr htl ih a0 st0 a0' st0' hall h0 hrel hpre
    simp only [anyLoop, stripList] at h0
    split at h0
    · cases h0
    · rename_i o0 st01 hr0
      have e0 := Eff.regCall hpre
      have hp := hs g ctx ctx0 pos _ _ (o, st1) (o0, st01) hall.1 hr hr0
        ((hpre.next e0).sub (anyLoop_grow hg _ _ _ _ _ _ _ htl).log)
      have e1 := e0.trans hp.eff
      rw [← hp.res, ← hp.err] at h0
      obtain ⟨hr2, e2⟩ := ih _ _ _ _ hall.2 h0
        (altErr_rel pos _ _ _ ⟨by simp only [hrel.1], hrel.2.1, hrel.2.2⟩) (hpre.next e1)
      exact ⟨hr2, e1.trans e2⟩

def OptRel : Option Out → Option Out → Prop
  | none, none => True
  | some x, some y => x.res = y.res ∧ x.err = y.err
  | _, _ => False

theorem choiceLoop_sim {H : Prop} {cfg0 : Cfg} {bo : Nat → G} {r r0 : RunFn} (hs : Sim H cfg0 bo r r0) (hg : RunGrow r)
    (ctx ctx0 : Ctx) (pos : Nat) :
    ∀ (gs : List G) a st a0 st0 out a' st' out0 a0' st0', AllList (MemoOK H bo) gs →
      choiceLoop r ctx pos gs a st = some (out, a', st') →
      choiceLoop r0 ctx0 pos (stripList (fun _ => true) gs) a0 st0 = some (out0, a0', st0') →
      AltRel a a0 → SPre H cfg0 bo st'.log st st0 →
      OptRel out out0 ∧ AltRel a' a0' ∧ Eff H cfg0 bo st st' st0 st0' := by
  intro gs
  induction gs with
  | nil =>
    intro a st a0 st0 out a' st' out0 a0' st0' _ h h0 hrel hpre
    simp only [choiceLoop, stripList] at h h0
    cases h; cases h0
    exact ⟨trivial, hrel, Eff.refl hpre⟩
  | cons g gs ih =>
    intro a st a0 st0 out a' st' out0 a0' st0' hall h h0 hrel hpre
    simp only [AllList] at hall
    simp only [choiceLoop, stripList] at h h0
    split at h
    · cases h
    · rename_i o st1 hr
      split at h0
      · cases h0
      · rename_i o0 st01 hr0
        have e0 := Eff.regCall hpre
        have hrel1 : AltRel (altErr pos { a with cp := cpUnion a.cp o.cp } o.err)
            (altErr pos { a0 with cp := cpUnion a0.cp o0.cp } o.err) :=
          altErr_rel pos _ _ _ ⟨hrel.1, hrel.2.1, hrel.2.2⟩
        have hsuf : st1.log <:+ st'.log := by
          split at h
          · cases h; rw [setError_log]; exact List.suffix_refl _
          · exact (choiceLoop_grow hg _ _ _ _ _ _ _ _ h).log
        have hp := hs g ctx ctx0 pos _ _ (o, st1) (o0, st01) hall.1 hr hr0 ((hpre.next e0).sub hsuf)
        have e1 := e0.trans hp.eff
        rw [← hp.res, ← hp.err] at h0
        split at h <;> rename_i hn
        · rw [if_pos hn] at h0
          cases h; cases h0
          rw [hrel1.2.1]
          exact ⟨⟨rfl, rfl⟩, hrel1, e1.trans (Eff.setError (hpre.next e1) _)⟩
        · rw [if_neg hn] at h0
          obtain ⟨hr1, hr2, e2⟩ := ih _ _ _ _ _ _ _ _ _ _ hall.2 h h0 hrel1 (hpre.next e1)
          exact ⟨hr1, hr2, e1.trans e2⟩

def SeqRel (ss ss0 : SeqSt) : Prop := ss.result = ss0.result ∧ ss.err = ss0.err

structure ShapeRel (sh sh0 : SeqShape) : Prop where
  lookup : ∀ i, sh0.lookup i = (sh.lookup i).map stripAll
  lenCheck : ∀ i, sh0.lenCheck i = sh.lenCheck i
  token : sh0.token = sh.token
  interp : sh0.interp = sh.interp
  single : sh0.single = sh.single
  name : sh0.name = sh.name

/-- `T` is Memoize removal (`shape_strip`) or index renaming (`shape_ren`) -/
theorem shape_map (T : G → G) (Ts : List G → List G) (hTs : ∀ gs, Ts gs = gs.map T)
    (hseq : ∀ k gs o, T (.seq k gs o) = .seq k (Ts gs) o) (hmany : ∀ g ae o, T (.many g ae o) = .many (T g) ae o)
    (hsep : ∀ v s ae o, T (.sepBy v s ae o) = .sepBy (T v) (T s) ae o) {g : G} {sh : SeqShape}
    (h : g.shape = some sh) :
    ∃ sh', (T g).shape = some sh' ∧ (∀ i, sh'.lookup i = (sh.lookup i).map T) ∧
      (∀ i, sh'.lenCheck i = sh.lenCheck i) ∧ sh'.token = sh.token ∧ sh'.interp = sh.interp ∧
      sh'.single = sh.single ∧ sh'.name = sh.name := by
  cases g with
  | seq k gs o =>
    cases h
    rw [hseq]
    refine ⟨_, rfl, ?_, ?_, rfl, rfl, rfl, rfl⟩
    · intro i; simp [hTs]
    · intro i; simp [hTs]
  | many g1 ae o =>
    cases h
    rw [hmany]
    exact ⟨_, rfl, fun _ => rfl, fun _ => rfl, rfl, rfl, rfl, rfl⟩
  | sepBy v s ae o =>
    cases h
    rw [hsep]
    refine ⟨_, rfl, ?_, fun _ => rfl, rfl, rfl, rfl, rfl⟩
    intro i
    show (if i % 2 == 0 then some (T v) else some (T s)) = (if i % 2 == 0 then some v else some s).map T
    split <;> rfl
  | _ => cases h

theorem shape_strip {g : G} {sh : SeqShape} (h : g.shape = some sh) :
    ∃ sh0, (stripAll g).shape = some sh0 ∧ ShapeRel sh sh0 :=
  let ⟨sh0, h0, h1, h2, h3, h4, h5, h6⟩ := shape_map stripAll _ (stripList_eq_map _)
    (fun _ _ _ => by simp only [stripAll, G.strip]) (fun _ _ _ => by simp only [stripAll, G.strip])
    (fun _ _ _ _ => by simp only [stripAll, G.strip]) h
  ⟨sh0, h0, h1, h2, h3, h4, h5, h6⟩

theorem handleResult_congr {sh sh' : SeqShape} (ht : sh'.token = sh.token) (hi : sh'.interp = sh.interp)
    (hs : sh'.single = sh.single) (pos : Nat) (nodes : List Node) :
    handleResult sh' pos nodes = handleResult sh pos nodes := by
  unfold handleResult
  rw [ht, hi, hs]

theorem seqAlts_sim {H : Prop} {cfg0 : Cfg} {bo : Nat → G} (k k0 : Node → SeqSt → St → Option (Bool × SeqSt × St))
    (hgk : ∀ n ss st b ss' st', k n ss st = some (b, ss', st') → Grow st st')
    (hk : ∀ n ss ss0 st st0 b ss' st' b0 ss0' st0', k n ss st = some (b, ss', st') →
        k0 n ss0 st0 = some (b0, ss0', st0') → SeqRel ss ss0 → SPre H cfg0 bo st'.log st st0 →
        b = b0 ∧ SeqRel ss' ss0' ∧ Eff H cfg0 bo st st' st0 st0') :
    ∀ l ss st b ss' st', seqAlts k l ss st = some (b, ss', st') →
      ∀ ss0 st0 b0 ss0' st0', seqAlts k0 l ss0 st0 = some (b0, ss0', st0') → SeqRel ss ss0 →
      SPre H cfg0 bo st'.log st st0 → b = b0 ∧ SeqRel ss' ss0' ∧ Eff H cfg0 bo st st' st0 st0' := by
  refine seqAlts_elim k ?_ ?_ ?_
  · intro ss st ss0 st0 b0 ss0' st0' h0 hrel hpre
    cases h0
    exact ⟨rfl, hrel, Eff.refl hpre⟩
  · intro n rest ss st ss' st' hk1 ss0 st0 b0 ss0' st0' h0 hrel hpre
    cases hk01 : k0 n ss0 st0 with
    | none => simp [seqAlts, hk01] at h0
    | some x0 =>
      obtain ⟨b01, ss01, st01⟩ := x0
      obtain ⟨hb, hr, e⟩ := hk n _ _ _ _ _ _ _ _ _ _ hk1 hk01 hrel hpre
      subst hb
      simp only [seqAlts, hk01] at h0
      cases h0
      exact ⟨rfl, hr, e⟩
  · intro n rest ss st ss1 st1 b ss' st' hk1 htl ih ss0 st0 b0 ss0' st0' h0 hrel hpre
    cases hk01 : k0 n ss0 st0 with
    | none => simp [seqAlts, hk01] at h0
    | some x0 =>
      obtain ⟨b01, ss01, st01⟩ := x0
      obtain ⟨hb, hr, e⟩ := hk n _ _ _ _ _ _ _ _ _ _ hk1 hk01 hrel (hpre.sub (seqAlts_grow k hgk rest _ _ _ _ _ htl).log)
      subst hb
      simp only [seqAlts, hk01] at h0
      obtain ⟨hb2, hr2, e2⟩ := ih _ _ _ _ _ h0 hr (hpre.next e)
      exact ⟨hb2, hr2, e.trans e2⟩

theorem seqAfter_rel (merge merge0 : Bool) (ss ss0 : SeqSt) (o o0 : Out) (h : SeqRel ss ss0) (he : o.err = o0.err) :
    SeqRel (seqAfter merge ss o) (seqAfter merge0 ss0 o0) := by
  unfold seqAfter SeqRel
  cases merge <;> cases merge0 <;> simp [h.1, h.2, he]

theorem seqParse_sim {H : Prop} {cfg0 : Cfg} {bo : Nat → G} {r r0 : RunFn} (hs : Sim H cfg0 bo r r0) (hg : RunGrow r)
    {sh sh0 : SeqShape} (hsh : ShapeRel sh sh0) (hall : ∀ i g, sh.lookup i = some g → g.All (MemoOK H bo)) :
    ∀ fuel fuel0 depth nodes ctx ctx0 pos merge merge0 ss ss0 st st0 b ss' st' b0 ss0' st0',
      depth = nodes.length →
      seqParse r sh fuel depth nodes ctx pos merge ss st = some (b, ss', st') →
      seqParse r0 sh0 fuel0 depth nodes ctx0 pos merge0 ss0 st0 = some (b0, ss0', st0') →
      SeqRel ss ss0 → SPre H cfg0 bo st'.log st st0 →
      b = b0 ∧ SeqRel ss' ss0' ∧ Eff H cfg0 bo st st' st0 st0' := by
  intro fuel
  induction fuel with
  | zero => intro fuel0 depth nodes ctx ctx0 pos merge merge0 ss ss0 st st0 b ss' st' b0 ss0' st0' _ h; cases h
  | succ fuel ih =>
    intro fuel0 depth nodes ctx ctx0 pos merge merge0 ss ss0 st st0 b ss' st' b0 ss0' st0' hd h h0 hrel hpre
    cases fuel0 with
    | zero => cases h0
    | succ fuel0 =>
      rw [seqParse_deeper r sh fuel ⟨depth, nodes, ctx, pos, merge⟩] at h
      rw [seqParse_deeper r0 sh0 fuel0 ⟨depth, nodes, ctx0, pos, merge0⟩] at h0
      split at h
      · cases h
      rename_i o st1 hc
      split at h0
      · cases h0
      rename_i o0 st01 hc0
      -- the call of element `depth`, given that the log only grows from `st1` on
      have hp : Grow st1 st' → SPost H cfg0 bo st st1 st0 st01 o o0 := by
        intro htail
        unfold seqCall at hc hc0
        rw [hsh.lookup] at hc0
        cases hl : sh.lookup depth with
        | none =>
          simp only [hl, Option.map_none] at hc hc0
          cases hc; cases hc0
          exact ⟨rfl, rfl, Eff.refl hpre⟩
        | some g =>
          simp only [hl, Option.map_some] at hc hc0
          have e0 := Eff.regCall hpre
          have hp := hs g ctx ctx0 pos _ _ (o, st1) (o0, st01) (hall _ _ hl) hc hc0 ((hpre.next e0).sub htail.log)
          exact ⟨hp.res, hp.err, e0.trans hp.eff⟩
      have hemit : ∀ ss1 ss01, SeqRel ss1 ss01 → SeqRel (seqEmit sh ⟨depth, nodes, ctx, pos, merge⟩ ss1)
          (seqEmit sh0 ⟨depth, nodes, ctx0, pos, merge0⟩ ss01) := fun ss1 ss01 h1 =>
        ⟨by simp only [seqEmit, h1.1, handleResult_congr hsh.token hsh.interp hsh.single], h1.2⟩
      by_cases hn : o.res.isNil = true
      · have hst : st' = st1 := by rw [if_pos hn] at h; split at h <;> cases h <;> rfl
        have hp := hp (hst ▸ Grow.refl _)
        have hrel1 := seqAfter_rel merge merge0 _ _ _ _ hrel hp.err
        rw [if_pos hn] at h
        rw [← hp.res, if_pos hn, hsh.lenCheck] at h0
        split at h <;> rename_i hlc
        · rw [if_pos hlc] at h0; cases h; cases h0
          exact ⟨rfl, hemit _ _ hrel1, hp.eff⟩
        · rw [if_neg hlc] at h0; cases h; cases h0
          exact ⟨rfl, hrel1, hp.eff⟩
      · rw [if_neg hn] at h
        have hgk := fun n ss2 st2 b2 ss3 st3 hk => seqParse_grow hg sh fuel
          (Frame.next ⟨depth, nodes, ctx, pos, merge⟩ n) ss2 st2 b2 ss3 st3 (Frame.next_depth hd _) hk
        have hp := hp (seqAlts_grow _ hgk _ _ _ _ _ _ h)
        rw [← hp.res, if_neg hn] at h0
        obtain ⟨hb, hr2, e2⟩ := seqAlts_sim (H := H) (cfg0 := cfg0) (bo := bo) _ _ hgk
          (fun n ss2 ss02 st2 st02 b2 ss3 st3 b02 ss03 st03 hk hk0 hr hpr =>
            ih fuel0 (depth + 1) (nodes ++ [n]) _ _ n.rpos _ _ ss2 ss02 st2 st02 b2 ss3 st3 b02 ss03 st03
              (by simp [hd]) hk hk0 hr hpr)
          _ _ _ _ _ _ h _ _ _ _ _ h0 (seqAfter_rel merge merge0 _ _ _ _ hrel hp.err) (hpre.next hp.eff)
        exact ⟨hb, hr2, hp.eff.trans e2⟩

theorem Eff.logEv {H : Prop} {cfg0 : Cfg} {bo : Nat → G} {L : List Ev} {st st0 : St}
    (h : SPre H cfg0 bo L st st0) (cfg : Cfg) (ev ev0 : Ev) :
    Eff H cfg0 bo st (st.logEv cfg ev) st0 (st0.logEv cfg0 ev0) := by
  obtain ⟨hf1, _, hf3, _, _⟩ := logEv_fields st cfg ev
  obtain ⟨_, _, hg3, _, _⟩ := logEv_fields st0 cfg0 ev0
  exact Eff.step h hf1 (by rw [hf3, hg3]; exact Nat.le_of_eq (Nat.add_comm _ _))
    ⟨0, by rw [pn_logEv, Nat.max_zero], by rw [pn_logEv, Nat.max_zero]⟩

/-- one level of the memoized run against the un-memoized run: at a Memoize the un-memoized side does not move (it
    has the body where the memoized side has the wrapper), at every other parser both take one step -/
theorem runStep_sim (H : Prop) (cfg cfg0 : Cfg) (bo : Nat → G) (hc : StripCfg cfg cfg0)
    (henv : ∀ g' ∈ cfg.env, g'.All (MemoOK H bo)) (hH : H → HitHyp cfg cfg0 bo) {r : RunFn} (hgrow : RunGrow r)
    (hs : ∀ f0, Sim H cfg0 bo r (run cfg0 f0)) (fuel : Nat) :
    ∀ f0, Sim H cfg0 bo (runStep cfg r fuel) (run cfg0 f0) := by
  intro f0 g ctx ctx0 pos st st0 x x0 hg h h0 hpre
  by_cases hm : ∃ i b, g = .memo i b
  · obtain ⟨idx, body, rfl⟩ := hm
    have e : stripAll (.memo idx body) = stripAll body := by simp [stripAll, G.strip]
    rw [e] at h0
    simp only [G.All, MemoOK] at hg
    obtain ⟨⟨hh, hbody⟩, hgb⟩ := hg
    obtain ⟨hghost, hindep⟩ := hH hh
    obtain ⟨hnc, hci, hpn⟩ := hpre hh
    rcases memoStep_some h with ⟨e, hcg, rfl⟩ | ⟨_, _, rfl⟩ | ⟨_, _, o2, st2, hr, rfl⟩
    · -- a hit returns what the un-memoized body returns when it is run again
      obtain ⟨hmem, hi, hp⟩ := cacheGet_some hcg
      obtain ⟨fr, cr, sr, orr, sr', hrr, hres, herr, hle⟩ := hci e hmem
      rw [hi, hp, ← hbody] at hrr
      obtain ⟨i1, i2, M, m1, m2⟩ := hindep _ _ _ _ _ _ _ _ _ _ _ _ (noMemo_stripAll bo body) hrr h0
      have hc0 := (run_grow cfg0 f0 _ _ _ _ _ _ h0).calls
      obtain ⟨hf1, _, hf3, _, _⟩ := logEv_fields st cfg (.hit idx pos)
      -- that run's errors were recorded when the entry was stored: `M ≤ pn sr' ≤ pn st = pn st0`
      have hM : M ≤ pn st0 := by rw [← hpn]; exact Nat.le_trans (m1 ▸ Nat.le_max_right _ _) hle
      exact ⟨by rw [← hres]; exact i1, by rw [← herr]; exact i2,
        Eff.step hpre hf1 (by rw [hf3]; omega)
          ⟨0, by rw [pn_logEv, Nat.max_zero], by rw [m2, Nat.max_eq_left hM, Nat.max_zero]⟩⟩
    · rw [logEv_ghost hghost] at hnc
      exact absurd (List.mem_cons_self ..) (hnc idx pos)
    · obtain ⟨hf1, hf2, hf3, _⟩ := memoEnter_frame cfg idx pos st
      have hpre1 : SPre H cfg0 bo st2.log (memoEnter cfg idx pos st) st0 := fun _ =>
        ⟨hnc, hci.mono hf1 (Nat.le_of_eq (congrArg pe hf2).symm), (congrArg pe hf2).trans hpn⟩
      have hp := hs f0 body (ctx.inc idx) ctx0 pos _ st0 (o2, st2) x0 hgb hr h0 hpre1
      obtain ⟨M, m1, m2⟩ := hp.eff.far
      rw [show pn (memoEnter cfg idx pos st) = pn st from congrArg pe hf2] at m1
      have hcalls := hp.eff.calls
      rw [hf3] at hcalls
      refine ⟨hp.res, hp.err, ⟨hcalls, ⟨M, m1, m2⟩, fun _ => ?_⟩⟩
      intro e he
      cases mem_cacheSave he with
      | inl h1 =>
        subst h1
        refine ⟨f0, ctx0, st0, x0.1, x0.2, by rw [← hbody]; exact h0, hp.res.symm, hp.err.symm, ?_⟩
        show pn x0.2 ≤ pn st2
        rw [m2, show pn st2 = _ from m1, hpn]; exact Nat.le_refl _
      | inr h1 => exact hp.eff.inv hh e h1
  · obtain ⟨f1, rfl, hstep0⟩ := run_some_inv h0
    have hs' := hs f1
    cases g using G.shapes cfg.file pos with
    | term t =>
      cases h; cases hstep0
      unfold termStep
      rw [hc.file, hc.params]
      split
      · exact ⟨rfl, rfl, Eff.refl hpre⟩
      · exact ⟨rfl, rfl, Eff.logEv hpre _ _ _⟩
      · exact ⟨rfl, rfl, Eff.refl hpre⟩
    | empty => cases h; cases hstep0; exact ⟨rfl, rfl, Eff.refl hpre⟩
    | eof =>
      cases h; cases hstep0
      unfold eofStep
      rw [hc.file]
      split
      · exact ⟨rfl, rfl, Eff.refl hpre⟩
      · exact ⟨rfl, rfl, Eff.logEv hpre _ _ _⟩
    | ref k =>
      have e : stripAll (.ref k) = .ref k := by simp only [stripAll, G.strip]
      rw [e] at hstep0
      rcases runStep_ref_some h with ⟨g', hk, h1⟩ | ⟨hk, rfl⟩ <;>
        rcases runStep_ref_some hstep0 with ⟨g0, hk0, h2⟩ | ⟨hk0, rfl⟩ <;>
        rw [hc.env, List.getElem?_map, hk] at hk0
      · cases hk0
        exact hs' g' ctx ctx0 pos st st0 x x0 (henv g' (List.mem_of_getElem? hk)) h1 h2 hpre
      · cases hk0
      · cases hk0
      · exact ⟨rfl, rfl, Eff.refl hpre⟩
    | memo idx body => exact absurd ⟨_, _, rfl⟩ hm
    | any gs =>
      have e : stripAll (.any gs) = .any (stripList (fun _ => true) gs) := by simp only [stripAll, G.strip]
      rw [e] at hstep0
      obtain ⟨a, st1, hl, rfl⟩ := runStep_any_some h
      obtain ⟨a0, st01, hl0, rfl⟩ := runStep_any_some hstep0
      have hlog := (St.frame_of_or (anyFinish_st a st1)).2.2.1
      obtain ⟨hr1, e1⟩ := anyLoop_sim hs' hgrow ctx ctx0 pos gs {} st a st1 hl {} st0 a0 st01 hg.2 hl0
        ⟨rfl, rfl, rfl⟩ (hpre.sub (by rw [hlog]; exact List.suffix_refl _))
      unfold anyFinish AltSt.finalErr
      rw [← hr1.1, ← hr1.2.1, ← hr1.2.2]
      by_cases hnil : a.res.isNil = true
      · rw [if_pos hnil, if_pos hnil]
        exact ⟨rfl, rfl, e1⟩
      · rw [if_neg hnil, if_neg hnil]
        exact ⟨rfl, rfl, e1.trans (Eff.setError (hpre.next e1) _)⟩
    | choice gs =>
      have e : stripAll (.choice gs) = .choice (stripList (fun _ => true) gs) := by simp only [stripAll, G.strip]
      rw [e] at hstep0
      obtain ⟨⟨out, a, st1⟩, hl, rfl⟩ := runStep_choice_some h
      obtain ⟨⟨out0, a0, st01⟩, hl0, rfl⟩ := runStep_choice_some hstep0
      have hlog := choiceFinish_st out a st1
      obtain ⟨hr0, hr1, e1⟩ := choiceLoop_sim hs' hgrow ctx ctx0 pos gs {} st {} st0 out a st1 out0 a0 st01
        hg.2 hl hl0 ⟨rfl, rfl, rfl⟩ (hpre.sub (by rw [hlog]; exact List.suffix_refl _))
      cases out with
      | none =>
        cases out0 with
        | some y => exact hr0.elim
        | none =>
          simp only [choiceFinish, AltSt.finalErr, hr1.2.1, hr1.2.2]
          exact ⟨rfl, rfl, e1⟩
      | some y =>
        cases out0 with
        | none => exact hr0.elim
        | some y0 => exact ⟨hr0.1, hr0.2, e1⟩
    | wrap g w hw =>
      have hw0 : (stripAll g).wrap cfg0.file pos = some { w with child := stripAll w.child } := by
        rw [hc.file]; exact wrap_strip _ hw
      obtain ⟨o1, st1, hr, rfl⟩ := runStep_wrap_some hw h
      obtain ⟨o01, st01, hr0, rfl⟩ := runStep_wrap_some hw0 hstep0
      have hp := hs' _ _ _ _ _ _ _ _ (hg.wrap hw) hr hr0 hpre
      obtain ⟨c1, c2⟩ := wrap_out_congr hw _ _ hp.res hp.err
      exact ⟨c1, c2, hp.eff⟩
    | seq g sh hsh =>
      obtain ⟨sh0, hsh0, hrel⟩ := shape_strip hsh
      obtain ⟨b, ss, st1, hsp, rfl⟩ := runStep_seq_some hsh h
      obtain ⟨b0, ss0, st01, hsp0, rfl⟩ := runStep_seq_some hsh0 hstep0
      have hlog := (St.frame_of_or (seqFinish_fields sh pos ss st1).2).2.2.1
      obtain ⟨_, hr1, e1⟩ := seqParse_sim hs' hgrow hrel (fun i g' hl => shape_lookup_all hg hsh i g' hl)
        fuel f1 0 [] ctx ctx0 pos true true {} {} st st0 b ss st1 b0 ss0 st01 rfl hsp hsp0 ⟨rfl, rfl⟩
        (hpre.sub (by rw [hlog]; exact List.suffix_refl _))
      have hpre1 := hpre.next e1
      unfold seqFinish at hpre1 ⊢
      rw [hrel.name, ← hr1.1, ← hr1.2]
      by_cases hnil : ss.result.isNil = true
      · simp only [hnil, ↓reduceIte] at hpre1 ⊢
        exact ⟨rfl, rfl, e1⟩
      · simp only [hnil] at hpre1 ⊢
        exact ⟨rfl, rfl, e1.trans (Eff.setError hpre1 _)⟩

theorem run_sim (H : Prop) (cfg cfg0 : Cfg) (bo : Nat → G) (hc : StripCfg cfg cfg0)
    (henv : ∀ g' ∈ cfg.env, g'.All (MemoOK H bo)) (hH : H → HitHyp cfg cfg0 bo) :
    ∀ f f0, Sim H cfg0 bo (run cfg f) (run cfg0 f0) := by
  intro f
  induction f with
  | zero => intro f0 g ctx ctx0 pos st st0 x x0 _ h; cases h
  | succ f ih =>
    intro f0 g ctx ctx0 pos st st0 x x0 hg h
    obtain ⟨_, e, h⟩ := run_some_inv h
    cases e
    exact runStep_sim H cfg cfg0 bo hc henv hH (run_grow cfg _) ih _ f0 g ctx ctx0 pos st st0 x x0 hg h

theorem indep (cfg0 : Cfg) (bo : Nat → G) (henv : ∀ g' ∈ cfg0.env, g'.All (MemoOK False bo)) : Indep cfg0 bo := by
  intro g f1 c1 p s1 o1 s1' f2 c2 s2 o2 s2' hg h1 h2
  have hc : StripCfg cfg0 cfg0 := by
    refine ⟨rfl, rfl, ?_⟩
    have : cfg0.env.map stripAll = cfg0.env.map id :=
      List.map_congr_left (fun g' hg' => strip_of_noMemo _ bo g' (henv g' hg'))
    rw [this, List.map_id]
  have hs := run_sim False cfg0 cfg0 bo hc henv (fun h => h.elim) f1 f2
  rw [← strip_of_noMemo (fun _ => true) bo g hg] at h2
  have hp : SPost False cfg0 bo s1 s1' s2 s2' o1 o2 := hs g c1 c2 p s1 s2 (o1, s1') (o2, s2') hg h1 h2 (fun h => h.elim)
  exact ⟨hp.res, hp.err, hp.eff.far⟩

/-- every `Memoize` index wraps one parser (`bodyOf`): each call of `combinator.Memoize` draws a fresh index -/
def MemoWF (bodyOf : Nat → G) (g : G) : Prop := g.All (MemoOK True bodyOf)

theorem run_transparent (cfg cfg0 : Cfg) (bo : Nat → G) (hc : StripCfg cfg cfg0) (hgh : cfg.ghost = true)
    (henv : ∀ g' ∈ cfg.env, MemoWF bo g') (g : G) (hg : MemoWF bo g)
    (f f0 : Nat) (ctx ctx0 : Ctx) (pos : Nat) (st st0 : St) (o o0 : Out) (st' st0' : St)
    (hcache : st.cache = []) (hpn : pn st = pn st0)
    (h : run cfg f g ctx pos st = some (o, st')) (h0 : run cfg0 f0 (stripAll g) ctx0 pos st0 = some (o0, st0'))
    (hnc : NoCurtail st'.log) :
    o.res = o0.res ∧ o.err = o0.err ∧ pn st' = pn st0' ∧ st'.calls + st0.calls ≤ st0'.calls + st.calls := by
  have henv0 : ∀ g' ∈ cfg0.env, g'.All (MemoOK False bo) := by
    intro g' hg'
    rw [hc.env] at hg'
    obtain ⟨g1, _, rfl⟩ := List.mem_map.mp hg'
    exact noMemo_stripAll bo g1
  have hs := run_sim True cfg cfg0 bo hc henv (fun _ => ⟨hgh, indep cfg0 bo henv0⟩) f f0
  have hp : SPost True cfg0 bo st st' st0 st0' o o0 :=
    hs g ctx ctx0 pos st st0 (o, st') (o0, st0') hg h h0 (fun _ => ⟨hnc, (fun e he => by rw [hcache] at he; cases he), hpn⟩)
  obtain ⟨M, m1, m2⟩ := hp.eff.far
  exact ⟨hp.res, hp.err, by omega, hp.eff.calls⟩

end PV
