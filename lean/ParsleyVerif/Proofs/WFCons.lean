/-
  The certificate of Spec/WF.lean (`wf`) is the certificate of Spec/WFTrim.lean with no Regexp declared nullable
  (`wfT_false`), over grammars whose terminals are ASSUMED to behave (`TermGood`) and to consume (`TermCons`)
  instead of being the built-in ones.  So the soundness of `mayBeEmpty` — a parser that the certificate says
  cannot be empty only returns nodes that end strictly after the call position, from any state of the positional
  invariant whose cache has that property (`Good`, `run_cons`) — is the invariant of Proofs/WFTCons.lean at `rx = rxNone`: a contiguous tree
  (`Node.WF`) that ends after the call position is `NodeOK` there.
-/
import ParsleyVerif.Proofs.WFTCons
namespace PV
open PV.Text


def TermCons (cfg : Cfg) (t : Terminal) : Prop :=
  ∀ pos n, InFile cfg.file pos → t.parse cfg.params cfg.file pos = .node n → n.rpos > pos

/-- the local conditions of `wfLocal` (Spec/WF.lean), as a predicate on one sub-parser -/
def LocalP (c : WFCert) (cfg : Cfg) : G → Prop
  | .term t => TermCons cfg t
  | .memo i g => i ∈ c.memos ∧ (mayBeEmpty c g = true → c.nullM i = true)
  | .many g _ _ => mayBeEmpty c g = false
  | .sepBy v s _ _ => ¬ (mayBeEmpty c v = true ∧ mayBeEmpty c s = true)
  | _ => True

/-- a parser in the scope of the termination theorem: no trims, good terminals, local conditions everywhere -/
structure GWF (c : WFCert) (cfg : Cfg) (g : G) : Prop where
  core : g.Core (TermGood cfg)
  loc : g.All (LocalP c cfg)

structure EnvOK (c : WFCert) (cfg : Cfg) : Prop where
  maxCalls : cfg.maxCalls = 0
  rules : ∀ g ∈ cfg.env, GWF c cfg g
  nullable : ∀ k g, cfg.env[k]? = some g → mayBeEmpty c g = true → c.nullable k = true
  rank : ∀ k g, cfg.env[k]? = some g → ∀ k' ∈ leftRefsU c g, c.rank k' < c.rank k

theorem EnvOK.core {c : WFCert} {cfg : Cfg} (h : EnvOK c cfg) : ∀ g' ∈ cfg.env, g'.Core (TermGood cfg) :=
  fun g hg => (h.rules g hg).core

theorem GWF.kid {c : WFCert} {cfg : Cfg} {g k : G} (hg : GWF c cfg g) (hk : k ∈ g.kids) : GWF c cfg k :=
  ⟨hg.core.kid hk, hg.loc.kid hk⟩

theorem GWF_sub1 {c : WFCert} {cfg : Cfg} {g g' : G} (hg : GWF c cfg g)
    (h1 : g.Core (TermGood cfg) → g'.Core (TermGood cfg))
    (h2 : g.All (LocalP c cfg) → g'.All (LocalP c cfg)) : GWF c cfg g' := ⟨h1 hg.core, h2 hg.loc⟩

theorem shape_emit_cons {c : WFCert} {g : G} {sh : SeqShape} (hs : g.shape = some sh)
    (hne : mayBeEmpty c g = false) (d : Nat) (hlc : sh.lenCheck d = true)
    (hprev : ∀ i, i < d → ∀ gi, sh.lookup i = some gi → mayBeEmpty c gi = true) : False :=
  WFT.shape_emit_consT (rx := WFT.rxNone) hs (by rw [WFT.mayBeEmptyT_false]; exact hne) d hlc
    fun i hi gi hgi => by rw [WFT.mayBeEmptyT_false]; exact hprev i hi gi hgi

def CacheCons (c : WFCert) (st : St) : Prop :=
  ∀ e ∈ st.cache, c.nullM e.idx = false → ∀ x ∈ e.res.alts, x.rpos > e.pos

def Good (c : WFCert) (cfg : Cfg) (ctx : Ctx) (pos : Nat) (st : St) : Prop :=
  Pre cfg ctx pos st ∧ CacheCons c st

structure ConsPost (c : WFCert) (g : G) (pos : Nat) (o : Out) (st' : St) : Prop where
  cache : CacheCons c st'
  cons : mayBeEmpty c g = false → ∀ x ∈ o.res.alts, x.rpos > pos

def RunConsOK (c : WFCert) (cfg : Cfg) (r : RunFn) : Prop :=
  ∀ g ctx pos st o st', GWF c cfg g → Good c cfg ctx pos st → r g ctx pos st = some (o, st') →
    ConsPost c g pos o st'

theorem Good_regCall {c : WFCert} {cfg : Cfg} {ctx : Ctx} {pos : Nat} {st : St} (h : Good c cfg ctx pos st) :
    Good c cfg ctx pos st.regCall :=
  ⟨⟨h.1.1, StOK_regCall h.1.2.1, h.1.2.2⟩, cacheAll_of_eq h.2 rfl⟩

theorem Good_after {c : WFCert} {cfg : Cfg} {ctx : Ctx} {pos : Nat} {st st' : St} {o : Out} {g : G}
    (h : Good c cfg ctx pos st) (hp : Post cfg pos st o st') (hc : ConsPost c g pos o st') :
    Good c cfg ctx pos st' :=
  ⟨⟨h.1.1, hp.stOK, by rw [hp.active]; exact h.1.2.2⟩, hc.cache⟩


theorem WFT.NodeOK.of_WF {lo hi : Nat} : ∀ x : Node, x.WF hi → lo ≤ x.rpos → WFT.NodeOK lo hi x
  | .term t v p r, h, hl => .term t v p r hl (by simp only [Node.WF] at h; exact h.2)
  | .empty p, h, hl => .empty p hl (by simpa only [Node.WF] using h)
  | .eof p, h, hl => .eof p hl (by simpa only [Node.WF] using h)
  | .nt t [] p r i, h, hl => .nt t [] p r i hl (Node.WF_bounds hi _ h).2 (fun _ hcs => by cases hcs)
  | .nt t [c'] p r i, h, hl => by
    -- the only child of a contiguous tree ends where the tree ends
    have h' := Chain_cons.mp (Node.WF_nt.mp h)
    have h'' := Chain_nil.mp h'.2.2
    refine .nt t [c'] p r i hl (Node.WF_bounds hi _ h).2 fun c'' hcs => ?_
    cases hcs
    exact WFT.NodeOK.of_WF c' h'.2.1 (by rw [h''.1]; exact hl)
  | .nt t (_ :: _ :: _) p r i, h, hl => .nt t _ p r i hl (Node.WF_bounds hi _ h).2 (fun _ hcs => by cases hcs)

theorem Good.toT {c : WFCert} {cfg : Cfg} {ctx : Ctx} {pos : Nat} {st : St} (h : Good c cfg ctx pos st) :
    WFT.GoodT c cfg ctx pos st := by
  obtain ⟨⟨hin, hst, hact⟩, hcc⟩ := h
  refine ⟨hin, hact, hst.log, fun e he x hx => ?_⟩
  obtain ⟨hp, hw⟩ := (hst.cache e he).nodes x hx
  have hb := Node.WF_bounds cfg.hi x hw
  refine .of_WF x hw ?_
  cases hn : c.nullM e.idx with
  | true => show e.pos ≤ x.rpos; omega
  | false => exact hcc e he hn x hx

theorem WFT.StT.cacheCons {c : WFCert} {cfg : Cfg} {st : St} (h : WFT.StT c cfg st) : CacheCons c st := by
  intro e he hn x hx
  have := (h.cache e he x hx).bounds.1
  rw [hn] at this
  exact this

theorem TermCons.node {cfg : Cfg} {t : Terminal} (hg : TermGood cfg t) (hc : TermCons cfg t) :
    WFT.TermNode WFT.rxNone cfg t := by
  intro pos n hin hn
  refine .of_WF n ((hg pos hin).1 n hn).2 ?_
  rw [show WFT.termNullable WFT.rxNone t = false by cases t <;> rfl]
  exact hc pos n hin hn

theorem LocalP.toT {c : WFCert} {cfg : Cfg} {g : G} (h : LocalP c cfg g) : WFT.LocalT WFT.rxNone c g := by
  cases g <;> simp only [WFT.LocalT, WFT.mayBeEmptyT_false] <;> exact h

theorem GWF.inScopeT {c : WFCert} {cfg : Cfg} {g : G} (h : GWF c cfg g) : WFT.InScopeT WFT.rxNone c cfg g :=
  G.All_of_Core (fun g hT hP => ⟨hP.toT, by
    cases g with
    | term t => exact TermCons.node hT hP
    | _ => trivial⟩) g h.core h.loc

theorem EnvOK.toI {c : WFCert} {cfg : Cfg} (h : EnvOK c cfg) : WFT.EnvI WFT.rxNone c cfg :=
  ⟨fun g hg => (h.rules g hg).inScopeT.weak,
    fun k g hk hm => h.nullable k g hk (by rw [← WFT.mayBeEmptyT_false]; exact hm)⟩

/-- the consumption invariant read at `rxNone`: what `wf` certifies -/
theorem RunConsOK.of_inv {c : WFCert} {cfg : Cfg} (henv : EnvOK c cfg) {r : RunFn}
    (hr : (WFT.consInv WFT.rxNone c cfg henv.toI).OK r) : RunConsOK c cfg r := by
  intro g ctx pos st o st' hg hgood h
  have hpost := hr g ctx pos st o st' hg.inScopeT.weak hgood.toT.pre h
  refine ⟨hpost.st.cacheCons, fun hne x hx => ?_⟩
  have := (hpost.nodes x hx).bounds.1
  rw [WFT.mayBeEmptyT_false, hne] at this
  exact this

theorem run_cons (c : WFCert) (cfg : Cfg) (henv : EnvOK c cfg) : ∀ fuel, RunConsOK c cfg (run cfg fuel) :=
  fun fuel => .of_inv henv (RunInv.run fuel)

end PV
