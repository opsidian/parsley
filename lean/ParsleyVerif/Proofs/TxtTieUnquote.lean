/-
  THE TIE for text/terminal/string.go `unquoteString` as `factgen -out-prog` translates it (two fuelled loops over an
  array heap, strconv.UnquoteChar a field of the world `X`) against Model/Terminal.lean `unquoteString`
  (`unquoteScan`, `unquoteLoop`, `unquoteChar`).

  Both loops are instances of `sat_loop` (Proofs/ProgSat.lean).  A round is one pass of the rules over the translated body,
  then the cases of the MODEL's round (`unquoteScan_cons`, `unquoteLoop_cons`) with the branches every test decides taken —
  whatever way the source arranges its tests.  The function itself is the scan, then by its answer the second phase: the
  slices, the buffer and the loop are passed with their specifications.
-/
import ParsleyVerif.Proofs.TxtTieReader
import ParsleyVerif.Proofs.TerminalString
namespace PV.TxtTie
open PV.ProgPrelude PV.FactsProg PV.ProgTie

/-- the world's strconv.UnquoteChar, for the quote `"`, answers what the model's transcription answers (the rune and
    the tail; the `multibyte` flag is not used) -/
def UnquoteRel (X : Ext) : Prop :=
  ∀ s : Text.Bytes, (X.unquoteChar (ints s) 34).map (fun r => (r.1, r.2.2)) =
    (PV.unquoteChar s 34).map (fun r => ((r.1 : Int), ints r.2))

theorem UnquoteRel.cases {X : Ext} (hX : UnquoteRel X) (s : Text.Bytes) :
    (PV.unquoteChar s 34 = none ∧ X.unquoteChar (ints s) 34 = none) ∨
    ∃ ch tail mb, PV.unquoteChar s 34 = some (ch, tail) ∧ X.unquoteChar (ints s) 34 = some ((ch : Int), mb, ints tail) := by
  have h := hX s
  cases hm : PV.unquoteChar s 34 with
  | none =>
    cases hx : X.unquoteChar (ints s) 34 with
    | none => exact .inl ⟨rfl, rfl⟩
    | some t => rw [hm, hx] at h; cases h
  | some p =>
    cases hx : X.unquoteChar (ints s) 34 with
    | none => rw [hm, hx] at h; cases h
    | some t =>
      obtain ⟨v, mb, tl⟩ := t
      rw [hm, hx] at h
      cases h
      exact .inr ⟨_, _, mb, rfl, rfl⟩

theorem unquoteScan_cons (x : Nat) (r : Text.Bytes) (k : Nat) :
    PV.unquoteScan (x :: r) k =
      if x = 13 ∨ x = 10 ∨ x = 34 then (k, 1) else if x = 92 ∨ x ≥ 128 then (k, 2) else PV.unquoteScan r (k + 1) := by
  simp only [PV.unquoteScan, Bool.or_eq_true, decide_eq_true_eq, or_assoc]

/-- `s[0:hi]` within the capacity -/
theorem sat_slice0 {Q : Sl → St → Prop} {P : Prop} (st : St) (s : Sl) (hi : Nat) :
    (Go.slice s 0 (hi : Int) st).Sat Q P ↔ if hi ≤ s.cap then Q (s.fromTo 0 hi) st else P := by
  have := sat_slice (Q := Q) (P := P) st s 0 hi
  simpa using this

/-- what the translated scan answers, from index `k` on, for the model's index `i` and reason `c`.  At the end of the input
    (`c = 0`) the loop may answer the function's result itself (`return b, len(b)` inside the loop) or leave normally with
    the index (the test `i >= len(b)` standing after the loop): the specification covers both ways of writing it -/
def ScanAns (b : Sl) (n : Nat) (a : Option (Sl × Int) × Int) (i : Nat) : Nat → Prop
  | 0 => a.1 = some (b, (n : Int)) ∨ a = (none, (n : Int))
  | 1 => a.1 = some (if i = 0 then (Go.nilSl, 0) else (b.fromTo 0 i, (i : Int)))
  | _ => a = (none, (i : Int))

theorem unquote_scan_tie (X : Ext) (st : St) (b : Sl) (bs : Text.Bytes) (hv : view st b = ints bs) (hl : b.len = bs.length)
    (hcap : b.len ≤ b.cap) (fuel k : Nat) (hf : bs.length - k < fuel) (hk : k ≤ bs.length) :
    (unquoteString_loop2 X b fuel k st).Sat (fun a s => s = st ∧
      ScanAns b bs.length a (PV.unquoteScan (bs.drop k) k).1 (PV.unquoteScan (bs.drop k) k).2) False := by
  refine sat_loop (fun fuel (k : Nat) => unquoteString_loop2 X b fuel k) (fun k => bs.length - k)
    (fun k s => s = st ∧ k ≤ bs.length)
    (fun k a s => s = st ∧ ScanAns b bs.length a (PV.unquoteScan (bs.drop k) k).1 (PV.unquoteScan (bs.drop k) k).2)
    (fun _ => False) ?_ fuel k st ⟨rfl, hk⟩ hf
  rintro fuel k s ⟨hs, hk⟩ ih
  subst s
  generalize hm : PV.unquoteScan (bs.drop k) k = m
  rw [unquoteString_loop2]
  simp only [go_sat, Go.len, hl, sat_idx hv (by rw [hl, ints_length]), ints_length, sat_slice0, ← Int.natCast_add_one]
  rcases Nat.lt_or_ge k bs.length with c | c
  · rw [Data.drop_eq_getD_cons bs k 0 c, unquoteScan_cons] at hm
    rw [ints_getD]
    generalize bs.getD k 0 = x at hm ⊢
    by_cases c1 : x = 13 ∨ x = 10 ∨ x = 34
    · -- a line break or the closing quote: the literal ends here
      rw [if_pos c1] at hm
      subst hm
      by_cases h0 : k = 0
      · simp (disch := omega) only [go_decided]
        exact ⟨trivial, by simp only [ScanAns, if_pos h0]⟩
      · simp (disch := omega) only [go_decided]
        exact ⟨trivial, by simp only [ScanAns, if_neg h0]⟩
    · rw [if_neg c1] at hm
      by_cases c2 : x = 92 ∨ x ≥ 128
      · -- an escape or a non-ASCII byte: the second phase starts here
        rw [if_pos c2] at hm
        subst hm
        simp (disch := omega) only [go_decided]
        exact ⟨trivial, rfl⟩
      · rw [if_neg c2] at hm
        subst hm
        simp (disch := omega) only [go_decided]
        exact ih (k + 1) st ⟨rfl, by omega⟩ (by omega)
  · rw [List.drop_of_length_le c, Nat.le_antisymm hk c] at hm
    subst hm
    rw [Nat.le_antisymm hk c]
    simp (disch := omega) only [go_decided]
    -- the end of the input: answered in the loop, or left to a test after it
    first
      | exact ⟨trivial, .inl rfl⟩
      | exact ⟨trivial, .inr rfl⟩

theorem runeStr_nat (c : Nat) : Go.runeStr (c : Int) = ints (Utf8.encodeRune c) := by
  simp only [Go.runeStr, ints]
  rw [if_neg (by omega), Int.toNat_natCast]

theorem unquoteLoop_nil (fm : Nat) (resM : Text.Bytes) : PV.unquoteLoop fm [] resM = (resM, []) := by
  cases fm <;> simp [PV.unquoteLoop]

theorem unquoteLoop_cons (fm c : Nat) (r resM : Text.Bytes) :
    PV.unquoteLoop (fm + 1) (c :: r) resM =
      if c = 13 ∨ c = 10 then (resM, c :: r)
      else match PV.unquoteChar (c :: r) 34 with
        | none => (resM, c :: r)
        | some (ch, tail) =>
          if ch = Utf8.runeError ∧ (c :: r).length - tail.length = 1 then (resM, c :: r)
          else PV.unquoteLoop fm tail (resM ++ Utf8.encodeRune ch) := by
  by_cases h : c = 13 ∨ c = 10
  · simp [PV.unquoteLoop, h]
  · simp [PV.unquoteLoop, h]
    rfl

/-- the world's `strconv.UnquoteChar` as a step -/
theorem sat_unquoteChar {Q : Int × Bool × Str × Obj → St → Prop} {P : Prop} (X : Ext) (s : Str) (q : Int) (st : St) :
    (Go.unquoteChar X s q st).Sat Q P ↔
      Q (match X.unquoteChar s q with
        | none => (0, false, [], Obj.named "strconv.ErrSyntax")
        | some (v, mb, tail) => (v, mb, tail, Obj.nil)) st := by
  unfold Go.unquoteChar
  rcases X.unquoteChar s q with _ | ⟨v, mb, tail⟩ <;> rfl

/-- the loop's variables: the model's fuel, the rest of the string, the model's result so far, the buffer, and the state
    the loop was entered in -/
abbrev UnquoteLoopVars := Nat × Text.Bytes × Text.Bytes × Sl × St

theorem unquote_loop_tie (X : Ext) (hX : UnquoteRel X) (base : Nat) (fuel fm : Nat) (str resM : Text.Bytes) (res : Sl) (st : St)
    (hf : str.length < fuel) (hfm : str.length ≤ fm) (hb : Buf base st res (ints resM)) :
    (unquoteString_loop1 X fuel (ints str) res st).Sat (fun a st' => a.1 = ints (PV.unquoteLoop fm str resM).2 ∧
      Keeps base st st' ∧ Buf base st' a.2 (ints (PV.unquoteLoop fm str resM).1)) False := by
  refine sat_loop (σ := UnquoteLoopVars) (fun fuel σ => unquoteString_loop1 X fuel (ints σ.2.1) σ.2.2.2.1)
    (fun σ => σ.2.1.length)
    (fun σ s => Keeps base σ.2.2.2.2 s ∧ σ.2.1.length ≤ σ.1 ∧ Buf base s σ.2.2.2.1 (ints σ.2.2.1))
    (fun σ a st' => a.1 = ints (PV.unquoteLoop σ.1 σ.2.1 σ.2.2.1).2 ∧ Keeps base σ.2.2.2.2 st' ∧
      Buf base st' a.2 (ints (PV.unquoteLoop σ.1 σ.2.1 σ.2.2.1).1))
    (fun _ => False) ?_ fuel (fm, str, resM, res, st) st ⟨Keeps.refl _ _, hfm, hb⟩ hf
  rintro fuel ⟨fm, str, resM, res, st0⟩ st ⟨k0, hfm, hb⟩ ih
  dsimp only at k0 hfm hb ⊢
  rw [unquoteString_loop1]
  simp only [go_sat, sat_unquoteChar, strLen_ints, Go.appendStr]
  cases str with
  | nil =>
    rw [unquoteLoop_nil]
    simp only [ints_nil, ne_eq, not_true_eq_false, go_sat]
    exact ⟨trivial, k0, hb⟩
  | cons c r =>
    obtain ⟨fm, rfl⟩ : ∃ n, fm = n + 1 := ⟨fm - 1, by simp at hfm; omega⟩
    have hidx : Go.strIdx (ints (c :: r)) 0 st = .ok (c : Int) st := rfl
    rw [unquoteLoop_cons]
    simp only [ne_eq, show ints (c :: r) = [] ↔ False from ⟨fun h => (by cases h), False.elim⟩, not_false_eq_true, go_sat,
      sat_of_eq hidx]
    by_cases c1 : c = 13 ∨ c = 10
    · -- a raw line break ends the literal
      rw [if_pos c1]
      rcases c1 with h | h <;> simp (disch := omega) only [go_decided] <;> exact ⟨trivial, k0, hb⟩
    · rw [if_neg c1]
      rcases hX.cases (c :: r) with ⟨hm, hx⟩ | ⟨ch, tail, mb, hm, hx⟩
      · -- UnquoteChar fails
        rw [hm, hx]
        simp (disch := omega) only [go_decided, go_sat, show (Obj.named "strconv.ErrSyntax").isNil = false from rfl]
        exact ⟨trivial, k0, hb⟩
      · rw [hm, hx]
        -- UnquoteChar consumes at least one byte: the recursive call is on a shorter string
        have hshort : tail.length < (c :: r).length := PV.unquoteChar_shorter (Or.inl rfl) hm
        simp only [strLen_ints, show Obj.nil.isNil = true from rfl, go_sat]
        by_cases c2 : ch = Utf8.runeError ∧ (c :: r).length - tail.length = 1
        · -- an invalid byte
          rw [if_pos c2]
          have := c2.1
          simp only [Utf8.runeError] at this
          simp (disch := omega) only [go_decided]
          exact ⟨trivial, k0, hb⟩
        · rw [if_neg c2]
          have hc2 : ¬ ((ch : Int) = 65533 ∧ ((c :: r).length : Int) - tail.length = 1) := by
            simp only [Utf8.runeError] at c2; omega
          simp (disch := omega) only [go_decided, runeStr_nat]
          -- the rune's encoding is appended to the buffer
          refine (hb.sat_appendList _).mono ?_ id
          rintro res2 st2 ⟨k2, b2⟩
          rw [← ints_append] at b2
          exact ih (fm, tail, resM ++ Utf8.encodeRune ch, res2, st0) st2
            ⟨k0.trans k2, by simp only [List.length_cons] at hfm hshort; dsimp only; omega, b2⟩ (by dsimp only; exact hshort)

/-- the model's answer when the scan stops at index `i` and the second phase runs from there -/
def unquotePhase2M (bs : Text.Bytes) (i : Nat) : Option Text.Bytes × Nat :=
  if (PV.unquoteLoop bs.length (bs.drop i) (bs.take i)).2.length = bs.length then (none, 0)
  else (some (PV.unquoteLoop bs.length (bs.drop i) (bs.take i)).1, bs.length - (PV.unquoteLoop bs.length (bs.drop i) (bs.take i)).2.length)

/-- the four ways the scan can end, each with the model's answer: at the end of the input with the function's result, on
    a line break or quote at index 0 or further on, or with the index at which the second phase starts -/
theorem unquote_scan_cases (s : Sl) (bs : Text.Bytes) (hne : bs ≠ []) (a : Option (Sl × Int) × Int)
    (h : ScanAns s bs.length a (PV.unquoteScan bs 0).1 (PV.unquoteScan bs 0).2) :
    (a.1 = some (s, (bs.length : Int)) ∧ PV.unquoteString bs = (some bs, bs.length)) ∨
    (a.1 = some (Go.nilSl, 0) ∧ PV.unquoteString bs = (none, 0)) ∨
    (∃ i : Nat, i ≠ 0 ∧ i ≤ bs.length ∧ a.1 = some (s.fromTo 0 i, (i : Int)) ∧ PV.unquoteString bs = (some (bs.take i), i)) ∨
    (∃ i : Nat, i ≤ bs.length ∧ a = (none, (i : Int)) ∧ PV.unquoteString bs = unquotePhase2M bs i) := by
  have hn0 : bs.length ≠ 0 := fun h => hne (List.length_eq_zero_iff.mp h)
  have hsp := PV.unquoteScan_bounds bs 0
  unfold PV.unquoteString unquotePhase2M
  rcases hsc : PV.unquoteScan bs 0 with ⟨i, c⟩
  rw [hsc] at h hsp
  simp only [Nat.zero_add] at h hsp
  obtain ⟨hi, hc0⟩ := hsp
  match c, hc0, h with
  | 0, hc0, h =>
    cases hc0 rfl
    rcases h with e | e
    · exact .inl ⟨e, rfl⟩
    · refine .inr (.inr (.inr ⟨bs.length, Nat.le_refl _, e, ?_⟩))
      simp [unquoteLoop_nil, hn0.symm]
  | 1, _, h =>
    by_cases h0 : i = 0
    · subst h0; exact .inr (.inl ⟨h, rfl⟩)
    · exact .inr (.inr (.inl ⟨i, h0, hi, by rw [h, if_neg h0], by simp [h0]⟩))
  | c + 2, _, h => exact .inr (.inr (.inr ⟨i, hi, h, rfl⟩))

/-- a guard that may stand in front of a continuation -/
theorem guard_intro {c p q : Prop} [Decidable c] (hp : c → p) (hq : q) : if c then p else q := by
  split
  · exact hp ‹_›
  · exact hq

/-- **unquoteString**: the translated function (for a world whose UnquoteChar is the model's) is, in the sense of
    `FnRel`, the model's `unquoteString`: it never panics, writes to nothing that existed, and returns a slice that shows
    the model's value (nil for `none`) and the model's length -/
theorem tie_unquoteString (X : Ext) (hX : UnquoteRel X) : FnRel (FactsProg.unquoteString X) PV.unquoteString := by
  intro st s bs hv hl hne hnil hcap
  have hlen : Go.len s = (bs.length : Int) := congrArg Int.ofNat hl
  have hn0 : bs.length ≠ 0 := fun h => hne (List.length_eq_zero_iff.mp h)
  suffices h : (FactsProg.unquoteString X s st).Sat (fun a st' => a.2 = ((PV.unquoteString bs).2 : Int) ∧ Grows st st' ∧
      ValRel st' a.1 (PV.unquoteString bs).1) False by
    obtain ⟨⟨v, n⟩, st', e, hn, g, vr⟩ := h.ok
    dsimp only at hn
    subst hn
    exact ⟨v, st', e, g, vr⟩
  rw [FactsProg.unquoteString]
  -- the fuel of the scan, whatever expression the translator computed for it: it exceeds the length
  generalize hfu : (Int.toNat _ + 1 : Nat) = fuel
  have hfuel : bs.length - 0 < fuel := by rw [hlen] at hfu; omega
  refine Res.Sat.bind (unquote_scan_tie X st s bs hv hl hcap fuel 0 hfuel (Nat.zero_le _)) ?_ id
  rintro ⟨t16, i'⟩ st1 ⟨hst, hs⟩
  subst st1
  rw [List.drop_zero] at hs
  rcases unquote_scan_cases s bs hne _ hs with ⟨hL, hM⟩ | ⟨hL, hM⟩ | ⟨i, h0, hi, hL, hM⟩ | ⟨i, hi, hL, hM⟩
  · dsimp only at hL
    rw [hL, hM]
    exact ⟨rfl, Grows.refl st, hnil, hv, hl⟩
  · dsimp only at hL
    rw [hL, hM]
    exact ⟨rfl, Grows.refl st, rfl, rfl⟩
  · dsimp only at hL
    rw [hL, hM]
    refine ⟨rfl, Grows.refl st, hnil, ?_, ?_⟩
    · rw [view_fromTo _ _ _ _ (by omega), hv, List.drop_zero, ← ints_take]; simp
    · simp only [Sl.fromTo, List.length_take]; omega
  · -- the scan left normally at index i (≤ the length): the second phase
    cases hL
    rw [hM]
    generalize hm2 : unquotePhase2M bs i = m2
    unfold unquotePhase2M at hm2
    simp only [go_sat, sat_sliceFrom, sat_strOf, view_from, hv, ← ints_drop, strLen_ints, hlen, sat_slice0, Go.appendSl]
    -- where the source tests `i >= len(b)` after the scan, that branch answers all of `b`
    first
      | refine guard_intro (fun hge => ?_) ?_
        · have hi' : i = bs.length := by omega
          subst hi'
          simp [unquoteLoop_nil, hn0.symm] at hm2
          subst hm2
          exact ⟨by simp, Grows.refl st, hnil, hv, hl⟩
      | skip
    simp (disch := omega) only [go_decided]
    -- res := make([]byte, 0, i); res = append(res, b[0:i]...)
    refine (sat_mkSlice st i).mono ?_ id
    rintro r0 st1 ⟨g1, b0⟩
    have v7 : view st1 (s.fromTo 0 i) = ints (bs.take i) := by
      rw [view_fromTo _ _ _ _ (by omega), view_grows g1 s (by rw [hv]; simp [hl]), hv, List.drop_zero, ints_take]; simp
    rw [v7]
    refine (b0.sat_appendList _).mono ?_ id
    rintro r1 st2 ⟨k2, b1⟩
    rw [List.nil_append] at b1
    have hlr : r1.len = i := by rw [b1.len, ints_length, List.length_take]; omega
    -- the loop, with whatever fuel the translator computed (it exceeds the length of the rest)
    generalize hfu2 : (Int.toNat _ + 1 : Nat) = fuel2
    have hfuel2 : (bs.drop i).length < fuel2 := by rw [Go.len, hlr] at hfu2; simp only [List.length_drop] at hfu2 ⊢; omega
    refine (unquote_loop_tie X hX st.arrays.length fuel2 bs.length (bs.drop i) (bs.take i) r1 st2 hfuel2
      (by rw [List.length_drop]; omega) b1).mono ?_ id
    rintro ⟨strT, res'⟩ st3 ⟨hstr, k3, b3⟩
    dsimp only at hstr b3 ⊢
    have hle : (PV.unquoteLoop bs.length (bs.drop i) (bs.take i)).2.length ≤ bs.length := by
      rw [PV.unquoteLoop_eq]; simp only [List.length_drop]; omega
    have g3 : Grows st st3 := ((g1.keeps.trans k2).trans k3).grows
    rw [hstr, strLen_ints]
    generalize PV.unquoteLoop bs.length (bs.drop i) (bs.take i) = lr at b3 hle hm2 ⊢
    obtain ⟨resM, strM⟩ := lr
    dsimp only at hle b3 hm2 ⊢
    by_cases c3 : strM.length = bs.length
    · simp (disch := omega) only [go_decided] at hm2 ⊢
      subst hm2
      exact ⟨rfl, g3, rfl, rfl⟩
    · simp (disch := omega) only [go_decided] at hm2 ⊢
      subst hm2
      exact ⟨by simp only []; omega, g3, b3.nonnil, b3.view, by rw [b3.len, ints_length]⟩

end PV.TxtTie
