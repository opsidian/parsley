/-
  C05 (full value theorem), the two facts that connect the text of an expression, its exact tree and the derivations
  the parser is guaranteed to find:

  * `T.dc` — counting only: EVERY exact tree `T k q x`, on every input, has a curtailed derivation `DC`.  The premises
    `c i ≤ remaining + curtailSlack` of the `memo` rule hold along a left spine because every left-nested operator is at
    least one byte, so counters that grow by one per nesting stay below the bytes up to the end of the tree (`Room`);
    every right operand and every parenthesised expression starts after consumed input, where the counters are reset.
    `expr` and `term` are treated as one rule at the levels 0 and 1 (`level_rule`).
  * `T_of_cst` — lexing only: where the file holds `render e` for a well-formed `e`, followed by an operator, `)` or
    nothing, `e.tree` is an exact tree (a literal followed by such a byte is the longest match, `integer_at`).
-/
import ParsleyVerif.Proofs.A05Syntax
import ParsleyVerif.Proofs.A05Rel
namespace PV.A05
open PV PV.Text

/-- what follows a literal in a rendered expression -/
def FollowOK (tl : Bytes) : Prop :=
  ∀ b, tl.head? = some b → isWs b = true ∨ b = 43 ∨ b = 45 ∨ b = 42 ∨ b = 47 ∨ b = 41

/-- `≠ 46`: terminal.Integer refuses a lexeme that `.` follows (its look-ahead for a float, text/terminal/integer.go) -/
theorem FollowOK.tail {tl : Bytes} (h : FollowOK tl) : ∀ b, tl.head? = some b → ¬ IntTail b ∧ b ≠ 46 := by
  intro b hb
  unfold IntTail
  rcases h b hb with h1 | rfl | rfl | rfl | rfl | rfl
  · rcases (isWs_iff _).mp h1 with rfl | rfl | rfl | rfl <;> decide
  all_goals decide

theorem integer_at (P : Params) (f : File) (p : Nat) (lex tl : Bytes) (hp : InFile f p)
    (hr : rest f p = lex ++ tl) (hl : LitOK lex) (htl : FollowOK tl) :
    Terminal.parse P f .integer p = .node (.term (tokOf "INTEGER") (.int (Lang.intValue lex)) p (p + lex.length)) := by
  rw [c08_integer_value P f p _ hp]
  have htake : (rest f p).take lex.length = lex := by rw [hr]; simp
  refine ⟨lex.length, by rw [hr]; exact int_longest hl.1 fun b hb => (htl.tail b hb).1, ?_, ?_, ?_, by rw [htake]⟩
  · rw [hr]
    simp only [List.drop_left]
    intro h46
    exact (htl.tail 46 h46).2 rfl
  · rw [htake]; exact hl.2.1
  · rw [htake]; exact hl.2.2

theorem sk_ws (f : File) (hoff : 1 ≤ f.offset) (p : Nat) (ws tl : Bytes) (hp : InFile f p) (hr : rest f p = ws ++ tl)
    (hws : WsOK ws) (htl : ∀ b, tl.head? = some b → isWs b = false) : sk f p = p + ws.length := by
  rw [sk_eq f p hp hoff, hr, wsRun_append ws tl hws htl]

theorem rest_drop (f : File) (p k : Nat) (a b : Bytes) (hp : InFile f p) (hr : rest f p = a ++ b) (hk : k = a.length) :
    InFile f (p + k) ∧ rest f (p + k) = b := by
  subst hk
  refine ⟨inFile_advance hp (by rw [hr]; simp), ?_⟩
  rw [rest_advance hp _, hr]; simp

theorem dc_seq3 {cfg : Cfg} {c : Nat → Nat} {a b d : G} {o : SeqOpts} {q : Nat} {x1 x2 x3 : Node}
    (h1 : DC cfg c a q x1) (hc1 : x1.rpos > q) (h2 : DC cfg zeroC b x1.rpos x2)
    (h3 : DC cfg zeroC d x2.rpos x3) :
    DC cfg c (.seq .seqOf [a, b, d] o) q (.nt (o.token.getD seqTok) [x1, x2, x3] x1.pos x3.rpos o.interp) := by
  have hs := DC.seqOf (cfg := cfg) (c := c) (gs := [a, b, d]) (o := o) (pos := q) (nodes := [x1, x2, x3]) rfl
    (.cons rfl h1 (by
      rw [if_pos hc1]
      exact .cons rfl h2 (by
        have : (if x2.rpos > x1.rpos then zeroC else zeroC) = zeroC := by split <;> rfl
        rw [this]
        exact .cons rfl h3 .nil))) rfl
  simpa [handleResult] using hs

/-- the counters of the memoized levels `n ≤ j ≤ 1` leave room for a tree that ends at `r`: every operator on a left
    spine is at least one byte, so a counter that has grown by one per left-nested operator stays below the bytes
    consumed.  `+ 1`: `Facts.curtailSlack`, Memoize curtails only above `Remaining + 1` (`Room.memo`) -/
def Room (f : File) (n : Nat) (c : Nat → Nat) (r : Nat) : Prop := ∀ j, n ≤ j → j ≤ 1 → c j + r ≤ f.offset + f.len + 1

theorem Room.zero {f : File} {r : Nat} (n : Nat) (h : InFile f r) : Room f n zeroC r := by
  intro j _ _; unfold InFile at h; simp only [zeroC]; omega

/-- the premise of the `memo` rule at the start of a non-empty tree -/
theorem Room.memo {f : File} {n j : Nat} {c : Nat → Nat} {q r : Nat} (h : Room f n c r) (hn : n ≤ j) (hj : j ≤ 1)
    (hq : InFile f q) (hqr : q < r) : c j ≤ remaining f q + Facts.curtailSlack := by
  have := h j hn hj
  unfold InFile at hq
  simp only [Facts.curtailSlack, remaining]; omega

theorem Room.bump {f : File} {n : Nat} {c : Nat → Nat} {r r' : Nat} (h : Room f n c r) (i : Nat) (hr : r' < r) :
    Room f n (bump c i) r' := by
  intro j h1 h2
  have := h j h1 h2
  unfold PV.bump
  split <;> omega

section
variable (cfg : Cfg) (henv : cfg.env = Garith.env)
include henv

theorem level_rule {j : Nat} (hj : j ≤ 1) :
    cfg.env[j]? = some (.memo j (.any [.seq .seqOf [.ref j, opsAt j, .ref (j + 1)] Garith.bin, .ref (j + 1)])) := by
  rw [henv]; exact Garith.env_level hj

theorem env2 : cfg.env[2]? = some Garith.factor := by rw [henv]; rfl

/-- `X_j → X_{j+1}` -/
theorem dc_up {j : Nat} (hj : j ≤ 1) {c : Nat → Nat} {q : Nat} {x : Node} (h : DC cfg (bump c j) (.ref (j + 1)) q x)
    (hc : c j ≤ remaining cfg.file q + Facts.curtailSlack) : DC cfg c (.ref j) q x :=
  .ref (level_rule cfg henv hj) (.memo hc (.any (.tail _ (.head _)) h))

/-- `X_j → X_j op_j X_{j+1}` -/
theorem dc_bin {j : Nat} (hj : j ≤ 1) {c : Nat → Nat} {q : Nat} {x1 x2 x3 : Node}
    (hc : c j ≤ remaining cfg.file q + Facts.curtailSlack)
    (h1 : DC cfg (bump c j) (.ref j) q x1) (hc1 : x1.rpos > q) (h2 : DC cfg zeroC (opsAt j) x1.rpos x2)
    (h3 : DC cfg zeroC (.ref (j + 1)) x2.rpos x3) : DC cfg c (.ref j) q (binN x1 x2 x3) :=
  .ref (level_rule cfg henv hj) (.memo hc (.any (.head _) (dc_seq3 (o := Garith.bin) h1 hc1 h2 h3)))

/-- a tree of level `m` is a tree of every level `n ≤ m`: through the Memoize of `n`, …, `m - 1`, each of which
    finds its counter within the bound and increments it -/
theorem dc_lift {q r : Nat} {x : Node} {m : Nat} (hm : m ≤ 2) (hq : InFile cfg.file q) (hqr : q < r) :
    ∀ (d n : Nat) (c : Nat → Nat), n + d = m →
      (∀ c', Room cfg.file m c' r → DC cfg c' (.ref m) q x) → Room cfg.file n c r → DC cfg c (.ref n) q x
  | 0, n, c, hnm, own, hc => by subst hnm; exact own c hc
  | d + 1, n, c, hnm, own, hc => by
    have hn : n ≤ 1 := by omega
    refine dc_up cfg henv hn (dc_lift hm hq hqr d (n + 1) (bump c n) (by omega) own ?_) ?_
    · intro j h1 h2
      rw [show bump c n j = c j from if_neg (by omega)]
      exact hc j (by omega) h2
    · exact hc.memo (Nat.le_refl _) hn hq hqr

variable (hoff : 1 ≤ cfg.file.offset)
include hoff

omit henv hoff in
theorem OpAt.dc {j q : Nat} {x : Node} (h : OpAt cfg.params cfg.file j q x) : DC cfg zeroC (opsAt j) q x := by
  obtain ⟨c, o, ho, rfl, n, hn, rfl⟩ := h
  have hd : DC cfg zeroC (trimT (.rune c [34, c, 34])) q (mv cfg.file n) := .trim hn
  unfold Op.ofRune at ho
  split at ho <;> cases ho
  · exact .any (g := trimT (.rune 43 [34, 43, 34])) (.head _) hd
  · exact .any (g := trimT (.rune 45 [34, 45, 34])) (.tail _ (.head _)) hd
  · exact .any (g := trimT (.rune 42 [34, 42, 34])) (.head _) hd
  · exact .any (g := trimT (.rune 47 [34, 47, 34])) (.tail _ (.head _)) hd

theorem T.dc {k q : Nat} {x : Node} (h : T cfg.params cfg.file k q x) :
    InFile cfg.file q → k ≤ 2 → ∀ c, Room cfg.file k c x.rpos → DC cfg c (.ref k) q x := by
  induction h with
  | @lit k q x h =>
    intro hq hk c hc
    refine dc_lift cfg henv (m := 2) (Nat.le_refl 2) hq (h.pos hoff hq).1 (2 - k) k c (by omega) (fun c' _ => ?_) hc
    obtain ⟨n, hn, rfl⟩ := h
    exact .ref (env2 cfg henv) (.any (g := trimT .integer) (.head _) (.trim hn))
  | @paren k q lp e rp h1 h2 h3 ih =>
    intro hq hk c hc
    obtain ⟨a1, a2⟩ := h1.pos hoff hq (by omega)
    obtain ⟨b1, b2⟩ := h2.pos hoff a2
    obtain ⟨c1, c2⟩ := h3.pos hoff b2 (by omega)
    refine dc_lift cfg henv (m := 2) (Nat.le_refl 2) hq (by rw [parN_rpos]; omega) (2 - k) k c (by omega)
      (fun c' _ => ?_) hc
    obtain ⟨n1, hn1, rfl⟩ := h1
    obtain ⟨n3, hn3, rfl⟩ := h3
    exact .ref (env2 cfg henv) (.any (g := Garith.parenSeq) (.tail _ (.head _))
      (dc_seq3 (o := Garith.sel1) (.trim hn1) a1 (ih a2 (by omega) zeroC (Room.zero 0 b2)) (.trim hn3)))
  | @bin k j q l op r hkj hj h1 h2 h3 ih1 ih2 =>
    intro hq hk c hc
    obtain ⟨a1, a2, b1, b2, c1⟩ := T.bin_pos hoff hq h1 h2 h3
    refine dc_lift cfg henv (m := j) (by omega) hq (by rw [binN_rpos]; omega) (j - k) k c (by omega) (fun c' hc' => ?_) hc
    have hlr : l.rpos < (binN l op r).rpos := by rw [binN_rpos]; omega
    exact dc_bin cfg henv hj (hc'.memo (Nat.le_refl _) hj hq (Nat.lt_trans a1 hlr)) (ih1 hq (by omega) _ (hc'.bump j hlr))
      a1 (OpAt.dc cfg h2) (ih2 b2 (by omega) zeroC (Room.zero _ (h3.pos hoff b2).2))

end

section
variable {P : Params} {f : File} (hoff : 1 ≤ f.offset)
include hoff

/-- a token `tok` followed by the whitespace `ws` and something that does not start with whitespace: where the trimmed
    leaf ends, and what is there -/
theorem after_token {p : Nat} {tok ws tl : Bytes} (hp : InFile f p) (hr : rest f p = tok ++ (ws ++ tl)) (hws : WsOK ws)
    (htl : ∀ b, tl.head? = some b → isWs b = false) :
    sk f (p + tok.length) = p + tok.length + ws.length ∧ InFile f (p + tok.length + ws.length) ∧
      rest f (p + tok.length + ws.length) = tl ∧ sk f (p + tok.length + ws.length) = p + tok.length + ws.length := by
  obtain ⟨i1, r1⟩ := rest_drop f p tok.length tok (ws ++ tl) hp hr rfl
  obtain ⟨i2, r2⟩ := rest_drop f (p + tok.length) ws.length ws tl i1 r1 rfl
  exact ⟨sk_ws f hoff _ ws tl i1 r1 hws htl, i2, r2, sk_of_head f _ i2 hoff (by rw [r2]; exact htl)⟩

theorem runeAtQ_of {q c : Nat} {ws tl : Bytes} (hq : InFile f q) (hc : c < 0x80)
    (hr : rest f (sk f q) = c :: (ws ++ tl)) (hws : WsOK ws) (htl : ∀ b, tl.head? = some b → isWs b = false) :
    RuneAtQ P f c q (.term (Utf8.encodeRune c) (.rune c) (sk f q) (sk f q + 1 + ws.length)) := by
  have hp := sk_inFile f q hq hoff
  refine ⟨_, (rune_node_iff P f _ c _ _ hp hc).mpr ⟨by rw [hr]; rfl, rfl⟩, ?_⟩
  have := (after_token hoff (tok := [c]) hp hr hws htl).1
  rw [mv_term, show sk f q + 1 = sk f q + [c].length from rfl, this]

theorem litAt_of {q : Nat} {lex ws suf : Bytes} (hq : InFile f q) (hr : rest f (sk f q) = lex ++ (ws ++ suf))
    (hl : LitOK lex) (hws : WsOK ws) (hs : Stop suf) :
    LitAt P f q (.term (tokOf "INTEGER") (.int (Lang.intValue lex)) (sk f q) (sk f q + lex.length + ws.length)) := by
  have hp := sk_inFile f q hq hoff
  have hfo : FollowOK (ws ++ suf) := by
    intro b hb
    cases ws with
    | nil => exact .inr (hs b (by simpa using hb))
    | cons w t =>
      simp only [List.cons_append, List.head?_cons, Option.some.injEq] at hb
      subst hb
      exact .inl (hws _ (List.mem_cons_self ..))
  refine ⟨_, integer_at P f _ lex (ws ++ suf) hp hr hl hfo, ?_⟩
  rw [mv_term, (after_token hoff hp hr hws hs.not_ws).1]

omit hoff in
theorem render_not_ws {e : Cst} {n : Nat} (h : e.WF n) (suf : Bytes) :
    ∀ b, (e.render ++ suf).head? = some b → isWs b = false := by
  obtain ⟨b, t, hbt, hb⟩ := e.render_head n h
  intro b' hb'
  rw [hbt] at hb'
  cases hb'
  exact (isWs_eq_false_iff b).mpr (by omega)

theorem T_of_cst (e : Cst) : ∀ (n q : Nat) (suf : Bytes), e.WF n → InFile f q → rest f (sk f q) = e.render ++ suf →
    Stop suf → T P f n q (e.tree (sk f q)) := by
  induction e with
  | lit lex ws =>
    intro n q suf hwf hq hr hs
    exact .lit (litAt_of hoff hq (by simpa [Cst.render] using hr) hwf.1 hwf.2 hs)
  | paren ws1 e ws2 ih =>
    intro n q suf ⟨hw1, hwe, hw2⟩ hq hr hs
    have hp := sk_inFile f q hq hoff
    have hr' : rest f (sk f q) = [40] ++ (ws1 ++ (e.render ++ (41 :: ws2 ++ suf))) := by rw [hr]; simp [Cst.render]
    have hnw := render_not_ws hwe (41 :: ws2 ++ suf)
    obtain ⟨_, i1, r1, s1⟩ := after_token hoff hp hr' hw1 hnw
    obtain ⟨i2, r2⟩ := rest_drop f _ e.render.length e.render (41 :: ws2 ++ suf) i1 r1 rfl
    have s2 := sk_of_head f _ i2 hoff (by rw [r2]; intro b' hb'; cases hb'; decide)
    have h1 := runeAtQ_of (P := P) (c := 40) (ws := ws1) hoff hq (by decide) hr' hw1 hnw
    have h2 := ih 0 _ _ hwe i1 (by rw [s1]; exact r1) (Stop_close _)
    have h3 := runeAtQ_of (P := P) (c := 41) (ws := ws2) hoff i2 (by decide) (by rw [s2]; exact r2) hw2 hs.not_ws
    rw [s1] at h2
    rw [s2] at h3
    have := T.paren (k := n) h1 (by simpa [Node.rpos] using h2) (by rw [Cst.tree_rpos]; simpa [Node.rpos] using h3)
    simpa [Cst.tree, parN, Node.rpos, Nat.add_assoc] using this
  | bin o l ws r ihl ihr =>
    intro n q suf ⟨hno, hwl, hws, hwr⟩ hq hr hs
    have hp := sk_inFile f q hq hoff
    have hrl : rest f (sk f q) = l.render ++ ([opByte o] ++ (ws ++ (r.render ++ suf))) := by rw [hr]; simp [Cst.render]
    have hnw := render_not_ws hwr suf
    obtain ⟨i1, r1⟩ := rest_drop f _ l.render.length l.render _ hp hrl rfl
    have s1 := sk_of_head f _ i1 hoff (by rw [r1]; exact (Stop_op o _).not_ws)
    obtain ⟨_, i2, r2, s2⟩ := after_token hoff i1 r1 hws hnw
    have h1 := ihl o.level q _ hwl hq hrl (Stop_op o _)
    have h2 := runeAtQ_of (P := P) (ws := ws) hoff i1 (opByte_ascii o) (by rw [s1]; exact r1) hws hnw
    have h3 := ihr (o.level + 1) _ suf hwr i2 (by rw [s2]; exact r2) hs
    rw [s1] at h2
    rw [s2] at h3
    have := T.bin (k := n) hno (level_le_one o) h1
      (by rw [Cst.tree_rpos]; exact ⟨_, o, ofRune_opByte o, rfl, h2⟩) (by simpa [Node.rpos] using h3)
    simpa [Cst.tree, binN, Node.rpos, Nat.add_assoc] using this

end

end PV.A05
