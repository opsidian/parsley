/-
  C02 (extended certificate): the invariant of `run` for the WHOLE combinator set, trims included.

  With the trims the positional invariant of Proofs/RunPos.lean ("a result starts at the call position and
  its children are contiguous") is false — LeftTrim's results start after the whitespace, RightTrim moves
  the reader position of a node past the whitespace without touching its children.  What termination and the
  re-entry bound need is weaker and does hold for every grammar:

    * `NodeOK lo hi x`: the READER POSITION of a result lies in `[lo, hi]`, hereditarily along the
      single-child spine of the tree (the spine is what `ReturnSingle` / `Single` may later return instead of
      the node); `lo` is the call position for a parser the certificate says may be empty and the call
      position + 1 otherwise (`loOf`) — this is the soundness of `mayBeEmptyT`;
    * every cached result satisfies the same with the certificate's `nullM` of its Memoize index;
    * the ghost log only contains body events within the re-entry bound, and the activation stack is
      restored by every call (`ActOK`, `LogOK` of Proofs/RunPos.lean).

  The invariant is an instance of `RunInv` (`consInv`; `run_I`).  It is stated for parsers whose terminals return nodes of that
  kind (`TermNode`): with `RxSound` every built-in terminal does (`run_T`), and so do the terminals that
  Spec/WF.lean assumes to consume (Proofs/WFCons.lean, `run_cons`).

  `rx id` is the certificate's claim about Regexp `id`: `true` — it may match the empty string (`rxAll`: every one may,
  no assumption on the engine); `false` — it never does (`RxSound`; `rxNone`: none does, then `wfT` is `wf`, and the
  lemmas `…T_false` of Spec/WFTrim.lean read the `…T` functions at `rxNone` as those of Spec/WF.lean).
  The hypotheses on a configuration, by what they are for:

    invariant only (nullability closure)   `EnvM` (terminals through `RxSound`)   →   `EnvI` (terminals through `TermNode`)
    termination (all conditions, ranks)    `EnvT` (terminals through `RxSound`)   →   `EnvG` (terminals through `TermNode`)
    the certificate `wf` of Spec/WF.lean   `EnvOK` (Proofs/WFCons.lean), an `EnvG` at `rxNone`

  `EnvT.weak : EnvT → EnvM` and `EnvM.toI` here; `EnvG` with `EnvG.toI`, `EnvT.toG`, `EnvOK.toG` in Proofs/WFTHalts.lean.
-/
import ParsleyVerif.Proofs.WFTTerm
import ParsleyVerif.Proofs.RunPos
import ParsleyVerif.Proofs.GInduct
import ParsleyVerif.Proofs.RunInv
namespace PV.WFT
open PV PV.Text

inductive NodeOK (lo hi : Nat) : Node → Prop
  | term (t : Bytes) (v : Val) (p r : Nat) : lo ≤ r → r ≤ hi → NodeOK lo hi (.term t v p r)
  | empty (p : Nat) : lo ≤ p → p ≤ hi → NodeOK lo hi (.empty p)
  | eof (p : Nat) : lo ≤ p → p ≤ hi → NodeOK lo hi (.eof p)
  | nt (t : Bytes) (cs : List Node) (p r : Nat) (i : Interp) : lo ≤ r → r ≤ hi →
      (∀ c, cs = [c] → NodeOK lo hi c) → NodeOK lo hi (.nt t cs p r i)

theorem NodeOK.bounds {lo hi : Nat} {x : Node} (h : NodeOK lo hi x) : lo ≤ x.rpos ∧ x.rpos ≤ hi := by
  cases h <;> exact ⟨by assumption, by assumption⟩

theorem NodeOK.mono {lo lo' hi : Nat} (hle : lo' ≤ lo) {x : Node} (h : NodeOK lo hi x) : NodeOK lo' hi x := by
  induction h with
  | term t v p r h1 h2 => exact .term t v p r (by omega) h2
  | empty p h1 h2 => exact .empty p (by omega) h2
  | eof p h1 h2 => exact .eof p (by omega) h2
  | nt t cs p r i h1 h2 _ ih => exact .nt t cs p r i (by omega) h2 ih

theorem NodeOK.child {lo hi : Nat} {t : Bytes} {c : Node} {p r : Nat} {i : Interp}
    (h : NodeOK lo hi (.nt t [c] p r i)) : NodeOK lo hi c := by
  cases h with
  | nt _ _ _ _ _ _ _ hc => exact hc c rfl

/-- the least reader position of a result: the call position, +1 when the parser cannot be empty -/
def loOf (nullable : Bool) (pos : Nat) : Nat := if nullable then pos else pos + 1

theorem loOf_ge (b : Bool) (pos : Nat) : pos ≤ loOf b pos := by unfold loOf; split <;> omega
theorem loOf_mono (b : Bool) {p q : Nat} (h : p ≤ q) : loOf b p ≤ loOf b q := by unfold loOf; split <;> omega
theorem loOf_true (pos : Nat) : loOf true pos = pos := rfl
theorem loOf_imp {b b' : Bool} (h : b' = true → b = true) (pos : Nat) : loOf b pos ≤ loOf b' pos := by
  unfold loOf
  cases b' with
  | true => rw [h rfl]; exact Nat.le_refl _
  | false => split <;> simp

theorem handleResult_nodeOK (lo hi : Nat) (sh : SeqShape) (p : Nat) (nodes : List Node)
    (hA : nodes = [] → lo ≤ p ∧ p ≤ hi)
    (hB : ∀ l, nodes.getLast? = some l → lo ≤ l.rpos ∧ l.rpos ≤ hi)
    (hC : ∀ n, nodes = [n] → NodeOK lo hi n) : NodeOK lo hi (handleResult sh p nodes) := by
  rcases handleResult_cases sh p nodes with ⟨n, rfl, e⟩ | e <;> rw [e]
  · exact hC n rfl
  · cases hl : nodes.getLast? with
    | none => exact .nt _ _ _ _ _ (hA (List.getLast?_eq_none_iff.mp hl)).1 (hA (List.getLast?_eq_none_iff.mp hl)).2 hC
    | some l => exact .nt _ _ _ _ _ (hB l hl).1 (hB l hl).2 hC

/-! ### SkipWhitespaces stays inside the file (no assumption on the base offset) -/

theorem setRposNode_ok (f : File) (m : WsMode) {lo hi : Nat} (hlo : f.offset ≤ lo) (hhi : hi = f.offset + f.len)
    {n : Node} (h : NodeOK lo hi n) : NodeOK lo hi (setRposNode f m n none).1 := by
  cases h with
  | term t v p r h1 h2 =>
    have hb := skipWs_bounds f r m ⟨by omega, by omega⟩
    exact .term t v p (skipWhitespaces f r m).1 (by omega) (by omega)
  | empty p h1 h2 =>
    have hb := skipWs_bounds f p m ⟨by omega, by omega⟩
    exact .empty (skipWhitespaces f p m).1 (by omega) (by omega)
  | eof p h1 h2 => exact .eof p h1 h2
  | nt t cs p r i h1 h2 hc =>
    have hb := skipWs_bounds f r m ⟨by omega, by omega⟩
    exact .nt t cs p (skipWhitespaces f r m).1 i (by omega) (by omega) hc

/-- the local conditions of `wfLocalT` (Spec/WFTrim.lean), as a predicate on one sub-parser -/
def LocalT (rx : Nat → Bool) (c : WFCert) : G → Prop
  | .memo i g => i ∈ c.memos ∧ (mayBeEmptyT rx c g = true → c.nullM i = true)
  | .many g _ _ => mayBeEmptyT rx c g = false
  | .sepBy v s _ _ => ¬ (mayBeEmptyT rx c v = true ∧ mayBeEmptyT rx c s = true)
  | _ => True

/-- a parser in the scope of the extended theorem: ANY parser with the local conditions everywhere -/
def GWFT (rx : Nat → Bool) (c : WFCert) (g : G) : Prop := g.All (LocalT rx c)

structure EnvT (rx : Nat → Bool) (c : WFCert) (cfg : Cfg) : Prop where
  maxCalls : cfg.maxCalls = 0
  rxs : RxSound rx cfg.params
  rules : ∀ g ∈ cfg.env, GWFT rx c g
  nullable : ∀ k g, cfg.env[k]? = some g → mayBeEmptyT rx c g = true → c.nullable k = true
  rank : ∀ k g, cfg.env[k]? = some g → ∀ k' ∈ leftRefsT rx c g, c.rank k' < c.rank k

/-! ### the part of the certificate the INVARIANT needs (the rest is only needed for termination)

    `run_T` below uses the nullability closure only: Memoize operands (`LocalM`) and rules (`EnvM.nullable`).
    The all-nullable certificate satisfies it for EVERY grammar (`EnvM_top`), which gives the re-entry bound
    without any hypothesis on the grammar. -/

def LocalM (rx : Nat → Bool) (c : WFCert) : G → Prop
  | .memo i g => mayBeEmptyT rx c g = true → c.nullM i = true
  | _ => True

def GWM (rx : Nat → Bool) (c : WFCert) (g : G) : Prop := g.All (LocalM rx c)

structure EnvM (rx : Nat → Bool) (c : WFCert) (cfg : Cfg) : Prop where
  rxs : RxSound rx cfg.params
  rules : ∀ g ∈ cfg.env, GWM rx c g
  nullable : ∀ k g, cfg.env[k]? = some g → mayBeEmptyT rx c g = true → c.nullable k = true

theorem AllList_imp {P Q : G → Prop} (h : ∀ g, P g → Q g) : ∀ gs : List G, AllList P gs → AllList Q gs :=
  fun _ hp => AllList_iff.mpr fun g hg => G.All_imp h g (AllList_iff.mp hp g hg)

theorem LocalT_weak {rx : Nat → Bool} {c : WFCert} (g : G) (h : LocalT rx c g) : LocalM rx c g := by
  cases g <;> simp only [LocalM] <;> first | trivial | exact h.2

theorem GWFT.weak {rx : Nat → Bool} {c : WFCert} {g : G} (h : GWFT rx c g) : GWM rx c g := G.All_imp LocalT_weak g h

theorem EnvT.weak {rx : Nat → Bool} {c : WFCert} {cfg : Cfg} (h : EnvT rx c cfg) : EnvM rx c cfg :=
  ⟨h.rxs, fun g hg => (h.rules g hg).weak, h.nullable⟩

def topCert : WFCert := { nullable := fun _ => true, nullM := fun _ => true, rank := fun _ => 0, memos := [] }

theorem GWM_top : ∀ g : G, GWM rxAll topCert g :=
  G.induct fun g ih => G.All_kids.mpr ⟨by cases g <;> first | trivial | exact fun _ => rfl, ih⟩

theorem GWM_topList : ∀ gs : List G, AllList (LocalM rxAll topCert) gs :=
  fun _ => AllList_iff.mpr fun g _ => GWM_top g

/-- EVERY configuration satisfies the invariant's hypotheses with the all-nullable certificate -/
theorem EnvM_top (cfg : Cfg) : EnvM rxAll topCert cfg :=
  ⟨rxSound_all cfg.params, fun g _ => GWM_top g, fun _ _ _ _ => rfl⟩

theorem mbeAnyT_true {rx : Nat → Bool} {c : WFCert} : ∀ {gs : List G} {g : G}, g ∈ gs → mayBeEmptyT rx c g = true →
    mbeAnyT rx c gs = true
  | [], g, hg, _ => by cases hg
  | g' :: gs, g, hg, h => by
    simp only [mbeAnyT, Bool.or_eq_true]
    cases hg with
    | head => exact .inl h
    | tail _ hm => exact .inr (mbeAnyT_true hm h)

theorem mbeAllT_of_lookup {rx : Nat → Bool} {c : WFCert} : ∀ (gs : List G),
    (∀ i, i < gs.length → ∀ gi, gs[i]? = some gi → mayBeEmptyT rx c gi = true) → mbeAllT rx c gs = true
  | [], _ => rfl
  | g :: gs, h => by
    simp only [mbeAllT, Bool.and_eq_true]
    refine ⟨h 0 (by simp) g rfl, mbeAllT_of_lookup gs ?_⟩
    intro i hi gi hgi
    exact h (i + 1) (by simp; omega) gi (by simpa using hgi)

/-- with `mayBeEmptyT g = false`, a Sequence-family parser cannot emit a result while all the elements
    matched so far may be empty -/
theorem shape_emit_consT {rx : Nat → Bool} {c : WFCert} {g : G} {sh : SeqShape} (hs : g.shape = some sh)
    (hne : mayBeEmptyT rx c g = false) (d : Nat) (hlc : sh.lenCheck d = true)
    (hprev : ∀ i, i < d → ∀ gi, sh.lookup i = some gi → mayBeEmptyT rx c gi = true) : False := by
  cases g with
  | seq k gs o =>
    cases hs
    simp only at hlc hprev
    cases k with
    | seqOf =>
      simp only [beq_iff_eq] at hlc
      subst hlc
      have := mbeAllT_of_lookup (rx := rx) (c := c) gs (fun i hi gi hgi => hprev i hi gi hgi)
      simp [mayBeEmptyT, this] at hne
    | seqTry =>
      simp only [Bool.and_eq_true, decide_eq_true_eq] at hlc
      cases gs with
      | nil => simp at hlc; omega
      | cons g0 rest =>
        have := hprev 0 (by omega) g0 rfl
        simp [mayBeEmptyT, mbeHeadT, this] at hne
    | seqFirstOrAll =>
      cases gs with
      | nil => simp [mayBeEmptyT, mbeHeadT] at hne
      | cons g0 rest =>
        have hd : 0 < d := by
          simp only [Bool.or_eq_true, beq_iff_eq, List.length_cons] at hlc
          omega
        have := hprev 0 hd g0 rfl
        simp [mayBeEmptyT, mbeHeadT, this] at hne
  | many g1 ae o =>
    cases hs
    simp only [mayBeEmptyT, Bool.or_eq_false_iff] at hne
    simp only [hne.1, Bool.false_or, decide_eq_true_eq] at hlc
    have := hprev 0 hlc g1 rfl
    simp [this] at hne
  | sepBy v s ae o =>
    cases hs
    simp only [mayBeEmptyT, Bool.or_eq_false_iff] at hne
    simp only [hne.1, Bool.and_false, Bool.false_or, beq_iff_eq] at hlc
    have := hprev 0 (by omega) v (by simp)
    simp [this] at hne
  | _ => cases hs

/-- a Sequence-family parser that cannot be empty and accepts ONE element has a first element that cannot
    be empty (the one-element result is what `ReturnSingle` / `Single` may return as the result) -/
theorem shape_first_consT {rx : Nat → Bool} {c : WFCert} {g : G} {sh : SeqShape} (hs : g.shape = some sh)
    (hne : mayBeEmptyT rx c g = false) (hlc : sh.lenCheck 1 = true) (g0 : G) (hl : sh.lookup 0 = some g0) :
    mayBeEmptyT rx c g0 = false := by
  cases g with
  | seq k gs o =>
    cases hs
    simp only at hlc hl
    cases gs with
    | nil => simp at hl
    | cons g1 rest =>
      simp only [List.getElem?_cons_zero, Option.some.injEq] at hl
      subst hl
      cases k with
      | seqOf =>
        simp only [beq_iff_eq, List.length_cons] at hlc
        have : rest = [] := List.length_eq_zero_iff.mp (by omega)
        subst this
        simpa [mayBeEmptyT, mbeAllT] using hne
      | seqTry => simpa [mayBeEmptyT, mbeHeadT] using hne
      | seqFirstOrAll => simpa [mayBeEmptyT, mbeHeadT] using hne
  | many g1 ae o =>
    cases hs
    simp only [Option.some.injEq] at hl
    subst hl
    simp only [mayBeEmptyT, Bool.or_eq_false_iff] at hne
    exact hne.2
  | sepBy v s ae o =>
    cases hs
    simp at hl
    subst hl
    simp only [mayBeEmptyT, Bool.or_eq_false_iff] at hne
    exact hne.2
  | _ => cases hs

/-- what holds of the mutable state: the ghost log is within the re-entry bound, and the cached results
    of a Memoize index that cannot be empty consume -/
structure StT (c : WFCert) (cfg : Cfg) (st : St) : Prop where
  log : LogOK cfg st.log
  cache : ∀ e ∈ st.cache, ∀ x ∈ e.res.alts, NodeOK (loOf (c.nullM e.idx) e.pos) cfg.hi x

def GoodT (c : WFCert) (cfg : Cfg) (ctx : Ctx) (pos : Nat) (st : St) : Prop :=
  InFile cfg.file pos ∧ ActOK ctx pos st.active ∧ StT c cfg st

def ResT (rx : Nat → Bool) (c : WFCert) (cfg : Cfg) (g : G) (pos : Nat) (res : Res) : Prop :=
  ∀ x ∈ res.alts, NodeOK (loOf (mayBeEmptyT rx c g) pos) cfg.hi x

structure PostT (rx : Nat → Bool) (c : WFCert) (cfg : Cfg) (g : G) (pos : Nat) (st0 : St) (o : Out) (st' : St) : Prop where
  res : ResT rx c cfg g pos o.res
  st : StT c cfg st'
  active : st'.active = st0.active

/-- what the invariant needs of a terminal: the nodes it returns are within the file and, unless the certificate
    lets the terminal be empty, at least one byte wide -/
def TermNode (rx : Nat → Bool) (cfg : Cfg) (t : Terminal) : Prop :=
  ∀ pos n, InFile cfg.file pos → t.parse cfg.params cfg.file pos = .node n →
    NodeOK (loOf (termNullable rx t) pos) cfg.hi n

theorem TermLeaf.node {rx : Nat → Bool} {cfg : Cfg} {t : Terminal} (h : TermLeaf rx cfg t) : TermNode rx cfg t := by
  intro pos n hin hn
  obtain ⟨tok, v, r, rfl, h1, h2, h3⟩ := h pos n hin hn
  refine .term _ _ _ _ ?_ h2
  cases hnl : termNullable rx t with
  | true => exact h1
  | false => exact h3 hnl

/-- the parsers the invariant speaks about: nullability of Memoize operands recorded, terminals as above.
    `GWM` is the case where the terminal facts come from `RxSound`; the certificate of Spec/WF.lean, which
    ASSUMES that the terminals of the grammar consume, is the case `rx = rxNone`. -/
def InScope (rx : Nat → Bool) (c : WFCert) (cfg : Cfg) (g : G) : Prop :=
  g.All (fun g => LocalM rx c g ∧ AtTerm (TermNode rx cfg) g)

/-- the parsers the termination theorem speaks about: all the local conditions, terminals as above -/
def InScopeT (rx : Nat → Bool) (c : WFCert) (cfg : Cfg) (g : G) : Prop :=
  g.All (fun g => LocalT rx c g ∧ AtTerm (TermNode rx cfg) g)

theorem InScopeT.weak {rx : Nat → Bool} {c : WFCert} {cfg : Cfg} {g : G} (h : InScopeT rx c cfg g) :
    InScope rx c cfg g :=
  G.All_imp (fun g hl => ⟨LocalT_weak g hl.1, hl.2⟩) g h

structure EnvI (rx : Nat → Bool) (c : WFCert) (cfg : Cfg) : Prop where
  rules : ∀ g ∈ cfg.env, InScope rx c cfg g
  nullable : ∀ k g, cfg.env[k]? = some g → mayBeEmptyT rx c g = true → c.nullable k = true

theorem _root_.PV.G.All.termNode {rx : Nat → Bool} {cfg : Cfg} (hrx : RxSound rx cfg.params) {L : G → Prop} {g : G}
    (h : g.All L) : g.All (fun g => L g ∧ AtTerm (TermNode rx cfg) g) :=
  G.All_imp (fun g hl => ⟨hl, .of_all (fun t => (termLeaf_all rx cfg hrx t).node) g⟩) g h

theorem EnvM.toI {rx : Nat → Bool} {c : WFCert} {cfg : Cfg} (h : EnvM rx c cfg) : EnvI rx c cfg :=
  ⟨fun g hg => (h.rules g hg).termNode h.rxs, h.nullable⟩

def RunTOK (rx : Nat → Bool) (c : WFCert) (cfg : Cfg) (r : RunFn) : Prop :=
  ∀ g ctx pos st o st', InScope rx c cfg g → GoodT c cfg ctx pos st → r g ctx pos st = some (o, st') →
    PostT rx c cfg g pos st o st'

theorem StT_of_eq {c : WFCert} {cfg : Cfg} {st st' : St} (h : StT c cfg st) (hc : st'.cache = st.cache)
    (hl : st'.log = st.log) : StT c cfg st' :=
  ⟨by rw [hl]; exact h.log, by rw [hc]; exact h.cache⟩

theorem StT_logEv_notBody {c : WFCert} {cfg : Cfg} {st : St} (h : StT c cfg st) (ev : Ev)
    (hev : ∀ idx p d, ev ≠ Ev.body idx p d) : StT c cfg (st.logEv cfg ev) :=
  ⟨LogOK_logEv_notBody h.log ev hev, by rw [(logEv_fields st cfg ev).1]; exact h.cache⟩

theorem GoodT_regCall {c : WFCert} {cfg : Cfg} {ctx : Ctx} {pos : Nat} {st : St} (h : GoodT c cfg ctx pos st) :
    GoodT c cfg ctx pos st.regCall :=
  ⟨h.1, h.2.1, StT_of_eq h.2.2 rfl rfl⟩

/-- the state after a sub-call is a state the next sub-call at the same position may start in -/
theorem GoodT_after {rx : Nat → Bool} {c : WFCert} {cfg : Cfg} {ctx : Ctx} {pos : Nat} {st st' : St} {g : G} {o : Out}
    (h : GoodT c cfg ctx pos st) (hp : PostT rx c cfg g pos st o st') : GoodT c cfg ctx pos st' :=
  ⟨h.1, by rw [hp.active]; exact h.2.1, hp.st⟩

/-- a later position is a position a call may start at, with the SAME left-recursion context (this is
    what LeftTrim does after it skipped whitespace) -/
theorem ActOK_later {ctx : Ctx} {pos : Nat} {act : List (Nat × Nat)} (h : ActOK ctx pos act) (q : Nat) (hq : pos ≤ q) :
    ActOK ctx q act := by
  by_cases hc : q > pos
  · have := ActOK_next h q hq
    rw [if_pos hc] at this
    exact ⟨this.1, fun k => Nat.le_trans (this.2 k) (Nat.zero_le _)⟩
  · have : q = pos := by omega
    subst this
    exact h

theorem GoodT_memo_body {c : WFCert} {cfg : Cfg} {ctx : Ctx} {pos : Nat} {st : St} (idx : Nat) (hgood : GoodT c cfg ctx pos st)
    (hcur : ¬ ctx.get idx > remaining cfg.file pos + Facts.curtailSlack) :
    GoodT c cfg (ctx.inc idx) pos (memoEnter cfg idx pos st) := by
  obtain ⟨h1, _, _, h3, _⟩ := memoEnter_frame cfg idx pos st
  exact ⟨hgood.1, by rw [h3]; exact ActOK_enter hgood.2.1 idx,
    LogOK_enter idx hgood.2.2.log hgood.2.1 hcur, by rw [h1]; exact hgood.2.2.cache⟩

theorem memo_body_active (cfg : Cfg) (st : St) (idx pos d : Nat) :
    (({ st with active := (idx, pos) :: st.active } : St).logEv cfg (.body idx pos d)).active = (idx, pos) :: st.active :=
  (logEv_fields _ cfg _).2.2.2.1

theorem wrap_cpos {cfg : Cfg} {pos : Nat} {g : G} {w : Wrap} (hw : g.wrap cfg.file pos = some w)
    (hin : InFile cfg.file pos) : pos ≤ w.cpos ∧ w.cpos ≤ cfg.hi := by
  refine G.wrap_cases ?_ ?_ ?_ ?_ (fun _ m => skipWs_bounds cfg.file pos m hin) ?_ hw <;> intros <;>
    exact ⟨Nat.le_refl _, hin.2⟩

theorem wrap_mbe {rx : Nat → Bool} {c : WFCert} {f : File} {pos : Nat} {g : G} {w : Wrap} (hw : g.wrap f pos = some w) :
    mayBeEmptyT rx c w.child = true → mayBeEmptyT rx c g = true := by
  refine G.wrap_cases ?_ ?_ ?_ ?_ ?_ ?_ hw <;> intros <;> simp only [mayBeEmptyT] <;> assumption

/-- what the Sequence loop knows of the elements matched so far: where they end, that a single first element is a
    result of element 0 (it is what `ReturnSingle` may answer with), and that while the loop still stands at its own
    position every element so far may be empty -/
structure ChT (rx : Nat → Bool) (c : WFCert) (cfg : Cfg) (sh : SeqShape) (pos0 : Nat) (ns : List Node) (p : Nat) : Prop where
  le : pos0 ≤ p
  hi : p ≤ cfg.hi
  last : ∀ l, ns.getLast? = some l → l.rpos = p
  one : ∀ n, ns = [n] → ∃ g0, sh.lookup 0 = some g0 ∧ NodeOK (loOf (mayBeEmptyT rx c g0) pos0) cfg.hi n
  prev : p = pos0 → ∀ i, i < ns.length → ∀ gi, sh.lookup i = some gi → mayBeEmptyT rx c gi = true

theorem ChT.snoc {rx : Nat → Bool} {c : WFCert} {cfg : Cfg} {sh : SeqShape} {pos0 p : Nat} {ns : List Node} {g' : G} {n : Node}
    (h : ChT rx c cfg sh pos0 ns p) (hl : sh.lookup ns.length = some g')
    (hn : NodeOK (loOf (mayBeEmptyT rx c g') p) cfg.hi n) : ChT rx c cfg sh pos0 (ns ++ [n]) n.rpos := by
  have hb := hn.bounds
  have hge := loOf_ge (mayBeEmptyT rx c g') p
  have hle := h.le
  refine ⟨by omega, hb.2, fun l hl' => ?_, fun m hm => ?_, fun he i hi gi hgi => ?_⟩
  · rw [List.getLast?_concat] at hl'
    cases hl'; rfl
  · cases hnodes : ns with
    | nil =>
      rw [hnodes] at hm hl
      simp only [List.nil_append, List.cons.injEq, and_true] at hm
      subst hm
      exact ⟨g', hl, hn.mono (loOf_mono _ h.le)⟩
    | cons a rest =>
      rw [hnodes] at hm
      have := congrArg List.length hm
      simp at this
  · by_cases hid : i < ns.length
    · exact h.prev (by omega) i hid gi hgi
    · have : i = ns.length := by simp only [List.length_append, List.length_singleton] at hi; omega
      subst this
      rw [hl] at hgi
      cases hgi
      cases hm : mayBeEmptyT rx c g' with
      | true => rfl
      | false =>
        rw [hm] at hb
        have : p + 1 ≤ n.rpos := hb.1
        omega

/-- what a Sequence emits: with `mayBeEmptyT g = false` not while all the elements so far may be empty -/
theorem ChT.emit {rx : Nat → Bool} {c : WFCert} {cfg : Cfg} {g : G} {sh : SeqShape} {pos0 p : Nat} {ns : List Node}
    (hs : g.shape = some sh) (hlc : sh.lenCheck ns.length = true) (h : ChT rx c cfg sh pos0 ns p) :
    NodeOK (loOf (mayBeEmptyT rx c g) pos0) cfg.hi (handleResult sh p ns) := by
  have hlo : loOf (mayBeEmptyT rx c g) pos0 ≤ p := by
    cases hm : mayBeEmptyT rx c g with
    | true => exact h.le
    | false =>
      by_cases he : p = pos0
      · exact (shape_emit_consT hs hm ns.length hlc (h.prev he)).elim
      · show pos0 + 1 ≤ p; have := h.le; omega
  refine handleResult_nodeOK _ _ sh p ns (fun _ => ⟨hlo, h.hi⟩) (fun l hl => by rw [h.last l hl]; exact ⟨hlo, h.hi⟩) ?_
  intro n hnn
  obtain ⟨g0, hl0, hn0⟩ := h.one n hnn
  cases hm : mayBeEmptyT rx c g with
  | true => exact hn0.mono (loOf_ge _ _)
  | false =>
    have := shape_first_consT hs hm (by rw [hnn] at hlc; exact hlc) g0 hl0
    rw [this] at hn0
    exact hn0

/-- the invariant as an instance of `RunInv`: a tree of `g` is `NodeOK` from the least reader position the certificate
    allows `g`; errors and whole answers are not spoken of -/
def consInv (rx : Nat → Bool) (c : WFCert) (cfg : Cfg) (henv : EnvI rx c cfg) : RunInv cfg where
  Sc := InScope rx c cfg
  In := InFile cfg.file
  A := ActOK
  S := StT c cfg
  N g pos x := NodeOK (loOf (mayBeEmptyT rx c g) pos) cfg.hi x
  Ch := ChT rx c cfg
  scope := ⟨fun hg hk => hg.kid hk, henv.rules⟩
  positions :=
    { adv := fun _ hin h => ⟨Nat.le_trans hin.1 (Nat.le_trans (loOf_ge _ _) h.bounds.1), h.bounds.2⟩
      ws := fun m _ hin => ⟨Nat.le_trans hin.1 (skipWs_bounds cfg.file _ m hin).1, (skipWs_bounds cfg.file _ m hin).2⟩
      actAdv := fun _ _ h hA => ActOK_next hA _ (Nat.le_trans (loOf_ge _ _) h.bounds.1)
      actWs := fun m _ hin hA => ActOK_later hA _ (skipWs_bounds cfg.file _ m hin).1
      actEnter := fun _ h => ActOK_enter h _ }
  trees :=
    { term := fun hg hin h => (G.All_self hg).2 _ _ hin h
      empty := fun _ hin => .empty _ (by simp only [mayBeEmptyT, loOf_true]; exact Nat.le_refl _) hin.2
      eof := fun _ hin _ => .eof _ (by simp only [mayBeEmptyT, loOf_true]; exact Nat.le_refl _) hin.2
      ref := fun {k g' pos x} _ hk h => h.mono (loOf_imp (by simp only [mayBeEmptyT]; exact henv.nullable k g' hk) pos)
      memo := fun {idx body pos x} hg h => by
        simpa only [mayBeEmptyT] using h.mono (loOf_imp (G.All_self hg).1 pos)
      any := fun {gs g' pos x} _ hg' h =>
        h.mono (loOf_imp (fun hm => by simp only [mayBeEmptyT]; exact mbeAnyT_true hg' hm) pos)
      choice := fun {gs g' pos x} _ hg' h =>
        h.mono (loOf_imp (fun hm => by simp only [mayBeEmptyT]; exact mbeAnyT_true hg' hm) pos)
      pass := fun {g w pos o x} _ hw _ hin _ _ h =>
        h.mono (Nat.le_trans (loOf_imp (wrap_mbe hw) pos) (loOf_mono _ (wrap_cpos hw hin).1))
      optNone := fun _ hin => .empty _ (by simp only [mayBeEmptyT, loOf_true]; exact Nat.le_refl _) hin.2
      single := fun _ h => by simpa only [mayBeEmptyT] using h.child
      rkeep := fun _ _ _ _ _ h => by simpa only [mayBeEmptyT] using h
      rtrim := fun {g' m pos o x} _ hin _ _ _ h =>
        setRposNode_ok cfg.file m (hi := cfg.hi) (Nat.le_trans hin.1 (loOf_ge _ _)) rfl
          (by simpa only [mayBeEmptyT] using h)
      chNil := fun _ _ hin => ⟨Nat.le_refl _, hin.2, nofun, nofun, fun _ _ hi => absurd hi (Nat.not_lt_zero _)⟩
      chSnoc := fun _ _ hl h hn => h.snoc hl hn
      chEmit := fun _ hs hlc h => h.emit hs hlc }
  states :=
    { regCall := fun h => StT_of_eq h rfl rfl
      logEv := fun ev h hev => StT_logEv_notBody h ev hev
      setError := fun _ h _ => StT_of_eq h (setError_ctxErr _ _).2.1 (setError_ctxErr _ _).2.2.2.1
      enter := fun _ hin h hact hcur => (GoodT_memo_body _ ⟨hin, hact, h⟩ hcur).2.2
      leave := fun {idx body pos ctx st o st2} hg _ h hn _ _ =>
        ⟨h.log, fun e he => (mem_cacheSave he).elim
          (fun h1 => by subst h1; exact fun x hx => (hn x hx).mono (loOf_imp (G.All_self hg).1 pos)) (h.cache e)⟩
      hit := fun {st idx body pos ctx e} _ h hc => by
        obtain ⟨hm, hi, hp⟩ := cacheGet_some hc
        refine ⟨fun x hx => ?_, fun _ _ => trivial, trivial⟩
        have := h.cache e hm x hx
        rw [hi, hp] at this
        simpa only [mayBeEmptyT] using this }

theorem GoodT.pre {rx : Nat → Bool} {c : WFCert} {cfg : Cfg} {henv : EnvI rx c cfg} {ctx : Ctx} {pos : Nat} {st : St}
    (h : GoodT c cfg ctx pos st) : (consInv rx c cfg henv).Pre ctx pos st := ⟨h.1, h.2.2, h.2.1⟩

theorem run_I (rx : Nat → Bool) (c : WFCert) (cfg : Cfg) (henv : EnvI rx c cfg) : ∀ fuel, RunTOK rx c cfg (run cfg fuel) :=
  fun fuel g ctx pos st o st' hg hgood h =>
    have hp := (consInv rx c cfg henv).run fuel g ctx pos st o st' hg hgood.pre h
    ⟨hp.nodes, hp.st, hp.active⟩

/-- … in particular with the terminals of Model/Terminal.lean, under `RxSound` -/
theorem run_T (rx : Nat → Bool) (c : WFCert) (cfg : Cfg) (henv : EnvM rx c cfg) (fuel : Nat) (g : G) (ctx : Ctx)
    (pos : Nat) (st : St) (o : Out) (st' : St) (hg : GWM rx c g) (hgood : GoodT c cfg ctx pos st)
    (h : run cfg fuel g ctx pos st = some (o, st')) : PostT rx c cfg g pos st o st' :=
  run_I rx c cfg henv.toI fuel g ctx pos st o st' (hg.termNode henv.rxs) hgood h

end PV.WFT
