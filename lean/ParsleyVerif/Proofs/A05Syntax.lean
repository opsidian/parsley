/-
  C05 (full value theorem): concrete syntax of well-formed arithmetic expressions.

  `Cst` is an expression TOGETHER WITH its layout: every token carries the whitespace that follows it
  (the whitespace before the first token is a separate parameter of the theorems).  `Cst.WF n e` says that `e` is
  an expression of precedence level `n` (0 = expr, 1 = term, 2 = factor) written with exactly the parentheses
  its structure needs — the operands of an operator of level `j` are of level `j` (left) and `j + 1` (right),
  so `render` is the text whose canonical tree is `e` —, that every literal is in the integer syntax with a
  value that fits in 64 bits, and that every whitespace chunk consists of whitespace bytes.

  `render`: the text; `tree`: the tree the parser must build; `toExpr`: the abstract expression (Spec/Arith.lean)
  with the positions of its operator bytes, the argument of the reference evaluator.
-/
import ParsleyVerif.Proofs.A05Unique
namespace PV.A05
open PV PV.Text

inductive Cst
  | lit (lex ws : Bytes)
  | bin (o : Op) (l : Cst) (ws : Bytes) (r : Cst)
  | paren (ws1 : Bytes) (e : Cst) (ws2 : Bytes)
deriving Repr, Inhabited

def opByte : Op → Nat
  | .add => 43 | .sub => 45 | .mul => 42 | .div => 47

theorem ofRune_opByte (o : Op) : Op.ofRune (opByte o) = some o := by cases o <;> rfl
theorem opByte_ascii (o : Op) : opByte o < 0x80 := by cases o <;> decide
theorem level_le_one (o : Op) : o.level ≤ 1 := by cases o <;> decide

namespace Cst

def render : Cst → Bytes
  | .lit lex ws => lex ++ ws
  | .bin o l ws r => l.render ++ (opByte o :: (ws ++ r.render))
  | .paren ws1 e ws2 => 40 :: (ws1 ++ (e.render ++ (41 :: ws2)))

end Cst

def WsOK (ws : Bytes) : Prop := ∀ b ∈ ws, isWs b = true
def LitOK (lex : Bytes) : Prop :=
  Lang.isInt lex = true ∧ -(2 : Int) ^ 63 ≤ Lang.intValue lex ∧ Lang.intValue lex < (2 : Int) ^ 63

namespace Cst

def WF : Nat → Cst → Prop
  | _, .lit lex ws => LitOK lex ∧ WsOK ws
  | n, .bin o l ws r => n ≤ o.level ∧ l.WF o.level ∧ WsOK ws ∧ r.WF (o.level + 1)
  | _, .paren ws1 e ws2 => WsOK ws1 ∧ e.WF 0 ∧ WsOK ws2

def tree : Cst → Nat → Node
  | .lit lex ws, p => .term (tokOf "INTEGER") (.int (Lang.intValue lex)) p (p + lex.length + ws.length)
  | .bin o l ws r, p =>
    binN (l.tree p)
      (.term (Utf8.encodeRune (opByte o)) (.rune (opByte o)) (p + l.render.length) (p + l.render.length + 1 + ws.length))
      (r.tree (p + l.render.length + 1 + ws.length))
  | .paren ws1 e ws2, p =>
    parN (.term (Utf8.encodeRune 40) (.rune 40) p (p + 1 + ws1.length))
      (e.tree (p + 1 + ws1.length))
      (.term (Utf8.encodeRune 41) (.rune 41) (p + 1 + ws1.length + e.render.length)
        (p + 1 + ws1.length + e.render.length + 1 + ws2.length))

def toExpr : Cst → Nat → Expr
  | .lit lex _, _ => .lit (Lang.intValue lex)
  | .bin o l ws r, p => .bin o (l.toExpr p) (p + l.render.length) (r.toExpr (p + l.render.length + 1 + ws.length))
  | .paren ws1 e _, p => .paren (e.toExpr (p + 1 + ws1.length))

/-- the first byte of the text: a sign, a digit, or `(` — never a whitespace byte -/
theorem render_head (e : Cst) : ∀ n, e.WF n →
    ∃ b t, e.render = b :: t ∧ (b = 43 ∨ b = 45 ∨ (48 ≤ b ∧ b ≤ 57) ∨ b = 40) := by
  induction e with
  | lit lex ws =>
    intro n h
    obtain ⟨b, r, hb, hb2⟩ := isInt_head h.1.1
    refine ⟨b, r ++ ws, by simp [render, hb], ?_⟩
    rcases hb2 with h | h | h
    · exact .inr (.inl h)
    · exact .inl h
    · exact .inr (.inr (.inl h))
  | bin o l ws r ih _ =>
    intro n h
    obtain ⟨b, t, hb, hb2⟩ := ih _ h.2.1
    exact ⟨b, t ++ (opByte o :: (ws ++ r.render)), by simp [render, hb], hb2⟩
  | paren ws1 e ws2 _ => intro n _; exact ⟨40, _, rfl, .inr (.inr (.inr rfl))⟩

theorem tree_rpos (e : Cst) : ∀ p, (e.tree p).rpos = p + e.render.length := by
  induction e with
  | lit lex ws => intro p; simp [tree, render, Node.rpos]; omega
  | bin o l ws r _ ih2 =>
    intro p
    simp only [tree, binN_rpos, ih2, render, List.length_append, List.length_cons]
    omega
  | paren ws1 e ws2 _ =>
    intro p
    rw [tree, parN_rpos]
    simp only [Node.rpos, render, List.length_append, List.length_cons]
    omega

theorem tree_pos (e : Cst) : ∀ p, (e.tree p).pos = p := by
  induction e with
  | lit lex ws => intro p; rfl
  | bin o l ws r ih _ => intro p; simp only [tree, binN, Node.pos]; exact ih p
  | paren ws1 e ws2 _ => intro p; rfl

theorem exprOf_tree (e : Cst) : ∀ p, exprOf (e.tree p) = some (e.toExpr p) := by
  induction e with
  | lit lex ws => intro p; simp [tree, toExpr, exprOf]
  | bin o l ws r ih1 ih2 =>
    intro p
    simp only [tree, toExpr, binN]
    rw [exprOf_bin _ _ _ _ _ _ _ _ _ o (ofRune_opByte o), ih1, ih2]
  | paren ws1 e ws2 ih =>
    intro p
    simp only [tree, toExpr, parN]
    rw [exprOf_paren, ih]; rfl

end Cst

/-- what may follow an expression: nothing, an operator, or a closing parenthesis -/
def Stop (suf : Bytes) : Prop := ∀ b, suf.head? = some b → b = 43 ∨ b = 45 ∨ b = 42 ∨ b = 47 ∨ b = 41

theorem Stop_nil : Stop [] := by intro b h; cases h
theorem Stop_op (o : Op) (t : Bytes) : Stop (opByte o :: t) := by
  intro b h
  simp only [List.head?_cons, Option.some.injEq] at h
  subst h
  cases o <;> simp [opByte]
theorem Stop_close (t : Bytes) : Stop (41 :: t) := by
  intro b h
  simp only [List.head?_cons, Option.some.injEq] at h
  subst h; simp

theorem Stop.not_ws {suf : Bytes} (h : Stop suf) : ∀ b, suf.head? = some b → isWs b = false := by
  intro b hb
  rcases h b hb with rfl | rfl | rfl | rfl | rfl <;> decide

end PV.A05
