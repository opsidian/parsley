/-
  The provenance invariant of error values (property C06), an instance of `RunInv`:

  every error value — returned by a parser, held by a Sequence object (`SeqSt.err`), by Any / Choice
  (`AltSt.err`, `AltSt.nf`), recorded as the context error (`St.ctxErr`) or stored in the result cache
  (`CacheEntry.err`) — satisfies a predicate `Q log e` over the ghost log, for every `Q` closed under the
  five things the parser core does with errors (`ErrInv`):

    * the log grows (monotonicity),
    * a terminal / End fails: the error is logged in the same step,
    * a terminal panics / a nil parser is called (only when `AP` says this can happen at all),
    * `Name` (ReturnError) and a named Sequence re-label a not-found error at their own position,
    * `Name` creates a not-found error when its body returned neither a result nor an error.

  The positional facts needed to know that terminals are only ever called inside the file are the laws of `posInv`
  (Proofs/RunPos.lean): the invariant is the conjunction of the two.
-/
import ParsleyVerif.Proofs.RunPos
import ParsleyVerif.Spec.Derives
namespace PV
open PV.Text

/-- what C06 asks of each sub-parser.  `S g nm`: "`Name(g, nm)` occurs in the grammar"; `Nm nm`: "`nm` is
    a name some Name / named Sequence carries"; `AP`: "a terminal may panic / a nil parser may be called"
    (`False` on the domain of the property: C08 `c08_total`, `c08_panic_only_missing_group`).  No whitespace trims (outside the
    property's domain: they create and move errors of their own). -/
def LocErr (cfg : Cfg) (S : G → Bytes → Prop) (Nm : Bytes → Prop) (AP : Prop) : G → Prop
  | .term t => ∀ pos s, InFile cfg.file pos → t.parse cfg.params cfg.file pos = .panic s → AP
  | .ref k => cfg.env[k]? = none → AP
  | .name g nm => S g nm ∧ Nm nm
  | .seq _ _ o => ∀ nm, o.name = some nm → Nm nm
  | .many _ _ o => ∀ nm, o.name = some nm → Nm nm
  | .sepBy _ _ _ o => ∀ nm, o.name = some nm → Nm nm
  | .ltrim _ _ => False
  | .rtrim _ _ => False
  | _ => True

theorem shape_name {cfg : Cfg} {S : G → Bytes → Prop} {Nm : Bytes → Prop} {AP : Prop} {g : G} {sh : SeqShape}
    (hs : g.shape = some sh) (hl : LocErr cfg S Nm AP g) : ∀ nm, sh.name = some nm → Nm nm := by
  cases g <;> simp only [G.shape, Option.some.injEq, reduceCtorEq] at hs
  all_goals
    subst hs
    simpa [LocErr] using hl

/-- the closure properties of an error predicate over the ghost log (the five items of the header) -/
structure ErrInv (cfg : Cfg) (S : G → Bytes → Prop) (Nm : Bytes → Prop) (AP : Prop)
    (Q : List Ev → Err → Prop) : Prop where
  mono : ∀ log log' e, log <:+ log' → Q log e → Q log' e
  logged : ∀ log p k, Q (Ev.termFail p k :: log) ⟨p, k⟩
  panic : AP → ∀ log p s, Q log ⟨p, .panic s⟩
  rename : ∀ log e nm, Q log e → e.kind.isNotFound = true → Nm nm → Q log ⟨e.pos, .notFound nm⟩
  create : ∀ fuel g nm ctx pos st o st', S g nm → Nm nm → run cfg fuel g ctx pos st = some (o, st') →
    o.err = none → o.res.isNil = true → Q st'.log ⟨pos, .notFound nm⟩

structure StErrOK (Q : List Ev → Err → Prop) (st : St) : Prop where
  cache : ∀ c ∈ st.cache, ∀ er, c.err = some er → Q st.log er
  ctxErr : ∀ er, st.ctxErr = some er → Q st.log er

structure PostE (Q : List Ev → Err → Prop) (st0 : St) (o : Out) (st' : St) : Prop where
  err : ∀ er, o.err = some er → Q st'.log er
  st : StErrOK Q st'
  log : st0.log <:+ st'.log

section
variable {cfg : Cfg} {S : G → Bytes → Prop} {Nm : Bytes → Prop} {AP : Prop} {Q : List Ev → Err → Prop}

theorem StErrOK_of_eq (hQ : ErrInv cfg S Nm AP Q) {st st' : St} (h : StErrOK Q st) (hc : st'.cache = st.cache)
    (he : st'.ctxErr = st.ctxErr) (hl : st.log <:+ st'.log) : StErrOK Q st' :=
  ⟨fun c hcm er her => hQ.mono _ _ _ hl (h.cache c (hc ▸ hcm) er her),
   fun er her => hQ.mono _ _ _ hl (h.ctxErr er (he ▸ her))⟩

theorem StErrOK_setError {st : St} (h : StErrOK Q st) (e : Option Err)
    (he : ∀ er, e = some er → Q st.log er) : StErrOK Q (st.setError e) :=
  ⟨by rw [setError_cache, setError_log]; exact h.cache, by rw [setError_log]; exact setError_ctxErr_of h.ctxErr he⟩

/-- the provenance invariant as an instance of `RunInv`: an error is positioned as `posInv` says and satisfies `Q` of
    the log; the five laws of `ErrInv` are `mono`, `term` / `eof`, `panic` / `nilRef`, `rename`, `create` -/
def errInv (hQ : ErrInv cfg S Nm AP Q) (hgh : cfg.ghost = true) (henv : ∀ g' ∈ cfg.env, g'.Core (TermGood cfg))
    (henvL : ∀ g' ∈ cfg.env, g'.All (LocErr cfg S Nm AP)) : RunInv cfg where
  Sc g := g.Core (TermGood cfg) ∧ g.All (LocErr cfg S Nm AP)
  In := InFile cfg.file
  A := ActOK
  S st := StOK cfg st ∧ StErrOK Q st
  N _ pos x := x.pos = pos ∧ x.WF cfg.hi
  E pos log e := (pos ≤ e.pos ∧ e.pos ≤ cfg.hi) ∧ Q log e
  Ch _ p0 ns p := Chain cfg.hi ns p0 p
  scope := ⟨fun hg hk => ⟨hg.1.kid hk, hg.2.kid hk⟩, fun g' h => ⟨henv g' h, henvL g' h⟩⟩
  positions :=
    { adv := fun hg => (posInv cfg henv).positions.adv hg.1
      ws := fun _ hg => hg.1.elim
      actAdv := fun hg => (posInv cfg henv).positions.actAdv hg.1
      actWs := fun _ hg => hg.1.elim
      actEnter := fun hg => (posInv cfg henv).positions.actEnter hg.1 }
  trees :=
    { term := fun hg => (posInv cfg henv).trees.term hg.1
      empty := fun hg => (posInv cfg henv).trees.empty hg.1
      eof := fun hg => (posInv cfg henv).trees.eof hg.1
      ref := fun _ _ h => h
      memo := fun _ h => h
      any := fun _ _ h => h
      choice := fun _ _ h => h
      pass := fun hg hw _ _ _ _ h => (G.Core.wrap hg.1 hw).2 ▸ h
      optNone := fun hg => (posInv cfg henv).trees.optNone hg.1
      single := fun hg => (posInv cfg henv).trees.single hg.1
      rkeep := fun hg => hg.1.elim
      rtrim := fun hg => hg.1.elim
      chNil := fun hg => (posInv cfg henv).trees.chNil hg.1
      chSnoc := fun hg => (posInv cfg henv).trees.chSnoc hg.1
      chEmit := fun hg => (posInv cfg henv).trees.chEmit hg.1 }
  errors :=
    { mono := fun hl h => ⟨h.1, hQ.mono _ _ _ hl h.2⟩
      term := fun st hg hin h =>
        ⟨((show TermGood cfg _ from hg.1) _ hin).2 _ h, by rw [logEv_ghost_log hgh]; exact hQ.logged ..⟩
      eof := fun st _ hin => ⟨⟨Nat.le_refl _, hin.2⟩, by rw [logEv_ghost_log hgh]; exact hQ.logged ..⟩
      panic := fun hg hin h =>
        ⟨⟨Nat.le_refl _, hin.2⟩, hQ.panic ((G.All_self hg.2 : LocErr cfg S Nm AP _) _ _ hin h) ..⟩
      nilRef := fun hg hin hk => ⟨⟨Nat.le_refl _, hin.2⟩, hQ.panic ((G.All_self hg.2 : LocErr cfg S Nm AP _) hk) ..⟩
      rename := fun {g pos log e nm} hg hnm hin h hp hk => by
        have hN : Nm nm := by
          rcases hnm with hnm | ⟨g', rfl⟩
          · cases hsh : g.shape with
            | none => rw [hsh] at hnm; cases hnm
            | some sh => rw [hsh] at hnm; exact shape_name hsh (G.All_self hg.2) nm hnm
          · exact (G.All_self hg.2 : LocErr cfg S Nm AP _).2
        exact ⟨⟨Nat.le_refl _, hin.2⟩, hp ▸ hQ.rename _ e nm h.2 hk hN⟩
      create := fun hg hin hrun he hn =>
        ⟨⟨Nat.le_refl _, hin.2⟩, hQ.create _ _ _ _ _ _ _ _ (G.All_self hg.2 : LocErr cfg S Nm AP _).1
          (G.All_self hg.2 : LocErr cfg S Nm AP _).2 hrun he hn⟩
      back := fun _ _ hc h => ⟨⟨Nat.le_trans (Chain_bounds cfg.hi _ _ _ hc).1 h.1.1, h.1.2⟩, h.2⟩
      ltrim := fun hg => hg.1.elim
      reloc := fun hg => hg.1.elim
      ws := fun hg => hg.1.elim
      rmove := fun hg => hg.1.elim
      rws := fun hg => hg.1.elim }
  states :=
    { regCall := fun h => ⟨StOK_regCall h.1, StErrOK_of_eq hQ h.2 rfl rfl (List.suffix_refl _)⟩
      logEv := fun {st} ev h hev => ⟨StOK_logEv_notBody h.1 ev hev,
        StErrOK_of_eq hQ h.2 (logEv_fields st cfg ev).1 (logEv_fields st cfg ev).2.1 (logEv_suffix st cfg ev)⟩
      setError := fun hin h he =>
        ⟨(posInv cfg henv).states.setError hin h.1 (fun er her => (he er her).1),
         StErrOK_setError h.2 _ (fun er her => (he er her).2)⟩
      enter := fun {idx body ctx pos st} _ hin h hact hcur =>
        ⟨(Pre_memoEnter ⟨hin, h.1, hact⟩ hcur).2.1, StErrOK_of_eq hQ h.2 (memoEnter_frame cfg idx pos st).1
          (memoEnter_frame cfg idx pos st).2.1 (memoEnter_grow cfg idx pos st).log⟩
      leave := fun hg hin h hn he _ =>
        ⟨(posInv cfg henv).states.leave hg.1 hin h.1 hn (fun er her => (he er her).1) trivial,
         fun c hcm er her => (mem_cacheSave hcm).elim (fun h1 => by subst h1; exact (he er her).2)
           (fun h1 => h.2.cache c h1 er her), h.2.ctxErr⟩
      hit := fun {st idx body pos ctx e} hg h hc =>
        have hp := (posInv cfg henv).states.hit hg.1 h.1 hc
        ⟨hp.1, fun er her => ⟨hp.2.1 er her, h.2.cache e (cacheGet_some hc).1 er her⟩, trivial⟩ }

end

theorem run_err (cfg : Cfg) (S : G → Bytes → Prop) (Nm : Bytes → Prop) (AP : Prop) (Q : List Ev → Err → Prop)
    (hQ : ErrInv cfg S Nm AP Q) (hgh : cfg.ghost = true)
    (henv : ∀ g' ∈ cfg.env, g'.Core (TermGood cfg)) (henvL : ∀ g' ∈ cfg.env, g'.All (LocErr cfg S Nm AP)) :
    ∀ fuel g ctx pos st o st', g.Core (TermGood cfg) → g.All (LocErr cfg S Nm AP) → Pre cfg ctx pos st →
      StErrOK Q st → run cfg fuel g ctx pos st = some (o, st') → PostE Q st o st' := by
  intro fuel g ctx pos st o st' hg hgl hpre hse h
  have hp := (errInv hQ hgh henv henvL).run fuel g ctx pos st o st' (And.intro hg hgl)
    (And.intro hpre.1 (And.intro (And.intro hpre.2.1 hse) hpre.2.2)) h
  exact ⟨fun er her => (hp.err er her).2, hp.st.2, hp.log⟩

end PV
