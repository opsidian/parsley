/-
  THE COMBINATORIAL HALF (C01, completeness, half B) — no `run` here.

  Ends: every end position a derivation of the monotone fragment reaches is reached by a CURTAILED derivation
  (`DerivesC`) from the zero counters (`derivesC_of_derives_ends`): the cut argument of Proofs/Cut.lean without
  leaves, on grammars without trims — there `Derives` is its derivations and `DerivesC` its curtailed derivations.

  Trees: `Contains cfg k e g pos x`: the tree `x` has a derivation from `g` at `pos` in which — on the part of
  it that still starts at `pos` (through references, memoized bodies, alternatives, options, and
  sequence elements preceded by zero-width elements only) — a `memo k` node spans `pos … e`.

  `Acyclic cfg bodyOf`: no derivation of the body of a memoized parser `k` spanning `pos … e` contains, in
  that sense, a `memo k` node with the SAME span: the same (index, start, end) is never nested in itself.
  Without such a nesting the ends of nested activations that share a start strictly shrink, so there are
  at most `remaining + 1` of them and no curtailment test fails.  (With such a nesting the cycle can be
  pumped: the span has infinitely many DERIVATIONS.  `Acyclic` is a sufficient condition for "finitely
  many trees", not an equivalent one: `P → P | a` is cyclic although its only tree is `a`, because
  `memo`/`any`/`ref` steps leave no trace in the tree; for such grammars the ends theorem applies.)
  Under `Acyclic` every derivation IS a curtailed derivation from the zero counters, tree for tree
  (`derivesC_of_derives_tree`).
-/
import ParsleyVerif.Proofs.C1TCover
namespace PV
open PV.Text PV.Cut

/-- every `Memoize` index wraps one parser, no trims, terminals stay within the file -/
def GoodG (cfg : Cfg) (bodyOf : Nat → G) (g : G) : Prop := GOK bodyOf g ∧ g.Core (TermGood cfg)

theorem GoodG.optional {cfg : Cfg} {bodyOf : Nat → G} {g : G} (h : GoodG cfg bodyOf (.optional g)) :
    GoodG cfg bodyOf g := ⟨h.1.kid (.head _), h.2⟩

theorem GoodG.lookup {cfg : Cfg} {bodyOf : Nat → G} {g : G} {sh : SeqShape} (h : GoodG cfg bodyOf g)
    (hs : g.shape = some sh) : ∀ d g', sh.lookup d = some g' → GoodG cfg bodyOf g' :=
  fun d g' hl => ⟨shape_lookup_all h.1 hs d g' hl, shape_lookup_core h.2 hs d g' hl⟩

theorem core_closed {cfg : Cfg} (henv : ∀ g' ∈ cfg.env, g'.Core (TermGood cfg)) :
    Closed cfg noLeaves (fun g => g.Core (TermGood cfg)) where
  term h := h
  leaf _ hl := hl.elim
  ref _ _ hk := henv _ (List.mem_of_getElem? hk)
  memo h _ := h
  any h := CoreList_mem h
  optional h := h
  ltrim h := h.elim
  rtrim h := h.elim
  lookup h hs := shape_lookup_core h hs

theorem GoodG.closed {cfg : Cfg} {bodyOf : Nat → G} (henv : ∀ g' ∈ cfg.env, GoodG cfg bodyOf g') :
    Closed cfg noLeaves (GoodG cfg bodyOf) :=
  (core_closed (fun g' hg' => (henv g' hg').2)).withAll (LocalOK bodyOf) (fun g' hg' => (henv g' hg').1)

theorem GoodG.oneBody {cfg : Cfg} {bodyOf : Nat → G} : OneBody bodyOf noLeaves (GoodG cfg bodyOf) :=
  fun h _ => G.All_self (P := LocalOK bodyOf) h.1

theorem Frag.out {cfg : Cfg} {g : G} {p : Prop} (hn : FragLocal cfg g → False) (hf : Frag cfg g) : p :=
  (hn (G.All_self hf)).elim

theorem dn_of_derives {cfg : Cfg} (henv : ∀ g' ∈ cfg.env, Frag cfg g') {g : G} {pos : Nat} {x : Node}
    (h : Derives cfg g pos x) : Frag cfg g → ∃ n, DN cfg noLeaves n g pos x :=
  -- the premises in the order of the constructors of `Derives`, `DerivesSeq`: term, empty, eof; ref; memo; any; choice;
  -- optSome, optNone; name, suppress, singleUnwrap, singleKeep; ltrim, rtrimMove, rtrimKeep; seqfam; nil; cons
  -- (one source line each group; `hf.out id` where the operator is outside the fragment)
  @Derives.rec cfg (fun g pos x _ => Frag cfg g → ∃ n, DN cfg noLeaves n g pos x)
    (fun sh d pos nodes _ => (∀ d g', sh.lookup d = some g' → Frag cfg g') → ∃ n, DSN cfg noLeaves n sh d pos nodes)
    (fun h _ => ⟨1, .term h⟩) (fun _ => ⟨1, .empty⟩) (fun _ hf => hf.out id)
    (fun hk _ ih _ => have ⟨n, hn⟩ := ih (henv _ (List.mem_of_getElem? hk)); ⟨n + 1, .ref id hk hn⟩)
    (fun _ ih hf => have ⟨n, hn⟩ := ih (hf.kid (.head _)); ⟨n + 1, .memo id hn⟩)
    (fun hm _ ih hf => have ⟨n, hn⟩ := ih (hf.kid hm); ⟨n + 1, .any hm hn⟩)
    (fun _ _ _ hf => hf.out id)
    (fun _ ih hf => have ⟨n, hn⟩ := ih (hf.kid (.head _)); ⟨n + 1, .optSome hn⟩) (fun _ => ⟨1, .optNone⟩)
    (fun _ _ hf => hf.out id) (fun _ _ hf => hf.out id) (fun _ _ hf => hf.out id) (fun _ _ hf => hf.out id)
    (fun _ _ hf => hf.out id) (fun _ _ hf => hf.out id) (fun _ _ hf => hf.out id)
    (fun {g} _ _ _ hs _ hl ih hf => by
      have ⟨n, hn⟩ := ih (shape_lookup_all hf hs)
      cases g with
      | seq k gs so =>
        cases k with
        | seqOf => exact ⟨n + 1, .seqOf hs hn hl⟩
        | _ => exact hf.out id
      | many g1 ae so => exact hf.out id
      | sepBy v s ae so => exact hf.out id
      | _ => exact nomatch hs)
    (fun _ => ⟨0, .nil⟩)
    (fun hl _ _ ih1 ih2 hf => have ⟨a, ha⟩ := ih1 (hf _ _ hl); have ⟨b, hb⟩ := ih2 hf; ⟨a + b + 1, .cons hl ha hb⟩)
    g pos x h

theorem dsn_of_derivesSeq {cfg : Cfg} (henv : ∀ g' ∈ cfg.env, Frag cfg g') {sh : SeqShape} :
    ∀ {nodes : List Node} {d pos : Nat}, DerivesSeq cfg sh d pos nodes →
      (∀ d g', sh.lookup d = some g' → Frag cfg g') → ∃ n, DSN cfg noLeaves n sh d pos nodes
  | [], _, _, _, _ => ⟨0, .nil⟩
  | _ :: _, _, _, .cons hl hd hrest, hf =>
    have ⟨a, ha⟩ := dn_of_derives henv hd (hf _ _ hl)
    have ⟨b, hb⟩ := dsn_of_derivesSeq henv hrest hf
    ⟨a + b + 1, .cons hl ha hb⟩

theorem derives_of_dn {cfg : Cfg} {n : Nat} {g : G} {pos : Nat} {x : Node} (h : DN cfg noLeaves n g pos x) :
    Derives cfg g pos x := C1T.derives_of_derivesW (C1T.derivesW_of_dn h)

/-- a curtailed derivation is a derivation: `DerivesC` has the rules of `Derives` with one more premise -/
theorem derives_of_derivesC {cfg : Cfg} {c : Nat → Nat} {g : G} {pos : Nat} {x : Node} (h : DerivesC cfg c g pos x) :
    Derives cfg g pos x :=
  @DerivesC.rec cfg (fun _ g pos x _ => Derives cfg g pos x) (fun _ sh d pos nodes _ => DerivesSeq cfg sh d pos nodes)
    .term .empty (fun hk _ => .ref hk) (fun _ _ => .memo) (fun hm _ => .any hm) (fun _ => .optSome) .optNone
    (fun hs _ hl h => .seqfam hs h hl) .nil (fun hl _ _ => .cons hl) c g pos x h

theorem curtailed (cfg : Cfg) (bodyOf : Nat → G) :
    Curtailed cfg noLeaves (GoodG cfg bodyOf) (DerivesC cfg) (DerivesSeqC cfg) where
  leaf hl := hl.elim
  term hp := .term hp
  empty := .empty
  ref _ hk h := .ref hk h
  memo _ hle h := .memo hle h
  any hm h := .any hm h
  optSome h := .optSome h
  optNone := .optNone
  seqOf hs h hl := .seqOf hs h hl
  ltrim hg := hg.2.elim
  rtrim hg := hg.2.elim
  nil := .nil
  cons hl h hrest := .cons hl h hrest

/-- **(B), ends.**  Every end position that a derivation reaches is reached by a curtailed derivation
    from the empty left-recursion context. -/
theorem derivesC_of_derives_ends (cfg : Cfg) (bodyOf : Nat → G)
    (henv : ∀ g' ∈ cfg.env, Frag cfg g' ∧ GoodG cfg bodyOf g') (g : G) (hf : Frag cfg g) (hg : GoodG cfg bodyOf g)
    (pos : Nat) (hin : InFile cfg.file pos) (x : Node) (h : Derives cfg g pos x) :
    ∃ y, DerivesC cfg zeroC g pos y ∧ y.rpos = x.rpos := by
  obtain ⟨n, hn⟩ := dn_of_derives (fun g' hg' => (henv g' hg').1) h hf
  exact covers_ends (GoodG.closed (fun g' hg' => (henv g' hg').2)) GoodG.oneBody (curtailed cfg bodyOf) hg hin hn

mutual
inductive Contains (cfg : Cfg) (k e : Nat) : G → Nat → Node → Prop
  | here {body pos x} : Derives cfg (.memo k body) pos x → x.rpos = e → Contains cfg k e (.memo k body) pos x
  | ref {r g pos x} : cfg.env[r]? = some g → Contains cfg k e g pos x → Contains cfg k e (.ref r) pos x
  | memo {i g pos x} : Contains cfg k e g pos x → Contains cfg k e (.memo i g) pos x
  | any {gs g pos x} : g ∈ gs → Contains cfg k e g pos x → Contains cfg k e (.any gs) pos x
  | optSome {g pos x} : Contains cfg k e g pos x → Contains cfg k e (.optional g) pos x
  | seqOf {gs o sh pos nodes} : (G.seq .seqOf gs o).shape = some sh → ContainsSeq cfg k e sh 0 pos nodes →
      sh.lenCheck nodes.length = true → Contains cfg k e (.seq .seqOf gs o) pos (handleResult sh pos nodes)
inductive ContainsSeq (cfg : Cfg) (k e : Nat) : SeqShape → Nat → Nat → List Node → Prop
  | head {sh d pos g n rest} : sh.lookup d = some g → Contains cfg k e g pos n →
      DerivesSeq cfg sh (d + 1) n.rpos rest → ContainsSeq cfg k e sh d pos (n :: rest)
  | tail {sh d pos g n rest} : sh.lookup d = some g → Derives cfg g pos n → n.rpos = pos →
      ContainsSeq cfg k e sh (d + 1) n.rpos rest → ContainsSeq cfg k e sh d pos (n :: rest)
end

def Acyclic (cfg : Cfg) (bodyOf : Nat → G) : Prop :=
  ∀ k pos x, InFile cfg.file pos → ¬ Contains cfg k x.rpos (bodyOf k) pos x

/-- in the fragment, no trims, terminals stay inside the file -/
def PosOK (cfg : Cfg) (g : G) : Prop := Frag cfg g ∧ g.Core (TermGood cfg)

theorem PosOK.lookup {cfg : Cfg} {g : G} {sh : SeqShape} (h : PosOK cfg g) (hs : g.shape = some sh) :
    ∀ d g', sh.lookup d = some g' → PosOK cfg g' :=
  fun d g' hl => ⟨shape_lookup_all h.1 hs d g' hl, shape_lookup_core h.2 hs d g' hl⟩

theorem nest_of_contains {cfg : Cfg} (henv : ∀ g' ∈ cfg.env, Frag cfg g') {k e : Nat} {g : G} {pos : Nat} {x : Node}
    (h : Contains cfg k e g pos x) : Frag cfg g → Nest cfg noLeaves k e g pos x :=
  @Contains.rec cfg k e (fun g pos x _ => Frag cfg g → Nest cfg noLeaves k e g pos x)
    (fun sh d pos nodes _ => (∀ d g', sh.lookup d = some g' → Frag cfg g') → NestS cfg noLeaves k e sh d pos nodes)
    (fun hd he hf => have ⟨_, hn⟩ := dn_of_derives henv hd hf; .here id hn he)
    (fun hk _ ih _ => .ref id hk (ih (henv _ (List.mem_of_getElem? hk))))
    (fun _ ih hf => .memo id (ih (hf.kid (.head _)))) (fun hm _ ih hf => .any hm (ih (hf.kid hm)))
    (fun _ ih hf => .optSome (ih (hf.kid (.head _))))
    (fun hs _ hl ih hf => .seqOf hs (ih (shape_lookup_all hf hs)) hl)
    (fun hl _ hds ih hf => have ⟨_, hb⟩ := dsn_of_derivesSeq henv hds hf; .head hl (ih (hf _ _ hl)) hb)
    (fun hl hd hz _ ih hf => have ⟨_, ha⟩ := dn_of_derives henv hd (hf _ _ hl); .tail hl ha hz (ih hf))
    g pos x h

/-- `Acyclic` from the test of Proofs/Guarded.lean on every rule body -/
theorem acyclic_of_guards (cfg : Cfg) (bodyOf : Nat → G) (henv : ∀ g' ∈ cfg.env, Frag cfg g' ∧ GoodG cfg bodyOf g')
    (hb : ∀ k, Frag cfg (bodyOf k) ∧ GoodG cfg bodyOf (bodyOf k) ∧
      ∃ n, (bodyOf k).guards cfg.env (fun _ => false) k n = true) : Acyclic cfg bodyOf := fun k _ _ hin hc =>
  have ⟨hf, hg, _, hn⟩ := hb k
  not_nest_of_guards (lf := fun _ => false) (GoodG.closed fun g' hg' => (henv g' hg').2) (fun _ => id) nofun hg hn hin
    (nest_of_contains (fun g' hg' => (henv g' hg').1) hc hf)

theorem nesting (cfg : Cfg) (bodyOf : Nat → G) :
    Nesting cfg noLeaves (GoodG cfg bodyOf) (Contains cfg) (ContainsSeq cfg) where
  here _ _ hd he := .here (derives_of_dn hd) he
  ref _ hk h := .ref hk h
  memo _ h := .memo h
  any hm h := .any hm h
  optSome h := .optSome h
  seqOf hs h hl := .seqOf hs h hl
  ltrim hg := hg.2.elim
  rtrim hg := hg.2.elim
  head _ hl h hrest := .head hl h (C1T.derivesSeq_of_derivesSeqW (C1T.derivesSeqW_of_dsn hrest))
  tail _ hl hd hz h := .tail hl (derives_of_dn hd) hz h

/-- **(B), trees.**  In an acyclic grammar every derivation is a curtailed derivation from the empty
    left-recursion context — the same tree. -/
theorem derivesC_of_derives_tree (cfg : Cfg) (bodyOf : Nat → G)
    (henv : ∀ g' ∈ cfg.env, Frag cfg g' ∧ GoodG cfg bodyOf g') (hac : Acyclic cfg bodyOf)
    (g : G) (hf : Frag cfg g) (hg : GoodG cfg bodyOf g)
    (pos : Nat) (hin : InFile cfg.file pos) (x : Node) (h : Derives cfg g pos x) :
    DerivesC cfg zeroC g pos x := by
  obtain ⟨n, hn⟩ := dn_of_derives (fun g' hg' => (henv g' hg').1) h hf
  exact covers_trees (GoodG.closed (fun g' hg' => (henv g' hg').2)) GoodG.oneBody (curtailed cfg bodyOf)
    (nesting cfg bodyOf) (fun k _ pos x _ hin => hac k pos x hin) hg hin hn

end PV
