/-
  A parser that decides a set of files.  `Reads cfg root L`: an accepting answer of `parse cfg · root` implies `L`, and
  `L` implies an accepting answer at some fuel.  From these two facts alone, for any grammar: an answer at ANY fuel is
  accepting iff `L` (the answers at two fuels agree at the larger one, `parse_mono`); outside `L` every answer is an
  error; with termination, `parse` decides `L` from some fuel on.  The JSON example (Props/C16A.lean, `L` = `JLang`)
  and the arithmetic grammar (Props/C05A.lean, `L` = "the file is the rendering of a well-formed expression") are the
  two instances.
-/
import ParsleyVerif.Props.C04
import ParsleyVerif.Proofs.RunMono
namespace PV
open PV.Text

structure Reads (cfg : Cfg) (root : G) (L : Prop) : Prop where
  sound : ∀ fuel p, parse cfg fuel root = some p → p.err = none → L
  complete : L → ∃ fuel p, parse cfg fuel root = some p ∧ p.err = none

theorem rejects_of_sound {cfg : Cfg} {root : G} {L : Prop}
    (sound : ∀ fuel p, parse cfg fuel root = some p → p.err = none → L) (hout : ¬ L)
    (fuel : Nat) (p : ParseOut) (h : parse cfg fuel root = some p) :
    p.res.isNil = true ∧ p.err.isSome ∧ p.msg.isSome := by
  rcases c04_xor cfg fuel _ {} p h with h1 | h1
  · exact (hout (sound fuel p h h1.2.1)).elim
  · exact h1

namespace Reads
variable {cfg : Cfg} {root : G} {L : Prop} (R : Reads cfg root L)
include R

theorem accept_iff : (∃ fuel p, parse cfg fuel root = some p ∧ p.err = none) ↔ L :=
  ⟨fun ⟨fuel, p, h, hok⟩ => R.sound fuel p h hok, R.complete⟩

theorem answer_iff (fuel : Nat) (p : ParseOut) (hp : parse cfg fuel root = some p) : p.err = none ↔ L := by
  refine ⟨R.sound fuel p hp, fun hl => ?_⟩
  obtain ⟨f2, p2, hp2, hok2⟩ := R.complete hl
  have h1 := parse_mono cfg fuel (max fuel f2) (Nat.le_max_left fuel f2) root {} p hp
  have h2 := parse_mono cfg f2 (max fuel f2) (Nat.le_max_right fuel f2) root {} p2 hp2
  rw [h1] at h2
  cases h2
  exact hok2

theorem decides (halts : ∃ F, ∀ fuel, F ≤ fuel → (parse cfg fuel root).isSome = true) :
    ∃ F, ∀ fuel, F ≤ fuel → ∃ p, parse cfg fuel root = some p ∧ (p.err = none ↔ L) ∧
      (¬ L → p.res.isNil = true ∧ p.err.isSome ∧ p.msg.isSome) := by
  obtain ⟨F, hF⟩ := halts
  refine ⟨F, fun fuel hfuel => ?_⟩
  obtain ⟨p, hp⟩ := Option.isSome_iff_exists.mp (hF fuel hfuel)
  exact ⟨p, hp, R.answer_iff fuel p hp, fun hl => rejects_of_sound R.sound hl fuel p hp⟩

end Reads
end PV
