/-
  What the value theorems of the two example grammars (C05 arithmetic, C16 JSON) need of the text below the parser:

  * an integer lexeme followed by a byte that cannot continue it is the longest prefix in the language of
    `terminal.Integer` — whatever the grammar puts after a number (`int_longest`; the set of following bytes is a
    hypothesis);
  * the bytes at a position are the maximal run of whitespace followed by something that does not start with
    whitespace, and `SkipWhitespaces` stops between the two (`ws_split`, `ws_split_unique`).
-/
import ParsleyVerif.Proofs.Lang
import ParsleyVerif.Proofs.Reader
import ParsleyVerif.Model.Run
namespace PV
open PV.Text


theorem digit_hex {b : Nat} (h : Lang.digit b = true) : Lang.hexDigit b = true := by
  have := (digit_iff _).1 h
  unfold Lang.hexDigit; simp; omega

theorem nzDigit_le {b : Nat} (h : Lang.nzDigit b = true) : 49 ≤ b ∧ b ≤ 57 := by
  unfold Lang.nzDigit at h; simpa using h

/-- a byte that can stand in an integer literal after its first byte: a hexadecimal digit, `x`, `X` -/
def IntTail (b : Nat) : Prop := Lang.hexDigit b = true ∨ b = 120 ∨ b = 88

theorem isIntBody_chars {w : Bytes} (h : Lang.isIntBody w = true) :
    (∃ c t, w = c :: t ∧ 48 ≤ c ∧ c ≤ 57) ∧ ∀ b ∈ w, IntTail b := by
  cases w with
  | nil => cases h
  | cons c t =>
    unfold Lang.isIntBody at h
    rw [hexLit_cons, octalLit_cons] at h
    simp only [Bool.or_eq_true, Bool.and_eq_true, decide_eq_true_eq] at h
    rcases h with (h | ⟨hc, h⟩) | ⟨hc, h⟩
    · have h' : Lang.nzDigit c = true ∧ Lang.star Lang.digit t = true := by
        simpa [Lang.decimalLit] using h
      have hc := nzDigit_le h'.1
      refine ⟨⟨c, t, rfl, by omega, hc.2⟩, ?_⟩
      intro b hb
      rcases List.mem_cons.mp hb with rfl | hb
      · left; unfold Lang.hexDigit; simp; omega
      · exact .inl (digit_hex ((star_iff _ _).mp h'.2 b hb))
    · subst hc
      refine ⟨⟨48, t, rfl, by omega, by omega⟩, ?_⟩
      cases t with
      | nil => cases h
      | cons x r =>
        have h' : (x = 120 ∨ x = 88) ∧ Lang.plus1 Lang.hexDigit r = true := by
          simpa [hexTail] using h
        intro b hb
        rcases List.mem_cons.mp hb with rfl | hb
        · left; rfl
        · rcases List.mem_cons.mp hb with rfl | hb
          · exact .inr h'.1
          · exact .inl (((plus1_iff _ _).mp h'.2).2 b hb)
    · subst hc
      refine ⟨⟨48, t, rfl, by omega, by omega⟩, ?_⟩
      intro b hb
      rcases List.mem_cons.mp hb with rfl | hb
      · left; rfl
      · exact .inl (octDigit_hex ((star_iff _ _).mp h b hb))

theorem isInt_head {l : Bytes} (h : Lang.isInt l = true) :
    ∃ c t, l = c :: t ∧ (c = 45 ∨ c = 43 ∨ (48 ≤ c ∧ c ≤ 57)) := by
  rcases (optSign_iff _ _).mp h with h | ⟨s, r, rfl, hs, _⟩
  · obtain ⟨⟨c, t, rfl, hc⟩, _⟩ := isIntBody_chars h
    exact ⟨c, t, rfl, .inr (.inr hc)⟩
  · rcases (sign_iff _).mp hs with h | h
    · exact ⟨s, r, rfl, .inl h⟩
    · exact ⟨s, r, rfl, .inr (.inl h)⟩

theorem isInt_tail {w : Bytes} (h : Lang.isInt w = true) : ∀ b ∈ w.tail, IntTail b := by
  rcases (optSign_iff _ _).mp h with h | ⟨s, r, rfl, _, h⟩
  · exact fun b hb => (isIntBody_chars h).2 b (List.mem_of_mem_tail hb)
  · exact (isIntBody_chars h).2

theorem take_append_mem {l tail : Bytes} {j : Nat} (h1 : l.length < j) (h2 : j ≤ (l ++ tail).length) :
    ∃ c, tail.head? = some c ∧ c ∈ (l ++ tail).take j := by
  cases tail with
  | nil => simp at h2; omega
  | cons c t =>
    refine ⟨c, rfl, ?_⟩
    obtain ⟨m, rfl⟩ : ∃ m, j = l.length + (m + 1) := ⟨j - l.length - 1, by omega⟩
    rw [List.take_length_add_append]
    simp

/-- `hL` speaks of `w.tail` only: `+` and `-` start an integer literal and also follow one in an arithmetic expression -/
theorem longestPrefix_append_tail {L : Bytes → Bool} (P : Nat → Prop) (hL : ∀ w, L w = true → ∀ b ∈ w.tail, P b)
    {a : Nat} {l tail : Bytes} (hl : L (a :: l) = true) (ht : ∀ c, tail.head? = some c → ¬ P c) :
    Lang.longestPrefix L (a :: l ++ tail) = some (a :: l).length := by
  apply longestPrefix_eq_some (by simp) (by rw [List.take_left]; exact hl)
  intro j h1 h2
  obtain ⟨k, rfl⟩ : ∃ k, j = k + 1 := ⟨j - 1, by simp at h1; omega⟩
  obtain ⟨c, hc, hmem⟩ := take_append_mem (l := l) (tail := tail) (j := k) (by simpa using h1) (by simpa using h2)
  apply Bool.eq_false_iff.mpr
  intro h
  exact ht c hc (hL _ h c (by simpa [List.take_succ_cons] using hmem))

theorem int_longest {lex tl : Bytes} (h : Lang.isInt lex = true) (ht : ∀ c, tl.head? = some c → ¬ IntTail c) :
    Lang.longestPrefix Lang.isInt (lex ++ tl) = some lex.length := by
  obtain ⟨c, t, rfl, _⟩ := isInt_head h
  exact longestPrefix_append_tail IntTail (fun _ => isInt_tail) h ht

theorem mem_takeWhile_isWs (l : Bytes) (b : Nat) (h : b ∈ l.takeWhile isWs) : isWs b = true :=
  List.all_eq_true.mp List.all_takeWhile b h

theorem dropWhile_isWs_head (l : Bytes) : ∀ c, (l.dropWhile isWs).head? = some c → isWs c = false := by
  intro c hc
  have := List.head?_dropWhile_not isWs l
  rw [hc] at this
  exact this

theorem rest_wsRun {f : File} {p : Nat} (hin : InFile f p) :
    rest f (p + wsRun (rest f p)) = (rest f p).dropWhile isWs := by
  rw [rest_advance hin]
  exact drop_length_takeWhile isWs _

/-- `hoff`: `SkipWhitespaces` keeps the position of the first line break in a variable whose zero means "none seen"
    (text/reader.go), so its specification holds for positions ≥ 1 only; text.NewFile sets the offset 1, a FileSet starts at 1 -/
theorem ws_split {f : File} (hoff : 1 ≤ f.offset) {p : Nat} (hin : InFile f p) (m : WsMode) :
    ∃ w l, (∀ b ∈ w, isWs b = true) ∧ (∀ c, l.head? = some c → isWs c = false) ∧ rest f p = w ++ l ∧
      InFile f (p + w.length) ∧ rest f (p + w.length) = l ∧
      skipWhitespaces f p m = (p + w.length, wsVerdict m p (rest f p)) :=
  ⟨(rest f p).takeWhile isWs, (rest f p).dropWhile isWs, mem_takeWhile_isWs _, dropWhile_isWs_head _,
    List.takeWhile_append_dropWhile.symm, inFile_advance hin (wsRun_le _), rest_wsRun hin,
    skipWhitespaces_spec f p m hin hoff⟩

theorem wsToErr_none {ws : Option (Nat × WsErr)} (h : wsToErr ws = none) : ws = none := by
  cases ws with
  | none => rfl
  | some pk => cases h

theorem ws_split_unique {f : File} {p : Nat} {w l : Bytes} (hr : rest f p = w ++ l) (hw : ∀ b ∈ w, isWs b = true)
    (hl : ∀ c, l.head? = some c → isWs c = false) : wsRun (rest f p) = w.length := by
  rw [hr]; exact wsRun_append w l hw hl

end PV
