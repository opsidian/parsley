/-
  The refinement behind C15: the state machine of Model/Data.lean (`step`: IntSet/IntMap operations on a pool of values
  living in the two heaps) against the pure machine of Spec/SetSpec.lean (`specStep`).  `Inv st sp`: every pool value reads,
  in the current heaps, as the specification's value, sets are well formed and ascending, maps exist and are key-sorted;
  no operation writes to what existed, so old pool values keep their reading (`Inv.push`).
-/
import ParsleyVerif.Proofs.DataMap
namespace PV.Data

structure Inv (st : St) (sp : List AVal) : Prop where
  abs : st.pool.map (absVal st) = sp
  setwf : ∀ (i : Nat) (s : Slice), st.pool[i]? = some (Val.set s) → SWF st.heap s ∧ (view st.heap s).Pairwise (· < ·)
  mapwf : ∀ (i : Nat) (m : Nat), st.pool[i]? = some (Val.map m) → m < st.maps.length ∧ MSorted (mobj st.maps m)

theorem Inv.init : Inv {} [] := ⟨rfl, fun i s h => by simp at h, fun i m h => by simp at h⟩

theorem Inv.sp_get {st : St} {sp : List AVal} (inv : Inv st sp) (i : Nat) :
    sp[i]? = (st.pool[i]?).map (absVal st) := by
  rw [← inv.abs]; simp

theorem getElem?_snoc {α : Type} {l : List α} {v x : α} {i : Nat} (h : (l ++ [v])[i]? = some x) :
    l[i]? = some x ∨ x = v := by
  rcases Nat.lt_or_ge i l.length with hlt | hge
  · exact Or.inl (by rwa [List.getElem?_append_left hlt] at h)
  · rw [List.getElem?_append_right hge] at h
    exact Or.inr (List.mem_singleton.mp (List.mem_of_getElem? h))

theorem Inv.push {st : St} {sp : List AVal} (inv : Inv st sp) (h' : Heap) (mh' : MHeap) (v : Val) (a : AVal)
    (hf : Frame st.heap.length st.heap h') (mf : MFrame st.maps mh')
    (ha : absVal { st with heap := h', maps := mh' } v = a)
    (hset : ∀ s, v = .set s → SWF h' s ∧ (view h' s).Pairwise (· < ·))
    (hmap : ∀ m, v = .map m → m < mh'.length ∧ MSorted (mobj mh' m)) :
    Inv { st with heap := h', maps := mh', pool := st.pool ++ [v] } (sp ++ [a]) := by
  refine ⟨?_, fun i s hi => ?_, fun i m hi => ?_⟩
  · -- an old value reads in the new heaps what it read in the old ones
    have hold : ∀ x ∈ st.pool, absVal { st with heap := h', maps := mh', pool := st.pool ++ [v] } x = absVal st x := by
      intro x hx
      obtain ⟨i, hi, rfl⟩ := List.getElem_of_mem hx
      have hi' : st.pool[i]? = some st.pool[i] := List.getElem?_eq_getElem hi
      cases hx' : st.pool[i] with
      | set s => exact congrArg AVal.set (hf.view_eq s (inv.setwf i s (hx' ▸ hi')).1.1)
      | map m => exact congrArg AVal.map (mf.2 m (inv.mapwf i m (hx' ▸ hi')).1)
    rw [List.map_append, List.map_congr_left hold, inv.abs, ← ha]
    cases v <;> rfl
  · rcases getElem?_snoc hi with h | h
    · obtain ⟨w, srt⟩ := inv.setwf i s h
      exact ⟨hf.swf w w.1, by rw [hf.view_eq s w.1]; exact srt⟩
    · exact hset s h.symm
  · rcases getElem?_snoc hi with h | h
    · obtain ⟨w, srt⟩ := inv.mapwf i m h
      exact ⟨Nat.lt_of_lt_of_le w mf.1, by rw [mf.2 m w]; exact srt⟩
    · exact hmap m h.symm

theorem sOfList_sorted (vs : List Int) : (sOfList vs).Pairwise (· < ·) :=
  List.foldlRecOn vs _ (motive := fun l => l.Pairwise (· < ·)) List.Pairwise.nil fun l h v _ => sInsert_sorted l v h

theorem step_refines (grow : Nat → Nat) (st : St) (sp : List AVal) (inv : Inv st sp) (op : Op) :
    Inv (step grow st op).1 (specStep sp op).1 ∧ (step grow st op).2 = (specStep sp op).2 := by
  have spg := inv.sp_get
  -- a well-formed set with the specification's value, built without writing to what existed, joins the pool
  have pushSet : ∀ (p : Heap × Slice) (l : List Int), SWF p.1 p.2 → view p.1 p.2 = l → l.Pairwise (· < ·) →
      Frame st.heap.length st.heap p.1 →
      Inv { st with heap := p.1, pool := st.pool ++ [.set p.2] } (sp ++ [.set l]) := fun p l w hv hs hf =>
    inv.push p.1 st.maps (.set p.2) _ hf (MFrame.refl _) (congrArg AVal.set hv)
      (fun s e => by cases e; exact ⟨w, hv ▸ hs⟩) (fun m e => by cases e)
  -- … and so does a map
  have pushMap : ∀ (p : MHeap × Nat) (m : FMap), p.2 = st.maps.length ∧ mobj p.1 st.maps.length = m ∧
      MFrame st.maps p.1 ∧ p.1.length = st.maps.length + 1 → MSorted m →
      Inv { st with maps := p.1, pool := st.pool ++ [.map p.2] } (sp ++ [.map m]) := fun p m ⟨e, hm, hf, hl⟩ hs =>
    inv.push st.heap p.1 (.map p.2) _ (Frame.refl _ _) hf (congrArg AVal.map (e ▸ hm))
      (fun s e => by cases e) (fun m' e' => by cases e'; rw [e]; exact ⟨by omega, hm ▸ hs⟩)
  cases op with
  | newSet vs =>
    obtain ⟨n1, n2, n3⟩ := newIntSet_spec grow st.heap vs
    exact ⟨pushSet _ _ n1 n2 (sOfList_sorted vs) n3, rfl⟩
  | insert i v =>
    simp only [step, specStep, St.setAt, spg i]
    rcases hp : st.pool[i]? with _ | (s | m)
    · exact ⟨inv, rfl⟩
    · obtain ⟨w, srt⟩ := inv.setwf i s hp
      obtain ⟨n1, n2, n3⟩ := insert_spec grow st.heap s v w srt
      exact ⟨pushSet _ _ n1 n2 (sInsert_sorted _ _ srt) n3, rfl⟩
    · exact ⟨inv, rfl⟩
  | union i j =>
    simp only [step, specStep, St.setAt, spg i, spg j]
    rcases hp : st.pool[i]? with _ | (s | m) <;> rcases hq : st.pool[j]? with _ | (s2 | m2) <;>
      try exact ⟨inv, rfl⟩
    obtain ⟨w, srt⟩ := inv.setwf i s hp
    obtain ⟨w2, srt2⟩ := inv.setwf j s2 hq
    obtain ⟨n1, n2, n3⟩ := union_spec grow st.heap s s2 w w2
    exact ⟨pushSet _ _ n1 n2 (sMerge_sorted _ _ srt srt2) n3, rfl⟩
  | len i =>
    simp only [step, specStep, St.setAt, spg i]
    rcases hp : st.pool[i]? with _ | (s | m) <;> try exact ⟨inv, rfl⟩
    exact ⟨inv, congrArg (fun n : Nat => Out.int n) (inv.setwf i s hp).1.view_length.symm⟩
  | newMap kvs => exact ⟨pushMap _ _ (newIntMap_spec st.maps kvs) (mOfList_sorted kvs), rfl⟩
  | inc i k =>
    simp only [step, specStep, St.mapAt, spg i]
    rcases hp : st.pool[i]? with _ | (s | m) <;> try exact ⟨inv, rfl⟩
    obtain ⟨_, srt⟩ := inv.mapwf i m hp
    exact ⟨pushMap _ _ (inc_spec st.maps m k srt) (mInc_sorted _ _ srt), rfl⟩
  | filter i j =>
    simp only [step, specStep, St.mapAt, St.setAt, spg i, spg j]
    rcases hp : st.pool[i]? with _ | (s | m) <;> rcases hq : st.pool[j]? with _ | (s2 | m2) <;>
      try exact ⟨inv, rfl⟩
    exact ⟨pushMap _ _ (filter_spec st.maps m (inv.mapwf i m hp).1 (view st.heap s2)) (mFilter_sorted _ _), rfl⟩
  | each i | get i k | keys i | eachMap i =>
    simp only [step, specStep, St.setAt, St.mapAt, spg i]
    rcases st.pool[i]? with _ | (s | m) <;> exact ⟨inv, rfl⟩

end PV.Data
