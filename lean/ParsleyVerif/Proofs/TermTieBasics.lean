/-
  The tie of the TERMINAL PARSERS: vocabulary.

  `factgen -out-term` translates the parse closures of text/terminal/*.go (Generated/FactsTerm.lean; run-time
  Generated/TermPrelude.lean on top of Generated/CorePrelude.lean).  The closures call the reader and four library
  functions through the world parameter `T : TWorld`.  This file states what is assumed of that world:

  * `TWorldRel T cfg` — the CONTRACTS.  The reader's methods answer what the model's functions (Model/Text.lean) answer
    on the file of `cfg`, a Go panic (`none`) exactly where the model says `none` (Props/C09P.lean proves these equations
    of the TRANSLATED reader functions for positions at or above the base offset; Props/C08P.lean those of the translated
    `unquoteString`); `ReadRegexp` with the TEXT of one of the five literal expressions (printed from the syntax trees
    of Spec/Regex.lean, whose leftmost-first semantics Props/C08.lean proves equal to the hand-written matchers) finds what
    that matcher finds; strconv.ParseInt(lexeme, 0, 64) on a lexeme of the integer syntax answers `parseInt0`;
    strconv.ParseFloat(lexeme, 64) fails exactly when `floatOk` is false, time.ParseDuration(lexeme) fails with the text
    `durErr` gives (their values are symbolic: the lexeme, as in the model's `Val.float` / `Val.dur`);
    strconv.UnquoteChar(s, '\'') answers `unquoteChar s 39`; strings.ToUpper on an ASCII string is `upperAscii` (used at
    construction time, for Word's token; strconv.Quote, also construction time, is not modelled: the model's terminals
    take the quoted name as a parameter).
  * `RegexpRel T cfg id rx gi` — the contract of the regexp engine for a user expression: `ReadRegexp` /
    `ReadRegexpSubmatch` with the text `rx` find the match `cfg.params.regexp id` reports, the capturing group `gi` being
    the group whose value it reports (absent: index out of range).
  * `CorrT x s o` — the outcome `x` of a translated closure started in state `s` is the model's outcome `o` of
    `Terminal.parse`: the embedded node / error in the unchanged state, a Go panic where the model says `.panic`.
  * `closureStep` — the rewrite rules that move a closure past a world call the model has answered.
-/
import ParsleyVerif.Proofs.CoreTieWrap
import ParsleyVerif.Generated.FactsTerm
import ParsleyVerif.Spec.Regex
import ParsleyVerif.Spec.Lang
namespace PV.TermTie
open PV.CoreTie PV.Text PV.TermPrelude

abbrev TWorld := PV.TermPrelude.TWorld
abbrev TM := PV.CorePrelude.M

theorem pureT {σ α : Type} (a : α) (s : σ) : (pure a : TM σ α) s = .ok a s := GoM.pure_apply a s
theorem callT_some {σ α : Type} (a : α) (s : σ) : (Go.call (some a) : TM σ α) s = .ok a s := rfl
theorem callT_none {σ α : Type} (s : σ) : (Go.call (none : Option α) : TM σ α) s = .panic := rfl
theorem panicT {σ α : Type} (s : σ) : (CorePrelude.Go.panic : TM σ α) s = .panic := GoM.panic_apply s

/-- (position, found) -/
def ePB (r : Nat × Bool) : Int × Bool := ((r.1 : Int), r.2)
/-- (position, bytes or nil) -/
def ePS (r : Nat × Option Bytes) : Int × Option Bytes := ((r.1 : Int), r.2)

/-- One step of a closure, as a set of rewrite rules for `simp only`.  When the model has answered the closure's next
    world call (`some r`, or `none`: a panic), the embedded answer is bound — these are equations between closures, so what
    follows the call is moved, not evaluated — and the tests the closure makes on it are decided: Boolean connectives with a
    literal operand, `isNone` of a constructor, `if` on a decided condition.  This brings the next call to the front. -/
theorem closureStep :
    (∀ {σ α β : Type} (a : α) (k : α → TM σ β), (Go.call (some a) >>= k) = k a) ∧
    (∀ {σ α β : Type} (k : α → TM σ β), (Go.call none >>= k) = CorePrelude.Go.panic) ∧
    (∀ {σ α β : Type} (a : α) (k : α → TM σ β), (pure a >>= k) = k a) ∧
    (∀ {α β : Type} (e : α → β) (a : α), (some a).map e = some (e a)) ∧
    (∀ {α β : Type} (e : α → β), (none : Option α).map e = none) ∧
    (∀ (rp : Nat) (b : Bool), ePB (rp, b) = ((rp : Int), b)) ∧
    (∀ (rp : Nat) (v : Option Bytes), ePS (rp, v) = ((rp : Int), v)) ∧
    (∀ {α : Type} (a : α), (some a).isNone = false) ∧ (∀ {α : Type}, (none : Option α).isNone = true) ∧
    (!true) = false ∧ (!false) = true ∧
    (∀ b : Bool, (true && b) = b) ∧ (∀ b : Bool, (false && b) = false) ∧
    (∀ b : Bool, (b && true) = b) ∧ (∀ b : Bool, (b && false) = false) ∧
    (∀ b : Bool, (true || b) = true) ∧ (∀ b : Bool, (false || b) = b) ∧
    (∀ b : Bool, (b || true) = true) ∧ (∀ b : Bool, (b || false) = b) ∧
    ((false = true) = False) ∧ ((true = true) = True) ∧ decide True = true ∧ decide False = false ∧
    (∀ {α : Type} (x y : α), (if True then x else y) = x) ∧ (∀ {α : Type} (x y : α), (if False then x else y) = y) := by
  refine ⟨fun _ _ => rfl, fun _ => rfl, GoM.pure_bind, fun _ _ => rfl, fun _ => rfl, fun _ _ => rfl, fun _ _ => rfl, ?_⟩
  simp

/-- the text of an expression of Spec/Regex.lean, as the Go string constant -/
def rxBytes (sx : Rx.Sx) : Bytes := tokOf (String.ofList sx.src)

/-- a symbolic float64 / time.Duration value: the lexeme it was parsed from -/
def symOf (lex : Bytes) : CorePrelude.Opaque := lex.map Int.ofNat

structure TWorldRel (T : TWorld) (cfg : Cfg) : Prop where
  readRune : ∀ p ch : Nat, T.Reader_ReadRune p ch = (readRune cfg.file p ch).map ePB
  matchString : ∀ (p : Nat) (s : Bytes), T.Reader_MatchString p s = (matchString cfg.file p s).map ePB
  matchWord : ∀ (p : Nat) (w : Bytes), T.Reader_MatchWord p w = (matchWord cfg.file p w).map ePB
  reInteger : ∀ p : Nat, T.Reader_ReadRegexp p (rxBytes Rx.integerSx) = (readRegexp integerMatch cfg.file p).map ePS
  reFloat : ∀ p : Nat, T.Reader_ReadRegexp p (rxBytes Rx.floatSx) = (readRegexp floatMatch cfg.file p).map ePS
  reDuration : ∀ p : Nat, T.Reader_ReadRegexp p (rxBytes Rx.durationSx) = (readRegexp durationMatch cfg.file p).map ePS
  reChar : ∀ p : Nat, T.Reader_ReadRegexp p (rxBytes Rx.charSx) = (readRegexp charMatch cfg.file p).map ePS
  reBackquote : ∀ p : Nat, T.Reader_ReadRegexp p (rxBytes Rx.backquoteSx) = (readRegexp backquoteMatch cfg.file p).map ePS
  readf : ∀ p : Nat, T.Reader_Readf p T.unquoteString = (readf unquoteString cfg.file p).map ePS
  isEOF : ∀ p : Nat, T.Reader_IsEOF p = isEOF cfg.file p
  remaining : ∀ p : Nat, T.Reader_Remaining p = (remaining cfg.file p : Nat)
  /-- strconv.ParseInt(lexeme, 0, 64) on a lexeme of the integer syntax -/
  parseInt : ∀ lex : Bytes, Lang.IsInt lex →
    match parseInt0 lex with
    | some v => T.strconv_ParseInt lex 0 64 = (v, .nil)
    | none => (T.strconv_ParseInt lex 0 64).2.isNil = false
  /-- strconv.ParseFloat(lexeme, 64) -/
  parseFloat : ∀ lex : Bytes,
    if cfg.params.floatOk lex then T.strconv_ParseFloat lex 64 = (symOf lex, .nil)
    else (T.strconv_ParseFloat lex 64).2.isNil = false
  /-- time.ParseDuration(lexeme) -/
  parseDuration : ∀ lex : Bytes,
    match cfg.params.durErr lex with
    | none => T.time_ParseDuration lex = (symOf lex, .nil)
    | some msg => (T.time_ParseDuration lex).2 = .other 0 msg
  /-- strconv.UnquoteChar(s, '\'') -/
  unquoteChar : ∀ s : Bytes,
    match unquoteChar s 39 with
    | some (v, tail) => ∃ mb, T.strconv_UnquoteChar s 39 = ((v : Int), mb, tail, .nil)
    | none => (T.strconv_UnquoteChar s 39).2.2.2.isNil = false
  /-- strings.ToUpper on an ASCII string (construction time: the token of terminal.Word) -/
  toUpper : ∀ w : Bytes, (∀ b ∈ w, b < 0x80) → T.strings_ToUpper w = upperAscii w

/-- the engine of the model for the user expression `id`: the length of the match -/
def userEngine (cfg : Cfg) (id : Nat) : Bytes → Option Nat := fun rest => (cfg.params.regexp id rest).map (·.1)

/-- the contract of the regexp engine for the user expression `id`, written `rx` in the Go program and used with the
    capturing group `gi` (0: the whole match) -/
structure RegexpRel (T : TWorld) (cfg : Cfg) (id : Nat) (rx : Bytes) (gi : Int) : Prop where
  whole : ∀ p : Nat, T.Reader_ReadRegexp p rx = (readRegexp (userEngine cfg id) cfg.file p).map ePS
  group : gi ≠ 0 → 0 < gi ∧ ∀ p : Nat,
    match readRegexp (userEngine cfg id) cfg.file p with
    | none => T.Reader_ReadRegexpSubmatch p rx = none
    | some (rp, none) => T.Reader_ReadRegexpSubmatch p rx = some ((rp : Int), none)
    | some (rp, some _) => ∃ ms, T.Reader_ReadRegexpSubmatch p rx = some ((rp : Int), some ms) ∧
        match cfg.params.regexp id (cfg.file.data.drop (p - cfg.file.offset)) with
        | some (_, some g) => ∃ v, ms[gi.toNat]? = some v ∧ Go.stringOfBytes v = g
        | _ => (ms.length : Int) ≤ gi

def CorrT {σ : Type} (x : CRes σ (CNode × IntSet × CErr)) (s : σ) : TermOut → Prop
  | .node n => x = .ok (eNode n, [], .nil) s
  | .err e => x = .ok (.nil, [], eErr1 e) s
  | .panic _ => x = .panic

theorem corrT_node {σ : Type} {x : CRes σ (CNode × IntSet × CErr)} {s : σ} {n : PV.Node}
    (h : x = .ok (eNode n, [], .nil) s) : CorrT x s (.node n) := h
theorem corrT_err {σ : Type} {x : CRes σ (CNode × IntSet × CErr)} {s : σ} {e : PV.Err}
    (h : x = .ok (.nil, [], eErr1 e) s) : CorrT x s (.err e) := h
theorem corrT_panic {σ : Type} {x : CRes σ (CNode × IntSet × CErr)} {s : σ} {site : String}
    (h : x = .panic) : CorrT x s (.panic site) := h

theorem goStr_empty : CorePrelude.Go.str "" = [] := by decide +kernel

/-- a format whose first `%` opens its first `%s` -/
theorem subst1_append (pre post a : Bytes) (h : 37 ∉ pre) : Go.subst1 (pre ++ 37 :: 115 :: post) a = pre ++ a ++ post := by
  induction pre with
  | nil => rfl
  | cons b pre ih =>
    have hb : b ≠ 37 := fun e => h (e ▸ List.mem_cons_self)
    rw [List.cons_append, Go.subst1.eq_2 _ _ _ (fun _ e => absurd e hb), ih (fun hm => h (List.mem_cons_of_mem _ hm))]
    rfl

/-- the two encoders differ only in how they write the test for a Unicode scalar value -/
theorem stringOfRune_nat (ch : Nat) : Go.stringOfRune (ch : Int) = Utf8.encodeRune ch := by
  have hc : (decide (ch > 0x10FFFF) || (decide (0xD800 ≤ ch) && decide (ch ≤ 0xDFFF))) = !Utf8.validRune ch := by
    unfold Utf8.validRune Utf8.isSurrogate Utf8.maxRune
    simp only [gt_iff_lt, ← Nat.not_le, decide_not]
    cases decide (ch ≤ 0x10FFFF) <;> cases decide (0xD800 ≤ ch) <;> cases decide (ch ≤ 0xDFFF) <;> rfl
  unfold Go.stringOfRune Utf8.encodeRune
  rw [if_neg (Int.not_lt.mpr (Int.natCast_nonneg ch))]
  simp only [Int.toNat_natCast, hc]

theorem eErr1_mk (p : Nat) (k : ErrKind) : eErr1 ⟨p, k⟩ = .mk (p : Int) (eKind k) := rfl

end PV.TermTie
