/-
  C08: leftmost-first and longest-prefix meet in a scanner.  `Munch r L m`: the expression `r`, tried leftmost-first
  (Spec/Regex.lean), and the language `L`, asked for its longest prefix (Spec/Lang.lean), both answer what the scanner
  `m` answers.  One closure lemma per operator of the five literal expressions; its side condition ("what follows a
  run of `p` does not start with a byte of `p`") is stated on the language and serves both halves, because an
  expression has no candidate where its language has no word (`Munch.run_nil`).  A literal is then a term that
  follows its syntax tree, and what is left to compare with the hand-written matcher of Model/Terminal.lean is the
  composed scanner.
-/
import ParsleyVerif.Proofs.LangBasic
import ParsleyVerif.Proofs.RegexBasic
namespace PV
open PV.Text PV.Lang
namespace Rx

/-- the length of the prefix taken, if any -/
abbrev Scanner := Bytes → Option Nat

namespace Sc
def eps : Scanner := fun _ => some 0
def star (p : Nat → Bool) : Scanner := fun l => some (spanLen p l)
def plus (p : Nat → Bool) : Scanner := fun l => if spanLen p l > 0 then some (spanLen p l) else none
/-- skip `n l` bytes (a run, a sign), then `m` -/
def after (n : Bytes → Nat) (m : Scanner) : Scanner := fun l => (m (l.drop (n l))).map (n l + ·)
def plusThen (p : Nat → Bool) (m : Scanner) : Scanner := fun l => if spanLen p l > 0 then after (spanLen p) m l else none
def byteThen (q : Nat → Bool) (m : Scanner) : Scanner
  | c :: t => if q c then (m t).map (1 + ·) else none
  | [] => none
def opt (m : Scanner) : Scanner := fun l => some ((m l).getD 0)
/-- exactly `n` bytes of `p` -/
def rep (n : Nat) (p : Nat → Bool) : Scanner := fun l => if n ≤ l.length ∧ (l.take n).all p = true then some n else none

/-- `p+ m` is one byte of `p`, then `p* m` -/
theorem plusThen_eq (p : Nat → Bool) (m : Scanner) (l : Bytes) : plusThen p m l = byteThen p (after (spanLen p) m) l := by
  cases l with
  | nil => rfl
  | cons c t =>
    unfold plusThen after
    rw [spanLen_cons]
    by_cases hc : p c = true
    · rw [if_pos hc, if_pos (Nat.succ_pos _), List.drop_succ_cons]
      show _ = if p c then _ else _
      rw [if_pos hc, map_one_add_map, Nat.add_comm 1]
    · rw [if_neg hc, if_neg (Nat.lt_irrefl 0)]
      exact (if_neg hc).symm
end Sc

structure Munch (r : Re) (L : Bytes → Bool) (m : Scanner) : Prop where
  first : ∀ f l, l.length ≤ f → (r.run f l).head? = m l
  longest : ∀ l, longestPrefix L l = m l

namespace Munch
variable {X : Re} {B : Bytes → Bool} {mX : Scanner}

/-- for such an expression leftmost-first is longest -/
theorem first_eq_longest (h : Munch X B mX) (l : Bytes) : X.first l = longestPrefix B l :=
  (h.first _ l (Nat.le_refl _)).trans (h.longest l).symm

/-- no word of the language among the prefixes: no candidate of the expression -/
theorem run_nil (h : Munch X B mX) {f : Nat} {l : Bytes} (hf : l.length ≤ f)
    (hB : ∀ j, j ≤ l.length → B (l.take j) = false) : X.run f l = [] := by
  have e := h.first f l hf
  rw [← h.longest, longestPrefix_none.2 hB] at e
  exact List.head?_eq_none_iff.1 e

/-- the candidates that backtracking into a run of `p` would try give nothing -/
theorem skip (h : Munch X B mX) (p : Nat → Bool) (hB : ∀ c w, p c = true → B (c :: w) = false)
    {f : Nat} {l : Bytes} (hf : l.length ≤ f) {i : Nat} (hi : i < spanLen p l) (h0 : B [] = false) :
    ((X.run f (l.drop i)).head?).map (i + ·) = none := by
  obtain ⟨c, t, hd, hc⟩ := spanLen_drop p l i hi
  rw [h.run_nil (by rw [List.length_drop]; omega)]; · rfl
  intro j _
  rw [hd]
  cases j with
  | zero => exact h0
  | succ j => exact hB c _ hc

/-- the same candidates, the same words, the same answers -/
theorem congr {r' : Re} {L' : Bytes → Bool} {m' : Scanner} (h : Munch X B mX) (hr : ∀ f l, r'.run f l = X.run f l)
    (hL : ∀ w, L' w = B w) (hm : ∀ l, m' l = mX l) : Munch r' L' m' where
  first f l hf := by rw [hr, h.first f l hf, hm]
  longest l := by rw [funext hL, h.longest, hm]

theorem eps : Munch .eps (fun w => w.isEmpty) Sc.eps := ⟨fun _ _ _ => rfl, longestPrefix_isEmpty⟩

theorem star_byte (p : Nat → Bool) : Munch (.star (.byte p)) (Lang.star p) (Sc.star p) :=
  ⟨head?_star_byte p, longestPrefix_star p⟩

/-- `p{n,n}` -/
theorem rep (n : Nat) (p : Nat → Bool) :
    Munch (Re.rep n (.byte p)) (fun w => decide (w.length = n) && w.all p) (Sc.rep n p) where
  first f l _ := by rw [run_rep_byte]; unfold Sc.rep; split <;> rfl
  longest l := by
    rw [longestPrefix_fixed _ n fun w h => of_decide_eq_true (Bool.and_eq_true _ _ ▸ h).1]
    unfold Sc.rep
    by_cases h : n ≤ l.length ∧ (l.take n).all p = true
    · rw [if_pos h, if_pos ⟨h.1, by rw [h.2, List.length_take_of_le h.1]; simp⟩]
    · rw [if_neg h, if_neg fun h' => h ⟨h'.1, (Bool.and_eq_true _ _ ▸ h'.2).2⟩]

/-- `p* X`: if `X` can answer the empty word it answers after the whole run, else no shorter run is followed by `X` -/
theorem star_seq (p : Nat → Bool) (h : Munch X B mX) (hB : ∀ c w, p c = true → B (c :: w) = false) :
    Munch (.seq (.star (.byte p)) X) (cat (Lang.star p) B) (Sc.after (spanLen p) mX) where
  first f l hf := by
    have hn := h.first f (l.drop (spanLen p l)) (by rw [List.length_drop]; omega)
    rw [head?_run_seq, run_star_byte p f l hf]
    cases h0 : B []
    · rw [findSome?_down _ _ fun i hi => h.skip p hB hf hi h0, hn]; rfl
    · rw [findSome?_down_some, hn]; · rfl
      rw [hn, ← h.longest]; rw [Option.isSome_map]; exact longestPrefix_isSome _ h0
  longest l := by rw [longestPrefix_cat_star p B hB, h.longest]; rfl

/-- `[-+]? X` -/
theorem optSign (h : Munch X B mX) (h0 : B [] = false) (hs : ∀ c w, sign c = true → B (c :: w) = false) :
    Munch (.seq (Re.byte sign).opt X) (Lang.optSign B) (Sc.after signLen mX) where
  first f l hf := by
    rw [head?_signed X f l, h.first f _ (by rw [List.length_drop]; omega)]; · rfl
    intro c t e hc
    refine h.run_nil hf fun j _ => ?_
    subst e
    cases j with
    | zero => exact h0
    | succ j => exact hs c _ hc
  longest l := by rw [longestPrefix_optSign B h0 hs, h.longest]; rfl

/-- `X?` -/
theorem opt (h : Munch X B mX) : Munch X.opt (Lang.opt B) (Sc.opt mX) where
  first f l hf := by
    rw [run_opt, List.head?_append, h.first f l hf]; unfold Sc.opt; cases mX l <;> rfl
  longest l := by rw [longestPrefix_opt, h.longest]; rfl

/-- one byte of the class `q`, then `X`; `L` is any language that reads so -/
theorem byte_seq (q : Nat → Bool) (h : Munch X B mX) {L : Bytes → Bool} (hL0 : L [] = false)
    (hL : ∀ c w, L (c :: w) = (q c && B w)) : Munch (.seq (.byte q) X) L (Sc.byteThen q mX) where
  first f l hf := by
    cases l with
    | nil => rfl
    | cons c t =>
      show _ = if q c then (mX t).map (1 + ·) else none
      rw [run_seq_byte_cons]
      by_cases hq : q c = true
      · rw [if_pos hq, if_pos hq, List.head?_map, h.first f t (by simp at hf; omega)]
      · rw [if_neg hq, if_neg hq]; rfl
  longest l := by
    cases l with
    | nil => rw [longestPrefix_nil, hL0]; rfl
    | cons c t => rw [longestPrefix_cons_of L B c t (q c) hL0 (hL c), h.longest]; rfl

/-- `p+ X` is `p (p* X)` -/
theorem plus_seq (p : Nat → Bool) (h : Munch X B mX) (hB : ∀ c w, p c = true → B (c :: w) = false) :
    Munch (.seq (Re.byte p).plus X) (cat (plus1 p) B) (Sc.plusThen p mX) :=
  ((h.star_seq p hB).byte_seq p (cat_plus1_nil p B) (cat_plus1_cons p B)).congr
    (fun f l => run_seq_assoc _ _ _ f l) (fun _ => rfl) (Sc.plusThen_eq p mX)

theorem plus_byte (p : Nat → Bool) : Munch (Re.byte p).plus (plus1 p) (Sc.plus p) :=
  ((star_byte p).byte_seq p rfl (plus1_cons p)).congr (fun _ _ => rfl) (fun _ => rfl) (Sc.plusThen_eq p Sc.eps)

/-- one byte of the class `q`; `L` is any language that reads so -/
theorem byte (q : Nat → Bool) {L : Bytes → Bool} (hL0 : L [] = false) (hL : ∀ c w, L (c :: w) = (q c && w.isEmpty)) :
    Munch (.byte q) L (Sc.byteThen q Sc.eps) :=
  (eps.byte_seq q hL0 hL).congr (fun f l => by
    cases l with
    | nil => rfl
    | cons c t => rw [run_seq_byte_cons, run_byte_cons]; split <;> rfl) (fun _ => rfl) (fun _ => rfl)

/-- the literal byte `b`, then `X` -/
theorem lit_seq (b : Nat) (h : Munch X B mX) {L : Bytes → Bool} (hL0 : L [] = false)
    (hL : ∀ c w, L (c :: w) = (decide (c = b) && B w)) :
    Munch (.seq (Re.lit [b]) X) L (Sc.byteThen (fun c => decide (c = b)) mX) :=
  (h.byte_seq (fun c => decide (c = b)) hL0 hL).congr (fun f l => by
    rw [run_seq_lit_cons]
    cases l with
    | nil => rfl
    | cons c t => rw [run_seq_byte_cons, run_seq_byte_cons, run_seq_lit_nil, Bool.beq_eq_decide_eq]) (fun _ => rfl) (fun _ => rfl)

/-- `X|Y`, where a match of `X` is never shorter than one of `Y`: the first alternative that matches wins, and it is
    the longest -/
theorem alt {Y : Re} {C : Bytes → Bool} {mY : Scanner} (hX : Munch X B mX) (hY : Munch Y C mY)
    (hord : ∀ l i j, mX l = some i → mY l = some j → j ≤ i) :
    Munch (.alt X Y) (fun w => B w || C w) fun l => (mX l).or (mY l) where
  first f l hf := by rw [run_alt, List.head?_append, hX.first f l hf, hY.first f l hf]
  longest l := by
    rw [longestPrefix_or, hX.longest, hY.longest]
    cases hi : mX l with
    | none => rfl
    | some i =>
      cases hj : mY l with
      | none => rfl
      | some j => simp [optMax, Nat.max_eq_left (hord l i j hi hj)]

end Munch
end Rx
end PV
