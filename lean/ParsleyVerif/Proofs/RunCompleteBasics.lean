/-
  Small facts needed by the completeness half of C01: what entering a Memoize body and a terminal's step do to the
  cache, what `leftRecCtx.Filter(cp)` keeps, token and end of sequence nodes.
-/
import ParsleyVerif.Spec.DerivesC
import ParsleyVerif.Proofs.RunBasics
import ParsleyVerif.Proofs.RunEqns
import ParsleyVerif.Proofs.GInduct
namespace PV
open PV.Text

theorem memoEnter_cache (cfg : Cfg) (idx pos : Nat) (st : St) : (memoEnter cfg idx pos st).cache = st.cache :=
  (logEv_fields _ cfg _).1

theorem mem_termStep {cfg : Cfg} {t : Terminal} {pos : Nat} {st : St} {x : Node} :
    x ∈ (termStep cfg t pos st).1.res.alts ↔ t.parse cfg.params cfg.file pos = .node x := by
  unfold termStep
  cases t.parse cfg.params cfg.file pos <;> simp [Res.alts, eq_comm]

theorem termStep_cache (cfg : Cfg) (t : Terminal) (pos : Nat) (st : St) : (termStep cfg t pos st).2.cache = st.cache := by
  rcases termStep_cases cfg t pos st with ⟨_, _, e⟩ | ⟨_, _, e⟩ | ⟨_, _, e⟩ <;> rw [e]
  exact (logEv_fields st cfg _).1

theorem mem_ctx_filter {ctx : Ctx} {keys : List Nat} {kv : Nat × Nat} :
    kv ∈ ctx.filter keys ↔ kv ∈ ctx ∧ kv.1 ∈ keys := by
  unfold Ctx.filter
  rw [List.mem_filter]
  simp

theorem get_le_of_filter {ctx : Ctx} {cp : List Nat} {c' : Nat → Nat}
    (h : ∀ kv ∈ ctx.filter cp, kv.2 ≤ c' kv.1) : ∀ k ∈ cp, ctx.get k ≤ c' k := by
  intro k hk
  unfold Ctx.get
  cases hf : List.find? (fun kv => kv.1 == k) ctx with
  | none => simp
  | some kv =>
    have hm := List.mem_of_find?_eq_some hf
    have hk1 := List.find?_some hf
    simp only [beq_iff_eq] at hk1
    have := h kv (mem_ctx_filter.mpr ⟨hm, hk1 ▸ hk⟩)
    simp only [Option.map_some, Option.getD_some]
    rw [hk1] at this; exact this

theorem handleResult_token (sh : SeqShape) (p : Nat) (nodes : List Node) (ht : sh.token ≠ eofTok)
    (hn : ∀ n ∈ nodes, n.token ≠ eofTok) : (handleResult sh p nodes).token ≠ eofTok := by
  rcases handleResult_cases sh p nodes with ⟨n, rfl, e⟩ | e <;> rw [e]
  · exact hn n (List.mem_cons_self ..)
  · exact ht

theorem handleResult_rpos (sh : SeqShape) (p : Nat) (nodes : List Node) :
    (handleResult sh p nodes).rpos = endOf p nodes := by
  rcases handleResult_cases sh p nodes with ⟨n, rfl, e⟩ | e <;> rw [e] <;> rfl

end PV
