/-
  C12: nothing the parser core produces lies below the base offset of the file (`run_ge`), and with
  it `parse` (parsley.Parse, parsley/parse.go) commutes with the shift of the file (`parse_shift`).
  (`parse` renders the position of the error it reports; to compare the rendering in two file sets the
  position has to be one of the file's own.)
-/
import ParsleyVerif.Proofs.ShiftRun
import ParsleyVerif.Proofs.RunInv
namespace PV
open PV.Text

/-! ### terminals: a file is its copy at base offset 0 shifted by its base offset, so on `f.offset ≤ pos` every answer is a
    shifted answer, and a shifted value holds no position below the shift -/

theorem shiftFile_rebase (f : File) : shiftFile f.offset { f with offset := 0 } = f := by
  simp only [shiftFile, Nat.zero_add]

mutual
theorem Node.shift_posGE (b : Nat) : ∀ n : Node, (n.shift b).posGE b
  | .term .. => ⟨Nat.le_add_left .., Nat.le_add_left ..⟩
  | .empty _ => Nat.le_add_left ..
  | .eof _ => Nat.le_add_left ..
  | .nt _ cs _ _ _ => ⟨Nat.le_add_left .., Nat.le_add_left .., Node.shiftList_posGE b cs⟩
theorem Node.shiftList_posGE (b : Nat) : ∀ l : List Node, Node.posGEList b (Node.shiftList b l)
  | [] => trivial
  | n :: ns => ⟨Node.shift_posGE b n, Node.shiftList_posGE b ns⟩
end

def TermOut.posGE (off : Nat) : TermOut → Prop
  | .node n => n.posGE off
  | .err e => off ≤ e.pos
  | .panic _ => True

theorem Terminal.parse_ge (P : Params) (f : File) (t : Terminal) (pos : Nat) (hp : f.offset ≤ pos) :
    (Terminal.parse P f t pos).posGE f.offset := by
  have := Terminal.parse_shift P f.offset { f with offset := 0 } t (pos - f.offset)
  rw [shiftFile_rebase, Nat.sub_add_cancel hp] at this
  rw [this]
  cases Terminal.parse P { f with offset := 0 } t (pos - f.offset) with
  | node n => exact Node.shift_posGE _ n
  | err e => exact Nat.le_add_left ..
  | panic _ => trivial

/-! ### SkipWhitespaces (directly: at base offset 0 it does not commute with the shift) -/

theorem errGE_none (off : Nat) : errGE off none := by intro x h; cases h
theorem errGE_some {off : Nat} {e : Err} (h : off ≤ e.pos) : errGE off (some e) := by
  intro x hx; cases hx; exact h

theorem skipLoop_ge_c12 (f : File) : ∀ (l : Bytes) (cur nl : Nat), (nl = 0 ∨ f.offset ≤ nl) →
    ((skipLoop f l cur nl).2 = 0 ∨ f.offset ≤ (skipLoop f l cur nl).2) := by
  intro l
  induction l with
  | nil => intro cur nl h; exact h
  | cons x r ih =>
    intro cur nl h
    unfold skipLoop
    split
    · apply ih
      split
      · exact Or.inr (Nat.le_add_right ..)
      · exact h
    · exact h

theorem skipWhitespaces_ge_c12 (f : File) (pos : Nat) (m : WsMode) :
    f.offset ≤ (skipWhitespaces f pos m).1 ∧
    (f.offset ≤ pos → errGE f.offset (wsToErr (skipWhitespaces f pos m).2)) := by
  unfold skipWhitespaces
  dsimp only
  have hl := skipLoop_ge_c12 f (List.drop (pos - f.offset) f.data) (pos - f.offset) 0 (Or.inl rfl)
  generalize skipLoop f (List.drop (pos - f.offset) f.data) (pos - f.offset) 0 = x at hl ⊢
  obtain ⟨cur, nl⟩ := x
  have hc : f.offset ≤ f.pos cur := Nat.le_add_right ..
  simp only [apply_ite Prod.fst, apply_ite Prod.snd, apply_ite wsToErr, apply_ite (errGE f.offset), ite_self]
  refine ⟨hc, fun hp => ?_⟩
  split
  · exact errGE_some hp
  split
  · exact errGE_some hc
  split
  · rename_i h
    exact errGE_some (hl.resolve_left (Nat.ne_of_gt h.2))
  · exact errGE_none _

theorem Node.posGEList_iff (off : Nat) (l : List Node) : Node.posGEList off l ↔ ∀ n ∈ l, Node.posGE off n := by
  induction l with
  | nil => simp [Node.posGEList]
  | cons x xs ih => simp [Node.posGEList, ih]

theorem Node.posGE_pos {off : Nat} {n : Node} (h : n.posGE off) : off ≤ n.pos := by
  cases n <;> simp_all [Node.posGE, Node.pos]
theorem Node.posGE_rpos {off : Nat} {n : Node} (h : n.posGE off) : off ≤ n.rpos := by
  cases n <;> simp_all [Node.posGE, Node.rpos]

theorem Res.posGE_alts {off : Nat} {r : Res} (h : r.posGE off) : ∀ n ∈ r.alts, Node.posGE off n := by
  cases r with
  | nil => intro n hn; cases hn
  | one m => intro n hn; cases hn with | head => exact h | tail _ hn => cases hn
  | list l => exact h

theorem Res.posGE_of_alts {off : Nat} {r : Res} (h : ∀ n ∈ r.alts, Node.posGE off n) : r.posGE off := by
  cases r with
  | nil => trivial
  | one m => exact h m (List.mem_singleton_self m)
  | list l => exact h

theorem logEv_ge {off : Nat} {st : St} (cfg : Cfg) (e : Ev) (h : st.posGE off) : (st.logEv cfg e).posGE off := by
  obtain ⟨hc, he, -⟩ := logEv_fields st cfg e
  exact ⟨hc ▸ h.1, he ▸ h.2⟩

theorem setError_ge {off : Nat} {st : St} {e : Option Err} (h : st.posGE off) (he : errGE off e) :
    (st.setError e).posGE off := by
  obtain ⟨hce, hc, -⟩ := setError_ctxErr st e
  refine ⟨hc ▸ h.1, ?_⟩
  rcases hce with h' | h' <;> rw [h'] <;> first | exact h.2 | exact he

theorem cacheSave_ge {off : Nat} {c : List CacheEntry} {e : CacheEntry}
    (hc : ∀ x ∈ c, CacheEntry.posGE off x) (he : e.posGE off) : ∀ x ∈ cacheSave c e, CacheEntry.posGE off x :=
  fun x hx => (mem_cacheSave hx).elim (· ▸ he) (hc x)

theorem handleResult_ge {off : Nat} (sh : SeqShape) {pos : Nat} {nodes : List Node} (hp : off ≤ pos)
    (hn : ∀ x ∈ nodes, Node.posGE off x) : (handleResult sh pos nodes).posGE off := by
  rcases handleResult_cases sh pos nodes with ⟨n, rfl, e⟩ | e <;> rw [e]
  · exact hn n (List.mem_cons_self ..)
  · refine ⟨?_, ?_, (Node.posGEList_iff ..).2 hn⟩
    · cases hh : nodes.head? with
      | none => exact hp
      | some x => exact Node.posGE_pos (hn x (List.mem_of_head? hh))
    · cases hl : nodes.getLast? with
      | none => exact hp
      | some x => exact Node.posGE_rpos (hn x (List.mem_of_getLast? hl))

theorem setRposNode_ge (f : File) (m : WsMode) {n : Node} {ws : Option Err} (hn : n.posGE f.offset)
    (hws : errGE f.offset ws) :
    (setRposNode f m n ws).1.posGE f.offset ∧ errGE f.offset (setRposNode f m n ws).2 := by
  cases n with
  | term t v p r => exact ⟨⟨hn.1, (skipWhitespaces_ge_c12 f r m).1⟩, (skipWhitespaces_ge_c12 f r m).2 hn.2⟩
  | nt t c p r i => exact ⟨⟨hn.1, (skipWhitespaces_ge_c12 f r m).1, hn.2.2⟩, (skipWhitespaces_ge_c12 f r m).2 hn.2.1⟩
  | empty p => exact ⟨(skipWhitespaces_ge_c12 f p m).1, (skipWhitespaces_ge_c12 f p m).2 hn⟩
  | eof p => exact ⟨hn, hws⟩

theorem setRposList_ge (f : File) (m : WsMode) (l : List Node) : ∀ (ws : Option Err),
    (∀ x ∈ l, Node.posGE f.offset x) → errGE f.offset ws →
    (∀ x ∈ (setRposList f m l ws).1, Node.posGE f.offset x) ∧ errGE f.offset (setRposList f m l ws).2 := by
  induction l with
  | nil => intro ws _ hws; exact ⟨fun x hx => (by cases hx), hws⟩
  | cons n rest ih =>
    intro ws hl hws
    have h1 := setRposNode_ge f m (hl n (List.mem_cons_self ..)) hws
    have h2 := ih (setRposNode f m n ws).2 (fun x hx => hl x (List.mem_cons_of_mem _ hx)) h1.2
    refine ⟨fun x hx => ?_, h2.2⟩
    rcases List.mem_cons.1 hx with rfl | hx
    · exact h1.1
    · exact h2.1 x hx

theorem setRposRes_ge (f : File) (m : WsMode) {r : Res} (hr : r.posGE f.offset) :
    (setRposRes f m r).1.posGE f.offset ∧ errGE f.offset (setRposRes f m r).2 := by
  cases r with
  | nil => exact ⟨trivial, errGE_none _⟩
  | one n => exact setRposNode_ge f m hr (errGE_none _)
  | list l => exact setRposList_ge f m l none hr (errGE_none _)

theorem st_default_ge (off : Nat) : St.posGE off {} := ⟨fun c hc => (by cases hc), errGE_none _⟩

/-- "no position below the base offset" as an invariant of `run` (Proofs/RunInv), for every grammar: a tree is made
    by a terminal (`Terminal.parse_ge`), by Empty / End at the position of the call, by the result handler from the
    elements matched so far, or by RightTrim moving a reader position forward; an error is one of a terminal, one of
    SkipWhitespaces, or is made at the position of the call -/
def geInv (cfg : Cfg) : RunInv cfg where
  In pos := cfg.file.offset ≤ pos
  S := St.posGE cfg.file.offset
  N _ _ x := x.posGE cfg.file.offset
  E _ _ e := cfg.file.offset ≤ e.pos
  Ch _ _ ns p := cfg.file.offset ≤ p ∧ ∀ x ∈ ns, Node.posGE cfg.file.offset x
  positions :=
    { adv := fun _ _ hn => Node.posGE_rpos hn
      ws := fun m _ _ => (skipWhitespaces_ge_c12 cfg.file _ m).1
      actAdv := fun _ _ _ _ => trivial
      actWs := fun _ _ _ _ => trivial
      actEnter := fun _ _ => trivial }
  trees :=
    { term := fun {t pos n} _ hin h => by
        have := Terminal.parse_ge cfg.params cfg.file t pos hin
        rwa [h] at this
      empty := fun _ hin => hin
      eof := fun _ hin _ => hin
      ref := fun _ _ h => h
      memo := fun _ h => h
      any := fun _ _ h => h
      choice := fun _ _ h => h
      pass := fun _ _ _ _ _ _ h => h
      optNone := fun _ hin => hin
      single := fun _ h => h.2.2.1
      rkeep := fun _ _ _ _ _ h => h
      rtrim := fun _ _ _ _ _ h => (setRposNode_ge cfg.file _ h (errGE_none _)).1
      chNil := fun _ _ hin => ⟨hin, nofun⟩
      chSnoc := fun _ _ _ hc hn => ⟨Node.posGE_rpos hn, fun x hx =>
        (List.mem_append.1 hx).elim (hc.2 x) fun hx => List.mem_singleton.1 hx ▸ hn⟩
      chEmit := fun _ _ _ hc => handleResult_ge _ hc.1 hc.2 }
  errors :=
    { mono := fun _ h => h
      term := fun {t pos e} _ _ hin h => by
        have := Terminal.parse_ge cfg.params cfg.file t pos hin
        rwa [h] at this
      eof := fun _ _ hin => hin
      panic := fun _ hin _ => hin
      nilRef := fun _ hin _ => hin
      rename := fun _ _ hin _ _ _ => hin
      create := fun _ hin _ _ _ => hin
      back := fun _ _ _ h => h
      ltrim := fun _ _ h => h
      reloc := fun _ hin _ => hin
      ws := fun _ hin h => (skipWhitespaces_ge_c12 cfg.file _ _).2 hin _ h
      rmove := fun _ _ _ => (skipWhitespaces_ge_c12 cfg.file _ _).1
      rws := fun _ _ hn h => (setRposRes_ge cfg.file _ (Res.posGE_of_alts hn)).2 _ h }
  states :=
    { regCall := fun h => h
      logEv := fun ev h _ => logEv_ge cfg ev h
      setError := fun _ hst he => setError_ge hst he
      enter := fun {idx _ _ pos st} _ _ hst _ _ => logEv_ge cfg _ (st := { st with active := (idx, pos) :: st.active }) hst
      leave := fun _ _ hst hn he _ => ⟨cacheSave_ge hst.1 ⟨Res.posGE_of_alts hn, he⟩, hst.2⟩
      hit := fun _ hst hc =>
        ⟨Res.posGE_alts (hst.1 _ (cacheGet_some hc).1).1, (hst.1 _ (cacheGet_some hc).1).2, trivial⟩ }

theorem run_ge (cfg : Cfg) {fuel : Nat} {g : G} {ctx : Ctx} {pos : Nat} {st : St} {o : Out} {st' : St}
    (hpos : cfg.file.offset ≤ pos) (hst : st.posGE cfg.file.offset) (h : run cfg fuel g ctx pos st = some (o, st')) :
    o.posGE cfg.file.offset ∧ st'.posGE cfg.file.offset :=
  let hp := (geInv cfg).run fuel g ctx pos st o st' trivial ⟨hpos, hst, trivial⟩ h
  ⟨⟨Res.posGE_of_alts hp.nodes, hp.err⟩, hp.st⟩

theorem parseErr_shift (b pos0 : Nat) (o : Out) (st : St) :
    parseErr (pos0 + b) (o.shift b) (st.shift b) = (parseErr pos0 o st).map (Err.shift b) := by
  unfold parseErr
  simp only [Out.shift, Res.shift_isNil, Option.isNone_map, St.shift_ctxErr]
  split
  · cases st.ctxErr <;> rfl
  · rfl

theorem further_shift (b : Nat) (st : St) (e : Err) : further (st.shift b) (e.shift b) = (further st e).shift b := by
  unfold further
  rw [St.shift_ctxErr, Err.shift_kind]
  rcases st.ctxErr with _ | ce
  · split <;> rfl
  · simp only [Option.map_some, Err.shift_pos, gt_iff_lt, Nat.add_lt_add_iff_right, apply_ite (Err.shift b)]

theorem parseErr_ge {off : Nat} {pos0 : Nat} {o : Out} {st : St} (hp : off ≤ pos0) (ho : errGE off o.err) (hst : errGE off st.ctxErr) :
    errGE off ((parseErr pos0 o st).map (further st)) := by
  have h0 : errGE off (parseErr pos0 o st) := by
    unfold parseErr
    split
    · split
      · rename_i ce hce; exact hce ▸ hst
      · exact errGE_some hp
    · exact ho
  rcases hpe : parseErr pos0 o st with _ | e
  · exact errGE_none _
  · have he : off ≤ e.pos := h0 e hpe
    refine errGE_some ?_
    unfold further
    split
    · split
      · rename_i ce hce
        split
        · exact hst ce hce
        · exact he
      · exact he
    · exact he

theorem errorWithPosition_shift (b : Nat) (fs fs' : FileSet) (off : Nat)
    (hfs : ∀ p, off ≤ p → fs'.position (p + b) = fs.position p) (e : Err) (he : off ≤ e.pos) :
    errorWithPosition fs' (e.shift b) = errorWithPosition fs e := by
  unfold errorWithPosition
  rw [Err.shift_pos, hfs e.pos he]
  rfl

theorem parse_shift (b : Nat) (cfg : Cfg) (fs' : FileSet) (fuel : Nat) (g : G) (st : St)
    (hws : WsShift b cfg.file) (hst : St.posGE cfg.file.offset st)
    (hfs : ∀ p, cfg.file.offset ≤ p → fs'.position (p + b) = cfg.fileSet.position p) :
    parse (shiftCfg' b fs' cfg) fuel g (st.shift b) = (parse cfg fuel g st).map (ParseOut.shift b) := by
  have hpos0 : cfg.file.offset ≤ cfg.file.pos 0 := Nat.le_add_right ..
  rw [parse_eq, parse_eq, show (shiftCfg' b fs' cfg).file.pos 0 = cfg.file.pos 0 + b from shiftFile_pos b cfg.file 0,
    run_shift' b cfg (shiftCfg' b fs' cfg) ⟨rfl, rfl, rfl, rfl, rfl⟩ hws]
  rcases hr : run cfg fuel g [] (cfg.file.pos 0) st with _ | ⟨o, st1⟩
  · rfl
  · have hge := run_ge cfg hpos0 hst hr
    have he := parseErr_ge hpos0 hge.1.2 hge.2.2
    simp only [Option.map_some, shiftOS, parseErr_shift, Option.map_map]
    rcases hpe : parseErr (cfg.file.pos 0) o st1 with _ | e
    · rfl
    · simp only [Option.map_some, Function.comp_apply, further_shift]
      rw [show (shiftCfg' b fs' cfg).fileSet = fs' from rfl,
        errorWithPosition_shift b cfg.fileSet fs' cfg.file.offset hfs _ (he _ (congrArg (Option.map _) hpe))]
      rfl

end PV
