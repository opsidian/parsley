/-
  The productivity invariant of C06, by induction on fuel over all cases of `run`.

  For a grammar accepted by the certificate (`Prod.productive`, Spec/Productive.lean), from every state
  satisfying the invariant (the fresh context does), under every left-recursion context whose active
  parsers the certificate knows (`LiveIn`), for every fuel:

  * `err`   every returned error lies at or before a terminal failure of the log (`TFge`), or it is PENDING:
            a not-found error at the call position, returned WITHOUT a result;
  * `fail`  a call of a parser that is productive below rank `r` and returns no result is accompanied by a
            terminal failure at or after the call position, or it is BLAMED on the curtailment of a parser
            that is active at the call position and has rank below `r`;
  * the context error always lies at or before a terminal failure; cached outcomes satisfy `err` / `fail`
    with the context counters they were stored with.

  A pending error can only travel upwards through failing calls at the same position; the places where an
  error is kept next to a result (Optional, a repetition accepting zero elements, a Sequence element reached
  without consumption) are productive below every active rank (`ok`), so `fail` turns the pending error
  into a real one there.  At the root nothing is active: no blame, every error is real.
-/
import ParsleyVerif.Proofs.ProdBasics
namespace PV
namespace Prod
open PV.Text

/-- the local side conditions of C06 with the trivially true name relations: no trims, terminals do not
    panic inside the file, references resolve -/
abbrev LocP (cfg : Cfg) : G → Prop := LocErr cfg (fun _ _ => True) (fun _ => True) False

/-- an error value: a terminal failed at or after it, or it is pending (a not-found error at the position
    `pos` of a call that returned no result) -/
def EOK (log : List Ev) (pos : Nat) (res : Res) (e : Err) : Prop :=
  TFge log e.pos ∨ (res.isNil = true ∧ e.pos = pos ∧ e.kind.isNotFound = true)

theorem EOK.mono {log log' : List Ev} {pos : Nat} {res : Res} {e : Err} (hs : log <:+ log') :
    EOK log pos res e → EOK log' pos res e
  | .inl h => .inl (h.mono hs)
  | .inr h => .inr h

structure EntOK (c : ProdCert) (log : List Ev) (e : CacheEntry) : Prop where
  err : ∀ er, e.err = some er → EOK log e.pos e.res er
  nil : e.res.isNil = true → TFge log e.pos ∨ Blame c e.ctx e.cp (c.prank e.idx)
  ne : NE e.res

theorem EntOK.mono {c : ProdCert} {log log' : List Ev} {e : CacheEntry} (hs : log <:+ log') (h : EntOK c log e) :
    EntOK c log' e :=
  ⟨fun er her => (h.err er her).mono hs, fun hn => (h.nil hn).imp (TFge.mono hs) id, h.ne⟩

structure PSt (c : ProdCert) (st : St) : Prop where
  cache : ∀ e ∈ st.cache, EntOK c st.log e
  ctxErr : ∀ er, st.ctxErr = some er → TFge st.log er.pos

structure PPost (c : ProdCert) (g : G) (ctx : Ctx) (pos : Nat) (st0 : St) (o : Out) (st' : St) : Prop where
  pst : PSt c st'
  log : st0.log <:+ st'.log
  err : ∀ er, o.err = some er → EOK st'.log pos o.res er
  fail : ∀ r, pr c r g = true → o.res.isNil = true → TFge st'.log pos ∨ Blame c ctx o.cp r
  ne : NE o.res

/-- a call that is productive below every active rank cannot be blamed: its failure is a terminal's -/
theorem PPost.firmFail {c : ProdCert} {g : G} {L : List Nat} {ctx : Ctx} {pos : Nat} {st0 st' : St} {o : Out}
    (hp : PPost c g ctx pos st0 o st') (hlive : LiveIn L ctx) (hpr : pr c (minRank c L) g = true)
    (hn : o.res.isNil = true) : TFge st'.log pos :=
  (hp.fail _ hpr hn).elim id fun h => absurd h (Blame.not_firm hlive)

/-- where a failure is a terminal's, no error is pending -/
theorem PPost.realErr {c : ProdCert} {g : G} {ctx : Ctx} {pos : Nat} {st0 st' : St} {o : Out}
    (hp : PPost c g ctx pos st0 o st') (hf : o.res.isNil = true → TFge st'.log pos) :
    ∀ e, o.err = some e → TFge st'.log e.pos :=
  fun e he => (hp.err e he).elim id fun h => h.2.1 ▸ hf h.1

/-- what the certificate check provides -/
structure EnvProd (c : ProdCert) (cfg : Cfg) : Prop where
  ghost : cfg.ghost = true
  wf : EnvOK c.wf cfg
  loc : ∀ g ∈ cfg.env, g.All (LocP cfg)
  rules : ∀ k g, cfg.env[k]? = some g → ok c (c.live k) g = true ∧ pr c (c.rrank k) g = true

def RunProdOK (c : ProdCert) (cfg : Cfg) (r : RunFn) : Prop :=
  ∀ g L ctx pos st o st', GWF c.wf cfg g → g.All (LocP cfg) → ok c L g = true → LiveIn L ctx →
    Good c.wf cfg ctx pos st → PSt c st → r g ctx pos st = some (o, st') → PPost c g ctx pos st o st'

theorem PSt_of_eq {c : ProdCert} {st st' : St} (h : PSt c st) (hc : st'.cache = st.cache)
    (he : st'.ctxErr = st.ctxErr) (hl : st.log <:+ st'.log) : PSt c st' :=
  ⟨fun e hm => (h.cache e (hc ▸ hm)).mono hl, fun er her => (h.ctxErr er (he ▸ her)).mono hl⟩

theorem PSt_regCall {c : ProdCert} {st : St} (h : PSt c st) : PSt c st.regCall :=
  PSt_of_eq h rfl rfl (List.suffix_refl _)

theorem PSt_logEv {c : ProdCert} {st : St} (h : PSt c st) (cfg : Cfg) (ev : Ev) : PSt c (st.logEv cfg ev) :=
  PSt_of_eq h (logEv_fields st cfg ev).1 (logEv_fields st cfg ev).2.1 (logEv_suffix st cfg ev)

theorem PSt_setError {c : ProdCert} {st : St} (h : PSt c st) (e : Option Err)
    (he : ∀ er, e = some er → TFge st.log er.pos) : PSt c (st.setError e) :=
  ⟨by rw [setError_cache, setError_log]; exact h.cache, by rw [setError_log]; exact setError_ctxErr_of h.ctxErr he⟩

theorem isNil_one (n : Node) : (Res.one n).isNil = false := rfl

theorem Good_step {c : ProdCert} {cfg : Cfg} {r : RunFn} (hpos : RunPosOK cfg r) (hcons : RunConsOK c.wf cfg r)
    {g : G} {ctx : Ctx} {pos : Nat} {st st' : St} {o : Out} (hg : GWF c.wf cfg g)
    (h : Good c.wf cfg ctx pos st) (hr : r g ctx pos st = some (o, st')) : Good c.wf cfg ctx pos st' :=
  Good_after h (hpos g ctx pos st o st' hg.core h.1 hr) (hcons g ctx pos st o st' hg h hr)

def SsGood (st : St) (ss : SeqSt) : Prop := ∀ e, ss.err = some e → TFge st.log e.pos

/-- what holds when `parse(depth, …)` is entered with `depth ≥ 1` -/
def PJ (c : ProdCert) (cfg : Cfg) (P : RunInv cfg) (g : G) (sh : SeqShape) (ctx0 : Ctx) (pos0 : Nat) (fr : Frame)
    (ss : SeqSt) (st : St) : Prop :=
  P.SeqJ g sh pos0 fr ss st ∧ CacheCons c.wf st ∧ PSt c st ∧ SsGood st ss ∧ NE ss.result ∧ 1 ≤ fr.depth ∧
  (fr.pos = pos0 → fr.ctx = ctx0 ∧ fr.merge = true ∧
    ∀ i, i < fr.depth → ∀ gi, sh.lookup i = some gi → mayBeEmpty c.wf gi = true) ∧
  (fr.pos ≠ pos0 → fr.ctx = []) ∧
  (∀ i, i < fr.depth → sh.lookup i ≠ none)

def PE (c : ProdCert) (cfg : Cfg) (P : RunInv cfg) (g : G) (pos0 : Nat) (ss : SeqSt) (st : St) (ss' : SeqSt) (st' : St) :
    Prop :=
  P.SeqE g pos0 ss st ss' st' ∧ (CacheCons c.wf st → CacheCons c.wf st') ∧ (PSt c st → PSt c st') ∧
  st.log <:+ st'.log ∧ (SsGood st ss → SsGood st' ss') ∧ (NE ss.result → NE ss'.result) ∧
  (∀ j ∈ ss.cp, j ∈ ss'.cp) ∧ (ss.result.isNil = false → ss'.result.isNil = false)

/-- what every call of `parse(depth, …)` establishes: a result, a terminal failure, or blame -/
def PQ (c : ProdCert) (g : G) (ctx0 : Ctx) (pos0 : Nat) (ss : SeqSt) (st : St) : Prop :=
  ∀ r, pr c r g = true → ss.result.isNil = false ∨ TFge st.log pos0 ∨ Blame c ctx0 ss.cp r

theorem PE_trans {c : ProdCert} {cfg : Cfg} {P : RunInv cfg} {g : G} {pos0 : Nat} (a : SeqSt) (b : St) (c' : SeqSt) (d : St) (e : SeqSt) (f : St)
    (h1 : PE c cfg P g pos0 a b c' d) (h2 : PE c cfg P g pos0 c' d e f) : PE c cfg P g pos0 a b e f := by
  obtain ⟨a1, a2, a3, a4, a5, a6, a7, a8⟩ := h1
  obtain ⟨b1, b2, b3, b4, b5, b6, b7, b8⟩ := h2
  exact ⟨.trans _ _ _ _ _ _ a1 b1, fun h => b2 (a2 h), fun h => b3 (a3 h), a4.trans b4, fun h => b5 (a5 h),
    fun h => b6 (a6 h), fun j hj => b7 j (a7 j hj), fun h => b8 (a8 h)⟩

theorem PE_refl {c : ProdCert} {cfg : Cfg} {P : RunInv cfg} {g : G} {pos0 : Nat} (ss : SeqSt) (st : St) :
    PE c cfg P g pos0 ss st ss st :=
  ⟨.refl _ _, id, id, List.suffix_refl _, id, id, fun _ h => h, id⟩

theorem PQ_stable {c : ProdCert} {cfg : Cfg} {P : RunInv cfg} {g : G} {ctx0 : Ctx} {pos0 : Nat} (ss : SeqSt) (st : St)
    (ss' : SeqSt) (st' : St) (hq : PQ c g ctx0 pos0 ss st) (hE : PE c cfg P g pos0 ss st ss' st') :
    PQ c g ctx0 pos0 ss' st' :=
  fun r hpr => (hq r hpr).imp hE.2.2.2.2.2.2.2 (Or.imp (TFge.mono hE.2.2.2.1) (Blame.mono_cp hE.2.2.2.2.2.2.1))

theorem PJ_stable {c : ProdCert} {cfg : Cfg} {P : RunInv cfg} {g : G} {sh : SeqShape} {ctx0 : Ctx} {pos0 : Nat} (fr : Frame) (ss : SeqSt) (st : St)
    (ss' : SeqSt) (st' : St) (hJ : PJ c cfg P g sh ctx0 pos0 fr ss st) (hE : PE c cfg P g pos0 ss st ss' st') :
    PJ c cfg P g sh ctx0 pos0 fr ss' st' := by
  obtain ⟨j1, j2, j3, j4, j5, j6, j7, j8, j9⟩ := hJ
  obtain ⟨e1, e2, e3, _, e5, e6, _, _⟩ := hE
  exact ⟨.stable _ _ _ _ _ j1 e1, e2 j2, e3 j3, e5 j4, e6 j5, j6, j7, j8, j9⟩

theorem SsGood_after {st st1 : St} {ss : SeqSt} {o : Out} (m : Bool) (h : SsGood st ss) (hl : st.log <:+ st1.log)
    (he : ∀ e, o.err = some e → TFge st1.log e.pos) : SsGood st1 (seqAfter m ss o) := by
  intro e her
  rw [seqAfter_err] at her
  cases pickErr_cases ss.err o.err with
  | inl h1 => exact (h e (h1 ▸ her)).mono hl
  | inr h1 => exact he e (h1 ▸ her)

theorem PE_emit {c : ProdCert} {cfg : Cfg} {P : RunInv cfg} {g : G} {ctx0 : Ctx} {pos0 : Nat} (sh : SeqShape) (fr : Frame)
    {ss ss1 : SeqSt} {st st1 : St} (hE : PE c cfg P g pos0 ss st ss1 st1)
    (he : P.SeqE g pos0 ss st (seqEmit sh fr ss1) st1) :
    PE c cfg P g pos0 ss st (seqEmit sh fr ss1) st1 ∧ PQ c g ctx0 pos0 (seqEmit sh fr ss1) st1 :=
  have ⟨_, e2, e3, e4, e5, e6, e7, _⟩ := hE
  have ⟨_, _, f3, f4⟩ := seqEmit_fields sh fr ss1
  ⟨⟨he, e2, e3, e4, e5, fun h => f4 (e6 h), e7, fun _ => f3⟩, fun _ _ => .inl f3⟩

section frames
variable {c : ProdCert} {cfg : Cfg} {r : RunFn} {P : RunInv cfg} {g : G}

theorem PJ_next (sh : SeqShape) (ctx0 : Ctx) (pos0 : Nat) (fr : Frame) (ss : SeqSt) (g' : G) (o : Out) (st1 : St)
    (j2 : pos0 ≤ fr.pos)
    (hnext : ∀ n ∈ o.res.alts, P.SeqJ g sh pos0 (fr.next n) (seqAfter fr.merge ss o) st1 ∧ fr.pos ≤ n.rpos)
    (k6 : fr.pos = pos0 → fr.ctx = ctx0 ∧ fr.merge = true ∧
      ∀ i, i < fr.depth → ∀ gi, sh.lookup i = some gi → mayBeEmpty c.wf gi = true)
    (k7 : fr.pos ≠ pos0 → fr.ctx = []) (k8 : ∀ i, i < fr.depth → sh.lookup i ≠ none)
    (hl : sh.lookup fr.depth = some g')
    (hcs : ConsPost c.wf g' fr.pos o st1) (hpst : PSt c st1)
    (hgood : SsGood st1 (seqAfter fr.merge ss o)) (hne : NE ss.result) :
    ∀ n ∈ o.res.alts, PJ c cfg P g sh ctx0 pos0 (fr.next n) (seqAfter fr.merge ss o) st1 := by
  intro n hn
  obtain ⟨hJ', hq⟩ := hnext n hn
  refine ⟨hJ', hcs.cache, hpst, hgood, by rw [seqAfter_result]; exact hne, Nat.succ_le_succ (Nat.zero_le _), ?_, ?_, ?_⟩
  · simp only [Frame.next]
    intro he
    have hfp : fr.pos = pos0 := by omega
    have hnr : ¬ n.rpos > fr.pos := by omega
    obtain ⟨q1, q2, q3⟩ := k6 hfp
    refine ⟨by simp only [hnr, ↓reduceIte]; exact q1, by simp [q2, hnr], ?_⟩
    intro i hi gi hgi
    by_cases hid : i < fr.depth
    · exact q3 i hid gi hgi
    · have : i = fr.depth := by omega
      subst this
      rw [hl] at hgi
      cases hgi
      cases hm : mayBeEmpty c.wf g' with
      | true => rfl
      | false =>
        have := hcs.cons hm n hn
        omega
  · simp only [Frame.next]
    intro hne
    by_cases hc : n.rpos > fr.pos
    · simp only [hc, ↓reduceIte]
    · simp only [hc, ↓reduceIte]
      apply k7
      omega
  · simp only [Frame.next]
    intro i hi
    by_cases hid : i < fr.depth
    · exact k8 i hid
    · have : i = fr.depth := by omega
      subst this
      rw [hl]; exact fun hc => by cases hc

theorem PJ_call {henv : ∀ g' ∈ cfg.env, g'.Core (TermGood cfg)} (hP : (posInv cfg henv).OK r)
    (hcons : RunConsOK c.wf cfg r) (hr : RunProdOK c cfg r)
    (g : G) (sh : SeqShape) (hg : GWF c.wf cfg g) (hgl : g.All (LocP cfg)) (hs : g.shape = some sh)
    (L : List Nat) (hok : ok c L g = true) (ctx0 : Ctx) (pos0 : Nat) (hlive : LiveIn L ctx0)
    (fr : Frame) (ss : SeqSt) (st : St) (g' : G) (o : Out) (st1 : St)
    (hJ : PJ c cfg (posInv cfg henv) g sh ctx0 pos0 fr ss st) (hd : fr.depth = fr.nodes.length)
    (hl : sh.lookup fr.depth = some g') (hrun : r g' fr.ctx fr.pos st.regCall = some (o, st1)) :
    (o.res.isNil = false →
      PE c cfg (posInv cfg henv) g pos0 ss st (seqAfter fr.merge ss o) st1 ∧ o.res.alts ≠ [] ∧
      ∀ n ∈ o.res.alts, PJ c cfg (posInv cfg henv) g sh ctx0 pos0 (fr.next n) (seqAfter fr.merge ss o) st1) ∧
    (o.res.isNil = true → sh.lenCheck fr.depth = true →
      PE c cfg (posInv cfg henv) g pos0 ss st (seqEmit sh fr (seqAfter fr.merge ss o)) st1 ∧
      PQ c g ctx0 pos0 (seqEmit sh fr (seqAfter fr.merge ss o)) st1) ∧
    (o.res.isNil = true → sh.lenCheck fr.depth = false →
      PE c cfg (posInv cfg henv) g pos0 ss st (seqAfter fr.merge ss o) st1 ∧ PQ c g ctx0 pos0 (seqAfter fr.merge ss o) st1) := by
  have hpos : RunPosOK cfg r := .of_inv hP
  obtain ⟨hJP, k1, k2, k3, k4, k5, k6, k7, k8⟩ := hJ
  obtain ⟨⟨j1, j4, j5⟩, j3, j6⟩ := id hJP
  have j2 : pos0 ≤ fr.pos := (Chain_bounds cfg.hi _ _ _ j3).1
  obtain ⟨_, eP1, eP2, eP3⟩ := RunInv.SeqJ.call hP hg.core hs hJP hd hl hrun
  have hg' := hg.kid (G.shape_kids hs hl)
  have hgl' := shape_lookup_all hgl hs fr.depth g' hl
  have hpre : Pre cfg fr.ctx fr.pos st.regCall := ⟨j1, StOK_regCall j4, j5⟩
  have hgood : Good c.wf cfg fr.ctx fr.pos st.regCall := ⟨hpre, cacheAll_of_eq k1 rfl⟩
  have hpost := hpos g' fr.ctx fr.pos st.regCall o st1 hg'.core hpre hrun
  have hcs := hcons g' fr.ctx fr.pos st.regCall o st1 hg' hgood hrun
  obtain ⟨Ld, hokd, hfirm, hLd⟩ := okShape hs hok fr.depth g' hl
  have hliveD : LiveIn Ld fr.ctx := by
    by_cases hp : fr.pos = pos0
    · obtain ⟨q1, _, q3⟩ := k6 hp
      rw [hLd q3, q1]; exact hlive
    · rw [k7 hp]; exact LiveIn.nil _
  have hprod := hr g' Ld fr.ctx fr.pos st.regCall o st1 hg' hgl' hokd hliveD hgood (PSt_regCall k2) hrun
  have hlog : st.log <:+ st1.log := hprod.log
  have hact : st1.active = st.active := hpost.active
  have hcalls : st.calls ≤ st1.calls := by
    have := hpost.calls
    have e : st.regCall.calls = st.calls + 1 := rfl
    omega
  -- a failing element beyond the first is accompanied by a terminal failure
  have herr := hprod.realErr (hprod.firmFail hliveD (hfirm (.inl (by omega))))
  have hE1 : PE c cfg (posInv cfg henv) g pos0 ss st (seqAfter fr.merge ss o) st1 :=
    ⟨eP1, fun _ => hcs.cache,
      fun _ => hprod.pst, hlog, fun h => SsGood_after _ h hlog herr, fun h => by rw [seqAfter_result]; exact h,
      seqAfter_cp_left _ _ _, fun h => by rw [seqAfter_result]; exact h⟩
  refine ⟨fun hnn => ⟨hE1, hprod.ne hnn,
    PJ_next sh ctx0 pos0 fr ss g' o st1 j2
      (fun n hn => ⟨eP2 n hn, (hpost.nodes n hn).1 ▸ (Node.WF_bounds cfg.hi n (hpost.nodes n hn).2).1⟩)
      k6 k7 k8 hl hcs hprod.pst
      (SsGood_after _ k3 hlog herr) k4⟩, ?_, ?_⟩
  · exact fun hnil hlc => PE_emit sh fr hE1 (eP3 hnil hlc)
  · intro hn hlc
    refine ⟨hE1, ?_⟩
    intro r' hpr
    have hpr' := prShape hs hpr fr.depth g' hl hlc
    cases hprod.fail r' hpr' hn with
    | inl h => exact .inr (.inl (h.le j2))
    | inr h =>
      by_cases hp : fr.pos = pos0
      · obtain ⟨q1, q2, _⟩ := k6 hp
        rw [q1] at h
        refine .inr (.inr (h.mono_cp ?_))
        rw [q2]
        exact seqAfter_cp_right ss o
      · rw [k7 hp] at h
        exact absurd h Blame.not_nil

theorem PJ_none {henv : ∀ g' ∈ cfg.env, g'.Core (TermGood cfg)} (g : G) (sh : SeqShape) (hg : g.Core (TermGood cfg))
    (hs : g.shape = some sh) (ctx0 : Ctx) (pos0 : Nat)
    (fr : Frame) (ss : SeqSt) (st : St)
    (hJ : PJ c cfg (posInv cfg henv) g sh ctx0 pos0 fr ss st) (hd : fr.depth = fr.nodes.length) (hl : sh.lookup fr.depth = none) :
    sh.lenCheck fr.depth = true ∧
    PE c cfg (posInv cfg henv) g pos0 ss st (seqEmit sh fr (seqAfter fr.merge ss ⟨.nil, [], none⟩)) st ∧
    PQ c g ctx0 pos0 (seqEmit sh fr (seqAfter fr.merge ss ⟨.nil, [], none⟩)) st := by
  obtain ⟨hJP, _, _, _, _, k5, _, _, k8⟩ := hJ
  have hlcT := lookupNone_len hs fr.depth k5 hl k8
  have he := RunInv.SeqJ.none hg hs fr ss st hJP hd hl hlcT
  rw [seqAfter_nil]
  exact ⟨hlcT, PE_emit sh fr (PE_refl ss st) he⟩

theorem seqParse_prod {henv : ∀ g' ∈ cfg.env, g'.Core (TermGood cfg)} (hP : (posInv cfg henv).OK r)
    (hcons : RunConsOK c.wf cfg r) (hr : RunProdOK c cfg r)
    (g : G) (sh : SeqShape) (hg : GWF c.wf cfg g) (hgl : g.All (LocP cfg)) (hs : g.shape = some sh)
    (L : List Nat) (hok : ok c L g = true) (ctx0 : Ctx) (pos0 : Nat) (hlive : LiveIn L ctx0) :
    ∀ (fuel : Nat) (fr : Frame) ss st b ss' st', PJ c cfg (posInv cfg henv) g sh ctx0 pos0 fr ss st → fr.depth = fr.nodes.length →
      seqParse r sh fuel fr.depth fr.nodes fr.ctx fr.pos fr.merge ss st = some (b, ss', st') →
      PE c cfg (posInv cfg henv) g pos0 ss st ss' st' ∧ PQ c g ctx0 pos0 ss' st' :=
  seqParse_est r sh (PJ c cfg (posInv cfg henv) g sh ctx0 pos0) (PE c cfg (posInv cfg henv) g pos0) (PQ c g ctx0 pos0) PE_refl PE_trans PJ_stable PQ_stable
    (fun fr ss st g' o st1 hJ hd hl hrun =>
      PJ_call hP hcons hr g sh hg hgl hs L hok ctx0 pos0 hlive fr ss st g' o st1 hJ hd hl hrun)
    (fun fr ss st hJ hd hl => PJ_none g sh hg.core hs ctx0 pos0 fr ss st hJ hd hl)

end frames

structure SeqFin (c : ProdCert) (g : G) (ctx : Ctx) (pos : Nat) (st0 : St) (ss' : SeqSt) (st' : St) : Prop where
  pst : PSt c st'
  log : st0.log <:+ st'.log
  good : ss'.result.isNil = false → SsGood st' ss'
  err : ∀ e, ss'.err = some e → EOK st'.log pos ss'.result e
  q : PQ c g ctx pos ss' st'
  ne : NE ss'.result

section first
variable {c : ProdCert} {cfg : Cfg} {r : RunFn}

/-- the call of element 0, by hand: only the first element may fail through the curtailment of an active parser (the Sequence
    then fails as a whole, `okSeq` in Spec/Productive.lean), so the loop invariant `PJ` starts at depth 1 -/
theorem seqFirst_prod {henv : ∀ g' ∈ cfg.env, g'.Core (TermGood cfg)} (hP : (posInv cfg henv).OK r)
    (hcons : RunConsOK c.wf cfg r) (hr : RunProdOK c cfg r)
    (g : G) (sh : SeqShape) (hg : GWF c.wf cfg g) (hgl : g.All (LocP cfg)) (hs : g.shape = some sh)
    (L : List Nat) (hok : ok c L g = true) (ctx : Ctx) (pos : Nat) (hlive : LiveIn L ctx)
    (st : St) (hgood : Good c.wf cfg ctx pos st) (hps : PSt c st)
    (fuel : Nat) (b : Bool) (ss' : SeqSt) (st' : St)
    (h : seqParse r sh fuel 0 [] ctx pos true {} st = some (b, ss', st')) : SeqFin c g ctx pos st ss' st' := by
  have hpos : RunPosOK cfg r := .of_inv hP
  cases fuel with
  | zero => simp [seqParse] at h
  | succ fuel =>
    simp only [seqParse] at h
    obtain ⟨⟨hin, hst, hact⟩, hcc⟩ := hgood
    cases hl : sh.lookup 0 with
    | none =>
      simp only [hl] at h
      by_cases hlc : sh.lenCheck 0 = true
      · simp only [hlc, ↓reduceIte, gt_iff_lt, Nat.lt_irrefl] at h
        cases h
        refine ⟨hps, List.suffix_refl _, ?_, ?_, ?_, ?_⟩
        · intro _ e he; simp [pickErr] at he
        · intro e he; simp [pickErr] at he
        · intro _ _; exact .inl rfl
        · exact NE_appendNode NE_nil (NE_one _)
      · have hlc' : sh.lenCheck 0 = false := by simpa using hlc
        simp only [hlc', Bool.false_eq_true, ↓reduceIte] at h
        cases h
        refine ⟨hps, List.suffix_refl _, ?_, ?_, ?_, NE_nil⟩
        · intro hc; cases hc
        · intro e he; simp [pickErr] at he
        · intro r' hpr
          have := prShape_none hs hpr hl
          rw [hlc'] at this; cases this
    | some g0 =>
      simp only [hl] at h
      split at h
      · cases h
      · rename_i o st1 hrun
        have hg' := hg.kid (G.shape_kids hs hl)
        have hgl' := shape_lookup_all hgl hs 0 g0 hl
        have hpre : Pre cfg ctx pos st.regCall := ⟨hin, StOK_regCall hst, hact⟩
        have hgood' : Good c.wf cfg ctx pos st.regCall := ⟨hpre, cacheAll_of_eq hcc rfl⟩
        have hpost := hpos g0 ctx pos st.regCall o st1 hg'.core hpre hrun
        have hcs := hcons g0 ctx pos st.regCall o st1 hg' hgood' hrun
        obtain ⟨Ld, hokd, hfirm, hLd⟩ := okShape hs hok 0 g0 hl
        have hLd' : Ld = L := hLd (fun i hi => by omega)
        subst hLd'
        have hprod := hr g0 Ld ctx pos st.regCall o st1 hg' hgl' hokd hlive hgood' (PSt_regCall hps) hrun
        have hlog : st.log <:+ st1.log := hprod.log
        have e1 : (seqAfter true ({} : SeqSt) o).err = o.err := by rw [seqAfter_err]; exact pickErr_none_left _
        have e2 : (seqAfter true ({} : SeqSt) o).result = .nil := by rw [seqAfter_result]
        split at h
        · -- the first element failed
          rename_i hnil
          have hnil' : o.res.isNil = true := by rw [hnil]; rfl
          by_cases hlc : sh.lenCheck 0 = true
          · -- an emission next to the error: the element is productive below every active rank
            have herr := hprod.realErr (hprod.firmFail hlive (hfirm (.inr hlc)))
            have hpst := hprod.pst
            simp only [hlc, ↓reduceIte, gt_iff_lt, Nat.lt_irrefl] at h
            cases h
            refine ⟨hpst, hlog, ?_, ?_, ?_, ?_⟩
            · intro _ e he
              simp only [pickErr_none_left] at he
              exact herr e he
            · intro e he
              simp only [pickErr_none_left] at he
              exact .inl (herr e he)
            · intro _ _; exact .inl rfl
            · exact NE_appendNode NE_nil (NE_one _)
          · have hlc' : sh.lenCheck 0 = false := by simpa using hlc
            have hpst := hprod.pst
            have herr := hprod.err
            have hfl := hprod.fail
            rw [hnil] at herr
            simp only [hlc', Bool.false_eq_true, ↓reduceIte] at h
            cases h
            refine ⟨hpst, hlog, ?_, ?_, ?_, NE_nil⟩
            · intro hc; cases hc
            · intro e he
              simp only [pickErr_none_left] at he
              exact herr e he
            · intro r' hpr
              have hpr' := prShape hs hpr 0 g0 hl hlc'
              cases hfl r' hpr' hnil' with
              | inl h => exact .inr (.inl h)
              | inr h =>
                refine .inr (.inr (h.mono_cp ?_))
                intro j hj
                simp only [cpUnion_nil_left]
                exact hj
        · -- alternatives: the loop continues at depth 1
          rename_i hnn'
          have hnn2 : o.res.isNil = false := by
            cases ho : o.res with
            | nil => exact absurd ho hnn'
            | one n => rfl
            | list l => rfl
          have h : seqAlts (fun n ss st =>
              seqParse r sh fuel (0 + 1) ([] ++ [n]) (if n.rpos > pos then [] else ctx) n.rpos
                (true && !decide (n.rpos > pos)) ss st) o.res.alts (seqAfter true {} o) st1 = some (b, ss', st') := h
          have herr := hprod.realErr fun hn => nomatch hnn2 ▸ hn
          have hgood1 : SsGood st1 (seqAfter true ({} : SeqSt) o) := by
            intro e he
            rw [e1] at he
            exact herr e he
          have hJ0 := (RunInv.SeqJ.call hP hg.core hs (fr := ⟨0, [], ctx, pos, true⟩) (ss := {})
            (.init hg.core hs ⟨hin, hst, hact⟩) rfl hl hrun).2.2.1
          have hnext := PJ_next (c := c) sh ctx pos ⟨0, [], ctx, pos, true⟩ {} g0 o st1 (Nat.le_refl _)
            (fun n hn => ⟨hJ0 n hn, (hpost.nodes n hn).1 ▸ (Node.WF_bounds cfg.hi n (hpost.nodes n hn).2).1⟩)
            (fun _ => ⟨rfl, rfl, fun i hi => by simp at hi⟩) (fun hne => absurd rfl hne)
            (fun i hi => by simp at hi) hl hcs hprod.pst hgood1 NE_nil
          have := seqAlts_est _ (PE c cfg (posInv cfg henv) g pos) (PQ c g ctx pos) PE_refl PE_trans
            (fun n ss st => PJ c cfg (posInv cfg henv) g sh ctx pos ((⟨0, [], ctx, pos, true⟩ : Frame).next n) ss st)
            (fun n ss st ss' st' hP hE => PJ_stable _ _ _ _ _ hP hE) PQ_stable o.res.alts (hprod.ne hnn2)
            (by
              intro n _ ss2 st2 b2 ss3 st3 hJ2 hk
              have := seqParse_prod hP hcons hr g sh hg hgl hs Ld hok ctx pos hlive fuel
                ((⟨0, [], ctx, pos, true⟩ : Frame).next n) ss2 st2 b2 ss3 st3 hJ2 (Frame.next_depth rfl n)
              apply this
              simpa [Frame.next] using hk)
            _ _ b ss' st' hnext h
          obtain ⟨⟨_, _, e3, e4, e5, e6, _, _⟩, hq⟩ := this
          refine ⟨e3 hprod.pst, hlog.trans e4, fun _ => e5 hgood1, ?_, hq, e6 (by rw [e2]; exact NE_nil)⟩
          intro e he
          exact .inl (e5 hgood1 e he)

end first

/-- the accumulator of Any / Choice: `err` holds real errors only, `nf` may hold a pending one -/
def AltP (pos : Nat) (s : St) (a : AltSt) : Prop :=
  (∀ e, a.err = some e → TFge s.log e.pos) ∧
  (∀ e, a.nf = some e → TFge s.log e.pos ∨ (e.pos = pos ∧ e.kind.isNotFound = true))

theorem AltP_altErr {pos : Nat} {s s' : St} {a : AltSt} {res : Res} (h : AltP pos s a) (hl : s.log <:+ s'.log)
    (e : Option Err) (he : ∀ er, e = some er → EOK s'.log pos res er) : AltP pos s' (altErr pos a e) := by
  cases e with
  | none =>
    have : altErr pos a none = a := rfl
    rw [this]
    exact ⟨fun e he => (h.1 e he).mono hl, fun e he => (h.2 e he).imp (TFge.mono hl) id⟩
  | some e2 =>
    have h2 := he e2 rfl
    rcases altErr_some_cases pos a e2 with ⟨c, _, c3⟩ | ⟨c, _, _, c4⟩ | ⟨c, _⟩ <;> rw [AltP, c]
    · refine ⟨?_, fun e he => (h.2 e he).imp (TFge.mono hl) id⟩
      intro e he
      cases he
      cases h2 with
      | inl h3 => exact h3
      | inr h3 =>
        exfalso
        cases c3 with
        | inl c3 => omega
        | inr c3 => rw [h3.2.2] at c3; cases c3
    · refine ⟨fun e he => (h.1 e he).mono hl, ?_⟩
      intro e he
      cases he
      cases h2 with
      | inl h3 => exact .inl h3
      | inr h3 => exact .inr ⟨h3.2.1, c4⟩
    · exact ⟨fun e he => (h.1 e he).mono hl, fun e he => (h.2 e he).imp (TFge.mono hl) id⟩

theorem seqFinish_prod {c : ProdCert} {g : G} {sh : SeqShape} {ctx : Ctx} {pos : Nat} {st0 st : St} {ss : SeqSt}
    (hf : SeqFin c g ctx pos st0 ss st) :
    PPost c g ctx pos st0 (seqFinish sh pos ss st).1 (seqFinish sh pos ss st).2 := by
  rcases seqFinish_cases sh pos ss st with ⟨hnil, err, ho, he⟩ | ⟨hnil, ho⟩ <;> rw [ho]
  · refine ⟨hf.pst, hf.log, fun er her => ?_, fun r hpr _ => ?_, NE_nil⟩
    · have hb : ∀ e, ss.err = some e → EOK st.log pos .nil e := fun e hse => (isNil_iff _).mp hnil ▸ hf.err e hse
      rcases he with rfl | ⟨e, nm, hse, _, hp, _, rfl⟩
      · exact hb er her
      · cases her
        exact (hb e hse).elim (fun h => .inl (hp ▸ h)) (fun _ => .inr ⟨rfl, rfl, rfl⟩)
    · rcases hf.q r hpr with h | h | h
      · rw [hnil] at h; cases h
      · exact .inl h
      · exact .inr h
  · exact ⟨PSt_setError hf.pst _ (hf.good hnil), (setError_ctxErr st ss.err).2.2.2.1 ▸ hf.log, noErr,
      (fun r _ hn => by rw [show ss.result.isNil = true from hn] at hnil; cases hnil), hf.ne⟩

theorem ok_wrap {c : ProdCert} {L : List Nat} {f : File} {pos : Nat} {g : G} {w : Wrap} (hok : ok c L g = true)
    (hw : g.wrap f pos = some w) : ok c L w.child = true := by
  cases g <;> simp only [G.wrap, Option.some.injEq, reduceCtorEq] at hw <;> subst hw <;>
    simp only [ok, Bool.and_eq_true] at hok <;> first | exact hok | exact hok.1

theorem AltP.finalErr {pos : Nat} {s : St} {a : AltSt} (h : AltP pos s a) :
    ∀ er, a.finalErr = some er → EOK s.log pos .nil er := by
  intro er her
  unfold AltSt.finalErr at her
  split at her
  · cases her; exact .inl (h.1 _ ‹_›)
  · exact (h.2 _ her).imp id fun h1 => ⟨rfl, h1.1, h1.2⟩

/-- the post-processing of a one-child combinator.  Optional keeps an error next to a result: there its operand is
    productive below every active rank, so a pending error is a real one.  Name and Single drop the result next to an
    error: then the error is real, or there was no result -/
theorem wrapOut_prod {c : ProdCert} {cfg : Cfg} {pos : Nat} {g : G} {w : Wrap} (hg : g.Core (TermGood cfg))
    (hw : g.wrap cfg.file pos = some w) {L : List Nat} {ctx : Ctx} (hok : ok c L g = true) (hlive : LiveIn L ctx)
    {st st' : St} {o : Out} (hpost : Post cfg pos st o st') (hp : PPost c w.child ctx pos st o st') :
    PPost c g ctx pos st (w.out o) st' := by
  have hdrop : ∀ e, o.err = some e → ∀ r, pr c r w.child = true → TFge st'.log pos ∨ Blame c ctx o.cp r := by
    intro e he r hpr
    by_cases hn1 : o.res.isNil = true
    · exact hp.fail r hpr hn1
    · exact (hp.err e he).elim (fun h1 => .inl (h1.le (hpost.err e he).1)) (fun h1 => absurd h1.1 hn1)
  have hkeep : ∀ e, o.err = some e → EOK st'.log pos .nil e := fun e he =>
    (hp.err e he).imp id fun h1 => ⟨rfl, h1.2.1, h1.2.2⟩
  cases g with
  | optional g' =>
    cases hw
    have hok' : ok c L g' = true ∧ pr c (minRank c L) g' = true := by simpa [ok] using hok
    refine ⟨hp.pst, hp.log, fun er her => .inl (hp.realErr (hp.firmFail hlive hok'.2) er her), fun r _ hn => ?_,
      NE_appendNode hp.ne (NE_one _)⟩
    rw [appendNode_one_not_nil] at hn; cases hn
  | name g' nm =>
    cases hw
    show PPost c _ ctx pos st (nameOut pos nm o) st'
    rcases nameOut_cases pos nm o with ⟨e, he, ho⟩ | ⟨he, hn, ho⟩ | ⟨he, _, ho⟩ <;> rw [ho]
    · refine ⟨hp.pst, hp.log, fun er her => ?_, fun r hpr _ => hdrop e he r hpr, NE_nil⟩
      cases her
      split
      · rename_i hc
        simp only [Bool.and_eq_true, decide_eq_true_eq] at hc
        exact (hp.err e he).elim (fun h1 => .inl (hc.1 ▸ h1)) (fun _ => .inr ⟨rfl, rfl, rfl⟩)
      · exact hkeep e he
    · exact ⟨hp.pst, hp.log, (fun er her => by cases her; exact .inr ⟨rfl, rfl, rfl⟩), fun r hpr _ => hp.fail r hpr hn, NE_nil⟩
    · exact ⟨hp.pst, hp.log, noErr, fun r hpr hn => hp.fail r hpr hn, hp.ne⟩
  | single g' =>
    cases hw
    show PPost c _ ctx pos st (singleOut o) st'
    rcases singleOut_cases o with ⟨e, he, ho⟩ | ⟨he, _, _, _, _, _, _, ho⟩ | ⟨he, ho⟩ <;> rw [ho]
    · exact ⟨hp.pst, hp.log, (fun er her => by cases her; exact hkeep e he), fun r hpr _ => hdrop e he r hpr, NE_nil⟩
    · exact ⟨hp.pst, hp.log, noErr, (fun r _ hn => nomatch hn), NE_one _⟩
    · exact ⟨hp.pst, hp.log, noErr, fun r hpr hn => hp.fail r hpr hn, hp.ne⟩
  | suppress g' =>
    cases hw
    exact ⟨hp.pst, hp.log, noErr, fun r hpr hn => hp.fail r hpr hn, hp.ne⟩
  | ltrim g' m => exact hg.elim
  | rtrim g' m => exact hg.elim
  | _ => cases hw

theorem any_prod {c : ProdCert} {cfg : Cfg} {r : RunFn} (hpos : RunPosOK cfg r) (hcons : RunConsOK c.wf cfg r)
    (hr : RunProdOK c cfg r) {L : List Nat} {ctx : Ctx} {pos : Nat} {st : St} {gs : List G}
    (hgs : ∀ g' ∈ gs, GWF c.wf cfg g' ∧ g'.All (LocP cfg) ∧ ok c L g' = true) (hlive : LiveIn L ctx)
    (hgood : Good c.wf cfg ctx pos st) (hps : PSt c st) {a : AltSt} {st1 : St}
    (hl : anyLoop r ctx pos gs {} st = some (a, st1)) :
    PPost c (.any gs) ctx pos st (anyFinish a st1).1 (anyFinish a st1).2 := by
  obtain ⟨_, _, a2, a3, a4, a5, a6⟩ := anyLoop_ind2 r ctx pos
    (fun rest a s => (∃ pre, gs = pre ++ rest) ∧ Good c.wf cfg ctx pos s ∧ PSt c s ∧ st.log <:+ s.log ∧
      AltP pos s a ∧ NE a.res ∧
      ∀ r, prAny c r gs = true → prAny c r rest = true ∨
        (a.res.isNil = true → TFge s.log pos ∨ Blame c ctx a.cp r))
    (by
      intro g' rest a s o' s' hA hrun
      obtain ⟨⟨pre, hpre⟩, a1, a2, a3, a4, a5, a6⟩ := hA
      have hmem : g' ∈ gs := by rw [hpre]; simp
      have hgr := Good_regCall a1
      have hp := hr g' L ctx pos s.regCall o' s' (hgs g' hmem).1 (hgs g' hmem).2.1
        (hgs g' hmem).2.2 hlive hgr (PSt_regCall a2) hrun
      have hlog : s.log <:+ s'.log := hp.log
      obtain ⟨f1, f2, _, _⟩ := altErr_fields pos
        { a with cp := cpUnion a.cp o'.cp, res := appendNode a.res o'.res } o'.err
      refine ⟨⟨pre ++ [g'], by rw [hpre]; simp⟩, Good_step hpos hcons (hgs g' hmem).1 hgr hrun, hp.pst,
        a3.trans hlog, AltP_altErr (a := { a with cp := cpUnion a.cp o'.cp, res := appendNode a.res o'.res })
          a4 hlog _ hp.err, by rw [f2]; exact NE_appendNode a5 hp.ne, ?_⟩
      intro r hprgs
      rw [f1, f2]
      cases a6 r hprgs with
      | inl hrest =>
        simp only [prAny, Bool.or_eq_true] at hrest
        cases hrest with
        | inl hpr =>
          exact .inr fun hn => (hp.fail r hpr (appendNode_nil_inv hn).2).imp id (Blame.mono_cp (mem_cpUnion_right _ _))
        | inr hrest => exact .inl hrest
      | inr hbl =>
        exact .inr fun hn => (hbl (appendNode_nil_inv hn).1).imp (TFge.mono hlog) (Blame.mono_cp (mem_cpUnion_left _ _)))
    gs {} st a st1 ⟨⟨[], rfl⟩, hgood, hps, List.suffix_refl _, ⟨noErr, noErr⟩, NE_nil, fun r hr => .inl hr⟩ hl
  rcases anyFinish_cases a st1 with ⟨hnil, e⟩ | ⟨hnil, e⟩ <;> rw [e]
  · exact ⟨a2, a3, a4.finalErr, fun r hpr _ => (a6 r hpr).elim (fun h1 => nomatch h1) (fun h1 => h1 hnil), NE_nil⟩
  · exact ⟨PSt_setError a2 _ a4.1, (setError_ctxErr st1 a.err).2.2.2.1 ▸ a3, noErr,
      fun r _ hn => absurd hn (Bool.eq_false_iff.mp hnil), a5⟩
theorem runStep_prod (c : ProdCert) (cfg : Cfg) (henv : EnvProd c cfg) {r : RunFn}
    (hP : (posInv cfg henv.wf.core).OK r)
    (hcons : RunConsOK c.wf cfg r) (hr : RunProdOK c cfg r) (fuel : Nat) : RunProdOK c cfg (runStep cfg r fuel) := by
  have hpos : RunPosOK cfg r := .of_inv hP
  intro g L ctx pos st o st' hg hgl hok hlive hgood hps h
  have hgh := henv.ghost
  obtain ⟨hin, hst, hact⟩ := hgood.1
  have hfail : ∀ {p : Nat} {k : ErrKind} {q : Nat}, q ≤ p →
      TFge (st.logEv cfg (.termFail p k)).log q := fun hq => by
    rw [logEv_ghost_log hgh]; exact TFge.head _ _ _ _ hq
  revert hg hgl hok
  refine runStep_elim (motive := fun g x => GWF c.wf cfg g → g.All (LocP cfg) → ok c L g = true →
      PPost c g ctx pos st x.1 x.2) ?term ?empty ?eof ?ref ?refNil ?memo ?any ?choice ?wrap ?seq g (o, st') h
  case term =>
    intro t hg hgl _
    obtain ⟨_, hTe⟩ := (show TermGood cfg t from hg.core) pos hin
    rcases termStep_cases cfg t pos st with ⟨n, hp, e⟩ | ⟨e', hp, e⟩ | ⟨s, hp, e⟩ <;> rw [e]
    · exact ⟨hps, List.suffix_refl _, noErr, (fun _ _ hn => nomatch hn), NE_one _⟩
    · exact ⟨PSt_logEv hps cfg _, logEv_suffix st cfg _, (fun er her => by cases her; exact .inl (hfail (Nat.le_refl _))),
        fun _ _ _ => .inl (hfail (hTe _ hp).1), NE_nil⟩
    · exact ((G.All_self hgl : LocP cfg _) pos _ hin hp).elim
  case empty => exact fun _ _ _ => ⟨hps, List.suffix_refl _, noErr, (fun _ _ hn => nomatch hn), NE_one _⟩
  case eof =>
    intro _ _ _
    rcases eofStep_cases cfg pos st with ⟨_, e⟩ | ⟨_, e⟩ <;> rw [e]
    · exact ⟨hps, List.suffix_refl _, noErr, (fun _ _ hn => nomatch hn), NE_one _⟩
    · exact ⟨PSt_logEv hps cfg _, logEv_suffix st cfg _, (fun er her => by cases her; exact .inl (hfail (Nat.le_refl _))),
        fun _ _ _ => .inl (hfail (Nat.le_refl _)), NE_nil⟩
  case ref =>
    intro k g' x hk h _ _ hok
    have hm := List.mem_of_getElem? hk
    obtain ⟨hok', hpr'⟩ := henv.rules k g' hk
    have hsub : ∀ j ∈ L, j ∈ c.live k := by
      intro j hj
      simp only [ok, List.all_eq_true] at hok
      simpa using hok j hj
    have hp := hr g' (c.live k) ctx pos st x.1 x.2 (henv.wf.rules g' hm) (henv.loc g' hm) hok' (hlive.sub hsub) hgood hps h
    refine ⟨hp.pst, hp.log, hp.err, fun r hpr hn => ?_, hp.ne⟩
    simp only [pr, decide_eq_true_eq] at hpr
    exact (hp.fail _ hpr' hn).imp id (Blame.mono_r hpr)
  case refNil => exact fun k hk _ hgl _ => ((G.All_self hgl : LocP cfg _) hk).elim
  case memo =>
    intro idx body x h hg hgl hok
    have hokb : pr c (c.prank idx) body = true ∧ ok c (idx :: L) body = true := by simpa [ok] using hok
    refine memoStep_elim (motive := fun x => PPost c (.memo idx body) ctx pos st x.1 x.2) ?_ ?_ ?_ h
    · intro e hc
      obtain ⟨hm, hi, hp⟩ := cacheGet_some hc
      have hE := hps.cache e hm
      have hsuf := logEv_suffix st cfg (.hit idx pos)
      refine ⟨PSt_logEv hps cfg _, hsuf, fun er her => (hp ▸ hE.err er her).mono hsuf, fun r hpr hn => ?_, hE.ne⟩
      simp only [pr, Bool.and_eq_true, decide_eq_true_eq] at hpr
      cases hE.nil hn with
      | inl h1 => exact .inl ((hp ▸ h1 : TFge st.log pos).mono hsuf)
      | inr h1 =>
        obtain ⟨j, hj, h2, h3⟩ := h1
        exact .inr ⟨j, hj, cacheGet_live hc j h2, by rw [hi] at h3; omega⟩
    · intro _ hcur
      refine ⟨PSt_logEv hps cfg _, logEv_suffix st cfg _, noErr, fun r hpr _ => ?_, NE_nil⟩
      simp only [pr, Bool.and_eq_true, decide_eq_true_eq] at hpr
      exact .inr ⟨idx, List.mem_singleton.mpr rfl, by omega, hpr.1⟩
    · intro o st2 _ hcur hr2
      obtain ⟨f1, f2, _, _, _⟩ := memoEnter_frame cfg idx pos st
      have hsuf : st.log <:+ (memoEnter cfg idx pos st).log :=
        logEv_suffix { st with active := (idx, pos) :: st.active } cfg _
      have hp := hr body (idx :: L) (ctx.inc idx) pos _ o st2 ⟨hg.core, hg.loc.2⟩ hgl.2 hokb.2 (hlive.inc idx)
        ⟨Pre_memoEnter hgood.1 hcur, cacheAll_of_eq hgood.2 f1⟩ (PSt_of_eq hps f1 f2 hsuf) hr2
      -- blame on the parser itself is impossible: the body is productive below its own rank
      have hblame : ∀ r, c.prank idx ≤ r → o.res.isNil = true → TFge st2.log pos ∨ Blame c ctx o.cp r :=
        fun r hr hn => (hp.fail _ hokb.1 hn).imp id (Blame.of_inc · hr)
      refine ⟨⟨fun x hx => ?_, hp.pst.ctxErr⟩, hsuf.trans hp.log, hp.err, fun r hpr hn => ?_, hp.ne⟩
      · cases mem_cacheSave hx with
        | inl h1 =>
          subst h1
          refine ⟨hp.err, fun hn => (hblame (c.prank idx) (Nat.le_refl _) hn).imp id ?_, hp.ne⟩
          exact fun ⟨j, hj, h3, h4⟩ => ⟨j, hj, by show 1 ≤ (ctx.filter o.cp).get j; rw [get_filter hj]; exact h3, h4⟩
        | inr h1 => exact hp.pst.cache x h1
      · simp only [pr, Bool.and_eq_true, decide_eq_true_eq] at hpr
        exact hblame r (by omega) hn
  case any =>
    intro gs a st1 hl hg hgl hok
    have hoks : okAll c L gs = true := by simpa [ok] using hok
    exact any_prod hpos hcons hr (fun g' hg' => ⟨hg.kid hg', AllList_mem hgl.2 g' hg',
      okAll_mem hoks g' hg'⟩) hlive hgood hps hl
  case choice =>
    intro gs pre a st1 h1 h2 hl hg hgl hok
    have hoks : okAll c L gs = true := by simpa [ok] using hok
    have hp := any_prod hpos hcons hr (fun g' hg' => ⟨hg.kid (h1.subset hg'),
      AllList_mem hgl.2 g' (h1.subset hg'), okAll_mem hoks g' (h1.subset hg')⟩) hlive hgood hps hl
    refine ⟨hp.pst, hp.log, hp.err, fun r hpr hn => ?_, hp.ne⟩
    rcases h2 with rfl | ⟨_, h2⟩
    · exact hp.fail r hpr hn
    · rw [h2] at hn; cases hn
  case wrap =>
    intro g w o1 st1 hw hr1 hg hgl hok
    obtain ⟨hc, hcp⟩ := hg.core.wrap hw
    have hgood' : Good c.wf cfg ctx w.cpos st := hcp.symm ▸ hgood
    exact wrapOut_prod hg.core hw hok hlive (hcp ▸ hpos _ ctx _ st o1 st1 hc hgood'.1 hr1)
      (hcp ▸ hr _ L ctx _ st o1 st1 ⟨hc, hg.loc.wrap hw⟩ (hgl.wrap hw) (ok_wrap hok hw) hlive hgood' hps hr1)
  case seq =>
    exact fun g sh b ss st1 hs hsp hg hgl hok =>
      seqFinish_prod (seqFirst_prod hP hcons hr g sh hg hgl hs L hok ctx pos hlive st hgood hps fuel b ss st1 hsp)

theorem run_prod (c : ProdCert) (cfg : Cfg) (henv : EnvProd c cfg) : ∀ fuel, RunProdOK c cfg (run cfg fuel) := by
  intro fuel
  induction fuel with
  | zero => intro g L ctx pos st o st' _ _ _ _ _ _ h; cases h
  | succ fuel ih =>
    exact fun g L ctx pos st o st' hg hgl hok hlive hgood hps h =>
      runStep_prod c cfg henv (RunInv.run fuel) (run_cons c.wf cfg henv.wf fuel) ih fuel
        g L ctx pos st o st' hg hgl hok hlive hgood hps (run_some_step h)

end Prod
end PV
