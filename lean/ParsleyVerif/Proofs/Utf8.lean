/-
  unicode/utf8: `decodeRune` and `encodeRune` are inverse to each other on the well-formed sequences.
  `Seq s c` says that the bytes `s` are the sequence of the scalar value `c`, written with the payload of each
  byte as a variable; decoding and encoding are computed once per sequence length on that form, and every
  other fact (round trip in both directions, widths, cutting the input behind the sequence) follows from it.
  The arithmetic is said once, in front: a byte is a marker plus a payload, a scalar value is its base-64 digits in
  Horner form; the computations per length are rewrites with these.
-/
import ParsleyVerif.Model.Utf8
namespace PV.Utf8

def ValidScalar (c : Nat) : Prop := c ≤ 0x10FFFF ∧ ¬ (0xD800 ≤ c ∧ c ≤ 0xDFFF)

theorem validRune_of (c : Nat) (h : ValidScalar c) : validRune c = true := by
  unfold validRune isSurrogate maxRune ValidScalar at *
  simp; omega

theorem isCont_iff (b : Nat) : isCont b = true ↔ 0x80 ≤ b ∧ b ≤ 0xBF := by
  unfold isCont; simp

theorem isCont_add (y : Nat) (h : y < 64) : isCont (0x80 + y) = true := (isCont_iff _).2 (by omega)

/-! ### bytes: a byte is written `a + x`, `a` the marker (0x80, 0xC0, 0xE0, 0xF0), `x` the payload -/

theorem mod64 {y : Nat} (h : y < 64) : (0x80 + y) % 64 = y := (Nat.mul_add_mod 64 2 y).trans (Nat.mod_eq_of_lt h)
theorem mod32 {x : Nat} (h : x < 32) : (0xC0 + x) % 32 = x := (Nat.mul_add_mod 32 6 x).trans (Nat.mod_eq_of_lt h)
theorem mod16 {x : Nat} (h : x < 16) : (0xE0 + x) % 16 = x := (Nat.mul_add_mod 16 14 x).trans (Nat.mod_eq_of_lt h)
theorem mod8 {w : Nat} (h : w < 5) : (0xF0 + w) % 8 = w :=
  (Nat.mul_add_mod 8 30 w).trans (Nat.mod_eq_of_lt (Nat.lt_trans h (by decide)))

/-- the marker alone decides the tests that come before the right one -/
theorem lead_lt {k a x : Nat} (h : k ≤ a) : ¬ a + x < k := Nat.not_lt.2 (Nat.le_add_right_of_le h)
theorem lead_le {k a x : Nat} (h : k < a) : ¬ a + x ≤ k := Nat.not_le.2 (Nat.lt_add_right x h)
theorem lead_max {a n x : Nat} (h : x < n + 1) : a + x ≤ a + n := Nat.add_le_add_left (Nat.le_of_lt_succ h) a

theorem payload {a n b : Nat} (h : a ≤ b) (h' : b < a + n) : ∃ x, x < n ∧ b = a + x := by
  obtain ⟨x, rfl⟩ := Nat.exists_eq_add_of_le h
  exact ⟨x, Nat.lt_of_add_lt_add_left h', rfl⟩

theorem isCont_exists {b : Nat} (h : isCont b = true) : ∃ y, y < 64 ∧ b = 0x80 + y :=
  payload ((isCont_iff b).1 h).1 (Nat.lt_succ_of_le ((isCont_iff b).1 h).2)

theorem byte_lt {y n : Nat} : 0x80 + y ≤ 0x7F + n ↔ y < n := by omega

/-- the window of the second byte `b` behind the lead `a + x`: narrowed from below for the payload `i`, from above
    for the payload `j` -/
theorem window (a x i j m n b : Nat) (hn : n ≤ 64) :
    ((if a + x = a + i then 0x80 + m else 0x80) ≤ b ∧ b ≤ (if a + x = a + j then 0x7F + n else 0xBF)) ↔
      ∃ y, y < 64 ∧ b = 0x80 + y ∧ (x = i → m ≤ y) ∧ (x = j → y < n) := by
  simp only [Nat.add_left_cancel_iff]
  have h0 : 0x80 ≤ if x = i then 0x80 + m else 0x80 := by split; exact Nat.le_add_right _ _; exact Nat.le_refl _
  have h3 : (if x = j then 0x7F + n else 0xBF) ≤ 0x7F + 64 := by
    split; exact Nat.add_le_add_left hn _; exact Nat.le_refl _
  constructor
  · intro ⟨h1, h2⟩
    obtain ⟨y, rfl⟩ := Nat.exists_eq_add_of_le (Nat.le_trans h0 h1)
    refine ⟨y, byte_lt.1 (Nat.le_trans h2 h3), rfl, fun e => ?_, fun e => ?_⟩
    · rw [if_pos e] at h1; exact Nat.le_of_add_le_add_left h1
    · rw [if_pos e] at h2; exact byte_lt.1 h2
  · rintro ⟨y, hy, rfl, lo, hi⟩
    constructor <;> split
    · exact Nat.add_le_add_left (lo ‹_›) _
    · exact Nat.le_add_right _ _
    · exact byte_lt.2 (hi ‹_›)
    · exact byte_lt.2 hy

theorem div_mod_64 (q a : Nat) (h : a < 64) : (q * 64 + a) / 64 = q ∧ (q * 64 + a) % 64 = a := by
  rw [Nat.mul_comm, Nat.mul_add_div (by decide), Nat.mul_add_mod, Nat.div_eq_of_lt h, Nat.mod_eq_of_lt h]
  exact ⟨rfl, rfl⟩

theorem horner3 (x y z : Nat) : x * 4096 + y * 64 + z = (x * 64 + y) * 64 + z := by rw [Nat.add_mul, Nat.mul_assoc]

theorem horner4 (w x y z : Nat) : w * 262144 + x * 4096 + y * 64 + z = ((w * 64 + x) * 64 + y) * 64 + z := by
  rw [Nat.add_mul, Nat.add_mul, Nat.add_mul, Nat.mul_assoc, Nat.mul_assoc, Nat.mul_assoc]

theorem digits3 (x : Nat) {y z : Nat} (hy : y < 64) (hz : z < 64) :
    ((x * 64 + y) * 64 + z) / 4096 = x ∧ ((x * 64 + y) * 64 + z) / 64 % 64 = y ∧
      ((x * 64 + y) * 64 + z) % 64 = z := by
  rw [show 4096 = 64 * 64 from rfl, ← Nat.div_div_eq_div_mul, (div_mod_64 _ z hz).1, (div_mod_64 _ z hz).2,
    (div_mod_64 x y hy).1, (div_mod_64 x y hy).2]
  exact ⟨rfl, rfl, rfl⟩

theorem digits4 (w : Nat) {x y z : Nat} (hx : x < 64) (hy : y < 64) (hz : z < 64) :
    (((w * 64 + x) * 64 + y) * 64 + z) / 262144 = w ∧ (((w * 64 + x) * 64 + y) * 64 + z) / 4096 % 64 = x ∧
      (((w * 64 + x) * 64 + y) * 64 + z) / 64 % 64 = y ∧ (((w * 64 + x) * 64 + y) * 64 + z) % 64 = z := by
  rw [show 262144 = 64 * 64 * 64 from rfl, show 4096 = 64 * 64 from rfl, ← Nat.div_div_eq_div_mul,
    ← Nat.div_div_eq_div_mul, (div_mod_64 _ z hz).1, (div_mod_64 _ z hz).2, (div_mod_64 _ y hy).1,
    (div_mod_64 _ y hy).2, (div_mod_64 w x hx).1, (div_mod_64 w x hx).2]
  exact ⟨rfl, rfl, rfl, rfl⟩

theorem le_div64 {n c : Nat} (h : n * 64 ≤ c) : n ≤ c / 64 := (Nat.le_div_iff_mul_le (by decide)).2 h
theorem mod64_lt (c : Nat) : c % 64 < 64 := Nat.mod_lt _ (by decide)
theorem horner_lt {q a n : Nat} (hq : q < n) (ha : a < 64) : q * 64 + a < n * 64 := by omega
theorem horner_le {q a m : Nat} (h : m ≤ q) : m * 64 ≤ q * 64 + a :=
  Nat.le_trans (Nat.mul_le_mul_right 64 h) (Nat.le_add_right _ _)
theorem lead_digit {x y m : Nat} (hm : m ≤ 64) (lo : x = 0 → m ≤ y) : m ≤ x * 64 + y := by omega

theorem digit_lo {q m : Nat} (h : m ≤ q) (e : q / 64 = 0) : m ≤ q % 64 := by
  rw [Nat.mod_eq_of_lt (Nat.lt_of_div_eq_zero (by decide) e)]; exact h

theorem digit_hi {q k n : Nat} (h : q < 64 * k + n) (e : q / 64 = k) : q % 64 < n := by
  rw [← Nat.div_add_mod q 64, e] at h; exact Nat.lt_of_add_lt_add_left h

/-- the well-formed sequences (Unicode Table 3-7: shortest form, no surrogates, at most U+10FFFF).  The side
    conditions on the second byte are the `lo`/`hi` bounds of `decodeRune`. -/
inductive Seq : List Nat → Nat → Prop
  | one {c : Nat} (h : c < 0x80) : Seq [c] c
  | two {x y : Nat} (hx : 2 ≤ x) (hx' : x < 32) (hy : y < 64) : Seq [0xC0 + x, 0x80 + y] (x * 64 + y)
  | three {x y z : Nat} (hx : x < 16) (hy : y < 64) (hz : z < 64) (lo : x = 0 → 32 ≤ y) (hi : x = 13 → y < 32) :
      Seq [0xE0 + x, 0x80 + y, 0x80 + z] (x * 4096 + y * 64 + z)
  | four {w x y z : Nat} (hw : w < 5) (hx : x < 64) (hy : y < 64) (hz : z < 64) (lo : w = 0 → 16 ≤ x)
      (hi : w = 4 → x < 16) : Seq [0xF0 + w, 0x80 + x, 0x80 + y, 0x80 + z] (w * 262144 + x * 4096 + y * 64 + z)

theorem Seq.valid {s : List Nat} {c : Nat} (h : Seq s c) : ValidScalar c := by
  unfold ValidScalar; cases h <;> omega

theorem Seq.length {s : List Nat} {c : Nat} (h : Seq s c) : 1 ≤ s.length ∧ s.length ≤ 4 := by
  cases h <;> simp

theorem Seq.ge {a : Nat} {s : List Nat} {c : Nat} (h : Seq (a :: s) c) (ha : 0x80 ≤ a) : 0x80 ≤ c := by
  cases h <;> omega

theorem Seq.tail_high {a : Nat} {s : List Nat} {c : Nat} (h : Seq (a :: s) c) : ∀ b ∈ s, 0x80 ≤ b := by
  cases h <;> simp

theorem encodeRune_two {c : Nat} (h : 0x80 ≤ c) (h' : c < 0x800) : encodeRune c = [0xC0 + c / 64, 0x80 + c % 64] := by
  unfold encodeRune
  rw [if_neg (by omega), if_pos h']

theorem encodeRune_three {c : Nat} (h : 0x800 ≤ c) (h' : c < 0x10000) (hv : validRune c = true) :
    encodeRune c = [0xE0 + c / 4096, 0x80 + (c / 64) % 64, 0x80 + c % 64] := by
  unfold encodeRune
  rw [if_neg (by omega), if_neg (by omega), hv, if_neg (by simp), if_pos h']

theorem encodeRune_four {c : Nat} (h : 0x10000 ≤ c) (hv : validRune c = true) :
    encodeRune c = [0xF0 + c / 262144, 0x80 + (c / 4096) % 64, 0x80 + (c / 64) % 64, 0x80 + c % 64] := by
  unfold encodeRune
  rw [if_neg (by omega), if_neg (by omega), hv, if_neg (by simp), if_neg (by omega)]

theorem Seq.decode {s : List Nat} {c : Nat} (h : Seq s c) (t : List Nat) : decodeRune (s ++ t) = (c, s.length) := by
  cases h with
  | one h => exact if_pos h
  | @two x y hx hx' hy =>
    show decodeRune (_ :: _ :: t) = _
    rw [decodeRune, if_neg (lead_lt (by decide)), if_neg (Nat.not_lt.2 (Nat.add_le_add_left hx _) : ¬ 0xC0 + x < 0xC2),
      if_pos (lead_max hx'), isCont_add _ hy, if_pos rfl, mod32 hx', mod64 hy]; rfl
  | three hx hy hz lo hi =>
    show decodeRune (_ :: _ :: _ :: t) = _
    rw [decodeRune, if_neg (lead_lt (by decide)), if_neg (lead_lt (by decide)), if_neg (lead_le (by decide)),
      if_pos (lead_max hx)]
    dsimp only
    rw [isCont_add _ hz, Bool.and_true, if_pos, mod16 hx, mod64 hy, mod64 hz]; rfl
    simp only [Bool.and_eq_true, decide_eq_true_eq]
    exact (window 0xE0 _ 0 13 32 32 _ (by decide)).2 ⟨_, hy, rfl, lo, hi⟩
  | four hw hx hy hz lo hi =>
    show decodeRune (_ :: _ :: _ :: _ :: t) = _
    rw [decodeRune, if_neg (lead_lt (by decide)), if_neg (lead_lt (by decide)), if_neg (lead_le (by decide)),
      if_neg (lead_le (by decide)), if_pos (lead_max hw)]
    dsimp only
    rw [isCont_add _ hy, isCont_add _ hz, Bool.and_true, Bool.and_true, if_pos, mod8 hw, mod64 hx, mod64 hy,
      mod64 hz]; rfl
    simp only [Bool.and_eq_true, decide_eq_true_eq]
    exact (window 0xF0 _ 0 4 16 16 _ (by decide)).2 ⟨_, hx, rfl, lo, hi⟩

theorem Seq.encode {s : List Nat} {c : Nat} (h : Seq s c) : encodeRune c = s := by
  have hv := validRune_of c h.valid
  cases h with
  | one h => unfold encodeRune; rw [if_pos h]
  | @two x y hx hx' hy =>
    rw [encodeRune_two (horner_le hx) (horner_lt hx' hy), (div_mod_64 x y hy).1, (div_mod_64 x y hy).2]
  | @three x y z hx hy hz lo hi =>
    rw [horner3] at hv ⊢
    rw [encodeRune_three (horner_le (lead_digit (by decide) lo)) (horner_lt (horner_lt hx hy) hz) hv]
    obtain ⟨e1, e2, e3⟩ := digits3 x hy hz
    rw [e1, e2, e3]
  | @four w x y z hw hx hy hz lo hi =>
    rw [horner4] at hv ⊢
    rw [encodeRune_four (horner_le (horner_le (lead_digit (by decide) lo))) hv]
    obtain ⟨e1, e2, e3, e4⟩ := digits4 w hx hy hz
    rw [e1, e2, e3, e4]

/-- every scalar value has its sequence: the payloads are its base-64 digits -/
theorem exists_seq (c : Nat) (h : ValidScalar c) : ∃ s, Seq s c := by
  obtain ⟨h1, h2⟩ := h
  by_cases c1 : c < 0x80
  · exact ⟨_, .one c1⟩
  by_cases c2 : c < 0x800
  · have := Seq.two (le_div64 (Nat.le_of_not_lt c1)) (Nat.div_lt_of_lt_mul c2) (mod64_lt c)
    rw [Nat.div_add_mod'] at this
    exact ⟨_, this⟩
  by_cases c3 : c < 0x10000
  · have := Seq.three (Nat.div_lt_of_lt_mul (Nat.div_lt_of_lt_mul c3)) (mod64_lt (c / 64)) (mod64_lt c)
      (digit_lo (le_div64 (Nat.le_of_not_lt c2))) (by omega)
    rw [horner3, Nat.div_add_mod', Nat.div_add_mod'] at this
    exact ⟨_, this⟩
  · have h4 : c < 64 * (64 * (64 * 4 + 16)) := Nat.lt_succ_of_le h1
    have := Seq.four (Nat.div_lt_of_lt_mul (Nat.div_lt_of_lt_mul (Nat.div_lt_of_lt_mul (Nat.lt_trans h4 (by decide)))))
      (mod64_lt (c / 64 / 64)) (mod64_lt (c / 64)) (mod64_lt c)
      (digit_lo (le_div64 (le_div64 (Nat.le_of_not_lt c3))))
      (digit_hi (Nat.div_lt_of_lt_mul (Nat.div_lt_of_lt_mul h4)))
    rw [horner4, Nat.div_add_mod', Nat.div_add_mod', Nat.div_add_mod'] at this
    exact ⟨_, this⟩

theorem decode_encode (c : Nat) (t : List Nat) (h : ValidScalar c) :
    decodeRune (encodeRune c ++ t) = (c, (encodeRune c).length) := by
  obtain ⟨s, hs⟩ := exists_seq c h
  rw [hs.encode, hs.decode]

theorem cases_of_ite {l : List Nat} {k : Bool} {p : Nat × Nat} (H : k = true → ∃ s c t, l = s ++ t ∧ Seq s c) :
    (if k = true then p else (runeError, 1)) = (runeError, 1) ∨ ∃ s c t, l = s ++ t ∧ Seq s c := by
  cases k
  · exact Or.inl rfl
  · exact Or.inr (H rfl)

theorem decodeRune_cases (l : List Nat) (h : l ≠ []) :
    decodeRune l = (runeError, 1) ∨ ∃ s c t, l = s ++ t ∧ Seq s c := by
  match l, h with
  | b0 :: r, _ =>
    show (if b0 < 0x80 then _ else _) = _ ∨ _
    by_cases c1 : b0 < 0x80
    · exact Or.inr ⟨[b0], b0, r, rfl, .one c1⟩
    rw [if_neg c1]
    by_cases c2 : b0 < 0xC2
    · rw [if_pos c2]; exact Or.inl rfl
    rw [if_neg c2]
    by_cases c3 : b0 ≤ 0xDF
    · rw [if_pos c3]
      match r with
      | [] => exact Or.inl rfl
      | b1 :: t =>
        refine cases_of_ite fun k => ?_
        obtain ⟨x, hx, rfl⟩ :=
          payload (n := 32) (Nat.le_trans (by decide : 0xC0 ≤ 0xC2) (Nat.le_of_not_lt c2)) (Nat.lt_succ_of_le c3)
        obtain ⟨y, hy, rfl⟩ := isCont_exists k
        exact ⟨_, _, t, rfl, .two (Nat.le_of_add_le_add_left (Nat.le_of_not_lt c2 : 0xC0 + 2 ≤ _)) hx hy⟩
    rw [if_neg c3]
    by_cases c4 : b0 ≤ 0xEF
    · rw [if_pos c4]
      match r with
      | [] | [_] => exact Or.inl rfl
      | b1 :: b2 :: t =>
        refine cases_of_ite fun k => ?_
        simp only [Bool.and_eq_true, decide_eq_true_eq] at k
        obtain ⟨x, hx, rfl⟩ := payload (n := 16) (Nat.lt_of_not_le c3) (Nat.lt_succ_of_le c4)
        obtain ⟨y, hy, rfl, lo, hi⟩ := (window 0xE0 x 0 13 32 32 b1 (by decide)).1 k.1
        obtain ⟨z, hz, rfl⟩ := isCont_exists k.2
        exact ⟨_, _, t, rfl, .three hx hy hz lo hi⟩
    rw [if_neg c4]
    by_cases c5 : b0 ≤ 0xF4
    · rw [if_pos c5]
      match r with
      | [] | [_] | [_, _] => exact Or.inl rfl
      | b1 :: b2 :: b3 :: t =>
        refine cases_of_ite fun k => ?_
        simp only [Bool.and_eq_true, decide_eq_true_eq] at k
        obtain ⟨w, hw, rfl⟩ := payload (n := 5) (Nat.lt_of_not_le c4) (Nat.lt_succ_of_le c5)
        obtain ⟨x, hx, rfl, lo, hi⟩ := (window 0xF0 w 0 4 16 16 b1 (by decide)).1 k.1.1
        obtain ⟨y, hy, rfl⟩ := isCont_exists k.1.2
        obtain ⟨z, hz, rfl⟩ := isCont_exists k.2
        exact ⟨_, _, t, rfl, .four hw hx hy hz lo hi⟩
    rw [if_neg c5]; exact Or.inl rfl

theorem decodeRune_width (l : List Nat) (h : l ≠ []) : 1 ≤ (decodeRune l).2 ∧ (decodeRune l).2 ≤ l.length := by
  rcases decodeRune_cases l h with e | ⟨s, c, t, rfl, hs⟩
  · rw [e]; exact ⟨Nat.le_refl _, List.length_pos_iff.mpr h⟩
  · rw [hs.decode, List.length_append]; exact ⟨hs.length.1, Nat.le_add_right _ _⟩

theorem decodeRune_ascii (c : Nat) (t : List Nat) (h : c < 0x80) : decodeRune (c :: t) = (c, 1) :=
  (Seq.one h).decode t

theorem decodeRune_ge (c : Nat) (t : List Nat) (h : ¬ c < 0x80) : 0x80 ≤ (decodeRune (c :: t)).1 := by
  rcases decodeRune_cases (c :: t) (by simp) with e | ⟨s, r, t', e, hs⟩
  · rw [e]; decide
  · rw [e, hs.decode]
    match s, hs, e with
    | a :: s', hs, e =>
      cases (List.cons.inj e).1
      exact hs.ge (by omega)

inductive Decoded (l : List Nat) : Prop
  | invalid (h : decodeRune l = (runeError, 1))
  | valid (h1 : ValidScalar (decodeRune l).1) (h2 : l.take (decodeRune l).2 = encodeRune (decodeRune l).1)

theorem decodeRune_decoded (l : List Nat) (h : l ≠ []) : Decoded l := by
  rcases decodeRune_cases l h with e | ⟨s, c, t, rfl, hs⟩
  · exact .invalid e
  · refine .valid ?_ ?_ <;> rw [hs.decode]
    · exact hs.valid
    · rw [hs.encode, List.take_left']; rfl

theorem decodeRune_encode_le (l : List Nat) (h : l ≠ []) :
    decodeRune l = (runeError, 1) ∨ (encodeRune (decodeRune l).1).length = (decodeRune l).2 := by
  rcases decodeRune_cases l h with e | ⟨s, c, t, rfl, hs⟩
  · exact Or.inl e
  · right; rw [hs.decode, hs.encode]

theorem decode_take (l : List Nat) (j : Nat) (h : (decodeRune l).2 ≤ j) (hl : l ≠ []) :
    (decodeRune (l.take j)).2 = (decodeRune l).2 := by
  rcases decodeRune_cases l hl with e | ⟨s, c, t, rfl, hs⟩
  · -- a prefix that starts with a sequence would make `l` start with it too
    have hj : l.take j ≠ [] := by
      rw [e] at h
      obtain ⟨a, r, rfl⟩ := List.exists_cons_of_ne_nil hl
      obtain ⟨j, rfl⟩ : ∃ j', j = j' + 1 := ⟨j - 1, by omega⟩
      simp
    rcases decodeRune_cases _ hj with e' | ⟨s, c, t, e', hs⟩
    · rw [e, e']
    · have el : l = s ++ (t ++ l.drop j) := by rw [← List.append_assoc, ← e', List.take_append_drop]
      rw [e', hs.decode, el, hs.decode]
  · rw [hs.decode] at h ⊢
    rw [List.take_append, List.take_of_length_le h, hs.decode]

theorem encodeRune_high (c : Nat) (hc : 0x80 ≤ c) : ∀ b ∈ encodeRune c, 0x80 ≤ b := by
  have lead {a x : Nat} (h : 0x80 ≤ a) : 0x80 ≤ a + x := Nat.le_add_right_of_le h
  unfold encodeRune
  rw [if_neg (Nat.not_lt.2 hc)]
  repeat' split
  all_goals simp only [List.forall_mem_cons, List.not_mem_nil, false_imp_iff, implies_true, and_true]
  · exact ⟨lead (by decide), lead (by decide)⟩
  · decide
  · exact ⟨lead (by decide), lead (by decide), lead (by decide)⟩
  · exact ⟨lead (by decide), lead (by decide), lead (by decide), lead (by decide)⟩

theorem encodeRune_length (c : Nat) : 1 ≤ (encodeRune c).length ∧ (encodeRune c).length ≤ 4 := by
  unfold encodeRune
  repeat' split
  all_goals exact ⟨Nat.le_add_left 1 _, by simp only [List.length_cons, List.length_nil]; decide⟩

end PV.Utf8
