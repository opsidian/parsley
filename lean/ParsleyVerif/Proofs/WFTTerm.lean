/-
  C02 (extended certificate), terminals: EVERY built-in terminal of Model/Terminal.lean, for ALL construction
  parameters, every `strconv.ParseFloat` / `time.ParseDuration` answer and every regexp engine, returns — when
  it returns a node at a position of the file — a terminal LEAF that starts at the call position, ends inside
  the file, and is at least one byte wide unless the terminal is a Regexp whose expression the certificate
  declares nullable (`termNullable`).

  Span: `Terminal.parse_within`.  Width: in the reader program of each terminal (Proofs/TermProgram.lean) no node is
  reached before a primitive has reported a match that is at least one byte wide (`reads_adv`): a rune, a
  non-empty operator or word (the empty ones are the documented panics, so NO hypothesis on them is needed), a lexeme
  of one of the literal expressions, or a match of a user expression the certificate declares non-nullable (`RxSound`;
  an engine that reports a length beyond the input is the slice-bounds panic, not a node).
-/
import ParsleyVerif.Spec.WFTrim
import ParsleyVerif.Spec.Core
import ParsleyVerif.Proofs.TermProgram
namespace PV.WFT
open PV PV.Text

/-- the certificate's claim about the regexp engine: an expression declared non-nullable never reports
    an empty match on a non-empty rest (at the end of input ReadRegexp does not consult the engine) -/
def RxSound (rx : Nat → Bool) (P : Params) : Prop :=
  ∀ id r m g, rx id = false → r ≠ [] → P.regexp id r = some (m, g) → 0 < m

theorem rxSound_all (P : Params) : RxSound rxAll P := by
  intro id r m g h; simp [rxAll] at h

def TermLeaf (rx : Nat → Bool) (cfg : Cfg) (t : Terminal) : Prop :=
  ∀ pos n, InFile cfg.file pos → t.parse cfg.params cfg.file pos = .node n →
    ∃ tok v r, n = .term tok v pos r ∧ pos ≤ r ∧ r ≤ cfg.hi ∧ (termNullable rx t = false → pos < r)

theorem integerMatch_pos (l : Bytes) (k : Nat) (h : integerMatch l = some k) : 0 < k := by
  unfold integerMatch at h
  simp only at h
  split at h
  · split at h
    · cases h; omega
    · split at h
      · split at h
        · split at h <;> (cases h; omega)
        · cases h; omega
      · cases h
  · cases h

theorem floatMatch_pos (l : Bytes) (k : Nat) (h : floatMatch l = some k) : 0 < k := by
  unfold floatMatch at h
  simp only at h
  split at h
  · split at h
    · cases h; omega
    · cases h
  · cases h

theorem durationMatch_pos (l : Bytes) (k : Nat) (h : durationMatch l = some k) : 0 < k := by
  unfold durationMatch at h
  simp only at h
  split at h
  · cases h; omega
  · cases h

/-- every terminal consumes, unless it is a Regexp whose expression may match the empty string -/
theorem reads_adv (rx : Nat → Bool) (P : Params) (hrx : RxSound rx P) (t : Terminal)
    (h : termNullable rx t = false) : (t.reads P).Adv False := by
  cases t with
  | rune ch name => exact Rd.runeThen_adv _ ch _ _ trivial
  | op s name => exact fun | true => Or.inr ⟨trivial, rfl⟩ | false => trivial
  | word w v name => exact Rd.wordThen_adv _ _ _ trivial
  | bool ts fs => exact Rd.wordThen_adv _ _ _ (Rd.wordThen_adv _ _ _ trivial)
  | nil s => exact Rd.wordThen_adv _ _ _ trivial
  | integer => exact Rd.lexThen_adv (fun l k _ => integerMatch_pos l k) _ _
  | float => exact Rd.lexThen_adv (fun l k _ => floatMatch_pos l k) _ _
  | duration => exact Rd.lexThen_adv (fun l k _ => durationMatch_pos l k) _ _
  | char => exact fun | true => Rd.adv_of (Or.inr ⟨trivial, rfl⟩) _ | false => trivial
  | string bq =>
    refine Rd.runeThen_adv _ 34 _ _ ?_
    cases bq
    · trivial
    · exact Rd.runeThen_adv _ 96 _ _ trivial
  | regexp id tok name g =>
    refine Rd.lexThen_adv (fun l k hne hk => ?_) _ _
    obtain ⟨⟨m, gv⟩, hp, rfl⟩ := Option.map_eq_some_iff.1 hk
    exact hrx id l m gv h hne hp

theorem termLeaf_all (rx : Nat → Bool) (cfg : Cfg) (hrx : RxSound rx cfg.params) (t : Terminal) : TermLeaf rx cfg t := by
  intro pos n hin hn
  have hw := Terminal.parse_within cfg.params cfg.file t pos hin
  rw [hn] at hw
  obtain ⟨tok, v, r, rfl, h1, h2⟩ := hw
  refine ⟨tok, v, r, rfl, h1, h2, fun hnl => ?_⟩
  rw [Terminal.parse_eq_run] at hn
  exact Rd.run_lt hin _ False pos (reads_adv rx _ hrx t hnl) False.elim ⟨Nat.le_refl _, hin.2⟩ tok v r hn

end PV.WFT
