/-
  Well-formed trees spell the input: the leaves' file slices, concatenated, are exactly the bytes
  between the tree's start and end.
-/
import ParsleyVerif.Proofs.RunPos
namespace PV
open PV.Text

/-- the bytes of the file from global position `a` to `b` -/
def slice (f : File) (a b : Nat) : Bytes := (f.data.drop (a - f.offset)).take (b - a)

mutual
/-- what a tree spells: each terminal leaf contributes the bytes of its own span -/
def Node.spell (f : File) : Node → Bytes
  | .term _ _ p r => slice f p r
  | .empty _ => []
  | .eof _ => []
  | .nt _ cs _ _ _ => spellList f cs
def spellList (f : File) : List Node → Bytes
  | [] => []
  | c :: cs => c.spell f ++ spellList f cs
end

theorem slice_self (f : File) (a : Nat) : slice f a a = [] := by simp [slice]

theorem slice_append (f : File) (a b c : Nat) (h0 : f.offset ≤ a) (h1 : a ≤ b) (h2 : b ≤ c) :
    slice f a b ++ slice f b c = slice f a c := by
  unfold slice
  have e1 : b - f.offset = (a - f.offset) + (b - a) := by omega
  have e2 : c - a = (b - a) + (c - b) := by omega
  rw [e1, ← List.drop_drop, e2, List.take_add]

mutual
theorem Node.spell_eq (f : File) (hi : Nat) : ∀ n : Node, f.offset ≤ n.pos → n.WF hi →
    n.spell f = slice f n.pos n.rpos
  | .term _ _ p r, _, _ => by simp [Node.spell, Node.pos, Node.rpos]
  | .empty p, _, _ => by simp [Node.spell, Node.pos, Node.rpos, slice_self]
  | .eof p, _, _ => by simp [Node.spell, Node.pos, Node.rpos, slice_self]
  | .nt _ cs p r _, h0, h => by
    have h' : Chain hi cs p r := by simpa only [Node.WF] using h
    simp only [Node.spell, Node.pos, Node.rpos]
    exact spellList_eq f hi cs p r h0 h'
theorem spellList_eq (f : File) (hi : Nat) : ∀ (cs : List Node) (p r : Nat), f.offset ≤ p → Chain hi cs p r →
    spellList f cs = slice f p r
  | [], p, r, _, h => by
    have h' := Chain_nil.mp h
    simp [spellList, h'.1, slice_self]
  | c :: cs, p, r, h0, h => by
    have h' := Chain_cons.mp h
    have hb := Node.WF_bounds hi c h'.2.1
    have hc := Chain_bounds hi cs c.rpos r h'.2.2
    simp only [spellList]
    rw [Node.spell_eq f hi c (by omega) h'.2.1, spellList_eq f hi cs c.rpos r (by omega) h'.2.2, h'.1]
    exact slice_append f p c.rpos r h0 (by omega) hc.1
end

end PV
