/-
  C08: the duration `[-+]?(?:[0-9]+(?:\.[0-9]+)?(?:ns|us|µs|μs|ms|s|m|h))+`.  The units are a table: the first one, in
  the order written, that is a prefix is also the longest (`ms` stands before `s` and `m`).  One item is composed from
  the closure lemmas of Proofs/Munch.lean.  The iteration is the one place where a shorter match exists that
  leftmost-first does not take (`…m` in front of `s`): it cannot be continued, because no item starts with `s`
  (`durItemLen_of_isDurItem`, `durItems_max`).
-/
import ParsleyVerif.Proofs.Lang
namespace PV
open PV.Text PV.Lang

theorem isUnit_iff (w : Bytes) : isUnit w = true ↔ w ∈ units := by
  unfold isUnit; simp

theorem isUnit_cases (w : Bytes) (h : isUnit w = true) :
    w = [110, 115] ∨ w = [117, 115] ∨ w = [0xC2, 0xB5, 115] ∨ w = [0xCE, 0xBC, 115] ∨ w = [109, 115] ∨ w = [115] ∨
      w = [109] ∨ w = [104] := by
  rw [isUnit_iff] at h
  simpa [units] using h

/-- leftmost-first on `ns|us|µs|μs|ms|s|m|h`: `unitLen` reports the first unit of the list, in the order
    written, that is a prefix of the input -/
theorem firstSome_units (l : Bytes) :
    firstSome (units.map (fun u => if u <+: l then some u.length else none)) =
      if 0 < unitLen l then some (unitLen l) else none := by
  simp only [units, List.map, firstSome_ite, List.length_cons, List.length_nil]
  generalize hk : unitLen l = k
  unfold unitLen at hk
  split at hk <;> subst hk
  · simp
  · simp
  · simp
  · simp
  · simp
  · simp
  · rename_i t h
    have : ¬ [115] <+: t := by
      rintro ⟨t', ht⟩; exact h t' ht.symm
    simp [this]
  · simp
  · rename_i h1 h2 h3 h4 h5 h6 h7 h8
    rw [if_neg, if_neg, if_neg, if_neg, if_neg, if_neg, if_neg, if_neg]; rfl
    · rintro ⟨t', ht⟩; exact h8 t' ht.symm
    · rintro ⟨t', ht⟩; exact h7 t' ht.symm
    · rintro ⟨t', ht⟩; exact h6 t' ht.symm
    · rintro ⟨t', ht⟩; exact h5 t' ht.symm
    · rintro ⟨t', ht⟩; exact h4 t' ht.symm
    · rintro ⟨t', ht⟩; exact h3 t' ht.symm
    · rintro ⟨t', ht⟩; exact h2 t' ht.symm
    · rintro ⟨t', ht⟩; exact h1 t' ht.symm

theorem unitLen_le (l : Bytes) : unitLen l ≤ l.length := by
  unfold unitLen
  split <;> simp <;> omega

theorem unitLen_sound (l : Bytes) (h : unitLen l > 0) : isUnit (l.take (unitLen l)) = true := by
  unfold unitLen at h ⊢
  split
  · show isUnit [110, 115] = true; decide
  · show isUnit [117, 115] = true; decide
  · show isUnit [0xC2, 0xB5, 115] = true; decide
  · show isUnit [0xCE, 0xBC, 115] = true; decide
  · show isUnit [109, 115] = true; decide
  · show isUnit [115] = true; decide
  · show isUnit [109] = true; decide
  · show isUnit [104] = true; decide
  · rename_i h1 h2 h3 h4 h5 h6 h7 h8
    split at h
    · exact absurd rfl (h1 _)
    · exact absurd rfl (h2 _)
    · exact absurd rfl (h3 _)
    · exact absurd rfl (h4 _)
    · exact absurd rfl (h5 _)
    · exact absurd rfl (h6 _)
    · exact absurd rfl (h7 _)
    · exact absurd rfl (h8 _)
    · omega

/-- every unit that is a prefix of the input is what `unitLen` reports, except `m` in front of `s` -/
theorem unitLen_of_isUnit (u t : Bytes) (h : isUnit u = true) :
    unitLen (u ++ t) = u.length ∨ (u = [109] ∧ unitLen (u ++ t) = 2 ∧ ∃ t', t = 115 :: t') := by
  rcases isUnit_cases u h with rfl | rfl | rfl | rfl | rfl | rfl | rfl | rfl
  · left; rfl
  · left; rfl
  · left; rfl
  · left; rfl
  · left; rfl
  · left; rfl
  · cases t with
    | nil => left; rfl
    | cons x t' =>
      by_cases hx : x = 115
      · subst hx; right; exact ⟨rfl, rfl, t', rfl⟩
      · left; simp [unitLen, hx]
  · left; rfl

theorem isUnit_length (u : Bytes) (h : isUnit u = true) : 1 ≤ u.length := by
  rcases isUnit_cases u h with rfl | rfl | rfl | rfl | rfl | rfl | rfl | rfl <;> simp

theorem isUnit_head (u : Bytes) (h : isUnit u = true) : ∃ c t, u = c :: t ∧ digit c = false ∧ c ≠ 46 := by
  rcases isUnit_cases u h with rfl | rfl | rfl | rfl | rfl | rfl | rfl | rfl <;>
    exact ⟨_, _, rfl, by decide, by decide⟩

/-- the first unit that matches is also the longest unit that is a prefix of the input -/
theorem longestPrefix_isUnit (l : Bytes) :
    longestPrefix isUnit l = if unitLen l > 0 then some (unitLen l) else none := by
  have key : ∀ j, j ≤ l.length → isUnit (l.take j) = true → 1 ≤ j ∧ j ≤ unitLen l := by
    intro j hj h
    have h1 := isUnit_length _ h
    have h2 := unitLen_of_isUnit _ (l.drop j) h
    rw [List.take_append_drop, List.length_take] at h2
    rw [List.length_take] at h1
    rcases h2 with h2 | ⟨h3, h2, _⟩
    · omega
    · have : (l.take j).length = 1 := by rw [h3]; rfl
      rw [List.length_take] at this
      omega
  exact longestPrefix_of_bound (unitLen_le l) (unitLen_sound l) key

section
open Rx

def Rx.unitRe : Re :=
  .alt (Re.lit [110, 115]) (.alt (Re.lit [117, 115]) (.alt (Re.lit [0xC2, 0xB5, 115]) (.alt (Re.lit [0xCE, 0xBC, 115])
  (.alt (Re.lit [109, 115]) (.alt (Re.lit [115]) (.alt (Re.lit [109]) (Re.lit [104])))))))

theorem unitSx_re : unitSx.re = unitRe := by
  have h1 : litBytes ['n', 's'] = [110, 115] := by decide
  have h2 : litBytes ['u', 's'] = [117, 115] := by decide
  have h3 : litBytes ['µ', 's'] = [0xC2, 0xB5, 115] := by decide
  have h4 : litBytes ['μ', 's'] = [0xCE, 0xBC, 115] := by decide
  have h5 : litBytes ['m', 's'] = [109, 115] := by decide
  have h6 : litBytes ['s'] = [115] := by decide
  have h7 : litBytes ['m'] = [109] := by decide
  have h8 : litBytes ['h'] = [104] := by decide
  simp only [unitSx, Sx.re, h1, h2, h3, h4, h5, h6, h7, h8, unitRe]

theorem unitRe_run (f : Nat) (l : Bytes) :
    unitRe.run f l = Lang.units.flatMap fun u => if u <+: l then [u.length] else [] := by
  simp only [unitRe, run_alt, run_lit_prefix, Lang.units, List.flatMap_cons, List.flatMap_nil, List.append_nil]

theorem head?_flatMap_prefix (l : Bytes) : ∀ us : List Bytes,
    (us.flatMap fun u => if u <+: l then [u.length] else []).head? =
      Lang.firstSome (us.map fun u => if u <+: l then some u.length else none)
  | [] => rfl
  | u :: us => by
    rw [List.flatMap_cons, List.map_cons]
    by_cases hp : u <+: l
    · rw [if_pos hp, if_pos hp]; rfl
    · rw [if_neg hp, if_neg hp, List.nil_append, head?_flatMap_prefix l us]; rfl

def scUnit : Scanner := fun l => if unitLen l > 0 then some (unitLen l) else none

theorem munch_unit : Munch unitRe isUnit scUnit :=
  ⟨fun f l _ => by rw [unitRe_run, head?_flatMap_prefix, firstSome_units]; rfl, longestPrefix_isUnit⟩

theorem isUnit_digit (c : Nat) (w : Bytes) (h : digit c = true) : isUnit (c :: w) = false := by
  cases hu : isUnit (c :: w) with
  | false => rfl
  | true =>
    obtain ⟨c', t, e, hd, _⟩ := isUnit_head _ hu
    cases e; rw [h] at hd; cases hd

/-! ### one item: `[0-9]+(?:\.[0-9]+)?(?:unit)` -/

/-- the optional `\.[0-9]+` of `durItemLen` -/
def frLen : Bytes → Nat
  | 46 :: r => if spanLen digit r > 0 then 1 + spanLen digit r else 0
  | _ => 0

theorem durItemLen_eq (l : Bytes) :
    durItemLen l =
      if spanLen digit l = 0 then 0
      else if unitLen (l.drop (spanLen digit l + frLen (l.drop (spanLen digit l)))) > 0 then
        spanLen digit l + frLen (l.drop (spanLen digit l)) +
          unitLen (l.drop (spanLen digit l + frLen (l.drop (spanLen digit l))))
      else 0 := by
  unfold durItemLen frLen
  simp only [isDigit_eq_digit]
  rfl

theorem frLen_cons_ne (c : Nat) (r : Bytes) (h : c ≠ 46) : frLen (c :: r) = 0 := by
  simp [frLen, h]

theorem spanLen_append_cons (p : Nat → Bool) (ds : Bytes) (c : Nat) (t : Bytes) (hds : ∀ b ∈ ds, p b = true)
    (hc : p c = false) : spanLen p (ds ++ c :: t) = ds.length :=
  length_takeWhile_append p ds (c :: t) hds fun b hb => by cases hb; exact hc

theorem isDotDigits_iff (fr : Bytes) : isDotDigits fr = true ↔ ∃ fd, fr = 46 :: fd ∧ plus1 digit fd = true := by
  unfold isDotDigits
  split
  · rename_i r; simp
  · rename_i h
    constructor
    · intro h'; cases h'
    · rintro ⟨fd, rfl, _⟩; exact absurd rfl (h fd)

def Rx.fracOpt : Re := (Re.seq (.byte (· == 46)) (Re.byte digit).plus).opt
def Rx.itemTail : Re := .seq fracOpt unitRe
def Rx.itemRe : Re := .seq (Re.byte digit).plus itemTail

/-- `(?:\.[0-9]+)?(?:unit)`: the fraction with the unit behind it, else the unit -/
def scTail : Scanner := fun l => (Sc.byteThen (· == 46) (Sc.plusThen digit scUnit) l).or (scUnit l)

theorem cat_isDotDigits_nil (B : Bytes → Bool) : cat isDotDigits B [] = false := by rw [cat_nil]; rfl

theorem cat_isDotDigits_cons (B : Bytes → Bool) (c : Nat) (w : Bytes) :
    cat isDotDigits B (c :: w) = (decide (c = 46) && cat (plus1 digit) B w) := by
  rw [Bool.eq_iff_iff]
  simp only [Bool.and_eq_true, decide_eq_true_eq, cat_iff, isDotDigits_iff]
  constructor
  · rintro ⟨a, b, h, ⟨fd, rfl, hfd⟩, hb⟩
    cases h
    exact ⟨rfl, fd, b, rfl, hfd, hb⟩
  · rintro ⟨rfl, fd, b, rfl, hfd, hb⟩
    exact ⟨46 :: fd, b, rfl, ⟨fd, rfl, hfd⟩, hb⟩

theorem munch_itemTail : Munch itemTail (cat (opt isDotDigits) isUnit) scTail :=
  (((munch_unit.plus_seq digit isUnit_digit).byte_seq (· == 46) (L := cat isDotDigits isUnit) (cat_isDotDigits_nil _)
      fun c w => by rw [cat_isDotDigits_cons, Bool.beq_eq_decide_eq]).alt munch_unit fun l i j hi hj => by
      -- a fraction starts with `.`, no unit does
      match l, hi with
      | c :: t, hi =>
        by_cases hc : c = 46
        · subst hc
          have : unitLen (46 :: t) = 0 := rfl
          simp [scUnit, this] at hj
        · simp [Sc.byteThen, hc] at hi).congr
    (fun f l => by unfold itemTail fracOpt Re.opt; rw [run_seq_alt, run_seq_eps, run_seq_assoc]; rfl)
    (cat_opt _ _) (fun _ => rfl)

theorem tail_digit (c : Nat) (w : Bytes) (h : digit c = true) : cat (opt isDotDigits) isUnit (c :: w) = false := by
  have : c ≠ 46 := by rw [digit_iff] at h; omega
  rw [cat_opt, cat_isDotDigits_cons, isUnit_digit c w h]
  simp [this]

theorem munch_item : Munch itemRe isDurItem (Sc.plusThen digit scTail) := munch_itemTail.plus_seq digit tail_digit

theorem scItem_eq (l : Bytes) :
    Sc.plusThen digit scTail l = if durItemLen l > 0 then some (durItemLen l) else none := by
  rw [durItemLen_eq]
  unfold Sc.plusThen Sc.after
  by_cases hn : spanLen digit l = 0
  · rw [if_neg (by omega), if_pos hn, if_neg (by omega)]
  · rw [if_pos (by omega), if_neg hn]
    generalize spanLen digit l = n at hn
    rw [← List.drop_drop]
    generalize l.drop n = t
    unfold scTail
    match t with
    | [] => simp [Sc.byteThen, scUnit, frLen, unitLen]
    | c :: r =>
      by_cases hc : c = 46
      · subst hc
        have hu : scUnit (46 :: r) = none := by
          have : unitLen (46 :: r) = 0 := rfl
          simp [scUnit, this]
        rw [hu, Option.or_none]
        show ((if spanLen digit r > 0 then (scUnit (r.drop (spanLen digit r))).map (spanLen digit r + ·) else none).map
          (1 + ·)).map (n + ·) = _
        simp only [frLen]
        by_cases hm : spanLen digit r > 0
        · rw [if_pos hm, if_pos hm, show (46 :: r).drop (1 + spanLen digit r) = r.drop (spanLen digit r) by
            rw [Nat.add_comm]; rfl]
          unfold scUnit
          by_cases hu : unitLen (r.drop (spanLen digit r)) > 0
          · rw [if_pos hu, if_pos hu, if_pos (by omega)]; simp [Nat.add_assoc]
          · rw [if_neg hu, if_neg hu, if_neg (by omega)]; rfl
        · have : unitLen (46 :: r) = 0 := rfl
          rw [if_neg hm, if_neg hm, List.drop_zero, this]; rfl
      · have hb : Sc.byteThen (· == 46) (Sc.plusThen digit scUnit) (c :: r) = none := by simp [Sc.byteThen, hc]
        rw [hb, Option.none_or, frLen_cons_ne c r hc, List.drop_zero]
        unfold scUnit
        by_cases hu : unitLen (c :: r) > 0
        · rw [if_pos hu, if_pos hu, if_pos (by omega)]; simp
        · rw [if_neg hu, if_neg hu, if_neg (by omega)]; rfl

theorem longestPrefix_isDurItem (l : Bytes) :
    longestPrefix isDurItem l = if durItemLen l > 0 then some (durItemLen l) else none := by
  rw [munch_item.longest, scItem_eq]

theorem durItemLen_sound (l : Bytes) (h : durItemLen l > 0) : isDurItem (l.take (durItemLen l)) = true :=
  longestPrefix_mem ((longestPrefix_isDurItem l).trans (if_pos h))

theorem durItemLen_le (l : Bytes) : durItemLen l ≤ l.length := by
  by_cases h : durItemLen l > 0
  · exact longestPrefix_le ((longestPrefix_isDurItem l).trans (if_pos h))
  · omega

theorem durItems_le (fuel : Nat) (l : Bytes) : durItems fuel l ≤ l.length := by
  fun_induction durItems fuel l with
  | case1 l => exact Nat.zero_le _
  | case2 fuel l k hk => exact Nat.zero_le _
  | case3 fuel l k hk ih =>
    have h2 := durItemLen_le l
    rw [List.length_drop] at ih
    omega

theorem frLen_build (fr u t : Bytes) (hfr : fr = [] ∨ isDotDigits fr = true) (hu : isUnit u = true) :
    frLen (fr ++ (u ++ t)) = fr.length := by
  obtain ⟨c, tu, rfl, hcd, hc46⟩ := isUnit_head u hu
  rcases hfr with rfl | hfr
  · exact frLen_cons_ne c _ hc46
  · rw [isDotDigits_iff] at hfr
    obtain ⟨fd, rfl, hfd⟩ := hfr
    rw [plus1_iff] at hfd
    have hs : spanLen digit (fd ++ (c :: tu ++ t)) = fd.length :=
      spanLen_append_cons digit fd c (tu ++ t) hfd.2 hcd
    have hpos : fd.length > 0 := by
      cases fd with
      | nil => exact absurd rfl hfd.1
      | cons _ _ => simp
    show (if spanLen digit (fd ++ (c :: tu ++ t)) > 0 then 1 + spanLen digit (fd ++ (c :: tu ++ t)) else 0) = _
    rw [hs, if_pos hpos]
    simp [Nat.add_comm]

theorem spanLen_build (ds fr u t : Bytes) (hds : plus1 digit ds = true) (hfr : fr = [] ∨ isDotDigits fr = true)
    (hu : isUnit u = true) : spanLen digit (ds ++ (fr ++ (u ++ t))) = ds.length := by
  obtain ⟨c, tu, rfl, hcd, hc46⟩ := isUnit_head u hu
  rw [plus1_iff] at hds
  rcases hfr with rfl | hfr
  · exact spanLen_append_cons digit ds c (tu ++ t) hds.2 hcd
  · rw [isDotDigits_iff] at hfr
    obtain ⟨fd, rfl, hfd⟩ := hfr
    exact spanLen_append_cons digit ds 46 _ hds.2 (by decide)

theorem durItemLen_build (ds fr u t : Bytes) (hds : plus1 digit ds = true) (hfr : fr = [] ∨ isDotDigits fr = true)
    (hu : isUnit u = true) :
    durItemLen (ds ++ (fr ++ (u ++ t))) = ds.length + fr.length + unitLen (u ++ t) := by
  rw [durItemLen_eq, spanLen_build ds fr u t hds hfr hu, List.drop_left, frLen_build fr u t hfr hu,
    ← List.drop_drop, List.drop_left, List.drop_left]
  have h1 : ds.length ≠ 0 := by
    rw [plus1_iff] at hds
    cases ds with
    | nil => exact absurd rfl hds.1
    | cons _ _ => simp
  have h2 : unitLen (u ++ t) > 0 := by
    have := isUnit_length u hu
    rcases unitLen_of_isUnit u t hu with h | ⟨_, h, _⟩ <;> omega
  rw [if_neg h1, if_pos h2]

/-- every item that is a prefix of the input is the one `durItemLen` reports, except `…m` in front of `s` -/
theorem durItemLen_of_isDurItem (a t : Bytes) (h : isDurItem a = true) :
    durItemLen (a ++ t) = a.length ∨ (durItemLen (a ++ t) = a.length + 1 ∧ ∃ t', t = 115 :: t') := by
  unfold isDurItem at h
  rw [cat_iff] at h
  obtain ⟨ds, rest, rfl, hds, hrest⟩ := h
  rw [cat_iff] at hrest
  obtain ⟨fr, u, rfl, hfr, hu⟩ := hrest
  rw [opt_iff] at hfr
  rw [List.append_assoc, List.append_assoc, durItemLen_build ds fr u t hds hfr hu]
  simp only [List.length_append]
  rcases unitLen_of_isUnit u t hu with h | ⟨_, h, ht⟩
  · left; omega
  · right
    have := isUnit_length u hu
    subst_vars
    exact ⟨by simp at h ⊢; omega, ht⟩

theorem isDurItem_head (a : Bytes) (h : isDurItem a = true) : ∃ d a', a = d :: a' ∧ digit d = true := by
  unfold isDurItem at h
  cases a with
  | nil => rw [cat_plus1_nil] at h; cases h
  | cons d a' =>
    rw [cat_plus1_cons, Bool.and_eq_true] at h
    exact ⟨d, a', rfl, h.1⟩

theorem isDurItem_nil : isDurItem [] = false := cat_plus1_nil _ _

theorem isDurBody_iff (w : Bytes) : isDurBody w = true ↔ ∃ n, plus isDurItem n w = true :=
  ⟨fun h => ⟨_, h⟩, fun ⟨n, h⟩ => plus_fuel isDurItem isDurItem_nil n w h⟩

theorem plus_isDurItem_head (n : Nat) (w : Bytes) (h : plus isDurItem n w = true) :
    ∃ d w', w = d :: w' ∧ digit d = true := by
  cases n with
  | zero => cases h
  | succ n =>
    rw [plus_succ_iff] at h
    rcases h with h | ⟨a, c, rfl, _, h1, _⟩
    · exact isDurItem_head w h
    · obtain ⟨d, a', rfl, hd⟩ := isDurItem_head a h1
      exact ⟨d, a' ++ c, rfl, hd⟩

theorem durItems_succ (fuel : Nat) (l : Bytes) :
    durItems (fuel + 1) l = if durItemLen l = 0 then 0 else durItemLen l + durItems fuel (l.drop (durItemLen l)) := rfl

/-- every item consumes at least one byte, so the fuel `l.length` of `durationMatch` is never the reason to stop -/
theorem durItems_fuel : ∀ (f1 f2 : Nat) (l : Bytes), l.length ≤ f1 → l.length ≤ f2 → durItems f1 l = durItems f2 l := by
  intro f1
  induction f1 with
  | zero =>
    intro f2 l h1 _
    have : l = [] := by cases l with | nil => rfl | cons _ _ => simp at h1
    subst this
    cases f2 <;> rfl
  | succ f1 ih =>
    intro f2 l h1 h2
    cases f2 with
    | zero =>
      have : l = [] := by cases l with | nil => rfl | cons _ _ => simp at h2
      subst this; rfl
    | succ f2 =>
      rw [durItems_succ, durItems_succ]
      by_cases hk : durItemLen l = 0
      · rw [if_pos hk, if_pos hk]
      · rw [if_neg hk, if_neg hk, ih f2 _ (by rw [List.length_drop]; omega) (by rw [List.length_drop]; omega)]

theorem durItems_sound (fuel : Nat) (l : Bytes) (h : durItems fuel l > 0) :
    ∃ n, plus isDurItem n (l.take (durItems fuel l)) = true := by
  fun_induction durItems fuel l with
  | case1 l => exact absurd h (Nat.lt_irrefl 0)
  | case2 fuel l k hk => exact absurd h (Nat.lt_irrefl 0)
  | case3 fuel l k hk ih =>
    have h1 := durItemLen_sound l (Nat.pos_of_ne_zero hk)
    by_cases hr : durItems fuel (l.drop k) > 0
    · obtain ⟨n, hn⟩ := ih hr
      refine ⟨n + 1, ?_⟩
      rw [List.take_add, plus_succ_iff]
      refine Or.inr ⟨_, _, rfl, ?_, h1, hn⟩
      intro h0; rw [h0, isDurItem_nil] at h1; cases h1
    · have : durItems fuel (l.drop k) = 0 := by omega
      rw [this, Nat.add_zero]
      exact ⟨1, (plus_succ_iff _ _ _).2 (Or.inl h1)⟩

theorem durItems_max : ∀ (n : Nat) (w t : Bytes) (fuel : Nat), (w ++ t).length ≤ fuel →
    plus isDurItem n w = true → w.length ≤ durItems fuel (w ++ t) := by
  intro n
  induction n with
  | zero => intro w t fuel _ h; cases h
  | succ n ih =>
    intro w t fuel hf h
    rw [plus_succ_iff] at h
    rcases h with h | ⟨a, c, rfl, ha, h1, h2⟩
    · obtain ⟨d, w', rfl, _⟩ := isDurItem_head w h
      cases fuel with
      | zero => simp at hf
      | succ fuel =>
        rw [durItems_succ]
        rcases durItemLen_of_isDurItem _ t h with hk | ⟨hk, _⟩
        · rw [if_neg (by rw [hk]; simp)]; omega
        · rw [if_neg (by rw [hk]; simp)]; omega
    · obtain ⟨d, a', rfl, _⟩ := isDurItem_head a h1
      obtain ⟨d2, c', rfl, hd2⟩ := plus_isDurItem_head n c h2
      cases fuel with
      | zero => simp at hf
      | succ fuel =>
        rw [durItems_succ, List.append_assoc]
        rcases durItemLen_of_isDurItem _ (d2 :: c' ++ t) h1 with hk | ⟨_, t', ht'⟩
        · rw [if_neg (by rw [hk]; simp), hk, List.drop_left]
          have := ih (d2 :: c') t fuel (by simp at hf ⊢; omega) h2
          simp only [List.length_append]
          omega
        · simp only [List.cons_append, List.cons.injEq] at ht'
          rw [ht'.1] at hd2
          exact absurd hd2 (by decide)

/-- `(?:item)+`: item after item, each one greedy -/
theorem longestPrefix_isDurBody (b : Bytes) (fuel : Nat) (hf : b.length ≤ fuel) :
    longestPrefix isDurBody b = if durItems fuel b > 0 then some (durItems fuel b) else none := by
  have key : ∀ j, j ≤ b.length → isDurBody (b.take j) = true → 1 ≤ j ∧ j ≤ durItems fuel b := by
    intro j hj h
    rw [isDurBody_iff] at h
    obtain ⟨n, hn⟩ := h
    have h1 := durItems_max n (b.take j) (b.drop j) fuel (by rw [List.take_append_drop]; exact hf) hn
    rw [List.take_append_drop, List.length_take] at h1
    obtain ⟨d, w', hw, _⟩ := plus_isDurItem_head n _ hn
    have h2 : (b.take j).length = w'.length + 1 := by rw [hw]; rfl
    rw [List.length_take] at h2
    omega
  exact longestPrefix_of_bound (durItems_le fuel b) (fun hk => (isDurBody_iff _).2 (durItems_sound fuel b hk)) key

theorem isDurBody_nil : isDurBody [] = false := rfl
theorem isDurBody_sign (c : Nat) (w : Bytes) (h : sign c = true) : isDurBody (c :: w) = false := by
  cases hb : isDurBody (c :: w) with
  | false => rfl
  | true =>
    obtain ⟨d, w', hw, hd⟩ := plus_isDurItem_head _ _ hb
    simp only [List.cons.injEq] at hw
    rw [← hw.1] at hd
    rw [sign_iff] at h
    rcases h with rfl | rfl <;> cases hd

/-! the regex side of the iteration: every iteration of `(?:item)+` takes the item `durItemLen` reports -/

theorem durationRe_eq : durationRe = .seq (Re.byte sign).opt itemRe.plus := by
  simp only [durationRe, durationSx, Sx.re, cSign_has, cDigit_has, unitSx_re, itemRe, itemTail, fracOpt]
  rfl

theorem head?_item (f : Nat) (l : Bytes) (h : l.length ≤ f) :
    (itemRe.run f l).head? = if durItemLen l > 0 then some (durItemLen l) else none := by
  rw [munch_item.first f l h, scItem_eq]

theorem find?_pos_eq_head? (xs : List Nat) (h : ∀ k, xs.head? = some k → 0 < k) :
    xs.find? (0 < ·) = xs.head? := by
  cases xs with
  | nil => rfl
  | cons x xs => have := h x rfl; simp [this]

theorem head?_starRun_item (F : Nat) : ∀ (f : Nat) (l : Bytes), l.length ≤ f → f ≤ F →
    (starRun (itemRe.run F) f l).head? = some (durItems f l) := by
  intro f
  induction f with
  | zero => intro l _ _; rfl
  | succ f ih =>
    intro l hl hF
    have hi := head?_item F l (by omega)
    rw [head?_starRun_succ, find?_pos_eq_head? _ (fun k hk => by
      rw [hi] at hk; split at hk <;> cases hk; assumption), hi]
    unfold durItems
    dsimp only
    by_cases hk : durItemLen l > 0
    · rw [if_pos hk, if_neg (by omega)]
      dsimp only
      rw [ih (l.drop (durItemLen l)) (by simp; omega) (by omega)]; rfl
    · rw [if_neg hk, if_pos (by omega)]

theorem durItems_unfold (F : Nat) (l : Bytes) (h : l.length ≤ F) :
    durItems F l = if durItemLen l = 0 then 0 else durItemLen l + durItems F (l.drop (durItemLen l)) := by
  cases F with
  | zero =>
    have : l = [] := by cases l with | nil => rfl | cons => simp at h
    subst this; rfl
  | succ F =>
    rw [durItems]
    by_cases hk : durItemLen l = 0
    · rw [if_pos hk, if_pos hk]
    · rw [if_neg hk, if_neg hk, durItems_fuel F (F + 1) (l.drop (durItemLen l)) (by simp; omega) (by simp; omega)]

theorem findSome?_all_some (g : Nat → Option Nat) (xs : List Nat) (h : ∀ i, (g i).isSome) :
    xs.findSome? g = xs.head?.bind g := by
  cases xs with
  | nil => rfl
  | cons x xs => exact List.findSome?_cons_of_isSome (h x)

theorem head?_items (F : Nat) (l : Bytes) (h : l.length ≤ F) :
    (itemRe.plus.run F l).head? = if durItems F l > 0 then some (durItems F l) else none := by
  unfold Re.plus
  rw [head?_run_seq, findSome?_all_some _ _ (fun i => by
      rw [run_star, head?_starRun_item F F _ (by simp; omega) (Nat.le_refl _)]; rfl),
    head?_item F l h, durItems_unfold F l h]
  by_cases hk : durItemLen l > 0
  · have e1 : (if durItemLen l = 0 then 0 else durItemLen l + durItems F (l.drop (durItemLen l))) =
        durItemLen l + durItems F (l.drop (durItemLen l)) := if_neg (by omega)
    rw [e1, if_pos hk, if_pos (by omega), Option.bind_some, run_star,
      head?_starRun_item F F _ (by simp; omega) (Nat.le_refl _)]; rfl
  · have e1 : (if durItemLen l = 0 then 0 else durItemLen l + durItems F (l.drop (durItemLen l))) = 0 :=
      if_pos (by omega)
    rw [e1, if_neg hk, if_neg (by omega)]; rfl

def scItems : Scanner := fun l => if durItems l.length l > 0 then some (durItems l.length l) else none

theorem munch_items : Munch itemRe.plus isDurBody scItems where
  first f l hf := by rw [head?_items f l hf, durItems_fuel f l.length l hf (Nat.le_refl _)]; rfl
  longest l := longestPrefix_isDurBody l l.length (Nat.le_refl _)

theorem munch_duration : Munch durationRe isDuration (Sc.after signLen scItems) :=
  durationRe_eq ▸ munch_items.optSign isDurBody_nil isDurBody_sign

/-- the model's duration matcher is the composed scanner (its fuel, the length of the whole input, is enough) -/
theorem durationMatch_eq (l : Bytes) : durationMatch l = Sc.after signLen scItems l := by
  unfold durationMatch Sc.after scItems
  dsimp only
  rw [durItems_fuel l.length (l.drop (signLen l)).length _ (by rw [List.length_drop]; omega) (Nat.le_refl _)]
  split <;> rfl

theorem durationMatch_eq_longest (l : Bytes) : durationMatch l = longestPrefix isDuration l :=
  (durationMatch_eq l).trans (munch_duration.longest l).symm

end

theorem durationMatch_sound (l : Bytes) (k : Nat) (h : durationMatch l = some k) : isDuration (l.take k) = true :=
  longestPrefix_mem (durationMatch_eq_longest l ▸ h)
theorem durationMatch_maximal (l : Bytes) (k : Nat) (h : durationMatch l = some k) :
    ∀ j, k < j → j ≤ l.length → isDuration (l.take j) = false :=
  longestPrefix_max (durationMatch_eq_longest l ▸ h)
theorem durationMatch_none (l : Bytes) (h : durationMatch l = none) :
    ∀ j, j ≤ l.length → isDuration (l.take j) = false :=
  longestPrefix_none.1 (durationMatch_eq_longest l ▸ h)

-- `1ms`: item language has the two prefixes `1m` and `1ms`; `ms` first is also the longest
example : longestPrefix isDuration [49, 109, 115] = some 3 ∧ durationMatch [49, 109, 115] = some 3 := by decide +kernel
example : isDurItem [49, 109] = true ∧ isDurItem [49, 109, 115] = true := by decide +kernel
-- `-1.5h3m`, `1m2`, `1.s`, `5`
example : longestPrefix isDuration [45, 49, 46, 53, 104, 51, 109] = some 7 := by decide +kernel
example : durationMatch [45, 49, 46, 53, 104, 51, 109] = some 7 := by decide +kernel
example : longestPrefix isDuration [49, 109, 50] = some 2 ∧ durationMatch [49, 109, 50] = some 2 := by decide +kernel
example : longestPrefix isDuration [49, 46, 115] = none ∧ durationMatch [49, 46, 115] = none := by decide +kernel
example : longestPrefix isDuration [53] = none ∧ durationMatch [53] = none := by decide +kernel
-- `2µs`
example : longestPrefix isDuration [50, 0xC2, 0xB5, 115] = some 4 ∧ durationMatch [50, 0xC2, 0xB5, 115] = some 4 := by decide +kernel
example : unitLen [109, 115, 49] = 2 ∧ longestPrefix isUnit [109, 115, 49] = some 2 := by decide +kernel

end PV
