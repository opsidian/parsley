/-
  The slice heap of Model/Data.lean: access lemmas for arrays, well-formed slices (`SWF`), frames (`Frame base`: nothing
  below `base` is written), `make` and `append`; then the IntSet operations on that heap (`insertValue`, `newIntSet`,
  `insert`, `union`) against the list specification of Spec/SetSpec.lean (`sInsert`, `sMerge`).  An operation builds its
  result in a slice nobody else can reach yet (`Built`, one rule per primitive); the loops are core's `List.foldl_rel`,
  and Union's loop is first read as "append the merge" (`unionLoop_eq`).
-/
import ParsleyVerif.Model.Data
import ParsleyVerif.Spec.SetSpec
import ParsleyVerif.Proofs.Search
namespace PV.Data

theorem cells_modify_same (h : Heap) (a : Nat) (f : List Int → List Int) (ha : a < h.length) :
    cells (h.modify a f) a = f (cells h a) := by
  simp [cells, List.getD_eq_getElem?_getD, ha]

theorem cells_modify_ne (h : Heap) (a b : Nat) (f : List Int → List Int) (hne : a ≠ b) :
    cells (h.modify a f) b = cells h b := by
  simp [cells, List.getD_eq_getElem?_getD, hne]

theorem cells_append_lt (h : Heap) (c : List Int) (a : Nat) (ha : a < h.length) :
    cells (h ++ [c]) a = cells h a := by
  simp [cells, List.getD_eq_getElem?_getD, List.getElem?_append_left ha]

theorem cells_append_eq (h : Heap) (c : List Int) : cells (h ++ [c]) h.length = c := by
  simp [cells, List.getD_eq_getElem?_getD]

theorem drop_eq_getD_cons {α : Type} (l : List α) (n : Nat) (d : α) (hn : n < l.length) :
    l.drop n = l.getD n d :: l.drop (n + 1) := by
  rw [List.getD_eq_getElem?_getD, List.getElem?_eq_getElem hn]; exact List.drop_eq_getElem_cons hn

theorem modify_eq_setCells (h : Heap) (a : Nat) (f : List Int → List Int) :
    h.modify a f = setCells h a (f (cells h a)) := by
  apply List.ext_getElem?
  intro i
  simp only [setCells, List.getElem?_modify, cells, List.getD_eq_getElem?_getD]
  by_cases ha : a = i
  · subst ha; cases h[a]? <;> simp
  · simp [ha]

/-- slice well-formedness: points into the heap, and its capacity is the array's size -/
def SWF (h : Heap) (s : Slice) : Prop :=
  s.arr < h.length ∧ s.len ≤ s.cap ∧ (cells h s.arr).length = s.cap

/-- everything below `base` is untouched -/
def Frame (base : Nat) (h h' : Heap) : Prop :=
  h.length ≤ h'.length ∧ ∀ a, a < base → cells h' a = cells h a

theorem SWF.view_length {h : Heap} {s : Slice} (w : SWF h s) : (view h s).length = s.len := by
  have := w.2.1; have := w.2.2; simp [view]; omega

theorem writeCell_eq (h : Heap) (a i : Nat) (v : Int) : writeCell h a i v = setCells h a ((cells h a).set i v) :=
  modify_eq_setCells _ _ _

theorem cells_setCells (h : Heap) (a : Nat) (c : List Int) (ha : a < h.length) : cells (setCells h a c) a = c :=
  cells_modify_same _ _ _ ha

theorem SWF.setCells {h : Heap} {s : Slice} (w : SWF h s) (c : List Int) (hc : c.length = s.cap) :
    SWF (setCells h s.arr c) s :=
  ⟨by simpa [Data.setCells] using w.1, w.2.1, by rw [cells_setCells _ _ _ w.1]; exact hc⟩

theorem Frame.refl (base : Nat) (h : Heap) : Frame base h h := ⟨Nat.le_refl _, fun _ _ => rfl⟩

theorem Frame.trans {base : Nat} {h1 h2 h3 : Heap} (a : Frame base h1 h2) (b : Frame base h2 h3) :
    Frame base h1 h3 :=
  ⟨Nat.le_trans a.1 b.1, fun x hx => by rw [b.2 x hx, a.2 x hx]⟩

theorem Frame.setCells (base : Nat) (h : Heap) (a : Nat) (c : List Int) (ha : base ≤ a) : Frame base h (setCells h a c) :=
  ⟨by simp [Data.setCells], fun b hb => cells_modify_ne _ _ _ _ (by omega)⟩

theorem Frame.view_eq {base : Nat} {h h' : Heap} (f : Frame base h h') (s : Slice) (hs : s.arr < base) :
    PV.Data.view h' s = PV.Data.view h s := by
  simp [PV.Data.view, f.2 s.arr hs]

theorem Frame.mono {b b' : Nat} {h h' : Heap} (f : Frame b h h') (hb : b' ≤ b) : Frame b' h h' :=
  ⟨f.1, fun a ha => f.2 a (by omega)⟩

theorem Frame.swf {base : Nat} {h h' : Heap} (f : Frame base h h') {s : Slice} (w : SWF h s)
    (hs : s.arr < base) : SWF h' s := by
  refine ⟨by have := f.1; have := w.1; omega, w.2.1, ?_⟩
  rw [f.2 s.arr hs]; exact w.2.2

theorem make_spec (h : Heap) (len cap : Nat) (hl : len ≤ cap) :
    SWF (make h len cap).1 (make h len cap).2 ∧ Frame h.length h (make h len cap).1 ∧
    (make h len cap).2.arr = h.length ∧ (make h len cap).2.len = len ∧
    cells (make h len cap).1 h.length = List.replicate cap 0 :=
  have hc : cells (h ++ [List.replicate cap 0]) h.length = List.replicate cap 0 := cells_append_eq _ _
  ⟨⟨by simp [make], hl, by show (cells (h ++ [_]) h.length).length = cap; rw [hc, List.length_replicate]⟩,
    ⟨by simp [make], fun a ha => cells_append_lt h _ a ha⟩, rfl, rfl, hc⟩

theorem take_set_succ (l : List Int) (n : Nat) (v : Int) (hn : n < l.length) :
    (l.set n v).take (n + 1) = l.take n ++ [v] := by
  rw [List.take_succ_eq_append_getElem (by simpa using hn), List.getElem_set_self, List.take_set_of_le (Nat.le_refl n)]

theorem append_spec (grow : Nat → Nat) (h : Heap) (s : Slice) (v : Int) (w : SWF h s) (base : Nat)
    (hb : base ≤ s.arr) :
    SWF (append grow h s v).1 (append grow h s v).2 ∧
    view (append grow h s v).1 (append grow h s v).2 = view h s ++ [v] ∧
    Frame base h (append grow h s v).1 ∧ base ≤ (append grow h s v).2.arr ∧
    (append grow h s v).2.len = s.len + 1 := by
  have hv := w.view_length
  obtain ⟨w1, w2, w3⟩ := w
  unfold append
  split
  · -- room left: the cell behind the slice is written
    rename_i hlt
    have hc : cells (writeCell h s.arr s.len v) s.arr = (cells h s.arr).set s.len v := cells_modify_same _ _ _ w1
    refine ⟨⟨by simpa [writeCell] using w1, hlt, by rw [hc, List.length_set]; exact w3⟩, ?_,
      ⟨by simp [writeCell], fun a ha => cells_modify_ne _ _ _ _ (by omega)⟩, hb, rfl⟩
    show List.take (s.len + 1) (cells (writeCell h s.arr s.len v) s.arr) = _
    rw [hc, take_set_succ _ _ _ (by omega)]; rfl
  · -- full: a fresh array holding the elements, the new one, and padding up to the new capacity
    refine ⟨⟨by simp, Nat.le_max_right _ _, ?_⟩, ?_, ⟨by simp, fun a ha => cells_append_lt _ _ _ (by omega)⟩,
      by show base ≤ h.length; omega, rfl⟩
    · show (cells (h ++ [_]) h.length).length = _
      rw [cells_append_eq]
      simp only [List.length_append, hv, List.length_cons, List.length_nil, List.length_replicate]
      exact Nat.add_sub_cancel' (Nat.le_max_right _ _)
    · show List.take (s.len + 1) (cells (h ++ [_]) h.length) = _
      rw [cells_append_eq, List.take_append_of_le_length (by simp [hv]), List.take_of_length_le (by simp [hv])]

theorem pairwise_getD {α : Type} {r : α → α → Prop} {l : List α} (hs : l.Pairwise r) {a b : Nat} (hab : a < b)
    (hb : b < l.length) (d : α) : r (l.getD a d) (l.getD b d) := by
  have ha : a < l.length := by omega
  rw [List.getD_eq_getElem?_getD, List.getD_eq_getElem?_getD, List.getElem?_eq_getElem ha, List.getElem?_eq_getElem hb]
  exact (List.pairwise_iff_getElem.mp hs) a b ha hb hab

theorem goSearchInts_spec (l : List Int) (v : Int) (hs : l.Pairwise (· < ·)) :
    goSearchInts l v ≤ l.length ∧ (∀ k, k < goSearchInts l v → l.getD k 0 < v) ∧
    (goSearchInts l v < l.length → l.getD (goSearchInts l v) 0 ≥ v) := by
  have mono : ∀ a b, a ≤ b → b < l.length →
      (fun i => decide (l.getD i 0 ≥ v)) a = true → (fun i => decide (l.getD i 0 ≥ v)) b = true := by
    intro a b hab hb ha
    simp only [decide_eq_true_eq] at ha ⊢
    by_cases h : a = b
    · subst h; exact ha
    · have := pairwise_getD hs (show a < b by omega) hb 0
      omega
  obtain ⟨h1, h2, h3⟩ := goSearch_spec _ l.length mono
  refine ⟨h1, ?_, ?_⟩
  · intro k hk
    have := h2 k hk
    simp only [decide_eq_false_iff_not] at this
    omega
  · intro hlt
    have := h3 hlt
    simp only [decide_eq_true_eq] at this
    exact this

theorem sInsert_index (l : List Int) (v : Int) : ∀ (idx : Nat), idx ≤ l.length →
    (∀ k, k < idx → l.getD k 0 < v) → (idx < l.length → l.getD idx 0 ≥ v) →
    sInsert l v = if idx < l.length ∧ l.getD idx 0 = v then l else l.take idx ++ v :: l.drop idx := by
  induction l with
  | nil => intro idx h1 _ _; simp at h1; subst h1; simp [sInsert]
  | cons x xs ih =>
    intro idx h1 hlo hhi
    cases idx with
    | zero =>
      have hx : x ≥ v := by simpa using hhi (by simp)
      simp only [sInsert, List.getD_cons_zero, List.length_cons, Nat.zero_lt_succ, true_and, List.take_zero,
        List.drop_zero, List.nil_append]
      by_cases h : v < x
      · simp [h]; omega
      · have : v = x := by omega
        simp [this]
    | succ k =>
      have hx : x < v := by simpa using hlo 0 (by omega)
      have := ih k (by simpa using h1) (fun j hj => by simpa using hlo (j + 1) (by omega))
        (fun hk => by simpa using hhi (by simpa using hk))
      simp only [sInsert]
      rw [if_neg (by omega), if_neg (by omega), this]
      simp only [List.length_cons, Nat.add_lt_add_iff_right, List.getD_cons_succ, List.take_succ_cons,
        List.drop_succ_cons]
      split <;> simp

theorem copyShift_length (c : List Int) (i n : Nat) (hi : i ≤ n) (hn : n + 1 ≤ c.length) :
    (copyShift c i n).length = c.length := by
  rw [copyShift, List.length_append, List.length_append, List.length_take_of_le (by omega),
    List.length_take_of_le (by rw [List.length_drop]; omega), List.length_drop]
  omega

/-- shifting the tail `q ++ [z]` of `p ++ q ++ [z]` one cell to the right and storing `v` in the gap -/
theorem copyShift_set (p q rest : List Int) (z v : Int) :
    (copyShift (p ++ q ++ z :: rest) p.length (p ++ q).length).set p.length v = p ++ v :: q ++ rest := by
  have e : (p ++ q ++ z :: rest).drop ((p ++ q).length + 1) = rest := by
    rw [List.drop_length_add_append]; rfl
  rw [copyShift, e, List.append_assoc p, List.drop_left, List.length_append, Nat.add_sub_cancel_left, List.take_left,
    List.take_length_add_append]
  cases q <;> simp

theorem sMerge_nil_right (a : List Int) : sMerge a [] = a := by
  cases a <;> simp [sMerge]

theorem sMerge_nil_left (b : List Int) : sMerge [] b = b := by
  simp [sMerge]

theorem sMerge_cons (x y : Int) (xs ys : List Int) :
    sMerge (x :: xs) (y :: ys) =
      if x < y then x :: sMerge xs (y :: ys) else if y < x then y :: sMerge (x :: xs) ys else x :: sMerge xs ys := by
  rw [sMerge]

theorem mem_sMerge (a b : List Int) (z : Int) : z ∈ sMerge a b ↔ z ∈ a ∨ z ∈ b := by
  fun_induction sMerge a b with
  | case1 b => simp
  | case2 a _ => simp
  | case3 x xs y ys h ih => simp only [List.mem_cons, ih, or_assoc]
  | case4 x xs y ys h1 h2 ih => simp only [List.mem_cons, ih, or_assoc, or_left_comm]
  | case5 x xs y ys h1 h2 ih =>
    obtain rfl : x = y := by omega
    simp only [List.mem_cons, ih, or_assoc, or_left_comm, or_self_left]

theorem sMerge_sorted (a b : List Int) (ha : a.Pairwise (· < ·)) (hb : b.Pairwise (· < ·)) :
    (sMerge a b).Pairwise (· < ·) := by
  -- a head below every member of both lists is a head of their merge
  have cons : ∀ {x : Int} {a b : List Int}, (∀ z ∈ a, x < z) → (∀ z ∈ b, x < z) → (sMerge a b).Pairwise (· < ·) →
      (x :: sMerge a b).Pairwise (· < ·) :=
    fun h1 h2 hs => List.pairwise_cons.mpr ⟨fun z hz => ((mem_sMerge _ _ z).mp hz).elim (h1 z) (h2 z), hs⟩
  fun_induction sMerge a b with
  | case1 b => exact hb
  | case2 a _ => exact ha
  | case3 x xs y ys hlt ih =>
    have hx := List.pairwise_cons.mp ha
    have hy := List.pairwise_cons.mp hb
    refine cons hx.1 (fun z hz => ?_) (ih hx.2 hb)
    rcases List.mem_cons.mp hz with rfl | h
    · exact hlt
    · have := hy.1 z h; omega
  | case4 x xs y ys h1 hlt ih =>
    have hx := List.pairwise_cons.mp ha
    have hy := List.pairwise_cons.mp hb
    refine cons (fun z hz => ?_) hy.1 (ih ha hy.2)
    rcases List.mem_cons.mp hz with rfl | h
    · exact hlt
    · have := hx.1 z h; omega
  | case5 x xs y ys h1 h2 ih =>
    have hx := List.pairwise_cons.mp ha
    have hy := List.pairwise_cons.mp hb
    exact cons hx.1 (fun z hz => by have := hy.1 z hz; omega) (ih hx.2 hy.2)

theorem sInsert_eq_sMerge (l : List Int) (v : Int) : sInsert l v = sMerge l [v] := by
  induction l with
  | nil => rw [sMerge_nil_left]; rfl
  | cons x xs ih =>
    rw [sInsert, sMerge_cons, sMerge_nil_right, sMerge_nil_right, ih]
    rcases Int.lt_trichotomy v x with h | h | h
    · rw [if_pos h, if_neg (by omega), if_pos h]
    · rw [if_neg (by omega), if_pos h, if_neg (by omega), if_neg (by omega)]
    · rw [if_neg (by omega), if_neg (by omega), if_pos h]

theorem mem_sInsert (l : List Int) (v a : Int) : a ∈ sInsert l v ↔ a ∈ l ∨ a = v := by
  rw [sInsert_eq_sMerge, mem_sMerge, List.mem_singleton]

theorem sInsert_sorted (l : List Int) (v : Int) (hs : l.Pairwise (· < ·)) : (sInsert l v).Pairwise (· < ·) := by
  rw [sInsert_eq_sMerge]
  exact sMerge_sorted l [v] hs (List.pairwise_singleton _ _)

theorem insertValue_spec (grow : Nat → Nat) (h : Heap) (s : Slice) (v : Int) (w : SWF h s)
    (hs : (view h s).Pairwise (· < ·)) (base : Nat) (hb : base ≤ s.arr) :
    SWF (insertValue grow h s v).1 (insertValue grow h s v).2 ∧
    view (insertValue grow h s v).1 (insertValue grow h s v).2 = sInsert (view h s) v ∧
    Frame base h (insertValue grow h s v).1 ∧ base ≤ (insertValue grow h s v).2.arr := by
  have hlen := w.view_length
  obtain ⟨g1, g2, g3⟩ := goSearchInts_spec (view h s) v hs
  have hsi := sInsert_index (view h s) v _ g1 g2 g3
  rw [hlen] at g1 hsi
  unfold insertValue
  generalize goSearchInts (view h s) v = idx at g1 hsi ⊢
  simp only []
  split
  · exact ⟨w, by rw [hsi, if_pos ‹_›], Frame.refl _ _, hb⟩
  · rw [if_neg ‹_›] at hsi
    obtain ⟨a1, a2, a3, a4, a5⟩ := append_spec grow h s 0 w base hb
    generalize append grow h s 0 = ap at a1 a2 a3 a4 a5 ⊢
    obtain ⟨h1, s1⟩ := ap
    simp only at a1 a2 a3 a4 a5 ⊢
    -- the array of `s1`: the elements (split at the insertion point), the appended 0, spare capacity
    have hc1 : cells h1 s1.arr =
        (view h s).take idx ++ (view h s).drop idx ++ 0 :: (cells h1 s1.arr).drop (s.len + 1) := by
      rw [List.take_append_drop, List.append_cons, ← a2, view, a5, List.take_append_drop]
    have hcl := copyShift_length (cells h1 s1.arr) idx s.len g1 (by have := a1.2.1; have := a1.2.2; omega)
    have w2 := a1.setCells _ (hcl.trans a1.2.2)
    have key := copyShift_set ((view h s).take idx) ((view h s).drop idx) ((cells h1 s1.arr).drop (s.len + 1)) 0 v
    rw [← hc1, List.take_append_drop, List.length_take, hlen, Nat.min_eq_left g1] at key
    rw [writeCell_eq, cells_setCells _ _ _ a1.1]
    refine ⟨w2.setCells _ (by rw [List.length_set]; exact hcl.trans a1.2.2), ?_,
      a3.trans ((Frame.setCells base _ _ _ a4).trans (Frame.setCells base _ _ _ a4)), a4⟩
    rw [view, cells_setCells _ _ _ w2.1, key, hsi, a5,
      List.take_append_of_le_length (by simp; omega), List.take_of_length_le (by simp; omega)]

theorem view_nil_of_len0 (h : Heap) (s : Slice) (h0 : s.len = 0) : view h s = [] := by
  simp [view, h0]

/-- A set under construction: the slice `p.2` of heap `p.1` is well formed and reads `l`, it lives at or above `base`
    (so only the operation that is building it can reach it), and nothing below `base` has been written since `h0`.
    Every IntSet operation is `make` or a copy followed by writes through such a slice. -/
structure Built (base : Nat) (h0 : Heap) (p : Heap × Slice) (l : List Int) : Prop where
  swf : SWF p.1 p.2
  view : view p.1 p.2 = l
  frame : Frame base h0 p.1
  priv : base ≤ p.2.arr

theorem Built.make (h : Heap) (cap : Nat) : Built h.length h (make h 0 cap) [] :=
  have m := make_spec h 0 cap (Nat.zero_le _)
  ⟨m.1, view_nil_of_len0 _ _ m.2.2.2.1, m.2.1, Nat.le_of_eq m.2.2.1.symm⟩

theorem Built.append {base : Nat} {h0 : Heap} {p : Heap × Slice} {l : List Int} (b : Built base h0 p l)
    (grow : Nat → Nat) (v : Int) : Built base h0 (append grow p.1 p.2 v) (l ++ [v]) :=
  have a := append_spec grow p.1 p.2 v b.swf base b.priv
  ⟨a.1, b.view ▸ a.2.1, b.frame.trans a.2.2.1, a.2.2.2.1⟩

theorem Built.insertValue {base : Nat} {h0 : Heap} {p : Heap × Slice} {l : List Int} (b : Built base h0 p l)
    (grow : Nat → Nat) (v : Int) (hs : l.Pairwise (· < ·)) : Built base h0 (insertValue grow p.1 p.2 v) (sInsert l v) :=
  have a := insertValue_spec grow p.1 p.2 v b.swf (b.view ▸ hs) base b.priv
  ⟨a.1, b.view ▸ a.2.1, b.frame.trans a.2.2.1, a.2.2.2⟩

theorem Built.foldInsert {base : Nat} {h0 : Heap} {p : Heap × Slice} {l : List Int} (grow : Nat → Nat)
    (b : Built base h0 p l) (hs : l.Pairwise (· < ·)) (vs : List Int) :
    Built base h0 (vs.foldl (fun (p : Heap × Slice) v => Data.insertValue grow p.1 p.2 v) p) (vs.foldl sInsert l) ∧
    (vs.foldl sInsert l).Pairwise (· < ·) :=
  List.foldl_rel (r := fun p l => Built base h0 p l ∧ l.Pairwise (· < ·)) ⟨b, hs⟩
    (fun v _ _ _ b => ⟨b.1.insertValue grow v b.2, sInsert_sorted _ _ b.2⟩)

theorem newIntSet_spec (grow : Nat → Nat) (h : Heap) (vs : List Int) :
    SWF (newIntSet grow h vs).1 (newIntSet grow h vs).2 ∧
    view (newIntSet grow h vs).1 (newIntSet grow h vs).2 = sOfList vs ∧
    Frame h.length h (newIntSet grow h vs).1 :=
  have b := ((Built.make h vs.length).foldInsert grow List.Pairwise.nil vs).1
  ⟨b.swf, b.view, b.frame⟩

/-- the fresh copy `Insert` works on: the receiver is still there, the copy is well formed and shows the receiver's
    elements, and nothing that existed is written -/
theorem copyInto_fresh (h : Heap) (s : Slice) (w : SWF h s) :
    SWF (make h s.len (s.len + 1)).1 s ∧
    SWF (copyInto (make h s.len (s.len + 1)).1 (make h s.len (s.len + 1)).2 s) (make h s.len (s.len + 1)).2 ∧
    view (copyInto (make h s.len (s.len + 1)).1 (make h s.len (s.len + 1)).2 s) (make h s.len (s.len + 1)).2 = view h s ∧
    Frame h.length h (copyInto (make h s.len (s.len + 1)).1 (make h s.len (s.len + 1)).2 s) := by
  obtain ⟨m1, m2, m3, m4, m5⟩ := make_spec h s.len (s.len + 1) (Nat.le_succ _)
  generalize make h s.len (s.len + 1) = mk at m1 m2 m3 m4 m5
  obtain ⟨h1, s2⟩ := mk
  simp only at m1 m2 m3 m4 m5 ⊢
  have hvl := w.view_length
  have hl : (view h1 s ++ List.drop s.len (cells h1 s2.arr)).length = s2.cap := by
    rw [← m1.2.2, m3, m5, m2.view_eq s w.1]; simp [hvl]
  have w2 := m1.setCells _ hl
  refine ⟨m2.swf w w.1, w2, ?_, m2.trans (Frame.setCells _ _ _ _ (by omega))⟩
  rw [view, copyInto, cells_setCells _ _ _ m1.1, m4, m2.view_eq s w.1,
    List.take_append_of_le_length (by omega), List.take_of_length_le (by omega)]

theorem insert_spec (grow : Nat → Nat) (h : Heap) (s : Slice) (v : Int) (w : SWF h s)
    (hs : (view h s).Pairwise (· < ·)) :
    SWF (insert grow h s v).1 (insert grow h s v).2 ∧
    view (insert grow h s v).1 (insert grow h s v).2 = sInsert (view h s) v ∧
    Frame h.length h (insert grow h s v).1 := by
  unfold insert
  split
  · rename_i h0
    refine ⟨⟨by simp, Nat.le_refl _, ?_⟩, ?_, ⟨by simp, fun a ha => cells_append_lt _ _ _ ha⟩⟩
    · show (cells (h ++ [[v]]) h.length).length = 1
      rw [cells_append_eq]; rfl
    · show List.take 1 (cells (h ++ [[v]]) h.length) = _
      rw [cells_append_eq, view_nil_of_len0 _ _ h0]; rfl
  · obtain ⟨_, w2, hv2, hfr⟩ := copyInto_fresh h s w
    have b := (Built.mk (base := h.length) (p := (_, _)) w2 hv2 hfr (Nat.le_refl _)).insertValue grow v hs
    exact ⟨b.swf, b.view, b.frame⟩

/-- `for _, x := range xs { s = append(s, x) }` -/
def appendAll (grow : Nat → Nat) (p : Heap × Slice) (xs : List Int) : Heap × Slice :=
  xs.foldl (fun p x => append grow p.1 p.2 x) p

theorem Built.appendAll {base : Nat} {h0 : Heap} {p : Heap × Slice} {l : List Int} (b : Built base h0 p l)
    (grow : Nat → Nat) (xs : List Int) : Built base h0 (appendAll grow p xs) (l ++ xs) := by
  induction xs generalizing p l with
  | nil => simpa [Data.appendAll] using b
  | cons x xs ih => simpa [Data.appendAll] using ih (b.append grow x)

/-- The merge loop of Union appends the merge of what is left of its operands: control flow only, whatever the heap
    and the slice are. -/
theorem unionLoop_eq (grow : Nat → Nat) (a b : List Int) :
    ∀ (fuel n1 n2 : Nat) (h : Heap) (s3 : Slice), n1 ≤ a.length → n2 ≤ b.length → a.length + b.length < fuel + n1 + n2 →
      unionLoop grow a b fuel n1 n2 h s3 = appendAll grow (h, s3) (sMerge (a.drop n1) (b.drop n2)) := by
  intro fuel
  induction fuel with
  | zero => intro n1 n2 h s3 _ _ hf; omega
  | succ fuel ih =>
    intro n1 n2 h s3 hn1 hn2 hf
    -- a round appends the head `x` of the merge of what is left and goes on from `(m1, m2)`
    have step : ∀ (x : Int) (m1 m2 : Nat), m1 ≤ a.length ∧ m2 ≤ b.length ∧ n1 + n2 < m1 + m2 →
        sMerge (a.drop n1) (b.drop n2) = x :: sMerge (a.drop m1) (b.drop m2) →
        unionLoop grow a b fuel m1 m2 (append grow h s3 x).1 (append grow h s3 x).2 =
          appendAll grow (h, s3) (sMerge (a.drop n1) (b.drop n2)) := fun x m1 m2 ⟨hm1, hm2, hm⟩ hx => by
      rw [hx, ih m1 m2 _ _ hm1 hm2 (by omega)]; rfl
    unfold unionLoop
    split
    · split
      · have hn1 : n1 < a.length := by omega
        refine step _ _ _ (by omega) ?_
        rw [drop_eq_getD_cons a n1 0 hn1]
        rcases Nat.lt_or_ge n2 b.length with hn2 | hn2
        · rw [drop_eq_getD_cons b n2 0 hn2, sMerge_cons, if_pos (by omega)]
        · rw [List.drop_of_length_le hn2, sMerge_nil_right, sMerge_nil_right]
      · have hn2 : n2 < b.length := by omega
        split
        · refine step _ _ _ (by omega) ?_
          rw [drop_eq_getD_cons b n2 0 hn2]
          rcases Nat.lt_or_ge n1 a.length with hn1 | hn1
          · rw [drop_eq_getD_cons a n1 0 hn1, sMerge_cons, if_neg (by omega), if_pos (by omega)]
          · rw [List.drop_of_length_le hn1, sMerge_nil_left, sMerge_nil_left]
        · have hn1 : n1 < a.length := by omega
          refine step _ _ _ (by omega) ?_
          rw [drop_eq_getD_cons a n1 0 hn1, drop_eq_getD_cons b n2 0 hn2, sMerge_cons, if_neg (by omega), if_neg (by omega)]
    · rw [List.drop_of_length_le (by omega), sMerge_nil_left, List.drop_of_length_le (by omega)]; rfl

/-- Union: the result reads as the merge; it may alias an operand (when the other one is empty) but nothing is written -/
theorem union_spec (grow : Nat → Nat) (h : Heap) (s s2 : Slice) (w : SWF h s) (w2 : SWF h s2) :
    SWF (union grow h s s2).1 (union grow h s s2).2 ∧
    view (union grow h s s2).1 (union grow h s s2).2 = sUnion (view h s) (view h s2) ∧
    Frame h.length h (union grow h s s2).1 := by
  unfold sUnion
  by_cases e2 : s2.len = 0
  · rw [union, if_pos e2]
    exact ⟨w, by rw [view_nil_of_len0 _ _ e2, sMerge_nil_right], Frame.refl _ _⟩
  by_cases e1 : s.len = 0
  · rw [union, if_neg e2, if_pos e1]
    exact ⟨w2, by rw [view_nil_of_len0 _ _ e1, sMerge_nil_left], Frame.refl _ _⟩
  have e : union grow h s s2 = appendAll grow (make h 0 (s.len + s2.len)) (sMerge (view h s) (view h s2)) := by
    rw [union, if_neg e2, if_neg e1]
    exact unionLoop_eq grow (view h s) (view h s2) (s.len + s2.len + 1) 0 0 _ _ (Nat.zero_le _) (Nat.zero_le _)
      (by rw [w.view_length, w2.view_length]; omega)
  have b := (Built.make h (s.len + s2.len)).appendAll grow (sMerge (view h s) (view h s2))
  rw [e]
  exact ⟨b.swf, b.view, b.frame⟩

end PV.Data
