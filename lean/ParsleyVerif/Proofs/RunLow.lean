/-
  "Nothing further is lost" (property C06, lower bound):

  every terminal failure logged during a call, and the call position itself, is COVERED afterwards: it lies
  at or before the returned error, or at or before the context error, or at or before the end of one of
  the returned results, or it is covered in a fourth way that the two uses of this development choose
  differently (`CovSys.tail`): at or before a position at which a memoized parser was curtailed
  (Proofs/RunLowRun.lean), or at or before a position at which a memoized parser is still active
  (Proofs/ProdLow.lean).

  The places of the parser core that drop an error value — Any / Choice (`nf`, a not-found error at their own
  position), `pickErr` / `altErr` / `SetError` (keep the further one), Name / Single (drop the result when
  there is an error), the early exit of the Sequence loop once End was reached — all keep coverage.
  Excluded by the local predicate `LocLow`: `SuppressError` (drops the error: `c06_exact_needs_no_suppress`),
  Any / Choice / SeqTry without parsers (fail without any error), a terminal or a Sequence whose token is
  "EOF" (the Sequence loop's early exit tests the token of the last node).
  Positional facts are those of `posInv` (Proofs/RunPos.lean), taken as black boxes; inside the Sequence loop through its
  loop invariant `RunInv.SeqJ`.
  Only Memoize (hit, curtailment, return of the body) depends on the fourth way; `runStep_low` takes it as a hypothesis.

  The invariant is one judgment, `CovSys.Low st st' K`: from `st` to `st'` the state only grew and every terminal failure
  logged on the way lies in `K`, the set of positions the present configuration covers (`Cov · o.err o.res st'` after a
  call, `CovAlt pos · a s` between two alternatives, `Cov · ss.err ss.result st` inside the Sequence loop), with the
  rules `Low.refl` / `.imp` / `.trans`: the merge operators only move a configuration up.  Choice is Any on the
  alternatives it tried (`choiceLoop_any`); the Sequence loop is an instance of `seqParse_rel`.
-/
import ParsleyVerif.Proofs.RunErr
namespace PV
open PV.Text

def GeE (x : Nat) (oe : Option Err) : Prop := ∃ e, oe = some e ∧ x ≤ e.pos
def GeR (x : Nat) (r : Res) : Prop := ∃ n ∈ r.alts, x ≤ n.rpos

theorem GeE_le {x y : Nat} {oe : Option Err} (h : x ≤ y) : GeE y oe → GeE x oe :=
  fun ⟨e, he, hy⟩ => ⟨e, he, Nat.le_trans h hy⟩
theorem GeR_le {x y : Nat} {r : Res} (h : x ≤ y) : GeR y r → GeR x r :=
  fun ⟨n, hn, hy⟩ => ⟨n, hn, Nat.le_trans h hy⟩

theorem GeE_none (x : Nat) : ¬ GeE x none := fun ⟨_, h, _⟩ => by cases h
theorem GeR_nil (x : Nat) : ¬ GeR x .nil := fun ⟨_, h, _⟩ => by cases h
theorem GeR_of_isNil {x : Nat} {r : Res} (h : r.isNil = true) : ¬ GeR x r := by
  rw [(isNil_iff r).mp h]; exact GeR_nil x

theorem GeE_pickErr_left {x : Nat} {cur new : Option Err} (h : GeE x cur) : GeE x (pickErr cur new) := by
  obtain ⟨c, hc, hx⟩ := h
  subst hc
  cases new with
  | none => exact ⟨c, rfl, hx⟩
  | some e =>
    simp only [pickErr]
    split
    · exact ⟨e, rfl, by omega⟩
    · exact ⟨c, rfl, hx⟩

theorem GeE_pickErr_right {x : Nat} {cur new : Option Err} (h : GeE x new) : GeE x (pickErr cur new) := by
  obtain ⟨e, he, hx⟩ := h
  subst he
  cases cur with
  | none => exact ⟨e, rfl, hx⟩
  | some c =>
    simp only [pickErr]
    split
    · exact ⟨e, rfl, hx⟩
    · exact ⟨c, rfl, by omega⟩

theorem setError_pickErr (st : St) (e : Option Err) : (st.setError e).ctxErr = pickErr st.ctxErr e := by
  unfold St.setError pickErr
  cases e with
  | none => rfl
  | some e =>
    cases hc : st.ctxErr with
    | none => rfl
    | some c =>
      dsimp only
      split
      · rfl
      · exact hc

theorem GeE_setError_left {x : Nat} (st : St) (e : Option Err) (h : GeE x st.ctxErr) : GeE x (st.setError e).ctxErr :=
  setError_pickErr st e ▸ GeE_pickErr_left h

theorem GeE_setError_right {x : Nat} (st : St) (e : Option Err) (h : GeE x e) : GeE x (st.setError e).ctxErr :=
  setError_pickErr st e ▸ GeE_pickErr_right h

theorem GeR_appendNode_left {x : Nat} {a : Res} (b : Res) (h : GeR x a) : GeR x (appendNode a b) :=
  let ⟨n, hn, hx⟩ := h; ⟨n, mem_appendNode_left a b n hn, hx⟩
theorem GeR_appendNode_right {x : Nat} (a : Res) {b : Res} (h : GeR x b) : GeR x (appendNode a b) :=
  let ⟨n, hn, hx⟩ := h; ⟨n, mem_appendNode_right a b n hn, hx⟩

/-! ### nodes whose token is "EOF" end at the end of the file -/

mutual
def Node.EofOK (hi : Nat) : Node → Prop
  | .term t _ _ r => t = eofTok → hi ≤ r
  | .empty _ => True
  | .eof p => hi ≤ p
  | .nt t cs _ r _ => (t = eofTok → hi ≤ r) ∧ EofOKList hi cs
def EofOKList (hi : Nat) : List Node → Prop
  | [] => True
  | c :: cs => c.EofOK hi ∧ EofOKList hi cs
end

theorem Node.EofOK_rpos {hi : Nat} {n : Node} (h : n.EofOK hi) (ht : n.token = eofTok) : hi ≤ n.rpos := by
  cases n with
  | term t v p r => simp only [Node.EofOK] at h; exact h ht
  | empty p => simp [Node.token, eofTok] at ht
  | eof p => simpa [Node.EofOK, Node.rpos] using h
  | nt t cs p r i => simp only [Node.EofOK] at h; exact h.1 ht

theorem EofOKList_iff {hi : Nat} : ∀ {cs : List Node}, EofOKList hi cs ↔ ∀ c ∈ cs, c.EofOK hi
  | [] => by simp [EofOKList]
  | c :: cs => by simp only [EofOKList, List.forall_mem_cons, EofOKList_iff]

theorem handleResult_eofOK {hi : Nat} (sh : SeqShape) (p : Nat) (nodes : List Node) (ht : sh.token ≠ eofTok)
    (h : EofOKList hi nodes) : (handleResult sh p nodes).EofOK hi := by
  rcases handleResult_cases sh p nodes with ⟨n, rfl, e⟩ | e <;> rw [e]
  · exact h.1
  · unfold Node.EofOK; exact ⟨fun h' => absurd h' ht, h⟩

theorem Chain_getLast (hi : Nat) : ∀ (nodes : List Node) (p r : Nat) (l : Node), Chain hi nodes p r →
    nodes.getLast? = some l → l.rpos = r
  | [], _, _, _, _, hl => by cases hl
  | n :: rest, p, r, l, h, hl => by
    have := Chain_last hi rest n p r h
    rw [List.getLast?_cons] at hl
    simp only [Option.some.injEq] at hl
    rw [← hl]; exact this

/-- what the lower bound asks of each sub-parser: no SuppressError; Any / Choice / SeqTry have a parser; no
    terminal and no Sequence produces a node with token "EOF" that ends before the end of the file (for the
    built-in terminals over single bytes: their token is one byte, never "EOF") -/
def LocLow (cfg : Cfg) : G → Prop
  | .term t => ∀ pos n, t.parse cfg.params cfg.file pos = .node n → n.EofOK cfg.hi
  | .any gs => gs ≠ []
  | .choice gs => gs ≠ []
  | .seq k gs o => (k = .seqTry → gs ≠ []) ∧ o.token ≠ some eofTok
  | .many _ _ o => o.token ≠ some eofTok
  | .sepBy _ _ _ o => o.token ≠ some eofTok
  | .suppress _ => False
  | _ => True

/-- where the elements of a Sequence-family parser end the length check holds, except for a SeqTry without parsers -/
theorem lenCheck_end {g : G} {sh : SeqShape} (hs : g.shape = some sh) (d : Nat) (hl : sh.lookup d = none)
    (hpre : ∀ i, i < d → sh.lookup i ≠ none) : sh.lenCheck d = true ∨ ∃ o, g = .seq .seqTry [] o := by
  cases g <;> simp only [G.shape, Option.some.injEq, reduceCtorEq] at hs <;> subst hs <;> simp only at hl hpre ⊢
  case seq k gs o =>
    have h1 : gs.length ≤ d := List.getElem?_eq_none_iff.mp hl
    have hd : d = gs.length := by
      refine Nat.le_antisymm (Nat.le_of_not_lt fun hc => hpre gs.length hc ?_) h1
      exact List.getElem?_eq_none_iff.mpr (Nat.le_refl _)
    subst hd
    cases k
    · exact .inl (by simp)
    · cases gs with
      | nil => exact .inr ⟨o, rfl⟩
      | cons _ _ => exact .inl (by simp)
    · exact .inl (by simp)
  case many => cases hl
  case sepBy => split at hl <;> cases hl
theorem shape_low {cfg : Cfg} {g : G} {sh : SeqShape} (hs : g.shape = some sh) (hl : LocLow cfg g) :
    sh.token ≠ eofTok ∧
    ∀ d, sh.lookup d = none → (∀ i, i < d → sh.lookup i ≠ none) → sh.lenCheck d = true := by
  refine ⟨?_, fun d hd hpre => (lenCheck_end hs d hd hpre).resolve_right fun ⟨o, ho⟩ => ?_⟩
  · have htok : ∀ (o : Option Bytes) (dflt : Bytes), dflt ≠ eofTok → o ≠ some eofTok → o.getD dflt ≠ eofTok := by
      intro o dflt hd ho
      cases o with
      | none => exact hd
      | some t => exact fun h => ho (congrArg some h)
    cases g <;> simp only [G.shape, Option.some.injEq, reduceCtorEq] at hs <;> subst hs
    · exact htok _ _ (by decide) hl.2
    · exact htok _ _ (by decide) hl
    · exact htok _ _ (by decide) hl
  · subst ho; exact hl.1 rfl rfl

/-- facts about one outcome (returned or cached): with an error, every result ends at the call position
    (only Optional returns both, and then the result is its EMPTY node); a non-nil result has an
    alternative; "EOF" nodes end at the end of the file -/
structure OutOK (cfg : Cfg) (pos : Nat) (res : Res) (err : Option Err) : Prop where
  errRes : ∀ e, err = some e → ∀ n ∈ res.alts, n.rpos ≤ pos
  nonempty : res.isNil = false → res.alts ≠ []
  eof : ∀ n ∈ res.alts, n.EofOK cfg.hi

theorem OutOK_nil (cfg : Cfg) (pos : Nat) (err : Option Err) : OutOK cfg pos .nil err :=
  ⟨(by intro _ _ n hn; cases hn), (by intro hc; cases hc), (by intro n hn; cases hn)⟩

namespace Prod

/-- a result that is not nil has an alternative (`run` never builds the empty list of alternatives) -/
def NE (r : Res) : Prop := r.isNil = false → r.alts ≠ []

theorem NE_nil : NE .nil := by intro h; cases h
theorem NE_one (n : Node) : NE (.one n) := by intro _ h; cases h

theorem NE_appendNode {a b : Res} (ha : NE a) (hb : NE b) : NE (appendNode a b) := by
  intro hn hc
  rw [appendNode_isNil] at hn
  have hx : ∀ x, x ∉ (appendNode a b).alts := fun x hx => by rw [hc] at hx; cases hx
  cases hna : a.isNil with
  | false =>
    obtain ⟨x, h⟩ := List.exists_mem_of_ne_nil _ (ha hna)
    exact hx x (mem_appendNode_left a b x h)
  | true =>
    rw [hna] at hn
    obtain ⟨x, h⟩ := List.exists_mem_of_ne_nil _ (hb hn)
    exact hx x (mem_appendNode_right a b x h)

end Prod

theorem altErr_GeE_left {x pos : Nat} {a : AltSt} (e2 : Option Err) (h : GeE x a.err) : GeE x (altErr pos a e2).err := by
  obtain ⟨c, hc, hx⟩ := h
  cases e2 with
  | none => exact ⟨c, hc, hx⟩
  | some e2 =>
    rcases altErr_some_cases pos a e2 with ⟨h1, h2, _⟩ | ⟨h1, _⟩ | ⟨h1, _⟩
    · rw [h1]; exact ⟨e2, rfl, by have := h2 c hc; omega⟩
    · rw [h1]; exact ⟨c, hc, hx⟩
    · rw [h1]; exact ⟨c, hc, hx⟩

theorem altErr_nf_some {pos : Nat} {a : AltSt} (e2 : Option Err) (h : a.nf.isSome = true) :
    (altErr pos a e2).nf.isSome = true := by
  cases e2 with
  | none => exact h
  | some e2 =>
    rcases altErr_some_cases pos a e2 with ⟨h1, _⟩ | ⟨h1, _⟩ | ⟨h1, _⟩
    · rw [h1]; exact h
    · rw [h1]; rfl
    · rw [h1]; exact h

/-- a new error is kept as `err`, or as `nf` (then it is at the position of the Any / Choice), or there is
    already a further one -/
theorem altErr_cover {x pos : Nat} {a : AltSt} {e2 : Option Err} (h : GeE x e2) :
    GeE x (altErr pos a e2).err ∨ (x ≤ pos ∧ (altErr pos a e2).nf.isSome = true) := by
  obtain ⟨e, he, hx⟩ := h
  subst he
  rcases altErr_some_cases pos a e with ⟨h1, _⟩ | ⟨h1, _, h2, _⟩ | ⟨h1, c, hc, h2⟩
  · rw [h1]; exact .inl ⟨e, rfl, hx⟩
  · rw [h1]; exact .inr ⟨by omega, rfl⟩
  · rw [h1]; exact .inl ⟨c, hc, by omega⟩

def SsLow (cfg : Cfg) (ss : SeqSt) : Prop :=
  (∀ n ∈ ss.result.alts, n.EofOK cfg.hi) ∧ (ss.result.isNil = false → ss.result.alts ≠ [])

/-- the fourth way of being covered (`tail`), how the context state may evolve (`le`: the context error only moves
    further, what `tail` covered stays covered), what is known of the cache (`slow`), of the grammar (`loc`) and of the
    left-recursion context (`cx`: nothing for coverage by curtailments; for coverage by active parsers that the context
    counts exactly the frames at the position, `Prod.CtxExact`, which only the Memoize step uses) -/
structure CovSys (cfg : Cfg) where
  tail : Nat → St → Prop
  le : St → St → Prop
  slow : St → Prop
  loc : G → Prop
  cx : Ctx → Nat → List (Nat × Nat) → Prop
  tail_le : ∀ {x y : Nat} {st : St}, x ≤ y → tail y st → tail x st
  le_refl : ∀ st, le st st
  le_trans : ∀ {a b c : St}, le a b → le b c → le a c
  le_ctx : ∀ {st st' : St}, le st st' → ∀ x, GeE x st.ctxErr → GeE x st'.ctxErr
  le_tail : ∀ {st st' : St}, le st st' → ∀ x, tail x st → tail x st'
  le_setError : ∀ (st : St) (e : Option Err), le st (st.setError e)
  le_logEv : ∀ (st : St) (ev : Ev), le st (st.logEv cfg ev)
  le_regCall : ∀ st : St, le st st.regCall
  slow_of_eq : ∀ {st st' : St}, slow st → st'.cache = st.cache → le st st' → slow st'
  loc_low : ∀ g, loc g → LocLow cfg g
  cx_next : ∀ {ctx : Ctx} {pos : Nat} {act : List (Nat × Nat)}, cx ctx pos act → (∀ a ∈ act, a.2 ≤ pos) →
    ∀ q, pos ≤ q → cx (if q > pos then [] else ctx) q act

namespace CovSys
variable {cfg : Cfg} (S : CovSys cfg)

def Cov (x : Nat) (err : Option Err) (res : Res) (st : St) : Prop :=
  GeE x err ∨ GeR x res ∨ GeE x st.ctxErr ∨ S.tail x st

theorem Cov_le {x y : Nat} {err : Option Err} {res : Res} {st : St} (h : x ≤ y) :
    S.Cov y err res st → S.Cov x err res st := by
  rintro (h1 | h1 | h1 | h1)
  · exact .inl (GeE_le h h1)
  · exact .inr (.inl (GeR_le h h1))
  · exact .inr (.inr (.inl (GeE_le h h1)))
  · exact .inr (.inr (.inr (S.tail_le h h1)))

/-- the state part of coverage takes care of itself: only what the error and the results covered has to be placed again -/
theorem Cov.imp {x : Nat} {e e' : Option Err} {r r' : Res} {st st' : St} (hle : S.le st st')
    (he : GeE x e → S.Cov x e' r' st') (hr : GeR x r → S.Cov x e' r' st') : S.Cov x e r st → S.Cov x e' r' st'
  | .inl h => he h
  | .inr (.inl h) => hr h
  | .inr (.inr (.inl h)) => .inr (.inr (.inl (S.le_ctx hle x h)))
  | .inr (.inr (.inr h)) => .inr (.inr (.inr (S.le_tail hle x h)))

theorem Cov_mono {x : Nat} {err : Option Err} {res : Res} {st st' : St} (h : S.le st st') :
    S.Cov x err res st → S.Cov x err res st' :=
  Cov.imp S h .inl fun h => .inr (.inl h)

def NewCov (st st' : St) (err : Option Err) (res : Res) : Prop :=
  ∃ d, st'.log = d ++ st.log ∧ ∀ x k, Ev.termFail x k ∈ d → S.Cov x err res st' ∧ x ≤ cfg.hi

structure Post (pos : Nat) (st : St) (o : Out) (st' : St) : Prop where
  le : S.le st st'
  newTF : S.NewCov st st' o.err o.res
  prog : S.Cov pos o.err o.res st'
  slow : S.slow st'
  out : OutOK cfg pos o.res o.err

def RunOK (r : RunFn) : Prop :=
  ∀ g ctx pos st o st', g.Core (TermGood cfg) → g.All S.loc → Pre cfg ctx pos st → S.cx ctx pos st.active →
    S.slow st → r g ctx pos st = some (o, st') → S.Post pos st o st'

/-- the loop invariant of the positional invariant, and the system's view of the context -/
def SeqJX (P : RunInv cfg) (g : G) (sh : SeqShape) (pos0 : Nat) (fr : Frame) (ss : SeqSt) (st : St) : Prop :=
  P.SeqJ g sh pos0 fr ss st ∧ S.cx fr.ctx fr.pos st.active

/-- from `st` to `st'` the state only grew, the cache facts hold again, and every terminal failure logged on the way
    lies in `K` -/
structure Low (st st' : St) (K : Nat → Prop) : Prop where
  le : S.le st st'
  slow : S.slow st'
  new : ∃ d, st'.log = d ++ st.log ∧ ∀ x k, Ev.termFail x k ∈ d → K x ∧ x ≤ cfg.hi

variable {S}

theorem Low.refl {st : St} {K : Nat → Prop} (h : S.slow st) : S.Low st st K := ⟨S.le_refl _, h, [], rfl, nofun⟩

theorem Low.imp {st st' : St} {K K' : Nat → Prop} (h : S.Low st st' K) (hm : ∀ x, x ≤ cfg.hi → K x → K' x) :
    S.Low st st' K' :=
  let ⟨d, hd, hc⟩ := h.new
  ⟨h.le, h.slow, d, hd, fun x k hx => ⟨hm x (hc x k hx).2 (hc x k hx).1, (hc x k hx).2⟩⟩

/-- what the first stretch left in `K1` the second has to take over -/
theorem Low.trans {st st1 st2 : St} {K1 K2 : Nat → Prop} (h1 : S.Low st st1 K1) (h2 : S.Low st1 st2 K2)
    (hm : ∀ x, x ≤ cfg.hi → K1 x → K2 x) : S.Low st st2 K2 := by
  obtain ⟨d1, hd1, hc1⟩ := h1.new
  obtain ⟨d2, hd2, hc2⟩ := h2.new
  refine ⟨S.le_trans h1.le h2.le, h2.slow, d2 ++ d1, by rw [hd2, hd1, List.append_assoc], fun x k hx => ?_⟩
  exact (List.mem_append.mp hx).elim (hc2 x k) fun h => ⟨hm x (hc1 x k h).2 (hc1 x k h).1, (hc1 x k h).2⟩

theorem Low.call {st st' : St} {K : Nat → Prop} (h : S.Low st.regCall st' K) : S.Low st st' K :=
  ⟨S.le_trans (S.le_regCall st) h.le, h.slow, h.new⟩

theorem Low.setError {st st' : St} {K K' : Nat → Prop} (h : S.Low st st' K) (e : Option Err)
    (hm : ∀ x, x ≤ cfg.hi → K x → K' x) : S.Low st (st'.setError e) K' :=
  let hle := S.le_setError st' e
  let ⟨d, hd, hc⟩ := (h.imp hm).new
  ⟨S.le_trans h.le hle, S.slow_of_eq h.slow (setError_ctxErr st' e).2.1 hle, d,
    by rw [(setError_ctxErr st' e).2.2.2.1, hd], hc⟩

theorem Post.low {pos : Nat} {st st' : St} {o : Out} (h : S.Post pos st o st') :
    S.Low st st' (fun x => S.Cov x o.err o.res st') := ⟨h.le, h.slow, h.newTF⟩

theorem Low.post {pos : Nat} {st st' : St} {o : Out} (h : S.Low st st' (fun x => S.Cov x o.err o.res st'))
    (hp : S.Cov pos o.err o.res st') (ho : OutOK cfg pos o.res o.err) : S.Post pos st o st' :=
  ⟨h.le, h.new, hp, h.slow, ho⟩

variable (S)

section seq
variable (henv : ∀ g' ∈ cfg.env, g'.Core (TermGood cfg)) (g : G) (sh : SeqShape) (pos0 : Nat)

/-- what holds when `parse(depth, …)` is entered -/
def SJ (fr : Frame) (ss : SeqSt) (st : St) : Prop :=
  S.SeqJX (posInv cfg henv) g sh pos0 fr ss st ∧ S.slow st ∧ SsLow cfg ss ∧ (∀ n ∈ fr.nodes, n.EofOK cfg.hi) ∧
  ∀ i, i < fr.depth → sh.lookup i ≠ none

/-- how the `sequence` object and the state evolve: what the object covered it still covers, and it covers the terminal
    failures logged meanwhile -/
def SE (ss : SeqSt) (st : St) (ss' : SeqSt) (st' : St) : Prop :=
  (posInv cfg henv).SeqE g pos0 ss st ss' st' ∧ (SsLow cfg ss → SsLow cfg ss') ∧
  (∀ x, S.Cov x ss.err ss.result st → S.Cov x ss'.err ss'.result st') ∧
  (S.slow st → S.Low st st' (fun x => S.Cov x ss'.err ss'.result st'))

variable {S} {henv} {g} {sh} {pos0}

theorem SE.refl (ss : SeqSt) (st : St) : S.SE henv g pos0 ss st ss st := ⟨.refl _ _, id, fun _ h => h, .refl⟩

theorem SE.trans (a : SeqSt) (b : St) (c : SeqSt) (d : St) (e : SeqSt) (f : St) (h1 : S.SE henv g pos0 a b c d)
    (h2 : S.SE henv g pos0 c d e f) : S.SE henv g pos0 a b e f :=
  ⟨.trans _ _ _ _ _ _ h1.1 h2.1, h2.2.1 ∘ h1.2.1, fun x hx => h2.2.2.1 x (h1.2.2.1 x hx),
    fun h => (h1.2.2.2 h).trans (h2.2.2.2 (h1.2.2.2 h).slow) fun x _ => h2.2.2.1 x⟩

theorem SJ.stable (fr : Frame) (ss : SeqSt) (st : St) (ss' : SeqSt) (st' : St) (hJ : S.SJ henv g sh pos0 fr ss st)
    (hE : S.SE henv g pos0 ss st ss' st') : S.SJ henv g sh pos0 fr ss' st' :=
  ⟨⟨.stable fr ss st ss' st' hJ.1.1 hE.1, by rw [hE.1.2.2.1]; exact hJ.1.2⟩, (hE.2.2.2 hJ.2.1).slow, hE.2.1 hJ.2.2.1, hJ.2.2.2⟩

omit S in
theorem seqExit_last {fr : Frame} (h : seqExit fr = true) : ∃ l, fr.nodes.getLast? = some l ∧ l.token = eofTok := by
  unfold seqExit at h
  split at h
  · cases hl : fr.nodes.getLast? with
    | none => rw [hl] at h; cases h
    | some l => rw [hl] at h; exact ⟨l, rfl, by simpa using h⟩
  · cases h

/-- the Sequence emits: the new result ends where the frame stands, and at the end of the file if End was its last element -/
theorem SE.emit (ht : sh.token ≠ eofTok) {fr : Frame} {ss ss1 : SeqSt} {st st1 : St}
    (hJ : S.SJ henv g sh pos0 fr ss st) (hd : fr.depth = fr.nodes.length)
    (hP : (posInv cfg henv).SeqE g pos0 ss st (seqEmit sh fr ss1) st1) (hE : S.SE henv g pos0 ss st ss1 st1) :
    S.SE henv g pos0 ss st (seqEmit sh fr ss1) st1 ∧
    S.Cov fr.pos (seqEmit sh fr ss1).err (seqEmit sh fr ss1).result st1 ∧
    (seqExit fr = true → ∃ n ∈ (seqEmit sh fr ss1).result.alts, cfg.hi ≤ n.rpos) := by
  obtain ⟨⟨⟨_, j3, _⟩, _⟩, _, _, heof, _⟩ := hJ
  have hres : (seqEmit sh fr ss1).result = appendNode ss1.result (.one (handleResult sh fr.pos fr.nodes)) := by
    simp only [seqEmit, emitNodes_eq fr hd]
  have hrp := handleResult_rpos_chain cfg.hi sh pos0 fr.pos fr.nodes j3
  have hmem : handleResult sh fr.pos fr.nodes ∈ (seqEmit sh fr ss1).result.alts := by
    rw [hres]; exact mem_appendNode_right _ _ _ (by simp [Res.alts])
  have hup : ∀ x, S.Cov x ss1.err ss1.result st1 → S.Cov x (seqEmit sh fr ss1).err (seqEmit sh fr ss1).result st1 :=
    fun x => Cov.imp S (S.le_refl _) .inl fun h => .inr (.inl (hres ▸ GeR_appendNode_left _ h))
  refine ⟨⟨hP, fun h => ⟨fun n hnm => ?_, fun _ hc => by rw [hc] at hmem; cases hmem⟩,
    fun x hx => hup x (hE.2.2.1 x hx), fun h => (hE.2.2.2 h).imp fun x _ => hup x⟩,
    .inr (.inl ⟨_, hmem, Nat.le_of_eq hrp.symm⟩), fun hb => ?_⟩
  · rw [hres] at hnm
    rcases mem_appendNode _ _ _ hnm with h1 | h1
    · exact (hE.2.1 h).1 n h1
    · cases List.mem_singleton.mp h1
      exact handleResult_eofOK sh fr.pos fr.nodes ht (EofOKList_iff.mpr heof)
  · obtain ⟨l, hl, hlt⟩ := seqExit_last hb
    have := Node.EofOK_rpos (heof l (List.mem_of_getLast? hl)) hlt
    rw [Chain_getLast cfg.hi fr.nodes pos0 fr.pos l j3 hl] at this
    exact ⟨_, hmem, Nat.le_trans this (Nat.le_of_eq hrp.symm)⟩

theorem seqParse_low {r : RunFn} (hpos : (posInv cfg henv).OK r)
    (hr : S.RunOK r) (hg : g.Core (TermGood cfg)) (hgl : g.All S.loc) (hs : g.shape = some sh) :
    ∀ (fuel : Nat) (fr : Frame) ss st b ss' st', S.SJ henv g sh pos0 fr ss st → fr.depth = fr.nodes.length →
      seqParse r sh fuel fr.depth fr.nodes fr.ctx fr.pos fr.merge ss st = some (b, ss', st') →
      S.SE henv g pos0 ss st ss' st' ∧ (b = false → S.Cov fr.pos ss'.err ss'.result st') ∧
      (b = true → ∃ n ∈ ss'.result.alts, cfg.hi ≤ n.rpos) := by
  have hshape := shape_low hs (S.loc_low _ (G.All_self hgl))
  refine seqParse_rel r sh (S.SJ henv g sh pos0) (S.SE henv g pos0) (fun fr ss st => S.Cov fr.pos ss.err ss.result st)
    (fun ss _ => ∃ n ∈ ss.result.alts, cfg.hi ≤ n.rpos) SE.refl SE.trans SJ.stable
    (fun fr ss st ss' st' hQ hE => hE.2.2.1 _ hQ) ?_ ?_
  · intro fr ss st g' o st1 hJ hd hl hrun
    obtain ⟨⟨hJP, jx⟩, hsl, hss, heof, hpre⟩ := id hJ
    obtain ⟨⟨j1, j4, j5⟩, j3, j6⟩ := id hJP
    obtain ⟨hpost, eP1, hnextP, eP3⟩ := RunInv.SeqJ.call hpos hg hs hJP hd hl hrun
    have hlow := hr g' fr.ctx fr.pos st.regCall o st1 (shape_lookup_core hg hs fr.depth g' hl)
      (shape_lookup_all hgl hs fr.depth g' hl) ⟨j1, StOK_regCall j4, j5⟩ jx (S.slow_of_eq hsl rfl (S.le_regCall st)) hrun
    have herr1 : (seqAfter fr.merge ss o).err = pickErr ss.err o.err := seqAfter_err _ _ _
    have hres1 : (seqAfter fr.merge ss o).result = ss.result := seqAfter_result _ _ _
    have hss1 : SsLow cfg ss → SsLow cfg (seqAfter fr.merge ss o) := fun h => by rw [SsLow, hres1]; exact h
    have hmono1 : ∀ x, S.Cov x ss.err ss.result st →
        S.Cov x (seqAfter fr.merge ss o).err (seqAfter fr.merge ss o).result st1 := fun x =>
      herr1 ▸ hres1 ▸ Cov.imp S hlow.low.call.le (fun h => .inl (GeE_pickErr_left h)) fun h => .inr (.inl h)
    -- what the answer covers the `sequence` object covers, but for the ends of the trees it returned
    have hcov1 : ∀ x, S.Cov x o.err o.res st1 →
        S.Cov x (seqAfter fr.merge ss o).err (seqAfter fr.merge ss o).result st1 ∨ GeR x o.res := fun x hx =>
      (Classical.em (GeR x o.res)).symm.imp_left fun hn =>
        herr1 ▸ hres1 ▸ Cov.imp S (S.le_refl _) (fun h => .inl (GeE_pickErr_right h)) (fun h => absurd h hn) hx
    -- the element failed: nothing but the `sequence` object is left to cover
    have hE1 : o.res.isNil = true → S.SE henv g pos0 ss st (seqAfter fr.merge ss o) st1 := fun hnil =>
      ⟨eP1, hss1, hmono1, fun _ => hlow.low.call.imp fun x _ hx => (hcov1 x hx).resolve_right (GeR_of_isNil hnil)⟩
    refine ⟨fun hnn => ⟨fun n hn => ⟨⟨hnextP n hn, hpost.active ▸ S.cx_next jx j5.1 n.rpos
        ((hpost.nodes n hn).1 ▸ (Node.WF_bounds cfg.hi n (hpost.nodes n hn).2).1)⟩, hlow.slow, hss1 hss,
        fun c hc => (List.mem_append.mp hc).elim (heof c) fun h => List.mem_singleton.mp h ▸ hlow.out.eof n hn,
        fun i hi => (Nat.lt_succ_iff_lt_or_eq.mp hi).elim (hpre i) (fun e => by rw [e, hl]; exact nofun)⟩,
        fun b ss' st' hE hq hx => ?_⟩,
      fun hnil hlc => SE.emit hshape.1 hJ hd (eP3 hnil hlc) (hE1 hnil),
      fun hnil _ => ⟨hE1 hnil, (hcov1 _ hlow.prog).resolve_right (GeR_of_isNil hnil)⟩⟩
    -- a tree of the element is covered through the frame it opens, or through the early exit at End
    have hfin : ∀ x, x ≤ cfg.hi → S.Cov x o.err o.res st1 → S.Cov x ss'.err ss'.result st' := by
      intro x hxhi hx
      rcases hcov1 x hx with h1 | ⟨n, hn, hxn⟩
      · exact hE.2.2.1 x h1
      · cases b with
        | false => exact S.Cov_le hxn (hq rfl n hn)
        | true => obtain ⟨m, hm, hmhi⟩ := hx rfl; exact .inr (.inl ⟨m, hm, Nat.le_trans hxhi hmhi⟩)
    exact ⟨⟨.trans _ _ _ _ _ _ eP1 hE.1, hE.2.1 ∘ hss1, fun x hx => hE.2.2.1 x (hmono1 x hx),
      fun _ => hlow.low.call.trans (hE.2.2.2 hlow.slow) hfin⟩, fun _ => hfin fr.pos j1.2 hlow.prog⟩
  · intro fr ss st hJ hd hl
    have hlc := hshape.2 fr.depth hl hJ.2.2.2.2
    exact ⟨fun _ => SE.emit hshape.1 hJ hd (RunInv.SeqJ.none hg hs fr ss st hJ.1.1 hd hl hlc) (.refl _ _),
      fun hf => absurd hlc (by simp [hf])⟩

end seq

variable {S}

/-- the end of a Sequence-family parser: a Name relabels the error at its own position, or the results are returned and
    the error goes to the context -/
theorem seqFinish_low {henv : ∀ g' ∈ cfg.env, g'.Core (TermGood cfg)} {g : G} {pos : Nat} {sh : SeqShape} {ss0 ss : SeqSt}
    {st st1 : St} {b : Bool} (hsl : S.slow st) (hss : SsLow cfg ss0) (hp : pos ≤ cfg.hi)
    (hE : S.SE henv g pos ss0 st ss st1 ∧ (b = false → S.Cov pos ss.err ss.result st1) ∧
      (b = true → ∃ n ∈ ss.result.alts, cfg.hi ≤ n.rpos)) :
    S.Post pos st (seqFinish sh pos ss st1).1 (seqFinish sh pos ss st1).2 := by
  obtain ⟨⟨_, hssl, _, hl⟩, hq, hx⟩ := hE
  have hprog : S.Cov pos ss.err ss.result st1 := by
    cases b with
    | false => exact hq rfl
    | true => obtain ⟨m, hm, hmhi⟩ := hx rfl; exact .inr (.inl ⟨m, hm, Nat.le_trans hp hmhi⟩)
  rcases seqFinish_cases sh pos ss st1 with ⟨hnil, err, ho, he⟩ | ⟨hnil, ho⟩ <;> rw [ho]
  · have hc : ∀ x, S.Cov x ss.err ss.result st1 → S.Cov x err .nil st1 := fun x =>
      Cov.imp S (S.le_refl _) (fun ⟨e, hse, hxe⟩ => by
        rcases he with rfl | ⟨e', nm, hse', _, hp, _, rfl⟩
        · exact .inl ⟨e, hse, hxe⟩
        · cases hse.symm.trans hse'; exact .inl ⟨_, rfl, hp ▸ hxe⟩) (fun h => absurd h (GeR_of_isNil hnil))
    exact ((hl hsl).imp fun x _ => hc x).post (hc _ hprog) (OutOK_nil cfg pos _)
  · have hc : ∀ x, S.Cov x ss.err ss.result st1 → S.Cov x none ss.result (st1.setError ss.err) := fun x =>
      Cov.imp S (S.le_setError _ _) (fun h => .inr (.inr (.inl (GeE_setError_right st1 _ h)))) (fun h => .inr (.inl h))
    exact ((hl hsl).setError _ fun x _ => hc x).post (hc _ hprog) ⟨noErr, (hssl hss).2, (hssl hss).1⟩

variable (S)

/-- from a state with an empty log every logged terminal failure is a new one -/
theorem NewCov_fresh {st st' : St} {e : Option Err} {r : Res} (h : S.NewCov st st' e r) (h0 : st.log = []) :
    ∀ x k, Ev.termFail x k ∈ st'.log → S.Cov x e r st' := by
  obtain ⟨d, hd, hc⟩ := h
  rw [hd, h0, List.append_nil]
  exact fun x k hx => (hc x k hx).1

/-- the same failures seen from a state `st` before `st1` whose log lacks at most an event that is no terminal failure,
    and from a state `st3` after `st2` that logged nothing more (Memoize: entering the body, storing the answer) -/
theorem NewCov_frame {st st1 st2 st3 : St} {e e' : Option Err} {r r' : Res} (h : S.NewCov st1 st2 e r)
    (hl : st1.log = st.log ∨ ∃ ev, (∀ x k, ev ≠ Ev.termFail x k) ∧ st1.log = ev :: st.log) (hlog : st3.log = st2.log)
    (hm : ∀ x, x ≤ cfg.hi → S.Cov x e r st2 → S.Cov x e' r' st3) : S.NewCov st st3 e' r' := by
  obtain ⟨d, hd, hc⟩ := h
  have hc' : ∀ x k, Ev.termFail x k ∈ d → S.Cov x e' r' st3 ∧ x ≤ cfg.hi :=
    fun x k hx => ⟨hm x (hc x k hx).2 (hc x k hx).1, (hc x k hx).2⟩
  rcases hl with hl | ⟨ev, hev, hl⟩
  · exact ⟨d, by rw [hlog, hd, hl], hc'⟩
  · refine ⟨d ++ [ev], by rw [hlog, hd, hl]; simp, fun x k hx => ?_⟩
    rcases List.mem_append.mp hx with h1 | h1
    · exact hc' x k h1
    · exact absurd (List.mem_singleton.mp h1).symm (hev x k)

theorem NewCov_logEv (st : St) (ev : Ev) (hev : ∀ x k, ev ≠ Ev.termFail x k) (e : Option Err) (r : Res) :
    S.NewCov st (st.logEv cfg ev) e r :=
  S.NewCov_frame (st1 := st.logEv cfg ev) ⟨[], rfl, nofun⟩
    ((logEv_fields st cfg ev).2.2.2.2.imp id fun h => ⟨ev, hev, h⟩) rfl (fun _ _ h => h)

def CovAlt (pos x : Nat) (a : AltSt) (s : St) : Prop := S.Cov x a.err a.res s ∨ (x ≤ pos ∧ a.nf.isSome = true)

theorem CovAlt_step {pos x : Nat} {a a0 : AltSt} {s s' : St} {e2 : Option Err} (hle : S.le s s')
    (herr : a0.err = a.err) (hnf : a0.nf = a.nf) (hres : ∀ y, GeR y a.res → GeR y a0.res)
    (h : S.CovAlt pos x a s) : S.CovAlt pos x (altErr pos a0 e2) s' := by
  have hr := (altErr_fields pos a0 e2).2.1
  rcases h with h | h
  · rcases S.Cov_mono hle h with h1 | h1 | h1 | h1
    · exact .inl (.inl (altErr_GeE_left e2 (herr ▸ h1)))
    · exact .inl (.inr (.inl (by rw [hr]; exact hres _ h1)))
    · exact .inl (.inr (.inr (.inl h1)))
    · exact .inl (.inr (.inr (.inr h1)))
  · exact .inr ⟨h.1, altErr_nf_some e2 (hnf ▸ h.2)⟩

theorem CovAlt_new {pos x : Nat} {a0 : AltSt} {s' : St} {o' : Out}
    (hres : ∀ y, GeR y o'.res → GeR y a0.res) (h : S.Cov x o'.err o'.res s') :
    S.CovAlt pos x (altErr pos a0 o'.err) s' := by
  have hr := (altErr_fields pos a0 o'.err).2.1
  rcases h with h1 | h1 | h1 | h1
  · cases altErr_cover (pos := pos) (a := a0) h1 with
    | inl h2 => exact .inl (.inl h2)
    | inr h2 => exact .inr h2
  · exact .inl (.inr (.inl (by rw [hr]; exact hres _ h1)))
  · exact .inl (.inr (.inr (.inl h1)))
  · exact .inl (.inr (.inr (.inr h1)))


/-- what Any and Choice at `pos`, entered in `st0`, hold between two alternatives -/
structure AltJ (pos : Nat) (st0 : St) (a : AltSt) (s : St) : Prop where
  low : S.Low st0 s (fun x => S.CovAlt pos x a s)
  stOK : StOK cfg s
  active : s.active = st0.active
  altOK : AltOK cfg pos a
  eof : ∀ n ∈ a.res.alts, n.EofOK cfg.hi
  ne : Prod.NE a.res

variable {S}

theorem AltJ.init {pos : Nat} {st : St} (hst : StOK cfg st) (hsl : S.slow st) : S.AltJ pos st {} st :=
  ⟨.refl hsl, hst, rfl, ⟨noAlt, noErr, noErr⟩, noAlt, Prod.NE_nil⟩

/-- one alternative of Any: what the accumulator covered it still covers, what the alternative's answer covers it covers
    now — in particular the position of the call -/
theorem AltJ.step {r : RunFn} (henv : ∀ g' ∈ cfg.env, g'.Core (TermGood cfg)) (hpos : (posInv cfg henv).OK r)
    (hr : S.RunOK r) {ctx : Ctx} {pos : Nat} {st0 : St}
    (hin : InFile cfg.file pos) (hact : ActOK ctx pos st0.active) (hce : S.cx ctx pos st0.active)
    {g' : G} (hc : g'.Core (TermGood cfg)) (hl : g'.All S.loc) {a : AltSt} {s : St} {o' : Out} {s' : St}
    (hA : S.AltJ pos st0 a s) (hrun : r g' ctx pos s.regCall = some (o', s')) :
    S.AltJ pos st0 (altErr pos { a with cp := cpUnion a.cp o'.cp, res := appendNode a.res o'.res } o'.err) s' ∧
    S.CovAlt pos pos (altErr pos { a with cp := cpUnion a.cp o'.cp, res := appendNode a.res o'.res } o'.err) s' := by
  have hpre' : Pre cfg ctx pos s.regCall := ⟨hin, StOK_regCall hA.stOK, hA.active ▸ hact⟩
  have hpost := hpos g' ctx pos s.regCall o' s' hc hpre' hrun
  have hlow := hr g' ctx pos s.regCall o' s' hc hl hpre' (hA.active ▸ hce)
    (S.slow_of_eq hA.low.slow rfl (S.le_regCall s)) hrun
  have hr' := (altErr_fields pos { a with cp := cpUnion a.cp o'.cp, res := appendNode a.res o'.res } o'.err).2.1
  have hnew : ∀ x, S.Cov x o'.err o'.res s' → S.CovAlt pos x _ s' := fun x hx =>
    S.CovAlt_new (a0 := { a with cp := cpUnion a.cp o'.cp, res := appendNode a.res o'.res })
      (fun y hy => GeR_appendNode_right _ hy) hx
  refine ⟨⟨hA.low.trans (hlow.low.call.imp fun x _ => hnew x) fun x _ hx => S.CovAlt_step (a := a) hlow.low.call.le rfl rfl
      (fun y hy => GeR_appendNode_left _ hy) hx, hpost.st, hpost.active.trans hA.active,
    AltOK_altErr (a := { a with cp := cpUnion a.cp o'.cp, res := appendNode a.res o'.res }) ⟨fun x hx => (mem_appendNode _ _ _ hx).elim (hA.altOK.nodes x) (hpost.nodes x), hA.altOK.err, hA.altOK.nf⟩
      _ hpost.err, ?_, ?_⟩, hnew _ hlow.prog⟩
  · rw [hr']; exact fun n hn => (mem_appendNode _ _ _ hn).elim (hA.eof n) (hlow.out.eof n)
  · rw [hr']; exact Prod.NE_appendNode hA.ne hlow.out.nonempty

theorem AltJ.final_nil {pos : Nat} {st0 : St} {a : AltSt} {s : St}
    (hA : S.AltJ pos st0 a s) (hprog : S.CovAlt pos pos a s) (hnil : a.res.isNil = true) :
    S.Post pos st0 ⟨.nil, a.cp, a.finalErr⟩ s := by
  have hc : ∀ x, S.CovAlt pos x a s → S.Cov x a.finalErr .nil s := by
    rintro x (hx | ⟨h1, h2⟩)
    · refine Cov.imp S (S.le_refl s) (fun ⟨e, he, hxe⟩ => .inl ⟨e, by rw [AltSt.finalErr, he], hxe⟩)
        (fun h => absurd h (GeR_of_isNil hnil)) hx
    · -- the dropped not-found error stood at `pos`; whatever is returned stands at or after it
      unfold AltSt.finalErr
      cases hae : a.err with
      | some e => exact .inl ⟨e, rfl, Nat.le_trans h1 (hA.altOK.err e hae).1⟩
      | none =>
        cases hnf : a.nf with
        | none => rw [hnf] at h2; cases h2
        | some e' => exact .inl ⟨e', rfl, Nat.le_trans h1 (hA.altOK.nf e' hnf).1⟩
  exact (hA.low.imp fun x _ => hc x).post (hc _ hprog) (OutOK_nil cfg pos _)

theorem AltJ.final_res {pos : Nat} {st0 : St} {a : AltSt} {s : St}
    (hA : S.AltJ pos st0 a s) (hprog : S.CovAlt pos pos a s) (hnn : a.res.isNil = false) :
    S.Post pos st0 ⟨a.res, a.cp, none⟩ (s.setError a.err) := by
  have hc : ∀ x, S.CovAlt pos x a s → S.Cov x none a.res (s.setError a.err) := by
    rintro x (hx | ⟨h1, _⟩)
    · exact Cov.imp S (S.le_setError s a.err) (fun h => .inr (.inr (.inl (GeE_setError_right s _ h))))
        (fun h => .inr (.inl h)) hx
    · -- the dropped not-found error stood at `pos`; every result ends at or after it
      obtain ⟨n, hn⟩ := List.exists_mem_of_ne_nil _ (hA.ne hnn)
      have hb := Node.WF_bounds cfg.hi n (hA.altOK.nodes n hn).2
      exact .inr (.inl ⟨n, hn, by have := (hA.altOK.nodes n hn).1; omega⟩)
  exact (hA.low.setError _ fun x _ => hc x).post (hc _ hprog) ⟨noErr, hA.ne, hA.eof⟩

theorem any_low {r : RunFn} (henv : ∀ g' ∈ cfg.env, g'.Core (TermGood cfg)) (hpos : (posInv cfg henv).OK r)
    (hr : S.RunOK r) {ctx : Ctx} {pos : Nat} {st : St} (hpre : Pre cfg ctx pos st) (hce : S.cx ctx pos st.active)
    (hsl : S.slow st) {gs : List G} (hne : gs ≠ []) (hg : ∀ g' ∈ gs, g'.Core (TermGood cfg) ∧ g'.All S.loc)
    {a : AltSt} {st1 : St} (h : anyLoop r ctx pos gs {} st = some (a, st1)) :
    S.Post pos st (anyFinish a st1).1 (anyFinish a st1).2 := by
  obtain ⟨_, hp, hA⟩ := anyLoop_ind2 r ctx pos
    (fun rest a s => (∀ g' ∈ rest, g' ∈ gs) ∧ (rest = gs ∨ S.CovAlt pos pos a s) ∧ S.AltJ pos st a s)
    (fun g' rest a s o' s' hA hrun =>
      have hm := hg g' (hA.1 g' (List.mem_cons_self ..))
      have hs := hA.2.2.step henv hpos hr hpre.1 hpre.2.2 hce hm.1 hm.2 hrun
      ⟨fun g'' h'' => hA.1 g'' (List.mem_cons_of_mem _ h''), .inr hs.2, hs.1⟩)
    gs {} st a st1 ⟨fun _ h => h, .inl rfl, .init hpre.2.1 hsl⟩ h
  have hp := hp.resolve_left (Ne.symm hne)
  rcases anyFinish_cases a st1 with ⟨hnil, e⟩ | ⟨hnil, e⟩ <;> rw [e]
  · exact hA.final_nil hp hnil
  · exact hA.final_res hp hnil

variable (S)

theorem Post_err {pos : Nat} {st st' : St} {cp : List Nat} {e : Err} (hle : S.le st st')
    (hc : st'.cache = st.cache) (hsl : S.slow st) (hpe : pos ≤ e.pos)
    (hnew : S.NewCov st st' (some e) .nil) : S.Post pos st ⟨.nil, cp, some e⟩ st' :=
  ⟨hle, hnew, .inl ⟨e, rfl, hpe⟩, S.slow_of_eq hsl hc hle, OutOK_nil cfg pos _⟩

omit S in
theorem Post.map {S : CovSys cfg} {pos : Nat} {st st' : St} {o o' : Out} (h : S.Post pos st o st')
    (hc : ∀ x, S.Cov x o.err o.res st' → S.Cov x o'.err o'.res st') (hout : OutOK cfg pos o'.res o'.err) :
    S.Post pos st o' st' :=
  (h.low.imp fun x _ => hc x).post (hc _ h.prog) hout

theorem Post_one {pos : Nat} {st : St} {n : Node} (hsl : S.slow st) (hn : pos ≤ n.rpos) (heof : n.EofOK cfg.hi) :
    S.Post pos st ⟨.one n, [], none⟩ st :=
  ⟨S.le_refl _, ⟨[], rfl, nofun⟩, .inr (.inl ⟨n, List.mem_singleton.mpr rfl, hn⟩), hsl,
    ⟨noErr, (fun _ h => nomatch h), fun m hm => by cases List.mem_singleton.mp hm; exact heof⟩⟩

theorem Post_termFail (hgh : cfg.ghost = true) {pos : Nat} {st : St} {e : Err} (hsl : S.slow st) (h1 : pos ≤ e.pos)
    (h2 : e.pos ≤ cfg.hi) : S.Post pos st ⟨.nil, [], some e⟩ (st.logEv cfg (.termFail e.pos e.kind)) := by
  refine S.Post_err (S.le_logEv st _) (logEv_fields st cfg _).1 hsl h1 ⟨[_], logEv_ghost_log hgh st _, ?_⟩
  intro x k hx
  cases List.mem_singleton.mp hx
  exact ⟨.inl ⟨e, rfl, Nat.le_refl _⟩, h2⟩

variable {S}

/-- the post-processing of Optional / Name / Single keeps coverage (SuppressError is excluded by `LocLow`) -/
theorem wrapOut_low {pos : Nat} {g : G} {w : Wrap} (hg : g.Core (TermGood cfg)) (hw : g.wrap cfg.file pos = some w)
    (hloc : LocLow cfg g) {st st' : St} {o : Out} (hp : PV.Post cfg pos st o st') (h : S.Post pos st o st') :
    S.Post pos st (w.out o) st' := by
  have hsame := S.le_refl st'
  -- an error replaces the results: with an error every result ends at the call position, which the error covers
  have hdrop : ∀ (e e' : Err) (cp : List Nat), o.err = some e → e.pos ≤ e'.pos → S.Post pos st ⟨.nil, cp, some e'⟩ st' :=
    fun e e' cp he hle => h.map (fun x => Cov.imp S hsame
      (fun ⟨e1, he1, hx1⟩ => by cases he.symm.trans he1; exact .inl ⟨e', rfl, Nat.le_trans hx1 hle⟩)
      (fun ⟨n, hn, hxn⟩ => .inl ⟨e', rfl, Nat.le_trans hxn (Nat.le_trans (h.out.errRes e he n hn)
        (Nat.le_trans (hp.err e he).1 hle))⟩)) (OutOK_nil cfg pos _)
  have hkeep : o.err = none → S.Post pos st ⟨o.res, o.cp, none⟩ st' := fun he =>
    h.map (fun x hx => he ▸ hx) ⟨noErr, h.out.nonempty, h.out.eof⟩
  revert hg hloc
  refine G.wrap_cases (motive := fun g w => g.Core (TermGood cfg) → LocLow cfg g → S.Post pos st (w.out o) st')
    ?_ ?_ ?_ ?_ ?_ ?_ hw
  · intro g' hg hloc
    refine h.map (fun x => Cov.imp S hsame .inl fun h1 => .inr (.inl (GeR_appendNode_left _ h1)))
      ⟨fun e he n hn => ?_, Prod.NE_appendNode h.out.nonempty (Prod.NE_one _), fun n hn => ?_⟩
    · exact (mem_appendNode _ _ _ hn).elim (h.out.errRes e he n) fun h1 => by
        cases List.mem_singleton.mp h1; exact Nat.le_refl _
    · exact (mem_appendNode _ _ _ hn).elim (h.out.eof n) fun h1 => by cases List.mem_singleton.mp h1; exact trivial
  · intro g' nm hg hloc
    show S.Post pos st (nameOut pos nm o) st'
    rcases nameOut_cases pos nm o with ⟨e, he, ho⟩ | ⟨he, hn, ho⟩ | ⟨he, _, ho⟩ <;> rw [ho]
    · refine hdrop e _ _ he ?_
      split
      · rename_i hc
        simp only [Bool.and_eq_true, decide_eq_true_eq] at hc
        exact Nat.le_of_eq hc.1
      · exact Nat.le_refl _
    · exact h.map (fun x => Cov.imp S hsame (fun h1 => absurd (he ▸ h1) (GeE_none x))
        fun h1 => absurd h1 (GeR_of_isNil hn)) (OutOK_nil cfg pos _)
    · exact hkeep he
  · intro g' hg hloc
    show S.Post pos st (singleOut o) st'
    rcases singleOut_cases o with ⟨e, he, ho⟩ | ⟨he, tk, c, p, r, i, hres, ho⟩ | ⟨he, ho⟩ <;> rw [ho]
    · exact hdrop e e _ he (Nat.le_refl _)
    · have hmem : Node.nt tk [c] p r i ∈ o.res.alts := hres ▸ List.mem_singleton.mpr rfl
      have hw' := Chain_cons.mp (Node.WF_nt.mp (hp.nodes _ hmem).2)
      have hcr : c.rpos = r := (Chain_nil.mp hw'.2.2).1
      refine h.map (fun x => he ▸ hres ▸ Cov.imp S hsame .inl fun ⟨n, hn, hxn⟩ => ?_)
        ⟨noErr, (fun _ h => nomatch h), fun m hm => ?_⟩
      · cases List.mem_singleton.mp hn
        exact .inr (.inl ⟨c, List.mem_singleton.mpr rfl, hcr ▸ hxn⟩)
      · cases List.mem_singleton.mp hm
        have := h.out.eof _ hmem
        simp only [Node.EofOK, EofOKList, and_true] at this
        exact this.2
    · exact hkeep he
  · exact fun g' _ hloc => hloc.elim
  · exact fun g' m hg _ => hg.elim
  · exact fun g' m hg _ => hg.elim

variable (S)

/-- one level of `run` keeps coverage, given that Memoize does (`hmemo`: there the fourth way of being covered is used) -/
theorem runStep_low (hgh : cfg.ghost = true) (henv : ∀ g' ∈ cfg.env, g'.Core (TermGood cfg))
    (henvL : ∀ g' ∈ cfg.env, g'.All S.loc) {r : RunFn} (hpos : (posInv cfg henv).OK r) (hr : S.RunOK r) (fuel : Nat)
    (hmemo : ∀ idx body ctx pos st o st', (G.memo idx body).Core (TermGood cfg) → (G.memo idx body).All S.loc →
      Pre cfg ctx pos st → S.cx ctx pos st.active → S.slow st →
      memoStep cfg r idx body ctx pos st = some (o, st') → S.Post pos st o st') :
    S.RunOK (runStep cfg r fuel) := by
  intro g ctx pos st o st' hg hgl hpre hce hsl h
  obtain ⟨hin, hst, hact⟩ := hpre
  revert hg hgl
  refine runStep_elim (motive := fun g x => g.Core (TermGood cfg) → g.All S.loc → S.Post pos st x.1 x.2)
    ?term ?empty ?eof ?ref ?refNil ?memo ?any ?choice ?wrap ?seq g (o, st') h
  case term =>
    intro t hg hgl
    obtain ⟨hTn, hTe⟩ := (show TermGood cfg t from hg) pos hin
    rcases termStep_cases cfg t pos st with ⟨n, hp, e⟩ | ⟨e', hp, e⟩ | ⟨s, hp, e⟩ <;> rw [e]
    · have hb := Node.WF_bounds cfg.hi n (hTn n hp).2
      exact S.Post_one hsl ((hTn n hp).1 ▸ hb.1) (S.loc_low _ (G.All_self hgl) pos n hp)
    · exact S.Post_termFail hgh hsl (hTe _ hp).1 (hTe _ hp).2
    · exact S.Post_err (S.le_refl _) rfl hsl (Nat.le_refl _) (⟨[], rfl, nofun⟩)
  case empty => exact fun _ _ => S.Post_one hsl (Nat.le_refl _) trivial
  case eof =>
    intro _ _
    rcases eofStep_cases cfg pos st with ⟨heof, e⟩ | ⟨_, e⟩ <;> rw [e]
    · refine S.Post_one hsl (Nat.le_refl _) ?_
      simp only [isEOF, ge_iff_le, decide_eq_true_eq] at heof
      have := hin.1
      simp only [Node.EofOK, Cfg.hi]
      unfold File.len at heof ⊢
      omega
    · exact S.Post_termFail hgh (e := ⟨pos, .other endErrMsg⟩) hsl (Nat.le_refl _) hin.2
  case ref =>
    intro k g' x hk h _ _
    have hm := List.mem_of_getElem? hk
    exact hr _ ctx pos st x.1 x.2 (henv _ hm) (henvL _ hm) ⟨hin, hst, hact⟩ hce hsl h
  case refNil => exact fun k _ _ _ => S.Post_err (S.le_refl _) rfl hsl (Nat.le_refl _) (⟨[], rfl, nofun⟩)
  case memo => exact fun idx body x h hg hgl => hmemo idx body ctx pos st x.1 x.2 hg hgl ⟨hin, hst, hact⟩ hce hsl h
  case any =>
    exact fun gs a st1 hl hg hgl => any_low henv hpos hr ⟨hin, hst, hact⟩ hce hsl (S.loc_low _ (G.All_self hgl))
      (fun g' hg' => ⟨CoreList_mem hg g' hg', AllList_mem hgl.2 g' hg'⟩) hl
  case choice =>
    exact fun gs pre a st1 h1 h2 hl hg hgl => any_low henv hpos hr ⟨hin, hst, hact⟩ hce hsl
      (h2.elim (fun e => e ▸ S.loc_low _ (G.All_self hgl)) (·.1))
      (fun g' hg' => ⟨CoreList_mem hg g' (h1.subset hg'), AllList_mem hgl.2 g' (h1.subset hg')⟩) hl
  case wrap =>
    intro g w o1 st1 hw hr1 hg hgl
    obtain ⟨hc, hcp⟩ := hg.wrap hw
    have hpre : Pre cfg ctx w.cpos st := hcp.symm ▸ ⟨hin, hst, hact⟩
    have hp1 := hpos _ ctx _ st o1 st1 hc hpre hr1
    exact wrapOut_low hg hw (S.loc_low _ (G.All_self hgl)) (hcp ▸ ⟨hp1.nodes, hp1.err, hp1.st, hp1.active, hp1.calls⟩)
      (hcp ▸ hr _ ctx _ st o1 st1 hc (hgl.wrap hw) hpre (hcp.symm ▸ hce) hsl hr1)
  case seq =>
    exact fun g sh b ss st1 hs hsp hg hgl => seqFinish_low (ss0 := {}) hsl ⟨noAlt, fun h => nomatch h⟩ hin.2
      (seqParse_low hpos hr hg hgl hs fuel ⟨0, [], ctx, pos, true⟩ {} st b ss st1
        ⟨⟨.init hg hs ⟨hin, hst, hact⟩, hce⟩, hsl, ⟨noAlt, fun h => nomatch h⟩, nofun, fun i hi => nomatch hi⟩ rfl hsp)

theorem run_low (hgh : cfg.ghost = true) (henv : ∀ g' ∈ cfg.env, g'.Core (TermGood cfg))
    (henvL : ∀ g' ∈ cfg.env, g'.All S.loc)
    (hmemo : ∀ fuel, S.RunOK (run cfg fuel) → ∀ idx body ctx pos st o st', (G.memo idx body).Core (TermGood cfg) →
      (G.memo idx body).All S.loc → Pre cfg ctx pos st → S.cx ctx pos st.active → S.slow st →
      memoStep cfg (run cfg fuel) idx body ctx pos st = some (o, st') → S.Post pos st o st') :
    ∀ fuel, S.RunOK (run cfg fuel) := by
  intro fuel
  induction fuel with
  | zero => intro g ctx pos st o st' _ _ _ _ _ h; cases h
  | succ fuel ih =>
    exact fun g ctx pos st o st' hg hgl hpre hce hsl h =>
      S.runStep_low hgh henv henvL (RunInv.run fuel) ih fuel (hmemo fuel ih) g ctx pos st o st' hg hgl hpre hce hsl
        (run_some_step h)

end CovSys

end PV
