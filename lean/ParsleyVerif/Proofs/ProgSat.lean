/-
  A judgement on the outcomes of the statement-level translator's monad (Generated/ProgPrelude.lean) and its rules.

  `r.Sat Q P`: the outcome `r` is an answer that satisfies `Q`, or a panic where `P` allows one; it is never "out of fuel".
  Every construct of the translated code has one rule (an `iff`: `sat_pure`, `sat_bind`, `sat_ite`, `sat_panic`) and every
  primitive one rule, stated on what a slice SHOWS (`view`), that says what the step needs — an index in range, a bound
  within the length — and what it gives; an equation for a step is a rule too (`sat_of_eq`).  A call with a specification of
  its own (a callee's tie, an allocation, a loop) is passed by `Res.Sat.bind` / `.mono`: the specification, then the
  continuation under what it promises.  `sat_loop` is the induction every translated `for` loop needs, stated once.
  `Tied r m R`: the outcome is the model's `Option` answer (`none`: a panic) read through `R`.

  How a tie uses them.  The model's answer is named (`generalize hm : model = m`), so that it stands once, as a hypothesis.
    * THE PASS, for a body whose tests are plain comparisons: `simp only [go_sat, <rules of the steps>]` walks the body once and
      leaves an if-tree over the tests the code makes, with `Q` of what is returned at the leaves.  Then the cases of the MODEL
      are taken, and in each `simp (disch := omega) only [go_decided] at hm ⊢` takes the branches the case decides, in the
      model's tree and in the code's, however the source spells or arranges its tests.
    * THE RUN, for a body that computes its tests in the monad (a short-circuit `||` over reads: the pass would copy what
      follows such a block into each of its leaves): the cases first, then in each
      `simp +decide (disch := omega) only [go_sat, go_atoms, ↓reduceIte, ↓<rules>]` runs the body forwards, every test decided.
  Hand-written sides only; nothing here depends on the generated files.
-/
import ParsleyVerif.Proofs.ProgTieBasics
import ParsleyVerif.Proofs.ProgSatAttr

namespace PV.ProgPrelude

/-- the outcome is an answer with `Q`, or a panic where `P` allows one; never out of fuel -/
def Res.Sat {α : Type} (r : Res α) (Q : α → St → Prop) (P : Prop) : Prop :=
  match r with
  | .ok a s => Q a s
  | .panic => P
  | .nofuel => False

/-- `s[lo:]` as a header -/
def Sl.from (s : Sl) (lo : Nat) : Sl :=
  { arr := s.arr, off := s.off + lo, len := s.len - lo, cap := s.cap - lo, isNil := s.isNil }

/-- `s[lo:hi]` as a header -/
def Sl.fromTo (s : Sl) (lo hi : Nat) : Sl :=
  { arr := s.arr, off := s.off + lo, len := hi - lo, cap := s.cap - lo, isNil := s.isNil }

end PV.ProgPrelude

namespace PV.ProgTie
open PV.ProgPrelude

theorem sat_pure {α : Type} {Q : α → St → Prop} {P : Prop} (a : α) (st : St) : ((pure a : M α) st).Sat Q P ↔ Q a st :=
  Iff.rfl

theorem sat_panic {α : Type} {Q : α → St → Prop} {P : Prop} (st : St) : ((Go.panic : M α) st).Sat Q P ↔ P := Iff.rfl

theorem sat_bind {α β : Type} {Q : α → St → Prop} {P : Prop} (x : M β) (f : β → M α) (st : St) :
    ((x >>= f) st).Sat Q P ↔ (x st).Sat (fun b s => (f b s).Sat Q P) P := by
  rw [bind_apply]
  cases x st <;> rfl

/-- (the Decidable instance is an argument, as in `ite_apply`) -/
theorem sat_ite {α : Type} {Q : α → St → Prop} {P : Prop} (c : Prop) (inst : Decidable c) (a b : M α) (st : St) :
    ((@ite (M α) c inst a b) st).Sat Q P ↔ @ite Prop c inst ((a st).Sat Q P) ((b st).Sat Q P) := by
  split <;> rfl

theorem _root_.PV.ProgPrelude.Res.Sat.mono {α : Type} {r : Res α} {Q Q' : α → St → Prop} {P P' : Prop} (h : r.Sat Q P)
    (hq : ∀ a s, Q a s → Q' a s) (hp : P → P') : r.Sat Q' P' := by
  cases r with
  | ok a s => exact hq a s h
  | panic => exact hp h
  | nofuel => exact h

/-- sequencing: a specification of `x`, then the continuation under what it promises -/
theorem _root_.PV.ProgPrelude.Res.Sat.bind {α β : Type} {Q : α → St → Prop} {P : Prop} {x : M β} {f : β → M α} {st : St}
    {Qx : β → St → Prop} {Px : Prop} (hx : (x st).Sat Qx Px) (hf : ∀ b s, Qx b s → (f b s).Sat Q P) (hp : Px → P) :
    ((x >>= f) st).Sat Q P :=
  (sat_bind x f st).mpr (hx.mono hf hp)

/-- what a specification without a panic says in terms of the outcome -/
theorem _root_.PV.ProgPrelude.Res.Sat.ok {α : Type} {r : Res α} {Q : α → St → Prop} (h : r.Sat Q False) :
    ∃ a s, r = .ok a s ∧ Q a s := by
  cases r with
  | ok a s => exact ⟨a, s, rfl, h⟩
  | panic => exact h.elim
  | nofuel => exact h.elim

/-- an equation for a step is a rule for it -/
theorem sat_of_eq {α : Type} {x : Res α} {a : α} {s : St} (e : x = .ok a s) {Q : α → St → Prop} {P : Prop} :
    x.Sat Q P ↔ Q a s := by
  rw [e]; rfl

theorem sat_of_panic {α : Type} {x : Res α} (e : x = .panic) {Q : α → St → Prop} {P : Prop} : x.Sat Q P ↔ P := by
  rw [e]; rfl

theorem eq_ok_iff {α : Type} (r : Res α) (a : α) (s : St) : r = .ok a s ↔ r.Sat (fun a' s' => a' = a ∧ s' = s) False := by
  cases r with
  | ok a' s' => exact ⟨fun h => (by cases h; exact ⟨rfl, rfl⟩), fun ⟨h1, h2⟩ => (by rw [h1, h2])⟩
  | panic | nofuel => exact ⟨fun h => (by cases h), False.elim⟩

theorem eq_panic_iff {α : Type} (r : Res α) : r = .panic ↔ r.Sat (fun _ _ => False) True := by
  cases r with
  | ok a s => exact ⟨fun h => (by cases h), False.elim⟩
  | panic => exact ⟨fun _ => trivial, fun _ => rfl⟩
  | nofuel => exact ⟨fun h => (by cases h), False.elim⟩

/-! The pass: `simp only [go_sat, …]` with the rules of the reads and calls on the way.  The four rules above are used as
    PRE-rewrites: a bind is opened before its parts are looked at, so a continuation is entered only with the outcome of
    what precedes it.  Besides them the set holds what reads a generated test as a proposition. -/
attribute [go_sat ↓] sat_pure sat_bind sat_ite sat_panic
attribute [go_sat] decide_eq_true_eq Bool.or_eq_true Bool.and_eq_true Bool.not_eq_true' Bool.false_eq_true Bool.true_eq_false
  eq_self if_true if_false ite_true ite_false

/-! Closing a case: `simp (disch := omega) only [go_decided] at hm ⊢` takes, in the tree of the code and in the model's, the
    branch every test decides in the case at hand, HOWEVER THE SOURCE SPELLS THE TEST (a mirrored comparison, a negated one
    with the branches exchanged, a temporary for a difference): `omega` proves or refutes it from the context.  The
    pre-rewrites take a decided branch without visiting the other one; the post-rewrites serve a test that other rules of the
    same call had to rewrite first, and a test that the case does not decide but that does not matter (`ite_self`: a byte
    known to be one of three, tested against each in turn with the same continuation).  Together with `go_sat`
    (`simp (disch := omega) only [go_sat, go_decided, …]`, in a case that decides every test) the body is run forwards: no
    branch that is not taken is opened. -/
theorem take_pos {c : Prop} {h : Decidable c} (hc : c) {α : Sort _} {t e : α} : @ite α c h t e = t := if_pos hc
theorem take_neg {c : Prop} {h : Decidable c} (hc : ¬ c) {α : Sort _} {t e : α} : @ite α c h t e = e := if_neg hc
theorem take_true {α : Sort _} {t e : α} : (if true = true then t else e) = t := if_pos rfl
theorem take_false {α : Sort _} {t e : α} : (if false = true then t else e) = e := if_neg Bool.false_ne_true
/-- a test whose value was computed on the way (`pure (decide (a < b))`, then `if t then`) -/
theorem take_decide_pos {p : Prop} {h : Decidable p} (hp : p) {α : Sort _} {t e : α} :
    (if @decide p h = true then t else e) = t := if_pos (decide_eq_true hp)
theorem take_decide_neg {p : Prop} {h : Decidable p} (hp : ¬ p) {α : Sort _} {t e : α} :
    (if @decide p h = true then t else e) = e := if_neg (fun hd => hp (of_decide_eq_true hd))
attribute [go_decided ↓] take_pos take_neg take_true take_false take_decide_pos take_decide_neg
attribute [go_decided] if_pos if_neg ite_self

/-! Running a body forwards in a case that decides every test: `simp +decide (disch := omega) only [go_sat, go_atoms,
    ↓reduceIte, …]`, with the rules of the steps on the path as pre-rewrites (`↓`).  Here the comparisons of a test are decided
    one by one (`a ≤ b` read as `¬ b < a`), the connectives evaluated, and `↓reduceIte` takes the branch before the other is
    opened: cheaper than `go_decided` where tests are chains of comparisons over many facts (the data package). -/
attribute [go_atoms] lt_true lt_false int_eq_true int_eq_false nat_eq_true nat_eq_false Int.ofNat_lt
  true_or or_true false_or or_false true_and and_true false_and and_false not_true_eq_false not_false_eq_true
attribute [go_atoms ←] Int.not_lt Nat.not_lt

/-- the generated tests of a body read as propositions, before the body is run: `simp only [go_test]` -/
theorem go_test :
    (∀ (p : Prop) [Decidable p], (decide p = true) = p) ∧ (∀ a b : Bool, ((a || b) = true) = (a = true ∨ b = true)) ∧
    (∀ a b : Bool, ((a && b) = true) = (a = true ∧ b = true)) ∧ (∀ b : Bool, ((!b) = true) = (b = false)) :=
  ⟨fun p _ => decide_eq_true_eq, Bool.or_eq_true, Bool.and_eq_true, Bool.not_eq_true'⟩

/-- A translated loop is a function of its fuel and its variables that gives up at fuel 0.  If one round meets `Q` whenever
    every run from a state of smaller measure `μ` does, the loop meets `Q` for every fuel above the measure. -/
theorem sat_loop {σ ρ : Type} (loop : Nat → σ → M ρ) (μ : σ → Nat) (Inv : σ → St → Prop) (Q : σ → ρ → St → Prop)
    (P : σ → Prop)
    (round : ∀ fuel s st, Inv s st →
      (∀ s' st', Inv s' st' → μ s' < μ s → (loop fuel s' st').Sat (Q s') (P s')) → (loop (fuel + 1) s st).Sat (Q s) (P s)) :
    ∀ fuel s st, Inv s st → μ s < fuel → (loop fuel s st).Sat (Q s) (P s) := by
  intro fuel
  induction fuel with
  | zero => intro s st _ h; omega
  | succ fuel ih => exact fun s st hi hf => round fuel s st hi (fun s' st' hi' hlt => ih s' st' hi' (by omega))

/-- the outcome `r` is the model's answer `m` (`none`: a panic), read through `R` -/
def Tied {α γ : Type} (r : Res α) (m : Option γ) (R : γ → α → St → Prop) : Prop :=
  r.Sat (fun a s => ∃ c, m = some c ∧ R c a s) (m = none)

theorem tied_none {α γ : Type} {r : Res α} {R : γ → α → St → Prop} : Tied r none R ↔ r = .panic := by
  cases r with
  | ok a s => exact ⟨fun ⟨_, e, _⟩ => (by cases e), fun e => (by cases e)⟩
  | panic => exact ⟨fun _ => rfl, fun _ => rfl⟩
  | nofuel => exact ⟨False.elim, fun e => (by cases e)⟩

theorem tied_some {α γ : Type} {r : Res α} {R : γ → α → St → Prop} {c : γ} :
    Tied r (some c) R ↔ ∃ a s, r = .ok a s ∧ R c a s := by
  cases r with
  | ok a s => exact ⟨fun ⟨_, e, h⟩ => ⟨a, s, rfl, by cases e; exact h⟩, fun ⟨_, _, e, h⟩ => (by cases e; exact ⟨c, rfl, h⟩)⟩
  | panic => exact ⟨fun (h : some c = none) => (by cases h), fun ⟨_, _, e, _⟩ => (by cases e)⟩
  | nofuel => exact ⟨False.elim, fun ⟨_, _, e, _⟩ => (by cases e)⟩

/-! ### the primitives, on what a slice shows -/

theorem view_from (st : St) (s : Sl) (lo : Nat) : view st (s.from lo) = (view st s).drop lo := by
  simp only [view, Sl.from, List.drop_take, List.drop_drop]

theorem view_fromTo (st : St) (s : Sl) (lo hi : Nat) (h : hi ≤ s.len) :
    view st (s.fromTo lo hi) = ((view st s).drop lo).take (hi - lo) := by
  simp only [view, Sl.fromTo, List.drop_take, List.drop_drop, List.take_take]
  congr 1
  omega

theorem sat_idx {Q : Int → St → Prop} {P : Prop} {st : St} {s : Sl} {l : List Int} (hv : view st s = l)
    (hl : s.len = l.length) (c : Nat) :
    (Go.idx s (c : Int) st).Sat Q P ↔ if c < l.length then Q (l.getD c 0) st else P := by
  split
  next h => rw [idx_view st s l hv hl c (by omega) (by omega), Int.toNat_natCast]; rfl
  next h => rw [idx_panic s c st (by omega)]; rfl

theorem sat_sliceFrom {Q : Sl → St → Prop} {P : Prop} (st : St) (s : Sl) (c : Nat) :
    (Go.sliceFrom s (c : Int) st).Sat Q P ↔ if c ≤ s.len then Q (s.from c) st else P := by
  simp only [Go.sliceFrom, Int.toNat_natCast, Int.natCast_nonneg, Int.ofNat_le, true_and]
  split <;> rfl

theorem sat_slice {Q : Sl → St → Prop} {P : Prop} (st : St) (s : Sl) (lo hi : Nat) :
    (Go.slice s (lo : Int) (hi : Int) st).Sat Q P ↔ if lo ≤ hi ∧ hi ≤ s.cap then Q (s.fromTo lo hi) st else P := by
  simp only [Go.slice, Int.toNat_natCast, Int.natCast_nonneg, Int.ofNat_le, true_and]
  split <;> rfl

theorem sat_decodeRune {Q : Int × Int → St → Prop} {P : Prop} (st : St) (p : Sl) :
    (Go.decodeRune p st).Sat Q P ↔
      Q (((Utf8.decodeRune ((view st p).map Int.toNat)).1 : Int), ((Utf8.decodeRune ((view st p).map Int.toNat)).2 : Int)) st :=
  Iff.rfl

theorem sat_hasPrefix {Q : Bool → St → Prop} {P : Prop} (a b : Sl) (st : St) :
    (Go.hasPrefix a b st).Sat Q P ↔ Q ((view st b).isPrefixOf (view st a)) st := Iff.rfl

theorem sat_strOf {Q : Str → St → Prop} {P : Prop} (s : Sl) (st : St) : (Go.strOf s st).Sat Q P ↔ Q (view st s) st := Iff.rfl

end PV.ProgTie
