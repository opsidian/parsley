/-
  "Nothing further is lost" for PRODUCTIVE grammars (property C06, exactness): the coverage development of
  Proofs/RunLow.lean with the fourth way of being covered read as: a memoized parser is STILL ACTIVE at a position
  at or after `x` (`GeA`, over the ghost activation stack).  When the activation returns, what it covered is covered by
  what it returns: a result, an error, or — by Proofs/ProdBlame.lean — the blame on another parser that is
  still active.  At the root nothing is active, so every terminal failure is at or before the returned
  error, the context error or the end of a returned result.

  Cached outcomes carry the blame in the form they are stored with: a curtailing parser with a positive
  counter in the stored context (a hit requires the current counters to dominate the stored ones).
-/
import ParsleyVerif.Proofs.ProdBlame
namespace PV
namespace Prod
open PV.Text

def CtxExact (ctx : Ctx) (pos : Nat) (act : List (Nat × Nat)) : Prop := ∀ k, ctx.get k = actCount act k pos

theorem CtxExact.mem {ctx : Ctx} {pos : Nat} {act : List (Nat × Nat)} (h : CtxExact ctx pos act) {k : Nat}
    (hk : 1 ≤ ctx.get k) : (k, pos) ∈ act := by
  refine Decidable.byContradiction fun hn => ?_
  rw [h k, actCount_zero fun a ha hc => hn ((Prod.ext hc.1 hc.2 : a = (k, pos)) ▸ ha)] at hk
  cases hk

def GeA (x : Nat) (st : St) : Prop := ∃ a ∈ st.active, x ≤ a.2

def Cov (x : Nat) (err : Option Err) (res : Res) (st : St) : Prop :=
  GeE x err ∨ GeR x res ∨ GeE x st.ctxErr ∨ GeA x st

theorem GeA_le {x y : Nat} {st : St} (h : x ≤ y) : GeA y st → GeA x st :=
  fun ⟨a, ha, hy⟩ => ⟨a, ha, Nat.le_trans h hy⟩

structure StLe (st st' : St) : Prop where
  log : st.log <:+ st'.log
  ctx : ∀ x, GeE x st.ctxErr → GeE x st'.ctxErr
  act : ∀ a ∈ st.active, a ∈ st'.active

theorem GeA_mono {x : Nat} {st st' : St} (h : ∀ a ∈ st.active, a ∈ st'.active) : GeA x st → GeA x st' :=
  fun ⟨a, ha, hx⟩ => ⟨a, h a ha, hx⟩

theorem StLe.refl (st : St) : StLe st st := ⟨List.suffix_refl _, fun _ h => h, fun _ h => h⟩
theorem StLe.trans {a b c : St} (h1 : StLe a b) (h2 : StLe b c) : StLe a c :=
  ⟨h1.log.trans h2.log, fun x h => h2.ctx x (h1.ctx x h), fun x h => h2.act x (h1.act x h)⟩

theorem StLe_setError (st : St) (e : Option Err) : StLe st (st.setError e) :=
  ⟨by rw [(setError_ctxErr st e).2.2.2.1]; exact List.suffix_refl _, fun _ h => GeE_setError_left st e h,
   by rw [(setError_ctxErr st e).2.2.1]; exact fun _ h => h⟩

theorem StLe_logEv (st : St) (cfg : Cfg) (ev : Ev) : StLe st (st.logEv cfg ev) :=
  ⟨logEv_suffix st cfg ev, fun x h => by rw [(logEv_fields st cfg ev).2.1]; exact h,
    by rw [(logEv_fields st cfg ev).2.2.2.1]; exact fun _ h => h⟩

theorem StLe_regCall (st : St) : StLe st st.regCall := ⟨List.suffix_refl _, fun _ h => h, fun _ h => h⟩

/-- a cached outcome covers its position: by its error, its result, the context error, or a curtailing
    parser with a positive counter in the stored context -/
def CovE (e : CacheEntry) (st : St) : Prop :=
  GeE e.pos e.err ∨ GeR e.pos e.res ∨ GeE e.pos st.ctxErr ∨ ∃ k, k ∈ e.cp ∧ 1 ≤ e.ctx.get k

def SLow (c : ProdCert) (cfg : Cfg) (st : St) : Prop :=
  ∀ e ∈ st.cache, CovE e st ∧ OutOK cfg e.pos e.res e.err ∧ EntB c e

theorem SLow_of_eq {c : ProdCert} {cfg : Cfg} {st st' : St} (h : SLow c cfg st) (hc : st'.cache = st.cache)
    (hle : StLe st st') : SLow c cfg st' := by
  intro e hcm
  rw [hc] at hcm
  obtain ⟨h1, h2, h3⟩ := h e hcm
  refine ⟨?_, h2, h3⟩
  rcases h1 with h1 | h1 | h1 | h1
  · exact .inl h1
  · exact .inr (.inl h1)
  · exact .inr (.inr (.inl (hle.ctx _ h1)))
  · exact .inr (.inr (.inr h1))

theorem SLow.cb {c : ProdCert} {cfg : Cfg} {st : St} (h : SLow c cfg st) : CacheBlame c st :=
  fun e he => (h e he).2.2

def NewCov (cfg : Cfg) (st st' : St) (err : Option Err) (res : Res) : Prop :=
  ∃ d, st'.log = d ++ st.log ∧ ∀ x k, Ev.termFail x k ∈ d → Cov x err res st' ∧ x ≤ cfg.hi

structure PostLow (c : ProdCert) (cfg : Cfg) (pos : Nat) (st : St) (o : Out) (st' : St) : Prop where
  le : StLe st st'
  newTF : NewCov cfg st st' o.err o.res
  prog : Cov pos o.err o.res st'
  slow : SLow c cfg st'
  out : OutOK cfg pos o.res o.err

def RunLowOK (c : ProdCert) (cfg : Cfg) (r : RunFn) : Prop :=
  ∀ g ctx pos st o st', g.Core (TermGood cfg) → g.All (LocLow cfg) → g.All (MemoPr c) → Pre cfg ctx pos st →
    CtxExact ctx pos st.active → SLow c cfg st → r g ctx pos st = some (o, st') → PostLow c cfg pos st o st'

/-- `CovAlt`, `AltInv`: `CovSys.CovAlt` and `CovSys.AltJ` written out for `actSys`; the walk uses those -/
def CovAlt (pos x : Nat) (a : AltSt) (s : St) : Prop := Cov x a.err a.res s ∨ (x ≤ pos ∧ a.nf.isSome = true)

structure AltInv (c : ProdCert) (cfg : Cfg) (pos : Nat) (st0 : St) (a : AltSt) (s : St) : Prop where
  le : StLe st0 s
  newTF : ∃ d, s.log = d ++ st0.log ∧ ∀ x k, Ev.termFail x k ∈ d → CovAlt pos x a s ∧ x ≤ cfg.hi
  slow : SLow c cfg s
  stOK : StOK cfg s
  active : s.active = st0.active
  altOK : AltOK cfg pos a
  eof : ∀ n ∈ a.res.alts, n.EofOK cfg.hi
  nonempty : a.res.isNil = false → a.res.alts ≠ []

/-- coverage by parsers that are still active; the left-recursion context counts them exactly -/
def actSys (c : ProdCert) (cfg : Cfg) : CovSys cfg where
  tail := GeA
  le := StLe
  slow := SLow c cfg
  loc g := LocLow cfg g ∧ MemoPr c g
  cx := CtxExact
  tail_le := GeA_le
  le_refl := StLe.refl
  le_trans := StLe.trans
  le_ctx h := h.ctx
  le_tail h _ := GeA_mono h.act
  le_setError := StLe_setError
  le_logEv st ev := StLe_logEv st cfg ev
  le_regCall := StLe_regCall
  slow_of_eq := SLow_of_eq
  loc_low _ h := h.1
  cx_next h hle := ctxExact_next h hle (Nat.le_refl _)

theorem all_loc {c : ProdCert} {cfg : Cfg} {g : G} (h1 : g.All (LocLow cfg)) (h2 : g.All (MemoPr c)) :
    g.All (actSys c cfg).loc := G.All.map₂ (fun _ => And.intro) h1 h2

theorem RunLowOK.sys {c : ProdCert} {cfg : Cfg} {r : RunFn} (h : (actSys c cfg).RunOK r) : RunLowOK c cfg r :=
  fun g ctx pos st o st' hg hgl hgm hpre hce hsl hrun =>
    let p := h g ctx pos st o st' hg (all_loc hgl hgm) hpre hce hsl hrun
    ⟨p.le, p.newTF, p.prog, p.slow, p.out⟩

/-- Memoize.  A hit: the blame stored with the entry is on a parser that is active now.  A curtailment: the parser
    itself is active at the call position.  The return of the body: the frame that is popped covered positions up to the
    call position, which the answer covers — by a result, an error, or the blame on a parser that stays active -/
theorem memoStep_low {c : ProdCert} {cfg : Cfg} (henvB : EnvBlame c cfg) {r : RunFn}
    (hpos : (posInv cfg henvB.core).OK r)
    (hbl : RunBlameOK c cfg r) (hr : (actSys c cfg).RunOK r) (fuel : Nat)
    (idx : Nat) (body : G) (ctx : Ctx) (pos : Nat) (st : St) (o : Out) (st' : St)
    (hg : (G.memo idx body).Core (TermGood cfg)) (hgl : (G.memo idx body).All (actSys c cfg).loc)
    (hpre : Pre cfg ctx pos st) (hce : CtxExact ctx pos st.active) (hsl : SLow c cfg st)
    (h : memoStep cfg r idx body ctx pos st = some (o, st')) : (actSys c cfg).Post pos st o st' := by
  have hgL : (G.memo idx body).All (LocLow cfg) := G.All.map₂ (fun _ h _ => h.1) hgl hgl
  have hgM : (G.memo idx body).All (MemoPr c) := G.All.map₂ (fun _ h _ => h.2) hgl hgl
  have hact : st'.active = st.active := memoStep_active h
  have hB := runStep_blame c cfg henvB hbl fuel (.memo idx body) ctx pos st o st' hg hgL hgM hsl.cb h
  have hprm : pr c (c.prank idx + 1) (.memo idx body) = true := by
    have h1 : pr c (c.prank idx) body = true := hgM.1
    simp [pr, h1]
  -- neither a result nor an error: a curtailing parser is active at the call position
  have hGeA : o.res.isNil = true → o.err = none → GeA pos st' := fun hn he =>
    let ⟨k, _, hk1, _⟩ := hB.blame _ hprm hn he
    ⟨(k, pos), hact ▸ hce.mem hk1, Nat.le_refl _⟩
  refine memoStep_elim (motive := fun x => x = (o, st') → (actSys c cfg).Post pos st o st') ?_ ?_ ?_ h rfl
  · rintro e hc ⟨⟩
    obtain ⟨hm, _, hp⟩ := cacheGet_some hc
    have hle := StLe_logEv st cfg (.hit idx pos)
    obtain ⟨hcv, hok, _⟩ := hsl e hm
    refine ⟨hle, (actSys c cfg).NewCov_logEv st (.hit idx pos) nofun _ _, ?_,
      SLow_of_eq hsl (logEv_fields st cfg _).1 hle, hp ▸ hok⟩
    simp only [CovE, hp] at hcv
    rcases hcv with h1 | h1 | h1 | ⟨k, _, hk1⟩
    · exact .inl h1
    · exact .inr (.inl h1)
    · exact .inr (.inr (.inl (hle.ctx _ h1)))
    · exact .inr (.inr (.inr ⟨(k, pos), hle.act _ (hce.mem (cacheGet_live hc k hk1)), Nat.le_refl _⟩))
  · rintro hc hcur ⟨⟩
    have hle := StLe_logEv st cfg (.curtail idx pos)
    exact ⟨hle, (actSys c cfg).NewCov_logEv st (.curtail idx pos) nofun _ _,
      .inr (.inr (.inr ⟨(idx, pos), hle.act _ (hce.mem (by omega)), Nat.le_refl _⟩)),
      SLow_of_eq hsl (logEv_fields st cfg _).1 hle, OutOK_nil cfg pos _⟩
  · rintro o2 st2 hc hcur hr2 ⟨⟩
    obtain ⟨f1, f2, _, f4, f5⟩ := memoEnter_frame cfg idx pos st
    have hle1 : StLe st (memoEnter cfg idx pos st) :=
      ⟨logEv_suffix { st with active := (idx, pos) :: st.active } cfg _, fun _ hx => f2 ▸ hx,
        f4 ▸ fun a ha => List.mem_cons_of_mem _ ha⟩
    have hpre1 := Pre_memoEnter hpre hcur
    have hP1 := hpos body _ pos _ o st2 hg hpre1 hr2
    have hlow := hr body _ pos _ o st2 hg hgl.2 hpre1 (f4 ▸ ctxExact_enter hce idx) (SLow_of_eq hsl f1 hle1) hr2
    have hact2 : st2.active = (idx, pos) :: st.active := hP1.active.trans f4
    -- the call position is covered without the frame that is about to be popped
    have hself : GeE pos o.err ∨ GeR pos o.res ∨ (o.res.isNil = true ∧ o.err = none) := by
      by_cases hn : o.res.isNil = true
      · cases he : o.err with
        | some e => exact .inl ⟨e, rfl, (hP1.err e he).1⟩
        | none => exact .inr (.inr ⟨hn, rfl⟩)
      · cases hal : o.res.alts with
        | nil => exact absurd hal (hlow.out.nonempty (Bool.eq_false_iff.mpr hn))
        | cons n ns =>
          have hnm : n ∈ o.res.alts := hal ▸ List.mem_cons_self ..
          have hb := Node.WF_bounds cfg.hi n (hP1.nodes n hnm).2
          exact .inr (.inl ⟨n, hnm, (hP1.nodes n hnm).1 ▸ hb.1⟩)
    have hprog' : (actSys c cfg).Cov pos o.err o.res (memoLeave idx pos ctx st o st2) := by
      rcases hself with h1 | h1 | ⟨hn, he⟩
      · exact .inl h1
      · exact .inr (.inl h1)
      · exact .inr (.inr (.inr (hGeA hn he)))
    have htrans : ∀ x, (actSys c cfg).Cov x o.err o.res st2 →
        (actSys c cfg).Cov x o.err o.res (memoLeave idx pos ctx st o st2) := by
      intro x hx
      rcases hx with h1 | h1 | h1 | ⟨a, ha, hxa⟩
      · exact .inl h1
      · exact .inr (.inl h1)
      · exact .inr (.inr (.inl h1))
      · rw [hact2] at ha
        cases ha with
        | head => exact (actSys c cfg).Cov_le hxa hprog'
        | tail _ ha => exact .inr (.inr (.inr ⟨a, ha, hxa⟩))
    refine ⟨⟨hle1.log.trans hlow.le.log, fun x hx => hlow.le.ctx x (hle1.ctx x hx), fun a ha => ha⟩, ?_,
      hprog', fun e hcm => ?_, hlow.out⟩
    · exact (actSys c cfg).NewCov_frame hlow.newTF (f5.imp id fun h5 => ⟨.body idx pos _, nofun, h5⟩) rfl
        (fun x _ hx => htrans x hx)
    · cases mem_cacheSave hcm with
      | inl h1 =>
        refine ⟨?_, h1 ▸ hlow.out, hB.cb e hcm⟩
        rw [h1]
        rcases hself with h2 | h2 | ⟨hn, he⟩
        · exact .inl h2
        · exact .inr (.inl h2)
        · obtain ⟨k, hk, hk1, _⟩ := hB.blame _ hprm hn he
          exact .inr (.inr (.inr ⟨k, hk, (get_filter hk).symm ▸ hk1⟩))
      | inr h1 => exact hlow.slow e h1

theorem run_low (c : ProdCert) (cfg : Cfg) (hgh : cfg.ghost = true) (henvB : EnvBlame c cfg) :
    ∀ fuel, RunLowOK c cfg (run cfg fuel) := fun fuel =>
  RunLowOK.sys ((actSys c cfg).run_low hgh henvB.core (fun g hg => all_loc (henvB.low g hg) (henvB.mp g hg))
    (fun fuel hr => memoStep_low henvB (RunInv.run fuel) (run_blame c cfg henvB fuel) hr fuel) fuel)

end Prod
end PV
