import ParsleyVerif.Proofs.SliceInv
/-
  SetReaderPos keeps the invariant (so every reachable state satisfies it) and changes what a handle reads only if the
  handle can see a trimmed node or the trimmed array (`affected`).  Histories: the invariant in every reachable state,
  the frame lemmas lifted to operation lists, the trim discipline, the trace of returned values.
-/
namespace PV.Slice

theorem bump_bump (o : NodeObj) (a b : Nat) : (o.bump a).bump b = o.bump (a + b) := by
  cases o <;> simp [NodeObj.bump, Nat.add_assoc]

theorem bump_zero (o : NodeObj) : o.bump 0 = o := by cases o <;> simp [NodeObj.bump]

def NodesSim (nodes nodes' : List NodeObj) : Prop :=
  nodes'.length = nodes.length ∧ ∀ (n : Nat) (o : NodeObj), nodes[n]? = some o → ∃ e, nodes'[n]? = some (o.bump e)

theorem NodesSim.refl (nodes : List NodeObj) : NodesSim nodes nodes :=
  ⟨rfl, fun n o h => ⟨0, by rw [bump_zero]; exact h⟩⟩

theorem NodesSim.trans {a b c : List NodeObj} (h1 : NodesSim a b) (h2 : NodesSim b c) : NodesSim a c := by
  refine ⟨by rw [h2.1, h1.1], fun n o ho => ?_⟩
  obtain ⟨e1, he1⟩ := h1.2 n o ho
  obtain ⟨e2, he2⟩ := h2.2 n _ he1
  exact ⟨e1 + e2, by rw [he2, bump_bump]⟩

theorem NodesSim.modify (nodes : List NodeObj) (m d : Nat) : NodesSim nodes (nodes.modify m (NodeObj.bump d)) := by
  refine ⟨by simp, fun n o ho => ?_⟩
  rw [List.getElem?_modify]
  by_cases hmn : m = n
  · subst hmn; exact ⟨d, by simp [ho]⟩
  · exact ⟨0, by simp [hmn, ho, bump_zero]⟩

theorem NodesSim.nt {nodes nodes' : List NodeObj} (h : NodesSim nodes nodes') {n tok : Nat} {sl : Slice} {pos rpos : Nat}
    (hn : nodes'[n]? = some (NodeObj.nt tok sl pos rpos)) : ∃ r0, nodes[n]? = some (NodeObj.nt tok sl pos r0) := by
  have hlt : n < nodes.length := by
    rw [← h.1]
    by_cases hl : n < nodes'.length
    · exact hl
    · rw [List.getElem?_eq_none (by omega)] at hn; cases hn
  have hs : nodes[n]? = some nodes[n] := by simp [hlt]
  obtain ⟨e, he⟩ := h.2 n _ hs
  rw [he] at hn
  cases ho : nodes[n] with
  | term t v p r => rw [ho] at hn; simp [NodeObj.bump] at hn
  | nt t c p r =>
    rw [ho] at hn
    simp only [NodeObj.bump, Option.some.injEq, NodeObj.nt.injEq] at hn
    obtain ⟨h1, h2, h3, _⟩ := hn
    exact ⟨r, by rw [hs, ho, h1, h2, h3]⟩

def SameShape (arrs arrs' : Arrs) : Prop :=
  arrs'.length = arrs.length ∧ ∀ a, (cells arrs' a).length = (cells arrs a).length

theorem SameShape.refl (arrs : Arrs) : SameShape arrs arrs := ⟨rfl, fun _ => rfl⟩

theorem SameShape.trans {a b c : Arrs} (h1 : SameShape a b) (h2 : SameShape b c) : SameShape a c :=
  ⟨by rw [h2.1, h1.1], fun x => by rw [h2.2 x, h1.2 x]⟩

theorem SameShape.write (arrs : Arrs) (a i : Nat) (v : Handle) : SameShape arrs (writeCell arrs a i v) := by
  refine ⟨length_writeCell .., fun b => ?_⟩
  rw [cells_writeCell]; split
  · exact List.length_set
  · rfl

theorem SameShape.swf {arrs arrs' : Arrs} (h : SameShape arrs arrs') {sl : Slice} (w : SWF arrs sl) : SWF arrs' sl :=
  w.of_lengths (Nat.le_of_eq h.1.symm) fun a _ => h.2 a

theorem setRPCell_sim (d : Nat) (nodes : List NodeObj) (c : Handle) : NodesSim nodes (setRPCell d nodes c).1 := by
  cases c <;> first | exact NodesSim.modify _ _ _ | exact NodesSim.refl _

theorem setRPCell_ok (d : Nat) (nodes : List NodeObj) (c : Handle) {n : Nat} (hc : CellOK n c) :
    CellOK n (setRPCell d nodes c).2 := by
  cases c <;> simp only [setRPCell] <;> first | exact hc | trivial

theorem setRPCell_node_ne (d : Nat) (nodes : List NodeObj) (c : Handle) (n : Nat) (hne : c ≠ Handle.ptr n) :
    (setRPCell d nodes c).1[n]? = nodes[n]? := by
  cases c with
  | ptr m =>
    simp only [setRPCell]
    rw [List.getElem?_modify]
    have : m ≠ n := fun h => hne (by rw [h])
    simp [this]
  | _ => rfl

theorem setRPCell_nil (d : Nat) (nodes : List NodeObj) (c : Handle) (h : (setRPCell d nodes c).2 = Handle.nil) :
    c = Handle.nil := by
  cases c <;> simp [setRPCell] at h ⊢

theorem writeCell_nil_back (d : Nat) (nodes : List NodeObj) (arrs : Arrs) (arr k a j : Nat)
    (h : (cells (writeCell arrs arr k (setRPCell d nodes ((cells arrs arr).getD k Handle.nil)).2) a)[j]? = some Handle.nil) :
    (cells arrs a)[j]? = some Handle.nil := by
  rw [cells_writeCell] at h
  split at h
  · rename_i haa; subst haa
    rw [List.getElem?_set] at h
    split at h
    · rename_i hkj; subst hkj
      split at h
      · rename_i hb
        have := setRPCell_nil d nodes _ (Option.some.inj h)
        rw [List.getD_eq_getElem?_getD, List.getElem?_eq_getElem hb] at this
        rw [List.getElem?_eq_getElem hb]; exact congrArg some this
      · cases h
    · exact h
  · exact h

/-- the loop of NodeList.SetReaderPos over cells `k .. k+cnt-1` of array `arr`; `arrs0` is the heap before the loop -/
theorem trimLoop_spec (d arr : Nat) (arrs0 : Arrs) (N : Nat) :
    ∀ (cnt k : Nat) (nodes : List NodeObj) (arrs : Arrs),
      (∀ j, k ≤ j → (cells arrs arr)[j]? = (cells arrs0 arr)[j]?) → CellsOK N arrs →
      NodesSim nodes (trimLoop d arr cnt k nodes arrs).1 ∧
      SameShape arrs (trimLoop d arr cnt k nodes arrs).2 ∧
      CellsOK N (trimLoop d arr cnt k nodes arrs).2 ∧
      (∀ a, a ≠ arr → cells (trimLoop d arr cnt k nodes arrs).2 a = cells arrs a) ∧
      (∀ n, (∀ j, k ≤ j → j < k + cnt → (cells arrs0 arr)[j]? ≠ some (Handle.ptr n)) →
        (trimLoop d arr cnt k nodes arrs).1[n]? = nodes[n]?) ∧
      (∀ (a j : Nat), (cells (trimLoop d arr cnt k nodes arrs).2 a)[j]? = some Handle.nil → (cells arrs a)[j]? = some Handle.nil) := by
  intro cnt
  induction cnt with
  | zero =>
    intro k nodes arrs _ ok
    exact ⟨NodesSim.refl _, SameShape.refl _, ok, fun _ _ => rfl, fun _ _ => rfl, fun _ _ h => h⟩
  | succ cnt ih =>
    intro k nodes arrs h0 ok
    simp only [trimLoop]
    have hcell := getD_cellOK ok arr k
    have ok1 : CellsOK N (writeCell arrs arr k (setRPCell d nodes ((cells arrs arr).getD k Handle.nil)).2) :=
      cellsOK_write ok _ _ _ (setRPCell_ok d nodes _ hcell)
    have h1 : ∀ j, k + 1 ≤ j →
        (cells (writeCell arrs arr k (setRPCell d nodes ((cells arrs arr).getD k Handle.nil)).2) arr)[j]? = (cells arrs0 arr)[j]? := by
      intro j hj
      rw [← h0 j (by omega), cells_writeCell, if_pos rfl, List.getElem?_set_ne (by omega)]
    obtain ⟨r1, r2, r3, r4, r5, r6⟩ := ih (k + 1) (setRPCell d nodes ((cells arrs arr).getD k Handle.nil)).1 _ h1 ok1
    refine ⟨(setRPCell_sim d nodes _).trans r1, (SameShape.write arrs arr k _).trans r2, r3, ?_, ?_, ?_⟩
    · intro a ha
      rw [r4 a ha, cells_writeCell, if_neg (fun h => ha h.symm)]
    · intro n hn
      rw [r5 n (fun j hj1 hj2 => hn j (by omega) (by omega))]
      apply setRPCell_node_ne
      intro hc
      apply hn k (Nat.le_refl _) (by omega)
      rw [← h0 k (Nat.le_refl _)]
      rw [List.getD_eq_getElem?_getD] at hc
      cases hk : (cells arrs arr)[k]? with
      | none => rw [hk] at hc; simp at hc
      | some c => rw [hk] at hc; simp at hc; rw [hc]
    · intro a j hj
      exact writeCell_nil_back d nodes arrs arr k a j (r6 a j hj)

theorem view_nil_back {arrs arrs' : Arrs}
    (h : ∀ (a j : Nat), (cells arrs' a)[j]? = some Handle.nil → (cells arrs a)[j]? = some Handle.nil) (sl : Slice)
    (hm : Handle.nil ∈ view arrs' sl) : Handle.nil ∈ view arrs sl := by
  obtain ⟨j, hj⟩ := List.getElem?_of_mem hm
  simp only [view, List.getElem?_take] at hj
  by_cases hlt : j < sl.len
  · rw [if_pos hlt] at hj
    have := h sl.arr j hj
    apply List.mem_of_getElem? (i := j)
    simp only [view, List.getElem?_take, if_pos hlt]
    exact this
  · rw [if_neg hlt] at hj; cases hj

theorem HWF.reshape {s s' : St} {top : Nat → Nat} {h : Handle} (hw : HWF s top h) (hn : s'.nodes.length = s.nodes.length)
    (sh : SameShape s.arrs s'.arrs) (hnil : ∀ sl, Handle.nil ∈ view s'.arrs sl → Handle.nil ∈ view s.arrs sl) :
    HWF s' top h := by
  cases h with
  | ptr m => exact Nat.lt_of_lt_of_eq hw hn.symm
  | list sl => exact ⟨sh.swf hw.1, hw.2.1, hw.2.2.1, fun h => hw.2.2.2 (hnil sl h)⟩
  | _ => trivial

theorem Inv.reshape {s : St} {top : Nat → Nat} (inv : Inv s top) (nodes' : List NodeObj) (arrs' : Arrs)
    (hn : NodesSim s.nodes nodes') (sh : SameShape s.arrs arrs') (ok : CellsOK s.nodes.length arrs')
    (hnil : ∀ sl, Handle.nil ∈ view arrs' sl → Handle.nil ∈ view s.arrs sl) :
    Inv ({ s with nodes := nodes', arrs := arrs' } : St) top := by
  refine ⟨fun a ha => inv.topz a (sh.1 ▸ ha), hn.1 ▸ ok,
    fun e he => (inv.pool e he).reshape hn.1 sh hnil, fun kv hkv => ⟨(inv.memo kv hkv).1.reshape hn.1 sh hnil, (inv.memo kv hkv).2⟩,
    ?_, inv.own, inv.uniq, fun b hb => ⟨sh.swf (inv.bufs b hb).1, (inv.bufs b hb).2⟩⟩
  intro n tok sl pos rpos hnn
  obtain ⟨r0, hr0⟩ := hn.nt hnn
  exact ⟨sh.swf (inv.nodes n tok sl pos r0 hr0).1, (inv.nodes n tok sl pos r0 hr0).2⟩

theorem setRP_shape (d : Nat) {s : St} {top : Nat → Nat} (inv : Inv s top) (h : Handle) :
    NodesSim s.nodes (setRP d s h).1.nodes ∧ SameShape s.arrs (setRP d s h).1.arrs ∧
    CellsOK s.nodes.length (setRP d s h).1.arrs ∧
    (∀ sl, Handle.nil ∈ view (setRP d s h).1.arrs sl → Handle.nil ∈ view s.arrs sl) ∧
    (setRP d s h).1 = ({ s with nodes := (setRP d s h).1.nodes, arrs := (setRP d s h).1.arrs } : St) := by
  cases h with
  | ptr m => exact ⟨NodesSim.modify _ _ _, SameShape.refl _, inv.cellok, fun _ h => h, rfl⟩
  | list sl =>
    obtain ⟨r1, r2, r3, _, _, r6⟩ := trimLoop_spec d sl.arr s.arrs s.nodes.length sl.len 0 s.nodes s.arrs (fun _ _ => rfl) inv.cellok
    exact ⟨r1, r2, r3, view_nil_back r6, rfl⟩
  | _ => exact ⟨NodesSim.refl _, SameShape.refl _, inv.cellok, fun _ h => h, rfl⟩

theorem setRP_result (d : Nat) (s : St) (h : Handle) :
    (setRP d s h).2 = h ∨ (∃ p, h = Handle.empty p ∧ (setRP d s h).2 = Handle.empty (p + d)) := by
  cases h with
  | empty p => exact Or.inr ⟨p, rfl, rfl⟩
  | _ => exact Or.inl rfl

theorem step_trim_inv (grow : Nat → Nat) {s : St} {top : Nat → Nat} (inv : Inv s top) (i d : Nat) :
    StepAny s (step grow s (Op.setReaderPos i d)).1 := by
  simp only [step]
  split
  · rename_i h hg
    split
    · exact (StepOK.refl (top := top) inv).toStepAny
    · obtain ⟨hn, sh, ok, hnil, heq⟩ := setRP_shape d inv h
      have inv1 := inv.reshape _ _ hn sh ok hnil
      rw [← heq] at inv1
      have inv2 := inv1.kill i
      have hext : Ext s (((setRP d s h).1.kill i).push (setRP d s h).2) := by
        refine Ext.trans (s2 := (setRP d s h).1) ?_ ((Ext.kill _ i).trans (Ext.push _ _))
        rw [heq]; exact Ext.of_eq rfl rfl
      have hlen : (setRP d s h).1.pool.length = s.pool.length := by rw [heq]
      refine ⟨?_, hext, Or.inr ((push_pool_length ..).trans (congrArg (· + 1) ((kill_length ..).trans hlen)))⟩
      rcases setRP_result d s h with hr | ⟨p, hp, hr⟩ <;> rw [hr]
      · refine inv2.push h ((inv.get_hwf hg).reshape hn.1 sh hnil) (fun sl e => ?_)
        subst e
        refine ⟨inv.get_safe hg, fun hm k slk hl harr => ?_⟩
        -- another linear entry on the same array would be entry `i` itself, which has just been killed
        rw [heq] at hl hm
        exact hl.kill.2 ((inv.owned k slk hl.kill.1).2 i sl (.of_get hg hm) harr)
      · exact ⟨top, inv2.push_flat _ trivial (fun _ => Handle.noConfusion)⟩
  · exact (StepOK.refl (top := top) inv).toStepAny

theorem setRP_frame (d : Nat) {s : St} {top : Nat → Nat} (inv : Inv s top) (h : Handle) :
    (setRP d s h).1.nodes.length = s.nodes.length ∧
    (∀ n, n ∉ trimNodes s h → (setRP d s h).1.nodes[n]? = s.nodes[n]?) ∧
    (∀ a, trimArr h ≠ some a → cells (setRP d s h).1.arrs a = cells s.arrs a) := by
  cases h with
  | ptr m =>
    refine ⟨by simp [setRP], fun n hn => ?_, fun _ _ => rfl⟩
    simp only [setRP, List.getElem?_modify]
    have : m ≠ n := fun h => hn (by simp [trimNodes, h])
    simp [this]
  | list sl =>
    obtain ⟨r1, _, _, r4, r5, _⟩ := trimLoop_spec d sl.arr s.arrs s.nodes.length sl.len 0 s.nodes s.arrs (fun _ _ => rfl) inv.cellok
    refine ⟨r1.1, fun n hn => ?_, fun a ha => ?_⟩
    · apply r5 n
      intro j _ hj hc
      apply hn
      simp only [trimNodes, List.mem_filterMap]
      refine ⟨Handle.ptr n, ?_, rfl⟩
      have : (view s.arrs sl)[j]? = some (Handle.ptr n) := by
        simp only [view, List.getElem?_take]
        rw [if_pos (by omega)]; exact hc
      exact List.mem_of_getElem? this
    · apply r4 a
      intro h; apply ha; simp [trimArr, h]
  | _ => exact ⟨rfl, fun _ _ => rfl, fun _ _ => rfl⟩

/-- node `n` exists and cannot see the written objects -/
def Clean (s : St) (wn : List Nat) (wa : Option Nat) (n : Nat) : Prop :=
  n < s.nodes.length ∧ (dirtyTable s wn wa).getD n false = false

theorem clean_unfold {s : St} {wn : List Nat} {wa : Option Nat} {n : Nat} (hc : Clean s wn wa n) :
    dirtyNode s.nodes s.arrs wn wa (build (dirtyNode s.nodes s.arrs wn wa) n) n = false := by
  have := hc.2
  unfold dirtyTable at this
  rw [List.getD_eq_getElem?_getD, build_get _ _ _ hc.1] at this
  simpa using this

theorem view_eq_of_not_written {arrs arrs' : Arrs} {wa : Option Nat} {sl : Slice}
    (hf : ∀ a, wa ≠ some a → cells arrs' a = cells arrs a) (hw : ¬ (wa = some sl.arr ∧ 0 < sl.len)) :
    view arrs' sl = view arrs sl := by
  unfold view
  by_cases h : wa = some sl.arr
  · have : sl.len = 0 := by
      by_cases h0 : 0 < sl.len
      · exact absurd ⟨h, h0⟩ hw
      · omega
    rw [this]; simp
  · rw [hf sl.arr h]

theorem trim_agree (d : Nat) {s : St} {top : Nat → Nat} (inv : Inv s top) (h : Handle) :
    Agree s (setRP d s h).1 (Clean s (trimNodes s h) (trimArr h)) := by
  obtain ⟨f1, f2, f3⟩ := setRP_frame d inv h
  refine ⟨fun n hc => ⟨hc.1, by rw [f1]; exact hc.1⟩, fun n hc => ?_, fun n tok sl pos rpos hc hn => ?_,
    fun n tok sl pos rpos m hc hn hm hmn => ?_⟩
  · apply f2
    have := clean_unfold hc
    unfold dirtyNode at this
    simp only [Bool.or_eq_false_iff] at this
    intro hmem
    have h1 := this.1
    simp [List.contains_eq_mem, hmem] at h1
  · apply view_eq_of_not_written f3
    have := clean_unfold hc
    unfold dirtyNode at this
    rw [hn] at this
    simp only [Bool.or_eq_false_iff, decide_eq_false_iff_not] at this
    exact this.2.1
  · refine ⟨by have := hc.1; omega, ?_⟩
    have := clean_unfold hc
    unfold dirtyNode at this
    rw [hn] at this
    simp only [Bool.or_eq_false_iff, List.any_eq_false] at this
    have hcd := this.2.2 (Handle.ptr m) hm
    simp only [cellDirty, Bool.not_eq_true] at hcd
    unfold dirtyTable
    rw [List.getD_eq_getElem?_getD] at hcd ⊢
    rw [build_get _ _ _ (by have := hc.1; omega)]
    rw [build_get _ _ _ hmn] at hcd
    exact hcd

theorem trim_frame (d : Nat) {s : St} {top : Nat → Nat} (inv : Inv s top) (h h' : Handle) (hw' : HWF s top h')
    (na : affected s (trimNodes s h) (trimArr h) h' = false) :
    render (setRP d s h).1 h' = render s h' := by
  obtain ⟨_, _, f3⟩ := setRP_frame d inv h
  apply render_agree (trim_agree d inv h) h'
  · cases h' with
    | ptr m =>
      simp only [affected, cellDirty] at na
      exact ⟨hw', na⟩
    | list sl =>
      intro m hm
      simp only [affected, Bool.or_eq_false_iff, List.any_eq_false] at na
      have hcd := na.2 (Handle.ptr m) hm
      simp only [cellDirty, Bool.not_eq_true] at hcd
      exact ⟨view_cellOK inv.cellok sl _ hm, hcd⟩
    | _ => trivial
  · intro sl hsl
    subst hsl
    apply view_eq_of_not_written f3
    simp only [affected, Bool.or_eq_false_iff, decide_eq_false_iff_not] at na
    exact na.1

/-- somebody may still read through `h`: it is (or was) in the pool, or the memo table holds it -/
def Held (s : St) (h : Handle) : Prop := (∃ e ∈ s.pool, e.h = h) ∨ (∃ kv ∈ s.memo, kv.2 = h)

theorem Held.hwf {s : St} {top : Nat → Nat} (inv : Inv s top) {h : Handle} (hh : Held s h) : HWF s top h := by
  rcases hh with ⟨e, he, rfl⟩ | ⟨kv, hkv, rfl⟩
  · exact inv.pool e he
  · exact (inv.memo kv hkv).1

theorem Held.ext {s s' : St} (x : Ext s s') {h : Handle} (hh : Held s h) : Held s' h := by
  rcases hh with ⟨e, he, rfl⟩ | ⟨kv, hkv, rfl⟩
  · obtain ⟨k, hk, rfl⟩ := List.getElem_of_mem he
    obtain ⟨e', he', hh', _⟩ := x.pool k s.pool[k] (by simp [hk])
    exact Or.inl ⟨e', List.mem_of_getElem? he', hh'⟩
  · obtain ⟨l, hl, _⟩ := x.memo
    exact Or.inr ⟨kv, by rw [hl]; exact List.mem_append_right _ hkv, rfl⟩

theorem step_any (grow : Nat → Nat) {s : St} {top : Nat → Nat} (inv : Inv s top) (op : Op) :
    StepAny s (step grow s op).1 := by
  cases hop : op.isTrim with
  | false => exact (step_ok grow inv op hop).toStepAny
  | true =>
    cases op with
    | setReaderPos i d => exact step_trim_inv grow inv i d
    | _ => cases hop

theorem run_cons (grow : Nat → Nat) (op : Op) (ops : List Op) (s : St) :
    run grow (op :: ops) s = run grow ops (step grow s op).1 := rfl

theorem run_append (grow : Nat → Nat) (a b : List Op) (s : St) : run grow (a ++ b) s = run grow b (run grow a s) := by
  simp [run, List.foldl_append]

theorem run_inv (grow : Nat → Nat) (ops : List Op) {s : St} {top : Nat → Nat} (inv : Inv s top) :
    (∃ top', Inv (run grow ops s) top') ∧ Ext s (run grow ops s) :=
  List.foldlRecOn ops _ (motive := fun s' => (∃ top', Inv s' top') ∧ Ext s s') ⟨⟨top, inv⟩, Ext.of_eq rfl rfl⟩
    fun _ ⟨⟨_, inv'⟩, x⟩ op _ => have a := step_any grow inv' op; ⟨a.inv, x.trans a.ext⟩

theorem reachable_inv (grow : Nat → Nat) (ops : List Op) : ∃ top, Inv (run grow ops {}) top :=
  (run_inv grow ops Inv.init).1

/-- One step, any operation: a held handle reads the same, unless the step is a SetReaderPos whose writes it can see. -/
theorem step_render (grow : Nat → Nat) {s : St} {top : Nat → Nat} (inv : Inv s top) (op : Op) {h' : Handle} (hh : Held s h')
    (na : ∀ i d h, op = Op.setReaderPos i d → s.get i = some h → affected s (trimNodes s h) (trimArr h) h' = false) :
    render (step grow s op).1 h' = render s h' := by
  cases hop : op.isTrim with
  | false => exact render_frame (step_ok grow inv op hop).frame inv.nodes inv.cellok h' (hh.hwf inv)
  | true =>
    cases op with
    | setReaderPos i d =>
      simp only [step]
      split
      · rename_i h hg
        split
        · rfl
        · exact trim_frame d inv h h' (hh.hwf inv) (na i d h rfl hg)
      · rfl
    | _ => cases hop

theorem step_frame (grow : Nat → Nat) {s : St} {top : Nat → Nat} (inv : Inv s top) (op : Op) (hop : op.isTrim = false)
    {h : Handle} (hh : Held s h) : render (step grow s op).1 h = render s h :=
  step_render grow inv op hh fun _ _ _ e => by subst e; cases hop

theorem run_frame (grow : Nat → Nat) (ops : List Op) (hops : ∀ op ∈ ops, op.isTrim = false) {s : St} {top : Nat → Nat}
    (inv : Inv s top) {h : Handle} (hh : Held s h) : render (run grow ops s) h = render s h :=
  (List.foldlRecOn ops _ (motive := fun s' => (∃ top', Inv s' top') ∧ Held s' h ∧ render s' h = render s h)
    ⟨⟨top, inv⟩, hh, rfl⟩
    fun _ ⟨⟨_, inv'⟩, hh', e⟩ op hop =>
      have a := step_any grow inv' op
      ⟨a.inv, hh'.ext a.ext, (step_frame grow inv' op (hops op hop) hh').trans e⟩).2.2

/-- the hypothesis of `c07_trim_partial`: every SetReaderPos of the history is applied to an entry that is `unshared` in the
    state it meets; `disciplinedB` decides it -/
def Disciplined (grow : Nat → Nat) : St → List Op → Prop
  | _, [] => True
  | s, op :: rest => (∀ i d, op = Op.setReaderPos i d → unshared s i = true) ∧ Disciplined grow (step grow s op).1 rest

def disciplinedB (grow : Nat → Nat) : St → List Op → Bool
  | _, [] => true
  | s, op :: rest =>
    (match op with
     | .setReaderPos i _ => unshared s i
     | _ => true) && disciplinedB grow (step grow s op).1 rest

theorem disciplinedB_sound (grow : Nat → Nat) (ops : List Op) :
    ∀ (s : St), disciplinedB grow s ops = true → Disciplined grow s ops := by
  induction ops with
  | nil => intro s _; trivial
  | cons op ops ih =>
    intro s h
    simp only [disciplinedB, Bool.and_eq_true] at h
    refine ⟨fun i d hop => ?_, ih _ h.2⟩
    subst hop
    exact h.1

theorem render_pool_irrel (s : St) (pool : List Entry) (h : Handle) :
    render ({ s with pool := pool } : St) h = render s h := rfl

theorem unshared_spec {s : St} {i : Nat} (hu : unshared s i = true) :
    ∃ h, s.get i = some h ∧
      (∀ k h', k ≠ i → s.get k = some h' → affected s (trimNodes s h) (trimArr h) h' = false) ∧
      (∀ kv ∈ s.memo, affected s (trimNodes s h) (trimArr h) kv.2 = false) := by
  unfold unshared at hu
  cases hg : s.get i with
  | none => simp [hg] at hu
  | some h =>
    simp only [hg, Bool.and_eq_true, List.all_eq_true] at hu
    refine ⟨h, rfl, fun k h' hki hk => ?_, fun kv hkv => ?_⟩
    · have hlt : k < s.pool.length := by
        obtain ⟨e, he, _, _⟩ := get_some hk
        exact (List.getElem?_eq_some_iff.mp he).1
      have := hu.1 k (List.mem_range.mpr hlt)
      simp only [hk, Bool.or_eq_true, beq_iff_eq, Bool.not_eq_true'] at this
      rcases this with h1 | h1
      · exact absurd h1 hki
      · exact h1
    · have := hu.2 kv hkv
      simpa using this

/-- one step of a disciplined history: what is still live afterwards, and the memo table, read the same -/
theorem step_disciplined (grow : Nat → Nat) {s : St} {top : Nat → Nat} (inv : Inv s top) (op : Op)
    (hd : ∀ i d, op = Op.setReaderPos i d → unshared s i = true) :
    (∀ (k : Nat) (e e' : Entry), s.pool[k]? = some e → (step grow s op).1.pool[k]? = some e' → e'.live = true →
      render (step grow s op).1 e.h = render s e.h) ∧
    (∀ kv ∈ s.memo, render (step grow s op).1 kv.2 = render s kv.2) := by
  refine ⟨fun k e e' hk hk' hl' => step_render grow inv op (Or.inl ⟨e, List.mem_of_getElem? hk, rfl⟩) fun i d h eq hg => ?_,
    fun kv hkv => step_render grow inv op (Or.inr ⟨kv, hkv, rfl⟩) fun i d h eq hg => ?_⟩
  · subst eq
    obtain ⟨h0, hg0, hp, _⟩ := unshared_spec (hd i d rfl)
    obtain rfl : h0 = h := Option.some.inj (hg0.symm.trans hg)
    -- an entry that is live afterwards was live before, and it is not the trimmed one, which the step kills
    obtain ⟨e'', he'', _, hlive⟩ := (step_any grow inv (Op.setReaderPos i d)).ext.pool k e hk
    obtain rfl : e'' = e' := Option.some.inj (he''.symm.trans hk')
    have hgk : s.get k = some e.h := by simp [St.get, hk, hlive hl']
    by_cases hki : k = i
    · subst hki
      have eh := Option.some.inj (hgk.symm.trans hg)
      subst eh
      by_cases hn : e.h = Handle.nil
      · rw [hn]; rfl
      · exfalso
        have hpool : (setRP d s e.h).1.pool = s.pool := by rw [(setRP_shape d inv e.h).2.2.2.2]
        simp only [step, hg, if_neg hn, St.push, St.kill, hpool] at hk'
        rw [List.getElem?_append_left (by simpa using (List.getElem?_eq_some_iff.mp hk).1), List.getElem?_modify, hk] at hk'
        simp only [if_pos] at hk'
        obtain rfl : _ = e'' := Option.some.inj hk'
        cases hl'
    · exact hp k e.h hki hgk
  · subst eq
    obtain ⟨h0, hg0, _, hm⟩ := unshared_spec (hd i d rfl)
    obtain rfl : h0 = h := Option.some.inj (hg0.symm.trans hg)
    exact hm kv hkv

theorem run_disciplined (grow : Nat → Nat) (ops : List Op) :
    ∀ {s : St} {top : Nat → Nat}, Inv s top → Disciplined grow s ops →
      (∀ (k : Nat) (e e' : Entry), s.pool[k]? = some e → (run grow ops s).pool[k]? = some e' → e'.live = true →
        render (run grow ops s) e.h = render s e.h) ∧
      (∀ kv ∈ s.memo, render (run grow ops s) kv.2 = render s kv.2) := by
  induction ops with
  | nil => intro s top inv _; exact ⟨fun _ _ _ _ _ _ => rfl, fun _ _ => rfl⟩
  | cons op ops ih =>
    intro s top inv hd
    obtain ⟨⟨top1, inv1⟩, x1, _⟩ := step_any grow inv op
    obtain ⟨ih1, ih2⟩ := ih inv1 hd.2
    obtain ⟨_, x2⟩ := run_inv grow ops inv1
    have one := step_disciplined grow inv op hd.1
    refine ⟨fun k e e' hk hk' hl' => ?_, fun kv hkv => ?_⟩
    · rw [run_cons] at hk' ⊢
      obtain ⟨e1, he1, hh1, _⟩ := x1.pool k e hk
      obtain ⟨e2, he2, _, hl2⟩ := x2.pool k e1 he1
      rw [he2] at hk'; cases hk'
      rw [← hh1, ih1 k e1 e' he1 he2 hl', hh1]
      exact one.1 k e e1 hk he1 (hl2 hl')
    · rw [run_cons]
      obtain ⟨l, hl, _⟩ := x1.memo
      rw [ih2 kv (by rw [hl]; exact List.mem_append_right _ hkv)]
      exact one.2 kv hkv

def TraceOK (s : St) (T : Trace) : Prop := ∀ p ∈ T, Held s p.1 ∧ render s p.1 = p.2

theorem traceStep_ok (grow : Nat → Nat) {s : St} {top : Nat → Nat} (inv : Inv s top) (op : Op) (hop : op.isTrim = false)
    {T : Trace} (ht : TraceOK s T) : TraceOK (traceStep grow (s, T) op).1 (traceStep grow (s, T) op).2 := by
  obtain ⟨_, x1, _⟩ := step_any grow inv op
  have hold : ∀ p ∈ T, Held (step grow s op).1 p.1 ∧ render (step grow s op).1 p.1 = p.2 := by
    intro p hp
    obtain ⟨h1, h2⟩ := ht p hp
    exact ⟨h1.ext x1, by rw [step_frame grow inv op hop h1]; exact h2⟩
  unfold traceStep
  simp only
  split
  · rename_i hlt
    intro p hp
    rcases List.mem_append.mp hp with h | h
    · exact hold p h
    · simp only [List.mem_singleton] at h
      subst h
      refine ⟨Or.inl ?_, rfl⟩
      cases hl : (step grow s op).1.pool.getLast? with
      | none =>
        rw [List.getLast?_eq_none_iff] at hl
        rw [hl] at hlt; simp at hlt
      | some e => exact ⟨e, List.mem_of_getLast? hl, by simp⟩
  · exact hold

theorem traceStep_fst (grow : Nat → Nat) (p : St × Trace) (op : Op) : (traceStep grow p op).1 = (step grow p.1 op).1 := by
  unfold traceStep; simp only; split <;> rfl

theorem runTrace_ok (grow : Nat → Nat) (ops : List Op) (hops : ∀ op ∈ ops, op.isTrim = false) {s : St} {top : Nat → Nat}
    {T : Trace} (inv : Inv s top) (ht : TraceOK s T) :
    TraceOK (runTrace grow ops (s, T)).1 (runTrace grow ops (s, T)).2 :=
  (List.foldlRecOn ops _ (motive := fun (p : St × Trace) => (∃ top', Inv p.1 top') ∧ TraceOK p.1 p.2) ⟨⟨top, inv⟩, ht⟩
    fun p ⟨⟨_, inv'⟩, t⟩ op hop =>
      ⟨traceStep_fst grow p op ▸ (step_any grow inv' op).inv, traceStep_ok grow inv' op (hops op hop) t⟩).2

theorem memoStore_success (grow : Nat → Nat) (s : St) (key i : Nat)
    (hst : (step grow s (Op.memoStore key i)).2 = Out.none) :
    ∃ h, (step grow s (Op.memoStore key i)).1 =
      ({ (s.consume i h) with memo := (key, h.clip) :: (s.consume i h).memo } : St).push h.clip := by
  simp only [step, doMemoStore] at hst ⊢
  cases hg : s.get i with
  | none => rw [hg] at hst; simp at hst
  | some h =>
    rw [hg] at hst
    simp only at hst ⊢
    split at hst
    · simp at hst
    · rename_i hany
      rw [if_neg hany]
      exact ⟨h, by simp⟩

theorem memo_stable (grow : Nat → Nat) {s : St} {top : Nat → Nat} (inv : Inv s top) (key i : Nat) (ops : List Op)
    (hops : ∀ op ∈ ops, op.isTrim = false) (hst : (step grow s (Op.memoStore key i)).2 = Out.none) :
    ∃ h, (step grow s (Op.memoStore key i)).1.pool.getLast? = some ⟨h, true⟩ ∧
      (step grow (run grow ops (step grow s (Op.memoStore key i)).1) (Op.memoHit key)).1.pool.getLast? = some ⟨h, true⟩ ∧
      (step grow (run grow ops (step grow s (Op.memoStore key i)).1) (Op.memoHit key)).2 = Out.none ∧
      render (step grow (run grow ops (step grow s (Op.memoStore key i)).1) (Op.memoHit key)).1 h =
        render (step grow s (Op.memoStore key i)).1 h := by
  obtain ⟨⟨top1, inv1⟩, _, _⟩ := step_any grow inv (Op.memoStore key i)
  obtain ⟨h0, heq⟩ := memoStore_success grow s key i hst
  generalize (step grow s (Op.memoStore key i)).1 = s1 at inv1 heq ⊢
  obtain ⟨_, x2⟩ := run_inv grow ops inv1
  have hmem : (key, h0.clip) ∈ s1.memo := by rw [heq]; simp [St.push]
  have hlast : s1.pool.getLast? = some ⟨h0.clip, true⟩ := by rw [heq]; simp [St.push]
  have hfr := run_frame grow ops hops inv1 (h := h0.clip) (Or.inr ⟨(key, h0.clip), hmem, rfl⟩)
  obtain ⟨l, hl, hfresh⟩ := x2.memo
  have hhead : s1.memo.find? (fun kv => kv.1 == key) = some (key, h0.clip) := by rw [heq]; simp [St.push]
  have hfind : (run grow ops s1).memo.find? (fun kv => kv.1 == key) = some (key, h0.clip) := by
    rw [hl, List.find?_append, List.find?_eq_none.mpr fun kv hkv => by simpa using hfresh kv hkv (key, h0.clip) hmem]
    exact hhead
  refine ⟨h0.clip, hlast, ?_, ?_, ?_⟩
  · simp [step, hfind, St.push]
  · simp [step, hfind]
  · simp only [step, hfind]
    exact hfr

theorem drop_last {α : Type} (l : List α) (n : Nat) (hne : l ≠ []) (h : l.length = n + 1) :
    l.drop n = [l.getLast hne] := by
  rw [List.drop_eq_getElem_cons (by omega), List.drop_of_length_le (by omega), List.getLast_eq_getElem]
  simp only [h, Nat.add_sub_cancel]

theorem traceStep_complete (grow : Nat → Nat) {s : St} {top : Nat → Nat} {T : Trace} (inv : Inv s top) (op : Op)
    (hT : T.map (·.1) = s.pool.map (·.h)) :
    (traceStep grow (s, T) op).2.map (·.1) = (traceStep grow (s, T) op).1.pool.map (·.h) := by
  obtain ⟨_, x1, hlen⟩ := step_any grow inv op
  -- the step keeps the handles of the old pool entries, and adds at most one entry at the end
  have hpre : ((step grow s op).1.pool.map (·.h)).take s.pool.length = s.pool.map (·.h) := by
    apply List.ext_getElem?
    intro k
    simp only [List.getElem?_take, List.getElem?_map]
    by_cases hk : k < s.pool.length
    · obtain ⟨e', he', hh', _⟩ := x1.pool k s.pool[k] (by simp [hk])
      simp [hk, he', hh']
    · simp [hk]
  unfold traceStep
  simp only
  rcases hlen with hl | hl
  · rw [if_neg (by omega)]
    simp only
    rw [hT, ← hpre, List.take_of_length_le (by simp [hl])]
  · rw [if_pos (by omega)]
    simp only [List.map_append, List.map_cons, List.map_nil]
    rw [hT, ← hpre]
    have hne : (step grow s op).1.pool ≠ [] := by
      intro h; rw [h] at hl; simp at hl
    rw [List.getLast?_eq_some_getLast hne]
    simp only [Option.map_some, Option.getD_some]
    conv => rhs; rw [← List.take_append_drop s.pool.length ((step grow s op).1.pool.map (·.h))]
    congr 1
    rw [← List.map_drop, drop_last _ _ hne hl]
    rfl

theorem runTrace_complete (grow : Nat → Nat) (ops : List Op) {s : St} {top : Nat → Nat} {T : Trace} (inv : Inv s top)
    (hT : T.map (·.1) = s.pool.map (·.h)) :
    (runTrace grow ops (s, T)).2.map (·.1) = (runTrace grow ops (s, T)).1.pool.map (·.h) :=
  (List.foldlRecOn ops _
    (motive := fun (p : St × Trace) => (∃ top', Inv p.1 top') ∧ p.2.map (·.1) = p.1.pool.map (·.h)) ⟨⟨top, inv⟩, hT⟩
    fun p ⟨⟨_, inv'⟩, t⟩ op _ =>
      ⟨traceStep_fst grow p op ▸ (step_any grow inv' op).inv, traceStep_complete grow inv' op t⟩).2

end PV.Slice
