/-
  C16, the converse — INVERSION: every refined derivation (`DerivesW`, Proofs/J16AccSound.lean) of the closed
  grammar `Gjson` spells a document of the accepted language `AccDoc` (Spec/J16AccLang.lean) and IS that document's
  tree:

    `jR_closed`   the predicate "`x` is the tree of an accepted document whose rendering stands at `p`" is closed
                  under the body of the `value` rule — one finite case analysis: the seven alternatives, the
                  terminals through their byte specifications (C08: `c08_spec`, the iffs of the number, word and
                  rune terminals; Proofs/J16AccStr.lean for strings), LeftTrim through `skipWhitespaces_spec`
                  (mode WsSpacesNl: the run of space / tab / LF / FF; mode WsSpaces: NO error means no LF / FF in
                  the run), SepBy through its chain;
    `root_inv`    a derivation of `Sentence(Trim(value))` at the start of the file: the file's data is
                  `lead ++ d.render ++ trail` and the tree is `Sentence[rootTree …, EOF]`.
-/
import ParsleyVerif.Proofs.J16AccSound
import ParsleyVerif.Proofs.J16AccFwd
namespace PV.J16Acc
open PV PV.Text PV.J16

/-- the bytes `w` stand at the positions `[p, q)` of the file.  The end `q` is carried along so that the pieces of a
    derivation, each of which starts where the node before it ends, compose without position arithmetic. -/
def Rd (f : File) (p : Nat) (w : Bytes) (q : Nat) : Prop := InFile f p ∧ q = p + w.length ∧ rest f p = w ++ rest f q

theorem Rd.of_split {f : File} {p : Nat} {w t : Bytes} (hin : InFile f p) (h : rest f p = w ++ t) :
    Rd f p w (p + w.length) :=
  ⟨hin, rfl, by rw [rest_advance hin, h, List.drop_left]⟩

theorem Rd.inFile_end {f : File} {p q : Nat} {w : Bytes} (h : Rd f p w q) : InFile f q := by
  obtain ⟨hin, rfl, hr⟩ := h
  exact inFile_advance hin (by rw [hr]; simp)

theorem Rd.nil {f : File} {p : Nat} (hin : InFile f p) : Rd f p [] p := ⟨hin, rfl, rfl⟩

theorem Rd.trans {f : File} {p q r : Nat} {w w' : Bytes} (h1 : Rd f p w q) (h2 : Rd f q w' r) : Rd f p (w ++ w') r := by
  obtain ⟨hin, rfl, hr1⟩ := h1
  obtain ⟨_, rfl, hr2⟩ := h2
  exact ⟨hin, by rw [List.length_append, Nat.add_assoc], by rw [hr1, hr2, List.append_assoc]⟩

theorem Rd.bytes {f : File} {p q : Nat} {w w' : Bytes} (h : Rd f p w q) (hw : w = w') : Rd f p w' q := hw ▸ h

theorem dropWhile_stop (l : Bytes) : Stop (l.dropWhile isWs) := dropWhile_isWs_head l

section
variable {f : File} (hoff : 1 ≤ f.offset)
include hoff

theorem ws_inv_nl {p : Nat} (hin : InFile f p) :
    ∃ w, WsNlF w ∧ (skipWhitespaces f p .spacesNl).1 = p + w.length ∧ Rd f p w (p + w.length) := by
  obtain ⟨w, l, hw, _, hr, _, _, hs⟩ := ws_split hoff hin .spacesNl
  exact ⟨w, fun b hb => (isWs_iff _).mp (hw b hb), congrArg Prod.fst hs, Rd.of_split hin hr⟩

/-- mode WsSpaces reports no error: the run holds no line break -/
theorem ws_inv_sp {p : Nat} (hin : InFile f p) (h : (skipWhitespaces f p .spaces).2 = none) :
    ∃ w, WsSp w ∧ (skipWhitespaces f p .spaces).1 = p + w.length ∧ Rd f p w (p + w.length) := by
  obtain ⟨w, l, hw, hl, hr, _, _, hs⟩ := ws_split hoff hin .spaces
  refine ⟨w, ?_, congrArg Prod.fst hs, Rd.of_split hin hr⟩
  rw [hs, hr] at h
  simp only [wsVerdict, firstBreak_append w l hw hl] at h
  have hfb : firstBreak w = none := by
    cases hb : firstBreak w with
    | none => rfl
    | some i => simp [hb] at h
  intro b hb
  have h1 := (isWs_iff _).mp (hw b hb)
  have h2 := (firstBreak_eq_none_iff hw).mp hfb b hb
  rw [← Bool.not_eq_true, isBreak_iff] at h2
  omega

end

section
variable {cfg : Cfg} {R : Nat → Nat → Node → Prop} (hoff : 1 ≤ cfg.file.offset)

theorem rune_inv {c : Nat} (hc : c < 0x80) {p : Nat} {x : Node} (hin : InFile cfg.file p)
    (h : DerivesW cfg R (Gjson.rn c) p x) : x = runeLeaf c p ∧ Rd cfg.file p [c] (p + 1) := by
  obtain ⟨hh, rfl⟩ := (rune_node_iff cfg.params cfg.file p c _ x hin hc).mp h.term_inv
  have henc : Utf8.encodeRune c = [c] := by unfold Utf8.encodeRune; rw [if_pos hc]
  refine ⟨by rw [henc]; rfl, ?_⟩
  cases hr : rest cfg.file p with
  | nil => rw [hr] at hh; cases hh
  | cons b t =>
    rw [hr] at hh
    simp only [List.head?_cons, Option.some.injEq] at hh
    subst hh
    exact Rd.of_split (w := [b]) hin hr

include hoff

theorem sep_inv {c : Nat} (hc : c < 0x80) {p : Nat} {x : Node} (hin : InFile cfg.file p)
    (h : DerivesW cfg R (.ltrim (Gjson.rn c) .spaces) p x) :
    ∃ w, WsSp w ∧ x = runeLeaf c (p + w.length) ∧ Rd cfg.file p (w ++ [c]) (p + w.length + 1) := by
  obtain ⟨hws, hd⟩ := h.ltrim_inv
  obtain ⟨w, hw, hp, hrd⟩ := ws_inv_sp hoff hin hws
  rw [hp] at hd
  obtain ⟨hx, hr⟩ := rune_inv hc hrd.inFile_end hd
  exact ⟨w, hw, hx, hrd.trans hr⟩

theorem closer_inv {c : Nat} (hc : c < 0x80) {p : Nat} {x : Node} (hin : InFile cfg.file p)
    (h : DerivesW cfg R (.ltrim (Gjson.rn c) .spacesNl) p x) :
    ∃ w, WsNlF w ∧ x = runeLeaf c (p + w.length) ∧ Rd cfg.file p (w ++ [c]) (p + w.length + 1) := by
  obtain ⟨_, hd⟩ := h.ltrim_inv
  obtain ⟨w, hw, hp, hrd⟩ := ws_inv_nl hoff hin
  rw [hp] at hd
  obtain ⟨hx, hr⟩ := rune_inv hc hrd.inFile_end hd
  exact ⟨w, hw, hx, hrd.trans hr⟩

omit hoff

theorem string_inv {p : Nat} {x : Node} (hin : InFile cfg.file p) (h : DerivesW cfg R (.term (.string false)) p x) :
    ∃ k kv, IsStrBody k kv ∧ x = .term strTok (.str kv) p (p + (strLex k).length) ∧
      Rd cfg.file p (strLex k) (p + (strLex k).length) := by
  have hp := h.term_inv
  rw [c08_spec cfg.params cfg.file (.string false) p hin True.intro True.intro] at hp
  obtain ⟨b, v, t, hb, hl, hx⟩ := stringSpec_inv (by simpa only [Terminal.spec] using hp)
  exact ⟨b, v, hb, hx, Rd.of_split hin hl⟩

theorem lit_inv {t : Terminal} (ht : t = .string false ∨ t = .float ∨ t = .integer ∨
      t = .bool [116, 114, 117, 101] [102, 97, 108, 115, 101] ∨ t = .nil [110, 117, 108, 108])
    {p : Nat} {x : Node} (hin : InFile cfg.file p) (h : DerivesW cfg R (.term t) p x) :
    ∃ d : AccDoc, d.OK cfg.params ∧ x = d.tree p ∧ Rd cfg.file p d.render x.rpos := by
  suffices ∃ a : AccLit, a.OK cfg.params ∧ x = .term a.tok a.val p (p + a.lex.length) ∧
      Rd cfg.file p a.lex (p + a.lex.length) by
    obtain ⟨a, ha, rfl, hr⟩ := this
    exact ⟨.lit a, ha, rfl, hr⟩
  rcases ht with rfl | rfl | rfl | rfl | rfl
  · obtain ⟨k, kv, hk, hx, hr⟩ := string_inv hin h
    exact ⟨.str k kv, hk, hx, hr⟩
  · have hp := h.term_inv
    rw [c08_spec cfg.params cfg.file .float p hin True.intro True.intro] at hp
    obtain ⟨lex, t, hl, h1, h2, hx⟩ := floatSpec_inv cfg.params (by simpa only [Terminal.spec] using hp)
    exact ⟨.flt lex, ⟨h1, h2⟩, hx, Rd.of_split hin hl⟩
  · have hp := h.term_inv
    rw [c08_spec cfg.params cfg.file .integer p hin True.intro True.intro] at hp
    obtain ⟨lex, t, hl, h1, h2, h3, hx⟩ := integerSpec_inv (by simpa only [Terminal.spec] using hp)
    exact ⟨.int lex, ⟨h1, h2, h3⟩, hx, Rd.of_split hin hl⟩
  · have hp := h.term_inv
    rw [c08_spec cfg.params cfg.file _ p hin bool_wf True.intro] at hp
    rcases (spec_bool_node cfg.params _ p _ _ x).mp hp with ⟨hw, hx⟩ | ⟨_, hw, hx⟩
    · obtain ⟨t, hl⟩ := wordAt_inv hw
      exact ⟨.bool true, trivial, by rw [hx, tok_bool]; rfl, Rd.of_split hin hl⟩
    · obtain ⟨t, hl⟩ := wordAt_inv hw
      exact ⟨.bool false, trivial, by rw [hx, tok_bool]; rfl, Rd.of_split hin hl⟩
  · have hp := h.term_inv
    rw [c08_spec cfg.params cfg.file _ p hin nil_wf True.intro] at hp
    obtain ⟨hw, hx⟩ := (spec_nil_node cfg.params _ p _ x).mp hp
    obtain ⟨t, hl⟩ := wordAt_inv hw
    exact ⟨.null, trivial, by rw [hx, tok_nil]; rfl, Rd.of_split hin hl⟩

end

def ValAt (cfg : Cfg) (p : Nat) (x : Node) : Prop :=
  InFile cfg.file p → ∃ d : AccDoc, d.OK cfg.params ∧ x = d.tree p ∧ Rd cfg.file p d.render x.rpos

def jR (cfg : Cfg) : Nat → Nat → Node → Prop
  | 0, p, x => ValAt cfg p x
  | _, _, _ => True

section
variable {cfg : Cfg} (hoff : 1 ≤ cfg.file.offset)
include hoff

theorem ltrim_value_inv {p : Nat} {x : Node} (hin : InFile cfg.file p)
    (h : DerivesW cfg (jR cfg) (.ltrim Gjson.value .spacesNl) p x) :
    ∃ (wb : Bytes) (d : AccDoc), WsNlF wb ∧ d.OK cfg.params ∧ x = d.tree (p + wb.length) ∧
      Rd cfg.file p (wb ++ d.render) x.rpos := by
  obtain ⟨_, hd⟩ := h.ltrim_inv
  obtain ⟨w, hw, hp, hrd⟩ := ws_inv_nl hoff hin
  rw [hp] at hd
  obtain ⟨d, hdok, hx, hr⟩ := hd.ref_inv hrd.inFile_end
  exact ⟨w, d, hw, hdok, hx, hrd.trans hr⟩

theorem kv_inv {p : Nat} {x : Node} (hin : InFile cfg.file p)
    (h : DerivesW cfg (jR cfg) (.ltrim Gjson.keyValue .spacesNl) p x) :
    ∃ (wb k kv wk wv : Bytes) (d : AccDoc), WsNlF wb ∧ IsStrBody k kv ∧ WsSp wk ∧ WsNlF wv ∧ d.OK cfg.params ∧
      x = accKvNode (strLex k).length kv wk wv d.render.length d.tree (p + wb.length) ∧
      Rd cfg.file p (wb ++ (strLex k ++ (wk ++ 58 :: (wv ++ d.render)))) x.rpos := by
  obtain ⟨_, hd⟩ := h.ltrim_inv
  obtain ⟨wb, hwb, hp, hrd⟩ := ws_inv_nl hoff hin
  rw [hp] at hd
  obtain ⟨x1, x2, x3, d1, d2, d3, rfl⟩ := hd.seqOf3_inv
  obtain ⟨k, kv, hk, rfl, hr1⟩ := string_inv hrd.inFile_end d1
  obtain ⟨wk, hwk, rfl, hr2⟩ := sep_inv hoff (c := 58) (by omega) hr1.inFile_end d2
  obtain ⟨wv, d, hwv, hdok, rfl, hr3⟩ := ltrim_value_inv hoff hr2.inFile_end d3
  refine ⟨wb, k, kv, wk, wv, d, hwb, hk, hwk, hwv, hdok, ?_, ?_⟩
  · rw [tree_rpos]; rfl
  · exact (hrd.trans (hr1.trans (hr2.trans hr3))).bytes (by simp)

theorem items_inv : ∀ (nodes : List Node) (depth : Nat) (n : Node), depth % 2 = 1 →
    DerivesSeqW cfg (jR cfg) elemsShape depth n.rpos nodes → nodes.length % 2 = 0 → InFile cfg.file n.rpos →
    ∃ r : AccItems, r.OK cfg.params ∧ nodes = r.moreNodes n.rpos ∧ Rd cfg.file n.rpos r.renderMore (lastRpos n nodes)
  | [], _, _, _, _, _, hin => ⟨.nil, trivial, rfl, Rd.nil hin⟩
  | [_], _, _, _, _, hlen, _ => by simp at hlen
  | c :: v :: rest, depth, n, hdep, h, hlen, hin => by
    cases h with
    | cons hl1 hc hrest =>
      cases hrest with
      | cons hl2 hv hrest2 =>
        rw [lookup_odd elemsShape _ _ rfl depth hdep] at hl1
        rw [lookup_even elemsShape _ _ rfl (depth + 1) (even_succ hdep)] at hl2
        cases hl1; cases hl2
        obtain ⟨wc, hwc, rfl, hr1⟩ := sep_inv hoff (c := 44) (by omega) hin hc
        obtain ⟨wb, d, hwb, hdok, rfl, hr2⟩ := ltrim_value_inv hoff hr1.inFile_end hv
        have hr12 := hr1.trans hr2
        obtain ⟨r, hrok, hnodes, hr3⟩ := items_inv rest (depth + 1 + 1) _ (odd_succ_succ hdep) hrest2
          (by simp only [List.length_cons] at hlen; omega) hr12.inFile_end
        refine ⟨.cons wc wb d r, ⟨hwc, hwb, hdok, hrok⟩, ?_, ?_⟩
        · simp only [AccItems.moreNodes]
          rw [hnodes, tree_rpos]
        · rw [lastRpos_cons, lastRpos_cons]
          exact (hr12.trans hr3).bytes (by simp [AccItems.renderMore])

theorem mems_inv : ∀ (nodes : List Node) (depth : Nat) (n : Node), depth % 2 = 1 →
    DerivesSeqW cfg (jR cfg) membersShape depth n.rpos nodes → nodes.length % 2 = 0 → InFile cfg.file n.rpos →
    ∃ r : AccMems, r.OK cfg.params ∧ nodes = r.moreNodes n.rpos ∧ Rd cfg.file n.rpos r.renderMore (lastRpos n nodes)
  | [], _, _, _, _, _, hin => ⟨.nil, trivial, rfl, Rd.nil hin⟩
  | [_], _, _, _, _, hlen, _ => by simp at hlen
  | c :: v :: rest, depth, n, hdep, h, hlen, hin => by
    cases h with
    | cons hl1 hc hrest =>
      cases hrest with
      | cons hl2 hv hrest2 =>
        rw [lookup_odd membersShape _ _ rfl depth hdep] at hl1
        rw [lookup_even membersShape _ _ rfl (depth + 1) (even_succ hdep)] at hl2
        cases hl1; cases hl2
        obtain ⟨wc, hwc, rfl, hr1⟩ := sep_inv hoff (c := 44) (by omega) hin hc
        obtain ⟨wb, k, kv, wk, wv, d, hwb, hk, hwk, hwv, hdok, rfl, hr2⟩ := kv_inv hoff hr1.inFile_end hv
        have hr12 := hr1.trans hr2
        obtain ⟨r, hrok, hnodes, hr3⟩ := mems_inv rest (depth + 1 + 1) _ (odd_succ_succ hdep) hrest2
          (by simp only [List.length_cons] at hlen; omega) hr12.inFile_end
        refine ⟨.cons wc wb k kv wk wv d r, ⟨hwc, hwb, hk, hwk, hwv, hdok, hrok⟩, ?_, ?_⟩
        · simp only [AccMems.moreNodes]
          rw [hnodes, accKvNode_rpos]
        · rw [lastRpos_cons, lastRpos_cons]
          exact (hr12.trans hr3).bytes (by simp [AccMems.renderMore])

end

section
variable {cfg : Cfg} (hoff : 1 ≤ cfg.file.offset)
include hoff

theorem array_inv {p : Nat} {x : Node} (hin : InFile cfg.file p) (h : DerivesW cfg (jR cfg) Gjson.array p x) :
    ∃ d : AccDoc, d.OK cfg.params ∧ x = d.tree p ∧ Rd cfg.file p d.render x.rpos := by
  obtain ⟨x1, x2, x3, d1, d2, d3, rfl⟩ := h.seqOf3_inv
  obtain ⟨rfl, hr1⟩ := rune_inv (c := 91) (by omega) hin d1
  obtain ⟨nodes, hseq, hlen, rfl⟩ := d2.seq_inv elems_shape
  cases nodes with
  | nil =>
    obtain ⟨close, hcl, rfl, hr3⟩ := closer_inv hoff (c := 93) (by omega) hr1.inFile_end d3
    exact ⟨.arr .nil close, ⟨trivial, hcl⟩, rfl, (hr1.trans hr3).bytes (by simp [AccDoc.render])⟩
  | cons n0 more =>
    cases hseq with
    | cons hl0 hn0 hmore =>
      rw [lookup_even elemsShape _ _ rfl 0 rfl] at hl0
      cases hl0
      obtain ⟨wb, d0, hwb, hd0, rfl, hr2⟩ := ltrim_value_inv hoff hr1.inFile_end hn0
      obtain ⟨r, hrok, rfl, hr3⟩ := items_inv hoff more 1 _ rfl hmore ((lenCheck_sep rfl _ _).1 hlen) hr2.inFile_end
      rw [handleResult_lastRpos elemsShape _ _ _ rfl] at d3 ⊢
      obtain ⟨close, hcl, rfl, hr4⟩ := closer_inv hoff (c := 93) (by omega) hr3.inFile_end d3
      refine ⟨.arr (.cons [] wb d0 r) close, ⟨⟨wsSp_nil, hwb, hd0, hrok⟩, hcl⟩, ?_,
        (hr1.trans (hr2.trans (hr3.trans hr4))).bytes (by simp [AccDoc.render])⟩
      rw [tree_rpos, items_last r _ _ (tree_rpos d0 _), tree_pos]
      rfl

theorem object_inv {p : Nat} {x : Node} (hin : InFile cfg.file p) (h : DerivesW cfg (jR cfg) Gjson.object p x) :
    ∃ d : AccDoc, d.OK cfg.params ∧ x = d.tree p ∧ Rd cfg.file p d.render x.rpos := by
  obtain ⟨x1, x2, x3, d1, d2, d3, rfl⟩ := h.seqOf3_inv
  obtain ⟨rfl, hr1⟩ := rune_inv (c := 123) (by omega) hin d1
  obtain ⟨nodes, hseq, hlen, rfl⟩ := d2.seq_inv members_shape
  cases nodes with
  | nil =>
    obtain ⟨close, hcl, rfl, hr3⟩ := closer_inv hoff (c := 125) (by omega) hr1.inFile_end d3
    exact ⟨.obj .nil close, ⟨trivial, hcl⟩, rfl, (hr1.trans hr3).bytes (by simp [AccDoc.render])⟩
  | cons n0 more =>
    cases hseq with
    | cons hl0 hn0 hmore =>
      rw [lookup_even membersShape _ _ rfl 0 rfl] at hl0
      cases hl0
      obtain ⟨wb, k, kv, wk, wv, d0, hwb, hk, hwk, hwv, hd0, rfl, hr2⟩ := kv_inv hoff hr1.inFile_end hn0
      obtain ⟨r, hrok, rfl, hr3⟩ := mems_inv hoff more 1 _ rfl hmore ((lenCheck_sep rfl _ _).1 hlen) hr2.inFile_end
      rw [handleResult_lastRpos membersShape _ _ _ rfl] at d3 ⊢
      obtain ⟨close, hcl, rfl, hr4⟩ := closer_inv hoff (c := 125) (by omega) hr3.inFile_end d3
      refine ⟨.obj (.cons [] wb k kv wk wv d0 r) close, ⟨⟨wsSp_nil, hwb, hk, hwk, hwv, hd0, hrok⟩, hcl⟩, ?_,
        (hr1.trans (hr2.trans (hr3.trans hr4))).bytes (by simp [AccDoc.render])⟩
      rw [accKvNode_rpos, mems_last r _ _ (accKvNode_rpos _ _ _ _ _ _ _)]
      rfl

theorem value_inv {p : Nat} {x : Node} (h : DerivesW cfg (jR cfg) Gjson.valueRule p x) : ValAt cfg p x := by
  intro hin
  obtain ⟨g, hm, dg⟩ := h.name_inv.choice_inv
  simp only [Gjson.alts, List.mem_cons, List.not_mem_nil, or_false] at hm
  rcases hm with rfl | rfl | rfl | rfl | rfl | rfl | rfl
  · exact lit_inv (.inl rfl) hin dg
  · exact lit_inv (.inr (.inl rfl)) hin dg
  · exact lit_inv (.inr (.inr (.inl rfl))) hin dg
  · exact array_inv hoff hin dg
  · exact object_inv hoff hin dg
  · exact lit_inv (.inr (.inr (.inr (.inl rfl)))) hin dg
  · exact lit_inv (.inr (.inr (.inr (.inr rfl)))) hin dg

theorem jR_closed (henv : cfg.env = Gjson.env) : ClosedW cfg (jR cfg) := by
  intro k g pos x hk h
  rw [henv] at hk
  match k, hk with
  | 0, hk =>
    simp only [Gjson.env, List.getElem?_cons_zero, Option.some.injEq] at hk
    subst hk
    exact value_inv hoff h
  | k + 1, _ => trivial

omit hoff in
theorem setRpos_nl {f : File} (hoff : 1 ≤ f.offset) (n : Node) (htn : IsTN n) (hin : InFile f n.rpos) :
    (setRposNode f .spacesNl n none).1 = bump (wsRun (rest f n.rpos)) n :=
  congrArg Prod.fst (setRposNode_nl f n htn hin hoff)

theorem root_inv {x : Node} (h : DerivesW cfg (jR cfg) Gjson.root (cfg.file.pos 0) x) :
    ∃ lead d trail, WsNlF lead ∧ WsNlF trail ∧ AccDoc.OK cfg.params d ∧ cfg.file.data = renderAcc lead d trail ∧
      x = sentenceNode (rootTree cfg.file.offset lead d trail) := by
  have hpos : cfg.file.pos 0 = cfg.file.offset := by simp [File.pos]
  rw [hpos] at h
  have hin0 : InFile cfg.file cfg.file.offset := ⟨Nat.le_refl _, by omega⟩
  obtain ⟨x1, x2, d1, d2, rfl⟩ := DerivesW.seqOf2_inv (o := { interp := .select 0 }) h
  obtain ⟨heof, rfl⟩ := d2.eof_inv
  obtain ⟨y, dy, rfl⟩ := d1.rtrim_inv
  obtain ⟨lead, d, hlead, hd, rfl, hr1⟩ := ltrim_value_inv hoff hin0 dy
  have hin1 := hr1.inFile_end
  rw [setRpos_nl hoff _ (tree_isTN d _) hin1] at heof ⊢
  obtain ⟨trail, l, htr, hl, hsplit, _, _, _⟩ := ws_split hoff hin1 .spacesNl
  have hr2 := Rd.of_split hin1 hsplit
  have hrun : wsRun (rest cfg.file (d.tree (cfg.file.offset + lead.length)).rpos) = trail.length :=
    ws_split_unique hsplit htr hl
  rw [hrun] at heof ⊢
  have hr := hr1.trans hr2
  rw [bump_rpos _ _ (tree_isTN d _)] at heof
  have hend := (isEOF_spec _ _ hr.inFile_end).1 heof
  refine ⟨lead, d, trail, hlead, fun b hb => (isWs_iff _).mp (htr b hb), hd, ?_, rfl⟩
  have hdata : rest cfg.file cfg.file.offset = cfg.file.data := by simp [rest]
  rw [← hdata, hr.2.2, hend]
  simp [renderAcc]

end

end PV.J16Acc
