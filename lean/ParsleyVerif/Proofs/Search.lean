import ParsleyVerif.Model.Search
namespace PV

/-- the loop invariant of the binary search: everything below `i` is false, `j` (if inside) is true -/
theorem goSearchLoop_spec (f : Nat → Bool) (n : Nat)
    (mono : ∀ a b, a ≤ b → b < n → f a = true → f b = true) :
    ∀ fuel i j, i ≤ j → j ≤ n → j - i ≤ fuel → (∀ k, k < i → f k = false) → (j < n → f j = true) →
      goSearchLoop f fuel i j ≤ n ∧ (∀ k, k < goSearchLoop f fuel i j → f k = false) ∧
      (goSearchLoop f fuel i j < n → f (goSearchLoop f fuel i j) = true) := by
  intro fuel
  induction fuel with
  | zero =>
    intro i j hij hjn hf hlo hhi
    obtain rfl : i = j := by omega
    exact ⟨hjn, hlo, hhi⟩
  | succ fuel ih =>
    intro i j hij hjn hf hlo hhi
    rw [goSearchLoop]
    split
    · have h1 : i ≤ (i + j) / 2 := by omega
      have h2 : (i + j) / 2 < j := by omega
      generalize (i + j) / 2 = mid at h1 h2 ⊢
      cases hfh : f mid with
      | false =>
        -- the midpoint is false, and so, the predicate being monotone, is everything below it
        simp only [hfh, Bool.not_false, ↓reduceIte]
        refine ih (mid + 1) j (by omega) hjn (by omega) (fun k hk => ?_) hhi
        cases hfk : f k with
        | false => rfl
        | true => rw [← hfh]; exact (mono k mid (by omega) (by omega) hfk).symm
      | true =>
        simp only [hfh, Bool.not_true, Bool.false_eq_true, ↓reduceIte]
        exact ih i mid h1 (by omega) (by omega) hlo (fun _ => hfh)
    · obtain rfl : i = j := by omega
      exact ⟨hjn, hlo, hhi⟩

/-- sort.Search returns the least index at which a monotone predicate holds (or n) -/
theorem goSearch_spec (f : Nat → Bool) (n : Nat)
    (mono : ∀ a b, a ≤ b → b < n → f a = true → f b = true) :
    goSearch n f ≤ n ∧ (∀ k, k < goSearch n f → f k = false) ∧ (goSearch n f < n → f (goSearch n f) = true) :=
  goSearchLoop_spec f n mono (n + 1) 0 n (Nat.zero_le _) (Nat.le_refl _) (by omega) (fun k hk => by omega)
    (fun h => by omega)

theorem goSearch_unique (f : Nat → Bool) (n r : Nat)
    (mono : ∀ a b, a ≤ b → b < n → f a = true → f b = true)
    (hr : r ≤ n) (hlo : ∀ k, k < r → f k = false) (hhi : r < n → f r = true) :
    goSearch n f = r := by
  obtain ⟨h1, h2, h3⟩ := goSearch_spec f n mono
  rcases Nat.lt_trichotomy (goSearch n f) r with hlt | heq | hgt
  · have a := hlo _ hlt
    rw [h3 (by omega)] at a
    cases a
  · exact heq
  · have a := h2 _ hgt
    rw [hhi (by omega)] at a
    cases a

end PV
