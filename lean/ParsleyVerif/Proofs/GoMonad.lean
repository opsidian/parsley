/-
  The calculus of the translation monad `CorePrelude.M σ` (state, panic, out of fuel), for every state type `σ`: what a
  `do` block of a translated function does when it is applied to a state.  The ties of the parser core (σ := the
  translated parsley.Context), of the terminals and of the tree functions read translated bodies through these.
-/
import ParsleyVerif.Generated.CorePrelude
namespace PV.GoM
open PV.CorePrelude

theorem bind_apply {σ α β : Type} (x : M σ α) (f : α → M σ β) (s : σ) :
    (x >>= f) s = match x s with
      | .ok a s' => f a s'
      | .panic => .panic
      | .nofuel => .nofuel := by
  show M.bind x f s = _
  unfold M.bind
  cases x s <;> rfl

theorem pure_apply {σ α : Type} (a : α) (s : σ) : (pure a : M σ α) s = .ok a s := rfl

theorem bind_ok {σ α β : Type} {x : M σ α} {f : α → M σ β} {s s' : σ} {a : α} (h : x s = .ok a s') :
    (x >>= f) s = f a s' := by
  rw [bind_apply, h]

theorem bind_nofuel {σ α β : Type} {x : M σ α} {f : α → M σ β} {s : σ} (h : x s = .nofuel) : (x >>= f) s = .nofuel := by
  rw [bind_apply, h]

theorem bind_eq_ok {σ α β : Type} {x : M σ α} {f : α → M σ β} {s s' : σ} {b : β} (h : (x >>= f) s = .ok b s') :
    ∃ a s1, x s = .ok a s1 ∧ f a s1 = .ok b s' := by
  rw [bind_apply] at h
  cases hx : x s with
  | ok a s1 => rw [hx] at h; exact ⟨a, s1, rfl, h⟩
  | panic | nofuel => rw [hx] at h; cases h

theorem pure_bind {σ α β : Type} (a : α) (f : α → M σ β) : (pure a >>= f) = f a := rfl

theorem bind_bind {σ α β γ : Type} (x : M σ α) (f : α → M σ β) (g : β → M σ γ) :
    (x >>= f) >>= g = x >>= fun a => f a >>= g := by
  funext s
  simp only [bind_apply]
  cases x s <;> rfl

theorem ite_apply {σ α : Type} (c : Prop) (inst : Decidable c) (a b : M σ α) (s : σ) :
    (@ite (M σ α) c inst a b) s = @ite (CorePrelude.Res σ α) c inst (a s) (b s) := by
  split <;> rfl

theorem read_apply {σ α : Type} (f : σ → α) (s : σ) : Go.read f s = .ok (f s) s := rfl
theorem modify_apply {σ : Type} (f : σ → σ) (s : σ) : Go.modify f s = .ok () (f s) := rfl
theorem panic_apply {σ α : Type} (s : σ) : (Go.panic : M σ α) s = .panic := rfl
theorem outOfFuel_apply {σ α : Type} (s : σ) : (Go.outOfFuel : M σ α) s = .nofuel := rfl

/-! conditional rewrite rules that decide a generated comparison from the facts in the context, so that the proofs do not
    depend on how the Go source spells a comparison (`a >= b` or `b <= a`): `simp (disch := omega) only [dec_true, dec_false]` -/
theorem dec_true (p : Prop) (inst : Decidable p) (h : p) : @decide p inst = true := by simp [h]
theorem dec_false (p : Prop) (inst : Decidable p) (h : ¬ p) : @decide p inst = false := by simp [h]

end PV.GoM
