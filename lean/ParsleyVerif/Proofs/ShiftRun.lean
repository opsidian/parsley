/-
  C12: the parser core commutes with the shift of the file.
  The shift is a transport (Proofs/RunComm) that moves positions only: `n ↦ n + b` is strictly monotone, the shift
  maps of Spec/Shift add `b` to every stored position, the shifted file answers at the shifted position what the
  file answers (Proofs/ShiftPrims), and `St.shift` commutes with the operations on the context state.
-/
import ParsleyVerif.Proofs.ShiftPrims
import ParsleyVerif.Proofs.RunComm
namespace PV
open PV.Text

theorem beq_add_right (a c b : Nat) : (a + b == c + b) = (a == c) := by
  rw [Bool.eq_iff_iff]; simp

@[simp] theorem Node.shiftList_eq (b : Nat) (l : List Node) : Node.shiftList b l = l.map (Node.shift b) := by
  induction l with
  | nil => rfl
  | cons n ns ih => simp [Node.shiftList, ih]

def shiftPos (b : Nat) : PosTr := ⟨(· + b), Node.shift b, Res.shift b, Option.map (Err.shift b)⟩

theorem shiftPos_ok (b : Nat) : (shiftPos b).OK where
  pos_lt _ _ := Nat.add_lt_add_iff_right
  node_term _ _ _ _ := rfl
  node_empty _ := rfl
  node_eof _ := rfl
  node_nt _ cs _ _ _ := congrArg (Node.nt _ · _ _ _) (Node.shiftList_eq b cs)
  res_nil := rfl
  res_one _ := rfl
  res_list _ := rfl
  oerr_none := rfl
  oerr_some _ := rfl

@[simp] theorem Res.shift_alts (b : Nat) (r : Res) : (r.shift b).alts = r.alts.map (Node.shift b) :=
  (shiftPos_ok b).res_alts r
@[simp] theorem Res.shift_isNil (b : Nat) (r : Res) : (r.shift b).isNil = r.isNil :=
  (shiftPos_ok b).res_isNil r

@[simp] theorem Err.shift_pos (b : Nat) (e : Err) : (e.shift b).pos = e.pos + b := rfl
@[simp] theorem Err.shift_kind (b : Nat) (e : Err) : (e.shift b).kind = e.kind := rfl

@[simp] theorem St.shift_calls (b : Nat) (st : St) : (st.shift b).calls = st.calls := rfl
@[simp] theorem St.shift_cache (b : Nat) (st : St) : (st.shift b).cache = st.cache.map (CacheEntry.shift b) := rfl
@[simp] theorem St.shift_ctxErr (b : Nat) (st : St) : (st.shift b).ctxErr = st.ctxErr.map (Err.shift b) := rfl
@[simp] theorem St.shift_active (b : Nat) (st : St) : (st.shift b).active = st.active.map (fun a => (a.1, a.2 + b)) := rfl
@[simp] theorem St.shift_log (b : Nat) (st : St) : (st.shift b).log = st.log.map (Ev.shift b) := rfl

@[simp] theorem shiftCfg_file (b : Nat) (cfg : Cfg) : (shiftCfg b cfg).file = shiftFile b cfg.file := rfl
@[simp] theorem shiftCfg_env (b : Nat) (cfg : Cfg) : (shiftCfg b cfg).env = cfg.env := rfl
@[simp] theorem shiftCfg_params (b : Nat) (cfg : Cfg) : (shiftCfg b cfg).params = cfg.params := rfl
@[simp] theorem shiftCfg_ghost (b : Nat) (cfg : Cfg) : (shiftCfg b cfg).ghost = cfg.ghost := rfl
@[simp] theorem shiftCfg_maxCalls (b : Nat) (cfg : Cfg) : (shiftCfg b cfg).maxCalls = cfg.maxCalls := rfl

theorem regCall_shift (b : Nat) (st : St) : (st.shift b).regCall = st.regCall.shift b := rfl

theorem logEv_shift' (b : Nat) (cfg cfg' : Cfg) (hg : cfg'.ghost = cfg.ghost) (st : St) (e : Ev) :
    (st.shift b).logEv cfg' (e.shift b) = (st.logEv cfg e).shift b := by
  unfold St.logEv
  rw [hg]
  split <;> rfl

theorem logEv_shift (b : Nat) (cfg : Cfg) (st : St) (e : Ev) :
    (st.shift b).logEv (shiftCfg b cfg) (e.shift b) = (st.logEv cfg e).shift b :=
  logEv_shift' b cfg _ rfl st e

theorem setError_shift (b : Nat) (st : St) (e : Option Err) :
    (st.shift b).setError (e.map (Err.shift b)) = (st.setError e).shift b := by
  rcases e with _ | e
  · rfl
  rcases st with ⟨cache, _ | c, calls, active, log⟩
  · rfl
  simp only [St.setError, St.shift, Option.map_some, Err.shift_pos, ge_iff_le, Nat.add_le_add_iff_right]
  split <;> rfl

theorem cacheGet_shift (b : Nat) (c : List CacheEntry) (idx pos : Nat) (ctx : Ctx) :
    cacheGet (c.map (CacheEntry.shift b)) idx (pos + b) ctx = (cacheGet c idx pos ctx).map (CacheEntry.shift b) := by
  unfold cacheGet
  rw [List.find?_map]
  simp only [Function.comp_def, CacheEntry.shift, beq_add_right]
  cases c.find? (fun e => e.idx == idx && e.pos == pos) with
  | none => rfl
  | some e => simp only [Option.map_some, CacheEntry.shift, apply_ite (Option.map (CacheEntry.shift b)), Option.map_none]

theorem cacheSave_shift (b : Nat) (c : List CacheEntry) (e : CacheEntry) :
    cacheSave (c.map (CacheEntry.shift b)) (e.shift b) = (cacheSave c e).map (CacheEntry.shift b) := by
  simp only [cacheSave, List.map_cons, List.filter_map, Function.comp_def]
  simp only [CacheEntry.shift, beq_add_right]

@[simp] theorem SeqSt.shift_cp (b : Nat) (ss : SeqSt) : (ss.shift b).cp = ss.cp := rfl
@[simp] theorem SeqSt.shift_result (b : Nat) (ss : SeqSt) : (ss.shift b).result = ss.result.shift b := rfl
@[simp] theorem SeqSt.shift_err (b : Nat) (ss : SeqSt) : (ss.shift b).err = ss.err.map (Err.shift b) := rfl

@[simp] theorem AltSt.shift_cp (b : Nat) (a : AltSt) : (a.shift b).cp = a.cp := rfl
@[simp] theorem AltSt.shift_res (b : Nat) (a : AltSt) : (a.shift b).res = a.res.shift b := rfl
@[simp] theorem AltSt.shift_err (b : Nat) (a : AltSt) : (a.shift b).err = a.err.map (Err.shift b) := rfl
@[simp] theorem AltSt.shift_nf (b : Nat) (a : AltSt) : (a.shift b).nf = a.nf.map (Err.shift b) := rfl

/-- SkipWhitespaces commutes with the shift of this file by `b` (true when `1 ≤ f.offset`, and when `b = 0`) -/
def WsShift (b : Nat) (f : File) : Prop :=
  ∀ pos m, skipWhitespaces (shiftFile b f) (pos + b) m = shiftWs b (skipWhitespaces f pos m)

theorem wsShift_of_offset (b : Nat) (f : File) (hoff : 1 ≤ f.offset) : WsShift b f :=
  fun pos m => skipWhitespaces_shift b f pos m hoff

/-- `cfg'` is `cfg` on the shifted file (whatever its `fileSet` is: `run` never reads it) -/
structure CfgShift (b : Nat) (cfg cfg' : Cfg) : Prop where
  file : cfg'.file = shiftFile b cfg.file
  env : cfg'.env = cfg.env
  params : cfg'.params = cfg.params
  ghost : cfg'.ghost = cfg.ghost
  maxCalls : cfg'.maxCalls = cfg.maxCalls

theorem memoEnter_shift {b : Nat} {cfg cfg' : Cfg} (hc : CfgShift b cfg cfg') (idx pos : Nat) (st : St) :
    memoEnter cfg' idx (pos + b) (st.shift b) = (memoEnter cfg idx pos st).shift b := by
  unfold memoEnter
  rw [St.shift_active, List.filter_map, List.length_map]
  simp only [Function.comp_def, beq_add_right]
  exact logEv_shift' b cfg cfg' hc.ghost { st with active := (idx, pos) :: st.active } (.body idx pos _)

theorem memoLeave_shift (b : Nat) (idx pos : Nat) (ctx : Ctx) (st : St) (o : Out) (st2 : St) :
    memoLeave idx (pos + b) ctx (st.shift b) (o.shift b) (st2.shift b) = (memoLeave idx pos ctx st o st2).shift b := by
  have := cacheSave_shift b st2.cache ⟨idx, pos, ctx.filter o.cp, o.cp, o.err, o.res⟩
  simp only [memoLeave, St.shift, St.mk.injEq, and_true]
  exact this

theorem shiftPos_file (b : Nat) {f : File} (hws : WsShift b f) (pr : Params) :
    (shiftPos b).FileOK f (shiftFile b f) pr pr where
  parse t p := (Terminal.parse_shift pr b f t p).trans (by cases Terminal.parse pr f t p <;> rfl)
  isEOF := isEOF_shift b f
  remaining := remaining_shift b f
  skipWs := hws

def shiftTr (b : Nat) : Tr := { shiftPos b, IdxTr.keep with st := St.shift b }

theorem shiftTr_ok {b : Nat} {cfg cfg' : Cfg} (hc : CfgShift b cfg cfg') (hws : WsShift b cfg.file) :
    (shiftTr b).OK cfg cfg' where
  pos := shiftPos_ok b
  idx := IdxTr.keep_ok
  file := hc.file ▸ hc.params ▸ shiftPos_file b hws cfg.params
  env k := by rw [hc.env]; cases cfg.env[k]? <;> rfl
  maxCalls := hc.maxCalls
  st_calls _ := rfl
  st_regCall _ := rfl
  st_setError := setError_shift b
  st_logEv st e := by have := logEv_shift' b cfg cfg' hc.ghost st e; cases e <;> exact this
  st_cacheGet st := cacheGet_shift b st.cache
  st_memoEnter := memoEnter_shift hc
  st_memoLeave := memoLeave_shift b

theorem run_shift' (b : Nat) (cfg cfg' : Cfg) (hc : CfgShift b cfg cfg') (hws : WsShift b cfg.file) :
    ∀ fuel g ctx pos st,
      run cfg' fuel g ctx (pos + b) (St.shift b st) = (run cfg fuel g ctx pos st).map (shiftOS b) :=
  (shiftTr_ok hc hws).run_comm

theorem run_shift (b : Nat) (cfg : Cfg) (hws : WsShift b cfg.file) :
    ∀ fuel g ctx pos st,
      run (shiftCfg b cfg) fuel g ctx (pos + b) (St.shift b st) = (run cfg fuel g ctx pos st).map (shiftOS b) :=
  run_shift' b cfg _ ⟨rfl, rfl, rfl, rfl, rfl⟩ hws

end PV
