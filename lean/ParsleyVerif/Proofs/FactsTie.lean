/-
  The model's decision expressions EQUAL the functions that `factgen -out-fn` translates from the Go source
  on every run (Generated/FactsFn.lean).  A semantically different expression in the source breaks one of
  these theorems; a harmless rewrite (operand order, an equivalent comparison) does not.
-/
import ParsleyVerif.Model.Run
import ParsleyVerif.Proofs.FactsTieText
namespace PV
open PV.Text

theorem nat_beq_decide (a b : Nat) : (a == b) = decide (a = b) := by
  by_cases h : a = b <;> simp [h]

theorem tie_untranslated : FactsFn.untranslated = [] := by decide

theorem tie_lenCheck_seqOf (gs : List G) (o : SeqOpts) (sh : SeqShape) (h : (G.seq .seqOf gs o).shape = some sh)
    (len : Nat) : sh.lenCheck len = FactsFn.lenCheckSeqOf len gs.length := by
  simp only [G.shape, Option.some.injEq] at h; subst h
  rw [Bool.eq_iff_iff]
  simp [FactsFn.lenCheckSeqOf] <;> omega

theorem tie_lenCheck_seqTry (gs : List G) (o : SeqOpts) (sh : SeqShape) (h : (G.seq .seqTry gs o).shape = some sh)
    (len : Nat) : sh.lenCheck len = FactsFn.lenCheckSeqTry len gs.length := by
  simp only [G.shape, Option.some.injEq] at h; subst h
  rw [Bool.eq_iff_iff]
  simp [FactsFn.lenCheckSeqTry] <;> omega

theorem tie_lenCheck_seqFirstOrAll (gs : List G) (o : SeqOpts) (sh : SeqShape)
    (h : (G.seq .seqFirstOrAll gs o).shape = some sh) (len : Nat) :
    sh.lenCheck len = FactsFn.lenCheckSeqFirstOrAll len gs.length := by
  simp only [G.shape, Option.some.injEq] at h; subst h
  rw [Bool.eq_iff_iff]
  simp [FactsFn.lenCheckSeqFirstOrAll] <;> omega

theorem tie_lenCheck_many (g : G) (ae : Bool) (o : SeqOpts) (sh : SeqShape) (h : (G.many g ae o).shape = some sh)
    (len : Nat) : sh.lenCheck len = FactsFn.lenCheckMany ae len := by
  simp only [G.shape, Option.some.injEq] at h; subst h
  rw [Bool.eq_iff_iff]
  cases ae <;> simp [FactsFn.lenCheckMany] <;> omega

theorem tie_lenCheck_sepBy (v s : G) (ae : Bool) (o : SeqOpts) (sh : SeqShape) (h : (G.sepBy v s ae o).shape = some sh)
    (len : Nat) : sh.lenCheck len = FactsFn.lenCheckSepBy ae len := by
  simp only [G.shape, Option.some.injEq] at h; subst h
  rw [Bool.eq_iff_iff]
  cases ae <;> simp [FactsFn.lenCheckSepBy] <;> omega

theorem tie_sepBy_lookup (v s : G) (ae : Bool) (o : SeqOpts) (sh : SeqShape) (h : (G.sepBy v s ae o).shape = some sh)
    (i : Nat) : sh.lookup i = some (if FactsFn.sepByIsValue i then v else s) := by
  simp only [G.shape, Option.some.injEq] at h; subst h
  have hv : FactsFn.sepByIsValue i = decide (i % 2 = 0) := by
    rw [Bool.eq_iff_iff]; simp [FactsFn.sepByIsValue] <;> omega
  rw [hv]
  by_cases hi : i % 2 = 0 <;> simp [hi]

/- Memoize's curtailment test, ResultCache.Get's reuse test, the sequence's context-reset test and Context.SetError's test
   are not tied here as single expressions: the four functions are translated whole on every run
   (Generated/FactsCore.lean) and the model's run cases are proved to agree with the translated bodies —
   Proofs/CoreTieCache.lean `tie_Memoize`, `tie_Get`, CoreTieSeq.lean (parseNext), CoreTieBasics.lean
   `tie_SetError`; Props/C01P.lean. -/

end PV
