/-
  C12: every reader primitive and every terminal commutes with the shift of the file.
  A primitive sees the file through `pos - f.offset` and `f.pos cur` only: on the shifted file, asked `b` later,
  the first is the same and the second is `b` more, so each proof unfolds the primitive, rewrites these two
  and pushes `Option.map (shiftP b)` through the `if`s.  A terminal is a reader program (Proofs/TermProgram.lean): its
  leaves are shifted with the positions they are made of.
-/
import ParsleyVerif.Spec.Shift
import ParsleyVerif.Proofs.TermProgram
namespace PV
open PV.Text

@[simp] theorem shiftFile_offset (b : Nat) (f : File) : (shiftFile b f).offset = f.offset + b := rfl
@[simp] theorem shiftFile_data (b : Nat) (f : File) : (shiftFile b f).data = f.data := rfl
@[simp] theorem shiftFile_name (b : Nat) (f : File) : (shiftFile b f).name = f.name := rfl
@[simp] theorem shiftFile_len (b : Nat) (f : File) : (shiftFile b f).len = f.len := rfl
@[simp] theorem shiftFile_pos (b : Nat) (f : File) (c : Nat) : (shiftFile b f).pos c = f.pos c + b :=
  Nat.add_right_comm ..

theorem readRune_shift (b : Nat) (f : File) (pos ch : Nat) :
    readRune (shiftFile b f) (pos + b) ch = (readRune f pos ch).map (shiftP b) := by
  unfold readRune
  simp only [shiftFile_offset, shiftFile_data, shiftFile_len, shiftFile_pos, Nat.add_lt_add_iff_right, Nat.add_sub_add_right,
    apply_ite (Option.map (shiftP b)), Option.map_none, Option.map_some, shiftP]
  cases f.data[pos - f.offset]? <;>
    simp only [apply_ite (Option.map (shiftP b)), Option.map_none, Option.map_some, shiftP]

theorem matchString_shift (b : Nat) (f : File) (pos : Nat) (str : Bytes) :
    matchString (shiftFile b f) (pos + b) str = (matchString f pos str).map (shiftP b) := by
  unfold matchString
  simp only [shiftFile_offset, shiftFile_data, shiftFile_pos, Nat.add_lt_add_iff_right, Nat.add_sub_add_right,
    apply_ite (Option.map (shiftP b)), Option.map_none, Option.map_some, shiftP]

theorem matchWord_shift (b : Nat) (f : File) (pos : Nat) (w : Bytes) :
    matchWord (shiftFile b f) (pos + b) w = (matchWord f pos w).map (shiftP b) := by
  unfold matchWord
  simp only [shiftFile_offset, shiftFile_data, shiftFile_pos, Nat.add_lt_add_iff_right, Nat.add_sub_add_right,
    apply_ite (Option.map (shiftP b)), Option.map_none, Option.map_some, shiftP]
  rcases matchWordLoop f.data (pos - f.offset) w 0 with _ | _ | _ <;> try rfl
  cases f.data[pos - f.offset + w.length]? <;>
    simp only [apply_ite (Option.map (shiftP b)), Option.map_none, Option.map_some, shiftP]

theorem readRegexp_shift (engine : Bytes → Option Nat) (b : Nat) (f : File) (pos : Nat) :
    readRegexp engine (shiftFile b f) (pos + b) = (readRegexp engine f pos).map (shiftP b) := by
  unfold readRegexp
  simp only [shiftFile_offset, shiftFile_data, shiftFile_len, shiftFile_pos, Nat.add_lt_add_iff_right, Nat.add_sub_add_right,
    apply_ite (Option.map (shiftP b)), Option.map_none, Option.map_some, shiftP]
  cases engine (f.data.drop (pos - f.offset)) <;>
    simp only [apply_ite (Option.map (shiftP b)), Option.map_none, Option.map_some, shiftP]

theorem readf_shift (fn : Bytes → Option Bytes × Nat) (b : Nat) (f : File) (pos : Nat) :
    readf fn (shiftFile b f) (pos + b) = (readf fn f pos).map (shiftP b) := by
  unfold readf
  simp only [shiftFile_offset, shiftFile_data, shiftFile_len, shiftFile_pos, Nat.add_lt_add_iff_right, Nat.add_sub_add_right,
    apply_ite (Option.map (shiftP b)), Option.map_none, Option.map_some, shiftP]

theorem remaining_shift (b : Nat) (f : File) (pos : Nat) :
    remaining (shiftFile b f) (pos + b) = remaining f pos := by
  simp only [remaining, shiftFile_offset, shiftFile_len, Nat.add_sub_add_right]

theorem isEOF_shift (b : Nat) (f : File) (pos : Nat) :
    isEOF (shiftFile b f) (pos + b) = isEOF f pos := by
  simp only [isEOF, shiftFile_offset, shiftFile_len, Nat.add_sub_add_right]

/-- the `nlPos` variable of SkipWhitespaces on the shifted file: 0 stays the "no line break yet" sentinel -/
def shiftNl (b nl : Nat) : Nat := if nl = 0 then 0 else nl + b

theorem shiftNl_eq_zero {b nl : Nat} : shiftNl b nl = 0 ↔ nl = 0 := by
  unfold shiftNl; split <;> omega

theorem shiftNl_of_pos {b nl : Nat} (h : 0 < nl) : shiftNl b nl = nl + b := if_neg (Nat.ne_of_gt h)

/-- `1 ≤ f.offset`: with base offset 0 a line break in the first byte has position 0, the sentinel (`c12_sentinel`,
    Props/C12.lean); NewFileSet starts at 1, so the library never builds such a file -/
theorem skipLoop_shift (b : Nat) (f : File) (hoff : 1 ≤ f.offset) : ∀ (l : Bytes) (cur nl : Nat),
    skipLoop (shiftFile b f) l cur (shiftNl b nl) = ((skipLoop f l cur nl).1, shiftNl b (skipLoop f l cur nl).2) := by
  intro l
  induction l with
  | nil => intro cur nl; rfl
  | cons x r ih =>
    intro cur nl
    unfold skipLoop
    split
    · rw [← ih]
      congr 1
      simp only [shiftNl_eq_zero, shiftFile_pos]
      split
      · exact (shiftNl_of_pos (Nat.lt_of_lt_of_le hoff (Nat.le_add_right ..))).symm
      · rfl
    · rfl

theorem shiftWs_mk (b p : Nat) (e : Option (Nat × WsErr)) : shiftWs b (p, e) = (p + b, e.map (shiftP b)) := rfl

theorem skipWhitespaces_shift (b : Nat) (f : File) (pos : Nat) (m : WsMode) (hoff : 1 ≤ f.offset) :
    skipWhitespaces (shiftFile b f) (pos + b) m = shiftWs b (skipWhitespaces f pos m) := by
  unfold skipWhitespaces
  have h0 := skipLoop_shift b f hoff (List.drop (pos - f.offset) f.data) (pos - f.offset) 0
  rw [show shiftNl b 0 = 0 from rfl] at h0
  simp only [shiftFile_offset, shiftFile_data, Nat.add_sub_add_right, h0, shiftFile_pos]
  rcases skipLoop f (List.drop (pos - f.offset) f.data) (pos - f.offset) 0 with ⟨cur, nl⟩
  simp only [apply_ite (shiftWs b), shiftWs_mk, shiftP, Option.map_some, Option.map_none, shiftNl_eq_zero]
  rcases Nat.eq_zero_or_pos nl with rfl | hnl
  · simp only [show shiftNl b 0 = 0 from rfl, gt_iff_lt, Nat.lt_irrefl, and_false, if_false]
  · rw [shiftNl_of_pos hnl]
    simp only [gt_iff_lt, hnl, Nat.add_pos_left hnl b]

theorem Prim.run_shift {β : Type} (p : Prim β) (b : Nat) (f : File) (q : Nat) :
    p.run (shiftFile b f) (q + b) = (p.run f q).map (shiftP b) := by
  cases p
  · exact readRune_shift b f q _
  · exact matchString_shift b f q _
  · exact matchWord_shift b f q _
  · exact readRegexp_shift _ b f q
  · exact readf_shift _ b f q

theorem Rd.run_shift (b : Nat) (f : File) (st : Nat) (s : Rd) : ∀ cur,
    s.run (shiftFile b f) (st + b) (cur + b) = (s.run f st cur).shift b := by
  induction s with
  | node tok v => intro cur; rfl
  | err a k => intro cur; cases a <;> rfl
  | panic site => intro cur; rfl
  | call site p k ih =>
    intro cur
    simp only [Rd.run, Prim.run_shift]
    rcases p.run f cur with _ | ⟨rp, v⟩
    · rfl
    · exact ih v rp
  | peek g k ih =>
    intro cur
    simp only [Rd.run, shiftFile_data, shiftFile_offset, Nat.add_sub_add_right]
    exact ih _ cur

theorem Terminal.parse_shift (P : Params) (b : Nat) (f : File) (t : Terminal) (pos : Nat) :
    Terminal.parse P (shiftFile b f) t (pos + b) = (Terminal.parse P f t pos).shift b := by
  rw [Terminal.parse_eq_run, Terminal.parse_eq_run]
  exact Rd.run_shift b f pos _ pos
end PV
