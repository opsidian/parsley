/-
  C16, full value theorem: `JV.decorate` (abstract value + layout = document) keeps the value, `OK` and `FloatsOk`;
  a rendered document contains no CR, so text.NewFile's CRLF normalisation (`normCRLF`) leaves it as it is.
-/
import ParsleyVerif.Proofs.J16Num
import ParsleyVerif.Proofs.FileSet
namespace PV.J16
open PV PV.Text

mutual
theorem decorate_val : ∀ (v : JV) (l : Layout), (v.decorate l).val = v.val
  | .null, _ => rfl
  | .bool _, _ => rfl
  | .int _, _ => rfl
  | .dec _, _ => rfl
  | .str _, _ => rfl
  | .arr vs, .arr ls close => by simp only [JV.decorate, JDoc.val, JV.val, decItems_vals vs ls]
  | .arr vs, .leaf => by simp only [JV.decorate, JDoc.val, JV.val, decItems_vals vs .nil]
  | .arr vs, .obj _ _ => by simp only [JV.decorate, JDoc.val, JV.val, decItems_vals vs .nil]
  | .obj kvs, .obj ls close => by simp only [JV.decorate, JDoc.val, JV.val, decMems_vals kvs ls]
  | .obj kvs, .leaf => by simp only [JV.decorate, JDoc.val, JV.val, decMems_vals kvs .nil]
  | .obj kvs, .arr _ _ => by simp only [JV.decorate, JDoc.val, JV.val, decMems_vals kvs .nil]
theorem decItems_vals : ∀ (vs : JVs) (ls : LItems), (vs.decorate ls).vals = vs.vals
  | .nil, _ => by simp only [JVs.decorate, JItems.vals, JVs.vals]
  | .cons v r, .cons wc wb l ls => by
    simp only [JVs.decorate, JItems.vals, JVs.vals, decorate_val v l, decItems_vals r ls]
  | .cons v r, .nil => by
    simp only [JVs.decorate, JItems.vals, JVs.vals, decorate_val v .leaf, decItems_vals r .nil]
theorem decMems_vals : ∀ (kvs : JKVs) (ls : LMems), (kvs.decorate ls).vals = kvs.vals
  | .nil, _ => by simp only [JKVs.decorate, JMems.vals, JKVs.vals]
  | .cons k v r, .cons wc wb wk wv l ls => by
    simp only [JKVs.decorate, JMems.vals, JKVs.vals, decorate_val v l, decMems_vals r ls]
  | .cons k v r, .nil => by
    simp only [JKVs.decorate, JMems.vals, JKVs.vals, decorate_val v .leaf, decMems_vals r .nil]
end

mutual
theorem decorate_ok : ∀ (v : JV) (l : Layout), v.Supported → l.Adm → (v.decorate l).OK
  | .null, _, _, _ => trivial
  | .bool _, _, _, _ => trivial
  | .int _, _, h, _ => h
  | .dec _, _, h, _ => h
  | .str _, _, h, _ => h
  | .arr vs, .arr ls close, h, ha => by
    simp only [Layout.Adm] at ha
    simp only [JV.decorate, JDoc.OK]
    exact ⟨decItems_ok vs ls h ha.1, ha.2⟩
  | .arr vs, .leaf, h, _ => by
    simp only [JV.decorate, JDoc.OK]
    exact ⟨decItems_ok vs .nil h trivial, wsNl_nil⟩
  | .arr vs, .obj _ _, h, _ => by
    simp only [JV.decorate, JDoc.OK]
    exact ⟨decItems_ok vs .nil h trivial, wsNl_nil⟩
  | .obj kvs, .obj ls close, h, ha => by
    simp only [Layout.Adm] at ha
    simp only [JV.decorate, JDoc.OK]
    exact ⟨decMems_ok kvs ls h ha.1, ha.2⟩
  | .obj kvs, .leaf, h, _ => by
    simp only [JV.decorate, JDoc.OK]
    exact ⟨decMems_ok kvs .nil h trivial, wsNl_nil⟩
  | .obj kvs, .arr _ _, h, _ => by
    simp only [JV.decorate, JDoc.OK]
    exact ⟨decMems_ok kvs .nil h trivial, wsNl_nil⟩
theorem decItems_ok : ∀ (vs : JVs) (ls : LItems), vs.Supported → ls.Adm → (vs.decorate ls).OK
  | .nil, _, _, _ => by simp only [JVs.decorate, JItems.OK]
  | .cons v r, .cons wc wb l ls, h, ha => by
    simp only [JVs.Supported] at h
    simp only [LItems.Adm] at ha
    simp only [JVs.decorate, JItems.OK]
    exact ⟨ha.1, ha.2.1, decorate_ok v l h.1 ha.2.2.1, decItems_ok r ls h.2 ha.2.2.2⟩
  | .cons v r, .nil, h, _ => by
    simp only [JVs.Supported] at h
    simp only [JVs.decorate, JItems.OK]
    exact ⟨wsSp_nil, wsNl_nil, decorate_ok v .leaf h.1 trivial, decItems_ok r .nil h.2 trivial⟩
theorem decMems_ok : ∀ (kvs : JKVs) (ls : LMems), kvs.Supported → ls.Adm → (kvs.decorate ls).OK
  | .nil, _, _, _ => by simp only [JKVs.decorate, JMems.OK]
  | .cons k v r, .cons wc wb wk wv l ls, h, ha => by
    simp only [JKVs.Supported] at h
    simp only [LMems.Adm] at ha
    simp only [JKVs.decorate, JMems.OK]
    exact ⟨ha.1, ha.2.1, h.1, ha.2.2.1, ha.2.2.2.1, decorate_ok v l h.2.1 ha.2.2.2.2.1, decMems_ok r ls h.2.2 ha.2.2.2.2.2⟩
  | .cons k v r, .nil, h, _ => by
    simp only [JKVs.Supported] at h
    simp only [JKVs.decorate, JMems.OK]
    exact ⟨wsSp_nil, wsNl_nil, h.1, wsSp_nil, wsNl_nil, decorate_ok v .leaf h.2.1 trivial, decMems_ok r .nil h.2.2 trivial⟩
end

mutual
theorem decorate_floats (P : Params) : ∀ (v : JV) (l : Layout), v.FloatsOk P → (v.decorate l).FloatsOk P
  | .null, _, _ => trivial
  | .bool _, _, _ => trivial
  | .int _, _, _ => trivial
  | .dec _, _, h => h
  | .str _, _, _ => trivial
  | .arr vs, .arr ls close, h => by simp only [JV.decorate, JDoc.FloatsOk]; exact decItems_floats P vs ls h
  | .arr vs, .leaf, h => by simp only [JV.decorate, JDoc.FloatsOk]; exact decItems_floats P vs .nil h
  | .arr vs, .obj _ _, h => by simp only [JV.decorate, JDoc.FloatsOk]; exact decItems_floats P vs .nil h
  | .obj kvs, .obj ls close, h => by simp only [JV.decorate, JDoc.FloatsOk]; exact decMems_floats P kvs ls h
  | .obj kvs, .leaf, h => by simp only [JV.decorate, JDoc.FloatsOk]; exact decMems_floats P kvs .nil h
  | .obj kvs, .arr _ _, h => by simp only [JV.decorate, JDoc.FloatsOk]; exact decMems_floats P kvs .nil h
theorem decItems_floats (P : Params) : ∀ (vs : JVs) (ls : LItems), vs.FloatsOk P → (vs.decorate ls).FloatsOk P
  | .nil, _, _ => by simp only [JVs.decorate, JItems.FloatsOk]
  | .cons v r, .cons wc wb l ls, h => by
    simp only [JVs.FloatsOk] at h
    simp only [JVs.decorate, JItems.FloatsOk]
    exact ⟨decorate_floats P v l h.1, decItems_floats P r ls h.2⟩
  | .cons v r, .nil, h => by
    simp only [JVs.FloatsOk] at h
    simp only [JVs.decorate, JItems.FloatsOk]
    exact ⟨decorate_floats P v .leaf h.1, decItems_floats P r .nil h.2⟩
theorem decMems_floats (P : Params) : ∀ (kvs : JKVs) (ls : LMems), kvs.FloatsOk P → (kvs.decorate ls).FloatsOk P
  | .nil, _, _ => by simp only [JKVs.decorate, JMems.FloatsOk]
  | .cons k v r, .cons wc wb wk wv l ls, h => by
    simp only [JKVs.FloatsOk] at h
    simp only [JKVs.decorate, JMems.FloatsOk]
    exact ⟨decorate_floats P v l h.1, decMems_floats P r ls h.2⟩
  | .cons k v r, .nil, h => by
    simp only [JKVs.FloatsOk] at h
    simp only [JKVs.decorate, JMems.FloatsOk]
    exact ⟨decorate_floats P v .leaf h.1, decMems_floats P r .nil h.2⟩
end

def NoCR (l : Bytes) : Prop := ∀ b ∈ l, b ≠ 13

theorem noCR_nil : NoCR [] := fun _ h => nomatch h
theorem noCR_cons {c : Nat} {l : Bytes} (hc : c ≠ 13) (hl : NoCR l) : NoCR (c :: l) :=
  List.forall_mem_cons.mpr ⟨hc, hl⟩
theorem noCR_append {a b : Bytes} (ha : NoCR a) (hb : NoCR b) : NoCR (a ++ b) :=
  List.forall_mem_append.mpr ⟨ha, hb⟩
theorem noCR_wsNl {w : Bytes} (h : WsNl w) : NoCR w := by
  intro b hb; have := h b hb; omega
theorem noCR_wsSp {w : Bytes} (h : WsSp w) : NoCR w := by
  intro b hb; have := h b hb; omega
theorem noCR_digits {l : Bytes} (h : AllDigits l) : NoCR l := by
  intro b hb; have := h b hb; omega

theorem noCR_renderInt (i : Int) : NoCR (renderInt i) := by
  have := noCR_digits (natDigits_spec i.natAbs).all
  unfold renderInt
  split
  · exact noCR_cons (by omega) this
  · exact this

theorem noCR_renderEx (ex : Option (Nat × Option Nat × Bytes))
    (hex : match ex with
      | none => True
      | some (e, s, ds) => (e = 101 ∨ e = 69) ∧ (s = none ∨ s = some 43 ∨ s = some 45) ∧ ds ≠ [] ∧ AllDigits ds) :
    NoCR (DecLex.renderEx ex) := by
  match ex, hex with
  | none, _ => exact noCR_nil
  | some (e, none, ds), ⟨he, _, _, hall⟩ => exact noCR_cons (by omega) (noCR_digits hall)
  | some (e, some s, ds), ⟨he, hs, _, hall⟩ =>
    have : s ≠ 13 := by
      rcases hs with h | h | h
      · cases h
      · injection h with h; omega
      · injection h with h; omega
    exact noCR_cons (by omega) (noCR_cons this (noCR_digits hall))

theorem noCR_dec (d : DecLex) (hd : d.OK) : NoCR d.render := by
  obtain ⟨hip, _, _, hfr, _, hex⟩ := hd
  unfold DecLex.render
  apply noCR_append
  · split
    · exact noCR_cons (by omega) noCR_nil
    · exact noCR_nil
  · exact noCR_append (noCR_digits hip) (noCR_cons (by omega) (noCR_append (noCR_digits hfr) (noCR_renderEx d.ex hex)))

theorem hexDigit_ge {b : Nat} (h : Lang.hexDigit b = true) : 48 ≤ b := by
  unfold Lang.hexDigit at h
  simp at h
  omega

theorem noCR_encodeRune (c : Nat) (h1 : 0x80 ≤ c) : NoCR (Utf8.encodeRune c) := fun b hb => by
  have := Utf8.encodeRune_high c h1 b hb
  omega

theorem noCR_elem (e : SElem) (he : e.OK) : NoCR e.render := by
  cases e with
  | plain b =>
    obtain ⟨h1, _⟩ := he
    exact noCR_cons (by omega) noCR_nil
  | esc x =>
    have : x ≠ 13 := by rcases he with h | h | h | h | h | h | h <;> omega
    exact noCR_cons (by omega) (noCR_cons this noCR_nil)
  | uni a b c d =>
    obtain ⟨ha, hb, hc, hd, _⟩ := he
    have := hexDigit_ge ha; have := hexDigit_ge hb; have := hexDigit_ge hc; have := hexDigit_ge hd
    exact noCR_cons (by omega) (noCR_cons (by omega) (noCR_cons (by omega) (noCR_cons (by omega)
      (noCR_cons (by omega) (noCR_cons (by omega) noCR_nil)))))
  | utf8 c => exact noCR_encodeRune c he.1

theorem noCR_elems : ∀ (s : List SElem), StrOK s → NoCR (renderElems s) := by
  intro s
  induction s with
  | nil => intro _; exact noCR_nil
  | cons e r ih =>
    intro hs
    exact noCR_append (noCR_elem e (hs e (by simp))) (ih (fun x hx => hs x (by simp [hx])))

theorem noCR_str (s : List SElem) (hs : StrOK s) : NoCR (renderStr s) :=
  noCR_cons (by omega) (noCR_append (noCR_elems s hs) (noCR_cons (by omega) noCR_nil))

mutual
theorem noCR_doc : ∀ (d : JDoc), d.OK → NoCR d.render
  | .null, _ => by intro b hb; simp [JDoc.render] at hb; omega
  | .bool true, _ => by intro b hb; simp [JDoc.render] at hb; omega
  | .bool false, _ => by intro b hb; simp [JDoc.render] at hb; omega
  | .int i, _ => noCR_renderInt i
  | .dec d, h => noCR_dec d h
  | .str s, h => noCR_str s h
  | .arr .nil close, h => by
    simp only [JDoc.OK] at h
    exact noCR_cons (by omega) (noCR_append (noCR_wsNl h.2) (noCR_cons (by omega) noCR_nil))
  | .arr (.cons wc wb d r) close, h => by
    simp only [JDoc.OK, JItems.OK] at h
    obtain ⟨⟨_, hwb, hd, hr⟩, hc⟩ := h
    simp only [JDoc.render]
    exact noCR_cons (by omega) (noCR_append (noCR_wsNl hwb) (noCR_append (noCR_doc d hd)
      (noCR_append (noCR_items r hr) (noCR_append (noCR_wsNl hc) (noCR_cons (by omega) noCR_nil)))))
  | .obj .nil close, h => by
    simp only [JDoc.OK] at h
    exact noCR_cons (by omega) (noCR_append (noCR_wsNl h.2) (noCR_cons (by omega) noCR_nil))
  | .obj (.cons wc wb k wk wv d r) close, h => by
    simp only [JDoc.OK, JMems.OK] at h
    obtain ⟨⟨_, hwb, hk, hwk, hwv, hd, hr⟩, hc⟩ := h
    simp only [JDoc.render]
    exact noCR_cons (by omega) (noCR_append (noCR_wsNl hwb) (noCR_append (noCR_str k hk)
      (noCR_append (noCR_wsSp hwk) (noCR_cons (by omega) (noCR_append (noCR_wsNl hwv) (noCR_append (noCR_doc d hd)
        (noCR_append (noCR_mems r hr) (noCR_append (noCR_wsNl hc) (noCR_cons (by omega) noCR_nil)))))))))
theorem noCR_items : ∀ (r : JItems), r.OK → NoCR r.renderMore
  | .nil, _ => noCR_nil
  | .cons wc wb d r, h => by
    simp only [JItems.OK] at h
    obtain ⟨hwc, hwb, hd, hr⟩ := h
    simp only [JItems.renderMore]
    exact noCR_append (noCR_wsSp hwc) (noCR_cons (by omega) (noCR_append (noCR_wsNl hwb)
      (noCR_append (noCR_doc d hd) (noCR_items r hr))))
theorem noCR_mems : ∀ (r : JMems), r.OK → NoCR r.renderMore
  | .nil, _ => noCR_nil
  | .cons wc wb k wk wv d r, h => by
    simp only [JMems.OK] at h
    obtain ⟨hwc, hwb, hk, hwk, hwv, hd, hr⟩ := h
    simp only [JMems.renderMore]
    exact noCR_append (noCR_wsSp hwc) (noCR_cons (by omega) (noCR_append (noCR_wsNl hwb) (noCR_append (noCR_str k hk)
      (noCR_append (noCR_wsSp hwk) (noCR_cons (by omega) (noCR_append (noCR_wsNl hwv)
        (noCR_append (noCR_doc d hd) (noCR_mems r hr))))))))
end

theorem normCRLF_renderDoc (lead : Bytes) (d : JDoc) (trail : Bytes) (hd : d.OK) (hl : WsNl lead) (ht : WsNl trail) :
    normCRLF (renderDoc lead d trail) = renderDoc lead d trail :=
  normCRLF_no13 _ fun h => noCR_append (noCR_wsNl hl) (noCR_append (noCR_doc d hd) (noCR_wsNl ht)) 13 h rfl

end PV.J16
