/-
  C17: the run as a judgment with its call count — what every exact count of the harness's families is derived from, for ANY
  configuration without a work budget (`cfg.maxCalls = 0`); from `fol` on, whose file sits at base offset 1.

  `Runs cfg Φ F g ctx pos P L cp k Q`: from any state whose cache satisfies `P`, `g` at `(ctx, pos)` answers with the alternatives
  `L` (the result is `resOf L`; no error unless `L` is empty) and the curtailing parsers `cp` after `k` calls, and leaves a cache that satisfies `Q`; fuel `F`
  is enough.  `Φ` is a potential of the cache (`Z`: none): the calls are counted together with what `Φ` loses, so that work
  which a cache entry saves later can be charged where it is done.  One rule per combinator of the fragment the families use;
  the loops of Any and of `(*sequence).parse` have judgments of their own (`AnyR`; `SeqR` from an element on, `AltsR` over the
  alternatives an element returned).  The rules add the calls and hand the cache on.  Each is proved from the reading of one
  level of `run` that every walk of the development uses: `runStep` (Proofs/RunEqns.lean) and, for one round of the Sequence
  loop, `seqParse_deeper` (Proofs/RunLoops.lean).

  A family's proof is a derivation; no state, `RegisterCall`, fuel arithmetic or `AppendNode` appears in it:
  * read the grammar top-down: `Runs.memo` (or `.curtail`, `.hit`) / `Runs.any (AnyR.cons h₁ ne₁ (AnyR.cons h₂ ne₂ AnyR.nil))` /
    `Runs.seq rfl (…)` with one of `SeqR.adv` (a node that consumes), `.one`, `.opt_no`, `.alts … (AltsR.cons … | .last …)`,
    `.fail`, `.stop` per element and `SeqR.done` at the end (`.alts` also takes an element that may have answered nothing where
    the sequence cannot end — the loop over no alternatives, `AltsR.nil`; `.fail` is that case) / `Runs.ref` / `Runs.rune_ok`, `.rune_no`, `.eof_ok`, `.eof_no`;
  * every rule adds 1 to the fuel and leaves take any `F + 1`, so the fuels are found by unification (`Runs.mono` aligns two
    branches); the calls come out as the sum the rules build (`1 + kg + k`), the curtailing parsers as `cpStep`/`cpUnion` terms;
  * state the lemma with the indices you want and close the gap ONCE, outermost, by `Runs.of_eq hL hcp hk (derivation)`
    (`SeqR.of_eq`, `AltsR.of_eq` inside inductions over alternatives): its derivation comes last, so it is elaborated
    knowing everything but the computed indices.  Give `(sh := …)`, `(g := …)`, `(d := …)` where `rfl` has to look them up;
  * cache: `P := (· = [])`, `Q := fun _ => True` when it is never consulted; otherwise say what is known of it (`Runs.post`,
    `Runs.weaken` adapt).  Shared steps: `AltsR.tail`, `Runs.seqLr`, `Runs.lrBody` (rules `X → Y 'c' | 'd'`), `Runs.sentence`,
    `Runs.sentence_parse`; the induction over the levels of a left spine is `Runs.spine`.
-/
import ParsleyVerif.Proofs.RunMono
import ParsleyVerif.Proofs.RunCompleteBasics
import ParsleyVerif.Proofs.CallsOther
namespace PV.C17
open PV.Text

variable {cfg : Cfg}

/-- the single node, or the node list, that `AppendNode` has built from these nodes -/
def resOf : List Node → Res
  | [] => .nil
  | [x] => .one x
  | l => .list l

/-- `NodeList.Append` does not add an EMPTY node that the list already holds (`nlAppend1`): only for the other nodes is
    `AppendNode` plain concatenation (`appendNode_resOf`), which is why the rules ask this of what they emit -/
def notEmptyNode : Node → Prop
  | .empty _ => False
  | _ => True

theorem resOf_alts : ∀ l : List Node, (resOf l).alts = l
  | [] => rfl
  | [_] => rfl
  | _ :: _ :: _ => rfl

theorem resOf_isNil : ∀ l : List Node, (resOf l).isNil = l.isEmpty
  | [] => rfl
  | [_] => rfl
  | _ :: _ :: _ => rfl

theorem nlAppend1_ne (acc : List Node) (x : Node) (hx : notEmptyNode x) : nlAppend1 acc x = acc ++ [x] := by
  cases x with
  | empty p => exact hx.elim
  | term => rfl
  | eof => rfl
  | nt => rfl

theorem appendNode_resOf (acc : List Node) (x : Node) (hx : notEmptyNode x) :
    appendNode (resOf acc) (.one x) = resOf (acc ++ [x]) :=
  match acc with
  | [] => rfl
  | [y] => congrArg Res.list (nlAppend1_ne [y] x hx)
  | y :: z :: rest => congrArg Res.list (nlAppend1_ne (y :: z :: rest) x hx)

theorem pickErr_none (e : Option Err) : pickErr e none = e := rfl

theorem seqAlts_single (k : Node → SeqSt → St → Option (Bool × SeqSt × St)) (n : Node) (ss : SeqSt) (st : St)
    (b : Bool) (ss' : SeqSt) (st' : St) (h : k n ss st = some (b, ss', st')) :
    seqAlts k [n] ss st = some (b, ss', st') :=
  (seqAlts_one k n ss st).trans h

theorem handleResult_last (sh : SeqShape) (pos : Nat) (nodes : List Node) (l : Node)
    (hl : nodes.getLast? = some l) : (handleResult sh pos nodes).rpos = l.rpos := by
  rw [handleResult_rpos, endOf, hl]; rfl

end PV.C17

/- Two namespaces run through the Calls files, each opening the other; nothing depends on the split.  `PV.C17`: what
   Props/C17.lean states (families 1, 5, 6 and `ab_parse`, the harness's definitions of CallsOther.lean, `resOf`);
   `PV.C17b`: the calculus from here on and what Props/C17B.lean states (families 2, 3, 4, 7, 8). -/
namespace PV.C17b
open PV.Text PV.C17

variable {cfg : Cfg}

/-- the byte at (1-based) position `p` of the input is `ch` -/
def fol (data : Bytes) (ch : Nat) (p : Nat) : Bool := data[p - 1]? == some ch

def runeNode (ch p : Nat) : Node := .term (Utf8.encodeRune ch) (.rune ch) p (p + 1)

/-- the node the sequence builds from the nodes `pre` of its first elements, the node `x` of the recursive
    element and the character `ch` after it -/
def extN (sh : SeqShape) (pre : List Node) (ch : Nat) (x : Node) : Node :=
  handleResult sh (x.rpos + 1) (pre ++ [x] ++ [runeNode ch x.rpos])

def extAllG (sh : SeqShape) (pre : List Node) (ch : Nat) (data : Bytes) (l : List Node) : List Node :=
  (l.filter (fun x => fol data ch x.rpos)).map (extN sh pre ch)

theorem handleResult_two (sh : SeqShape) (pos : Nat) : ∀ (l : List Node), 2 ≤ l.length →
    notEmptyNode (handleResult sh pos l)
  | [], h => by simp at h
  | [_], h => by simp at h
  | _ :: _ :: _, _ => trivial

theorem extN_notEmpty (sh : SeqShape) (pre : List Node) (ch : Nat) (x : Node) : notEmptyNode (extN sh pre ch x) :=
  handleResult_two sh _ _ (by simp)

theorem extN_rpos (sh : SeqShape) (pre : List Node) (ch : Nat) (x : Node) :
    (extN sh pre ch x).rpos = x.rpos + 1 := by
  rw [extN, handleResult_last sh _ _ (runeNode ch x.rpos) (by simp)]
  rfl

theorem extAllG_rpos (sh : SeqShape) (pre : List Node) (ch : Nat) (data : Bytes) (l : List Node) :
    (extAllG sh pre ch data l).map Node.rpos = ((l.map Node.rpos).filter (fol data ch)).map (· + 1) := by
  induction l with
  | nil => rfl
  | cons x l ih =>
    simp only [extAllG, List.filter_cons, List.map_cons] at ih ⊢
    by_cases h : fol data ch x.rpos = true
    · simp only [h, ↓reduceIte, List.map_cons, extN_rpos sh, ih]
    · simp only [h, Bool.false_eq_true, ↓reduceIte, ih]

theorem extAllG_length_le (sh : SeqShape) (pre : List Node) (ch : Nat) (data : Bytes) (l : List Node) :
    (extAllG sh pre ch data l).length ≤ l.length := by
  simp only [extAllG, List.length_map]
  exact List.length_filter_le _ _

theorem extAllG_notEmpty (sh : SeqShape) (pre : List Node) (ch : Nat) (data : Bytes) (l : List Node) :
    ∀ x ∈ extAllG sh pre ch data l, notEmptyNode x := by
  intro x hx
  simp only [extAllG, List.mem_map] at hx
  obtain ⟨y, _, rfl⟩ := hx
  exact extN_notEmpty sh pre ch y

theorem pickErr_none_left (e : Option Err) : pickErr none e = e := PV.pickErr_none_left e

theorem readRune_fol (hoff : cfg.file.offset = 1) {ch p : Nat} (hp : 1 ≤ p) (hch : ch < 128) :
    readRune cfg.file p ch = some (if fol cfg.file.data ch p then (p + 1, true) else (p, false)) := by
  have a1 : ¬ p < 1 := by omega
  have a3 : ch < 0x80 := hch
  simp only [readRune, hoff, a1, File.len, a3, ↓reduceIte, File.pos]
  by_cases hlt : p - 1 < cfg.file.data.length
  · rw [if_neg (by omega), List.getElem?_eq_getElem hlt]
    by_cases hb : ch = cfg.file.data[p - 1]
    · simp [fol, List.getElem?_eq_getElem hlt, ← hb]; omega
    · have : ¬ cfg.file.data[p - 1] = ch := fun x => hb x.symm
      simp [fol, List.getElem?_eq_getElem hlt, hb, this]
  · rw [if_pos (by omega)]; simp [fol, List.getElem?_eq_none (Nat.le_of_not_lt hlt)]

theorem tok_ne (ch : Nat) (hch : ch < 128) : (Utf8.encodeRune ch == eofTok) = false := by
  have : ch < 0x80 := hch
  simp [Utf8.encodeRune, this, eofTok]

theorem resOf_isNil_false (l : List Node) (h : l ≠ []) : (resOf l).isNil = false := by
  rw [resOf_isNil]
  cases l with
  | nil => exact absurd rfl h
  | cons => rfl

theorem foldl_nlAppend1 : ∀ (b acc : List Node), (∀ x ∈ b, notEmptyNode x) → b.foldl nlAppend1 acc = acc ++ b := by
  intro b
  induction b with
  | nil => intro acc _; simp
  | cons x b ih =>
    intro acc h
    rw [List.foldl_cons, nlAppend1_ne acc x (h x (List.mem_cons_self ..)), ih _ (fun y hy => h y (List.mem_cons_of_mem _ hy))]
    simp

theorem appendNode_resOf_list (a b : List Node) (hb : ∀ x ∈ b, notEmptyNode x) :
    appendNode (resOf a) (resOf b) = resOf (a ++ b) := by
  match b, hb with
  | [], _ => simp only [List.append_nil]; cases h : resOf a <;> rfl
  | [y], hb => exact appendNode_resOf a y (hb y (List.mem_cons_self ..))
  | y :: z :: rest, hb =>
    match a with
    | [] => rfl
    | [x] =>
      show Res.list ((y :: z :: rest).foldl nlAppend1 [x]) = _
      rw [foldl_nlAppend1 _ _ hb]; rfl
    | x :: x2 :: r =>
      show Res.list ((y :: z :: rest).foldl nlAppend1 (x :: x2 :: r)) = _
      rw [foldl_nlAppend1 _ _ hb]; rfl

/-- the left-recursion context with count `t` (for the memoized parser 0) -/
def ctx0 : Nat → Ctx
  | 0 => []
  | t + 1 => [(0, t + 1)]

theorem ctx0_inc (t : Nat) : (ctx0 t).inc 0 = ctx0 (t + 1) := by
  cases t <;> simp [ctx0, Ctx.inc]
theorem ctx0_get (t : Nat) : (ctx0 t).get 0 = t := by
  cases t <;> simp [ctx0, Ctx.get]

/-- `SeqOf(Y, 'c')` -/
def lrS (j ch : Nat) : G := seqOfT [.ref j, runeT ch]

def lrSh (j ch : Nat) : SeqShape :=
  { lookup := fun i => [G.ref j, runeT ch][i]?, lenCheck := fun len => len == 2, token := seqTok,
    interp := .none, single := false, name := none }

/-- the base alternative `'d'` at position 1 -/
def baseL (data : Bytes) (bch : Nat) : List Node := if fol data bch 1 then [runeNode bch 1] else []

theorem baseL_notEmpty (data : Bytes) (bch : Nat) : ∀ x ∈ baseL data bch, notEmptyNode x := by
  intro x hx
  unfold baseL at hx
  split at hx
  · simp only [List.mem_singleton] at hx; subst hx; trivial
  · cases hx

theorem baseL_rpos (data : Bytes) (bch : Nat) :
    (baseL data bch).map Node.rpos = if fol data bch 1 then [2] else [] := by
  unfold baseL
  split <;> rfl

def sentShOf (g : G) : SeqShape :=
  { lookup := fun i => [g, G.eof][i]?, lenCheck := fun len => len == 2, token := seqTok,
    interp := .select 0, single := false, name := none }

theorem rpos_gt_of_map {L : List Node} {E : List Nat} {q : Nat} (h : L.map Node.rpos = E) (hE : ∀ p ∈ E, q < p) :
    ∀ x ∈ L, q < x.rpos :=
  fun _ hx => hE _ (h ▸ List.mem_map_of_mem hx)

theorem resOf_map_rpos_ne (l : List Node) (h : l ≠ []) : ∃ hd tl, (resOf l).alts = hd :: tl ∧ l = hd :: tl := by
  rw [resOf_alts]
  cases l with
  | nil => exact absurd rfl h
  | cons a b => exact ⟨a, b, rfl, rfl⟩

abbrev Cache := List CacheEntry

/-- no potential: `k` is the number of calls -/
abbrev Z : Cache → Nat := fun _ => 0

variable {Φ : Cache → Nat} {F fr f d k k1 k2 kg : Nat} {g : G} {ctx : Ctx} {pos : Nat} {P Q Q1 : Cache → Prop}
  {L L1 Lg out out1 out2 acc : List Node} {cp cp1 cpa cpg : List Nat} {gs : List G} {sh : SeqShape} {nodes pre : List Node}
  {merge b : Bool}

def Runs (cfg : Cfg) (Φ : Cache → Nat) (F : Nat) (g : G) (ctx : Ctx) (pos : Nat) (P : Cache → Prop) (L : List Node)
    (cp : List Nat) (k : Nat) (Q : Cache → Prop) : Prop :=
  ∀ st : St, P st.cache → ∃ e st', run cfg F g ctx pos st = some (⟨resOf L, cp, e⟩, st') ∧ (L ≠ [] → e = none) ∧
    st'.calls + Φ st'.cache = st.calls + k + Φ st.cache ∧ Q st'.cache

/-- the loop of Any over the alternatives `gs`, `acc` and `cpa` being what the alternatives before them left -/
def AnyR (cfg : Cfg) (Φ : Cache → Nat) (F : Nat) (ctx : Ctx) (pos : Nat) (gs : List G) (acc : List Node) (cpa : List Nat)
    (P : Cache → Prop) (L : List Node) (cp : List Nat) (k : Nat) (Q : Cache → Prop) : Prop :=
  ∀ (a : AltSt) (st : St), a.res = resOf acc → a.cp = cpa → P st.cache →
    ∃ a' st', anyLoop (run cfg F) ctx pos gs a st = some (a', st') ∧ a'.res = resOf L ∧ a'.cp = cp ∧
      st'.calls + Φ st'.cache = st.calls + k + Φ st.cache ∧ Q st'.cache

/-- `(*sequence).parse` from element `d` on, `nodes` being the nodes of the elements before it: it adds the nodes `out` to the
    result of the sequence; `b`: it ended behind `End` (`fr`: the fuel of the elements, `f`: of the loop) -/
def SeqR (cfg : Cfg) (Φ : Cache → Nat) (sh : SeqShape) (fr f d : Nat) (nodes : List Node) (ctx : Ctx) (pos : Nat) (merge : Bool)
    (cpa : List Nat) (P : Cache → Prop) (b : Bool) (out : List Node) (cp : List Nat) (k : Nat) (Q : Cache → Prop) : Prop :=
  ∀ (acc : List Node) (ss : SeqSt) (st : St), ss.result = resOf acc → ss.cp = cpa → P st.cache →
    ∃ ss' st', seqParse (run cfg fr) sh f d nodes ctx pos merge ss st = some (b, ss', st') ∧
      ss'.result = resOf (acc ++ out) ∧ ss'.cp = cp ∧ st'.calls + Φ st'.cache = st.calls + k + Φ st.cache ∧ Q st'.cache

/-- its loop over the alternatives `l` that element `d` returned, `pre` being the nodes of the elements before `d` -/
def AltsR (cfg : Cfg) (Φ : Cache → Nat) (sh : SeqShape) (fr f d : Nat) (pre : List Node) (ctx : Ctx) (pos : Nat) (merge : Bool)
    (l : List Node) (cpa : List Nat) (P : Cache → Prop) (b : Bool) (out : List Node) (cp : List Nat) (k : Nat)
    (Q : Cache → Prop) : Prop :=
  ∀ (acc : List Node) (ss : SeqSt) (st : St), ss.result = resOf acc → ss.cp = cpa → P st.cache →
    ∃ ss' st', seqAlts (seqDeeper (run cfg fr) sh f ⟨d, pre, ctx, pos, merge⟩) l ss st = some (b, ss', st') ∧
      ss'.result = resOf (acc ++ out) ∧ ss'.cp = cp ∧ st'.calls + Φ st'.cache = st.calls + k + Φ st.cache ∧ Q st'.cache

/-! ### structural rules.  The indices a derivation computes (alternatives, curtailing parsers, calls) are brought into the form a
    statement wants by `of_eq`, whose derivation comes LAST so that it is elaborated knowing everything but those indices. -/

theorem Runs.mono {F' : Nat} (h : Runs cfg Φ F g ctx pos P L cp k Q) (hF : F ≤ F') : Runs cfg Φ F' g ctx pos P L cp k Q := by
  intro st hst
  obtain ⟨e, st', h1, h2⟩ := h st hst
  exact ⟨e, st', run_mono cfg F F' hF _ _ _ _ _ h1, h2⟩

theorem Runs.post {Q' : Cache → Prop} (h : Runs cfg Φ F g ctx pos P L cp k Q) (hQ : ∀ K, Q K → Q' K) :
    Runs cfg Φ F g ctx pos P L cp k Q' := by
  intro st hst
  obtain ⟨e, st', h1, h2, h3, h4⟩ := h st hst
  exact ⟨e, st', h1, h2, h3, hQ _ h4⟩

theorem Runs.weaken {P' : Cache → Prop} (h : Runs cfg Φ F g ctx pos P L cp k Q) (hP : ∀ K, P' K → P K) :
    Runs cfg Φ F g ctx pos P' L cp k Q :=
  fun st hst => h st (hP _ hst)

theorem Runs.of_eq {L' : List Node} {cp' : List Nat} {k' : Nat} (hL : L = L') (hc : cp = cp') (hk : k = k')
    (h : Runs cfg Φ F g ctx pos P L cp k Q) : Runs cfg Φ F g ctx pos P L' cp' k' Q := by
  subst hL hc hk; exact h

theorem AnyR.of_eq {L' : List Node} {cp' : List Nat} {k' : Nat} (hL : L = L') (hc : cp = cp') (hk : k = k')
    (h : AnyR cfg Φ F ctx pos gs acc cpa P L cp k Q) : AnyR cfg Φ F ctx pos gs acc cpa P L' cp' k' Q := by
  subst hL hc hk; exact h

theorem SeqR.of_eq {b' : Bool} {out' : List Node} {cp' : List Nat} {k' : Nat} (hb : b = b') (ho : out = out') (hc : cp = cp')
    (hk : k = k') (h : SeqR cfg Φ sh fr f d nodes ctx pos merge cpa P b out cp k Q) :
    SeqR cfg Φ sh fr f d nodes ctx pos merge cpa P b' out' cp' k' Q := by
  subst hb ho hc hk; exact h

theorem AltsR.of_eq {l : List Node} {b' : Bool} {out' : List Node} {cp' : List Nat} {k' : Nat} (hb : b = b') (ho : out = out')
    (hc : cp = cp') (hk : k = k') (h : AltsR cfg Φ sh fr f d pre ctx pos merge l cpa P b out cp k Q) :
    AltsR cfg Φ sh fr f d pre ctx pos merge l cpa P b' out' cp' k' Q := by
  subst hb ho hc hk; exact h

theorem AnyR.post {Q' : Cache → Prop} (h : AnyR cfg Φ F ctx pos gs acc cpa P L cp k Q) (hQ : ∀ K, Q K → Q' K) :
    AnyR cfg Φ F ctx pos gs acc cpa P L cp k Q' := by
  intro a st h1 h2 h3
  obtain ⟨a', st', r1, r2, r3, r4, r5⟩ := h a st h1 h2 h3
  exact ⟨a', st', r1, r2, r3, r4, hQ _ r5⟩

theorem AltsR.post {l : List Node} {Q' : Cache → Prop} (h : AltsR cfg Φ sh fr f d pre ctx pos merge l cpa P b out cp k Q)
    (hQ : ∀ K, Q K → Q' K) : AltsR cfg Φ sh fr f d pre ctx pos merge l cpa P b out cp k Q' := by
  intro acc ss st h1 h2 h3
  obtain ⟨ss', st', r1, r2, r3, r4, r5⟩ := h acc ss st h1 h2 h3
  exact ⟨ss', st', r1, r2, r3, r4, hQ _ r5⟩

theorem Runs.split (p : Cache → Prop) (h1 : Runs cfg Φ F g ctx pos (fun K => P K ∧ p K) L cp k Q)
    (h2 : Runs cfg Φ F g ctx pos (fun K => P K ∧ ¬ p K) L cp k Q) : Runs cfg Φ F g ctx pos P L cp k Q :=
  fun st hst => (Classical.em (p st.cache)).elim (fun hp => h1 st ⟨hst, hp⟩) (fun hp => h2 st ⟨hst, hp⟩)

/-- a run whose calls `c K` are known exactly from each cache `K`, charged to a potential: `k` calls beyond what `Φ` loses -/
theorem Runs.charge {c : Cache → Nat} {Q' : Cache → Cache → Prop}
    (h : ∀ K, P K → Runs cfg Z F g ctx pos (· = K) L cp (c K) (Q' K))
    (hΦ : ∀ K K', P K → Q' K K' → c K + Φ K' = k + Φ K ∧ Q K') : Runs cfg Φ F g ctx pos P L cp k Q := by
  intro st hst
  obtain ⟨e, st', r1, r2, r3, r4⟩ := h st.cache hst st rfl
  obtain ⟨a1, a2⟩ := hΦ _ _ hst r4
  have r3' : st'.calls + 0 = st.calls + c st.cache + 0 := r3
  exact ⟨e, st', r1, r2, by omega, a2⟩

/-- from a known cache, once the potential is used up, the calls are counted outright -/
theorem Runs.discharge {K0 : Cache} (h : Runs cfg Φ F g ctx pos (· = K0) L cp k Q) (hQ : ∀ K', Q K' → Φ K' = 0) :
    Runs cfg Z F g ctx pos (· = K0) L cp (k + Φ K0) Q := by
  intro st hst
  obtain ⟨e, st', r1, r2, r3, r4⟩ := h st hst
  have := hQ _ r4
  rw [hst] at r3
  exact ⟨e, st', r1, r2, by show st'.calls + 0 = st.calls + (k + Φ K0) + 0; omega, r4⟩

/-! ### leaves, cache hit, curtailment: no call, the cache is not touched -/

/-- a step that leaves the call count and the cache as they are -/
theorem Runs.still (h : ∀ st : St, P st.cache → ∃ e st', run cfg F g ctx pos st = some (⟨resOf L, cp, e⟩, st') ∧
    (L ≠ [] → e = none) ∧ st'.calls = st.calls ∧ st'.cache = st.cache) : Runs cfg Φ F g ctx pos P L cp 0 P := by
  intro st hst
  obtain ⟨e, st', h1, h2, h3, h4⟩ := h st hst
  exact ⟨e, st', h1, h2, by rw [h3, h4]; rfl, h4 ▸ hst⟩

theorem Runs.rune (h0 : cfg.maxCalls = 0) (hoff : cfg.file.offset = 1) {ch : Nat} (hch : ch < 128) (hp : 1 ≤ pos) :
    Runs cfg Φ (F + 1) (runeT ch) ctx pos P (if fol cfg.file.data ch pos then [runeNode ch pos] else []) [] 0 P :=
  Runs.still fun st _ => by
    simp only [runeT, run_succ0 h0, runStep, termStep, Terminal.parse, readRune_fol hoff hp hch]
    cases fol cfg.file.data ch pos
    · exact ⟨_, _, rfl, fun h => absurd rfl h, (logEv_fields _ _ _).2.2.1, (logEv_fields _ _ _).1⟩
    · exact ⟨_, _, rfl, fun _ => rfl, rfl, rfl⟩

theorem Runs.rune_ok (h0 : cfg.maxCalls = 0) (hoff : cfg.file.offset = 1) {ch : Nat} (hch : ch < 128) (hp : 1 ≤ pos)
    (hf : fol cfg.file.data ch pos = true) : Runs cfg Φ (F + 1) (runeT ch) ctx pos P [runeNode ch pos] [] 0 P :=
  (if_pos hf : (if fol cfg.file.data ch pos then [runeNode ch pos] else []) = _) ▸ Runs.rune h0 hoff hch hp

theorem Runs.rune_no (h0 : cfg.maxCalls = 0) (hoff : cfg.file.offset = 1) {ch : Nat} (hch : ch < 128) (hp : 1 ≤ pos)
    (hf : fol cfg.file.data ch pos = false) : Runs cfg Φ (F + 1) (runeT ch) ctx pos P [] [] 0 P :=
  (if_neg (by rw [hf]; exact Bool.false_ne_true) : (if fol cfg.file.data ch pos then [runeNode ch pos] else []) = _) ▸
    Runs.rune h0 hoff hch hp

theorem Runs.eof_ok (h0 : cfg.maxCalls = 0) (he : isEOF cfg.file pos = true) :
    Runs cfg Φ (F + 1) .eof ctx pos P [.eof pos] [] 0 P :=
  Runs.still fun st _ => ⟨_, _, by simp only [run_succ0 h0, runStep, eofStep, he, ↓reduceIte]; rfl, fun _ => rfl, rfl, rfl⟩

theorem Runs.eof_no (h0 : cfg.maxCalls = 0) (he : isEOF cfg.file pos = false) :
    Runs cfg Φ (F + 1) .eof ctx pos P [] [] 0 P :=
  Runs.still fun st _ => ⟨_, _, by simp only [run_succ0 h0, runStep, eofStep, he, Bool.false_eq_true, ↓reduceIte]; rfl,
    fun h => absurd rfl h, (logEv_fields _ _ _).2.2.1, (logEv_fields _ _ _).1⟩

theorem Runs.curtail (h0 : cfg.maxCalls = 0) {idx : Nat} {body : G} (hK : ∀ K, P K → cacheGet K idx pos ctx = none)
    (hcur : ctx.get idx > remaining cfg.file pos + Facts.curtailSlack) :
    Runs cfg Φ (F + 1) (.memo idx body) ctx pos P [] [idx] 0 P :=
  Runs.still fun st hst => ⟨_, _, (run_succ0 h0 F _ ctx pos st).trans (memoStep_curtail cfg _ body (hK _ hst) hcur),
    fun h => absurd rfl h, (logEv_fields _ _ _).2.2.1, (logEv_fields _ _ _).1⟩

theorem Runs.hit (h0 : cfg.maxCalls = 0) {idx : Nat} {body : G}
    (hK : ∀ K, P K → ∃ e, cacheGet K idx pos ctx = some e ∧ e.res = resOf L ∧ e.cp = cp ∧ (L ≠ [] → e.err = none)) :
    Runs cfg Φ (F + 1) (.memo idx body) ctx pos P L cp 0 P :=
  Runs.still fun st hst => by
    obtain ⟨e, h1, h2, h3, h4⟩ := hK _ hst
    exact ⟨_, _, by rw [← h2, ← h3]; exact (run_succ0 h0 F (.memo idx body) ctx pos st).trans (memoStep_hit cfg _ body h1), h4,
      (logEv_fields _ _ _).2.2.1, (logEv_fields _ _ _).1⟩

theorem Runs.ref (h0 : cfg.maxCalls = 0) {j : Nat} (hj : cfg.env[j]? = some g) (h : Runs cfg Φ F g ctx pos P L cp k Q) :
    Runs cfg Φ (F + 1) (.ref j) ctx pos P L cp k Q := by
  intro st hst
  simp only [run_succ0 h0, runStep, hj]
  exact h st hst

/-- the entry Memoize saves: the context pruned to the curtailing parsers -/
def savedEntry (idx pos : Nat) (ctx : Ctx) (cp : List Nat) (e : Option Err) (L : List Node) : CacheEntry :=
  { idx := idx, pos := pos, ctx := ctx.filter cp, cp := cp, err := e, res := resOf L }

/-- a miss below the curtailment bound: the body runs once, under the incremented count, and its answer is saved.  `hΦ`: what
    the potential makes of the new entry (`fun _ _ _ _ => rfl` when there is no potential) -/
theorem Runs.memo (h0 : cfg.maxCalls = 0) {idx : Nat} {body : G} (hK : ∀ K, P K → cacheGet K idx pos ctx = none)
    (hcur : ¬ ctx.get idx > remaining cfg.file pos + Facts.curtailSlack)
    (h : Runs cfg Φ F body (ctx.inc idx) pos P L cp k Q1) {k' : Nat}
    (hΦ : ∀ K1 e, Q1 K1 → (L ≠ [] → e = none) → k + Φ (cacheSave K1 (savedEntry idx pos ctx cp e L)) = k' + Φ K1) :
    Runs cfg Φ (F + 1) (.memo idx body) ctx pos P L cp k'
      (fun K' => ∃ K1 e, Q1 K1 ∧ (L ≠ [] → e = none) ∧ K' = cacheSave K1 (savedEntry idx pos ctx cp e L)) := by
  intro st hst
  rw [run_succ0 h0, runStep, memoStep_body cfg _ body (hK _ hst) hcur]
  obtain ⟨e, s2, r1, r2, r3, r4⟩ := h (memoEnter cfg idx pos st) ((memoEnter_frame cfg idx pos st).1 ▸ hst)
  rw [r1]
  refine ⟨e, _, rfl, r2, ?_, _, e, r4, r2, rfl⟩
  have := hΦ _ e r4 r2
  rw [(memoEnter_frame cfg idx pos st).2.2.1, (memoEnter_frame cfg idx pos st).1] at r3
  change s2.calls + Φ (cacheSave s2.cache (savedEntry idx pos ctx cp e L)) = _
  omega

/-- … without a potential, when nothing is to be said of the cache afterwards -/
theorem Runs.memoZ (h0 : cfg.maxCalls = 0) {idx : Nat} {body : G} (hK : ∀ K, P K → cacheGet K idx pos ctx = none)
    (hcur : ¬ ctx.get idx > remaining cfg.file pos + Facts.curtailSlack)
    (h : Runs cfg Z F body (ctx.inc idx) pos P L cp k Q1) :
    Runs cfg Z (F + 1) (.memo idx body) ctx pos P L cp k (fun _ => True) :=
  (Runs.memo h0 hK hcur h fun _ _ _ _ => rfl).post fun _ _ => trivial

theorem AnyR.nil : AnyR cfg Φ F ctx pos [] acc cpa P acc cpa 0 P :=
  fun a st h1 h2 h3 => ⟨a, st, rfl, h1, h2, rfl, h3⟩

theorem AnyR.cons (h : Runs cfg Φ F g ctx pos P L1 cp1 k1 Q1) (hne : ∀ x ∈ L1, notEmptyNode x)
    (t : AnyR cfg Φ F ctx pos gs (acc ++ L1) (cpUnion cpa cp1) Q1 L cp k Q) :
    AnyR cfg Φ F ctx pos (g :: gs) acc cpa P L cp (1 + k1 + k) Q := by
  intro a st ha hc hK
  obtain ⟨e, s1, r1, _, r3, r4⟩ := h st.regCall hK
  obtain ⟨a', st', t1, t2, t3, t4, t5⟩ := t (altErr pos { a with cp := cpUnion a.cp cp1, res := appendNode a.res (resOf L1) } e) s1
    (by rw [(altErr_fields _ _ _).2.1, ha]; exact appendNode_resOf_list _ _ hne) (by rw [(altErr_fields _ _ _).1, hc]) r4
  refine ⟨a', st', by rw [anyLoop, r1]; exact t1, t2, t3, ?_, t5⟩
  have r3' : s1.calls + Φ s1.cache = st.calls + 1 + k1 + Φ st.cache := r3
  omega

theorem Runs.any (h0 : cfg.maxCalls = 0) (t : AnyR cfg Φ F ctx pos gs [] [] P L cp k Q) :
    Runs cfg Φ (F + 1) (.any gs) ctx pos P L cp k Q := by
  intro st hK
  obtain ⟨a, s1, t1, t2, t3, t4, t5⟩ := t {} st rfl rfl hK
  rw [run_succ0 h0, runStep, t1]
  dsimp only [anyFinish]
  by_cases hn : a.res.isNil = true
  · rw [if_pos hn, ← t2, ← t3, (isNil_iff _).mp hn]
    refine ⟨_, _, rfl, fun hL => ?_, t4, t5⟩
    rw [t2, resOf_isNil_false L hL] at hn
    cases hn
  · rw [if_neg hn, t2, t3]
    exact ⟨_, _, rfl, fun _ => rfl, by rw [(setError_ctxErr _ _).2.2.2.2, (setError_ctxErr _ _).2.1, t4],
      (setError_ctxErr s1 a.err).2.1 ▸ t5⟩

/-! ### the Sequence family: one call per element invocation.  One round of the loop is read as RunLoops reads it
    (`seqParse_deeper`: the call `seqCall`, then emit / fail / the loop `seqAlts` over `seqDeeper`). -/

/-- the curtailing parsers of an element are kept while nothing has been consumed -/
def cpStep (merge : Bool) (cpa cpg : List Nat) : List Nat := if merge then cpUnion cpa cpg else cpa

theorem seqAfter_cpStep (merge : Bool) (ss : SeqSt) (o : Out) : (seqAfter merge ss o).cp = cpStep merge ss.cp o.cp := by
  cases merge <;> rfl

theorem cpStep_nil (merge : Bool) (cpa : List Nat) : cpStep merge cpa [] = cpa := by
  cases merge
  · rfl
  · exact cpUnion_nil_right cpa

theorem cpStep_false (cpa cpg : List Nat) : cpStep false cpa cpg = cpa := rfl

theorem cpStep_first (cpg : List Nat) : cpStep true [] cpg = cpg := cpUnion_nil_left cpg

theorem seqParse_called (hl : sh.lookup d = some g) {ss : SeqSt} {st s1 : St} {o : Out}
    (r1 : run cfg fr g ctx pos st.regCall = some (o, s1)) :
    seqParse (run cfg fr) sh (f + 1) d nodes ctx pos merge ss st =
      if o.res.isNil then
        if sh.lenCheck d then
          some (seqExit ⟨d, nodes, ctx, pos, merge⟩, seqEmit sh ⟨d, nodes, ctx, pos, merge⟩ (seqAfter merge ss o), s1)
        else some (false, seqAfter merge ss o, s1)
      else seqAlts (seqDeeper (run cfg fr) sh f ⟨d, nodes, ctx, pos, merge⟩) o.res.alts (seqAfter merge ss o) s1 := by
  rw [seqParse_deeper (run cfg fr) sh f ⟨d, nodes, ctx, pos, merge⟩ ss st]
  simp only [seqCall, hl, r1]

/-- there is no element `d`: the node of the sequence is emitted -/
theorem SeqR.done (hl : sh.lookup d = none) (hlc : sh.lenCheck d = true) (hd : d > 0)
    (hne : notEmptyNode (handleResult sh pos nodes)) :
    SeqR cfg Φ sh fr (f + 1) d nodes ctx pos merge cpa P
      (match nodes.getLast? with | some l => l.token == eofTok | none => false) [handleResult sh pos nodes] cpa 0 P := by
  intro acc ss st hr hc hK
  rw [seqParse_deeper (run cfg fr) sh f ⟨d, nodes, ctx, pos, merge⟩ ss st]
  simp only [seqCall, hl, Res.isNil, hlc, ↓reduceIte, seqAfter_nil, seqExit, seqEmit, hd]
  exact ⟨_, _, rfl, by rw [hr]; exact appendNode_resOf acc _ hne, hc, rfl, hK⟩

/-- element `d > 0` answers nil where the sequence may end: its node is emitted -/
theorem SeqR.stop (hl : sh.lookup d = some g) (h : Runs cfg Φ fr g ctx pos P [] cpg kg Q) (hlc : sh.lenCheck d = true)
    (hd : d > 0) (hne : notEmptyNode (handleResult sh pos nodes)) :
    SeqR cfg Φ sh fr (f + 1) d nodes ctx pos merge cpa P
      (match nodes.getLast? with | some l => l.token == eofTok | none => false) [handleResult sh pos nodes]
      (cpStep merge cpa cpg) (1 + kg) Q := by
  intro acc ss st hr hc hK
  obtain ⟨e, s1, r1, _, r3, r4⟩ := h st.regCall hK
  have r3' : s1.calls + Φ s1.cache = st.calls + 1 + kg + Φ st.cache := r3
  rw [seqParse_called hl r1, if_pos (show (Out.mk (resOf []) cpg e).res.isNil = true from rfl), if_pos hlc]
  simp only [seqExit, seqEmit, hd, ↓reduceIte]
  exact ⟨_, _, rfl, by rw [seqAfter_result, hr]; exact appendNode_resOf acc _ hne, by rw [seqAfter_cpStep, hc], by omega, r4⟩

/-- element `d` answers with the alternatives `Lg` — possibly none, where the sequence may not end —: one call, then the loop
    over them -/
theorem SeqR.alts (hl : sh.lookup d = some g) (h : Runs cfg Φ fr g ctx pos P Lg cpg kg Q1) (hne : Lg ≠ [] ∨ sh.lenCheck d = false)
    (t : AltsR cfg Φ sh fr f d nodes ctx pos merge Lg (cpStep merge cpa cpg) Q1 b out cp k Q) :
    SeqR cfg Φ sh fr (f + 1) d nodes ctx pos merge cpa P b out cp (1 + kg + k) Q := by
  intro acc ss st hr hc hK
  obtain ⟨e, s1, r1, _, r3, r4⟩ := h st.regCall hK
  have r3' : s1.calls + Φ s1.cache = st.calls + 1 + kg + Φ st.cache := r3
  obtain ⟨ss', st', t1, t2, t3, t4, t5⟩ := t acc (seqAfter merge ss ⟨resOf Lg, cpg, e⟩) s1 (by rw [seqAfter_result, hr])
    (by rw [seqAfter_cpStep, hc]) r4
  refine ⟨ss', st', ?_, t2, t3, by omega, t5⟩
  rw [seqParse_called hl r1, ← t1]
  by_cases hnil : Lg = []
  · subst hnil
    rw [if_pos (show (Out.mk (resOf []) cpg e).res.isNil = true from rfl),
      if_neg (by rw [hne.resolve_left fun h => h rfl]; exact Bool.false_ne_true)]
    rfl
  · rw [if_neg (by rw [resOf_isNil_false Lg hnil]; exact Bool.false_ne_true), resOf_alts]

theorem AltsR.nil : AltsR cfg Φ sh fr f d pre ctx pos merge [] cpa P false [] cpa 0 P :=
  fun acc ss st hr hc hK => ⟨ss, st, rfl, by rw [hr, List.append_nil], hc, rfl, hK⟩

/-- element `d` answers nil where the sequence may not end: nothing is emitted -/
theorem SeqR.fail (hl : sh.lookup d = some g) (h : Runs cfg Φ fr g ctx pos P [] cpg kg Q) (hlc : sh.lenCheck d = false) :
    SeqR cfg Φ sh fr (f + 1) d nodes ctx pos merge cpa P false [] (cpStep merge cpa cpg) (1 + kg) Q :=
  SeqR.alts hl h (.inr hlc) AltsR.nil

/-- the sequence behind the alternative `n` did not end on `End`: the next alternative is tried -/
theorem AltsR.cons {n : Node} {l : List Node}
    (h : SeqR cfg Φ sh fr f (d + 1) (pre ++ [n]) (if n.rpos > pos then [] else ctx) n.rpos (merge && !(decide (n.rpos > pos)))
      cpa P false out1 cp1 k1 Q1)
    (t : AltsR cfg Φ sh fr f d pre ctx pos merge l cp1 Q1 b out2 cp k2 Q) :
    AltsR cfg Φ sh fr f d pre ctx pos merge (n :: l) cpa P b (out1 ++ out2) cp (k1 + k2) Q := by
  intro acc ss st hr hc hK
  obtain ⟨ss1, s1, r1, r2, r3, r4, r5⟩ := h acc ss st hr hc hK
  obtain ⟨ss', st', t1, t2, t3, t4, t5⟩ := t (acc ++ out1) ss1 s1 r2 r3 r5
  have r1' : seqDeeper (run cfg fr) sh f ⟨d, pre, ctx, pos, merge⟩ n ss st = some (false, ss1, s1) := r1
  refine ⟨ss', st', ?_, by rw [t2, List.append_assoc], t3, by omega, t5⟩
  simp only [seqAlts, r1']
  exact t1

/-- the last alternative, or the one behind which `End` matched (the others are not tried) -/
theorem AltsR.last {n : Node} {l : List Node}
    (h : SeqR cfg Φ sh fr f (d + 1) (pre ++ [n]) (if n.rpos > pos then [] else ctx) n.rpos (merge && !(decide (n.rpos > pos)))
      cpa P b out cp k Q) (hb : b = true ∨ l = []) :
    AltsR cfg Φ sh fr f d pre ctx pos merge (n :: l) cpa P b out cp k Q := by
  intro acc ss st hr hc hK
  obtain ⟨ss1, s1, r1, r2⟩ := h acc ss st hr hc hK
  have r1' : seqDeeper (run cfg fr) sh f ⟨d, pre, ctx, pos, merge⟩ n ss st = some (b, ss1, s1) := r1
  refine ⟨ss1, s1, ?_, r2⟩
  rcases hb with rfl | rfl
  · simp only [seqAlts, r1']
  · exact seqAlts_single _ n ss st _ _ _ r1'

/-- an element that answers with one node: the sequence goes on behind it -/
theorem SeqR.one {x : Node} (hl : sh.lookup d = some g) (h : Runs cfg Φ fr g ctx pos P [x] cpg kg Q1)
    (t : SeqR cfg Φ sh fr f (d + 1) (nodes ++ [x]) (if x.rpos > pos then [] else ctx) x.rpos (merge && !(decide (x.rpos > pos)))
      (cpStep merge cpa cpg) Q1 b out cp k Q) :
    SeqR cfg Φ sh fr (f + 1) d nodes ctx pos merge cpa P b out cp (1 + kg + k) Q :=
  SeqR.alts hl h (.inl (List.cons_ne_nil _ _)) (AltsR.last t (.inr rfl))

/-- … and consumes input: the left-recursion context is dropped, curtailing parsers are no longer collected -/
theorem SeqR.adv {x : Node} (hl : sh.lookup d = some g) (h : Runs cfg Φ fr g ctx pos P [x] cpg kg Q1) (hx : pos < x.rpos)
    (t : SeqR cfg Φ sh fr f (d + 1) (nodes ++ [x]) [] x.rpos false (cpStep merge cpa cpg) Q1 b out cp k Q) :
    SeqR cfg Φ sh fr (f + 1) d nodes ctx pos merge cpa P b out cp (1 + kg + k) Q := by
  refine SeqR.one hl h ?_
  rw [if_pos hx, decide_eq_true hx, Bool.not_true, Bool.and_false]
  exact t

/-- element `d` is Optional over an operand that does not match: the EMPTY node, nothing consumed (the operand's error stays
    with it, which is why Optional has no rule of the form `Runs`) -/
theorem SeqR.opt_no (h0 : cfg.maxCalls = 0) (hl : sh.lookup d = some (.optional g))
    (h : Runs cfg Φ fr g ctx pos P [] cpg kg Q1)
    (t : SeqR cfg Φ sh (fr + 1) f (d + 1) (nodes ++ [.empty pos]) ctx pos merge (cpStep merge cpa cpg) Q1 b out cp k Q) :
    SeqR cfg Φ sh (fr + 1) (f + 1) d nodes ctx pos merge cpa P b out cp (1 + kg + k) Q := by
  intro acc ss st hr hc hK
  obtain ⟨e, s1, r1, _, r3, r4⟩ := h st.regCall hK
  have r3' : s1.calls + Φ s1.cache = st.calls + 1 + kg + Φ st.cache := r3
  have ho : run cfg (fr + 1) (.optional g) ctx pos st.regCall = some (⟨.one (.empty pos), cpg, e⟩, s1) := by
    rw [run_succ0 h0, runStep_wrap cfg _ fr (g := .optional g) ctx st.regCall rfl, r1]; rfl
  obtain ⟨ss', st', t1, t2, t3, t4, t5⟩ := t acc (seqAfter merge ss ⟨.one (.empty pos), cpg, e⟩) s1
    (by rw [seqAfter_result, hr]) (by rw [seqAfter_cpStep, hc]) r4
  refine ⟨ss', st', ?_, t2, t3, by omega, t5⟩
  rw [seqParse_called hl ho, if_neg (show ¬ (Out.mk (.one (.empty pos)) cpg e).res.isNil = true from Bool.false_ne_true)]
  refine seqAlts_single _ _ _ _ _ _ _ ?_
  simpa only [seqDeeper, Frame.next, Node.rpos, Nat.lt_irrefl, gt_iff_lt, ↓reduceIte, decide_false, Bool.not_false,
    Bool.and_true] using t1

/-- the last element returned the alternatives `l` (none of them `End`): one node each, no call -/
theorem AltsR.emit (hl : sh.lookup (d + 1) = none) (hlc : sh.lenCheck (d + 1) = true) (hpre : 1 ≤ pre.length) :
    ∀ l : List Node, (∀ y ∈ l, (y.token == eofTok) = false) →
    AltsR cfg Φ sh fr (f + 1) d pre ctx pos merge l cpa P false (l.map fun y => handleResult sh y.rpos (pre ++ [y])) cpa 0 P
  | [], _ => AltsR.nil
  | y :: l, hy =>
    AltsR.of_eq rfl rfl rfl rfl
      (AltsR.cons (SeqR.of_eq (by simp [hy y (List.mem_cons_self ..)]) rfl rfl rfl
        (SeqR.done hl hlc (Nat.succ_pos _) (handleResult_two sh _ _ (by simp; omega))))
        (AltsR.emit hl hlc hpre l fun z hz => hy z (List.mem_cons_of_mem _ hz)))

/-- a member of the Sequence family from its loop (a name only rewrites the error of an empty answer) -/
theorem Runs.seq (h0 : cfg.maxCalls = 0) (hs : g.shape = some sh)
    (t : SeqR cfg Φ sh F F 0 [] ctx pos true [] P b L cp k Q) : Runs cfg Φ (F + 1) g ctx pos P L cp k Q := by
  intro st hK
  obtain ⟨ss', s1, t1, t2, t3, t4, t5⟩ := t [] {} st rfl rfl hK
  rw [run_succ0 h0, runStep_shape cfg _ _ ctx pos st hs, runSeq, t1]
  dsimp only
  rw [List.nil_append] at t2
  rcases seqFinish_cases sh pos ss' s1 with ⟨hn, err, ho, _⟩ | ⟨hn, ho⟩ <;> rw [t2, resOf_isNil] at hn
  · rw [List.isEmpty_iff.mp hn] at t2 ⊢
    exact ⟨err, s1, by rw [ho, t3]; rfl, fun h => absurd rfl h, t4, t5⟩
  · exact ⟨none, _, by rw [ho, t2, t3], fun _ => rfl, by rw [(setError_ctxErr _ _).2.2.2.2, (setError_ctxErr _ _).2.1, t4],
      (setError_ctxErr s1 ss'.err).2.1 ▸ t5⟩

/-- the last element `'c'` behind each alternative of the element before it (all of which consumed input): one call each;
    the alternatives that `c` follows in the input emit a node, the others nothing -/
theorem AltsR.tail (h0 : cfg.maxCalls = 0) (hoff : cfg.file.offset = 1) {d0 ch : Nat} (hch : ch < 128)
    (hl : sh.lookup (d0 + 1) = some (runeT ch)) (hl2 : sh.lookup (d0 + 2) = none) (hlc1 : sh.lenCheck (d0 + 1) = false)
    (hlc2 : sh.lenCheck (d0 + 2) = true) (pre : List Node) : ∀ l : List Node, (∀ x ∈ l, pos < x.rpos) →
    AltsR cfg Φ sh (fr + 1) (f + 2) d0 pre ctx pos merge l cpa P false (extAllG sh pre ch cfg.file.data l) cpa l.length P
  | [], _ => AltsR.nil
  | x :: l, hx => by
    have ih := AltsR.tail h0 hoff hch hl hl2 hlc1 hlc2 pre l fun y hy => hx y (List.mem_cons_of_mem _ hy)
    have h1 : 1 ≤ x.rpos := Nat.lt_of_le_of_lt (Nat.zero_le _) (hx x (List.mem_cons_self ..))
    by_cases hp : fol cfg.file.data ch x.rpos = true
    · exact AltsR.of_eq rfl (by simp only [extAllG, List.filter_cons, hp, ↓reduceIte]; rfl) rfl (Nat.add_comm _ _)
        (AltsR.cons (SeqR.of_eq (by simp [runeNode, Node.token, tok_ne ch hch]) rfl (cpStep_nil _ _) rfl
          (SeqR.one hl (Runs.rune_ok h0 hoff hch h1 hp) (SeqR.done hl2 hlc2 (Nat.succ_pos _) (extN_notEmpty sh pre ch x)))) ih)
    · have hp' : fol cfg.file.data ch x.rpos = false := by simpa using hp
      exact AltsR.of_eq rfl (by simp [extAllG, hp']) rfl (Nat.add_comm _ _)
        (AltsR.cons (SeqR.of_eq rfl rfl (cpStep_nil _ _) rfl (SeqR.fail hl (Runs.rune_no h0 hoff hch h1 hp') hlc1)) ih)

theorem Runs.base (h0 : cfg.maxCalls = 0) (hoff : cfg.file.offset = 1) {bch : Nat} (hbch : bch < 128) :
    Runs cfg Φ (F + 1) (runeT bch) ctx 1 P (baseL cfg.file.data bch) [] 0 P :=
  Runs.rune h0 hoff hbch (Nat.le_refl 1)

/-- `SeqOf(Y, 'c')` at position 1 once `Y` answers with `L` (all of which consumed input): one call for `Y`, one `c` per
    alternative -/
theorem Runs.seqLr (h0 : cfg.maxCalls = 0) (hoff : cfg.file.offset = 1) {j ch : Nat} (hch : ch < 128) {Pin : G}
    (hj : cfg.env[j]? = some Pin) {c : Nat} {cp0 : List Nat} (hL : ∀ x ∈ L, 1 < x.rpos)
    (inner : Runs cfg Φ (f + 2) Pin ctx 1 P L cp0 c Q) :
    Runs cfg Φ (f + 4) (lrS j ch) ctx 1 P (extAllG (lrSh j ch) [] ch cfg.file.data L) cp0 (1 + c + L.length) Q :=
  Runs.of_eq (List.nil_append _) (cpStep_first cp0) rfl
    (Runs.seq h0 (sh := lrSh j ch) rfl
      (SeqR.alts rfl (Runs.ref h0 hj inner) (.inr rfl) (AltsR.tail h0 hoff hch rfl rfl rfl rfl [] L hL)))

/-- **the body of `X → Y 'c' | 'd'` at position 1** once `Y` answers with `L`: 3 calls (`Y 'c'`, its element `Y`, `'d'`) and
    one (`c`) per alternative in `L` -/
theorem Runs.lrBody (h0 : cfg.maxCalls = 0) (hoff : cfg.file.offset = 1) {j ch bch : Nat} (hch : ch < 128) (hbch : bch < 128)
    {Pin : G} (hj : cfg.env[j]? = some Pin) (hL : ∀ x ∈ L, 1 < x.rpos) {c : Nat} {cp0 : List Nat}
    (inner : Runs cfg Φ (f + 2) Pin ctx 1 P L cp0 c Q) :
    Runs cfg Φ (f + 5) (.any [lrS j ch, runeT bch]) ctx 1 P
      (extAllG (lrSh j ch) [] ch cfg.file.data L ++ baseL cfg.file.data bch) cp0 (c + (3 + L.length)) Q :=
  Runs.of_eq (List.nil_append _ ▸ rfl) (by rw [cpUnion_nil_right, cpUnion_nil_left]) (by omega)
    (Runs.any h0 (AnyR.cons (Runs.seqLr h0 hoff hch hj hL inner) (extAllG_notEmpty _ _ _ _ _)
      (AnyR.cons (Runs.base h0 hoff hbch) (baseL_notEmpty _ _) AnyR.nil)))

theorem lrBody_rpos (j ch bch : Nat) (data : Bytes) (L : List Node) :
    (extAllG (lrSh j ch) [] ch data L ++ baseL data bch).map Node.rpos =
      ((L.map Node.rpos).filter (fol data ch)).map (· + 1) ++ if fol data bch 1 then [2] else [] := by
  rw [List.map_append, extAllG_rpos (lrSh j ch), baseL_rpos]

/-- `End` behind the alternatives of the element of Sentence: it fails behind those of `pre` (one call each), matches behind
    `x` (one call), and the alternatives after `x` are not tried -/
theorem AltsR.sentence (h0 : cfg.maxCalls = 0) {x : Node} {rest : List Node} (hgt : x.rpos > pos)
    (heof : isEOF cfg.file x.rpos = true) : ∀ pre' : List Node, (∀ y ∈ pre', y.rpos > pos ∧ isEOF cfg.file y.rpos = false) →
    AltsR cfg Φ (sentShOf g) (fr + 1) (f + 2) 0 [] [] pos true (pre' ++ x :: rest) cpa P true
      [handleResult (sentShOf g) x.rpos ([] ++ [x] ++ [.eof x.rpos])] cpa (pre'.length + 1) P
  | [], _ => by
    refine AltsR.last (SeqR.of_eq ?_ rfl (cpStep_nil _ _) rfl
      (SeqR.one (g := .eof) rfl (Runs.eof_ok h0 heof) (SeqR.done (d := 2) rfl rfl (by decide) (handleResult_two _ _ _ (by simp)))))
      (.inl rfl)
    simp [Node.token]; rfl
  | y :: pre', hp => by
    have ih := AltsR.sentence (rest := rest) h0 hgt heof pre' fun z hz => hp z (List.mem_cons_of_mem _ hz)
    exact AltsR.of_eq rfl (List.nil_append _) rfl (by rw [List.length_cons]; omega)
      (AltsR.cons (SeqR.of_eq rfl rfl (cpStep_nil _ _) rfl
        (SeqR.fail (g := .eof) rfl (Runs.eof_no h0 (hp y (List.mem_cons_self ..)).2) rfl)) ih)

/-- **Sentence(g)** when the alternatives `pre'` that `g` returns first do not end at the end of the input and the next one,
    `x`, does: one call for `g`, one `End` per alternative up to `x` -/
theorem Runs.sentence (h0 : cfg.maxCalls = 0) {x : Node} {pre' rest : List Node}
    (h : Runs cfg Φ (F + 3) g [] pos P (pre' ++ x :: rest) cp k Q)
    (hpre : ∀ y ∈ pre', y.rpos > pos ∧ isEOF cfg.file y.rpos = false) (hgt : x.rpos > pos)
    (heof : isEOF cfg.file x.rpos = true) :
    Runs cfg Φ (F + 4) (G.sentence g) [] pos P [handleResult (sentShOf g) x.rpos ([] ++ [x] ++ [.eof x.rpos])] cp
      (k + pre'.length + 2) Q := by
  have t := AltsR.sentence (Φ := Φ) (g := g) (fr := F + 2) (f := F) (cpa := cpStep true [] cp) (P := Q) (rest := rest) h0 hgt heof
    pre' hpre
  exact Runs.of_eq (List.nil_append _) (cpStep_first cp) (by omega)
    (Runs.seq h0 (sh := sentShOf g) rfl (SeqR.alts rfl h (.inl (by simp)) t))

/-- Parse of a run from the empty cache that answers without a potential -/
theorem Runs.to_parse (h : Runs cfg Z F g [] (cfg.file.pos 0) (· = []) L cp k Q) (hL : L ≠ []) :
    ∃ p, parse cfg F g = some p ∧ p.err = none ∧ p.res.isNil = false ∧ p.st.calls = k := by
  obtain ⟨e, st', h1, h2, h3, _⟩ := h {} rfl
  cases h2 hL
  exact ⟨_, parse_of_ok h1 (resOf_isNil_false L hL) rfl, rfl, resOf_isNil_false L hL,
    by have h3' : st'.calls + 0 = 0 + k + 0 := h3; show st'.calls = k; omega⟩

/-- **Parse of Sentence(rule 0)** when the outermost activation of rule 0 at position 1 answers `pre' ++ x :: rest`, `x` being
    the first alternative that spans the input: `|pre'| + 2` calls around it (the element of Sentence, `End` per alternative up to `x`) -/
theorem Runs.sentence_parse (h0 : cfg.maxCalls = 0) (hpos : cfg.file.pos 0 = 1) {R : G} (henv : cfg.env[0]? = some R)
    {x : Node} {pre' rest : List Node} (h : Runs cfg Z (F + 2) R [] 1 (· = []) (pre' ++ x :: rest) cp k Q)
    (hpre : ∀ y ∈ pre', y.rpos > 1 ∧ isEOF cfg.file y.rpos = false) (hgt : x.rpos > 1) (heof : isEOF cfg.file x.rpos = true) :
    ∃ p, parse cfg (F + 4) (G.sentence (.ref 0)) = some p ∧ p.err = none ∧ p.res.isNil = false ∧
      p.st.calls = k + pre'.length + 2 :=
  Runs.to_parse (hpos ▸ Runs.sentence h0 (Runs.ref h0 henv h) hpre hgt heof) (List.cons_ne_nil _ _)

/-! ## The left spine of a memoized rule at one position

  Memoize is entered with the left-recursion counts 0, 1, … `D - 1` (the cache has no entry for it on the way down) and is
  curtailed at `D = Remaining + slack + 1`; on the way up every activation turns the alternatives `L` of the one below into
  `next L` at `own L` calls of its own.  `cx t`: the context with count `t`; `fi + 1`, `fa + 1`: the fuel of the curtailed
  activation and per level.  Here for a spine on which the cache is never consulted: `P` holds all the way down and nothing
  is said of the cache afterwards.  `Runs.spineK` (Proofs/CallsPbPc.lean) is the same induction for a body that asks the level
  below a second time and finds its entry in the cache; `Lv.level` (Proofs/CallsArith.lean) the same for the rules
  `X → X c Y (c ∈ ops) | Y` whose `Y` uses the cache and is paid by a potential (its `LN`, `LC` are `lvN`, `lvC` of that body).
  A closed form's fuel is the spine's `(fa + 1) * D + (fi + 1)` and two levels more, the reference to rule 0 and Sentence's
  sequence (`Runs.sentence_parse`: the rule at `F + 2`, Parse at `F + 4`). -/

def lvN (next : List Node → List Node) : Nat → List Node
  | 0 => []
  | m + 1 => next (lvN next m)

def lvC (next : List Node → List Node) (own : List Node → Nat) : Nat → Nat
  | 0 => 0
  | m + 1 => lvC next own m + own (lvN next m)

theorem Runs.spine (h0 : cfg.maxCalls = 0) {idx : Nat} {body : G} (cx : Nat → Ctx) (hget : ∀ t, (cx t).get idx = t) {D : Nat}
    (hD : D = remaining cfg.file pos + Facts.curtailSlack + 1) (hP : ∀ K, P K → ∀ t, cacheGet K idx pos (cx t) = none)
    (next : List Node → List Node) (own : List Node → Nat) (fi fa : Nat)
    (step : ∀ m t F c, m + 1 + t = D → fi + 1 ≤ F →
      Runs cfg Z F (.memo idx body) (cx (t + 1)) pos P (lvN next m) [idx] c (fun _ => True) →
      Runs cfg Z (F + fa) body ((cx t).inc idx) pos P (next (lvN next m)) [idx] (c + own (lvN next m)) (fun _ => True)) :
    ∀ m t, m + t = D →
      Runs cfg Z ((fa + 1) * m + (fi + 1)) (.memo idx body) (cx t) pos P (lvN next m) [idx] (lvC next own m) (fun _ => True)
  | 0, t, ht => by
    rw [Nat.mul_zero, Nat.zero_add]
    exact (Runs.curtail h0 (fun K hK => hP K hK t) (by rw [hget]; omega)).post fun _ _ => trivial
  | m + 1, t, ht => by
    have inner := Runs.spine h0 cx hget hD hP next own fi fa step m (t + 1) (by omega)
    have := Runs.memoZ h0 (fun K hK => hP K hK t) (by rw [hget]; omega) (step m t _ _ (by omega) (by omega) inner)
    rwa [show (fa + 1) * m + (fi + 1) + fa + 1 = (fa + 1) * (m + 1) + (fi + 1) by rw [Nat.mul_succ]; omega] at this

end PV.C17b
