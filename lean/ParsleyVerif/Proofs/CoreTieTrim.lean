/-
  text.LeftTrim, text.RightTrim — translated closures vs. `run … (.ltrim g m)`, `(.rtrim g m)`.
-/
import ParsleyVerif.Proofs.CoreTieWrap
namespace PV.CoreTie
open PV.FactsCore

/-- text.LeftTrim; its captured `wsMode` is the model's mode -/
theorem tie_LeftTrim (W : World Context) (cfg : Cfg) (h0 : cfg.maxCalls = 0) (hw : WorldRel W cfg) (fuel : Nat)
    (p : Parser) (g : G) (mode : Text.WsMode) (hp : Agrees W cfg fuel p g) :
    AgreesF (LeftTrim_parse W p (modeCode mode)) cfg (fuel + 1) (.ltrim g mode) := by
  intro m c pos s st hm hs
  rw [run_wrap cfg fuel _ _ c pos st rfl, if_neg (run_budget0 cfg h0 st)]
  have hsk := hw.skipWs pos mode
  have hle := skipWhitespaces_ge cfg.file pos mode
  generalize Text.skipWhitespaces cfg.file pos mode = sw at hsk hle ⊢
  obtain ⟨pos', ws⟩ := sw
  have hrd : Context_Reader W s = .ok () s := rfl
  simp only [LeftTrim_parse, bind_ok hrd, hsk]
  refine corr_iff.mpr (hp.bind hm pos' hs fun o s1 st1 r1 => ?_)
  simp only [eOut, bind_ok (tie_Error W s1 st1 r1)]
  -- the context error is moved back over the whitespace: the state afterwards
  obtain ⟨s2, r2, hs2⟩ : ∃ s2, StRel s2 (ltrimFix st1 pos pos') ∧
      ((s2 = s1 ∧ (st1.ctxErr = none ∨ ∃ ce, st1.ctxErr = some ce ∧ (ce.pos ≠ pos' ∨ ce.kind.isNotFound = false))) ∨
       (∃ ce, st1.ctxErr = some ce ∧ ce.pos = pos' ∧ ce.kind.isNotFound = true ∧
          Context_SetError W (.mk (pos : Int) (eKind ce.kind)) s1 = .ok () s2)) := by
    unfold ltrimFix
    cases hce : st1.ctxErr with
    | none => exact ⟨s1, r1, .inl ⟨rfl, .inl rfl⟩⟩
    | some ce =>
      by_cases hpos : ce.pos = pos'
      · cases hk : ce.kind.isNotFound
        · exact ⟨s1, by simpa [hpos, hk] using r1, .inl ⟨rfl, .inr ⟨ce, rfl, .inr hk⟩⟩⟩
        · obtain ⟨s2, e2, r2⟩ := tie_SetError W s1 st1 r1 (some ⟨pos, ce.kind⟩)
          exact ⟨s2, by simpa [hpos, hk] using r2, .inr ⟨ce, rfl, hpos, hk, e2⟩⟩
      · exact ⟨s1, by simpa [hpos] using r1, .inl ⟨rfl, .inr ⟨ce, rfl, .inl hpos⟩⟩⟩
  -- the function ends in the answer, which does not depend on the state
  simp only [← bind_bind]
  -- the model leaves the state alone: the move is the identity (`ltrimFix_eq`)
  refine ⟨_, s2, bind_const (a := ()) ?hans ?hfix, rfl, ltrimFix_eq st1 pos pos' hle ▸ r2⟩
  case hans =>
    intro _ x
    obtain ⟨res, cp, err⟩ := o
    have hnil : eSet [] = CorePrelude.Data.EmptyIntSet := rfl
    cases err with
    | none => cases ws <;> simp [ltrimOut, wsToErr, eOut, hnil]
    | some e =>
      cases ws with
      | none => simp [ltrimOut, wsToErr, eOut]
      | some w =>
        by_cases hgt : e.pos > pos'
        · simp [ltrimOut, wsToErr, eOut, hnil, hgt]
        · cases hnf : e.kind.isNotFound <;> simp [ltrimOut, wsToErr, eOut, hgt, hnf, CorePrelude.NewError]
  case hfix =>
    rcases hs2 with ⟨rfl, hc | ⟨ce, hc, hne | hk⟩⟩ | ⟨ce, hc, hpos, hk, e2⟩
    · simp [hc]
    · simp [hc, Int.natCast_inj, hne]
    · simp [hc, hk]
    · simp [hc, hpos, hk, e2, CorePrelude.NewError]

/-- the function literal RightTrim hands to ast.SetReaderPos, with the captured `wsErr` as explicit state -/
abbrev rtrimF (W : World Context) (wsMode : Int) : CErr → Int → CM (CErr × Int) :=
  fun (wsErr : CErr) (pos' : Int) => do let (pos', wsErr) := W.Reader_SkipWhitespaces pos' wsMode; pure (wsErr, pos')

theorem setRpos_node (W : World Context) (cfg : Cfg) (hw : WorldRel W cfg) (mode : Text.WsMode) (n : PV.Node)
    (ws : Option PV.Err) (s : Context) :
    CorePrelude.SetReaderPos1 (rtrimF W (modeCode mode)) (eNode n) (eErr ws) s =
      .ok (eErr (setRposNode cfg.file mode n ws).2, eNode (setRposNode cfg.file mode n ws).1) s := by
  cases n with
  | term t v p r | nt t c p r i =>
    have := hw.skipWs r mode
    simp [eNode, CorePrelude.SetReaderPos1, setRposNode, rtrimF, this]
  | empty p =>
    have := hw.skipWs p mode
    simp [eNode, CorePrelude.SetReaderPos1, setRposNode, rtrimF, this]
  | eof p => simp [eNode, CorePrelude.SetReaderPos1, setRposNode]

theorem setRpos_list (W : World Context) (cfg : Cfg) (hw : WorldRel W cfg) (mode : Text.WsMode) (l : List PV.Node)
    (ws : Option PV.Err) (s : Context) :
    CorePrelude.SetReaderPosList (rtrimF W (modeCode mode)) (l.map eNode) (eErr ws) s =
      .ok (eErr (setRposList cfg.file mode l ws).2, (setRposList cfg.file mode l ws).1.map eNode) s := by
  induction l generalizing ws with
  | nil => simp [CorePrelude.SetReaderPosList, setRposList]
  | cons n rest ih =>
    have h1 := setRpos_node W cfg hw mode n ws s
    rw [List.map_cons, CorePrelude.SetReaderPosList]
    · simp only [bind_apply, h1, setRposList, ih]
      simp
    · intro l h; cases n <;> simp [eNode] at h

theorem setRpos_res (W : World Context) (cfg : Cfg) (hw : WorldRel W cfg) (mode : Text.WsMode) (r : PV.Res)
    (hr : r.isNil = false) (s : Context) :
    CorePrelude.SetReaderPos (eRes r) (rtrimF W (modeCode mode)) (.nil) s =
      .ok (eErr (setRposRes cfg.file mode r).2, eRes (setRposRes cfg.file mode r).1) s := by
  cases r with
  | nil => simp [PV.Res.isNil] at hr
  | one n =>
    have h1 := setRpos_node W cfg hw mode n none s
    have : CorePrelude.SetReaderPos (eNode n) (rtrimF W (modeCode mode)) (.nil) =
        CorePrelude.SetReaderPos1 (rtrimF W (modeCode mode)) (eNode n) .nil := by
      cases n <;> rfl
    simp only [eRes_one, this, setRposRes]
    exact h1
  | list l =>
    have h1 := setRpos_list W cfg hw mode l none s
    simp only [eRes_list, CorePrelude.SetReaderPos, bind_apply, setRposRes]
    simp only [eErr_none] at h1
    rw [h1]
    simp

/-- text.RightTrim; its captured `wsMode` is the model's mode -/
theorem tie_RightTrim (W : World Context) (cfg : Cfg) (h0 : cfg.maxCalls = 0) (hw : WorldRel W cfg) (fuel : Nat)
    (p : Parser) (g : G) (mode : Text.WsMode) (hp : Agrees W cfg fuel p g) :
    AgreesF (RightTrim_parse W p (modeCode mode)) cfg (fuel + 1) (.rtrim g mode) := by
  intro m c pos s st hm hs
  rw [run_wrap cfg fuel _ _ c pos st rfl, if_neg (run_budget0 cfg h0 st)]
  have hrd : Context_Reader W s = .ok () s := rfl
  simp only [RightTrim_parse, bind_ok hrd]
  refine corr_iff.mpr (hp.bind hm pos hs fun o s1 st1 r1 => ⟨_, s1, ?_, rfl, r1⟩)
  obtain ⟨res, cp, err⟩ := o
  have hnil : eSet [] = CorePrelude.Data.EmptyIntSet := rfl
  cases err with
  | some e =>
    have hsk := hw.skipWs e.pos mode
    cases hk : e.kind.isWs
    · by_cases hgt : (Text.skipWhitespaces cfg.file e.pos mode).1 > e.pos <;>
        simp [rtrimOut, eOut, hk, hsk, hgt, CorePrelude.NewError]
    · simp [rtrimOut, eOut, hk]
  | none =>
    cases hn : res.isNil
    · have hset := setRpos_res W cfg hw mode res hn s1
      generalize hsr : setRposRes cfg.file mode res = sr at hset
      obtain ⟨res', ws⟩ := sr
      cases ws <;> simp [rtrimOut, eOut, hn, hsr, hnil] at hset ⊢ <;> simp [hset]
    · have : res = .nil := (isNil_iff _).mp hn
      subst this
      simp [rtrimOut, eOut, setRposRes]

end PV.CoreTie
