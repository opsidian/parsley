/-
  C17: the exact call count of family 7 of the harness, `P → P b | P c | a` (two left-recursive alternatives
  in one rule: env = [Memoize(Any(SeqOf(P,'b'), SeqOf(P,'c'), 'a'))], root = Sentence(P), input `a` followed by
  `c b c b …` up to length n), for EVERY n ≥ 1.

  What the run does (`Runs.spineK`, the left spine on which the level below is asked a second time; `pbpc_body`): at position 1
  Memoize is entered with left-recursion count 0, …, n+1 and curtailed at count n+2.  In every activation the FIRST alternative
  `P b` runs the inner activation; the SECOND alternative `P c` finds the inner activation's result in the cache (stored with
  context {P ↦ count}, which is not greater than the current one) — except in the lowest activation, where `P` is curtailed
  twice (a curtailment stores nothing).  The activation `m` levels above the curtailed one returns the min(m, n) shortest
  prefixes — those ending in `b` first, then those ending in `c`, then `a` (`pbpc_ends`) — and costs 5 calls (`P b`, `P c`,
  `a`, the element `P` twice) plus 2 per alternative of the inner activation.
  Sentence tries `End` after every alternative up to the one that spans the input: for odd n that is the
  first one; for even n the n/2 - 1 prefixes ending in `b` come first.
  Total: n² + 8n + 12 (n odd), n² + 8n + 11 + n/2 (n even).
-/
import ParsleyVerif.Proofs.CallsSentence
import ParsleyVerif.Proofs.CallsSum
import ParsleyVerif.Proofs.CallsEnds
namespace PV.C17b
open PV.Text PV.C17

section
variable {cfg : Cfg}

/-! ### the left spine on which the level below is asked again

  As `Runs.spine`, from the empty cache, for a body that, after it has run the activation below, asks it a second time
  (`step`, for whatever `Q1` the activation below leaves): the activation below has left its answer in the cache — or, being
  the curtailed one, nothing — and answers the same again without a call.  On the way up every activation overwrites the
  entry of the one below: afterwards the cache holds its entry only (`spineQ`). -/

/-- the entry an activation of parser 0 has saved is found again under the same count -/
theorem ctx0_self (pos t : Nat) (e : Option Err) (L : List Node) :
    cacheGet [savedEntry 0 pos (ctx0 t) [0] e L] 0 pos (ctx0 t) = some (savedEntry 0 pos (ctx0 t) [0] e L) := by
  cases t <;> simp [cacheGet, savedEntry, ctx0, Ctx.get, Ctx.filter]

/-- the cache after the activation `m` levels above the curtailed one, entered with count `t` -/
def spineQ (idx pos : Nat) (cx : Nat → Ctx) (next : List Node → List Node) (m t : Nat) (K : Cache) : Prop :=
  match m with
  | 0 => K = []
  | m + 1 => ∃ e, (lvN next (m + 1) ≠ [] → e = none) ∧ K = [savedEntry idx pos (cx t) [idx] e (lvN next (m + 1))]

theorem Runs.spineK {pos : Nat} (h0 : cfg.maxCalls = 0) {idx : Nat} {body : G} (cx : Nat → Ctx) (hget : ∀ t, (cx t).get idx = t)
    {D : Nat} (hD : D = remaining cfg.file pos + Facts.curtailSlack + 1)
    (hself : ∀ t e L, cacheGet [savedEntry idx pos (cx t) [idx] e L] idx pos (cx t) =
      some (savedEntry idx pos (cx t) [idx] e L))
    (next : List Node → List Node) (own : List Node → Nat) (fi fa : Nat)
    (step : ∀ m t F c (Q1 : Cache → Prop), m + 1 + t = D → fi + 1 ≤ F →
      Runs cfg Z F (.memo idx body) (cx (t + 1)) pos (· = []) (lvN next m) [idx] c Q1 →
      Runs cfg Z F (.memo idx body) (cx (t + 1)) pos Q1 (lvN next m) [idx] 0 Q1 →
      Runs cfg Z (F + fa) body ((cx t).inc idx) pos (· = []) (next (lvN next m)) [idx] (c + own (lvN next m)) Q1) :
    ∀ m t, m + t = D →
      Runs cfg Z ((fa + 1) * m + (fi + 1)) (.memo idx body) (cx t) pos (· = []) (lvN next m) [idx] (lvC next own m)
        (spineQ idx pos cx next m t) ∧
      Runs cfg Z ((fa + 1) * m + (fi + 1)) (.memo idx body) (cx t) pos (spineQ idx pos cx next m t) (lvN next m) [idx] 0
        (spineQ idx pos cx next m t)
  | 0, t, ht => by
    rw [Nat.mul_zero, Nat.zero_add]
    have cur := Runs.curtail (Φ := Z) (F := fi) (P := (· = [])) (body := body) h0 (idx := idx) (pos := pos) (ctx := cx t)
      (fun K hK => by rw [hK]; rfl) (by rw [hget]; omega)
    exact ⟨cur, cur⟩
  | m + 1, t, ht => by
    obtain ⟨inner1, inner2⟩ := Runs.spineK h0 cx hget hD hself next own fi fa step m (t + 1) (by omega)
    rw [show (fa + 1) * (m + 1) + (fi + 1) = (fa + 1) * m + (fi + 1) + fa + 1 by rw [Nat.mul_succ]; omega]
    refine ⟨Runs.post (Runs.memo h0 (fun K hK => by rw [hK]; rfl) (by rw [hget]; omega)
      (step m t _ _ _ (by omega) (by omega) inner1 inner2) fun _ _ _ _ => rfl) ?_, Runs.hit h0 ?_⟩
    · -- the entry of the activation below, if there is one, is overwritten
      rintro K ⟨K1, e, hK1, he, rfl⟩
      refine ⟨e, he, ?_⟩
      cases m with
      | zero => rw [show K1 = [] from hK1]; rfl
      | succ m =>
        obtain ⟨e1, _, rfl⟩ := hK1
        show _ :: List.filter _ [_] = _
        rw [List.filter_cons_of_neg (by simp [savedEntry]), List.filter_nil]
        rfl
    · rintro K ⟨e, he, rfl⟩
      exact ⟨_, hself t e _, rfl, rfl, he⟩

/-- **the body of `X → X 'b' | X 'c' | 'd'` at position 1** once `X` answers with `L`, the first time by running
    (`inner1`), the second time without a call from the cache that run has left (`inner2`): 5 calls (`X b`, `X c`, `d`, the
    element `X` twice) and 2 (`b`, `c`) per alternative in `L` -/
theorem pbpc_body {Φ : Cache → Nat} {f c i : Nat} {ctx : Ctx} {P Q1 : Cache → Prop} {L : List Node} {Pin : G} {j ch1 ch2 bch : Nat}
    (h0 : cfg.maxCalls = 0) (hoff : cfg.file.offset = 1) (hch1 : ch1 < 128) (hch2 : ch2 < 128) (hbch : bch < 128)
    (hj : cfg.env[j]? = some Pin) (hL : ∀ x ∈ L, 1 < x.rpos) (inner1 : Runs cfg Φ (f + 2) Pin ctx 1 P L [i] c Q1)
    (inner2 : Runs cfg Φ (f + 2) Pin ctx 1 Q1 L [i] 0 Q1) :
    Runs cfg Φ (f + 5) (.any [lrS j ch1, lrS j ch2, runeT bch]) ctx 1 P
      (extAllG (lrSh j ch1) [] ch1 cfg.file.data L ++ extAllG (lrSh j ch2) [] ch2 cfg.file.data L ++ baseL cfg.file.data bch)
      [i] (c + (5 + 2 * L.length)) Q1 :=
  Runs.of_eq (List.nil_append _ ▸ rfl)
    (by rw [cpUnion_nil_right, cpUnion_nil_left, cpUnion_cons_cons, if_neg (Nat.lt_irrefl i), if_neg (Nat.lt_irrefl i),
      cpUnion_nil_left])
    (by omega)
    (Runs.any h0 (AnyR.cons (Runs.seqLr h0 hoff hch1 hj hL inner1) (extAllG_notEmpty _ _ _ _ _)
      (AnyR.cons (Runs.seqLr h0 hoff hch2 hj hL inner2) (extAllG_notEmpty _ _ _ _ _)
        (AnyR.cons (Runs.base h0 hoff hbch) (baseL_notEmpty _ _) AnyR.nil))))

end

def pbpcBody : G := .any [lrS 0 98, lrS 0 99, runeT 97]
def pbpcP : G := .memo 0 pbpcBody
def pbpcEnv : List G := [pbpcP]

/-- the harness's input: `a`, then `"bc"[i%2]` for i = 1 … n-1 -/
def pbpcInput (n : Nat) : Bytes := 97 :: (List.range' 1 (n - 1)).map (fun i => if i % 2 = 0 then 98 else 99)
def pbpcFile (n : Nat) : File := { name := "f", data := pbpcInput n, offset := 1 }

structure IsPbPc (n : Nat) (cfg : Cfg) : Prop where
  env : cfg.env = pbpcEnv
  file : cfg.file = pbpcFile n
  max : cfg.maxCalls = 0

variable {n : Nat} {cfg : Cfg}

theorem pbpc_off (hc : IsPbPc n cfg) : cfg.file.offset = 1 := by rw [hc.file]; rfl

theorem pbpc_get (q : Nat) : (pbpcInput n)[q + 1]? =
    if q + 2 ≤ n then some (if (q + 1) % 2 = 0 then 98 else 99) else none := by
  rw [pbpcInput, List.getElem?_cons_succ, List.getElem?_map]
  by_cases h : q + 2 ≤ n
  · rw [if_pos h, List.getElem?_range' (show q < n - 1 by omega), Option.map_some, Nat.one_mul, Nat.add_comm 1 q]
  · rw [if_neg h, List.getElem?_eq_none_iff.mpr (by rw [List.length_range']; omega)]
    rfl

/-- behind `a`: `c` at the even positions 2 … n, `b` at the odd positions 3 … n -/
theorem pbpc_fol_ev (hc : IsPbPc n cfg) (ch j : Nat) :
    fol cfg.file.data ch (2 * j + 2) = (decide (2 * j + 2 ≤ n) && 99 == ch) := by
  rw [hc.file, fol, show (pbpcFile n).data = pbpcInput n from rfl, show 2 * j + 2 - 1 = 2 * j + 1 from rfl, pbpc_get,
    Nat.mul_add_mod_self_left]
  by_cases h : 2 * j + 2 ≤ n
  · rw [if_pos h, decide_eq_true h]; rfl
  · rw [if_neg h, decide_eq_false h]; rfl

theorem pbpc_fol_od (hc : IsPbPc n cfg) (ch j : Nat) :
    fol cfg.file.data ch (2 * j + 3) = (decide (2 * j + 3 ≤ n) && 98 == ch) := by
  rw [hc.file, fol, show (pbpcFile n).data = pbpcInput n from rfl, show 2 * j + 3 - 1 = 2 * j + 1 + 1 from rfl, pbpc_get,
    show 2 * j + 1 + 1 + 1 = 2 * j + 3 from rfl, show 2 * j + 1 + 1 = 2 * j + 2 from rfl, Nat.mul_add_mod_self_left]
  by_cases h : 2 * j + 3 ≤ n
  · rw [if_pos h, decide_eq_true h]; rfl
  · rw [if_neg h, decide_eq_false h]; rfl

theorem pbpc_fol_a (hc : IsPbPc n cfg) : fol cfg.file.data 97 1 = true := by
  rw [hc.file]; rfl

theorem pbpc_length (hc : IsPbPc n cfg) (hn : 1 ≤ n) : cfg.file.data.length = n := by
  rw [hc.file]
  show (pbpcInput n).length = n
  rw [pbpcInput, List.length_cons, List.length_map, List.length_range']
  omega

/-- the end positions one level up: the prefixes `b` extends, the prefixes `c` extends, and `a` -/
def nxt (data : Bytes) (l : List Nat) : List Nat :=
  (l.filter (fol data 98)).map (· + 1) ++ (l.filter (fol data 99)).map (· + 1) ++ [2]

def pbpcNext (data : Bytes) (L : List Node) : List Node :=
  extAllG (lrSh 0 98) [] 98 data L ++ extAllG (lrSh 0 99) [] 99 data L ++ baseL data 97

theorem pbpcNext_rpos (hc : IsPbPc n cfg) (L : List Node) :
    (pbpcNext cfg.file.data L).map Node.rpos = nxt cfg.file.data (L.map Node.rpos) := by
  rw [pbpcNext, List.map_append, List.map_append, extAllG_rpos, extAllG_rpos, baseL_rpos, pbpc_fol_a hc]
  rfl

theorem fil98_od (hc : IsPbPc n cfg) : ∀ j, 2 * j + 1 ≤ n → (od j).filter (fol cfg.file.data 98) = od j
  | 0, _ => rfl
  | j + 1, h => by
    rw [show od (j + 1) = (2 * j + 3) :: od j from rfl,
      List.filter_cons_of_pos (by rw [pbpc_fol_od hc, decide_eq_true (show 2 * j + 3 ≤ n from h)]; rfl), fil98_od hc j (by omega)]

theorem fil99_ev (hc : IsPbPc n cfg) : ∀ j, 2 * j ≤ n → (ev j).filter (fol cfg.file.data 99) = ev j
  | 0, _ => rfl
  | j + 1, h => by
    rw [show ev (j + 1) = (2 * j + 2) :: ev j from rfl,
      List.filter_cons_of_pos (by rw [pbpc_fol_ev hc, decide_eq_true (show 2 * j + 2 ≤ n from h)]; rfl), fil99_ev hc j (by omega)]

theorem fil99_od (hc : IsPbPc n cfg) : ∀ j, (od j).filter (fol cfg.file.data 99) = []
  | 0 => rfl
  | j + 1 => by
    rw [show od (j + 1) = (2 * j + 3) :: od j from rfl,
      List.filter_cons_of_neg (by rw [pbpc_fol_od hc, show ((98 : Nat) == 99) = false from rfl, Bool.and_false]
                                  exact Bool.false_ne_true), fil99_od hc j]

theorem fil98_ev (hc : IsPbPc n cfg) (j : Nat) : (ev j).filter (fol cfg.file.data 98) = [] := by
  induction j with
  | zero => rfl
  | succ j ih =>
    rw [show ev (j + 1) = (2 * j + 2) :: ev j from rfl,
      List.filter_cons_of_neg (by rw [pbpc_fol_ev hc, show ((99 : Nat) == 98) = false from rfl, Bool.and_false]
                                  exact Bool.false_ne_true), ih]

/-- the longest prefix spans the input: nothing follows it -/
theorem fil98_od_top (hc : IsPbPc n cfg) (j : Nat) (h : n = 2 * j + 2) :
    (od (j + 1)).filter (fol cfg.file.data 98) = od j := by
  rw [show od (j + 1) = (2 * j + 3) :: od j from rfl,
    List.filter_cons_of_neg (by rw [pbpc_fol_od hc, decide_eq_false (by omega)]; exact Bool.false_ne_true),
    fil98_od hc j (by omega)]

theorem fil99_ev_top (hc : IsPbPc n cfg) (j : Nat) (h : n = 2 * j + 1) :
    (ev (j + 1)).filter (fol cfg.file.data 99) = ev j := by
  rw [show ev (j + 1) = (2 * j + 2) :: ev j from rfl,
    List.filter_cons_of_neg (by rw [pbpc_fol_ev hc, decide_eq_false (by omega)]; exact Bool.false_ne_true),
    fil99_ev hc j (by omega)]

/-- the end positions at level `m`: the prefixes ending in `b` (even ends 4, 6, …), those ending in `c` (odd ends),
    and `a` (end 2); saturated at the input length -/
def LP (n m : Nat) : List Nat :=
  (od (min ((m - 1) / 2) ((n - 1) / 2))).map (· + 1) ++ od (min (m / 2) (n / 2)) ++ [2]

theorem LP_eq (n m : Nat) : LP n m =
    (od (min ((m - 1) / 2) ((n - 1) / 2))).map (· + 1) ++ (od (min (m / 2) (n / 2)) ++ [2]) := by
  simp [LP]

/-- the end positions of `b` prefixes ending in `b` (2b+2, …, 4), `c` prefixes ending in `c` (2c+1, …, 3), and `a` -/
def ends (b c : Nat) : List Nat := (od b).map (· + 1) ++ od c ++ [2]

theorem ends_length (b c : Nat) : (ends b c).length = b + c + 1 := by
  simp only [ends, List.length_append, List.length_map, od_length, List.length_singleton]

theorem ends_gt1 (b c p : Nat) (hp : p ∈ ends b c) : 1 < p := by
  simp only [ends, List.mem_append, List.mem_map, List.mem_singleton] at hp
  rcases hp with (⟨q, hq, rfl⟩ | hq) | rfl
  · have := od_mem _ q hq; omega
  · have := od_mem _ p hq; omega
  · omega

/-- one level up: the prefixes ending in `c` that `b` follows (`b'` of them) now end in `b`; those ending in `b`, and
    `a`, that `c` follows (`c'` of them) now end in `c` -/
theorem nxt_ends (hc : IsPbPc n cfg) (b c b' c' : Nat) (h98 : (od c).filter (fol cfg.file.data 98) = od b')
    (h99 : (ev (b + 1)).filter (fol cfg.file.data 99) = ev c') :
    nxt cfg.file.data (ends b c) = ends b' c' := by
  have hA := fil98_ev hc (b + 1)
  rw [← od_map_succ, List.filter_append, List.append_eq_nil_iff] at hA
  rw [← od_map_succ, List.filter_append] at h99
  rw [nxt, ends, List.filter_append, List.filter_append, List.filter_append, List.filter_append, hA.1, hA.2, h98,
    fil99_od hc, List.nil_append, List.append_nil, List.append_nil, h99, ev_map_succ, ends]

/-- **the answers along the left spine**: the activation `m + 1` levels above the curtailed one returns min(m + 1, n)
    prefixes, as many of the one kind as of the other or one more that end in `c` — alternately one more of each kind while
    the spine grows; then the longest spans the input, nothing follows it, and the same `n` go up -/
theorem pbpc_ends (hc : IsPbPc n cfg) (hn : 1 ≤ n) : ∀ m, ∃ b c, b + c + 1 = min (m + 1) n ∧ (c = b ∨ c = b + 1) ∧
    (lvN (pbpcNext cfg.file.data) (m + 1)).map Node.rpos = ends b c
  | 0 => ⟨0, 0, (Nat.min_eq_left hn).symm, .inl rfl, by rw [lvN, pbpcNext_rpos hc]; rfl⟩
  | m + 1 => by
    obtain ⟨b, c, hbc, hpar, ih⟩ := pbpc_ends hc hn m
    rw [lvN, pbpcNext_rpos hc, ih]
    by_cases hm : m + 2 ≤ n
    · rw [Nat.min_eq_left hm]
      rw [Nat.min_eq_left (Nat.le_of_succ_le hm)] at hbc
      exact ⟨c, b + 1, by omega, by omega, nxt_ends hc b c c (b + 1) (fil98_od hc c (by omega)) (fil99_ev hc (b + 1) (by omega))⟩
    · have hm' : n ≤ m + 1 := by omega
      rw [Nat.min_eq_right (Nat.le_succ_of_le hm')]
      rw [Nat.min_eq_right hm'] at hbc
      refine ⟨b, c, hbc, hpar, ?_⟩
      rcases hpar with h | h <;> rw [h] at hbc ⊢
      · exact nxt_ends hc b b b b (fil98_od hc b (by omega)) (fil99_ev_top hc b (by omega))
      · exact nxt_ends hc b (b + 1) b (b + 1) (fil98_od_top hc b (by omega)) (fil99_ev hc (b + 1) (by omega))

theorem pbpc_gt1 (hc : IsPbPc n cfg) (hn : 1 ≤ n) : ∀ m, ∀ x ∈ lvN (pbpcNext cfg.file.data) m, 1 < x.rpos
  | 0 => fun _ h => nomatch h
  | m + 1 => by obtain ⟨b, c, _, _, h⟩ := pbpc_ends hc hn m; exact rpos_gt_of_map h (ends_gt1 b c)

theorem pbpcN_length (hc : IsPbPc n cfg) (hn : 1 ≤ n) : ∀ m, (lvN (pbpcNext cfg.file.data) m).length = min m n
  | 0 => (Nat.zero_min n).symm
  | m + 1 => by
    obtain ⟨b, c, hbc, _, h⟩ := pbpc_ends hc hn m
    rw [← List.length_map (f := Node.rpos), h, ends_length, hbc]

theorem pbpcC_eq (hc : IsPbPc n cfg) (hn : 1 ≤ n) : ∀ m,
    lvC (pbpcNext cfg.file.data) (fun L => 5 + 2 * L.length) m = 5 * m + 2 * triS n m
  | 0 => rfl
  | m + 1 => by
    rw [lvC, pbpcC_eq hc hn m, pbpcN_length hc hn, triS]
    omega

def pbpcCalls (n : Nat) : Nat := n * n + 8 * n + 12 + (if n % 2 = 0 then n / 2 - 1 else 0)

/-- where the prefix that spans the input stands among the alternatives: first when there are as many prefixes of each
    kind (n odd), behind the n/2 - 1 that end in `b` otherwise -/
theorem ends_span {n b c : Nat} (hbc : b + c + 1 = n) (hpar : c = b ∨ c = b + 1) :
    ∃ pre tl, ends b c = pre ++ (n + 1) :: tl ∧ (∀ p ∈ pre, 1 < p ∧ p ≤ n) ∧
      n * n + 8 * n + 12 + pre.length = pbpcCalls n := by
  rcases hpar with h | h <;> rw [h] at hbc ⊢
  · have htl : ∃ tl, ends b b = (2 * b + 2) :: tl := by cases b <;> exact ⟨_, rfl⟩
    obtain ⟨tl, htl⟩ := htl
    refine ⟨[], tl, by rw [htl, show 2 * b + 2 = n + 1 by omega]; rfl, nofun, ?_⟩
    rw [pbpcCalls, if_neg (show ¬ n % 2 = 0 by omega)]
    rfl
  · refine ⟨(od b).map (· + 1), od b ++ [2], by rw [ends, List.append_assoc, ← show 2 * b + 3 = n + 1 by omega]; rfl, ?_, ?_⟩
    · intro p hp
      obtain ⟨q, hq, rfl⟩ := List.mem_map.mp hp
      have := od_mem b q hq
      omega
    · rw [pbpcCalls, if_pos (show n % 2 = 0 by omega), List.length_map, od_length]
      omega

theorem pbpc_parse (hc : IsPbPc n cfg) (hn : 1 ≤ n) :
    ∃ p, parse cfg (4 * n + 14) (G.sentence (.ref 0)) = some p ∧ p.err = none ∧ p.res.isNil = false ∧
      p.st.calls = pbpcCalls n := by
  have henv : cfg.env[0]? = some pbpcP := by rw [hc.env]; rfl
  have lvl := (Runs.spineK hc.max (pos := 1) (idx := 0) (body := pbpcBody) ctx0 ctx0_get
    (by rw [remaining_one (pbpc_off hc), pbpc_length hc hn])
    (ctx0_self 1) (pbpcNext cfg.file.data) (fun L => 5 + 2 * L.length) 1 3
    (fun m t F c Q1 _ hF inner1 inner2 => by
      obtain ⟨f, rfl⟩ : ∃ f, F = f + 2 := ⟨F - 2, by omega⟩
      rw [ctx0_inc]
      exact pbpc_body hc.max (pbpc_off hc) (by decide) (by decide) (by decide) henv (pbpc_gt1 hc hn m) inner1 inner2)
    (n + 2) 0 rfl).1
  obtain ⟨b, c, hbc, hpar, hLm⟩ := pbpc_ends hc hn (n + 1)
  rw [Nat.min_eq_right (by omega)] at hbc
  obtain ⟨pre, tl, hsplit, hpre, hcalls⟩ := ends_span hbc hpar
  rw [pbpcC_eq hc hn] at lvl
  have hlen := pbpc_length hc hn
  obtain ⟨p, h1, h2, h3, h4⟩ := Runs.sentence_ends (F := 4 * n + 10) hc.max (pbpc_off hc) (by omega) henv (lvl.mono (by omega))
    (by rw [hLm, hsplit, hlen]) (by rw [hlen]; exact hpre)
  refine ⟨p, h1, h2, h3, ?_⟩
  have := triS_high n 2
  rw [h4, ← hcalls]
  omega

def pbpcCfg (n : Nat) : Cfg := famCfg pbpcEnv (pbpcInput n)

theorem pbpcCfg_is (n : Nat) : IsPbPc n (pbpcCfg n) := ⟨rfl, rfl, rfl⟩
end PV.C17b
