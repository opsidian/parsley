/-
  C17, the operator grammars (families 2 and 8 of the harness, harness/cmd/corr/c17.go):
      E → E a T (a ∈ A) | T ;  T → T m F (m ∈ M) | F ;  F → 1 | ( E )
  env = [Memoize₀(Any(SeqOf(E,a,T) …, T)), Memoize₁(Any(SeqOf(T,m,F) …, F)), Any('1', SeqOf('(',E,')'))] for non-empty
  lists `A`, `M` of operator characters, on ANY input `1 o₁ 1 o₂ … o_k 1` with operators in `A ++ M`.

  This file: the run, as derivations in the judgment `Runs` (Proofs/CallsRuns.lean).  Both levels are the same rule
  `X → X c Y (c ∈ ops) | Y` over a rule `Y` below of which only an interface is used (`Low`: what a call of `Y` at a
  position of `S` returns, what it costs beyond what a potential of the cache loses, which properties of the cache it keeps):
  * `X` at a position `q` that has no cache entry yet (`Lv.level`): Memoize is entered with left-recursion count
    0 … 2k+3-q and curtailed at 2k+4-q; level j+1 returns, operator by operator, the extensions of the alternatives of
    level j by the alternatives of `Y` behind the operator, and the alternatives of `Y` at `q` (`LN`).  Its first
    alternative `X c Y` runs level j; the others read its result from the cache (at the lowest level: are curtailed
    again).  Every alternative costs a call per alternative of level j, and where its operator follows one more and the
    calls of `Y` (`lvOwn`).  The answers do not depend on the cache; nothing is said of the cache but what the next step needs.
  * `T` is this over `F` (3 calls, the cache is not touched).  The cache entry of its top level has the empty context, so every
    later call of `T` at `q` is a cache hit.  With the potential `phi` = the calls of the first runs of `T` still to come, a call
    of `T` is free whatever the cache holds (`T_call`); that makes `T` a rule below, and `E` at position 1 is this over `T`
    (`E_level`); the marks (`Marked`) record where `T` has run, so that the potential is known to be used up at the end.
  * With one operator per level the alternatives of `E` come out by decreasing end (`EN_sorted`).
  The counting of `LN`, `LC` is in CallsArithCount.lean.
-/
import ParsleyVerif.Proofs.CallsRuns
namespace PV.C17b
open PV.Text PV.C17

def look (c : List CacheEntry) (idx pos : Nat) : Option CacheEntry :=
  c.find? (fun e => e.idx == idx && e.pos == pos)

theorem cacheGet_look (c : List CacheEntry) (idx pos : Nat) (ctx : Ctx) :
    cacheGet c idx pos ctx = match look c idx pos with
      | none => none
      | some e => if e.ctx.all (fun kv => !(kv.2 > ctx.get kv.1)) then some e else none := rfl

theorem cacheGet_of_look_none (c : List CacheEntry) (idx pos : Nat) (ctx : Ctx) (h : look c idx pos = none) :
    cacheGet c idx pos ctx = none := by
  rw [cacheGet_look, h]

theorem look_filter_other (c : List CacheEntry) (i p i' p' : Nat) (hne : ¬ (i = i' ∧ p = p')) :
    look (c.filter (fun x => !(x.idx == i' && x.pos == p'))) i p = look c i p :=
  find_filter _ _ (fun x hx => by
    obtain ⟨h1, h2⟩ := Bool.and_eq_true_iff.mp hx
    rw [eq_of_beq h1, eq_of_beq h2, Bool.not_eq_true', Bool.and_eq_false_iff, beq_eq_false_iff_ne, beq_eq_false_iff_ne]
    exact Decidable.not_and_iff_not_or_not.mp hne) c

theorem look_cacheSave (c : List CacheEntry) (e : CacheEntry) (i p : Nat) :
    look (cacheSave c e) i p = if e.idx = i ∧ e.pos = p then some e else look c i p := by
  by_cases h : e.idx = i ∧ e.pos = p
  · simp [look, cacheSave, h]
  · have hb : (e.idx == i && e.pos == p) = false := by
      cases h1 : (e.idx == i) <;> cases h2 : (e.pos == p) <;> simp_all
    rw [if_neg h]
    have := look_filter_other c i p e.idx e.pos (fun x => h ⟨x.1.symm, x.2.symm⟩)
    simp only [look, cacheSave, List.find?_cons, hb] at this ⊢
    exact this

def arParen : G := seqOfT [runeT 40, .ref 0, runeT 41]
def arF : G := .any [runeT 49, arParen]

def parenSh : SeqShape :=
  { lookup := fun i => [runeT 40, G.ref 0, runeT 41][i]?, lenCheck := fun len => len == 3, token := seqTok,
    interp := .none, single := false, name := none }

/-- `SeqOf(X, 'c', Y)` -/
def opS (j ch j2 : Nat) : G := seqOfT [.ref j, runeT ch, .ref j2]

def opSh (j ch j2 : Nat) : SeqShape :=
  { lookup := fun i => [G.ref j, runeT ch, G.ref j2][i]?, lenCheck := fun len => len == 3, token := seqTok,
    interp := .none, single := false, name := none }

theorem opS_shape (j ch j2 : Nat) : (opS j ch j2).shape = some (opSh j ch j2) := rfl

/-- `Any(SeqOf(X, 'c', Y) for c in ops …, Y)` -/
def lvBody (i j : Nat) (ops : List Nat) : G := .any (ops.map (fun c => opS i c j) ++ [.ref j])
def lvE (A : List Nat) : G := .memo 0 (lvBody 0 1 A)
def lvT (M : List Nat) : G := .memo 1 (lvBody 1 2 M)
def lvEnv (A M : List Nat) : List G := [lvE A, lvT M, arF]

variable {k : Nat} {cfg : Cfg}

/-- what the proofs use of the input: length 2k+1, no `(`, `1` at the odd positions, the operators only at even
    positions (so that a `1` follows) -/
structure IsLv (A M : List Nat) (k : Nat) (cfg : Cfg) : Prop where
  env : cfg.env = lvEnv A M
  off : cfg.file.offset = 1
  max : cfg.maxCalls = 0
  len : cfg.file.data.length = 2 * k + 1
  noParen : ∀ p, fol cfg.file.data 40 p = false
  one : ∀ p, p % 2 = 1 → p ≤ 2 * k + 1 → fol cfg.file.data 49 p = true
  op : ∀ c ∈ A ++ M, c < 128 ∧ ∀ p, fol cfg.file.data c p = true → p % 2 = 0 ∧ p ≤ 2 * k
  addNe : A ≠ []
  mulNe : M ≠ []

/-- the node of `X c Y` from the node `x` of `X` and the node `y` of `Y` -/
def ext (i c i' : Nat) (x y : Node) : Node := handleResult (opSh i c i') y.rpos ([x, runeNode c x.rpos] ++ [y])

theorem ext_rpos (i c i' : Nat) (x y : Node) : (ext i c i' x y).rpos = y.rpos := rfl

def isOp (data : Bytes) (ch : Nat) (x : Node) : Bool := fol data ch x.rpos

/-- a node that can stand where the loops of this file need it: not EMPTY, not EOF, ending at an even position
    in (q, 2k+2] -/
def goodNode (k q : Nat) (x : Node) : Prop :=
  q < x.rpos ∧ x.rpos % 2 = 0 ∧ x.rpos ≤ 2 * k + 2 ∧ notEmptyNode x ∧ (x.token == eofTok) = false

/-- behind a node that an operator follows: an odd position at which a `1` stands -/
theorem goodNode.next {k q : Nat} {x : Node} (hx : goodNode k q x) (hs : x.rpos % 2 = 0 ∧ x.rpos ≤ 2 * k) :
    (x.rpos + 1) % 2 = 1 ∧ x.rpos + 1 ≤ 2 * k + 1 ∧ q + 1 < x.rpos + 1 := by
  have := hx.1
  omega

/-- the left-recursion context inside the spine of `T`: the context `c0` of the caller (which has no count for `T`)
    with count `t` for `T` -/
def cT (c0 : Ctx) : Nat → Ctx
  | 0 => c0
  | t + 1 => c0 ++ [(1, t + 1)]

/-- the left-recursion context inside the spine of rule `i`: the context `c0` of the caller (which has no count for
    `i`) with count `t` for `i` -/
def cX (i : Nat) (c0 : Ctx) : Nat → Ctx
  | 0 => c0
  | t + 1 => c0 ++ [(i, t + 1)]

theorem cX_inc (i : Nat) (c0 : Ctx) (hc0 : ∀ kv ∈ c0, kv.1 ≠ i) (t : Nat) : (cX i c0 t).inc i = cX i c0 (t + 1) := by
  have hany : c0.any (fun kv => kv.1 == i) = false := by
    apply List.any_eq_false.mpr
    intro kv hkv
    simpa using hc0 kv hkv
  cases t with
  | zero => simp [cX, Ctx.inc, hany]
  | succ t =>
    simp [cX, Ctx.inc]
    conv => rhs; rw [← List.map_id c0]
    apply List.map_congr_left
    intro kv hkv
    simp [hc0 kv hkv]

theorem cX_get (i : Nat) (c0 : Ctx) (hc0 : ∀ kv ∈ c0, kv.1 ≠ i) (t : Nat) : (cX i c0 t).get i = t := by
  have hf : c0.find? (fun kv => kv.1 == i) = none := by
    apply List.find?_eq_none.mpr
    intro kv hkv
    simpa using hc0 kv hkv
  cases t with
  | zero => simp [cX, Ctx.get, hf]
  | succ t => simp [cX, Ctx.get, List.find?_append, hf]

theorem cX_filter (i : Nat) (c0 : Ctx) (cp : List Nat) (hi : i ∈ cp) (hc0 : ∀ kv ∈ c0, kv.1 ∉ cp) (t : Nat) :
    (cX i c0 t).filter cp = cX i [] t := by
  have hf : List.filter (fun kv : Nat × Nat => cp.contains kv.1) c0 = [] := by
    apply List.filter_eq_nil_iff.mpr
    intro kv hkv
    simpa using hc0 kv hkv
  cases t with
  | zero => simp only [cX, Ctx.filter, hf]
  | succ t =>
    simp [cX, Ctx.filter, hi]
    intro a b h
    exact hc0 (a, b) h

def TEnt (q : Nat) (c : Ctx) (L : List Node) : CacheEntry :=
  { idx := 1, pos := q, ctx := c, cp := [1], err := none, res := resOf L }

def LEnt (i q : Nat) (cp : List Nat) (t : Nat) (L : List Node) : CacheEntry :=
  { idx := i, pos := q, ctx := cX i [] t, cp := cp, err := none, res := resOf L }

theorem ctx0_filter01 (t : Nat) : (ctx0 t).filter [0, 1] = ctx0 t := by
  cases t <;> simp [ctx0, Ctx.filter]

/-- what the proofs use of a rule `X → X c Y (c ∈ ops) | Y` (`X` = rule `i`, `Y` = rule `i'`) and of the input -/
structure IsLevel (i i' : Nat) (ops : List Nat) (k : Nat) (cfg : Cfg) : Prop where
  env : cfg.env[i]? = some (.memo i (lvBody i i' ops))
  off : cfg.file.offset = 1
  max : cfg.maxCalls = 0
  len : cfg.file.data.length = 2 * k + 1
  op : ∀ c ∈ ops, c < 128 ∧ ∀ p, fol cfg.file.data c p = true → p % 2 = 0 ∧ p ≤ 2 * k
  ne : ops ≠ []

/-- `R` survives whatever `Step` may do to the cache -/
def Stable (Step : Cache → Cache → Prop) (R : Cache → Prop) : Prop := ∀ K K', Step K K' → R K → R K'

/-- what the proofs use of the rule below: a call of `Y` at a position `q` of `S` returns `res q` with the curtailing parsers
    `ycp` and costs `a` calls beyond what the potential `Φ` loses; it keeps the invariant `Inv` of the cache and every
    property of the cache that survives what `Y` may do to it at `q` (`Step q`), and leaves the mark `Mark q` -/
structure Low (Φ : Cache → Nat) (Inv : Cache → Prop) (Step : Nat → Cache → Cache → Prop) (Mark : Nat → Cache → Prop)
    (res : Nat → List Node) (ycp : List Nat) (a : Nat) (S : Nat → Prop) (okCtx : Ctx → Prop) (i' F0 k : Nat) (cfg : Cfg) :
    Prop where
  odd : ∀ q, S q → q % 2 = 1 ∧ q ≤ 2 * k + 1
  call : ∀ q, S q → ∀ ctx, okCtx ctx → ∀ F, F0 ≤ F → ∀ R, Stable (Step q) R →
    Runs cfg Φ (F + 1) (.ref i') ctx q (fun K => Inv K ∧ R K) (res q) ycp a (fun K => Inv K ∧ R K ∧ Mark q K)
  good : ∀ q, S q → res q ≠ [] ∧ ∀ y ∈ res q, goodNode k q y
  mark : ∀ q p, Stable (Step q) (Mark p)
  nil : okCtx []

namespace Lv
variable {k : Nat} {cfg : Cfg}
variable {Φ : Cache → Nat} {Inv : Cache → Prop} {Step : Nat → Cache → Cache → Prop} {Mark : Nat → Cache → Prop}
  {res : Nat → List Node} {ycp : List Nat} {a : Nat} {S : Nat → Prop} {okCtx : Ctx → Prop} {i i' F0 : Nat} {ops : List Nat}

theorem remaining_eq (hoff : cfg.file.offset = 1) (hlen : cfg.file.data.length = 2 * k + 1) (q : Nat) (hq : 1 ≤ q)
    (hq2 : q ≤ 2 * k + 2) : remaining cfg.file q + Facts.curtailSlack = 2 * k + 3 - q := by
  have h1 : cfg.file.len = 2 * k + 1 := hlen
  have h2 : Facts.curtailSlack = 1 := rfl
  rw [remaining, h1, hoff, h2]
  omega

/-- the `c`-extensions of the alternatives `l` of `X` -/
def pRes (res : Nat → List Node) (i i' : Nat) (data : Bytes) (c : Nat) (l : List Node) : List Node :=
  l.flatMap (fun x => if isOp data c x then (res (x.rpos + 1)).map (ext i c i' x) else [])

/-- the number of alternatives that `c` follows -/
def opN (data : Bytes) (c : Nat) (l : List Node) : Nat := (l.filter (isOp data c)).length

/-- the marks behind the alternatives of `l` that `c` follows -/
def Marks (Mark : Nat → Cache → Prop) (data : Bytes) (c : Nat) (l : List Node) (K : Cache) : Prop :=
  ∀ x ∈ l, isOp data c x = true → Mark (x.rpos + 1) K

theorem pRes_notEmpty (res : Nat → List Node) (i i' : Nat) (data : Bytes) (c : Nat) (l : List Node) :
    ∀ z ∈ pRes res i i' data c l, notEmptyNode z := by
  intro z hz
  simp only [pRes, List.mem_flatMap] at hz
  obtain ⟨x, _, hz⟩ := hz
  split at hz
  · obtain ⟨y, _, rfl⟩ := List.mem_map.mp hz
    trivial
  · cases hz

theorem pRes_good (hres : ∀ p, p % 2 = 1 → p ≤ 2 * k + 1 → ∀ y ∈ res p, goodNode k p y) (hc : IsLevel i i' ops k cfg)
    (ch : Nat) (hch : ch ∈ ops) (q : Nat) (l : List Node) (hl : ∀ x ∈ l, goodNode k q x) :
    ∀ z ∈ pRes res i i' cfg.file.data ch l, goodNode k q z := by
  intro z hz
  simp only [pRes, List.mem_flatMap] at hz
  obtain ⟨x, hx, hz⟩ := hz
  by_cases hp : isOp cfg.file.data ch x = true
  · obtain ⟨h1, h2, h3⟩ := (hl x hx).next ((hc.op ch hch).2 _ hp)
    simp only [hp, ↓reduceIte, List.mem_map] at hz
    obtain ⟨y, hy, rfl⟩ := hz
    obtain ⟨a1, a2, a3, _, _⟩ := hres (x.rpos + 1) h1 h2 y hy
    exact ⟨by rw [ext_rpos]; omega, by rw [ext_rpos]; exact a2, by rw [ext_rpos]; exact a3, trivial, rfl⟩
  · have hp2 : isOp cfg.file.data ch x = false := by simpa using hp
    simp [hp2] at hz

/-- **the loop of `X c Y` over the alternatives of the inner `X`**: one call (`c`) each; where `c` follows, one more (`Y`)
    and the calls of `Y` behind it, whose alternatives are emitted -/
theorem op_alts (hY : Low Φ Inv Step Mark res ycp a S okCtx i' F0 k cfg) (hc : IsLevel i i' ops k cfg) {c : Nat}
    (hcm : c ∈ ops) {fr f : Nat} (hfr : F0 ≤ fr) {ctx : Ctx} {merge : Bool} {q : Nat} {cpa : List Nat} :
    ∀ (l : List Node), (∀ x ∈ l, goodNode k q x) → (∀ x ∈ l, isOp cfg.file.data c x = true → S (x.rpos + 1)) →
    ∀ (R : Cache → Prop), (∀ p, Stable (Step p) R) →
    AltsR cfg Φ (opSh i c i') (fr + 1) (f + 3) 0 [] ctx q merge l cpa (fun K => Inv K ∧ R K) false
      (pRes res i i' cfg.file.data c l) cpa (l.length + (1 + a) * opN cfg.file.data c l)
      (fun K => Inv K ∧ R K ∧ Marks Mark cfg.file.data c l K)
  | [], _, _, R, _ => AltsR.post AltsR.nil fun K h => ⟨h.1, h.2, fun _ hx => nomatch hx⟩
  | x :: l, hl, hS, R, hR => by
    obtain ⟨hlt, hop⟩ := hc.op c hcm
    have hgx := hl x (List.mem_cons_self ..)
    have hx1 : 1 ≤ x.rpos := Nat.lt_of_le_of_lt (Nat.zero_le q) hgx.1
    by_cases hp : isOp cfg.file.data c x = true
    · obtain ⟨_, _, _⟩ := hgx.next (hop _ hp)
      have hSx := hS x (List.mem_cons_self ..) hp
      obtain ⟨hne, hgood⟩ := hY.good (x.rpos + 1) hSx
      have ih := op_alts hY hc hcm hfr (f := f) (ctx := ctx) (merge := merge) (q := q) (cpa := cpa) l
        (fun y hy => hl y (List.mem_cons_of_mem _ hy)) (fun y hy => hS y (List.mem_cons_of_mem _ hy))
        (fun K => R K ∧ Mark (x.rpos + 1) K) fun p K K' h hr => ⟨hR p K K' h hr.1, hY.mark p _ K K' h hr.2⟩
      refine AltsR.of_eq rfl ?_ rfl ?_ (AltsR.post (AltsR.cons (SeqR.of_eq rfl rfl ?_ rfl
        (SeqR.adv (g := runeT c) rfl (Runs.rune_ok hc.max hc.off hlt hx1 hp) (Nat.lt_succ_self _)
          (SeqR.alts (g := .ref i') rfl (hY.call (x.rpos + 1) hSx [] hY.nil fr hfr R (hR _)) (.inl hne)
            (AltsR.emit (d := 2) rfl rfl (by simp) _ fun y hy => (hgood y hy).2.2.2.2)))) ih)
        fun K h => ⟨h.1, h.2.1.1, fun y hy ho => ?_⟩)
      · simp only [pRes, List.flatMap_cons, hp, ↓reduceIte]; rfl
      · have : opN cfg.file.data c (x :: l) = opN cfg.file.data c l + 1 := by simp [opN, hp]
        rw [this, Nat.mul_succ, List.length_cons]; omega
      · rw [cpStep_false, cpStep_nil]
      · rcases List.mem_cons.mp hy with rfl | hy
        · exact h.2.1.2
        · exact h.2.2 y hy ho
    · have hp' : fol cfg.file.data c x.rpos = false := by simpa [isOp] using hp
      have hp2 : isOp cfg.file.data c x = false := by simpa using hp
      have ih := op_alts hY hc hcm hfr (f := f) (ctx := ctx) (merge := merge) (q := q) (cpa := cpa) l
        (fun y hy => hl y (List.mem_cons_of_mem _ hy)) (fun y hy => hS y (List.mem_cons_of_mem _ hy)) R hR
      refine AltsR.of_eq rfl ?_ rfl ?_ (AltsR.post (AltsR.cons (SeqR.of_eq rfl rfl (cpStep_nil _ _) rfl
        (SeqR.fail (g := runeT c) rfl (Runs.rune_no hc.max hc.off hlt hx1 hp') rfl)) ih)
        fun K h => ⟨h.1, h.2.1, fun y hy ho => ?_⟩)
      · simp [pRes, hp2]
      · have : opN cfg.file.data c (x :: l) = opN cfg.file.data c l := by simp [opN, hp2]
        rw [this, List.length_cons]; omega
      · rcases List.mem_cons.mp hy with rfl | hy
        · rw [hp2] at ho; cases ho
        · exact h.2.2 y hy ho

/-- **`SeqOf(X, 'c', Y)`** once the inner `X` answers with `L` -/
theorem run_opS (hY : Low Φ Inv Step Mark res ycp a S okCtx i' F0 k cfg) (hc : IsLevel i i' ops k cfg) {c : Nat}
    (hcm : c ∈ ops) {f : Nat} (hf : F0 + 2 ≤ f) {ctx : Ctx} {q : Nat} {L : List Node} (hL : ∀ x ∈ L, goodNode k q x)
    (hS : ∀ x ∈ L, isOp cfg.file.data c x = true → S (x.rpos + 1)) {R : Cache → Prop} (hR : ∀ p, Stable (Step p) R)
    {P0 : Cache → Prop} {cpin : List Nat} {cin : Nat}
    (inner : Runs cfg Φ (f + 2) (.memo i (lvBody i i' ops)) ctx q P0 L cpin cin (fun K => Inv K ∧ R K)) :
    Runs cfg Φ (f + 6) (opS i c i') ctx q P0 (pRes res i i' cfg.file.data c L) cpin
      (1 + cin + (L.length + (1 + a) * opN cfg.file.data c L)) (fun K => Inv K ∧ R K ∧ Marks Mark cfg.file.data c L K) :=
  Runs.of_eq (List.nil_append _) (cpStep_first cpin) rfl
    (Runs.seq hc.max (sh := opSh i c i') (opS_shape i c i')
      (SeqR.alts (g := .ref i) rfl (Runs.ref hc.max hc.env (inner.mono (show f + 2 ≤ f + 4 by omega))) (.inr rfl)
        (op_alts hY hc hcm (fr := f + 4) (f := f + 1) (by omega) L hL hS R hR)))

/-- the `c`-extensions, `c ∈ ops` in turn, of the alternatives `L` of `X` -/
def addAll (res : Nat → List Node) (i i' : Nat) (data : Bytes) (ops : List Nat) (L : List Node) : List Node :=
  ops.flatMap fun c => pRes res i i' data c L

/-- the alternatives that an operator of `ops` follows, counted operator by operator -/
def opCount (data : Bytes) (ops : List Nat) (L : List Node) : Nat :=
  (ops.flatMap fun c => (L.map Node.rpos).filter (fol data c)).length

theorem filter_op_rpos (data : Bytes) (c : Nat) (l : List Node) :
    (l.filter (isOp data c)).map Node.rpos = (l.map Node.rpos).filter (fol data c) := by
  rw [List.filter_map]; rfl

theorem opCount_cons (data : Bytes) (c : Nat) (ops : List Nat) (L : List Node) :
    opCount data (c :: ops) L = opN data c L + opCount data ops L := by
  simp only [opCount, opN, List.flatMap_cons, List.length_append, ← filter_op_rpos, List.length_map]

/-- **the calls of one activation of `X`** whose inner activation answered with `L`, beyond those of the inner activation: the
    alternatives `X c Y` and their element `X` for every `c`, one `c` per alternative in `L`, `Y` and its `a` calls where
    `c` follows; `Y` at the position of `X` -/
def lvOwn (a : Nat) (data : Bytes) (ops : List Nat) (L : List Node) : Nat :=
  1 + a + ops.length * (2 + L.length) + (1 + a) * opCount data ops L

/-- the alternatives `X c Y` behind the first one, and `Y`: every inner `X` is answered without a call (`again`: from the
    cache, or curtailed again) as long as the cache has the property `Ent` -/
theorem any_ops (hY : Low Φ Inv Step Mark res ycp a S okCtx i' F0 k cfg) (hc : IsLevel i i' ops k cfg) {q : Nat} (hq : S q)
    {f : Nat} (hf : F0 + 2 ≤ f) {ctx : Ctx} (hctx : okCtx ctx) {L : List Node} (hL : ∀ x ∈ L, goodNode k q x)
    {cp cpin : List Nat} (hcpin : cpUnion cpin cpin = cpin ∧ cpUnion cpin ycp = cp) {Ent : Cache → Prop}
    (again : ∀ R : Cache → Prop, (∀ K, R K → Ent K) →
      Runs cfg Φ (f + 2) (.memo i (lvBody i i' ops)) ctx q (fun K => Inv K ∧ R K) L cpin 0 (fun K => Inv K ∧ R K)) :
    ∀ (os : List Nat), (∀ c ∈ os, c ∈ ops) → (∀ c ∈ os, ∀ x ∈ L, isOp cfg.file.data c x = true → S (x.rpos + 1)) →
    ∀ (acc : List Node) (R : Cache → Prop), (∀ p, Stable (Step p) R) → (∀ K, R K → Ent K) →
    AnyR cfg Φ (f + 6) ctx q (os.map (fun c => opS i c i') ++ [.ref i']) acc cpin (fun K => Inv K ∧ R K)
      (acc ++ addAll res i i' cfg.file.data os L ++ res q) cp
      (os.length * (2 + L.length) + (1 + a) * opCount cfg.file.data os L + (1 + a))
      (fun K => Inv K ∧ R K ∧ Mark q K ∧ ∀ c ∈ os, Marks Mark cfg.file.data c L K)
  | [], _, _, acc, R, hR, _ =>
    AnyR.of_eq (by simp [addAll]) hcpin.2 (by simp [opCount])
      (AnyR.post (AnyR.cons (hY.call q hq ctx hctx (f + 5) (by omega) R (hR q))
        (fun x hx => ((hY.good q hq).2 x hx).2.2.2.1) AnyR.nil) fun K h => ⟨h.1, h.2.1, h.2.2, fun _ hc' => nomatch hc'⟩)
  | c :: os, hos, hS, acc, R, hR, hRE => by
    have hcm := hos c (List.mem_cons_self ..)
    have hSc := hS c (List.mem_cons_self ..)
    have ih := any_ops hY hc hq hf hctx hL hcpin again os (fun x hx => hos x (List.mem_cons_of_mem _ hx))
      (fun x hx => hS x (List.mem_cons_of_mem _ hx)) (acc ++ pRes res i i' cfg.file.data c L)
      (fun K => R K ∧ Marks Mark cfg.file.data c L K)
      (fun p K K' h hr => ⟨hR p K K' h hr.1, fun x hx ho => hY.mark p _ K K' h (hr.2 x hx ho)⟩) fun K h => hRE K h.1
    refine AnyR.of_eq ?_ rfl ?_ (AnyR.post (AnyR.cons (run_opS hY hc hcm hf hL hSc hR (again R hRE))
      (pRes_notEmpty res i i' cfg.file.data c L) (hcpin.1.symm ▸ ih))
      fun K h => ⟨h.1, h.2.1.1, h.2.2.1, fun c' hc' => ?_⟩)
    · simp only [addAll, List.flatMap_cons, List.append_assoc]
    · rw [opCount_cons, List.length_cons, Nat.mul_add (1 + a), Nat.succ_mul os.length]; omega
    · rcases List.mem_cons.mp hc' with rfl | hc'
      · exact h.2.1.2
      · exact h.2.2.2 c' hc'

/-- the alternatives and the calls of the level of `X` at `q` that is `j` levels above the curtailed one -/
def LN (res : Nat → List Node) (i i' : Nat) (data : Bytes) (ops : List Nat) (q : Nat) : Nat → List Node
  | 0 => []
  | j + 1 => addAll res i i' data ops (LN res i i' data ops q j) ++ res q

def LC (res : Nat → List Node) (a i i' : Nat) (data : Bytes) (ops : List Nat) (q : Nat) : Nat → Nat
  | 0 => 0
  | j + 1 => LC res a i i' data ops q j + lvOwn a data ops (LN res i i' data ops q j)

/-- `Y` has been called at `q` and behind every alternative of the level below that an operator follows -/
def Marked (Mark : Nat → Cache → Prop) (res : Nat → List Node) (i i' : Nat) (data : Bytes) (ops : List Nat) (q : Nat) :
    Nat → Cache → Prop
  | 0, _ => True
  | j + 1, K => Mark q K ∧ ∀ c ∈ ops, Marks Mark data c (LN res i i' data ops q j) K

theorem LN_good (hres : ∀ p, p % 2 = 1 → p ≤ 2 * k + 1 → ∀ y ∈ res p, goodNode k p y) (hc : IsLevel i i' ops k cfg)
    (q : Nat) (hq1 : q % 2 = 1) (hq2 : q ≤ 2 * k + 1) : ∀ j, ∀ x ∈ LN res i i' cfg.file.data ops q j, goodNode k q x := by
  intro j
  induction j with
  | zero => intro x hx; cases hx
  | succ j ih =>
    intro x hx
    simp only [LN, List.mem_append] at hx
    rcases hx with hx | hx
    · obtain ⟨c, hc', hx⟩ := List.mem_flatMap.mp hx
      exact pRes_good hres hc c hc' q _ ih x hx
    · exact hres q hq1 hq2 x hx

theorem cacheGet_LEnt (c0 : Ctx) (hc0 : ∀ kv ∈ c0, kv.1 ≠ i) (q : Nat) (cp : List Nat) (t : Nat) (L : List Node) (K : Cache)
    (hs : look K i q = some (LEnt i q cp t L)) : cacheGet K i q (cX i c0 t) = some (LEnt i q cp t L) := by
  rw [cacheGet_look, hs]
  cases t with
  | zero => rfl
  | succ t =>
    have : (cX i c0 (t + 1)).get i = t + 1 := cX_get i c0 hc0 (t + 1)
    simp [LEnt, cX]
    exact Nat.le_of_eq this.symm

/-- **the spine of `X`** at a position `q` of `S`, from a cache without an entry for (`X`, `q`): Memoize is entered with the
    left-recursion counts 0 … 2k+3-q and curtailed at 2k+4-q; level `j` (entered with count `2k+4-q-j`) returns `LN j` after
    `LC j` calls.  Its first alternative `X c Y` runs level `j-1`; the others read its result from the cache (at the lowest
    level: are curtailed again), which the calls of `Y` leave alone (`hlook`).  `R`: any property of the cache that survives
    the calls of `Y` and the entries of `X` at `q`.  `c0`: the caller's context, without a count for `X` (`hc0`) or for a
    parser of `cp` (`hcf`: the saved context is `cX i [] t`); `cp`: the curtailing parsers of every level but the lowest — `X`
    (`hi`) and those of `Y`, `ycp` — with the laws `hcp` of their union; `hok`: `Y` may be called under the contexts of the
    spine; `hgood`, `hSL`: the alternatives of every level are nodes behind which `Y` can be called; `hsave`: saving an
    entry of `X` at `q` keeps `Inv`, `R`, the marks and the potential.  Instances: `T_call` (over `F`: `cp = [1]`,
    `ycp = []`, no potential) and `E_level` (over `T`: `cp = [0, 1]`, `ycp = [1]`, `R := True`). -/
theorem level (hY : Low Φ Inv Step Mark res ycp a S okCtx i' F0 k cfg) (hc : IsLevel i i' ops k cfg) {q : Nat} (hq : S q)
    (c0 : Ctx) (hc0 : ∀ kv ∈ c0, kv.1 ≠ i) (cp : List Nat) (hi : i ∈ cp) (hcf : ∀ kv ∈ c0, kv.1 ∉ cp)
    (hok : ∀ t, okCtx (cX i c0 (t + 1))) (hcp : ∀ c, c = [i] ∨ c = cp → cpUnion c c = c ∧ cpUnion c ycp = cp)
    (hgood : ∀ j, ∀ x ∈ LN res i i' cfg.file.data ops q j, goodNode k q x)
    (hSL : ∀ j, ∀ c ∈ ops, ∀ x ∈ LN res i i' cfg.file.data ops q j, isOp cfg.file.data c x = true → S (x.rpos + 1))
    {R : Cache → Prop} (hR : ∀ p, Stable (Step p) R) (hlook : ∀ p E, Stable (Step p) (fun K => look K i q = E))
    (hsave : ∀ K e, e.idx = i → e.pos = q → (Inv K → Inv (cacheSave K e)) ∧ (R K → R (cacheSave K e)) ∧
      Φ (cacheSave K e) = Φ K ∧ ∀ p, Mark p K → Mark p (cacheSave K e)) :
    ∀ j t, j + t = 2 * k + 4 - q →
      Runs cfg Φ (F0 + 6 * j + 4) (.memo i (lvBody i i' ops)) (cX i c0 t) q (fun K => Inv K ∧ R K ∧ look K i q = none)
        (LN res i i' cfg.file.data ops q j) (if j = 0 then [i] else cp) (LC res a i i' cfg.file.data ops q j)
        (fun K => Inv K ∧ R K ∧
          look K i q = (if j = 0 then none else some (LEnt i q cp t (LN res i i' cfg.file.data ops q j))) ∧
          Marked Mark res i i' cfg.file.data ops q j K)
  | 0, t, ht => by
    obtain ⟨hq1, hq2⟩ := hY.odd q hq
    exact (Runs.curtail hc.max (fun K hK => cacheGet_of_look_none _ _ _ _ hK.2.2)
      (by rw [remaining_eq hc.off hc.len q (by omega) (by omega), cX_get i c0 hc0]; omega)).post
      fun K h => ⟨h.1, h.2.1, h.2.2, trivial⟩
  | j + 1, t, ht => by
    obtain ⟨hq1, hq2⟩ := hY.odd q hq
    have inner := level hY hc hq c0 hc0 cp hi hcf hok hcp hgood hSL hR hlook hsave j (t + 1) (by omega)
    have hL := hgood j
    have hcpj := hcp (if j = 0 then [i] else cp) (by by_cases h : j = 0 <;> simp [h])
    generalize hEj : (if j = 0 then none else some (LEnt i q cp (t + 1) (LN res i i' cfg.file.data ops q j))) = Ej at inner
    generalize hcj : (if j = 0 then [i] else cp) = cpj at inner hcpj
    -- the inner activation once more: the cache (at the lowest level: a second curtailment)
    have again : ∀ R' : Cache → Prop, (∀ K, R' K → look K i q = Ej) →
        Runs cfg Φ (F0 + 6 * j + 2 + 2) (.memo i (lvBody i i' ops)) (cX i c0 (t + 1)) q (fun K => Inv K ∧ R' K)
          (LN res i i' cfg.file.data ops q j) cpj 0 (fun K => Inv K ∧ R' K) := by
      intro R' hE
      cases j with
      | zero =>
        subst hEj hcj
        exact Runs.curtail hc.max (fun K hK => cacheGet_of_look_none _ _ _ _ (hE K hK.2))
          (by rw [remaining_eq hc.off hc.len q (by omega) (by omega), cX_get i c0 hc0]; omega)
      | succ j =>
        subst hEj hcj
        exact Runs.hit hc.max fun K hK => ⟨_, cacheGet_LEnt c0 hc0 q cp (t + 1) _ K (hE K hK.2), rfl, rfl, fun _ => rfl⟩
    obtain ⟨a0, as, hA⟩ := List.exists_cons_of_ne_nil hc.ne
    subst hA
    have ha0 : a0 ∈ a0 :: as := List.mem_cons_self ..
    have hR1 : ∀ p, Stable (Step p) (fun K => R K ∧ look K i q = Ej) :=
      fun p K K' h hr => ⟨hR p K K' h hr.1, hlook p Ej K K' h hr.2⟩
    have first := run_opS hY hc ha0 (f := F0 + 6 * j + 2) (by omega) hL (hSL j a0 ha0) hR1
      (inner.post fun K h => ⟨h.1, h.2.1, h.2.2.1⟩)
    have rest := any_ops hY hc hq (f := F0 + 6 * j + 2) (by omega) (hok t) hL
      (cp := cp) (cpin := cpUnion [] cpj) (by rw [cpUnion_nil_left]; exact hcpj) ((cpUnion_nil_left cpj).symm ▸ again) as
      (fun c h => List.mem_cons_of_mem _ h) (fun c h => hSL j c (List.mem_cons_of_mem _ h))
      ([] ++ pRes res i i' cfg.file.data a0 (LN res i i' cfg.file.data (a0 :: as) q j))
      (fun K => (R K ∧ look K i q = Ej) ∧ Marks Mark cfg.file.data a0 (LN res i i' cfg.file.data (a0 :: as) q j) K)
      (fun p K K' h hr => ⟨hR1 p K K' h hr.1, fun x hx ho => hY.mark p _ K K' h (hr.2 x hx ho)⟩) fun K h => h.1.2
    have body := Runs.any hc.max (AnyR.cons first
      (pRes_notEmpty res i i' cfg.file.data a0 _) rest)
    rw [← cX_inc i c0 hc0 t] at body
    have hne : [] ++ pRes res i i' cfg.file.data a0 (LN res i i' cfg.file.data (a0 :: as) q j) ++
        addAll res i i' cfg.file.data as (LN res i i' cfg.file.data (a0 :: as) q j) ++ res q ≠ [] := by
      simp [(hY.good q hq).1]
    refine Runs.of_eq (by simp [LN, addAll]) (if_neg (Nat.succ_ne_zero j)).symm ?_
      (Runs.post (Runs.memo hc.max (fun K hK => cacheGet_of_look_none _ _ _ _ hK.2.2)
        (by rw [remaining_eq hc.off hc.len q (by omega) (by omega), cX_get i c0 hc0]; omega)
        body (k' := _) fun K1 e _ _ => by rw [(hsave K1 _ rfl rfl).2.2.1]) fun K ⟨K1, e, h1, h2, h3⟩ => ?_)
    · rw [LC, lvOwn, opCount_cons, List.length_cons, Nat.mul_add (1 + a), Nat.succ_mul as.length]
      omega
    · have he : e = none := h2 hne
      subst he h3
      obtain ⟨s1, s2, _, s4⟩ := hsave K1 (savedEntry i q (cX i c0 t) cp none
        ([] ++ pRes res i i' cfg.file.data a0 (LN res i i' cfg.file.data (a0 :: as) q j) ++
          addAll res i i' cfg.file.data as (LN res i i' cfg.file.data (a0 :: as) q j) ++ res q)) rfl rfl
      refine ⟨s1 h1.1, s2 h1.2.1.1.1, ?_, s4 _ h1.2.2.1, fun c hc' => ?_⟩
      · rw [look_cacheSave, if_pos ⟨rfl, rfl⟩, if_neg (Nat.succ_ne_zero j)]
        simp only [savedEntry, LEnt, cX_filter i c0 cp hi hcf, LN, addAll, List.flatMap_cons, List.nil_append,
          List.append_assoc]
      · intro x hx ho
        refine s4 _ ?_
        rcases List.mem_cons.mp hc' with rfl | hc'
        · exact h1.2.1.2 x hx ho
        · exact h1.2.2.2 c hc' x hx ho

end Lv
namespace Lv
variable {k : Nat} {cfg : Cfg} {Φ : Cache → Nat} {A M : List Nat}

/-- `F` at an odd position: the `1`; 3 calls (`1`, `( E )`, `(`) -/
theorem run_F (hc : IsLv A M k cfg) {f : Nat} {ctx : Ctx} {q : Nat} (hq1 : q % 2 = 1) (hq2 : q ≤ 2 * k + 1)
    {P : Cache → Prop} : Runs cfg Φ (f + 4) arF ctx q P [runeNode 49 q] [] 3 P :=
  have hq0 : 1 ≤ q := by omega
  Runs.of_eq rfl (by simp only [cpStep_nil, cpUnion_nil_right]) rfl
    (Runs.any hc.max (AnyR.cons (Runs.rune_ok hc.max hc.off (by omega) hq0 (hc.one q hq1 hq2))
      (fun _ h => by cases h <;> trivial)
      (AnyR.cons (Runs.seq hc.max (g := arParen) (sh := parenSh) rfl
          (SeqR.fail (g := runeT 40) (f := f + 1) rfl (Runs.rune_no hc.max hc.off (by omega) hq0 (hc.noParen q)) rfl))
        (fun _ h => nomatch h) AnyR.nil)))

/-- the node of `T c F` from the node `x` of `T` -/
def mulExt (ch : Nat) (x : Node) : Node :=
  handleResult (opSh 1 ch 2) (x.rpos + 2) [x, runeNode ch x.rpos, runeNode 49 (x.rpos + 1)]

theorem mulExt_rpos (ch : Nat) (x : Node) : (mulExt ch x).rpos = x.rpos + 2 := rfl

/-- the `c`-extensions, `c ∈ ops` in turn, of the alternatives `L` -/
def mulAll (data : Bytes) (ops : List Nat) (L : List Node) : List Node :=
  ops.flatMap fun c => (L.filter (isOp data c)).map (mulExt c)

theorem levelT (hc : IsLv A M k cfg) : IsLevel 1 2 M k cfg :=
  ⟨by rw [hc.env]; rfl, hc.off, hc.max, hc.len, fun c h => hc.op c (List.mem_append_right _ h), hc.mulNe⟩

theorem levelE (hc : IsLv A M k cfg) : IsLevel 0 1 A k cfg :=
  ⟨by rw [hc.env]; rfl, hc.off, hc.max, hc.len, fun c h => hc.op c (List.mem_append_left _ h), hc.addNe⟩

/-- `F` as the rule below `T`: the `1`, 3 calls, the cache is not touched -/
theorem lowF (hc : IsLv A M k cfg) :
    Low Φ (fun _ => True) (fun _ K K' => K' = K) (fun _ _ => True) (fun q => [runeNode 49 q]) [] 3
      (fun q => q % 2 = 1 ∧ q ≤ 2 * k + 1) (fun _ => True) 2 4 k cfg where
  odd := fun _ h => h
  call := by
    intro q hq ctx _ F hF R _
    obtain ⟨f, rfl⟩ : ∃ f, F = f + 4 := ⟨F - 4, by omega⟩
    exact (Runs.ref hc.max (by rw [hc.env]; rfl) (run_F hc hq.1 hq.2)).post fun K h => ⟨h.1, h.2, trivial⟩
  good := by
    intro q hq
    refine ⟨by simp, fun y hy => ?_⟩
    rw [List.mem_singleton.mp hy]
    exact ⟨by show q < q + 1; omega, by show (q + 1) % 2 = 0; omega, by show q + 1 ≤ _; omega, trivial, rfl⟩
  mark := fun _ _ _ _ _ _ => trivial
  nil := trivial

theorem pResF (data : Bytes) (c : Nat) (l : List Node) :
    pRes (fun q => [runeNode 49 q]) 1 2 data c l = (l.filter (isOp data c)).map (mulExt c) := by
  induction l with
  | nil => rfl
  | cons x l ih =>
    simp only [pRes, List.flatMap_cons, List.filter_cons] at ih ⊢
    rw [ih]
    split <;> rfl

/-- the alternatives and the calls of `T` at `q`, `j` levels above the curtailed activation -/
def TN (M : List Nat) (data : Bytes) (q : Nat) : Nat → List Node := LN (fun q => [runeNode 49 q]) 1 2 data M q
def TC (M : List Nat) (data : Bytes) (q : Nat) : Nat → Nat := LC (fun q => [runeNode 49 q]) 3 1 2 data M q

theorem TN_succ (data : Bytes) (q j : Nat) :
    TN M data q (j + 1) = mulAll data M (TN M data q j) ++ [runeNode 49 q] := by
  simp only [TN, LN, addAll, mulAll, pResF]

theorem TC_succ (data : Bytes) (q j : Nat) : TC M data q (j + 1) = TC M data q j + lvOwn 3 data M (TN M data q j) := rfl

theorem TN_good (hc : IsLv A M k cfg) (q : Nat) (hq1 : q % 2 = 1) (hq2 : q ≤ 2 * k + 1) :
    ∀ j, ∀ x ∈ TN M cfg.file.data q j, goodNode k q x :=
  LN_good (fun p hp1 hp2 y hy => ((lowF (Φ := Z) hc).good p ⟨hp1, hp2⟩).2 y hy) (levelT hc) q hq1 hq2

/-- the alternatives and the calls of a whole first run of `T` at `q` -/
def TNf (M : List Nat) (data : Bytes) (k q : Nat) : List Node := TN M data q (2 * k + 4 - q)
def TCf (M : List Nat) (data : Bytes) (k q : Nat) : Nat := TC M data q (2 * k + 4 - q)

/-- every entry of `T` in the cache is the result of a whole first run -/
def TInv (M : List Nat) (data : Bytes) (k : Nat) (K : Cache) : Prop :=
  ∀ q e, look K 1 q = some e → e = TEnt q [] (TNf M data k q)

def hasT (K : Cache) (q : Nat) : Prop := (look K 1 q).isSome = true

/-- the potential: the calls of the first runs of `T` still to come at the positions `qs` -/
def phi (M : List Nat) (data : Bytes) (k : Nat) (qs : List Nat) (K : Cache) : Nat :=
  (qs.map fun q => if (look K 1 q).isSome then 0 else TCf M data k q).sum

/-- the first run of `T` at `q` is paid for by the potential -/
theorem phi_charge {data : Bytes} {K K' : Cache} {q : Nat} (h0 : look K 1 q = none) (h1 : (look K' 1 q).isSome = true)
    (h2 : ∀ p, p ≠ q → look K' 1 p = look K 1 p) : ∀ qs : List Nat, qs.Nodup → q ∈ qs →
    TCf M data k q + phi M data k qs K' = phi M data k qs K
  | p :: qs, hnd, hm => by
    obtain ⟨hn1, hn2⟩ := List.nodup_cons.mp hnd
    have same : ∀ qs : List Nat, q ∉ qs → phi M data k qs K' = phi M data k qs K := by
      intro qs hq
      unfold phi
      congr 1
      exact List.map_congr_left fun p hp => by rw [h2 p (fun e => hq (e ▸ hp))]
    simp only [phi, List.map_cons, List.sum_cons]
    by_cases h : p = q
    · subst h
      have := same qs hn1
      unfold phi at this
      rw [h0, h1, this]
      simp
    · have := phi_charge (data := data) h0 h1 h2 qs hn2 ((List.mem_cons.mp hm).resolve_left fun e => h e.symm)
      unfold phi at this
      rw [h2 p h]
      omega

/-- what a call of `T` at `q` may do to the cache: save an entry of `T` at `q` -/
def stepT (q : Nat) (K K' : Cache) : Prop := ∃ e : CacheEntry, e.idx = 1 ∧ e.pos = q ∧ K' = cacheSave K e

theorem look_save_ne (K : Cache) (e : CacheEntry) (j p : Nat) (h : e.idx ≠ j) : look (cacheSave K e) j p = look K j p := by
  rw [look_cacheSave, if_neg fun x => h x.1]

theorem hasT_save (K : Cache) (e : CacheEntry) (p : Nat) (h : hasT K p) : hasT (cacheSave K e) p := by
  unfold hasT at h ⊢
  rw [look_cacheSave]
  split
  · rfl
  · exact h

/-- **a call of `T`** at a position `q` of `qs` from any context without a count for `T`: the alternatives of a whole first
    run — read from the cache, or computed by the spine of `T` from count 0, whose `TCf` calls the potential pays.
    `12 * k + 26`: the fuel `F0 + 6 * j + 4` of `level` with `F0 = 4` (`lowF`) at the `j ≤ 2k + 3` levels of that spine -/
theorem T_call (hc : IsLv A M k cfg) {qs : List Nat} (hnd : qs.Nodup) {q : Nat} (hq : q ∈ qs) (hq1 : q % 2 = 1)
    (hq2 : q ≤ 2 * k + 1) {c0 : Ctx} (hc0 : ∀ kv ∈ c0, kv.1 ≠ 1) {F : Nat} (hF : 12 * k + 26 ≤ F) {R : Cache → Prop}
    (hR : Stable (stepT q) R) :
    Runs cfg (phi M cfg.file.data k qs) F (lvT M) c0 q (fun K => TInv M cfg.file.data k K ∧ R K)
      (TNf M cfg.file.data k q) [1] 0 (fun K => TInv M cfg.file.data k K ∧ R K ∧ hasT K q) := by
  refine Runs.split (fun K => (look K 1 q).isSome = true) ?_ ?_
  · obtain ⟨F', rfl⟩ : ∃ F', F = F' + 1 := ⟨F - 1, by omega⟩
    refine (Runs.hit hc.max fun K hK => ?_).post fun K h => ⟨h.1.1, h.1.2, h.2⟩
    obtain ⟨e, he⟩ := Option.isSome_iff_exists.mp hK.2
    have := hK.1.1 q e he
    subst this
    exact ⟨_, by rw [cacheGet_look, he]; rfl, rfl, rfl, fun _ => rfl⟩
  · have hD : 2 * k + 4 - q ≠ 0 := by omega
    refine Runs.charge (c := fun _ => TCf M cfg.file.data k q)
      (Q' := fun K K' => look K' 1 q = some (TEnt q [] (TNf M cfg.file.data k q)) ∧ R K' ∧
        ∀ p, p ≠ q → look K' 1 p = look K 1 p) (fun K hK => ?_) fun K K' hK hQ => ?_
    · have lvl := level (Φ := Z) (lowF hc) (levelT hc) (q := q) ⟨hq1, hq2⟩ c0 hc0 [1] (by simp)
        (fun kv h => by simpa using hc0 kv h) (fun _ => trivial) (fun c h => by rcases h with rfl | rfl <;> simp [cpUnion])
        (TN_good hc q hq1 hq2)
        (fun j c hcM x hx ho => by
          obtain ⟨h1, h2, _⟩ := (TN_good hc q hq1 hq2 j x hx).next ((hc.op c (List.mem_append_right _ hcM)).2 _ ho)
          exact ⟨h1, h2⟩)
        (R := fun K' => R K' ∧ ∀ p, p ≠ q → look K' 1 p = look K 1 p) (fun p K1 K2 h hr => h ▸ hr)
        (fun p E K1 K2 h hr => h ▸ hr)
        (fun K1 e h1 h2 => ⟨fun _ => trivial, fun hr => ⟨hR K1 _ ⟨e, h1, h2, rfl⟩ hr.1, fun p hp => by
          rw [look_cacheSave, if_neg (fun x => hp (h2 ▸ x.2.symm))]; exact hr.2 p hp⟩, rfl, fun _ _ => trivial⟩)
        (2 * k + 4 - q) 0 (by omega)
      rw [if_neg hD, if_neg hD] at lvl
      have hnone : look K 1 q = none := by
        cases hl : look K 1 q with
        | none => rfl
        | some e => exact absurd (by rw [hl]; rfl) hK.2
      exact ((lvl.mono (by omega)).weaken fun K1 h => by
        subst h; exact ⟨trivial, ⟨hK.1.2, fun _ _ => rfl⟩, hnone⟩).post fun K1 h => ⟨h.2.2.1, h.2.1.1, h.2.1.2⟩
    · obtain ⟨a1, a2, a3⟩ := hQ
      have hnone : look K 1 q = none := by
        cases hl : look K 1 q with
        | none => rfl
        | some e => exact absurd (by rw [hl]; rfl) hK.2
      refine ⟨by rw [Nat.zero_add]; exact phi_charge hnone (by rw [a1]; rfl) a3 qs hnd hq, fun p e he => ?_, a2, by
        unfold hasT; rw [a1]; rfl⟩
      by_cases hp : p = q
      · subst hp; rw [a1] at he; exact (Option.some.inj he).symm
      · rw [a3 p hp] at he; exact hK.1.1 p e he

/-- `T` as the rule below `E`: a call at a position of `qs` is free -/
theorem lowT (hc : IsLv A M k cfg) {qs : List Nat} (hnd : qs.Nodup) (hqs : ∀ q ∈ qs, q % 2 = 1 ∧ q ≤ 2 * k + 1) :
    Low (phi M cfg.file.data k qs) (TInv M cfg.file.data k) stepT (fun p K => hasT K p) (TNf M cfg.file.data k) [1] 0
      (· ∈ qs) (fun ctx => ∀ kv ∈ ctx, kv.1 ≠ 1) 1 (12 * k + 26) k cfg where
  odd := hqs
  call := by
    intro q hq ctx hctx F hF R hR
    exact Runs.ref hc.max (by rw [hc.env]; rfl) (T_call hc hnd hq (hqs q hq).1 (hqs q hq).2 hctx hF hR)
  good := fun q hq => ⟨by
    obtain ⟨d, hd⟩ : ∃ d, 2 * k + 4 - q = d + 1 := ⟨2 * k + 3 - q, by have := (hqs q hq).2; omega⟩
    rw [TNf, hd, TN_succ]; simp, TN_good hc q (hqs q hq).1 (hqs q hq).2 _⟩
  mark := fun q p K K' ⟨e, _, _, h⟩ hm => h ▸ hasT_save K e p hm
  nil := fun kv h => by cases h

/-- the alternatives and the calls of the level of `E` that is `j` levels above the curtailed one -/
def EN (A M : List Nat) (data : Bytes) (k : Nat) : Nat → List Node := LN (TNf M data k) 0 1 data A 1
def EC (A M : List Nat) (data : Bytes) (k : Nat) : Nat → Nat := LC (TNf M data k) 0 0 1 data A 1

theorem EN_succ (data : Bytes) (k j : Nat) :
    EN A M data k (j + 1) = addAll (TNf M data k) 0 1 data A (EN A M data k j) ++ TNf M data k 1 := rfl

theorem EC_succ (data : Bytes) (k j : Nat) :
    EC A M data k (j + 1) = EC A M data k j + lvOwn 0 data A (EN A M data k j) := rfl

theorem EN_good (hc : IsLv A M k cfg) : ∀ j, ∀ x ∈ EN A M cfg.file.data k j, goodNode k 1 x :=
  LN_good (fun p hp1 hp2 => TN_good hc p hp1 hp2 _) (levelE hc) 1 (by omega) (by omega)

/-- **the spine of `E`** at position 1 from a cache without an entry for it, every `T` it calls standing at a position of
    `qs`: level `j` costs `EC j` calls beyond the first runs of `T`, which the potential pays; afterwards `T` has an entry
    at 1 and behind every alternative of level `j-1` that an operator of `A` follows -/
theorem E_level (hc : IsLv A M k cfg) {qs : List Nat} (hnd : qs.Nodup) (hqs : ∀ q ∈ qs, q % 2 = 1 ∧ q ≤ 2 * k + 1)
    (h1 : 1 ∈ qs)
    (hSL : ∀ j, ∀ c ∈ A, ∀ x ∈ EN A M cfg.file.data k j, isOp cfg.file.data c x = true → x.rpos + 1 ∈ qs) :
    ∀ j t, j + t = 2 * k + 3 →
      Runs cfg (phi M cfg.file.data k qs) (12 * k + 26 + 6 * j + 4) (lvE A) (cX 0 [] t) 1
        (fun K => TInv M cfg.file.data k K ∧ True ∧ look K 0 1 = none)
        (EN A M cfg.file.data k j) (if j = 0 then [0] else [0, 1]) (EC A M cfg.file.data k j)
        (fun K => TInv M cfg.file.data k K ∧ True ∧
          look K 0 1 = (if j = 0 then none else some (LEnt 0 1 [0, 1] t (EN A M cfg.file.data k j))) ∧
          Marked (fun p K => hasT K p) (TNf M cfg.file.data k) 0 1 cfg.file.data A 1 j K) :=
  level (lowT hc hnd hqs) (levelE hc) h1 [] (fun kv h => by cases h) [0, 1] (by simp) (fun kv h => by cases h)
    (fun t kv h => by simp [cX] at h; simp [h]) (fun c h => by rcases h with rfl | rfl <;> simp [cpUnion]) (EN_good hc) hSL
    (fun _ _ _ _ _ => trivial)
    (fun p E K K' ⟨e, he, _, h⟩ hr => by
      subst h; show look (cacheSave K e) 0 1 = E; rw [look_save_ne K e 0 1 (by rw [he]; decide)]; exact hr)
    fun K e he _ => ⟨fun hi q x hx => hi q x (by rwa [look_save_ne K e 1 q (by rw [he]; decide)] at hx), fun _ => trivial,
      by unfold phi; congr 1; exact List.map_congr_left fun q _ => by rw [look_save_ne K e 1 q (by rw [he]; decide)],
      fun p hm => hasT_save K e p hm⟩

/-- the alternatives of `T` at `q` extend over operators of `M` only: they end before the next position that another
    character follows -/
theorem TN_stop (hc : IsLv A M k cfg) (q : Nat) (hq1 : q % 2 = 1) (hq2 : q ≤ 2 * k + 1) (a p : Nat) (ha : a ∉ M)
    (h1 : q < p) (h3 : p % 2 = 0) (hp : fol cfg.file.data a p = true) :
    ∀ j, ∀ y ∈ TN M cfg.file.data q j, y.rpos ≤ p := by
  intro j
  induction j with
  | zero => intro y hy; cases hy
  | succ j ih =>
    intro y hy
    simp only [TN_succ, mulAll, List.mem_append, List.mem_flatMap, List.mem_map, List.mem_filter, List.mem_singleton] at hy
    rcases hy with ⟨c, hcM, x, ⟨hx, hs⟩, rfl⟩ | rfl
    · have g2 := (TN_good hc q hq1 hq2 j x hx).2.1
      have := ih x hx
      have hne : x.rpos ≠ p := fun e => by
        simp only [fol, beq_iff_eq] at hp
        simp only [isOp, fol, e, hp, beq_iff_eq, Option.some.injEq] at hs
        exact ha (hs ▸ hcM)
      rw [mulExt_rpos]
      omega
    · show q + 1 ≤ p
      omega

theorem TN_sorted (hc : IsLv A [m] k cfg) (q : Nat) (hq1 : q % 2 = 1) (hq2 : q ≤ 2 * k + 1) :
    ∀ j, (TN [m] cfg.file.data q j).Pairwise (fun x y => x.rpos > y.rpos) := by
  intro j
  induction j with
  | zero => exact List.Pairwise.nil
  | succ j ih =>
    simp only [TN_succ, mulAll, List.flatMap_cons, List.flatMap_nil, List.append_nil]
    refine List.pairwise_append.mpr ⟨(ih.filter _).map _ fun x y h => ?_, List.pairwise_singleton _ _, ?_⟩
    · show x.rpos + 2 > y.rpos + 2; omega
    · intro x hx y hy
      obtain ⟨x', hx', rfl⟩ := List.mem_map.mp hx
      have := (TN_good hc q hq1 hq2 j x' (List.mem_filter.mp hx').1).1
      rw [List.mem_singleton.mp hy]
      show x'.rpos + 2 > q + 1; omega

/-- behind an alternative `x` of `E` that an operator `a` of `A` follows: the alternatives of `T` there end behind `x`,
    those of a `T` further left do not -/
theorem T_behind (hc : IsLv A M k cfg) (a : Nat) (haA : a ∈ A) (ha : a ∉ M) (x : Node) (hx : goodNode k 1 x)
    (hp : isOp cfg.file.data a x = true) :
    ((x.rpos + 1) % 2 = 1 ∧ x.rpos + 1 ≤ 2 * k + 1) ∧ (∀ y ∈ TNf M cfg.file.data k (x.rpos + 1), x.rpos < y.rpos) ∧
      ∀ q, q % 2 = 1 → q < x.rpos → ∀ y ∈ TNf M cfg.file.data k q, y.rpos ≤ x.rpos := by
  obtain ⟨h1, h2, _⟩ := hx.next ((hc.op a (List.mem_append_left _ haA)).2 _ hp)
  refine ⟨⟨h1, h2⟩, fun y hy => ?_, fun q hq1 hq y hy => TN_stop hc q hq1 (by omega) a _ ha hq hx.2.1 hp _ y hy⟩
  have := (TN_good hc _ h1 h2 _ y hy).1
  omega

theorem EN_sorted (hc : IsLv [a] [m] k cfg) (ham : a ≠ m) :
    ∀ j, (EN [a] [m] cfg.file.data k j).Pairwise (fun x y => x.rpos > y.rpos) := by
  have key := T_behind hc a (by simp) (by simpa using ham)
  intro j
  induction j with
  | zero => exact List.Pairwise.nil
  | succ j ih =>
    simp only [EN_succ, addAll, List.flatMap_cons, List.flatMap_nil, List.append_nil]
    have hgood := EN_good hc j
    refine List.pairwise_append.mpr ⟨List.pairwise_flatMap.mpr ⟨fun x hx => ?_, ih.imp_of_mem fun {x1 x2} h1 h2 h => ?_⟩,
      TN_sorted hc 1 (by omega) (by omega) _, ?_⟩
    · split
      · next hp =>
        obtain ⟨⟨b1, b2⟩, _⟩ := key x (hgood x hx) hp
        exact (TN_sorted hc (x.rpos + 1) b1 b2 _).map _ fun _ _ h => h
      · exact List.Pairwise.nil
    · intro y1 hy1 y2 hy2
      by_cases hp1 : isOp cfg.file.data a x1 = true
      · by_cases hp2 : isOp cfg.file.data a x2 = true
        · simp only [hp1, hp2, ↓reduceIte, List.mem_map] at hy1 hy2
          obtain ⟨z1, hz1, rfl⟩ := hy1
          obtain ⟨z2, hz2, rfl⟩ := hy2
          obtain ⟨_, b1, b2⟩ := key x1 (hgood x1 h1) hp1
          have e1 := (hgood x1 h1).2.1
          have e2 := (hgood x2 h2).2.1
          have := b1 z1 hz1
          have := b2 (x2.rpos + 1) (by omega) (by omega) z2 hz2
          show z1.rpos > z2.rpos
          omega
        · simp [hp2] at hy2
      · simp [hp1] at hy1
    · intro y hy z hz
      simp only [pRes, List.mem_flatMap] at hy
      obtain ⟨x, hx, hy⟩ := hy
      by_cases hp : isOp cfg.file.data a x = true
      · simp only [hp, ↓reduceIte, List.mem_map] at hy
        obtain ⟨y', hy', rfl⟩ := hy
        obtain ⟨_, b1, b2⟩ := key x (hgood x hx) hp
        have := b1 y' hy'
        have := b2 1 (by omega) (hgood x hx).1 z hz
        show y'.rpos > z.rpos
        omega
      · simp [hp] at hy

end Lv
end PV.C17b
