/-
  C08: the language operations of Spec/Lang.lean (`star`, `plus1`, `cat`, `opt`, `optSign`, `||`) and what
  `longestPrefix` answers on each of them, in terms of what it answers on the operands.
-/
import ParsleyVerif.Spec.Lang
import ParsleyVerif.Proofs.Terminal
namespace PV
open PV.Text PV.Lang

theorem find_rev_range_some (p : Nat → Bool) (n k : Nat) :
    (List.range (n + 1)).reverse.find? p = some k ↔ k ≤ n ∧ p k = true ∧ ∀ j, k < j → j ≤ n → p j = false := by
  rw [List.range_eq_range', List.reverse_range', List.find?_map, Option.map_eq_some_iff]
  simp only [List.find?_range_eq_some, List.mem_range, Function.comp, Bool.not_eq_eq_eq_not, Bool.not_true]
  constructor
  · rintro ⟨i, ⟨hp, hi, hall⟩, rfl⟩
    refine ⟨by omega, hp, fun j h1 h2 => ?_⟩
    have := hall (n - j) (by omega)
    rwa [show 0 + (n + 1) - 1 - (n - j) = j by omega] at this
  · rintro ⟨hk, hp, hall⟩
    refine ⟨n - k, ⟨?_, by omega, fun j hj => hall _ (by omega) (by omega)⟩, by omega⟩
    rwa [show 0 + (n + 1) - 1 - (n - k) = k by omega]

theorem longestPrefix_some {L : Bytes → Bool} {l : Bytes} {k : Nat} :
    longestPrefix L l = some k ↔
      k ≤ l.length ∧ L (l.take k) = true ∧ ∀ j, k < j → j ≤ l.length → L (l.take j) = false := by
  unfold longestPrefix
  exact find_rev_range_some (fun k => L (l.take k)) l.length k

theorem longestPrefix_none {L : Bytes → Bool} {l : Bytes} :
    longestPrefix L l = none ↔ ∀ j, j ≤ l.length → L (l.take j) = false := by
  unfold longestPrefix
  simp only [List.find?_eq_none, List.mem_reverse, List.mem_range, Nat.lt_succ_iff, Bool.not_eq_true]

theorem longestPrefix_eq_some {L : Bytes → Bool} {l : Bytes} {k : Nat}
    (h1 : k ≤ l.length) (h2 : L (l.take k) = true) (h3 : ∀ j, k < j → j ≤ l.length → L (l.take j) = false) :
    longestPrefix L l = some k := longestPrefix_some.2 ⟨h1, h2, h3⟩

/-- under `unitLen` and `durItems` (Proofs/LangDuration.lean) -/
theorem longestPrefix_of_bound {L : Bytes → Bool} {l : Bytes} {n : Nat} (hle : n ≤ l.length)
    (hs : n > 0 → L (l.take n) = true) (key : ∀ j, j ≤ l.length → L (l.take j) = true → 1 ≤ j ∧ j ≤ n) :
    longestPrefix L l = if n > 0 then some n else none := by
  by_cases hk : n > 0
  · rw [if_pos hk]
    apply longestPrefix_eq_some hle (hs hk)
    intro j hj1 hj2
    cases hu : L (l.take j) with
    | false => rfl
    | true => have := key j hj2 hu; omega
  · rw [if_neg hk, longestPrefix_none]
    intro j hj
    cases hu : L (l.take j) with
    | false => rfl
    | true => have := key j hj hu; omega

theorem longestPrefix_le {L : Bytes → Bool} {l : Bytes} {k : Nat} (h : longestPrefix L l = some k) : k ≤ l.length :=
  (longestPrefix_some.1 h).1

theorem longestPrefix_mem {L : Bytes → Bool} {l : Bytes} {k : Nat} (h : longestPrefix L l = some k) :
    L (l.take k) = true := (longestPrefix_some.1 h).2.1

theorem longestPrefix_max {L : Bytes → Bool} {l : Bytes} {k : Nat} (h : longestPrefix L l = some k) :
    ∀ j, k < j → j ≤ l.length → L (l.take j) = false := (longestPrefix_some.1 h).2.2

theorem longestPrefix_congr {L M : Bytes → Bool} {l : Bytes} (h : ∀ j, j ≤ l.length → L (l.take j) = M (l.take j)) :
    longestPrefix L l = longestPrefix M l := by
  cases hm : longestPrefix M l with
  | none =>
    rw [longestPrefix_none] at hm ⊢
    intro j hj; rw [h j hj]; exact hm j hj
  | some k =>
    rw [longestPrefix_some] at hm ⊢
    obtain ⟨h1, h2, h3⟩ := hm
    exact ⟨h1, by rw [h k h1]; exact h2, fun j hj1 hj2 => by rw [h j hj2]; exact h3 j hj1 hj2⟩

theorem longestPrefix_cons (L : Bytes → Bool) (c : Nat) (r : Bytes) :
    longestPrefix L (c :: r) =
      match longestPrefix (fun w => L (c :: w)) r with
      | some k => some (k + 1)
      | none => if L [] then some 0 else none := by
  cases hm : longestPrefix (fun w => L (c :: w)) r with
  | some k =>
    simp only []
    rw [longestPrefix_some] at hm ⊢
    obtain ⟨h1, h2, h3⟩ := hm
    refine ⟨by simp; omega, by simpa using h2, fun j hj1 hj2 => ?_⟩
    cases j with
    | zero => omega
    | succ j =>
      have := h3 j (by omega) (by simp at hj2; omega)
      simpa using this
  | none =>
    simp only []
    rw [longestPrefix_none] at hm
    cases h0 : L []
    · simp only [Bool.false_eq_true, if_false]
      rw [longestPrefix_none]
      intro j hj
      cases j with
      | zero => simpa using h0
      | succ j =>
        have := hm j (by simp at hj; omega)
        simpa using this
    · simp only [if_true]
      rw [longestPrefix_some]
      refine ⟨by simp, by simpa using h0, fun j hj1 hj2 => ?_⟩
      cases j with
      | zero => omega
      | succ j =>
        have := hm j (by simp at hj2; omega)
        simpa using this

theorem longestPrefix_nil (L : Bytes → Bool) : longestPrefix L [] = if L [] then some 0 else none := by
  cases h0 : L []
  · simp only [Bool.false_eq_true, if_false]
    rw [longestPrefix_none]
    intro j hj; simpa using h0
  · simp only [if_true]
    rw [longestPrefix_some]
    exact ⟨by simp, by simpa using h0, fun j hj1 hj2 => by simp at hj2; omega⟩

theorem longestPrefix_cons_of (L M : Bytes → Bool) (c : Nat) (r : Bytes) (q : Bool) (h0 : L [] = false)
    (h : ∀ w, L (c :: w) = (q && M w)) :
    longestPrefix L (c :: r) = if q then (longestPrefix M r).map (1 + ·) else none := by
  rw [longestPrefix_cons, h0]
  have : (fun w => L (c :: w)) = fun w => (q && M w) := funext h
  rw [this]
  cases q
  · simp only [Bool.false_and, Bool.false_eq_true, if_false]
    have : longestPrefix (fun _ => false) r = none := by rw [longestPrefix_none]; intros; rfl
    rw [this]
  · simp only [Bool.true_and, if_true]
    cases longestPrefix M r with
    | none => rfl
    | some k => simp [Nat.add_comm]

theorem longestPrefix_none_nil {L : Bytes → Bool} {l : Bytes} (h : longestPrefix L l = none) : L [] = false := by
  have := longestPrefix_none.1 h 0 (Nat.zero_le _)
  simpa using this

def optMax : Option Nat → Option Nat → Option Nat
  | some a, some b => some (max a b)
  | some a, none => some a
  | none, b => b

theorem longestPrefix_or (A B : Bytes → Bool) (l : Bytes) :
    longestPrefix (fun w => A w || B w) l = optMax (longestPrefix A l) (longestPrefix B l) := by
  cases ha : longestPrefix A l with
  | none =>
    have ha' := longestPrefix_none.1 ha
    simp only [optMax]
    apply longestPrefix_congr
    intro j hj; simp [ha' j hj]
  | some a =>
    obtain ⟨a1, a2, a3⟩ := longestPrefix_some.1 ha
    cases hb : longestPrefix B l with
    | none =>
      have hb' := longestPrefix_none.1 hb
      simp only [optMax]
      rw [← ha]
      apply longestPrefix_congr
      intro j hj; simp [hb' j hj]
    | some b =>
      obtain ⟨b1, b2, b3⟩ := longestPrefix_some.1 hb
      simp only [optMax]
      rw [longestPrefix_some]
      refine ⟨by omega, ?_, fun j hj1 hj2 => ?_⟩
      · by_cases hab : a ≤ b
        · rw [Nat.max_eq_right hab, b2]; simp
        · rw [Nat.max_eq_left (by omega), a2]; simp
      · rw [a3 j (by omega) hj2, b3 j (by omega) hj2]; rfl

theorem firstSome_ite (c : Prop) [Decidable c] (a : Nat) (r : List (Option Nat)) :
    firstSome ((if c then some a else none) :: r) = if c then some a else firstSome r := by
  by_cases h : c
  · rw [if_pos h, if_pos h]; rfl
  · rw [if_neg h, if_neg h]; rfl

theorem firstSome_some (a : Nat) (r : List (Option Nat)) : firstSome (some a :: r) = some a := rfl
theorem firstSome_none (r : List (Option Nat)) : firstSome (none :: r) = firstSome r := rfl
theorem firstSome_nil : firstSome [] = none := rfl

theorem cat_iff (A B : Bytes → Bool) (l : Bytes) :
    cat A B l = true ↔ ∃ a b, l = a ++ b ∧ A a = true ∧ B b = true := by
  unfold cat
  rw [List.any_eq_true]
  constructor
  · rintro ⟨i, _, hi⟩
    simp only [Bool.and_eq_true] at hi
    exact ⟨l.take i, l.drop i, (List.take_append_drop i l).symm, hi.1, hi.2⟩
  · rintro ⟨a, b, rfl, ha, hb⟩
    refine ⟨a.length, by simp [List.mem_range]; omega, ?_⟩
    simp [ha, hb]

theorem star_iff (p : Nat → Bool) (l : Bytes) : star p l = true ↔ ∀ b ∈ l, p b = true := by
  unfold star; simp

theorem star_nil (p : Nat → Bool) : star p [] = true := rfl
theorem star_cons (p : Nat → Bool) (c : Nat) (w : Bytes) : star p (c :: w) = (p c && star p w) := by
  simp [star]

theorem plus1_iff (p : Nat → Bool) (l : Bytes) : plus1 p l = true ↔ l ≠ [] ∧ ∀ b ∈ l, p b = true := by
  unfold plus1; cases l <;> simp

theorem plus1_nil (p : Nat → Bool) : plus1 p [] = false := rfl
theorem plus1_cons (p : Nat → Bool) (c : Nat) (w : Bytes) : plus1 p (c :: w) = (p c && star p w) := by
  simp [plus1, star]

theorem opt_iff (A : Bytes → Bool) (l : Bytes) : opt A l = true ↔ l = [] ∨ A l = true := by
  unfold opt; cases l <;> simp

theorem optSign_iff (A : Bytes → Bool) (l : Bytes) :
    optSign A l = true ↔ A l = true ∨ ∃ b r, l = b :: r ∧ sign b = true ∧ A r = true := by
  unfold optSign
  cases l with
  | nil => simp
  | cons b r =>
    simp only [Bool.or_eq_true, Bool.and_eq_true, List.cons.injEq]
    constructor
    · rintro (h | h)
      · exact Or.inl h
      · exact Or.inr ⟨b, r, ⟨rfl, rfl⟩, h⟩
    · rintro (h | ⟨b', r', ⟨rfl, rfl⟩, h⟩)
      · exact Or.inl h
      · exact Or.inr h

theorem sign_iff (b : Nat) : sign b = true ↔ b = 45 ∨ b = 43 := by
  unfold sign; simp

theorem cat_nil (A B : Bytes → Bool) : cat A B [] = (A [] && B []) := by
  simp [cat]

theorem cat_star_cons (p : Nat → Bool) (B : Bytes → Bool) (c : Nat) (w : Bytes) :
    cat (star p) B (c :: w) = (B (c :: w) || (p c && cat (star p) B w)) := by
  rw [Bool.eq_iff_iff]
  simp only [Bool.or_eq_true, Bool.and_eq_true, cat_iff]
  constructor
  · rintro ⟨a, b, h, ha, hb⟩
    cases a with
    | nil => left; rw [h]; exact hb
    | cons a0 a' =>
      right
      simp only [List.cons_append, List.cons.injEq] at h
      rw [star_cons, Bool.and_eq_true] at ha
      obtain ⟨rfl, rfl⟩ := h
      exact ⟨ha.1, a', b, rfl, ha.2, hb⟩
  · rintro (h | ⟨hc, a, b, rfl, ha, hb⟩)
    · exact ⟨[], c :: w, rfl, rfl, h⟩
    · exact ⟨c :: a, b, rfl, by rw [star_cons, hc, ha]; rfl, hb⟩

theorem cat_star_nil (p : Nat → Bool) (B : Bytes → Bool) : cat (star p) B [] = B [] := by
  rw [cat_nil]; rfl

theorem cat_plus1_cons (p : Nat → Bool) (B : Bytes → Bool) (c : Nat) (w : Bytes) :
    cat (plus1 p) B (c :: w) = (p c && cat (star p) B w) := by
  rw [Bool.eq_iff_iff]
  simp only [Bool.and_eq_true, cat_iff]
  constructor
  · rintro ⟨a, b, h, ha, hb⟩
    cases a with
    | nil => cases ha
    | cons a0 a' =>
      simp only [List.cons_append, List.cons.injEq] at h
      rw [plus1_cons, Bool.and_eq_true] at ha
      obtain ⟨rfl, rfl⟩ := h
      exact ⟨ha.1, a', b, rfl, ha.2, hb⟩
  · rintro ⟨hc, a, b, rfl, ha, hb⟩
    exact ⟨c :: a, b, rfl, by rw [plus1_cons, hc, ha]; rfl, hb⟩

theorem cat_plus1_nil (p : Nat → Bool) (B : Bytes → Bool) : cat (plus1 p) B [] = false := by
  rw [cat_nil]; rfl

theorem cat_opt (A B : Bytes → Bool) (w : Bytes) : cat (opt A) B w = (cat A B w || B w) := by
  rw [Bool.eq_iff_iff]
  simp only [Bool.or_eq_true, cat_iff, opt_iff]
  constructor
  · rintro ⟨a, b, rfl, rfl | ha, hb⟩
    · exact Or.inr hb
    · exact Or.inl ⟨a, b, rfl, ha, hb⟩
  · rintro (⟨a, b, rfl, ha, hb⟩ | hb)
    · exact ⟨a, b, rfl, Or.inr ha, hb⟩
    · exact ⟨[], w, rfl, Or.inl rfl, hb⟩

theorem spanLen_cons_pos (p : Nat → Bool) (c : Nat) (r : Bytes) (h : p c = true) :
    spanLen p (c :: r) = 1 + spanLen p r := by
  simp [spanLen, h, Nat.add_comm]
theorem spanLen_cons_neg (p : Nat → Bool) (c : Nat) (r : Bytes) (h : p c = false) :
    spanLen p (c :: r) = 0 := by
  simp [spanLen, h]

theorem map_one_add_map (o : Option Nat) (n : Nat) : (o.map (n + ·)).map (1 + ·) = o.map ((1 + n) + ·) := by
  cases o with
  | none => rfl
  | some k => simp [Nat.add_assoc]

theorem longestPrefix_cat_star (p : Nat → Bool) (B : Bytes → Bool)
    (hB : ∀ c w, p c = true → B (c :: w) = false) (l : Bytes) :
    longestPrefix (cat (star p) B) l = (longestPrefix B (l.drop (spanLen p l))).map (spanLen p l + ·) := by
  induction l with
  | nil =>
    rw [show spanLen p [] = 0 from rfl, longestPrefix_nil, cat_star_nil, List.drop_zero, longestPrefix_nil]
    cases B [] <;> rfl
  | cons c r ih =>
    cases hc : p c
    · rw [spanLen_cons_neg p c r hc, List.drop_zero, longestPrefix_cons, longestPrefix_cons (L := B)]
      have : (fun w => cat (star p) B (c :: w)) = fun w => B (c :: w) := by
        funext w; rw [cat_star_cons, hc]; simp
      rw [this, cat_star_nil]
      cases longestPrefix (fun w => B (c :: w)) r with
      | some k => simp
      | none => simp only []; cases B [] <;> rfl
    · rw [spanLen_cons_pos p c r hc, longestPrefix_cons]
      have : (fun w => cat (star p) B (c :: w)) = cat (star p) B := by
        funext w; rw [cat_star_cons, hc, hB c w hc]; simp
      rw [this, ih, cat_star_nil]
      have hd : (c :: r).drop (1 + spanLen p r) = r.drop (spanLen p r) := by
        rw [Nat.add_comm]; rfl
      rw [hd]
      cases hm : longestPrefix B (r.drop (spanLen p r)) with
      | some k => simp [Nat.add_comm, Nat.add_left_comm]
      | none => simp [longestPrefix_none_nil hm]

theorem star_eq_cat (p : Nat → Bool) (l : Bytes) : star p l = cat (star p) (fun w => w.isEmpty) l := by
  induction l with
  | nil => rfl
  | cons c w ih => rw [cat_star_cons, star_cons, ih]; rfl

theorem longestPrefix_isEmpty (l : Bytes) : longestPrefix (fun w => w.isEmpty) l = some 0 := by
  apply longestPrefix_eq_some (Nat.zero_le _) rfl
  intro j h1 h2
  cases l with
  | nil => simp at h2; omega
  | cons c r => cases j with
    | zero => omega
    | succ j => rfl

theorem longestPrefix_star (p : Nat → Bool) (l : Bytes) : longestPrefix (star p) l = some (spanLen p l) := by
  have : star p = cat (star p) (fun w => w.isEmpty) := funext (star_eq_cat p)
  rw [this, longestPrefix_cat_star p _ (fun _ _ _ => rfl), longestPrefix_isEmpty]
  rfl

theorem longestPrefix_opt (A : Bytes → Bool) (l : Bytes) :
    longestPrefix (opt A) l = some ((longestPrefix A l).getD 0) := by
  cases hm : longestPrefix A l with
  | none =>
    have hm' := longestPrefix_none.1 hm
    apply longestPrefix_eq_some (Nat.zero_le _) rfl
    intro j h1 h2
    have := hm' j h2
    cases hj : l.take j with
    | nil =>
      have : (l.take j).length = 0 := by rw [hj]; rfl
      rw [List.length_take] at this; omega
    | cons c w => rw [hj] at this; simp [opt, this]
  | some k =>
    obtain ⟨h1, h2, h3⟩ := longestPrefix_some.1 hm
    apply longestPrefix_eq_some h1 (by simp [opt, h2])
    intro j hj1 hj2
    have := h3 j hj1 hj2
    cases hj : l.take j with
    | nil =>
      have : (l.take j).length = 0 := by rw [hj]; rfl
      rw [List.length_take] at this; omega
    | cons c w => rw [hj] at this; simp [opt, this]

theorem signLen_le (l : Bytes) : signLen l ≤ l.length := by
  unfold signLen; split <;> simp

theorem longestPrefix_optSign (A : Bytes → Bool) (hA0 : A [] = false)
    (hA : ∀ c w, sign c = true → A (c :: w) = false) (l : Bytes) :
    longestPrefix (optSign A) l = (longestPrefix A (l.drop (signLen l))).map (signLen l + ·) := by
  cases l with
  | nil =>
    show longestPrefix (optSign A) [] = (longestPrefix A []).map _
    rw [longestPrefix_nil, longestPrefix_nil]
    simp [optSign, hA0]
  | cons c r =>
    by_cases hc : sign c = true
    · rw [Rx.signLen_cons, if_pos hc, longestPrefix_cons]
      have : (fun w => optSign A (c :: w)) = A := by
        funext w; simp [optSign, hA c w hc, hc]
      rw [this]
      have h0 : optSign A [] = false := by simp [optSign, hA0]
      rw [h0]
      show _ = (longestPrefix A r).map _
      cases longestPrefix A r with
      | none => rfl
      | some k => simp [Nat.add_comm]
    · rw [Rx.signLen_cons, if_neg hc, List.drop_zero]
      have : longestPrefix (optSign A) (c :: r) = longestPrefix A (c :: r) := by
        rw [longestPrefix_cons, longestPrefix_cons (L := A)]
        have : (fun w => optSign A (c :: w)) = fun w => A (c :: w) := by
          funext w; simp [optSign, hc]
        rw [this]
        have h0 : optSign A [] = false := by simp [optSign, hA0]
        rw [h0, hA0]
      rw [this]
      cases longestPrefix A (c :: r) with
      | none => rfl
      | some k => simp

theorem plus_zero (A : Bytes → Bool) (w : Bytes) : plus A 0 w = false := rfl

theorem plus_succ_iff (A : Bytes → Bool) (n : Nat) (w : Bytes) :
    plus A (n + 1) w = true ↔
      A w = true ∨ ∃ a c, w = a ++ c ∧ a ≠ [] ∧ A a = true ∧ plus A n c = true := by
  simp only [plus, Bool.or_eq_true, List.any_eq_true, Bool.and_eq_true, decide_eq_true_eq, List.mem_range]
  constructor
  · rintro (h | ⟨i, hi, ⟨h0, h1⟩, h2⟩)
    · exact Or.inl h
    · refine Or.inr ⟨w.take i, w.drop i, (List.take_append_drop i w).symm, ?_, h1, h2⟩
      intro h
      have : (w.take i).length = 0 := by rw [h]; rfl
      rw [List.length_take] at this
      omega
  · rintro (h | ⟨a, c, rfl, ha, h1, h2⟩)
    · exact Or.inl h
    · refine Or.inr ⟨a.length, by simp; omega, ⟨?_, by simpa using h1⟩, by simpa using h2⟩
      cases a with
      | nil => exact absurd rfl ha
      | cons _ _ => simp

theorem plus_mono (A : Bytes → Bool) (n : Nat) : ∀ w, plus A n w = true → plus A (n + 1) w = true := by
  induction n with
  | zero => intro w h; cases h
  | succ n ih =>
    intro w h
    rw [plus_succ_iff] at h ⊢
    rcases h with h | ⟨a, c, hw, ha, h1, h2⟩
    · exact Or.inl h
    · exact Or.inr ⟨a, c, hw, ha, h1, ih c h2⟩

theorem plus_mono_le (A : Bytes → Bool) (n m : Nat) (h : n ≤ m) (w : Bytes) (hw : plus A n w = true) :
    plus A m w = true := by
  induction h with
  | refl => exact hw
  | step _ ih => exact plus_mono A _ w ih

/-- the words of `A` are not empty, so `w.length` pieces are enough -/
theorem plus_fuel (A : Bytes → Bool) (hA : A [] = false) (n : Nat) :
    ∀ w, plus A n w = true → plus A w.length w = true := by
  induction n with
  | zero => intro w h; cases h
  | succ n ih =>
    intro w h
    rw [plus_succ_iff] at h
    rcases h with h | ⟨a, c, rfl, ha, h1, h2⟩
    · cases w with
      | nil => rw [hA] at h; cases h
      | cons x w => rw [List.length_cons, plus_succ_iff]; exact Or.inl h
    · have hlen : (a ++ c).length = (a.length - 1 + c.length) + 1 := by
        cases a with
        | nil => exact absurd rfl ha
        | cons _ _ => simp
      rw [hlen, plus_succ_iff]
      exact Or.inr ⟨a, c, rfl, ha, h1, plus_mono_le A _ _ (by omega) c (ih c h2)⟩

theorem longestPrefix_isSome {L : Bytes → Bool} (l : Bytes) (h : L [] = true) : (longestPrefix L l).isSome = true := by
  cases hm : longestPrefix L l with
  | some _ => rfl
  | none => rw [longestPrefix_none_nil hm] at h; cases h

theorem longestPrefix_fixed (L : Bytes → Bool) (n : Nat) (hL : ∀ w, L w = true → w.length = n) (l : Bytes) :
    longestPrefix L l = if n ≤ l.length ∧ L (l.take n) = true then some n else none := by
  by_cases h : n ≤ l.length ∧ L (l.take n) = true
  · rw [if_pos h]
    apply longestPrefix_eq_some h.1 h.2
    intro j hj1 hj2
    cases hj : L (l.take j) with
    | false => rfl
    | true => have := hL _ hj; rw [List.length_take] at this; omega
  · rw [if_neg h, longestPrefix_none]
    intro j hj
    cases hj' : L (l.take j) with
    | false => rfl
    | true =>
      have := hL _ hj'
      rw [List.length_take] at this
      have : j = n := by omega
      subst this
      exact absurd ⟨hj, hj'⟩ h


theorem isDigit_eq_digit : isDigit = digit := rfl
theorem isHex_eq_hexDigit : isHex = hexDigit := rfl
theorem isOct_eq_octDigit : isOct = octDigit := rfl
theorem allHex_eq_all (l : Bytes) : allHex l = l.all hexDigit := rfl

theorem octDigit_hex {b : Nat} (h : Lang.octDigit b = true) : Lang.hexDigit b = true := by
  simp [Lang.octDigit, Lang.hexDigit] at *; omega

end PV
