import ParsleyVerif.Proofs.SliceHeap
/-
  The invariant of the slice machine (it holds in every reachable state, with or without SetReaderPos), the building
  blocks for its preservation, and the append family: every operation except SetReaderPos keeps the invariant and is
  framed (`step_ok`).
-/
namespace PV.Slice

def Sealed : Handle → Prop
  | .list sl => sl.len = sl.cap
  | _ => True

/-- a live list entry that the memo table does not hold: owned by one combinator frame -/
def Linear (s : St) (e : Entry) (sl : Slice) : Prop :=
  e.live = true ∧ e.h = Handle.list sl ∧ inMemo s (Handle.list sl) = false

structure Inv (s : St) (top : Nat → Nat) : Prop where
  topz : ∀ a, s.arrs.length ≤ a → top a = 0
  cellok : CellsOK s.nodes.length s.arrs
  -- whatever was ever returned, the memo table holds or a node has as children shows only cells under the bound
  pool : ∀ e ∈ s.pool, HWF s top e.h
  memo : ∀ kv ∈ s.memo, HWF s top kv.2 ∧ Sealed kv.2
  nodes : NodesWF s top
  -- the linear discipline of Model/Slice.lean: an unshared list with room left appends at or above the bound of its array
  -- (`own`) and is the only unshared list on that array (`uniq`); a shared one has no room (`Sealed`: Memoize's clip)
  own : ∀ (i : Nat) (e : Entry) (sl : Slice), s.pool[i]? = some e → Linear s e sl → Safe top sl
  uniq : ∀ (i j : Nat) (ei ej : Entry) (sli slj : Slice), s.pool[i]? = some ei → s.pool[j]? = some ej →
    Linear s ei sli → Linear s ej slj → sli.arr = slj.arr → i = j
  -- a sequence's `s.nodes` never comes under a bound: the result handler copies out of it, so parseNext may overwrite it
  bufs : ∀ b ∈ s.bufs, SWF s.arrs b ∧ (b.cap ≠ 0 → top b.arr = 0)

theorem Inv.init : Inv {} (fun _ => 0) :=
  ⟨fun _ _ => rfl, fun a c hc => by simp [cells] at hc, fun e he => by simp at he, fun kv hkv => by simp at hkv,
   fun n tok sl pos rpos h => by simp at h, fun i e sl h => by simp at h,
   fun i j ei ej sli slj h => by simp at h, fun b hb => by simp at hb⟩

theorem get_some {s : St} {i : Nat} {h : Handle} (hg : s.get i = some h) :
    ∃ e, s.pool[i]? = some e ∧ e.live = true ∧ e.h = h := by
  unfold St.get at hg
  cases hp : s.pool[i]? with
  | none => simp [hp] at hg
  | some e =>
    simp only [hp] at hg
    by_cases hl : e.live = true
    · simp [hl] at hg; exact ⟨e, rfl, hl, hg⟩
    · simp [hl] at hg

theorem inMemo_true {s : St} {h : Handle} (hm : inMemo s h = true) : ∃ kv ∈ s.memo, kv.2 = h := by
  unfold inMemo at hm
  rw [List.any_eq_true] at hm
  obtain ⟨kv, hkv, hd⟩ := hm
  exact ⟨kv, hkv, of_decide_eq_true hd⟩

theorem inMemo_of_mem {s : St} {kv : Nat × Handle} (hkv : kv ∈ s.memo) : inMemo s kv.2 = true := by
  unfold inMemo
  rw [List.any_eq_true]
  exact ⟨kv, hkv, decide_eq_true rfl⟩

theorem consumable_list {s : St} {sl : Slice} : consumable s (Handle.list sl) = !(inMemo s (Handle.list sl)) := rfl

def Lin (s : St) (i : Nat) (sl : Slice) : Prop := ∃ e, s.pool[i]? = some e ∧ Linear s e sl

/-- the ownership half of `Inv` (`own` and `uniq`): an owner with room sees every published cell of its array, and is
    alone on it.  Edits of the heap and of the buffers leave `Lin`, hence `Owned`, as it is by unfolding; edits of pool
    and memo table act on it through `Owned.anti` and `Owned.push`. -/
def Owned (s : St) (top : Nat → Nat) : Prop :=
  ∀ i sli, Lin s i sli → Safe top sli ∧ ∀ j slj, Lin s j slj → sli.arr = slj.arr → i = j

theorem Inv.owned {s : St} {top : Nat → Nat} (inv : Inv s top) : Owned s top :=
  fun i sli ⟨ei, hi, li⟩ => ⟨inv.own i ei sli hi li, fun j slj ⟨ej, hj, lj⟩ => inv.uniq i j ei ej sli slj hi hj li lj⟩

theorem Inv.of_owned {s : St} {top : Nat → Nat} (o : Owned s top) (topz : ∀ a, s.arrs.length ≤ a → top a = 0)
    (cellok : CellsOK s.nodes.length s.arrs) (pool : ∀ e ∈ s.pool, HWF s top e.h)
    (memo : ∀ kv ∈ s.memo, HWF s top kv.2 ∧ Sealed kv.2) (nodes : NodesWF s top)
    (bufs : ∀ b ∈ s.bufs, SWF s.arrs b ∧ (b.cap ≠ 0 → top b.arr = 0)) : Inv s top :=
  ⟨topz, cellok, pool, memo, nodes, fun i e sl hi hl => (o i sl ⟨e, hi, hl⟩).1,
    fun i j ei ej sli slj hi hj li lj => (o i sli ⟨ei, hi, li⟩).2 j slj ⟨ej, hj, lj⟩, bufs⟩

theorem Owned.anti {s s' : St} {top : Nat → Nat} (o : Owned s top) (sub : ∀ k sl, Lin s' k sl → Lin s k sl) : Owned s' top :=
  fun i sli hi => ⟨(o i sli (sub _ _ hi)).1, fun j slj hj => (o i sli (sub _ _ hi)).2 j slj (sub _ _ hj)⟩

theorem Lin.of_get {s : St} {i : Nat} {sl : Slice} (hg : s.get i = some (Handle.list sl))
    (hm : inMemo s (Handle.list sl) = false) : Lin s i sl :=
  let ⟨e, he, hl, hh⟩ := get_some hg; ⟨e, he, hl, hh, hm⟩

theorem Lin.kill {s : St} {i k : Nat} {sl : Slice} (h : Lin (s.kill i) k sl) : Lin s k sl ∧ k ≠ i := by
  obtain ⟨e, hk, hl⟩ := h
  simp only [St.kill, List.getElem?_modify] at hk
  by_cases hik : i = k
  · subst hik
    cases hp : s.pool[i]? with
    | none => simp [hp] at hk
    | some e0 => simp [hp] at hk; subst hk; cases hl.1
  · exact ⟨⟨e, by simpa [hik] using hk, hl⟩, fun h => hik h.symm⟩

theorem Lin.consume {s : St} {i k : Nat} {h : Handle} {sl : Slice} (hl : Lin (s.consume i h) k sl) :
    Lin s k sl ∧ (consumable s h = true → k ≠ i) := by
  unfold St.consume at hl
  split at hl
  · exact ⟨hl.kill.1, fun _ => hl.kill.2⟩
  · rename_i hc; exact ⟨hl, fun hcc => absurd hcc hc⟩

theorem Lin.memo_cons {s : St} {kv : Nat × Handle} {k : Nat} {sl : Slice}
    (hl : Lin ({ s with memo := kv :: s.memo } : St) k sl) : Lin s k sl :=
  let ⟨e, hk, h1, h2, h3⟩ := hl
  ⟨e, hk, h1, h2, by unfold inMemo at h3 ⊢; exact (Bool.or_eq_false_iff.mp (List.any_cons ▸ h3)).2⟩

theorem kill_pool_mem {s : St} {i : Nat} {e : Entry} (h : e ∈ (s.kill i).pool) : ∃ e0 ∈ s.pool, e.h = e0.h := by
  obtain ⟨k, hk⟩ := List.getElem?_of_mem h
  simp only [St.kill, List.getElem?_modify] at hk
  cases hp : s.pool[k]? with
  | none => simp [hp] at hk
  | some e0 => simp [hp] at hk; exact ⟨e0, List.mem_of_getElem? hp, by subst hk; split <;> rfl⟩

theorem Inv.kill {s : St} {top : Nat → Nat} (inv : Inv s top) (i : Nat) : Inv (s.kill i) top :=
  .of_owned (inv.owned.anti fun _ _ h => h.kill.1) inv.topz inv.cellok
    (fun _ he => let ⟨e0, h0, hh⟩ := kill_pool_mem he; hh ▸ inv.pool e0 h0) inv.memo inv.nodes inv.bufs

theorem Inv.consume {s : St} {top : Nat → Nat} (inv : Inv s top) (i : Nat) (h : Handle) :
    Inv (s.consume i h) top := by
  unfold St.consume
  split
  · exact inv.kill i
  · exact inv

theorem HWF.frame {s : St} {top : Nat → Nat} {h : Handle} (hw : HWF s top h) (s' : St)
    (hn : s.nodes.length ≤ s'.nodes.length) (fa : FrameA top s.arrs s'.arrs) : HWF s' top h := by
  cases h with
  | ptr m => exact Nat.lt_of_lt_of_le hw hn
  | list sl => exact ⟨fa.swf hw.1, hw.2.1, hw.2.2.1, by rw [fa.view_eq sl hw.2.2.1]; exact hw.2.2.2⟩
  | _ => trivial

theorem Inv.setArrs {s : St} {top : Nat → Nat} (inv : Inv s top) (arrs' : Arrs) (fa : FrameA top s.arrs arrs')
    (ok : CellsOK s.nodes.length arrs') : Inv { s with arrs := arrs' } top := by
  refine ⟨fun a ha => inv.topz a (by have := fa.1; simp at ha; omega), ok, ?_, ?_, ?_, inv.own, inv.uniq, ?_⟩
  · intro e he; exact (inv.pool e he).frame _ (Nat.le_refl _) fa
  · intro kv hkv; exact ⟨(inv.memo kv hkv).1.frame _ (Nat.le_refl _) fa, (inv.memo kv hkv).2⟩
  · intro n tok sl pos rpos hn
    exact ⟨fa.swf (inv.nodes n tok sl pos rpos hn).1, (inv.nodes n tok sl pos rpos hn).2⟩
  · intro b hb; exact ⟨fa.swf (inv.bufs b hb).1, (inv.bufs b hb).2⟩

theorem push_pool_get {s : St} {h : Handle} {k : Nat} {e : Entry} (hk : (s.push h).pool[k]? = some e) :
    s.pool[k]? = some e ∨ (k = s.pool.length ∧ e = ⟨h, true⟩) := by
  unfold St.push at hk
  simp only at hk
  by_cases hlt : k < s.pool.length
  · rw [List.getElem?_append_left hlt] at hk; exact Or.inl hk
  · rw [List.getElem?_append_right (by omega)] at hk
    by_cases h0 : k - s.pool.length = 0
    · simp [h0] at hk; exact Or.inr ⟨by omega, hk.symm⟩
    · simp [h0] at hk

theorem Lin.push {s : St} {h : Handle} {k : Nat} {sl : Slice} (hl : Lin (s.push h) k sl) :
    Lin s k sl ∨ (k = s.pool.length ∧ h = Handle.list sl ∧ inMemo s h = false) := by
  obtain ⟨e, hk, hl⟩ := hl
  rcases push_pool_get hk with h1 | ⟨h1, rfl⟩
  · exact Or.inl ⟨e, h1, hl⟩
  · exact Or.inr ⟨h1, hl.2.1, (show h = Handle.list sl from hl.2.1) ▸ hl.2.2⟩

/-- a new pool entry: if it is an unshared list, it must be safe and alone on its array -/
theorem Owned.push {s : St} {top : Nat → Nat} (o : Owned s top) (h : Handle)
    (hnew : ∀ sl, h = Handle.list sl → inMemo s h = false → Safe top sl ∧ ∀ k slk, Lin s k slk → slk.arr ≠ sl.arr) :
    Owned (s.push h) top := by
  intro i sli hi
  rcases hi.push with hi | ⟨rfl, e, hm⟩
  · refine ⟨(o i sli hi).1, fun j slj hj ha => ?_⟩
    rcases hj.push with hj | ⟨_, e, hm⟩
    · exact (o i sli hi).2 j slj hj ha
    · exact absurd ha ((hnew slj e hm).2 i sli hi)
  · refine ⟨(hnew sli e hm).1, fun j slj hj ha => ?_⟩
    rcases hj.push with hj | ⟨rfl, _, _⟩
    · exact absurd ha.symm ((hnew sli e hm).2 j slj hj)
    · rfl

theorem mem_push {s : St} {h : Handle} {e : Entry} (he : e ∈ (s.push h).pool) : e ∈ s.pool ∨ e.h = h := by
  simp only [St.push, List.mem_append, List.mem_singleton] at he
  exact he.imp id (fun e => by rw [e])

theorem Inv.push_same {s : St} {top : Nat → Nat} (inv : Inv s top) (h : Handle) (hw : HWF s top h)
    (hnew : ∀ sl, h = Handle.list sl → inMemo s h = false → Safe top sl ∧ ∀ k slk, Lin s k slk → slk.arr ≠ sl.arr) :
    Inv (s.push h) top :=
  .of_owned (inv.owned.push h hnew) inv.topz inv.cellok
    (fun e he => (mem_push he).elim (inv.pool e) (fun e => e ▸ hw)) inv.memo inv.nodes inv.bufs

theorem Inv.push_flat {s : St} {top : Nat → Nat} (inv : Inv s top) (h : Handle) (hw : HWF s top h)
    (nl : ∀ sl, h ≠ Handle.list sl) : Inv (s.push h) top :=
  inv.push_same h hw fun sl e => absurd e (nl sl)

theorem HWF.top_mono {s : St} {top top' : Nat → Nat} (hge : ∀ a, top a ≤ top' a) {h : Handle} (hw : HWF s top h) :
    HWF s top' h := by
  cases h with
  | ptr m => exact hw
  | list sl => exact ⟨hw.1, hw.2.1, Nat.le_trans hw.2.2.1 (hge _), hw.2.2.2⟩
  | _ => trivial

/-- the bound of array `A` may go up to `v` if every owner that still has room on `A` already shows `v` cells -/
theorem Inv.raise_to {s : St} {top : Nat → Nat} (inv : Inv s top) (A v : Nat)
    (hown : ∀ i sl, Lin s i sl → sl.arr = A → sl.len < sl.cap → v ≤ sl.len)
    (nobuf : ∀ b ∈ s.bufs, b.cap ≠ 0 → b.arr ≠ A) (hA : A < s.arrs.length) :
    Inv s (fun a => if a = A then max (top a) v else top a) := by
  have hge : ∀ a, top a ≤ (fun a => if a = A then max (top a) v else top a) a := by
    intro a; simp only; split <;> omega
  refine .of_owned (fun i sl hi => ⟨fun hlt => ?_, (inv.owned i sl hi).2⟩) (fun a ha => ?_) inv.cellok
    (fun e he => (inv.pool e he).top_mono hge) (fun kv hkv => ⟨(inv.memo kv hkv).1.top_mono hge, (inv.memo kv hkv).2⟩)
    (fun n tok sl p rp hn => ⟨(inv.nodes n tok sl p rp hn).1, Nat.le_trans (inv.nodes n tok sl p rp hn).2 (hge _)⟩)
    (fun b hb => ⟨(inv.bufs b hb).1, fun hc => ?_⟩)
  · have h1 := (inv.owned i sl hi).1 hlt
    show (if sl.arr = A then max (top sl.arr) v else top sl.arr) ≤ sl.len
    split
    · rename_i h; have := hown i sl hi h hlt; omega
    · exact h1
  · simp only [if_neg (show a ≠ A by omega)]; exact inv.topz a ha
  · simp only [if_neg (nobuf b hb hc)]; exact (inv.bufs b hb).2 hc

/-- handing out a list: its cells come under the bound of its array, then it joins the pool -/
theorem Inv.push_list {s : St} {top : Nat → Nat} (inv : Inv s top) (sl' : Slice) (w : SWF s.arrs sl')
    (pos : 0 < sl'.len) (sf : Safe top sl') (nn : Handle.nil ∉ view s.arrs sl')
    (C : inMemo s (Handle.list sl') = false → ∀ k slk, Lin s k slk → slk.arr ≠ sl'.arr)
    (B : ∀ b ∈ s.bufs, b.cap ≠ 0 → b.arr ≠ sl'.arr) :
    Inv (s.push (Handle.list sl')) (fun a => if a = sl'.arr then max (top a) sl'.len else top a) := by
  have ha : sl'.arr < s.arrs.length := by
    rcases w.2 with h0 | ⟨h1, _⟩
    · have := w.1; omega
    · exact h1
  have r := inv.raise_to sl'.arr sl'.len (fun i sl hi harr hlt => ?_) B ha
  · refine r.push_same _ ⟨w, pos, by simp only [if_pos]; omega, nn⟩ fun sl e hm => ?_
    cases e
    exact ⟨fun hlt => by have := sf hlt; simp only [if_pos]; omega, C hm⟩
  · -- an owner with room on the same array: `sl'` is then held by the memo table, hence under the old bound
    cases hm : inMemo s (Handle.list sl') with
    | false => exact absurd harr (C hm i sl hi)
    | true =>
      obtain ⟨kv, hkv, hkv2⟩ := inMemo_true hm
      have hw := (inv.memo kv hkv).1
      rw [hkv2] at hw
      have := (inv.owned i sl hi).1 hlt
      have := hw.2.2.1
      rw [harr] at *; omega

theorem HWF.cellOK {s : St} {top : Nat → Nat} {h : Handle} (hw : HWF s top h) (nl : ∀ sl, h ≠ Handle.list sl) :
    CellOK s.nodes.length h := by
  cases h with
  | ptr m => exact hw
  | list sl => exact absurd rfl (nl sl)
  | _ => trivial

theorem Inv.get_hwf {s : St} {top : Nat → Nat} (inv : Inv s top) {i : Nat} {h : Handle} (hg : s.get i = some h) :
    HWF s top h := by
  obtain ⟨e, he, _, hh⟩ := get_some hg
  rw [← hh]; exact inv.pool e (List.mem_of_getElem? he)

/-- a list the memo table holds is sealed: nobody appends to it in place -/
theorem Inv.memo_sealed {s : St} {top : Nat → Nat} (inv : Inv s top) {sl : Slice}
    (hm : inMemo s (Handle.list sl) = true) : sl.len = sl.cap := by
  obtain ⟨kv, hkv, hkv2⟩ := inMemo_true hm
  have := (inv.memo kv hkv).2
  rwa [hkv2] at this

/-- a live list handle is safe to append to in place: it is sealed (memo) or the owner of its array -/
theorem Inv.get_safe {s : St} {top : Nat → Nat} (inv : Inv s top) {i : Nat} {sl : Slice}
    (hg : s.get i = some (Handle.list sl)) : Safe top sl := by
  obtain ⟨e, he, hl, hh⟩ := get_some hg
  cases hm : inMemo s (Handle.list sl) with
  | true => exact fun hlt => absurd (inv.memo_sealed hm) (Nat.ne_of_lt hlt)
  | false => exact inv.own i e sl he ⟨hl, hh, hm⟩

theorem Inv.list_arr_lt {s : St} {top : Nat → Nat} {sl : Slice} (hw : HWF s top (Handle.list sl)) :
    sl.arr < s.arrs.length := by
  rcases hw.1.2 with h0 | ⟨h1, _⟩
  · have := hw.1.1; have := hw.2.1; omega
  · exact h1

theorem Inv.buf_ne {s : St} {top : Nat → Nat} (inv : Inv s top) {sl : Slice} (hw : HWF s top (Handle.list sl)) :
    ∀ b ∈ s.bufs, b.cap ≠ 0 → b.arr ≠ sl.arr := by
  intro b hb hc heq
  have := (inv.bufs b hb).2 hc
  have h1 := hw.2.1
  have h2 := hw.2.2.1
  rw [heq] at this
  omega

theorem Inv.push {s : St} {top : Nat → Nat} (inv : Inv s top) (h : Handle) (hw : HWF s top h)
    (hl : ∀ sl, h = Handle.list sl → Safe top sl ∧ (inMemo s h = false → ∀ k slk, Lin s k slk → slk.arr ≠ sl.arr)) :
    ∃ top', Inv (s.push h) top' := by
  cases h with
  | list sl => exact ⟨_, inv.push_list sl hw.1 hw.2.1 (hl sl rfl).1 hw.2.2.2 (hl sl rfl).2 (inv.buf_ne hw)⟩
  | _ => exact ⟨top, inv.push_flat _ hw (fun _ => Handle.noConfusion)⟩

theorem Inv.alloc {s : St} {top : Nat → Nat} (inv : Inv s top) (o : NodeObj)
    (ow : ∀ tok sl pos rpos, o = NodeObj.nt tok sl pos rpos → SWF s.arrs sl ∧ sl.len ≤ top sl.arr) :
    Inv (allocNode s o) top := by
  have hn : s.nodes.length ≤ (allocNode s o).nodes.length := by simp [allocNode]
  refine ⟨inv.topz, inv.cellok.mono hn, ?_, ?_, ?_, inv.own, inv.uniq, inv.bufs⟩
  · intro e he; exact (inv.pool e he).frame _ hn (FrameA.refl _ _)
  · intro kv hkv; exact ⟨(inv.memo kv hkv).1.frame _ hn (FrameA.refl _ _), (inv.memo kv hkv).2⟩
  · intro n tok sl pos rpos hnn
    simp only [allocNode] at hnn
    by_cases hlt : n < s.nodes.length
    · rw [List.getElem?_append_left hlt] at hnn
      exact inv.nodes n tok sl pos rpos hnn
    · rw [List.getElem?_append_right (by omega)] at hnn
      by_cases h0 : n - s.nodes.length = 0
      · simp [h0] at hnn
        exact ow tok sl pos rpos hnn
      · simp [h0] at hnn

theorem Inv.setBufs {s : St} {top : Nat → Nat} (inv : Inv s top) (bufs' : List Slice)
    (hb : ∀ b ∈ bufs', SWF s.arrs b ∧ (b.cap ≠ 0 → top b.arr = 0)) : Inv { s with bufs := bufs' } top :=
  ⟨inv.topz, inv.cellok, inv.pool, inv.memo, inv.nodes, inv.own, inv.uniq, hb⟩

theorem Inv.memo_cons {s : St} {top : Nat → Nat} (inv : Inv s top) (key : Nat) (h : Handle) (hw : HWF s top h)
    (hs : Sealed h) : Inv { s with memo := (key, h) :: s.memo } top :=
  .of_owned (inv.owned.anti fun _ _ h => h.memo_cons) inv.topz inv.cellok inv.pool
    (fun kv hkv => (List.mem_cons.mp hkv).elim (fun e => by rw [e]; exact ⟨hw, hs⟩) (inv.memo kv)) inv.nodes inv.bufs

theorem consume_nodes (s : St) (i : Nat) (h : Handle) : (s.consume i h).nodes = s.nodes := by
  unfold St.consume; split <;> rfl
theorem consume_arrs (s : St) (i : Nat) (h : Handle) : (s.consume i h).arrs = s.arrs := by
  unfold St.consume; split <;> rfl
theorem consume_memo (s : St) (i : Nat) (h : Handle) : (s.consume i h).memo = s.memo := by
  unfold St.consume; split <;> rfl
theorem consume_bufs (s : St) (i : Nat) (h : Handle) : (s.consume i h).bufs = s.bufs := by
  unfold St.consume; split <;> rfl
theorem consume_pool_length (s : St) (i : Nat) (h : Handle) : (s.consume i h).pool.length = s.pool.length := by
  unfold St.consume; split
  · simp [St.kill]
  · rfl

theorem inMemo_congr {s s' : St} (h : s'.memo = s.memo) (x : Handle) : inMemo s' x = inMemo s x := by
  unfold inMemo; rw [h]

/-- what is linear after `consume i h` and a change of the heap was linear before, and is not entry `i` if that was consumed -/
theorem Lin.after_consume {s : St} {i k : Nat} {h : Handle} {arrs' : Arrs} {sl : Slice}
    (hl : Lin ({ (s.consume i h) with arrs := arrs' } : St) k sl) : Lin s k sl ∧ (consumable s h = true → k ≠ i) :=
  Lin.consume (i := i) (h := h) hl

theorem Inv.after_consume {s : St} {top : Nat → Nat} (inv : Inv s top) (i : Nat) (h : Handle) (arrs' : Arrs)
    (fa : FrameA top s.arrs arrs') (ok : CellsOK s.nodes.length arrs') :
    Inv ({ (s.consume i h) with arrs := arrs' } : St) top := by
  apply (inv.consume i h).setArrs arrs'
  · rw [consume_arrs]; exact fa
  · rw [consume_nodes]; exact ok

/-- the variable holding pool value `i` is overwritten with the same value -/
theorem Inv.repush {s : St} {top : Nat → Nat} (inv : Inv s top) (i : Nat) (h : Handle) (hg : s.get i = some h)
    (arrs' : Arrs) (fa : FrameA top s.arrs arrs') (ok : CellsOK s.nodes.length arrs') :
    ∃ top', Inv (({ (s.consume i h) with arrs := arrs' } : St).push h) top' := by
  refine (inv.after_consume i h arrs' fa ok).push h ((inv.get_hwf hg).frame _ (by rw [consume_nodes]; exact Nat.le_refl _) fa) (fun sl e => ?_)
  subst e
  refine ⟨inv.get_safe hg, fun hm k slk hl heq => ?_⟩
  -- another linear entry on the same array would be entry `i` itself, which has just been consumed
  have hm' : inMemo s (Handle.list sl) = false := (inMemo_congr (consume_memo ..) _).symm.trans hm
  exact hl.after_consume.2 (by rw [consumable_list, hm']; rfl) ((inv.owned k slk hl.after_consume.1).2 i sl (.of_get hg hm') heq)

theorem Inv.push_fresh {s : St} {top : Nat → Nat} (inv : Inv s top) (i : Nat) (h : Handle)
    (arrs' : Arrs) (sl' : Slice) (fa : FrameA top s.arrs arrs') (ok : CellsOK s.nodes.length arrs')
    (w : SWF arrs' sl') (pos : 0 < sl'.len) (sf : Safe top sl') (nn : Handle.nil ∉ view arrs' sl')
    (hfresh : s.arrs.length ≤ sl'.arr) :
    ∃ top', Inv (({ (s.consume i h) with arrs := arrs' } : St).push (Handle.list sl')) top' := by
  refine ⟨_, (inv.after_consume i h arrs' fa ok).push_list sl' w pos sf nn (fun _ k slk hl => ?_) (fun b hb hc => ?_)⟩
  · obtain ⟨e, h0, hl0⟩ := hl.after_consume.1
    have := Inv.list_arr_lt (hl0.2.1 ▸ inv.pool e (List.mem_of_getElem? h0))
    omega
  · have hb' : b ∈ s.bufs := by simpa [consume_bufs] using hb
    rcases (inv.bufs b hb').1.2 with h0 | ⟨h1, _⟩
    · exact absurd h0 hc
    · omega

theorem Inv.push_result {s : St} {top : Nat → Nat} (inv : Inv s top) (i : Nat) (sl : Slice)
    (hg : s.get i = some (Handle.list sl)) (arrs' : Arrs) (sl' : Slice) (fa : FrameA top s.arrs arrs')
    (ok : CellsOK s.nodes.length arrs') (w : SWF arrs' sl') (pos : 0 < sl'.len) (sf : Safe top sl')
    (nn : Handle.nil ∉ view arrs' sl') (pl : Placed s.arrs sl sl') :
    ∃ top', Inv (({ (s.consume i (Handle.list sl)) with arrs := arrs' } : St).push (Handle.list sl')) top' := by
  rcases pl with ⟨p1, p2, p3⟩ | p4
  · rcases p3 with p3 | ⟨p3, p4⟩
    · subst p3
      exact inv.repush i _ hg arrs' fa ok
    · -- extended in place: the list was not sealed, hence linear, hence consumed
      have hm : inMemo s (Handle.list sl) = false := by
        cases hm : inMemo s (Handle.list sl) with
        | false => rfl
        | true => have := inv.memo_sealed hm; omega
      refine ⟨_, (inv.after_consume i (Handle.list sl) arrs' fa ok).push_list sl' w pos sf nn (fun _ k slk hl heq => ?_) (fun b hb hc => ?_)⟩
      · exact hl.after_consume.2 (by rw [consumable_list, hm]; rfl) ((inv.owned k slk hl.after_consume.1).2 i sl (.of_get hg hm) (by rw [heq, p1]))
      · have hb' : b ∈ s.bufs := by simpa [consume_bufs] using hb
        rw [p1]
        exact inv.buf_ne (inv.get_hwf hg) b hb' hc
  · exact inv.push_fresh i _ arrs' sl' fa ok w pos sf nn p4

/-- pool entries keep index and handle and at most die; the memo table only gains entries, under keys it did not have -/
structure Ext (s s' : St) : Prop where
  pool : ∀ (k : Nat) (e : Entry), s.pool[k]? = some e →
    ∃ e', s'.pool[k]? = some e' ∧ e'.h = e.h ∧ (e'.live = true → e.live = true)
  memo : ∃ l, s'.memo = l ++ s.memo ∧ ∀ kv ∈ l, ∀ kv' ∈ s.memo, kv.1 ≠ kv'.1

theorem Ext.trans {s1 s2 s3 : St} (a : Ext s1 s2) (b : Ext s2 s3) : Ext s1 s3 := by
  refine ⟨fun k e he => ?_, ?_⟩
  · obtain ⟨e2, h2, hh2, hl2⟩ := a.pool k e he
    obtain ⟨e3, h3, hh3, hl3⟩ := b.pool k e2 h2
    exact ⟨e3, h3, by rw [hh3, hh2], fun h => hl2 (hl3 h)⟩
  · obtain ⟨l1, h1, f1⟩ := a.memo
    obtain ⟨l2, h2, f2⟩ := b.memo
    refine ⟨l2 ++ l1, by rw [h2, h1, List.append_assoc], ?_⟩
    intro kv hkv kv' hkv'
    rcases List.mem_append.mp hkv with h | h
    · exact f2 kv h kv' (by rw [h1]; exact List.mem_append_right _ hkv')
    · exact f1 kv h kv' hkv'

theorem Ext.of_eq {s s' : St} (hp : s'.pool = s.pool) (hm : s'.memo = s.memo) : Ext s s' :=
  ⟨fun _ e he => ⟨e, by rw [hp]; exact he, rfl, id⟩, ⟨[], by simp [hm], fun _ h => by simp at h⟩⟩

theorem Ext.kill (s : St) (i : Nat) : Ext s (s.kill i) := by
  refine ⟨fun k e he => ?_, ⟨[], rfl, fun _ h => by simp at h⟩⟩
  simp only [St.kill, List.getElem?_modify]
  by_cases hik : i = k
  · subst hik
    simp only [if_true, he]
    exact ⟨_, rfl, rfl, fun h => by simp at h⟩
  · simp only [if_neg hik]
    exact ⟨e, by simpa using he, rfl, id⟩

theorem Ext.consume (s : St) (i : Nat) (h : Handle) : Ext s (s.consume i h) := by
  unfold St.consume; split
  · exact Ext.kill s i
  · exact Ext.of_eq rfl rfl

theorem Ext.push (s : St) (h : Handle) : Ext s (s.push h) := by
  refine ⟨fun k e he => ⟨e, ?_, rfl, id⟩, ⟨[], rfl, fun _ h => by simp at h⟩⟩
  simp only [St.push]
  rw [List.getElem?_append_left (List.getElem?_eq_some_iff.mp he).1]; exact he

theorem StFrame.of_eq {top : Nat → Nat} {s s' : St} (hn : s'.nodes = s.nodes) (ha : s'.arrs = s.arrs) :
    StFrame top s s' := ⟨⟨[], by simp [hn]⟩, by rw [ha]; exact FrameA.refl _ _⟩

theorem push_pool_length (s : St) (h : Handle) : (s.push h).pool.length = s.pool.length + 1 := List.length_append

theorem kill_length (s : St) (i : Nat) : (s.kill i).pool.length = s.pool.length := List.length_modify ..

/-- what every operation does, SetReaderPos included; `StepOK` adds what all the others do: nothing under the bound is written -/
structure StepAny (s s' : St) : Prop where
  inv : ∃ top', Inv s' top'
  ext : Ext s s'
  len : s'.pool.length = s.pool.length ∨ s'.pool.length = s.pool.length + 1

structure StepOK (top : Nat → Nat) (s s' : St) : Prop extends StepAny s s' where
  frame : StFrame top s s'

theorem StepOK.refl {top : Nat → Nat} {s : St} (inv : Inv s top) : StepOK top s s :=
  { inv := ⟨top, inv⟩, ext := Ext.of_eq rfl rfl, len := Or.inl rfl, frame := StFrame.of_eq rfl rfl }

theorem StepOK.push {top : Nat → Nat} {s : St} {h : Handle} (hinv : ∃ top', Inv (s.push h) top') :
    StepOK top s (s.push h) :=
  { inv := hinv, ext := Ext.push _ _, len := Or.inr (push_pool_length ..), frame := StFrame.of_eq rfl rfl }

theorem StepOK.same {top : Nat → Nat} {s s' : St} (hinv : ∃ top', Inv s' top') (hp : s'.pool = s.pool)
    (hm : s'.memo = s.memo) (fr : StFrame top s s') : StepOK top s s' :=
  { inv := hinv, ext := Ext.of_eq hp hm, len := Or.inl (congrArg _ hp), frame := fr }

theorem stepOK_mid {top : Nat → Nat} {s : St} (i : Nat) (h h' : Handle) (arrs' : Arrs)
    (fa : FrameA top s.arrs arrs')
    (hinv : ∃ top', Inv (({ (s.consume i h) with arrs := arrs' } : St).push h') top') :
    StepOK top s (({ (s.consume i h) with arrs := arrs' } : St).push h') :=
  { inv := hinv
    ext := (Ext.consume s i h).trans
      ((Ext.of_eq (s := s.consume i h) (s' := ({ (s.consume i h) with arrs := arrs' } : St)) rfl rfl).trans (Ext.push _ h'))
    len := Or.inr ((push_pool_length ..).trans (congrArg (· + 1) (consume_pool_length ..)))
    frame := ⟨⟨[], by simp [St.push, consume_nodes]⟩, fa⟩ }

/-- `AppendNode` on a first argument that is a single node: the one-element list `[h1]` is allocated, then extended -/
theorem appendFresh_ok (grow : Nat → Nat) {s : St} {top : Nat → Nat} (inv : Inv s top) (i : Nat) (h1 h2 : Handle)
    (hw2 : HWF s top h2) (hc1 : CellOK s.nodes.length h1) (hn1 : h1 ≠ Handle.nil)
    (hn2 : h2 ≠ Handle.nil) :
    StepOK top s (({ (s.consume i h1) with arrs := (nlAppend grow (s.arrs ++ [[h1]]) ⟨s.arrs.length, 1, 1⟩ h2).1 } : St).push
      (Handle.list (nlAppend grow (s.arrs ++ [[h1]]) ⟨s.arrs.length, 1, 1⟩ h2).2)) := by
  have hlen : (s.arrs ++ [[h1]]).length = s.arrs.length + 1 := List.length_append
  have tz1 : ∀ a, (s.arrs ++ [[h1]]).length ≤ a → top a = 0 := fun a ha => inv.topz a (by omega)
  have ok1 : CellsOK s.nodes.length (s.arrs ++ [[h1]]) :=
    cellsOK_append inv.cellok _ (fun x hx => List.mem_singleton.mp hx ▸ hc1)
  have hcells : cells (s.arrs ++ [[h1]]) s.arrs.length = [h1] := cells_append_eq _ _
  have w0 : SWF (s.arrs ++ [[h1]]) ⟨s.arrs.length, 1, 1⟩ :=
    ⟨Nat.le_refl _, Or.inr ⟨by rw [hlen]; exact Nat.lt_succ_self _, by rw [hcells]; exact Nat.le_refl _⟩⟩
  have sf0 : Safe top ⟨s.arrs.length, 1, 1⟩ := fun h => absurd h (Nat.lt_irrefl 1)
  have hv0 : Handle.nil ∉ view (s.arrs ++ [[h1]]) ⟨s.arrs.length, 1, 1⟩ := by
    show Handle.nil ∉ (cells (s.arrs ++ [[h1]]) s.arrs.length).take 1
    rw [hcells]
    exact fun h => hn1 (List.mem_singleton.mp h).symm
  have fa0 := frameA_append top s.arrs [h1] inv.topz
  obtain ⟨r, nn⟩ := nlAppend_spec grow top s.nodes.length _ ⟨s.arrs.length, 1, 1⟩ h2 w0 sf0 tz1 ok1 (fun nl => hw2.cellOK nl)
  refine stepOK_mid i _ _ _ (fa0.trans r.frame) (inv.push_fresh i h1 _ _ (fa0.trans r.frame) r.ok r.swf (r.pos Nat.one_pos) r.safe
    (nn hv0 hn2 fun src e => ?_) ?_)
  · subst e; exact ⟨fa0.swf hw2.1, hw2.2.2.1, by rw [fa0.view_eq src hw2.2.2.1]; exact hw2.2.2.2⟩
  · rcases r.placed with ⟨p1, _, _⟩ | p2
    · rw [p1]; exact Nat.le_refl _
    · exact Nat.le_trans (by rw [hlen]; exact Nat.le_succ _) p2

/-- `ast.AppendNode` returns one of its arguments, or a list placed relative to its first argument -/
theorem doAppend_ok (grow : Nat → Nat) {s : St} {top : Nat → Nat} (inv : Inv s top) (i : Nat) (h1 : Handle)
    (hg1 : s.get i = some h1) (j : Option Nat) (h2 : Handle) (hw2 : HWF s top h2)
    (hj : ∀ j', j = some j' → s.get j' = some h2) (hnone : j = none → ∀ sl, h2 ≠ Handle.list sl) :
    StepOK top s (doAppend grow s i h1 j h2) := by
  have hw1 := inv.get_hwf hg1
  unfold doAppend appendNodeCore
  by_cases hn1 : h1 = Handle.nil
  · simp only [if_pos hn1]
    cases j with
    | some j' => exact stepOK_mid j' h2 h2 s.arrs (FrameA.refl _ _) (inv.repush j' h2 (hj j' rfl) s.arrs (FrameA.refl _ _) inv.cellok)
    | none => exact .push ⟨top, inv.push_flat h2 hw2 (hnone rfl)⟩
  · by_cases hn2 : h2 = Handle.nil
    · simp only [if_neg hn1, if_pos hn2]
      exact stepOK_mid i h1 h1 s.arrs (FrameA.refl _ _) (inv.repush i h1 hg1 s.arrs (FrameA.refl _ _) inv.cellok)
    · simp only [if_neg hn1, if_neg hn2]
      cases h1 with
      | list sl =>
        obtain ⟨r, nn⟩ := nlAppend_spec grow top s.nodes.length s.arrs sl h2 hw1.1 (inv.get_safe hg1) inv.topz inv.cellok
          (fun nl => hw2.cellOK nl)
        exact stepOK_mid i _ _ _ r.frame (inv.push_result i sl hg1 _ _ r.frame r.ok r.swf (r.pos hw1.2.1) r.safe
          (nn hw1.2.2.2 hn2 fun src e => by subst e; exact ⟨hw2.1, hw2.2.2.1, hw2.2.2.2⟩) r.placed)
      | nil => exact absurd rfl hn1
      | ptr m => exact appendFresh_ok grow inv i _ h2 hw2 hw1 hn1 hn2
      | empty p => exact appendFresh_ok grow inv i _ h2 hw2 trivial hn1 hn2
      | eof p => exact appendFresh_ok grow inv i _ h2 hw2 trivial hn1 hn2

theorem Inv.push_memo {s : St} {top : Nat → Nat} (inv : Inv s top) (kv : Nat × Handle) (hkv : kv ∈ s.memo) :
    ∃ top', Inv (s.push kv.2) top' :=
  inv.push kv.2 (inv.memo kv hkv).1 (fun sl e =>
    ⟨fun hlt => absurd (inv.memo_sealed (e ▸ inMemo_of_mem hkv)) (Nat.ne_of_lt hlt),
     fun hf => absurd (inMemo_of_mem hkv) (by rw [hf]; exact Bool.false_ne_true)⟩)

theorem cell_getD_ok {s : St} {top : Nat → Nat} (inv : Inv s top) (a k : Nat) :
    HWF s top ((cells s.arrs a).getD k Handle.nil) ∧ ∀ sl, (cells s.arrs a).getD k Handle.nil ≠ Handle.list sl := by
  have := getD_cellOK inv.cellok a k
  generalize (cells s.arrs a).getD k Handle.nil = c at this
  cases c with
  | ptr m => exact ⟨this, by intro sl; simp⟩
  | list sl => exact absurd this (by simp [CellOK])
  | _ => exact ⟨trivial, by intro sl; simp⟩

theorem setCells_append (arrs : Arrs) (x c : List Handle) : setCells (arrs ++ [x]) arrs.length c = arrs ++ [c] := by
  unfold setCells
  apply List.ext_getElem?
  intro i
  rw [List.getElem?_modify]
  by_cases hi : arrs.length = i
  · subst hi; simp
  · simp only [if_neg hi]
    by_cases hlt : i < arrs.length
    · simp [List.getElem?_append_left hlt]
    · rw [List.getElem?_eq_none (by simp; omega), List.getElem?_eq_none (by simp; omega)]; rfl

theorem HWF.ptr_new {s : St} {top : Nat → Nat} (o : NodeObj) : HWF (allocNode s o) top (Handle.ptr s.nodes.length) := by
  simp [HWF, allocNode]

theorem stepOK_alloc_push {top top' : Nat → Nat} {s : St} (arrs' : Arrs) (o : NodeObj)
    (fa : FrameA top s.arrs arrs') (inv' : Inv ({ s with arrs := arrs' } : St) top')
    (ow : ∀ tok sl pos rpos, o = NodeObj.nt tok sl pos rpos → SWF arrs' sl ∧ sl.len ≤ top' sl.arr) :
    StepOK top s ((allocNode ({ s with arrs := arrs' } : St) o).push (Handle.ptr s.nodes.length)) := by
  exact
    { inv := ⟨top', (inv'.alloc o ow).push_flat _ (HWF.ptr_new o) (fun _ => Handle.noConfusion)⟩
      ext := (Ext.of_eq (s := s) (s' := allocNode ({ s with arrs := arrs' } : St) o) rfl rfl).trans (Ext.push _ _)
      len := Or.inr (push_pool_length ..)
      frame := ⟨⟨[o], rfl⟩, fa⟩ }

/-- by eta; it gives `inv` the shape `stepOK_alloc_push` takes when the operation leaves the arrays alone -/
theorem Inv.same_arrs {s : St} {top : Nat → Nat} (inv : Inv s top) : Inv ({ s with arrs := s.arrs } : St) top := inv

theorem step_seqBufWrite_ok (grow : Nat → Nat) {s : St} {top : Nat → Nat} (inv : Inv s top) (f depth : Nat)
    (b : Slice) (h : Handle) (hb : s.bufs[f]? = some b) (hw : HWF s top h) (nl : ∀ sl, h ≠ Handle.list sl) :
    StepOK top s (if b.len < depth + 1 then
        ({ s with arrs := (sliceAppend grow s.arrs b h).1, bufs := s.bufs.set f (sliceAppend grow s.arrs b h).2 } : St)
      else ({ s with arrs := writeCell s.arrs b.arr depth h } : St)) := by
  have hbm : b ∈ s.bufs := List.mem_of_getElem? hb
  obtain ⟨bw, bt⟩ := inv.bufs b hbm
  have hc : CellOK s.nodes.length h := hw.cellOK nl
  split
  · have sfb : Safe top b := by
      intro hlt
      rw [bt (by omega)]; omega
    have r := sliceAppend_spec grow top s.nodes.length s.arrs b h bw sfb inv.topz inv.cellok hc
    refine .same ⟨top, ?_⟩ rfl rfl ⟨⟨[], by simp⟩, r.frame⟩
    apply (inv.setArrs _ r.frame r.ok).setBufs
    intro b' hb'
    rcases List.mem_or_eq_of_mem_set hb' with h1 | h1
    · exact ⟨r.frame.swf (inv.bufs b' h1).1, (inv.bufs b' h1).2⟩
    · subst h1
      refine ⟨r.swf, fun hc' => ?_⟩
      rcases r.placed with ⟨p1, p2, _⟩ | p3
      · rw [p1]; exact bt (by rw [← p2]; exact hc')
      · exact inv.topz _ p3
  · rename_i hlt
    have hcap : b.cap ≠ 0 := by have := bw.1; omega
    have fa := frameA_write top s.arrs b.arr depth h (by rw [bt hcap]; omega)
    exact .same ⟨top, inv.setArrs _ fa (cellsOK_write inv.cellok _ _ _ hc)⟩ rfl rfl ⟨⟨[], by simp⟩, fa⟩

theorem doAppend_list (grow : Nat → Nat) (s : St) (i j : Nat) (sl : Slice) (h2 : Handle) (hne : h2 ≠ Handle.nil) :
    doAppend grow s i (Handle.list sl) (some j) h2 =
      ({ (s.consume i (Handle.list sl)) with arrs := (nlAppend grow s.arrs sl h2).1 } : St).push
        (Handle.list (nlAppend grow s.arrs sl h2).2) := by
  simp [doAppend, appendNodeCore, hne]

theorem clip_hwf {s : St} {top : Nat → Nat} {h : Handle} (hw : HWF s top h) : HWF s top h.clip ∧ Sealed h.clip := by
  cases h with
  | list sl =>
    obtain ⟨w, pos, ht, nn⟩ := hw
    refine ⟨⟨⟨Nat.le_refl _, ?_⟩, pos, ht, nn⟩, rfl⟩
    rcases w.2 with h0 | ⟨h1, h2⟩
    · exact Or.inl (by show sl.len = 0; have := w.1; omega)
    · exact Or.inr ⟨h1, by show sl.len ≤ (cells s.arrs sl.arr).length; have := w.1; omega⟩
  | ptr m => exact ⟨hw, trivial⟩
  | _ => exact ⟨trivial, trivial⟩

theorem doMemoStore_ok {s : St} {top : Nat → Nat} (inv : Inv s top) (key i : Nat) :
    StepOK top s (doMemoStore true s key i).1 := by
  unfold doMemoStore
  split
  · rename_i h hg
    split
    · exact StepOK.refl inv
    · rename_i hany
      simp only [if_true]
      have hw := inv.get_hwf hg
      have inv1 := inv.consume i h
      have hw1 : HWF (s.consume i h) top h.clip ∧ Sealed h.clip :=
        clip_hwf (hw.frame _ (by simp [consume_nodes]) (by rw [consume_arrs]; exact FrameA.refl _ _))
      have inv2 := inv1.memo_cons key h.clip hw1.1 hw1.2
      refine
        { inv := inv2.push_memo (key, h.clip) (by simp)
          ext := (Ext.consume s i h).trans (Ext.trans
            (s2 := ({ (s.consume i h) with memo := (key, h.clip) :: (s.consume i h).memo } : St)) ?_ (Ext.push _ _))
          len := Or.inr ((push_pool_length ..).trans (congrArg (· + 1) (consume_pool_length ..)))
          frame := StFrame.of_eq (consume_nodes ..) (consume_arrs ..) }
      refine ⟨fun k e he => ⟨e, he, rfl, id⟩, ⟨[(key, h.clip)], rfl, ?_⟩⟩
      intro kv hkv kv' hkv'
      simp only [List.mem_singleton] at hkv
      subst hkv
      rw [consume_memo] at hkv'
      intro heq
      apply hany
      rw [List.any_eq_true]
      exact ⟨kv', hkv', by simpa using heq.symm⟩
  · exact StepOK.refl inv

theorem step_seqResult_ok {s : St} {top : Nat → Nat} (inv : Inv s top) (b : Slice) (hb : b ∈ s.bufs)
    (depth tok p rp : Nat) (hd : depth ≤ b.len) (hd0 : depth ≠ 0) :
    StepOK top s ((allocNode ({ s with arrs := setCells (s.arrs ++ [List.replicate depth Handle.nil]) s.arrs.length (view (s.arrs ++ [List.replicate depth Handle.nil]) { b with len := depth } ++ (cells (s.arrs ++ [List.replicate depth Handle.nil]) s.arrs.length).drop depth) } : St)
      (NodeObj.nt tok ⟨s.arrs.length, depth, depth⟩ p rp)).push (Handle.ptr s.nodes.length)) := by
  rw [setCells_append]
  obtain ⟨bw, _⟩ := inv.bufs b hb
  have hcap : b.cap ≠ 0 := by have := bw.1; omega
  have harr : b.arr < s.arrs.length ∧ b.cap ≤ (cells s.arrs b.arr).length := by
    rcases bw.2 with h0 | h1
    · exact absurd h0 hcap
    · exact h1
  have ok1 : CellsOK s.nodes.length (s.arrs ++ [List.replicate depth Handle.nil]) :=
    cellsOK_append inv.cellok _ (by intro x hx; rw [(List.mem_replicate.mp hx).2]; trivial)
  generalize hc : view (s.arrs ++ [List.replicate depth Handle.nil]) { b with len := depth } ++
      (cells (s.arrs ++ [List.replicate depth Handle.nil]) s.arrs.length).drop depth = c
  have hclen : depth ≤ c.length := by
    rw [← hc]
    simp only [List.length_append, view, List.length_take]
    rw [cells_append_lt _ _ _ harr.1]
    have := bw.1
    omega
  have okc : ∀ x ∈ c, CellOK s.nodes.length x := by
    intro x hx
    rw [← hc] at hx
    rcases List.mem_append.mp hx with h | h
    · exact view_cellOK ok1 _ x h
    · exact ok1 _ x (List.mem_of_mem_drop h)
  have fa := frameA_append top s.arrs c inv.topz
  have inv1 := inv.setArrs (s.arrs ++ [c]) fa (cellsOK_append inv.cellok c okc)
  -- the copy gets a bound of its own: nobody refers to the new array yet
  have inv2 := inv1.raise_to s.arrs.length depth (fun i sl ⟨e, hi, hl⟩ harr _ => by
      have := Inv.list_arr_lt (hl.2.1 ▸ inv.pool e (List.mem_of_getElem? hi))
      omega) (by
    intro b' hb' hc'
    rcases (inv.bufs b' hb').1.2 with h0 | ⟨h1, _⟩
    · exact absurd h0 hc'
    · omega) (by simp)
  apply stepOK_alloc_push (s.arrs ++ [c]) _ fa inv2
  intro tok' sl' pos' rpos' ho
  cases ho
  refine ⟨⟨Nat.le_refl _, Or.inr ⟨by simp, ?_⟩⟩, by simp only [if_pos]; exact Nat.le_max_right _ _⟩
  show depth ≤ (cells (s.arrs ++ [c]) s.arrs.length).length
  rw [cells_append_eq]; exact hclen

theorem step_ok (grow : Nat → Nat) {s : St} {top : Nat → Nat} (inv : Inv s top) (op : Op) (hop : op.isTrim = false) :
    StepOK top s (step grow s op).1 := by
  cases op with
  | newNil | newEmpty | newEOF => exact .push ⟨top, inv.push_flat _ trivial (fun _ => Handle.noConfusion)⟩
  | newTerm tok val pos rpos =>
    exact stepOK_alloc_push s.arrs _ (FrameA.refl _ _) inv.same_arrs (by intro tok sl pos rpos h; cases h)
  | seqNew =>
    refine .same ⟨top, inv.setBufs _ ?_⟩ rfl rfl (StFrame.of_eq rfl rfl)
    intro b hb
    simp only [List.mem_append, List.mem_singleton] at hb
    rcases hb with hb | hb
    · exact inv.bufs b hb
    · subst hb; exact ⟨⟨Nat.le_refl _, Or.inl rfl⟩, fun h => absurd rfl h⟩
  | seqBufWrite f depth i =>
    simp only [step]
    split
    · rename_i b h hb hg
      have hw := inv.get_hwf hg
      split
      · exact StepOK.refl inv
      · exact StepOK.refl inv
      · rename_i hn1 hn2
        rw [apply_ite Prod.fst]
        exact step_seqBufWrite_ok grow inv f depth b h hb hw (fun sl e => hn2 sl e)
    · exact StepOK.refl inv
  | seqResult f depth tok pos single =>
    simp only [step]
    split
    · rename_i b hb
      split
      · rename_i hd
        split
        · exact stepOK_alloc_push s.arrs _ (FrameA.refl _ _) inv.same_arrs (by
            intro tok' sl' pos' rpos' ho
            cases ho
            exact ⟨⟨Nat.le_refl _, Or.inl rfl⟩, Nat.zero_le _⟩)
        · rename_i hd0
          split
          · obtain ⟨hw, nl⟩ := cell_getD_ok inv b.arr 0
            exact .push ⟨top, inv.push_flat _ hw nl⟩
          · split
            · exact StepOK.refl inv
            · exact step_seqResult_ok inv b (List.mem_of_getElem? hb) depth tok _ _ hd hd0
      · exact StepOK.refl inv
    · exact StepOK.refl inv
  | appendNode i j =>
    simp only [step]
    split
    · rename_i h1 h2 hg1 hg2
      exact doAppend_ok grow inv i h1 hg1 (some j) h2 (inv.get_hwf hg2) (fun j' e => by cases e; exact hg2) (fun e => by cases e)
    · exact StepOK.refl inv
  | nlAppend i j =>
    simp only [step]
    split
    · rename_i sl h2 hg1 hg2
      split
      · exact StepOK.refl inv
      · rename_i hne
        have := doAppend_ok grow inv i _ hg1 (some j) h2 (inv.get_hwf hg2) (fun j' e => by cases e; exact hg2) (fun e => by cases e)
        rw [doAppend_list grow s i j sl h2 hne] at this
        exact this
    · exact StepOK.refl inv
  | optionalAppend i pos =>
    simp only [step]
    split
    · rename_i h1 hg1
      exact doAppend_ok grow inv i h1 hg1 none _ trivial (fun j' e => by cases e) (fun _ sl => by simp)
    · exact StepOK.refl inv
  | listElem i k =>
    simp only [step]
    split
    · split
      · obtain ⟨hw, nl⟩ := cell_getD_ok inv _ k
        exact .push ⟨top, inv.push_flat _ hw nl⟩
      · exact StepOK.refl inv
    · exact StepOK.refl inv
  | memoStore key i => exact doMemoStore_ok inv key i
  | memoHit key =>
    simp only [step]
    split
    · rename_i kv hf
      exact .push (inv.push_memo kv (List.mem_of_find?_eq_some hf))
    · exact StepOK.refl inv
  | setReaderPos i d => simp [Op.isTrim] at hop
  | drop i =>
    simp only [step]
    split
    · exact { inv := ⟨top, inv.kill i⟩, ext := Ext.kill _ _, len := Or.inl (kill_length ..), frame := StFrame.of_eq rfl rfl }
    · exact StepOK.refl inv
  | render i =>
    simp only [step]
    split <;> exact StepOK.refl inv

end PV.Slice
