/-
  C16, full value theorem — the pieces of the example grammar in the vocabulary of `Succ` / `Fails`, for a parser
  that stands at a position with known bytes ahead (`At`): terminals through their byte specifications (C08), runes,
  LeftTrim over a run of whitespace, the alternatives of the `value` rule that fail on the first byte, the rule itself
  (`succ_value`: Choice's first match under Name under the rule reference); then the SepBy parsers `elems` and
  `members` as shapes, and the steps around them that do not depend on what a value is.
-/
import ParsleyVerif.Proofs.J16Run
import ParsleyVerif.Proofs.J16AccNum
import ParsleyVerif.Proofs.J16AccStr
namespace PV.J16
open PV PV.Text

/-- the standing hypotheses on the configuration: the grammar's rules, no work budget, a file-set offset -/
structure Std (cfg : Cfg) : Prop where
  env : cfg.env = Gjson.env
  mc : cfg.maxCalls = 0
  off : 1 ≤ cfg.file.offset

def At (cfg : Cfg) (pos : Nat) (l : Bytes) : Prop := InFile cfg.file pos ∧ rest cfg.file pos = l

theorem At.adv {cfg : Cfg} {pos : Nat} {a b : Bytes} (h : At cfg pos (a ++ b)) : At cfg (pos + a.length) b := by
  obtain ⟨hin, hr⟩ := h
  refine ⟨inFile_advance hin (by rw [hr]; simp), ?_⟩
  rw [rest_advance hin, hr, List.drop_left]

theorem At.adv1 {cfg : Cfg} {pos c : Nat} {b : Bytes} (h : At cfg pos (c :: b)) : At cfg (pos + 1) b :=
  At.adv (a := [c]) h

theorem At.cast {cfg : Cfg} {pos pos' : Nat} {l l' : Bytes} (h : At cfg pos l) (hp : pos = pos') (hl : l = l') :
    At cfg pos' l' := by subst hp; subst hl; exact h

theorem wsSp_isWs {w : Bytes} (h : WsSp w) : ∀ b ∈ w, isWs b = true := by
  intro b hb
  rcases h b hb with rfl | rfl <;> decide

theorem wsSp_ok {w : Bytes} (h : WsSp w) : wsOk .spaces w :=
  (firstBreak_eq_none_iff (wsSp_isWs h)).mpr fun b hb => by rcases h b hb with rfl | rfl <;> decide

def NotNum (c : Nat) : Prop := c ≠ 45 ∧ c ≠ 43 ∧ c ≠ 46 ∧ ¬ (48 ≤ c ∧ c ≤ 57)

theorem longestPrefix_notNum {L : Bytes → Bool}
    (hL : ∀ w, L w = true → ∃ c t, w = c :: t ∧ (c = 45 ∨ c = 43 ∨ c = 46 ∨ (48 ≤ c ∧ c ≤ 57))) {c : Nat}
    {l : Bytes} (h : NotNum c) : Lang.longestPrefix L (c :: l) = none := by
  rw [longestPrefix_none]
  intro j _
  apply Bool.eq_false_iff.mpr
  intro hw
  obtain ⟨c', t, hct, hc'⟩ := hL _ hw
  cases j with
  | zero => cases hct
  | succ j =>
    rw [List.take_succ_cons] at hct
    injection hct with h1 _
    subst h1
    unfold NotNum at h
    omega

theorem floatMatch_notNum {c : Nat} {l : Bytes} (h : NotNum c) : floatMatch (c :: l) = none := by
  rw [floatMatch_eq_longest]
  exact longestPrefix_notNum (fun _ hw => J16Acc.isFloat_head hw) h

theorem integerMatch_notNum {c : Nat} {l : Bytes} (h : NotNum c) : integerMatch (c :: l) = none := by
  rw [integerMatch_eq_longest]
  refine longestPrefix_notNum (fun _ hw => ?_) h
  obtain ⟨c', t, e, hc'⟩ := isInt_head hw
  exact ⟨c', t, e, hc'.imp_right fun h => h.imp_right .inr⟩

theorem bool_wf : (Terminal.bool [116, 114, 117, 101] [102, 97, 108, 115, 101]).WF := by
  refine ⟨⟨by simp, ?_⟩, ⟨by simp, ?_⟩⟩ <;> (intro b hb; simp at hb; omega)

theorem nil_wf : (Terminal.nil [110, 117, 108, 108]).WF := by
  refine ⟨by simp, ?_⟩; intro b hb; simp at hb; omega

section
variable {cfg : Cfg} (hS : Std cfg)
include hS

theorem succ_of_spec {t : Terminal} (wf : t.WF) (hl : cfg.params.LenOk t) {pos : Nat} {l : Bytes} {n : Node}
    (hat : At cfg pos l) (h : Terminal.spec cfg.params l pos t = .node n) : Succ cfg (.term t) pos n := by
  apply succ_term hS.mc
  rw [c08_spec cfg.params cfg.file t pos hat.1 wf hl, hat.2]; exact h

theorem fails_of_spec {t : Terminal} (wf : t.WF) (hl : cfg.params.LenOk t) {pos : Nat} {l : Bytes}
    (hat : At cfg pos l) (h : ∀ n, Terminal.spec cfg.params l pos t ≠ .node n) : Fails cfg (.term t) pos := by
  apply fails_term hS.mc
  rw [c08_spec cfg.params cfg.file t pos hat.1 wf hl, hat.2]; exact h

theorem succ_rune {c : Nat} (hc : c < 0x80) {pos : Nat} {l : Bytes} (hat : At cfg pos (c :: l)) :
    Succ cfg (Gjson.rn c) pos (runeLeaf c pos) := by
  apply succ_term hS.mc
  rw [rune_parse cfg.params cfg.file c _ pos l hc hat.1 hat.2]
  have : Utf8.encodeRune c = [c] := by unfold Utf8.encodeRune; rw [if_pos hc]
  rw [this]; rfl

theorem fails_rune {c : Nat} (hc : c < 0x80) {pos : Nat} {l : Bytes} (hat : At cfg pos l) (hne : l.head? ≠ some c) :
    Fails cfg (Gjson.rn c) pos := by
  apply fails_of_spec hS (t := .rune c [34, c, 34]) True.intro True.intro hat
  intro n
  simp only [Terminal.spec, runeW]
  rw [if_pos hc, if_neg hne]
  simp [nf]

theorem succ_ltrim' {g : G} {m : WsMode} {pos : Nat} {w l : Bytes} {n : Node} (hat : At cfg pos (w ++ l))
    (hw : ∀ b ∈ w, isWs b = true) (hl : Stop l) (hok : wsOk m w) (h : Succ cfg g (pos + w.length) n) :
    Succ cfg (.ltrim g m) pos n := by
  apply succ_ltrim hS.mc hS.off hat.1
  · rw [hat.2]; exact (wsOk_append m w l hw hl).2 hok
  · rw [ws_split_unique hat.2 hw hl]; exact h

theorem fails_ltrim' {g : G} {m : WsMode} {pos : Nat} {w l : Bytes} (hat : At cfg pos (w ++ l))
    (hw : ∀ b ∈ w, isWs b = true) (hl : Stop l) (h : Fails cfg g (pos + w.length)) : Fails cfg (.ltrim g m) pos := by
  apply fails_ltrim hS.mc hS.off hat.1
  rw [ws_split_unique hat.2 hw hl]; exact h

theorem fails_string {pos : Nat} {l : Bytes} (hat : At cfg pos l) (h : l.head? ≠ some 34) :
    Fails cfg (.term (.string false)) pos := by
  apply fails_of_spec hS (t := .string false) True.intro True.intro hat
  intro n
  simp only [Terminal.spec]
  unfold stringSpec
  split
  · exact absurd rfl h
  · simp [nf]
  · simp [nf]

theorem fails_float {pos : Nat} {l : Bytes} (hat : At cfg pos l) (h : floatMatch l = none) :
    Fails cfg (.term .float) pos := by
  apply fails_of_spec hS (t := .float) True.intro True.intro hat
  intro n
  simp only [Terminal.spec, floatSpec, h, nf]
  simp

/-- may the alternative `g` of the `value` rule answer where the byte `c` stands?  (`"`; a sign, a digit or `.`; the
    opener of an array or object; the first letter of a word) -/
def mayStart (c : Nat) : G → Bool
  | .term (.string _) => c == 34
  | .term .float => c == 45 || c == 43 || c == 46 || (48 ≤ c && c ≤ 57)
  | .term .integer => c == 45 || c == 43 || c == 46 || (48 ≤ c && c ≤ 57)
  | .term (.bool t f) => t.head? == some c || f.head? == some c
  | .term (.nil w) => w.head? == some c
  | .seq .seqOf (.term (.rune o _) :: _) _ => c == o
  | _ => true

theorem fails_alt {pos c : Nat} {l : Bytes} (hat : At cfg pos (c :: l)) {g : G} (hg : g ∈ Gjson.alts)
    (h : mayStart c g = false) : Fails cfg g pos := by
  have hspec : ∀ {t : Terminal}, t.WF → cfg.params.LenOk t →
      (∀ n, Terminal.spec cfg.params (c :: l) pos t ≠ .node n) → Fails cfg (.term t) pos :=
    fun wf hl h => fails_of_spec hS wf hl hat h
  simp only [Gjson.alts, List.mem_cons, List.not_mem_nil, or_false] at hg
  rcases hg with rfl | rfl | rfl | rfl | rfl | rfl | rfl <;>
    simp only [mayStart, Gjson.array, Gjson.object, Gjson.rn, List.head?_cons, Bool.or_eq_false_iff, Bool.and_eq_false_iff,
      beq_eq_false_iff_ne, ne_eq, Option.some.injEq, decide_eq_false_iff_not] at h
  · exact fails_string hS hat (by simpa using h)
  · exact fails_float hS hat (floatMatch_notNum (by unfold NotNum; omega))
  · refine hspec True.intro True.intro fun n => ?_
    simp [Terminal.spec, integerSpec, integerMatch_notNum (c := c) (l := l) (by unfold NotNum; omega), nf]
  · exact fails_seqOf hS.mc (fails_rune hS (by omega) hat (by simpa using h))
  · exact fails_seqOf hS.mc (fails_rune hS (by omega) hat (by simpa using h))
  · refine hspec bool_wf True.intro fun n => ?_
    rw [Terminal.spec, wordAt_head_ne _ _ 116 c _ l rfl rfl h.1, wordAt_head_ne _ _ 102 c _ l rfl rfl h.2]
    simp [nf]
  · refine hspec nil_wf True.intro fun n => ?_
    rw [Terminal.spec, wordAt_head_ne _ _ 110 c _ l rfl rfl h]
    simp [nf]

theorem fails_pre {pos c : Nat} {l : Bytes} (hat : At cfg pos (c :: l)) (k : Nat)
    (h : (Gjson.alts.take k).all (fun g => !mayStart c g) = true) : ∀ g ∈ Gjson.alts.take k, Fails cfg g pos :=
  fun g hg => fails_alt hS hat (List.mem_of_mem_take hg) (by simpa using List.all_eq_true.mp h g hg)

theorem env0 : cfg.env[0]? = some Gjson.valueRule := by rw [hS.env]; rfl

theorem succ_value {pre post : List G} {g : G} (halts : Gjson.alts = pre ++ g :: post) {pos : Nat} {n : Node}
    (hpre : ∀ g' ∈ pre, Fails cfg g' pos) (hg : Succ cfg g pos n) : Succ cfg (.ref 0) pos n := by
  apply succ_ref hS.mc (env0 hS)
  unfold Gjson.valueRule
  rw [halts]
  exact succ_name hS.mc (succ_choice hS.mc hpre hg)

theorem fails_value_closer {pos c : Nat} {l : Bytes} (hat : At cfg pos (c :: l)) (hc : c = 93 ∨ c = 125) :
    Fails cfg (.ref 0) pos := by
  apply fails_ref hS.mc (env0 hS)
  apply fails_name hS.mc
  exact fails_choice hS.mc (fails_pre hS hat 7 (by rcases hc with rfl | rfl <;> rfl))

end

end PV.J16

namespace PV.J16
open PV PV.Text

def lastRpos (n : Node) (l : List Node) : Nat := (((n :: l).getLast?).getD n).rpos

theorem lastRpos_nil (n : Node) : lastRpos n [] = n.rpos := rfl
theorem lastRpos_cons (n a : Node) (l : List Node) : lastRpos n (a :: l) = lastRpos a l := by
  unfold lastRpos
  rw [List.getLast?_cons_cons]
  cases h : (a :: l).getLast? with
  | none => simp at h
  | some x => rfl

theorem handleResult_lastRpos (sh : SeqShape) (p : Nat) (n : Node) (l : List Node) (hs : sh.single = false) :
    handleResult sh p (n :: l) = .nt sh.token (n :: l) n.pos (lastRpos n l) sh.interp :=
  handleResult_cons sh p n l hs

def elemsShape : SeqShape :=
  { lookup := fun i => if i % 2 == 0 then some (.ltrim Gjson.value .spacesNl) else some Gjson.comma,
    lenCheck := fun len => (len == 0 && true) || len % 2 == 1,
    token := sepByTok, interp := .array, single := false, name := none }
theorem elems_shape : Gjson.elems.shape = some elemsShape := rfl

def membersShape : SeqShape :=
  { lookup := fun i => if i % 2 == 0 then some (.ltrim Gjson.keyValue .spacesNl) else some Gjson.comma,
    lenCheck := fun len => (len == 0 && true) || len % 2 == 1,
    token := sepByTok, interp := .object, single := false, name := none }
theorem members_shape : Gjson.members.shape = some membersShape := rfl

theorem lenCheck_sep {sh : SeqShape} (hsh : sh.lenCheck = fun len => (len == 0 && true) || len % 2 == 1)
    (n : Node) (l : List Node) : sh.lenCheck (n :: l).length = true ↔ l.length % 2 = 0 := by
  rw [hsh]
  simp only [List.length_cons, Bool.and_true, Bool.or_eq_true, beq_iff_eq]
  omega

theorem even_succ {d : Nat} (h : d % 2 = 1) : (d + 1) % 2 = 0 := by omega
theorem odd_succ_succ {d : Nat} (h : d % 2 = 1) : (d + 1 + 1) % 2 = 1 := by omega

theorem lookup_even (sh : SeqShape) (v s : G) (hsh : sh.lookup = fun i => if i % 2 == 0 then some v else some s)
    (depth : Nat) (h : depth % 2 = 0) : sh.lookup depth = some v := by
  rw [hsh]; simp [h]

theorem lookup_odd (sh : SeqShape) (v s : G) (hsh : sh.lookup = fun i => if i % 2 == 0 then some v else some s)
    (depth : Nat) (h : depth % 2 = 1) : sh.lookup depth = some s := by
  rw [hsh]; simp [h]

section
variable {cfg : Cfg} (hS : Std cfg)
include hS

theorem sep_ok {c : Nat} (hc : c < 0x80) (hcw : isWs c = false) {p : Nat} {w l : Bytes} (hat : At cfg p (w ++ c :: l))
    (hw : WsSp w) : Succ cfg (.ltrim (Gjson.rn c) .spaces) p (runeLeaf c (p + w.length)) :=
  succ_ltrim' hS hat (wsSp_isWs hw) (stop_cons c l hcw) (wsSp_ok hw) (succ_rune hS hc hat.adv)

theorem value_of_array {pos : Nat} {X : Bytes} {n : Node} (hat : At cfg pos (91 :: X)) (h : Succ cfg Gjson.array pos n) :
    Succ cfg (.ref 0) pos n :=
  succ_value hS (pre := Gjson.alts.take 3) rfl (fails_pre hS hat 3 rfl) h

theorem value_of_object {pos : Nat} {X : Bytes} {n : Node} (hat : At cfg pos (123 :: X)) (h : Succ cfg Gjson.object pos n) :
    Succ cfg (.ref 0) pos n :=
  succ_value hS (pre := Gjson.alts.take 4) rfl (fails_pre hS hat 4 rfl) h

theorem elems_of_chain {p : Nat} {n : Node} {l : List Node} (hch : ShChain cfg elemsShape 0 p (n :: l))
    (hev : l.length % 2 = 0) : Succ cfg Gjson.elems p (.nt sepByTok (n :: l) n.pos (lastRpos n l) .array) := by
  have := succ_seqfam hS.mc elems_shape hch ((lenCheck_sep rfl n l).2 hev)
  rwa [handleResult_lastRpos elemsShape p n l rfl] at this

theorem members_of_chain {p : Nat} {n : Node} {l : List Node} (hch : ShChain cfg membersShape 0 p (n :: l))
    (hev : l.length % 2 = 0) : Succ cfg Gjson.members p (.nt sepByTok (n :: l) n.pos (lastRpos n l) .object) := by
  have := succ_seqfam hS.mc members_shape hch ((lenCheck_sep rfl n l).2 hev)
  rwa [handleResult_lastRpos membersShape p n l rfl] at this

end

end PV.J16
