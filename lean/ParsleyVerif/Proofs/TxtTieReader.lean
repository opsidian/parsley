/-
  THE TIE of the statement-level translator, text level: ReadRune, MatchString, MatchWord, ReadRegexp, Readf
  and isWordCharacter of text/reader.go as `factgen -out-prog` translates them (Generated/FactsProg.lean) against
  Model/Text.lean.  `FileRel` (Proofs/ProgTieText.lean) relates the translated file to the model's; positions are `Nat` in
  the model and `Int` in the translation; the model's `none` is a Go run-time panic and the theorems say that the
  translated function panics exactly there.  Domain: `offset ≤ pos` (the model's).

  Every tie goes the same way (Proofs/ProgSat.lean).  The model's answer is named `m`; one pass of `simp only [go_sat, …]`
  with the rules of the reads the function makes (`rel.cur`, `rel.sat_read`, `rel.sat_rest`, `rel.view_rest`) turns the
  translated body into the tree of its tests, with `m` at the leaves; a call with a specification of its own ([]byte(str), the
  comparison loop, the regexp engine, Readf's function argument) is passed with that specification.  Then the cases of the
  MODEL are taken, and in each `simp (disch := omega) only [go_decided] at hm ⊢` takes the branch every
  test decides there, in the model and in the code — whatever way the source spells the test (`omega` decides it from the
  case; the pre-rewrites `↓` take a decided branch without looking at the other).
-/
import ParsleyVerif.Proofs.TxtTieBasics
namespace PV.TxtTie
open PV.ProgPrelude PV.FactsProg PV.ProgTie

def ByteFile (f : Text.File) : Prop := ∀ b ∈ f.data, b < 256

/-- the model's answer (`none` = the Go code panics) as the outcome of a translated function that leaves the state alone -/
def outPB (m : Option (Nat × Bool)) (st : St) : Res (Int × Bool) :=
  match m with
  | none => .panic
  | some (q, b) => .ok ((q : Int), b) st

theorem eq_outPB_iff (r : Res (Int × Bool)) (m : Option (Nat × Bool)) (st : St) :
    r = outPB m st ↔ Tied r m (fun c a s => a = ((c.1 : Int), c.2) ∧ s = st) := by
  rcases m with _ | ⟨q, b⟩
  · rw [tied_none]; rfl
  · rw [tied_some]
    exact ⟨fun h => ⟨_, _, h, rfl, rfl⟩, fun ⟨a, s, h, e1, e2⟩ => (by rw [h, e1, e2]; rfl)⟩

/-- carry a fact `Φ` about the model's answer over to an outcome that equals it -/
theorem outPB_elim {r : Res (Int × Bool)} {m : Option (Nat × Bool)} {st : St} {Φ : Nat → Bool → Prop}
    (t : r = outPB m st) (hne : m ≠ none) (hΦ : ∀ q b, m = some (q, b) → Φ q b) :
    ∃ (q : Nat) (b : Bool), r = .ok ((q : Int), b) st ∧ Φ q b := by
  rcases m with _ | ⟨q, b⟩
  · exact absurd rfl hne
  · exact ⟨q, b, t, hΦ q b rfl⟩

theorem tie_isWordCharacter (st : St) (b : Nat) : isWordCharacter (b : Int) st = .ok (Text.isWordByte b) st := by
  simp only [isWordCharacter, pure_apply, Text.isWordByte]
  congr 1
  rw [Bool.eq_iff_iff]
  simp only [Bool.or_eq_true, Bool.and_eq_true, decide_eq_true_eq]
  omega

theorem sat_isWordCharacter {Q : Bool → St → Prop} {P : Prop} (st : St) (b : Nat) :
    (isWordCharacter (b : Int) st).Sat Q P ↔ Q (Text.isWordByte b) st := sat_of_eq (tie_isWordCharacter st b)

theorem getD_lt (f : Text.File) (hb : ByteFile f) (i : Nat) (h : i < f.data.length) : f.data.getD i 0 < 256 :=
  hb _ (List.mem_of_getElem? (getElem?_getD _ _ 0 h))

theorem tie_ReadRune (st : St) (F : FactsProg.File) (f : Text.File) (rel : FileRel st F f) (hb : ByteFile f)
    (p ch : Nat) (h1 : f.offset ≤ p) :
    Reader_ReadRune ⟨F⟩ p ch st = outPB (Text.readRune f p ch) st := by
  have hoff := rel.off
  generalize hm : Text.readRune f p ch = m
  rw [Text.readRune, if_neg (Nat.not_lt.mpr h1)] at hm
  simp only [Text.File.len, Text.File.pos, ge_iff_le] at hm
  rw [eq_outPB_iff, Tied, Reader_ReadRune]
  simp only [go_sat, File_Pos, rel.cur h1, rel.len, rel.sat_read, rel.sat_rest, sat_decodeRune, rel.view_rest, ints_toNat,
    and_true]
  -- at the end of the file; an ASCII rune, compared as a byte; any other, decoded
  by_cases c1 : f.data.length ≤ p - f.offset
  · simp (disch := omega) only [go_decided] at hm ⊢
    exact ⟨_, hm.symm, rfl⟩
  · have hc1 := Nat.lt_of_not_le c1
    rw [getElem?_getD _ _ 0 hc1] at hm
    by_cases c2 : ch < 128
    · simp only [wrap8_eq_iff ch _ c2 (getD_lt f hb _ hc1)]
      by_cases c3 : ch = f.data.getD (p - f.offset) 0
      · simp (disch := omega) only [go_decided] at hm ⊢
        exact ⟨_, hm.symm, congrArg (·, true) (by omega)⟩
      · simp (disch := omega) only [go_decided] at hm ⊢
        exact ⟨_, hm.symm, rfl⟩
    · by_cases c3 : (Utf8.decodeRune (f.data.drop (p - f.offset))).1 = ch
      · simp (disch := omega) only [go_decided] at hm ⊢
        exact ⟨_, hm.symm, congrArg (·, true) (by omega)⟩
      · simp (disch := omega) only [go_decided] at hm ⊢
        exact ⟨_, hm.symm, rfl⟩

/-- the model's answer as the outcome of a translated function that may have allocated: a panic where the model says
    `none`, else the model's pair in a state that only grew -/
def AgreesPB (r : Res (Int × Bool)) (m : Option (Nat × Bool)) (st : St) : Prop :=
  match m with
  | none => r = .panic
  | some (q, b) => ∃ st', r = .ok ((q : Int), b) st' ∧ Grows st st'

theorem AgreesPB.elim {r : Res (Int × Bool)} {m : Option (Nat × Bool)} {st : St} {Φ : Nat → Bool → Prop}
    (t : AgreesPB r m st) (hne : m ≠ none) (hΦ : ∀ q b, m = some (q, b) → Φ q b) :
    ∃ (q : Nat) (b : Bool) (st' : St), r = .ok ((q : Int), b) st' ∧ Grows st st' ∧ Φ q b := by
  rcases m with _ | ⟨q, b⟩
  · exact absurd rfl hne
  · obtain ⟨st', e, g⟩ := t
    exact ⟨q, b, st', e, g, hΦ q b rfl⟩

theorem agreesPB_iff (r : Res (Int × Bool)) (m : Option (Nat × Bool)) (st : St) :
    AgreesPB r m st ↔ Tied r m (fun c a s => a = ((c.1 : Int), c.2) ∧ Grows st s) := by
  rcases m with _ | ⟨q, b⟩
  · rw [tied_none]; rfl
  · rw [tied_some]
    exact ⟨fun ⟨st', h, g⟩ => ⟨_, _, h, rfl, g⟩, fun ⟨a, s, h, e, g⟩ => ⟨s, by rw [h, e], g⟩⟩

theorem strLen_ints (l : List Nat) : Go.strLen (ints l) = (l.length : Int) := by simp [Go.strLen]

/-- the rest of the file, read in a state that grew -/
theorem view_rest_grows {st st' : St} {F : FactsProg.File} {f : Text.File} (rel : FileRel st F f) (g : Grows st st') (c : Nat) :
    view st' (F.data.from c) = ints (f.data.drop c) := (fileRel_grows rel g).view_rest c

theorem tie_MatchString (st : St) (F : FactsProg.File) (f : Text.File) (rel : FileRel st F f)
    (p : Nat) (str : Text.Bytes) (h1 : f.offset ≤ p) :
    AgreesPB (Reader_MatchString ⟨F⟩ p (ints str) st) (Text.matchString f p str) st := by
  have hoff := rel.off
  generalize hm : Text.matchString f p str = m
  rw [Text.matchString] at hm
  rw [agreesPB_iff, Tied, Reader_MatchString]
  simp only [go_sat, File_Pos, rel.cur h1, len_data rel, strLen_ints, rel.sat_rest, ints_eq_nil, gt_iff_lt] at hm ⊢
  by_cases c0 : str = []
  · simp only [if_pos c0] at hm ⊢; exact hm.symm
  · simp only [if_neg c0, if_neg (Nat.not_lt.mpr h1)] at hm ⊢
    by_cases c1 : f.data.length < str.length + (p - f.offset)
    · simp (disch := omega) only [go_decided] at hm ⊢
      exact ⟨_, hm.symm, rfl, Grows.refl st⟩
    · simp (disch := omega) only [go_decided] at hm ⊢
      -- `[]byte(str)` is a fresh array; the rest of the file reads the same beside it
      refine (sat_bytesOf st _).mono ?_ False.elim
      rintro s2 st2 ⟨g2, v2, -, -⟩
      rw [sat_hasPrefix, view_rest_grows rel g2, v2, isPrefixOf_ints]
      cases c2 : str.isPrefixOf (f.data.drop (p - f.offset))
      · simp only [c2, go_sat] at hm ⊢
        exact ⟨_, hm.symm, rfl, g2⟩
      · simp only [c2, go_sat] at hm ⊢
        exact ⟨_, hm.symm, congrArg (·, true) (by simp only [Text.File.pos]; omega), g2⟩

/-- the byte comparison loop of MatchWord, from index `k` on, in a state `st` where `rng` shows the word: the model's
    `matchWordLoop` — a panic, a mismatch (the function's answer `(pos, false)`), or the end of the word -/
theorem matchWord_loop_tie (st : St) (F : FactsProg.File) (f : Text.File) (rel : FileRel st F f) (p cur : Nat) (rng : Sl)
    (word : Text.Bytes) (hv : view st rng = ints word) (hl : rng.len = word.length)
    (hpc : (p : Int) - F.offset = (cur : Int)) (fuel k : Nat) (hf : word.length - k < fuel) :
    Tied (Reader_MatchWord_loop1 ⟨F⟩ p rng fuel k st) (Text.matchWordLoop f.data cur (word.drop k) k)
      (fun b a s => s = st ∧ a.1 = if b then none else some ((p : Int), false)) := by
  refine sat_loop (fun fuel (k : Nat) => Reader_MatchWord_loop1 ⟨F⟩ p rng fuel k) (fun k => word.length - k)
    (fun _ s => s = st) (fun k a s => ∃ c, Text.matchWordLoop f.data cur (word.drop k) k = some c ∧ s = st ∧
      a.1 = if c then none else some ((p : Int), false))
    (fun k => Text.matchWordLoop f.data cur (word.drop k) k = none) ?_ fuel k st rfl hf
  intro fuel k s hs ih
  subst s
  rw [Reader_MatchWord_loop1]
  simp only [go_sat, Go.len, hl, sat_idx hv (by rw [hl, ints_length]), ints_length, hpc, ← Int.natCast_add, rel.sat_read,
    ← Int.natCast_add_one]
  by_cases c : k < word.length
  · rw [Data.drop_eq_getD_cons word k 0 c, Text.matchWordLoop]
    rw [ints_getD]
    by_cases c1 : word.getD k 0 ≥ 128
    · simp (disch := omega) only [go_decided]
    · by_cases c2 : cur + k < f.data.length
      · simp only [getElem?_getD _ _ 0 c2]
        by_cases c3 : word.getD k 0 = f.data.getD (cur + k) 0
        · simp (disch := omega) only [go_decided]
          exact ih (k + 1) st rfl (by omega)
        · simp (disch := omega) only [go_decided]
          exact ⟨false, rfl, trivial, rfl⟩
      · have : f.data[cur + k]? = none := List.getElem?_eq_none (by omega)
        simp (disch := omega) only [go_decided, this]
  · rw [List.drop_of_length_le (Nat.le_of_not_lt c)]
    simp (disch := omega) only [go_decided]
    exact ⟨true, rfl, trivial, rfl⟩

theorem tie_MatchWord (st : St) (F : FactsProg.File) (f : Text.File) (rel : FileRel st F f)
    (p : Nat) (word : Text.Bytes) (h1 : f.offset ≤ p) :
    AgreesPB (Reader_MatchWord ⟨F⟩ p (ints word) st) (Text.matchWord f p word) st := by
  have hoff := rel.off
  generalize hm : Text.matchWord f p word = m
  rw [Text.matchWord] at hm
  rw [agreesPB_iff, Tied, Reader_MatchWord]
  simp only [go_sat, File_Pos, rel.cur h1, len_data rel, strLen_ints, ints_eq_nil, gt_iff_lt] at hm ⊢
  by_cases c0 : word = []
  · simp only [if_pos c0] at hm ⊢; exact hm.symm
  · simp only [if_neg c0, if_neg (Nat.not_lt.mpr h1)] at hm ⊢
    by_cases c1 : f.data.length < word.length + (p - f.offset)
    · simp (disch := omega) only [go_decided] at hm ⊢
      exact ⟨_, hm.symm, rfl, Grows.refl st⟩
    · simp (disch := omega) only [go_decided] at hm ⊢
      -- `[]byte(word)` is a fresh array; beside it the file still shows the model's file
      refine (sat_bytesOf st _).mono ?_ False.elim
      rintro rng st2 ⟨g2, v2, l2, -⟩
      rw [ints_length] at l2
      have rel2 := fileRel_grows rel g2
      generalize hfu : (Int.toNat _ + 1 : Nat) = fuel
      have hfuel : word.length - 0 < fuel := by rw [Go.len, l2, Int.toNat_natCast] at hfu; omega
      have hloop := matchWord_loop_tie st2 F f rel2 p (p - f.offset) rng word v2 l2 (rel.cur h1) fuel 0 hfuel
      rw [List.drop_zero, Int.natCast_zero] at hloop
      refine hloop.mono ?_ (fun hn => by rw [hn] at hm; exact hm.symm)
      rintro ⟨t7, k'⟩ s ⟨c, hc, hs, ht⟩
      subst s
      rw [hc] at hm
      dsimp only at ht ⊢
      rw [ht]
      cases c
      · -- a byte differs
        simp only [go_sat] at hm ⊢
        exact ⟨_, hm.symm, rfl, g2⟩
      · -- the word is there: it must end the file or be followed by a byte that is not a word character
        simp only [go_sat, ← Int.natCast_add, rel2.sat_read, sat_isWordCharacter] at hm ⊢
        by_cases c2 : f.data.length - (p - f.offset) - word.length = 0
        · simp (disch := omega) only [go_decided] at hm ⊢
          exact ⟨_, hm.symm, congrArg (·, true) (by simp only [Text.File.pos]; omega), g2⟩
        · have hin : p - f.offset + word.length < f.data.length := by omega
          simp (disch := omega) only [go_decided, getElem?_getD _ _ 0 hin] at hm ⊢
          cases hw : Text.isWordByte (f.data.getD (p - f.offset + word.length) 0)
          · simp only [hw, go_sat] at hm ⊢
            exact ⟨_, hm.symm, congrArg (·, true) (by simp only [Text.File.pos]; omega), g2⟩
          · simp only [hw, go_sat] at hm ⊢
            exact ⟨_, hm.symm, rfl, g2⟩

/-- a translated `[]byte` result against the model's `Option Bytes` (`none` = nil) -/
def ValRel (st : St) (v : Sl) : Option Text.Bytes → Prop
  | none => v.isNil = true ∧ v.len = 0
  | some bs => v.isNil = false ∧ view st v = ints bs ∧ v.len = bs.length

theorem ValRel.grows {st st' : St} {v : Sl} {val : Option Text.Bytes} (h : ValRel st v val) (g : Grows st st') :
    ValRel st' v val := by
  cases val with
  | none => exact h
  | some bs =>
    obtain ⟨a, b, c⟩ := h
    exact ⟨a, by rw [view_grows g v (by rw [b]; simp [c]), b], c⟩

/-- a nil slice stands for "no value" -/
theorem ValRel.eq_none {st : St} {v : Sl} {val : Option Text.Bytes} (h : ValRel st v val) (hn : v.isNil = true) : val = none := by
  cases val with
  | none => rfl
  | some bs => rw [h.1] at hn; cases hn

def AgreesPS (r : Res (Int × Sl)) (m : Option (Nat × Option Text.Bytes)) (st : St) : Prop :=
  match m with
  | none => r = .panic
  | some (q, val) => ∃ v st', r = .ok ((q : Int), v) st' ∧ Grows st st' ∧ ValRel st' v val

/-- the world's regexp engine, on the expression `expr`, finds what the model's engine parameter finds: the end of the
    match (`FindIndex(...)[1]`) -/
def EngineRel (X : Ext) (expr : Str) (engine : Text.Bytes → Option Nat) : Prop :=
  ∀ bs, (X.findIndex expr (ints bs)).map (fun lh => lh.2) = (engine bs).map Int.ofNat

theorem SlWF.nonnil {s : Sl} (wf : SlWF s) (h : 0 < s.len) : s.isNil = false := by
  cases hn : s.isNil with
  | false => rfl
  | true => have := wf.nil hn; omega

/-- `FindIndex`: nil and nothing allocated, or a fresh two-element slice `[lo, hi]` -/
theorem sat_findIndex (X : Ext) (expr : Str) (b : Sl) (st : St) :
    (Go.findIndex X expr b st).Sat (fun ix st' =>
      match X.findIndex expr (view st b) with
      | none => ix = Go.nilSl ∧ st' = st
      | some (lo, hi) => ix.isNil = false ∧ Grows st st' ∧ view st' ix = [lo, hi] ∧ ix.len = 2) False := by
  unfold Go.findIndex
  rcases X.findIndex expr (view st b) with _ | ⟨lo, hi⟩
  · exact ⟨rfl, rfl⟩
  · exact ⟨rfl, Grows.push st _, by simp [view, cells, List.getD_eq_getElem?_getD], rfl⟩

theorem AgreesPS.elim {r : Res (Int × Sl)} {m : Option (Nat × Option Text.Bytes)} {st : St}
    {Φ : Nat → Option Text.Bytes → Prop} (t : AgreesPS r m st) (hne : m ≠ none) (hΦ : ∀ q v, m = some (q, v) → Φ q v) :
    ∃ (q : Nat) (val : Option Text.Bytes) (v : Sl) (st' : St),
      r = .ok ((q : Int), v) st' ∧ Grows st st' ∧ ValRel st' v val ∧ Φ q val := by
  rcases m with _ | ⟨q, val⟩
  · exact absurd rfl hne
  · obtain ⟨v, st', e, g, vr⟩ := t
    exact ⟨q, val, v, st', e, g, vr, hΦ q val rfl⟩

theorem agreesPS_iff (r : Res (Int × Sl)) (m : Option (Nat × Option Text.Bytes)) (st : St) :
    AgreesPS r m st ↔ Tied r m (fun c a s => a.1 = (c.1 : Int) ∧ Grows st s ∧ ValRel s a.2 c.2) := by
  rcases m with _ | ⟨q, val⟩
  · rw [tied_none]; rfl
  · rw [tied_some]
    exact ⟨fun ⟨v, st', h, g, vr⟩ => ⟨_, _, h, rfl, g, vr⟩,
      fun ⟨⟨q', v⟩, s, h, e, g, vr⟩ => ⟨v, s, by rw [h]; exact congrArg (fun x => Res.ok (x, v) s) e, g, vr⟩⟩

theorem tie_ReadRegexp (X : Ext) (expr : Str) (engine : Text.Bytes → Option Nat) (hX : EngineRel X expr engine)
    (hc : ∀ r m, engine r = some m → m ≤ r.length)
    (st : St) (F : FactsProg.File) (f : Text.File) (rel : FileRel st F f) (wf : SlWF F.data)
    (p : Nat) (h1 : f.offset ≤ p) :
    AgreesPS (Reader_ReadRegexp X ⟨F⟩ p expr st) (Text.readRegexp engine f p) st := by
  have hoff := rel.off
  generalize hm : Text.readRegexp engine f p = m
  rw [Text.readRegexp, if_neg (Nat.not_lt.mpr h1)] at hm
  rw [agreesPS_iff, Tied, Reader_ReadRegexp]
  simp only [go_sat, File_Pos, rel.cur h1, rel.len, rel.sat_rest, ge_iff_le, Int.ofNat_le, Text.File.len] at hm ⊢
  by_cases c1 : f.data.length ≤ p - f.offset
  · simp (disch := omega) only [go_decided] at hm ⊢
    exact ⟨_, hm.symm, rfl, Grows.refl st, rfl, rfl⟩
  · have hc1 := Nat.lt_of_not_le c1
    simp (disch := omega) only [go_decided] at hm ⊢
    -- the engine on the rest of the file: the world's answer is the model's
    refine (sat_findIndex X expr _ st).mono ?_ False.elim
    intro ix st2
    rw [rel.view_rest]
    have hx := hX (f.data.drop (p - f.offset))
    cases he : engine (f.data.drop (p - f.offset)) with
    | none =>
      rw [he] at hx hm
      cases hxx : X.findIndex expr (ints (f.data.drop (p - f.offset))) with
      | some lh => rw [hxx] at hx; cases hx
      | none =>
        rintro ⟨rfl, rfl⟩
        simp only [show Go.nilSl.isNil = true from rfl, go_sat] at hm ⊢
        exact ⟨_, hm.symm, rfl, Grows.refl _, rfl, rfl⟩
    | some mm =>
      rw [he] at hx hm
      have hmm := hc _ mm he
      rw [List.length_drop] at hmm
      cases hxx : X.findIndex expr (ints (f.data.drop (p - f.offset))) with
      | none => rw [hxx] at hx; cases hx
      | some lh =>
        obtain ⟨lo, hi⟩ := lh
        rw [hxx] at hx
        simp only [Option.map_some, Option.some.injEq, Int.ofNat_eq_natCast] at hx
        subst hx
        rintro ⟨hn, g2, v2, l2⟩
        -- `indices[1]` is the length of the match; `data[cur : cur+m]` lies inside the file
        have hidx : Go.idx ix 1 st2 = .ok (mm : Int) st2 := idx_view st2 ix _ v2 (by rw [l2]; rfl) 1 (by omega) (by simp)
        have hcap := wf.cap
        have hd := rel.dlen
        simp only [hn, go_sat, sat_of_eq hidx, ← Int.natCast_add, sat_slice] at hm ⊢
        simp (disch := omega) only [go_decided] at hm ⊢
        refine ⟨_, hm.symm, by simp only [Text.File.pos]; omega, g2, ?_, ?_, ?_⟩
        · exact wf.nonnil (by omega)
        · rw [view_fromTo _ _ _ _ (by omega), view_grows g2 F.data (by rw [rel.data]; simp [rel.dlen]), rel.data, ← ints,
            ← ints_drop, ← ints_take]
          congr 2; omega
        · simp only [Sl.fromTo, List.length_take, List.length_drop]; omega

/-- the translated custom reader function `f'` computes the model's `fn`: on a non-nil, well-formed slice that shows
    the non-empty bytes `bs` it returns (without a panic, writing to nothing that existed) a slice for `fn bs`'s value
    and `fn bs`'s length -/
def FnRel (f' : Sl → M (Sl × Int)) (fn : Text.Bytes → Option Text.Bytes × Nat) : Prop :=
  ∀ (st : St) (s : Sl) (bs : Text.Bytes), view st s = ints bs → s.len = bs.length → bs ≠ [] → s.isNil = false →
    s.len ≤ s.cap →
    ∃ v st', f' s st = .ok (v, ((fn bs).2 : Int)) st' ∧ Grows st st' ∧ ValRel st' v (fn bs).1

theorem FnRel.sat {f' : Sl → M (Sl × Int)} {fn : Text.Bytes → Option Text.Bytes × Nat} (hf : FnRel f' fn)
    {st : St} {s : Sl} {bs : Text.Bytes} (hv : view st s = ints bs) (hl : s.len = bs.length) (hne : bs ≠ [])
    (hnil : s.isNil = false) (hcap : s.len ≤ s.cap) :
    (f' s st).Sat (fun a st' => a.2 = ((fn bs).2 : Int) ∧ Grows st st' ∧ ValRel st' a.1 (fn bs).1) False := by
  obtain ⟨v, st', e, g, vr⟩ := hf st s bs hv hl hne hnil hcap
  rw [e]
  exact ⟨rfl, g, vr⟩

theorem tie_Readf (f' : Sl → M (Sl × Int)) (fn : Text.Bytes → Option Text.Bytes × Nat) (hf : FnRel f' fn)
    (st : St) (F : FactsProg.File) (f : Text.File) (rel : FileRel st F f) (wf : SlWF F.data)
    (p : Nat) (h1 : f.offset ≤ p) :
    AgreesPS (Reader_Readf ⟨F⟩ p f' st) (Text.readf fn f p) st := by
  have hoff := rel.off
  have hfl : f.len = f.data.length := rfl
  generalize hm : Text.readf fn f p = m
  rw [Text.readf, if_neg (Nat.not_lt.mpr h1)] at hm
  rw [agreesPS_iff, Tied, Reader_Readf]
  simp only [go_sat, File_Pos, rel.cur h1, rel.len, rel.sat_rest]
  by_cases c1 : f.data.length ≤ p - f.offset
  · simp (disch := omega) only [go_decided] at hm ⊢
    exact ⟨_, hm.symm, rfl, Grows.refl st, rfl, rfl⟩
  · have hc1 := Nat.lt_of_not_le c1
    have hd := rel.dlen
    simp (disch := omega) only [go_decided] at hm ⊢
    -- the call of the function argument, on the rest of the file
    refine (hf.sat (rel.view_rest _) (by simp only [Sl.from, hd, List.length_drop]) ?_ ?_ ?_).mono ?_ False.elim
    · exact fun e => by have := congrArg List.length e; rw [List.length_drop] at this; simp at this; omega
    · exact wf.nonnil (by omega)
    · have := wf.cap; simp only [Sl.from]; omega
    intro a st2 ⟨hn, g2, vr⟩
    rw [hn]
    generalize (fn (f.data.drop (p - f.offset))).2 = n at hm ⊢
    generalize (fn (f.data.drop (p - f.offset))).1 = val at vr hm ⊢
    generalize a.1 = v at vr ⊢
    have hvl : Go.len v = ((val.getD []).length : Int) := by
      cases val with
      | none => simp [Go.len, vr.2]
      | some bs => simp [Go.len, vr.2.2]
    simp only [hvl]
    -- what is left is the model's decision tree on the function's answer
    by_cases c2 : n = 0
    · cases val with
      | none =>
        simp (disch := omega) only [go_decided, vr.1, Option.isSome_none, go_sat] at hm ⊢
        exact ⟨_, hm.symm, rfl, g2, rfl, rfl⟩
      | some bs =>
        simp (disch := omega) only [go_decided, vr.1, Option.isSome_some, go_sat] at hm ⊢
        exact hm.symm
    · by_cases c3 : n < (val.getD []).length ∨ f.data.length < p - f.offset + n
      · simp (disch := omega) only [go_decided] at hm ⊢
        exact hm.symm
      · simp (disch := omega) only [go_decided] at hm ⊢
        exact ⟨_, hm.symm, by simp only [Text.File.pos]; omega, g2, vr⟩

end PV.TxtTie
