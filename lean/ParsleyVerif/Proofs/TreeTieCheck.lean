/-
  parsley.StaticCheck / (*NonTerminalNode).StaticCheck, translated, against the model's `check`.
-/
import ParsleyVerif.Proofs.TreeTieAbs
namespace PV.TreeTie
open PV.CorePrelude hiding Node World
open PV.TreePrelude PV.FactsTree
open PV.Walk (T ICap Checker check checkList)

/-- is the interpreter value a parsley.StaticChecker (the library's types: by their method sets; a user-defined type:
    the world says) -/
def isChecker (W : TW) : TInterp → Bool
  | .nil => false
  | .select _ => true
  | .fn _ => false
  | .custom id => W.implements id (Go.str "parsley.StaticChecker")

theorem isChecker_eq (W : TW) (i : TInterp) :
    isChecker W i = passes W.implements [IKind.select] (Go.str "parsley.StaticChecker") i := by
  cases i <;> rfl

/-- what a checker answers, as the pair `i.StaticCheck` returns -/
def encChk : Except Nat (Option Nat) → TValue × TErr
  | .ok sch => (encS sch, PV.CorePrelude.Err.nil)
  | .error e => (PV.TreePrelude.Value.nil, encErr e)

inductive SubSk : Sk → Sk → Prop
  | refl (sk : Sk) : SubSk sk sk
  | nt {x : Sk} {a : Ptr} {kids : List Sk} {k : Sk} : k ∈ kids → SubSk x k → SubSk x (.nt a kids)
  | list {x : Sk} {items : List Sk} {k : Sk} : k ∈ items → SubSk x k → SubSk x (.list items)

theorem SubSk.trans {x y z : Sk} (h1 : SubSk x y) (h2 : SubSk y z) : SubSk x z := by
  induction h2 with
  | refl => exact h1
  | nt hm _ ih => exact .nt hm ih
  | list hm _ ih => exact .list hm ih

/-- the hypotheses of the StaticCheck tie: how the model's parameters (`caps`, `chk`) are the world's.
    * user-defined checkers do not write the store;
    * an interpreter value has a number iff it is not nil; the model's `checker` capability is the dynamic type test;
    * a user-defined checker answers what the model's `chk` answers on the tree the heap shows below the node, and
      leaves the store alone (the model's checkers are functions of the tree);
    * `chk` on the numbers of the library's own checker (interpreter.Select) is that checker, on the nodes of the tree
      under consideration (`root`), in the states that differ from the initial heap `h0` in schemas only. -/
structure CheckWorld (W : TW) (E : Enc) (uctx : TValue) (caps : Nat → ICap) (chk : Checker) (h0 : Heap) (root : Sk) : Prop where
  readOnly : ∀ id u n, ReadOnly (W.StaticCheck id u n)
  nilCode : ∀ i, E.icode i = none ↔ i = PV.TreePrelude.Interp.nil
  caps : ∀ i k, E.icode i = some k → (caps k).checker = isChecker W i
  custom : ∀ (id : Nat) (k : Nat) (a : Ptr) (kids : List Sk) (s : TSt) (c : TCell),
    E.icode (.custom id) = some k → W.implements id (Go.str "parsley.StaticChecker") = true →
    s.heap a = some c → c.interpreter = .custom id → Shaped s.heap (.nt a kids) →
    W.StaticCheck id uctx (.ref a) s = .ok (encChk (chk k (absT E s.heap (.nt a kids)))) s
  select : ∀ (sel : selectInterpreter) (k : Nat) (a : Ptr) (kids : List Sk) (s : TSt) (c : TCell),
    E.icode (.select sel) = some k → SubSk (.nt a kids) root → SameShape h0 s.heap →
    s.heap a = some c → c.interpreter = .select sel → Shaped s.heap (.nt a kids) →
    selectInterpreter_StaticCheck W sel uctx (.ref a) s = .ok (encChk (chk k (absT E s.heap (.nt a kids)))) s

theorem CheckWorld.sub {W : TW} {E : Enc} {uctx : TValue} {caps : Nat → ICap} {chk : Checker} {h0 : Heap} {root sk : Sk}
    (cw : CheckWorld W E uctx caps chk h0 root) (h : SubSk sk root) : CheckWorld W E uctx caps chk h0 sk :=
  ⟨cw.readOnly, cw.nilCode, cw.caps, cw.custom, fun sel k a kids s c h1 h2 => cw.select sel k a kids s c h1 (h2.trans h)⟩

/-- the call-back parsley.StaticCheck hands to Walk (`r`: the cell of the captured variable staticCheckErr) -/
def scStep (W : TW) (uctx : TValue) (r : Nat) (n : TN) : TM Bool :=
  match n with
  | .ref p => do
    let err ← NonTerminalNode_StaticCheck W p uctx
    if err.isNil then pure false else do
      Boxed.setErr r err
      pure true
  | _ => pure false

/-- (*NonTerminalNode).StaticCheck, translated, in one equation -/
theorem ntStaticCheck_eq (W : TW) (a : Ptr) (uctx : TValue) (s : TSt) (c : TCell) (hc : s.heap a = some c) :
    NonTerminalNode_StaticCheck W a uctx s =
      if isChecker W c.interpreter then
        ((match c.interpreter with
          | .select sel => selectInterpreter_StaticCheck W sel uctx (.ref a)
          | .custom id => W.StaticCheck id uctx (.ref a)
          | _ => TreePrelude.Go.noMethod) >>= fun (r : TValue × TErr) =>
            if r.2.isNil then (do let t ← TreePrelude.Go.load a; TreePrelude.Go.store a { t with schema := r.1 }; pure PV.CorePrelude.Err.nil)
            else (pure r.2 : TM TErr)) s
      else .ok PV.CorePrelude.Err.nil s := by
  rw [isChecker_eq]
  cases hp : passes W.implements [IKind.select] (Go.str "parsley.StaticChecker") c.interpreter with
  | false =>
    simp only [NonTerminalNode_StaticCheck, GoM.bind_apply, GoM.ite_apply, pure_apply, load_some hc, asIface_eq, hp,
      Bool.false_eq_true, ↓reduceIte, ite_self]
  | true =>
    simp only [NonTerminalNode_StaticCheck, GoM.bind_apply, GoM.ite_apply, pure_apply, load_some hc, asIface_eq, hp,
      passes_not_nil hp, Bool.not_false, ↓reduceIte]
    -- both sides make the same call; they differ in how the test `err != nil` is written
    cases hi : c.interpreter with
    | nil => rw [hi] at hp; cases hp
    | fn f => rw [hi] at hp; cases hp
    | select sel =>
      dsimp only
      rcases selectInterpreter_StaticCheck W sel uctx (.ref a) s with ⟨⟨v, _ | _⟩, s'⟩ | _ | _ <;> rfl
    | custom id =>
      dsimp only
      rcases W.StaticCheck id uctx (.ref a) s with ⟨⟨v, _ | _⟩, s'⟩ | _ | _ <;> rfl

/-- what a run of the check over (part of) a tree leaves behind: only schemas below the given addresses changed, the
    first error — if any — is in the cell `r` -/
structure CheckPost (r : Nat) (addrs : List Ptr) (s s' : TSt) (e : Option Nat) : Prop where
  shape : SameShape s.heap s'.heap
  frame : ∀ b, b ∉ addrs → s'.heap b = s.heap b
  vars : s'.vars = match e with
    | some e => s.vars.set r (.err (encErr e))
    | none => s.vars
  uctx : s'.userCtx = s.userCtx
  ext : s'.ext = s.ext

theorem CheckPost.kids {r : Nat} {l : List Ptr} {s s' : TSt} {e : Option Nat} (p : CheckPost r l s s' e) :
    SameKids s.heap s'.heap := p.shape.kids

theorem CheckPost.len {r : Nat} {l : List Ptr} {s s' : TSt} {e : Option Nat} (p : CheckPost r l s s' e) :
    s'.vars.length = s.vars.length := by
  rw [p.vars]; cases e <;> simp

theorem CheckPost.agree {r : Nat} {l l' : List Ptr} {s s' : TSt} {e : Option Nat} (p : CheckPost r l s s' e)
    (hd : ∀ a ∈ l', a ∉ l) : Agree s.heap s'.heap l' := fun a ha => p.frame a (hd a ha)

theorem CheckPost.refl (r : Nat) (l : List Ptr) (s : TSt) : CheckPost r l s s none :=
  ⟨SameShape.refl _, fun _ _ => rfl, rfl, rfl, rfl⟩

theorem CheckPost.mono {r : Nat} {l l' : List Ptr} {s s' : TSt} {e : Option Nat} (p : CheckPost r l s s' e)
    (h : ∀ b, b ∈ l → b ∈ l') : CheckPost r l' s s' e :=
  ⟨p.shape, fun b hb => p.frame b (fun hm => hb (h b hm)), p.vars, p.uctx, p.ext⟩

theorem CheckPost.trans {r : Nat} {l₁ l₂ : List Ptr} {s s₁ s₂ : TSt} {e : Option Nat} (p : CheckPost r l₁ s s₁ none)
    (q : CheckPost r l₂ s₁ s₂ e) : CheckPost r (l₁ ++ l₂) s s₂ e :=
  ⟨p.shape.trans q.shape,
   fun b hb => by rw [q.frame b (fun h => hb (List.mem_append_right _ h)), p.frame b (fun h => hb (List.mem_append_left _ h))],
   by rw [q.vars, show s₁.vars = s.vars from p.vars], q.uctx.trans p.uctx, q.ext.trans p.ext⟩

/-- a run that wrote only below `l` left the trees at other addresses as they were -/
theorem CheckPost.absL_eq (E : Enc) {r : Nat} {l : List Ptr} {s s' : TSt} {e : Option Nat} (p : CheckPost r l s s' e)
    {rest : List Sk} (hd : ∀ a ∈ addrsL rest, a ∉ l) : absL E s'.heap rest = absL E s.heap rest :=
  absL_agree E rest (p.agree hd)

theorem CheckPost.absT_eq (E : Enc) {r : Nat} {l : List Ptr} {s s' : TSt} {e : Option Nat} (p : CheckPost r l s s' e)
    {k : Sk} (hd : ∀ a ∈ k.addrs, a ∉ l) : absT E s'.heap k = absT E s.heap k :=
  abs_agree E k (p.agree hd)

theorem scStep_leaf (W : TW) (uctx : TValue) (r : Nat) {n : TN} (h : LeafNode n) : scStep W uctx r n = pure false := by
  cases n <;> first | exact h.elim | rfl

theorem setErr_apply (r : Nat) (e : TErr) (s : TSt) (hr : r < s.vars.length) :
    (Boxed.setErr r e : TM Unit) s = .ok () { s with vars := s.vars.set r (.err e) } := by
  simp [Boxed.setErr, Boxed.set, hr]

theorem check_nt_err (caps : Nat → ICap) (chk : Checker) (i : Nat) (ip sc : Option Nat) (cs : List T) (e : Nat)
    (h : (checkList caps chk cs).2 = some e) :
    check caps chk (.nt i ip sc cs) = (.nt i ip sc (checkList caps chk cs).1, some e) := by
  rcases hcl : checkList caps chk cs with ⟨cs', _ | e'⟩
  · rw [hcl] at h; cases h
  · rw [hcl] at h; cases h; simp [check, hcl]

theorem check_nt_plain (caps : Nat → ICap) (chk : Checker) (i : Nat) (ip sc : Option Nat) (cs : List T)
    (h : (checkList caps chk cs).2 = none) (hno : ∀ k, ip = some k → (caps k).checker = false) :
    check caps chk (.nt i ip sc cs) = (.nt i ip sc (checkList caps chk cs).1, none) := by
  rcases hcl : checkList caps chk cs with ⟨cs', _ | e'⟩
  · cases ip with
    | none => simp [check, hcl]
    | some k => simp [check, hcl, hno k rfl]
  · rw [hcl] at h; cases h

theorem check_nt_checker (caps : Nat → ICap) (chk : Checker) (i : Nat) (k : Nat) (sc : Option Nat) (cs : List T)
    (h : (checkList caps chk cs).2 = none) (hyes : (caps k).checker = true) :
    check caps chk (.nt i (some k) sc cs) =
      match chk k (.nt i (some k) sc (checkList caps chk cs).1) with
      | .ok s => (.nt i (some k) s (checkList caps chk cs).1, none)
      | .error e => (.nt i (some k) sc (checkList caps chk cs).1, some e) := by
  rcases hcl : checkList caps chk cs with ⟨cs', _ | e'⟩
  · cases h2 : chk k (T.nt i (some k) sc cs') <;> simp [check, hcl, hyes, h2]
  · rw [hcl] at h; cases h

theorem checkList_cons_err (caps : Nat → ICap) (chk : Checker) (c : T) (rest : List T) (e : Nat)
    (h : (check caps chk c).2 = some e) :
    checkList caps chk (c :: rest) = ((check caps chk c).1 :: rest, some e) := by
  rcases hc : check caps chk c with ⟨c', _ | e'⟩
  · rw [hc] at h; cases h
  · rw [hc] at h; cases h; simp [checkList, hc]

theorem checkList_cons_ok (caps : Nat → ICap) (chk : Checker) (c : T) (rest : List T)
    (h : (check caps chk c).2 = none) :
    checkList caps chk (c :: rest) = ((check caps chk c).1 :: (checkList caps chk rest).1, (checkList caps chk rest).2) := by
  rcases hc : check caps chk c with ⟨c', _ | e'⟩
  · simp [checkList, hc]
  · rw [hc] at h; cases h

/-- the claim of the StaticCheck induction at a tree: from a state that differs from `h0` in schemas only, the visit of the
    post-order answers whether the model's `check` finds an error, the heap then shows the model's tree, and `CheckPost` -/
def Checks (W : TW) (E : Enc) (uctx : TValue) (caps : Nat → ICap) (chk : Checker) (h0 : Heap) (r : Nat) (sk : Sk) : Prop :=
  ∀ s : TSt, CheckWorld W E uctx caps chk h0 sk → SameShape h0 s.heap → Shaped s.heap sk → sk.addrs.Nodup →
    r < s.vars.length →
    ∃ s', visit (scStep W uctx r) sk.post s = .ok (check caps chk (absT E s.heap sk)).2.isSome s' ∧
      absT E s'.heap sk = (check caps chk (absT E s.heap sk)).1 ∧
      CheckPost r sk.addrs s s' (check caps chk (absT E s.heap sk)).2

/-- … and at a sequence of children -/
def ChecksL (W : TW) (E : Enc) (uctx : TValue) (caps : Nat → ICap) (chk : Checker) (h0 : Heap) (r : Nat) (kids : List Sk) :
    Prop :=
  ∀ s : TSt, (∀ k ∈ kids, CheckWorld W E uctx caps chk h0 k) → SameShape h0 s.heap → ShapedL s.heap kids →
    (addrsL kids).Nodup → r < s.vars.length →
    ∃ s', visit (scStep W uctx r) (postL kids) s = .ok (checkList caps chk (absL E s.heap kids)).2.isSome s' ∧
      absL E s'.heap kids = (checkList caps chk (absL E s.heap kids)).1 ∧
      CheckPost r (addrsL kids) s s' (checkList caps chk (absL E s.heap kids)).2

/-- a node list: its first item is checked, the list itself is not StaticCheckable -/
theorem Checks.list {W : TW} {E : Enc} {uctx : TValue} {caps : Nat → ICap} {chk : Checker} {h0 : Heap} {r : Nat}
    {first : Sk} (rest : List Sk) (ih : Checks W E uctx caps chk h0 r first) :
    Checks W E uctx caps chk h0 r (.list (first :: rest)) := by
  intro s cw h0s hs hnd hr
  have hnd' := List.nodup_append.mp (by simpa only [Sk.addrs, addrsL] using hnd)
  obtain ⟨s', hv, ha, hp⟩ := ih s (cw.sub (.list (by simp) (.refl _))) h0s hs.2.1 hnd'.1 hr
  have hrest := hp.absL_eq E (rest := rest) fun b hb hb' => hnd'.2.2 b hb' b hb rfl
  refine ⟨s', ?_, ?_, ?_⟩
  · simp only [Sk.post, visit_append, GoM.bind_apply, hv, absT, absL, check]
    cases (check caps chk (absT E s.heap first)).2 <;> simp [visit, scStep]
  · simp only [absT, absL, check, ha, hrest]
  · simp only [absT, absL, check, Sk.addrs, addrsL]
    exact hp.mono (fun b hb => List.mem_append_left _ hb)

/-- a non-terminal: the children; then, unless one of them failed, the node's own checker, whose schema is stored -/
theorem Checks.nt {W : TW} {E : Enc} {uctx : TValue} {caps : Nat → ICap} {chk : Checker} {h0 : Heap} {r : Nat}
    (a : Ptr) {kids : List Sk} (ih : ChecksL W E uctx caps chk h0 r kids) : Checks W E uctx caps chk h0 r (.nt a kids) := by
  intro s cw h0s hs hnd hr
  obtain ⟨⟨c, hc, hch⟩, hl⟩ := hs
  have hndk : (addrsL kids).Nodup := by simp only [Sk.addrs] at hnd; exact (List.nodup_cons.mp hnd).2
  have hak : a ∉ addrsL kids := by simp only [Sk.addrs] at hnd; exact (List.nodup_cons.mp hnd).1
  obtain ⟨s1, hv, ha, hp⟩ := ih s (fun k hk => cw.sub (.nt hk (.refl _))) h0s hl hndk hr
  have h0s1 : SameShape h0 s1.heap := h0s.trans hp.shape
  have hc1 : s1.heap a = some c := by rw [hp.frame a hak]; exact hc
  have hr1 : r < s1.vars.length := by rw [hp.len]; exact hr
  have hs1 : Shaped s1.heap (.nt a kids) := ⟨⟨c, hc1, hch⟩, shapedL_sameKids hp.kids kids hl⟩
  have habs1 := absT_nt E hc1 kids
  rw [ha] at habs1
  rw [absT_nt E hc kids]
  simp only [Sk.post, visit_append, GoM.bind_apply, hv]
  cases he : (checkList caps chk (absL E s.heap kids)).2 with
  | some e =>
    rw [he] at hp
    rw [check_nt_err caps chk _ _ _ _ e he]
    exact ⟨s1, rfl, habs1, hp.mono (fun b hb => List.mem_cons_of_mem _ hb)⟩
  | none =>
    rw [he] at hp
    have hvars1 : s1.vars = s.vars := hp.vars
    simp only [Option.isSome_none, Bool.false_eq_true, ↓reduceIte, visit_single, scStep, GoM.bind_apply,
      ntStaticCheck_eq W a uctx s1 c hc1]
    cases hchk : isChecker W c.interpreter with
    | false =>
      rw [check_nt_plain caps chk _ _ _ _ he (fun k hk => by rw [cw.caps _ k hk, hchk])]
      exact ⟨s1, rfl, habs1, hp.mono (fun b hb => List.mem_cons_of_mem _ hb)⟩
    | true =>
      obtain ⟨k, hk⟩ := Enc.code_of_passes cw.nilCode ((isChecker_eq W _).symm.trans hchk)
      have hcap : (caps k).checker = true := by rw [cw.caps _ k hk, hchk]
      -- the node's checker answers what the model's `chk` answers on the tree the heap shows now
      have hdisp : (match c.interpreter with
          | .select sel => selectInterpreter_StaticCheck W sel uctx (.ref a)
          | .custom id => W.StaticCheck id uctx (.ref a)
          | _ => TreePrelude.Go.noMethod) s1 =
          .ok (encChk (chk k (absT E s1.heap (.nt a kids)))) s1 := by
        cases hi : c.interpreter with
        | nil => rw [hi] at hchk; simp [isChecker] at hchk
        | fn f => rw [hi] at hchk; simp [isChecker] at hchk
        | select sel => exact cw.select sel k a kids s1 c (hi ▸ hk) (.refl _) h0s1 hc1 hi hs1
        | custom id =>
          rw [hi] at hchk
          exact cw.custom id k a kids s1 c (hi ▸ hk) (by simpa [isChecker] using hchk) hc1 hi hs1
      rw [habs1] at hdisp
      rw [hk] at hdisp habs1 ⊢
      rw [check_nt_checker caps chk _ k _ _ he hcap]
      simp only [↓reduceIte, hdisp]
      cases hres : chk k (.nt (E.key (.ref a)) (some k) (decS c.schema) (checkList caps chk (absL E s.heap kids)).1) with
      | error e =>
        refine ⟨{ s1 with vars := s1.vars.set r (.err (encErr e)) }, ?_, ?_, ?_⟩
        · simp [encChk, setErr_apply r (encErr e) s1 hr1]
        · exact habs1
        · exact ⟨hp.shape, (hp.mono (fun b hb => List.mem_cons_of_mem a hb)).frame, by simp [hvars1], hp.uctx, hp.ext⟩
      | ok sch =>
        have hkids2 : Agree s1.heap (hset s1.heap a { c with schema := encS sch }) (addrsL kids) := by
          intro b hb
          exact hset_other _ _ _ _ (fun e => hak (e ▸ hb))
        refine ⟨{ s1 with heap := hset s1.heap a { c with schema := encS sch } }, ?_, ?_, ?_⟩
        · simp [encChk, CorePrelude.Err.isNil, load_some hc1, store_some _ hc1]
        · simp only [absT, hset_same, absL_agree E kids hkids2, ha, hk, decS_encS]
        · refine ⟨hp.shape.trans (sameShape_hset _ _ _ _ hc1), ?_, hvars1, hp.uctx, hp.ext⟩
          intro b hb
          simp only [Sk.addrs, List.mem_cons, not_or] at hb
          show hset s1.heap a _ b = s.heap b
          rw [hset_other _ _ _ _ hb.1]
          exact hp.frame b hb.2

/-- children from left to right: the first error ends the visit; the addresses of the trees are distinct, so the check of
    one child leaves the trees of the others as they were -/
theorem ChecksL.cons {W : TW} {E : Enc} {uctx : TValue} {caps : Nat → ICap} {chk : Checker} {h0 : Heap} {r : Nat}
    {k : Sk} {rest : List Sk} (ih : Checks W E uctx caps chk h0 r k) (ihr : ChecksL W E uctx caps chk h0 r rest) :
    ChecksL W E uctx caps chk h0 r (k :: rest) := by
  intro s cw h0s hs hnd hr
  have hnd' := List.nodup_append.mp (by simpa only [addrsL] using hnd)
  obtain ⟨s1, hv, ha, hp⟩ := ih s (cw k (by simp)) h0s hs.1 hnd'.1 hr
  have hrest := hp.absL_eq E (rest := rest) fun b hb hb' => hnd'.2.2 b hb' b hb rfl
  simp only [postL, visit_append, GoM.bind_apply, hv, absL]
  cases he : (check caps chk (absT E s.heap k)).2 with
  | some e =>
    rw [he] at hp
    rw [checkList_cons_err caps chk _ _ e he]
    exact ⟨s1, rfl, by simp only [ha, hrest], hp.mono (fun b hb => List.mem_append_left _ hb)⟩
  | none =>
    rw [he] at hp
    obtain ⟨s2, hv2, ha2, hp2⟩ := ihr s1 (fun x hx => cw x (by simp [hx]))
      (h0s.trans hp.shape) (shapedL_sameKids hp.kids rest hs.2) hnd'.2.1 (by rw [hp.len]; exact hr)
    rw [hrest] at hv2 ha2 hp2
    have hk2 := hp2.absT_eq E (k := k) fun b hb hb' => hnd'.2.2 b hb b hb' rfl
    rw [checkList_cons_ok caps chk _ _ he]
    exact ⟨s2, by simp only [Option.isSome_none, Bool.false_eq_true, ↓reduceIte, hv2], by simp only [hk2, ha, ha2],
      hp.trans hp2⟩

theorem checks_all (W : TW) (E : Enc) (uctx : TValue) (caps : Nat → ICap) (chk : Checker) (h0 : Heap) (r : Nat) :
    (∀ sk, Checks W E uctx caps chk h0 r sk) ∧ (∀ kids, ChecksL W E uctx caps chk h0 r kids) := by
  refine Sk.rec₂ (fun n s _ _ hs _ _ => ?_) (fun a _ => Checks.nt a) (fun s _ _ hs _ _ => absurd rfl hs.1)
    (fun _ rest => Checks.list rest) (fun s _ _ _ _ _ => ?_) (fun _ _ => ChecksL.cons)
  · simp only [absT, check, Sk.post, visit_single, scStep_leaf W uctx r hs]
    exact ⟨s, rfl, trivial, CheckPost.refl ..⟩
  · exact ⟨s, by simp only [absL, checkList]; rfl, by simp only [absL, checkList],
      by simp only [absL, checkList]; exact CheckPost.refl ..⟩

theorem checkL_visit (W : TW) (E : Enc) (uctx : TValue) (caps : Nat → ICap) (chk : Checker) (h0 : Heap) (r : Nat) :
    ∀ (kids : List Sk) (s : TSt), (∀ k ∈ kids, CheckWorld W E uctx caps chk h0 k) → SameShape h0 s.heap → ShapedL s.heap kids →
      (addrsL kids).Nodup → r < s.vars.length →
      ∃ s', visit (scStep W uctx r) (postL kids) s = .ok (checkList caps chk (absL E s.heap kids)).2.isSome s' ∧
        absL E s'.heap kids = (checkList caps chk (absL E s.heap kids)).1 ∧
        CheckPost r (addrsL kids) s s' (checkList caps chk (absL E s.heap kids)).2 :=
  (checks_all W E uctx caps chk h0 r).2

theorem selectSC_readOnly (W : TW) (sel : selectInterpreter) (u : TValue) (n : TN) :
    ReadOnly (selectInterpreter_StaticCheck W sel u n) := by
  have load : ∀ p, ReadOnly (TreePrelude.Go.load p : TM TCell) := ReadOnly.load
  unfold selectInterpreter_StaticCheck
  refine ReadOnly.bind ?_ (fun nodes => ReadOnly.bind ?_ (fun _ => ReadOnly.bind (ReadOnly.nth _ _) (fun t1 =>
    ReadOnly.bind ?_ (fun _ => ReadOnly.pure _))))
  · cases n <;> first | exact ReadOnly.noMethod | exact ReadOnly.bind (load _) (fun _ => ReadOnly.pure _)
  · split
    · exact ReadOnly.panic
    · exact ReadOnly.pure _
  · cases t1 <;> first | exact ReadOnly.panic | exact ReadOnly.pure _ | exact ReadOnly.bind (load _) (fun _ => ReadOnly.pure _)

/-- `n.Schema()`: nil for ast.EmptyNode, parser.EndNode and ast.NodeList, the stored schema for the two struct types -/
def childSchema (h : Heap) : TN → Option TValue
  | .nil => none
  | .empty _ => some PV.TreePrelude.Value.nil
  | .eof _ => some PV.TreePrelude.Value.nil
  | .list _ => some PV.TreePrelude.Value.nil
  | .ref p => (h p).map (·.schema)
  | .term t => some t.schema

/-- **interpreter.Select's StaticCheck, translated**: the schema of child `i`, the documented panic when there is no such
    child; nothing is written -/
theorem tie_Select_StaticCheck (W : TW) (i : Int) (u : TValue) (a : Ptr) (s : TSt) (c : TCell) (hc : s.heap a = some c) :
    selectInterpreter_StaticCheck W ⟨i⟩ u (.ref a) s =
      match (if 0 ≤ i ∧ i < (c.children.length : Int) then (c.children[i.toNat]?).bind (childSchema s.heap) else none) with
      | some v => .ok (v, PV.CorePrelude.Err.nil) s
      | none => .panic := by
  by_cases h : 0 ≤ i ∧ i < (c.children.length : Int)
  · obtain ⟨k, rfl⟩ := Int.eq_ofNat_of_zero_le h.1
    have hk : k < c.children.length := by omega
    have h1 : ¬ ((k : Int) < 0) := by omega
    have h2 : ¬ ((c.children.length : Int) ≤ (k : Int)) := by omega
    simp only [selectInterpreter_StaticCheck, GoM.bind_apply, children_apply W hc, CorePrelude.Go.len, ge_iff_le, h1, h2,
      decide_false, Bool.or_self, Bool.false_eq_true, ↓reduceIte, pure_apply, nth_nat, if_pos h, Int.toNat_natCast,
      List.getElem?_eq_getElem hk, Option.bind_some]
    cases c.children[k] with
    | ref p =>
      cases hp : s.heap p <;>
        simp only [childSchema, NonTerminalNode_Schema, GoM.bind_apply, load_apply, hp, pure_apply, Option.map_some,
          Option.map_none]
    | _ => rfl
  · have h' : i < 0 ∨ (c.children.length : Int) ≤ i := by omega
    simp only [selectInterpreter_StaticCheck, GoM.bind_apply, children_apply W hc, CorePrelude.Go.len, ge_iff_le, if_neg h]
    rcases h' with h' | h' <;>
      simp only [h', decide_true, Bool.true_or, Bool.or_true, ↓reduceIte, panic_apply]

theorem ntSC_kidSafe (W : TW) (hro : ∀ id u n, ReadOnly (W.StaticCheck id u n)) (p : Ptr) (u : TValue) :
    KidSafe (NonTerminalNode_StaticCheck W p u) := by
  unfold NonTerminalNode_StaticCheck
  refine .bind (ReadOnly.load p).kidSafe fun t1 => .ite _ (.bind (ReadOnly.load p).kidSafe fun t2 => ?_) (ReadOnly.pure _).kidSafe
  -- the type test, the call of the checker (it does not write), then either the error or `n.schema = schema`
  refine .ite _ (.bind (ReadOnly.kidSafe ?_) fun r => .ite _ (ReadOnly.pure _).kidSafe ?_) (ReadOnly.pure _).kidSafe
  · split
    · exact selectSC_readOnly W _ u _
    · exact hro _ _ _
    · exact ReadOnly.noMethod
  · exact .storeSchema p r.1 (ReadOnly.pure _).kidSafe

theorem scStep_kidStable (W : TW) (hro : ∀ id u n, ReadOnly (W.StaticCheck id u n)) (u : TValue) (r : Nat) :
    KidStable (scStep W u r) := by
  intro n s b s' h
  cases n with
  | ref p =>
    simp only [scStep] at h
    obtain ⟨e, s1, hx, h⟩ := GoM.bind_eq_ok h
    have hk := (ntSC_kidSafe W hro p u s e s1 hx).1
    by_cases hn : e.isNil = true
    · simp [hn] at h; obtain ⟨_, rfl⟩ := h; exact hk
    · by_cases hr : r < s1.vars.length
      · simp [hn, setErr_apply r e s1 hr] at h; obtain ⟨_, rfl⟩ := h; exact hk
      · simp [hn, Boxed.setErr, Boxed.set, hr] at h
  | _ => simp [scStep] at h; obtain ⟨_, rfl⟩ := h; exact SameKids.refl _

theorem visit_congr {f g : TN → TM Bool} (h : ∀ n s, f n s = g n s) (l : List TN) (s : TSt) : visit f l s = visit g l s := by
  have : f = g := funext fun n => funext fun s => h n s
  rw [this]

theorem walk_visit_ext (W : TW) (f g : TN → TM Bool) (hfg : ∀ n s, f n s = g n s) (hg : KidStable g) (sk : Sk) (fuel : Nat)
    (s : TSt) (hs : Shaped s.heap sk) (hfu : sk.fuel ≤ fuel) : Walk W fuel sk.node f s = visit g sk.post s := by
  rw [funext fun n => funext fun s => hfg n s]
  exact walk_visit W g hg sk fuel s hs hfu

theorem kidStable_congr {f g : TN → TM Bool} (h : ∀ n s, f n s = g n s) (hg : KidStable g) : KidStable f := by
  have : f = g := funext fun n => funext fun s => h n s
  rw [this]; exact hg

/-- **parsley.StaticCheck, translated, is the model's `check`**: on every tree-shaped heap (distinct addresses), with
    every checker behaviour: the error returned, and the tree the heap shows afterwards (the schemas stored) -/
theorem tie_StaticCheck (W : TW) (E : Enc) (uctx : TValue) (caps : Nat → ICap) (chk : Checker) (sk : Sk) (fuel : Nat)
    (s : TSt) (cw : CheckWorld W E uctx caps chk s.heap sk) (hs : Shaped s.heap sk) (hnd : sk.addrs.Nodup)
    (hfu : sk.fuel ≤ fuel) :
    ∃ s', StaticCheck W fuel uctx sk.node s = .ok (encErrO (check caps chk (absT E s.heap sk)).2) s' ∧
      absT E s'.heap sk = (check caps chk (absT E s.heap sk)).1 ∧
      Shaped s'.heap sk ∧ (∀ b, b ∉ sk.addrs → s'.heap b = s.heap b) ∧
      s'.vars = s.vars ++ [.err (encErrO (check caps chk (absT E s.heap sk)).2)] ∧
      s'.userCtx = s.userCtx ∧ s'.ext = s.ext := by
  let s0 : TSt := { s with vars := s.vars ++ [.err PV.CorePrelude.Err.nil] }
  have hr : s.vars.length < s0.vars.length := by simp [s0]
  obtain ⟨s', hv, ha, hp⟩ := (checks_all W E uctx caps chk s.heap s.vars.length).1 sk s0 cw (SameShape.refl _) hs hnd hr
  refine ⟨s', ?_, ha, shaped_sameKids hp.kids sk hs, hp.frame, ?_, hp.uctx, hp.ext⟩
  · simp only [StaticCheck, GoM.bind_apply, Boxed.newErr, Boxed.new]
    rw [walk_visit_ext W _ (scStep W uctx s.vars.length) ?_ (scStep_kidStable W cw.readOnly uctx _) sk fuel s0 hs hfu, hv]
    · have hvars := hp.vars
      show Boxed.getErr s.vars.length s' = _
      simp only [GoM.bind_apply, Boxed.getErr, Boxed.get, hvars]
      cases (check caps chk (absT E s.heap sk)).2 <;>
        simp [s0, encErrO]
    · intro n st
      cases n with
      | ref p =>
        have hk : TreePrelude.Node.asKinds [Kind.ref] (.ref p) = (.ref p, true) := rfl
        cases hx : NonTerminalNode_StaticCheck W p uctx st with
        | ok e s1 => cases e <;> simp [scStep, hk, hx, CorePrelude.Err.isNil]
        | panic => simp [scStep, hk, hx]
        | nofuel => simp [scStep, hk, hx]
      | _ => rfl
  · rw [hp.vars]
    cases (check caps chk (absT E s.heap sk)).2 <;> simp [s0, encErrO]

end PV.TreeTie
