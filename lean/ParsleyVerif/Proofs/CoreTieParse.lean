/-
  parsley.Parse — translated vs. the model's `parse` (transformation and static check off: the
  model's `parse` is Parse without those two passes, which are C13's subject).
-/
import ParsleyVerif.Proofs.CoreTieData
namespace PV.CoreTie
open PV.FactsCore

/-- the `error` Parse returns: nil, or `fmt.Errorf("failed to parse the input: %w", fs.ErrorWithPosition(e))`, kept symbolic -/
def eParseErr : Option PV.Err → CCause
  | none => .nil
  | some e => CorePrelude.Go.errorf (CorePrelude.Go.str "failed to parse the input: %w") (.positioned e.pos (eKind e.kind))

theorem tie_Parse (W : World Context) (cfg : Cfg) (hw : WorldRel W cfg) (fuel : Nat) (p : Parser) (g : G)
    (hp : Agrees W cfg fuel p g) (s : Context) (st : St) (hs : StRel s st) :
    match parse cfg fuel g st with
    | none => Parse W p s = .nofuel
    | some po => ∃ s', Parse W p s = .ok (eRes po.res, eParseErr po.err) s' ∧ StRel s' po.st := by
  have h := hp _ _ (cfg.file.pos 0) s st CtxRel.nil hs
  have hrd : Context_Reader W s = .ok () s := rfl
  unfold parse
  dsimp only
  cases hr : run cfg fuel g [] (cfg.file.pos 0) st with
  | none =>
    rw [hr] at h
    simp only [Parse, bind_ok hrd, hw.pos0, bind_nofuel h]
  | some r =>
    obtain ⟨⟨res, cp, err⟩, st1⟩ := r
    rw [hr] at h
    obtain ⟨s1, e1, r1⟩ := h
    have hE := tie_Error W s1 st1 r1
    have hmsg : CorePrelude.NewErrorf ((cfg.file.pos 0 : Nat) : Int) (CorePrelude.Go.str "no match was found") =
        eErr (some ⟨cfg.file.pos 0, .other noMatchMsg⟩) := rfl
    have hT : Context_TransformationEnabled W s1 = .ok false s1 := by simp [Context_TransformationEnabled, r1.noTransform]
    have hS : Context_StaticCheckEnabled W s1 = .ok false s1 := by simp [Context_StaticCheckEnabled, r1.noStaticCheck]
    simp only [Parse, bind_ok hrd, hw.pos0, bind_ok e1, eOut]
    generalize herr1 : (if (res.isNil && err.isNone) = true then
        match st1.ctxErr with
        | some ce => some ce
        | none => some { pos := cfg.file.pos 0, kind := ErrKind.other noMatchMsg }
      else err) = err1
    rw [bind_ok (a := eErr err1) (s' := s1) ?step1]
    case step1 =>
      subst herr1
      cases hn : res.isNil <;> cases err <;> cases hce : st1.ctxErr <;> simp [hn, hE, hce, hmsg, Context_Reader]
    -- the error is rendered, or the node returned (transformation and static check are off)
    cases err1 with
    | none => exact ⟨s1, by simp [hT, hS, eParseErr], r1⟩
    | some e =>
      refine ⟨s1, ?_, r1⟩
      cases hk : e.kind.isWs
      · cases hce : st1.ctxErr with
        | none => simp [hk, hE, hce, eParseErr, CorePrelude.ErrorWithPosition]
        | some ce =>
          by_cases hgt : ce.pos > e.pos <;>
            simp [hk, hE, hce, hgt, eParseErr, CorePrelude.ErrorWithPosition]
      · simp [hk, eParseErr, CorePrelude.ErrorWithPosition]

/-- `tie_Parse` read from the translated side: the translated `Parse` does not panic, answers what the model answers, and
    every answer of it is (the image of) the model's answer -/
theorem Parse_inv {W : World Context} {cfg : Cfg} (hw : WorldRel W cfg) {fuel : Nat} {p : Parser} {g : G}
    (hp : Agrees W cfg fuel p g) {s : Context} {st : St} (hs : StRel s st) :
    Parse W p s ≠ .panic ∧
    (∀ po, parse cfg fuel g st = some po →
      ∃ s', Parse W p s = .ok (eRes po.res, eParseErr po.err) s' ∧ StRel s' po.st) ∧
    (∀ n e s', Parse W p s = .ok (n, e) s' →
      ∃ po, parse cfg fuel g st = some po ∧ n = eRes po.res ∧ e = eParseErr po.err ∧ StRel s' po.st) := by
  have h := tie_Parse W cfg hw fuel p g hp s st hs
  cases hq : parse cfg fuel g st with
  | none =>
    rw [hq] at h; simp only at h; rw [h]
    exact ⟨nofun, fun _ => nofun, fun _ _ _ => nofun⟩
  | some po =>
    rw [hq] at h; obtain ⟨s1, e1, r1⟩ := h; rw [e1]
    refine ⟨nofun, fun po' h => ?_, fun n e s' h => ?_⟩
    · cases h; exact ⟨s1, rfl, r1⟩
    · injection h with h1 h2; injection h1 with hn he; subst hn he h2; exact ⟨po, rfl, rfl, rfl, r1⟩

end PV.CoreTie
