/-
  THE TIE of the statement-level translator, data package: each hand-written model function of Model/Data.lean
  equals, as a function on heaps, the Lean definition that `factgen -out-prog` translates from the Go source on every
  run (Generated/FactsProg.lean).  "Equals": run on the model's heap (lifted into the translator's state, `sl` / a map
  handle), the translated function ends in `Res.ok` — no panic, enough fuel — with exactly the heap and the result the
  model computes.  The proofs unfold the generated definitions, case-split on SEMANTIC facts (is the index inside the
  slice, which of the two heads is smaller, …) and run the translated code forwards under those facts
  (`simp +decide (disch := omega) only [go_sat, go_atoms, ↓reduceIte, …]`, Proofs/ProgSat.lean: the rules of the monad as
  pre-rewrites, an equation for every read, write and call on the path, `omega` for the generated comparisons), so a
  logically equivalent rewrite of a condition or a renaming does not disturb them, while a changed comparison, a dropped
  check, a different constant or a missing bounds guard does.  The loops are instances of `sat_loop`.
-/
import ParsleyVerif.Proofs.ProgSat
import ParsleyVerif.Generated.FactsProg
namespace PV.ProgTie
open PV.ProgPrelude PV.FactsProg

def dataFunctions : List String :=
  ["IntSet_Len", "IntSet_insertValue", "IntSet_Insert", "IntSet_Union", "IntSet_Each", "NewIntSet", "NewIntMap",
   "IntMap_clone", "IntMap_Get", "IntMap_Keys", "IntMap_Inc", "IntMap_Filter"]

/-- nothing the translator was asked for in the data package is missing -/
theorem tie_data_translated : dataFunctions.all (fun f => FactsProg.translatedProg.contains f) = true := by
  decide +kernel

theorem tie_Len (s : Data.Slice) (st : St) : IntSet_Len ⟨sl s⟩ st = .ok (s.len : Int) st := rfl

theorem append_len (g : Nat → Nat) (h : Data.Heap) (s : Data.Slice) (v : Int) : (Data.append g h s v).2.len = s.len + 1 := by
  unfold Data.append; split <;> rfl

theorem sat_append_sl {Q : Sl → St → Prop} {P : Prop} (h : Data.Heap) (mh : Data.MHeap) (g : Nat → Nat) (s : Data.Slice) (v : Int) :
    (Go.append (sl s) v ⟨h, mh, g⟩).Sat Q P ↔ Q (sl (Data.append g h s v).2) ⟨(Data.append g h s v).1, mh, g⟩ :=
  sat_of_eq (append_sl h mh g s v)

theorem tie_insertValue (g : Nat → Nat) (h : Data.Heap) (mh : Data.MHeap) (s : Data.Slice) (v : Int)
    (w : Data.SWF h s) (hs : (Data.view h s).Pairwise (· < ·)) :
    IntSet_insertValue ⟨sl s⟩ v ⟨h, mh, g⟩ =
      .ok ⟨sl (Data.insertValue g h s v).2⟩ ⟨(Data.insertValue g h s v).1, mh, g⟩ := by
  rw [eq_ok_iff, IntSet_insertValue, Data.insertValue]
  simp only [go_test]
  have hi := (Data.goSearchInts_spec (Data.view h s) v hs).1
  rw [w.view_length] at hi
  have hsearch := searchInts_sl h mh g s v hs
  generalize goSearchInts (Data.view h s) v = index at hi hsearch ⊢
  have hread := idx_sl h mh g s w index
  have a1 := (Data.append_spec g h s 0 w 0 (Nat.zero_le _)).1
  have al := append_len g h s 0
  have hap := append_sl h mh g s 0
  generalize Data.append g h s 0 = ap at a1 al hap ⊢
  obtain ⟨h1, s1⟩ := ap
  simp only at a1 al hap ⊢
  -- the insertion proper, on the grown slice `s1`: `copy(s1[index+1:], s1[index:])`, then the store, which needs the
  -- slice to be well formed in the heap the copy leaves
  have hcopy := copy_shift h1 mh g
    { arr := s1.arr, off := index + 1, len := s1.len - (index + 1), cap := s1.cap - (index + 1), isNil := false }
    { arr := s1.arr, off := index, len := s1.len - index, cap := s1.cap - index, isNil := false }
    rfl rfl (by simp only []; omega)
  rw [show index + (s1.len - (index + 1)) = s.len by omega] at hcopy
  have w2 := a1.setCells (Data.copyShift (Data.cells h1 s1.arr) index s.len)
    (by rw [Data.copyShift_length _ _ _ hi (by have := a1.2.1; have := a1.2.2; omega)]; exact a1.2.2)
  have hset := setIdx_sl _ mh g s1 w2 index v (by omega) (by omega)
  rw [Int.toNat_natCast] at hset
  have hsl1 := sliceFrom_sl s1 (index + 1) ⟨h1, mh, g⟩ (by omega) (by omega)
  have hsl0 := sliceFrom_sl s1 index ⟨h1, mh, g⟩ (by omega) (by omega)
  rw [Int.toNat_natCast_add_one] at hsl1
  rw [Int.toNat_natCast] at hsl0
  by_cases c1 : index < s.len
  · have hr := hread c1
    by_cases c2 : (Data.view h s).getD index 0 = v
    · simp +decide (disch := omega) only [go_sat, go_atoms, ↓reduceIte, ↓sat_of_eq hsearch, len_sl, ↓sat_of_eq hr, c2, and_self]
    · simp +decide (disch := omega) only [go_sat, go_atoms, ↓reduceIte, ↓sat_of_eq hsearch, len_sl, ↓sat_of_eq hr, ↓sat_of_eq hap,
        ↓sat_of_eq hsl1, ↓sat_of_eq hsl0, ↓sat_of_eq hcopy, ↓sat_of_eq hset, c2, and_self]
  · simp +decide (disch := omega) only [go_sat, go_atoms, ↓reduceIte, ↓sat_of_eq hsearch, len_sl, ↓sat_of_eq hap, ↓sat_of_eq hsl1,
      ↓sat_of_eq hsl0, ↓sat_of_eq hcopy, ↓sat_of_eq hset, and_self]

theorem litSlice_one (h : Data.Heap) (mh : Data.MHeap) (g : Nat → Nat) (v : Int) :
    Go.litSlice [v] ⟨h, mh, g⟩ = .ok (sl { arr := h.length, len := 1, cap := 1 }) ⟨h ++ [[v]], mh, g⟩ := rfl

theorem tie_Insert (g : Nat → Nat) (h : Data.Heap) (mh : Data.MHeap) (s : Data.Slice) (v : Int)
    (w : Data.SWF h s) (hs : (Data.view h s).Pairwise (· < ·)) :
    IntSet_Insert ⟨sl s⟩ v ⟨h, mh, g⟩ =
      .ok ⟨sl (Data.insert g h s v).2⟩ ⟨(Data.insert g h s v).1, mh, g⟩ := by
  obtain ⟨f1, f2, f3, _⟩ := Data.copyInto_fresh h s w
  rw [eq_ok_iff, IntSet_Insert, Data.insert]
  simp only [go_test, len_sl]
  have hmk := mkSlice_sl h mh g (s.len : Int) ((s.len : Int) + 1) (by omega) (by omega)
  rw [Int.toNat_natCast, Int.toNat_natCast_add_one] at hmk
  by_cases c : s.len = 0
  · simp +decide (disch := omega) only [go_sat, go_atoms, ↓reduceIte, ↓sat_of_eq (litSlice_one h mh g v), and_self]
  · simp +decide (disch := omega) only [go_sat, go_atoms, ↓reduceIte, ↓sat_of_eq hmk,
      ↓sat_of_eq (copy_sl_into _ _ _ (Data.make h s.len (s.len + 1)).2 s f1 rfl),
      ↓sat_of_eq (tie_insertValue g _ mh _ v f2 (by rw [f3]; exact hs)), and_self]

/-- the translated merge loop, started anywhere, with any sufficient fuel, does what the model's loop does; it ends with
    both cursors at the ends.  `h0` is the heap at the loop's entry: the operands live below `base` and are never
    written (`Frame`), the result slice lives at or above it. -/
theorem union_loop_tie (g : Nat → Nat) (mh : Data.MHeap) (h0 : Data.Heap) (s s2 : Data.Slice)
    (w : Data.SWF h0 s) (w2 : Data.SWF h0 s2) (base : Nat) (hb1 : s.arr < base) (hb2 : s2.arr < base) :
    ∀ (fuelT fuelM n1 n2 : Nat) (h : Data.Heap) (s3 : Data.Slice), Data.Frame base h0 h → Data.SWF h s3 → base ≤ s3.arr →
      n1 ≤ s.len → n2 ≤ s2.len → s.len + s2.len < fuelT + n1 + n2 → s.len + s2.len < fuelM + n1 + n2 →
      IntSet_Union_loop1 ⟨sl s⟩ ⟨sl s2⟩ fuelT ⟨sl s3⟩ n1 n2 ⟨h, mh, g⟩ =
        .ok (⟨sl (Data.unionLoop g (Data.view h0 s) (Data.view h0 s2) fuelM n1 n2 h s3).2⟩, (s.len : Int), (s2.len : Int))
          ⟨(Data.unionLoop g (Data.view h0 s) (Data.view h0 s2) fuelM n1 n2 h s3).1, mh, g⟩ := by
  intro fuelT fuelM n1 n2 h s3 fr w3 hb3 hn1 hn2 hfT hfM
  rw [eq_ok_iff]
  -- the loop's variables: the model's fuel, the two cursors, the heap and the result slice
  refine sat_loop (σ := Nat × Nat × Nat × Data.Heap × Data.Slice)
    (fun fuel σ => IntSet_Union_loop1 ⟨sl s⟩ ⟨sl s2⟩ fuel ⟨sl σ.2.2.2.2⟩ σ.2.1 σ.2.2.1)
    (fun σ => s.len + s2.len - (σ.2.1 + σ.2.2.1))
    (fun σ st => st = ⟨σ.2.2.2.1, mh, g⟩ ∧ Data.Frame base h0 σ.2.2.2.1 ∧ Data.SWF σ.2.2.2.1 σ.2.2.2.2 ∧ base ≤ σ.2.2.2.2.arr ∧
      σ.2.1 ≤ s.len ∧ σ.2.2.1 ≤ s2.len ∧ s.len + s2.len < σ.1 + σ.2.1 + σ.2.2.1)
    (fun σ r st' =>
      r = (⟨sl (Data.unionLoop g (Data.view h0 s) (Data.view h0 s2) σ.1 σ.2.1 σ.2.2.1 σ.2.2.2.1 σ.2.2.2.2).2⟩, (s.len : Int), (s2.len : Int)) ∧
      st' = ⟨(Data.unionLoop g (Data.view h0 s) (Data.view h0 s2) σ.1 σ.2.1 σ.2.2.1 σ.2.2.2.1 σ.2.2.2.2).1, mh, g⟩)
    (fun _ => False) ?_ fuelT (fuelM, n1, n2, h, s3) _ ⟨rfl, fr, w3, hb3, hn1, hn2, hfM⟩ (by dsimp only; omega)
  rintro fuelT ⟨fuelM, n1, n2, h, s3⟩ st ⟨rfl, fr, w3, hb3, hn1, hn2, hfM⟩ ih
  dsimp only at fr w3 hb3 hn1 hn2 hfM ⊢
  cases fuelM with
  | zero => omega
  | succ fuelM =>
  have la := w.view_length
  have lb := w2.view_length
  -- the operands are read in the current heap, where they still show what they showed at the loop's entry
  have hra := idx_sl h mh g s (fr.swf w hb1) n1
  have hrb := idx_sl h mh g s2 (fr.swf w2 hb2) n2
  rw [fr.view_eq s hb1] at hra
  rw [fr.view_eq s2 hb2] at hrb
  -- what a round does after it has appended `x`: the loop again, on the grown result slice (stated on the VALUE of the
  -- append, so that it applies however the source writes the append: in place, or in a helper that returns the set)
  have step : ∀ (x : Int) (m1 m2 : Nat), m1 ≤ s.len ∧ m2 ≤ s2.len ∧ n1 + n2 < m1 + m2 →
      (IntSet_Union_loop1 ⟨sl s⟩ ⟨sl s2⟩ fuelT ⟨sl (Data.append g h s3 x).2⟩ m1 m2 ⟨(Data.append g h s3 x).1, mh, g⟩).Sat
        (fun r st' =>
          r = (⟨sl (Data.unionLoop g (Data.view h0 s) (Data.view h0 s2) fuelM m1 m2 (Data.append g h s3 x).1 (Data.append g h s3 x).2).2⟩,
            (s.len : Int), (s2.len : Int)) ∧
          st' = ⟨(Data.unionLoop g (Data.view h0 s) (Data.view h0 s2) fuelM m1 m2 (Data.append g h s3 x).1 (Data.append g h s3 x).2).1, mh, g⟩)
        False := by
    intro x m1 m2 ⟨hm1, hm2, hm⟩
    obtain ⟨p1, _, p3, p4, _⟩ := Data.append_spec g h s3 x w3 base hb3
    exact ih (fuelM, m1, m2, _, _) _ ⟨rfl, fr.trans p3, p1, p4, hm1, hm2, by dsimp only; omega⟩ (by dsimp only; omega)
  clear ih
  rw [IntSet_Union_loop1, Data.unionLoop]
  simp only [go_test, len_sl, la, lb]
  -- the six ways a round can go: each decides every test of the code and of the model, and the body is run
  rcases Nat.lt_or_ge n1 s.len with c1 | c1 <;> rcases Nat.lt_or_ge n2 s2.len with c2 | c2
  · -- both cursors inside: compare the heads
    have ha := hra c1
    have hb := hrb c2
    rcases Int.lt_trichotomy ((Data.view h0 s).getD n1 0) ((Data.view h0 s2).getD n2 0) with c | c | c
    · simp +decide (disch := omega) only [go_sat, go_atoms, ↓reduceIte, ↓sat_of_eq ha, ↓sat_of_eq hb, ↓sat_append_sl,
        ← Int.natCast_add_one]
      exact step _ (n1 + 1) n2 (by omega)
    · simp +decide (disch := omega) only [go_sat, go_atoms, ↓reduceIte, ↓sat_of_eq ha, ↓sat_of_eq hb, ↓sat_append_sl,
        ← Int.natCast_add_one]
      exact step _ (n1 + 1) (n2 + 1) (by omega)
    · simp +decide (disch := omega) only [go_sat, go_atoms, ↓reduceIte, ↓sat_of_eq ha, ↓sat_of_eq hb, ↓sat_append_sl,
        ← Int.natCast_add_one]
      exact step _ n1 (n2 + 1) (by omega)
  · -- the second operand is exhausted
    have ha := hra c1
    simp +decide (disch := omega) only [go_sat, go_atoms, ↓reduceIte, ↓sat_of_eq ha, ↓sat_append_sl, ← Int.natCast_add_one]
    exact step _ (n1 + 1) n2 (by omega)
  · -- the first operand is exhausted
    have hb := hrb c2
    simp +decide (disch := omega) only [go_sat, go_atoms, ↓reduceIte, ↓sat_of_eq hb, ↓sat_append_sl, ← Int.natCast_add_one]
    exact step _ n1 (n2 + 1) (by omega)
  · -- both exhausted: the loop ends, the cursors are the lengths
    rw [show n1 = s.len by omega, show n2 = s2.len by omega]
    simp +decide (disch := omega) only [go_sat, go_atoms, ↓reduceIte, and_self]

/-- **Union.**  No sortedness is needed: on any two well-formed slices the translated function and the model do the
    same thing. -/
theorem tie_Union (g : Nat → Nat) (h : Data.Heap) (mh : Data.MHeap) (s s2 : Data.Slice)
    (w : Data.SWF h s) (w2 : Data.SWF h s2) :
    IntSet_Union ⟨sl s⟩ ⟨sl s2⟩ ⟨h, mh, g⟩ =
      .ok ⟨sl (Data.union g h s s2).2⟩ ⟨(Data.union g h s s2).1, mh, g⟩ := by
  rw [eq_ok_iff, IntSet_Union, Data.union]
  simp only [go_test, len_sl]
  by_cases e2 : s2.len = 0
  · simp +decide (disch := omega) only [go_sat, go_atoms, ↓reduceIte, and_self]
  · by_cases e1 : s.len = 0
    · simp +decide (disch := omega) only [go_sat, go_atoms, ↓reduceIte, and_self]
    · obtain ⟨m1, m2, m3, _, _⟩ := Data.make_spec h 0 (s.len + s2.len) (Nat.zero_le _)
      have hloop := union_loop_tie g mh h s s2 w w2 h.length w.1 w2.1 (s.len + s2.len + 1) (s.len + s2.len + 1) 0 0 _ _ m2 m1
        (by omega) (by omega) (by omega) (by omega) (by omega)
      rw [Int.natCast_zero] at hloop
      have hmk := mkSlice_sl h mh g 0 ((s.len : Int) + s2.len) (by omega) (by omega)
      rw [← Int.natCast_add, Int.toNat_natCast, Int.toNat_zero] at hmk
      simp +decide (disch := omega) only [go_sat, go_atoms, ↓reduceIte, ↓sat_of_eq hmk, ← Int.natCast_add, Int.toNat_natCast,
        ↓sat_of_eq hloop, and_self]

/-- the insertion loop of NewIntSet (a `range` over the argument slice) is the model's fold of `insertValue`; the
    argument slice lives below `base` and is never written, the set under construction lives at or above it -/
theorem newIntSet_loop_tie (g : Nat → Nat) (mh : Data.MHeap) (h : Data.Heap) (vs : Data.Slice) (wv : Data.SWF h vs)
    (base : Nat) (hbv : vs.arr < base) (fuel k : Nat) (p : Data.Heap × Data.Slice) (fr : Data.Frame base h p.1)
    (w : Data.SWF p.1 p.2) (hs : (Data.view p.1 p.2).Pairwise (· < ·)) (hb : base ≤ p.2.arr) (hk : k ≤ vs.len)
    (hf : vs.len < fuel + k) :
    NewIntSet_loop1 (sl vs) fuel ⟨sl p.2⟩ k ⟨p.1, mh, g⟩ =
      .ok (⟨sl (((Data.view h vs).drop k).foldl (fun (q : Data.Heap × Data.Slice) v => Data.insertValue g q.1 q.2 v) p).2⟩,
            (vs.len : Int))
        ⟨(((Data.view h vs).drop k).foldl (fun (q : Data.Heap × Data.Slice) v => Data.insertValue g q.1 q.2 v) p).1, mh, g⟩ := by
  rw [eq_ok_iff]
  -- the loop's variables: the cursor, the heap and the set under construction
  refine sat_loop (σ := Nat × Data.Heap × Data.Slice) (fun fuel σ => NewIntSet_loop1 (sl vs) fuel ⟨sl σ.2.2⟩ σ.1)
    (fun σ => vs.len - σ.1)
    (fun σ st => st = ⟨σ.2.1, mh, g⟩ ∧ Data.Frame base h σ.2.1 ∧ Data.SWF σ.2.1 σ.2.2 ∧
      (Data.view σ.2.1 σ.2.2).Pairwise (· < ·) ∧ base ≤ σ.2.2.arr ∧ σ.1 ≤ vs.len)
    (fun σ r st' =>
      r = (⟨sl (((Data.view h vs).drop σ.1).foldl (fun (q : Data.Heap × Data.Slice) v => Data.insertValue g q.1 q.2 v) σ.2).2⟩,
        (vs.len : Int)) ∧
      st' = ⟨(((Data.view h vs).drop σ.1).foldl (fun (q : Data.Heap × Data.Slice) v => Data.insertValue g q.1 q.2 v) σ.2).1, mh, g⟩)
    (fun _ => False) ?_ fuel (k, p) _ ⟨rfl, fr, w, hs, hb, hk⟩ (by dsimp only; omega)
  rintro fuel ⟨k, hc, s⟩ st ⟨rfl, fr, w, hs, hb, hk⟩ ih
  dsimp only at fr w hs hb hk ⊢
  have lv := wv.view_length
  have hread := idx_sl hc mh g vs (fr.swf wv hbv) k
  rw [fr.view_eq vs hbv] at hread
  rw [NewIntSet_loop1]
  simp only [go_test, len_sl]
  rcases Nat.lt_or_ge k vs.len with c | c
  · obtain ⟨i1, i2, i3, i4⟩ := Data.insertValue_spec g hc s ((Data.view h vs).getD k 0) w hs base hb
    rw [Data.drop_eq_getD_cons _ k 0 (by omega), List.foldl_cons]
    simp +decide (disch := omega) only [go_sat, go_atoms, ↓reduceIte, ↓sat_of_eq (hread c), ↓sat_of_eq (tie_insertValue g hc mh s _ w hs),
      ← Int.natCast_add_one]
    exact ih (k + 1, Data.insertValue g hc s ((Data.view h vs).getD k 0)) _
      ⟨rfl, fr.trans i3, i1, by dsimp only; rw [i2]; exact Data.sInsert_sorted _ _ hs, i4, by dsimp only; omega⟩
      (by dsimp only; omega)
  · rw [List.drop_of_length_le (by omega), show k = vs.len by omega]
    simp +decide (disch := omega) only [go_sat, go_atoms, ↓reduceIte]
    exact ⟨rfl, rfl⟩

theorem tie_NewIntSet (g : Nat → Nat) (h : Data.Heap) (mh : Data.MHeap) (vs : Data.Slice) (wv : Data.SWF h vs) :
    NewIntSet (sl vs) ⟨h, mh, g⟩ =
      .ok ⟨sl (Data.newIntSet g h (Data.view h vs)).2⟩ ⟨(Data.newIntSet g h (Data.view h vs)).1, mh, g⟩ := by
  obtain ⟨m1, m2, m3, m4, _⟩ := Data.make_spec h 0 vs.len (Nat.zero_le _)
  have hloop := newIntSet_loop_tie g mh h vs wv h.length wv.1 (vs.len + 1) 0 (Data.make h 0 vs.len) m2 m1
    (by rw [Data.view_nil_of_len0 _ _ m4]; exact List.Pairwise.nil) (by omega) (by omega) (by omega)
  rw [Int.natCast_zero, List.drop_zero] at hloop
  have hmk := mkSlice_sl h mh g 0 (vs.len : Int) (by omega) (by omega)
  rw [Int.toNat_natCast, Int.toNat_zero] at hmk
  rw [eq_ok_iff, NewIntSet, Data.newIntSet, wv.view_length]
  simp only [go_sat, len_sl, sat_of_eq hmk, Int.toNat_natCast, sat_of_eq hloop, and_self]

theorem tie_NewIntMap_nil (h : Data.Heap) (mh : Data.MHeap) (g : Nat → Nat) :
    NewIntMap none ⟨h, mh, g⟩ = .ok ⟨some mh.length⟩ ⟨h, mh ++ [[]], g⟩ := by
  rw [eq_ok_iff, NewIntMap]
  simp only [go_sat, Option.isNone_none, sat_of_eq (mkMap_mk h mh g), and_self]

theorem tie_Get (h : Data.Heap) (mh : Data.MHeap) (g : Nat → Nat) (i : Nat) (k : Int) :
    IntMap_Get ⟨some i⟩ k ⟨h, mh, g⟩ = .ok (Data.get mh i k) ⟨h, mh, g⟩ := by
  simp only [IntMap_Get, mapGet_some, Data.get]

/-- the copy loop of `clone` (a `range` over the source map's entries) is the model's fold -/
theorem clone_loop_tie (h : Data.Heap) (g : Nat → Nat) (fresh : Nat) (kvs : List (Int × Int)) :
    ∀ (mh : Data.MHeap), fresh < mh.length →
      IntMap_clone_loop1 ⟨some fresh⟩ kvs ⟨h, mh, g⟩ =
        .ok () ⟨h, kvs.foldl (fun mh' kv => Data.mwrite mh' fresh kv.1 kv.2) mh, g⟩ := by
  induction kvs with
  | nil => intro mh _; rfl
  | cons kv kvs ih =>
    intro mh hf
    obtain ⟨k, v⟩ := kv
    rw [IntMap_clone_loop1]
    simp only [bind_apply, mapSet_some _ _ _ _ _ _ hf, List.foldl_cons]
    exact ih _ (by rw [Data.mwrite_length]; exact hf)

theorem tie_clone (h : Data.Heap) (mh : Data.MHeap) (g : Nat → Nat) (i : Nat) :
    IntMap_clone ⟨some i⟩ ⟨h, mh, g⟩ = .ok ⟨some (Data.mclone mh i).2⟩ ⟨h, (Data.mclone mh i).1, g⟩ := by
  simp only [IntMap_clone, bind_apply, pure_apply, mapLen_some, mkMap_mk, mapEntries_some]
  rw [clone_loop_tie h g mh.length _ _ (by simp), Data.mobj_append_nil]
  rfl

theorem tie_Inc (h : Data.Heap) (mh : Data.MHeap) (g : Nat → Nat) (i : Nat) (k : Int) :
    IntMap_Inc ⟨some i⟩ k ⟨h, mh, g⟩ = .ok ⟨some (Data.inc mh i k).2⟩ ⟨h, (Data.inc mh i k).1, g⟩ := by
  have hf : (Data.mclone mh i).2 < (Data.mclone mh i).1.length := by
    rw [Data.mclone_length]; exact Nat.lt_succ_self _
  rw [eq_ok_iff, IntMap_Inc, Data.inc]
  cases hm : Data.mget (Data.mobj (Data.mclone mh i).1 (Data.mclone mh i).2) k <;>
    simp only [go_sat, sat_of_eq (tie_clone h mh g i), sat_of_eq (mapGet2_some _ _ _ _ _), sat_of_eq (mapGet_some _ _ _ _ _), hm,
      sat_of_eq (mapSet_some _ _ _ _ _ _ hf), Option.getD_some, and_self]

/-- `Each` with a callback that only touches the map heap, through a pure step function `F` that keeps an invariant
    `P` of the map heap: the callback is run on the set's elements in order. -/
theorem each_loop_tie (h : Data.Heap) (g : Nat → Nat) (s : Data.Slice) (w : Data.SWF h s) (f : Int → M Unit)
    (F : Data.MHeap → Int → Data.MHeap) (P : Data.MHeap → Prop) (hP : ∀ mh v, P mh → P (F mh v))
    (hf : ∀ mh v, P mh → f v ⟨h, mh, g⟩ = .ok () ⟨h, F mh v, g⟩) (fuel k : Nat) (mh : Data.MHeap) (p : P mh)
    (hk : k ≤ s.len) (hlt : s.len < fuel + k) :
    IntSet_Each_loop1 f (sl s) fuel k ⟨h, mh, g⟩ = .ok (s.len : Int) ⟨h, ((Data.view h s).drop k).foldl F mh, g⟩ := by
  rw [eq_ok_iff]
  refine sat_loop (σ := Nat × Data.MHeap) (fun fuel σ => IntSet_Each_loop1 f (sl s) fuel σ.1) (fun σ => s.len - σ.1)
    (fun σ st => st = ⟨h, σ.2, g⟩ ∧ P σ.2 ∧ σ.1 ≤ s.len)
    (fun σ r st' => r = (s.len : Int) ∧ st' = ⟨h, ((Data.view h s).drop σ.1).foldl F σ.2, g⟩) (fun _ => False) ?_
    fuel (k, mh) _ ⟨rfl, p, hk⟩ (by dsimp only; omega)
  rintro fuel ⟨k, mh⟩ st ⟨rfl, p, hk⟩ ih
  dsimp only at p hk ⊢
  rw [IntSet_Each_loop1]
  simp only [go_test, len_sl]
  have hl := w.view_length
  rcases Nat.lt_or_ge k s.len with c | c
  · rw [Data.drop_eq_getD_cons _ k 0 (by omega), List.foldl_cons]
    simp +decide (disch := omega) only [go_sat, go_atoms, ↓reduceIte, ↓sat_of_eq (idx_sl h mh g s w k c), ↓sat_of_eq (hf mh _ p),
      ← Int.natCast_add_one]
    exact ih (k + 1, F mh ((Data.view h s).getD k 0)) _ ⟨rfl, hP _ _ p, by dsimp only; omega⟩ (by dsimp only; omega)
  · rw [List.drop_of_length_le (by omega), show k = s.len by omega]
    simp +decide (disch := omega) only [go_sat, go_atoms, ↓reduceIte]
    rfl

theorem tie_Each (h : Data.Heap) (mh : Data.MHeap) (g : Nat → Nat) (s : Data.Slice) (w : Data.SWF h s) (f : Int → M Unit)
    (F : Data.MHeap → Int → Data.MHeap) (P : Data.MHeap → Prop) (hP : ∀ mh v, P mh → P (F mh v))
    (hf : ∀ mh v, P mh → f v ⟨h, mh, g⟩ = .ok () ⟨h, F mh v, g⟩) (p : P mh) :
    IntSet_Each ⟨sl s⟩ f ⟨h, mh, g⟩ = .ok () ⟨h, (Data.view h s).foldl F mh, g⟩ := by
  have := each_loop_tie h g s w f F P hP hf (s.len + 1) 0 mh p (by omega) (by omega)
  rw [Int.natCast_zero, List.drop_zero] at this
  simp only [IntSet_Each, bind_apply, pure_apply, len_sl, Int.toNat_natCast, this]

theorem tie_Filter (h : Data.Heap) (mh : Data.MHeap) (g : Nat → Nat) (i : Nat) (keys : Data.Slice) (w : Data.SWF h keys) :
    IntMap_Filter ⟨some i⟩ ⟨sl keys⟩ ⟨h, mh, g⟩ =
      .ok ⟨some (Data.filter mh i (Data.view h keys)).2⟩ ⟨h, (Data.filter mh i (Data.view h keys)).1, g⟩ := by
  simp only [IntMap_Filter, bind_apply, pure_apply, tie_NewIntMap_nil]
  rw [tie_Each h (mh ++ [[]]) g keys w _ (Data.filterStep mh.length i) (fun m => mh.length < m.length)]
  · rfl
  · intro m v p
    simp only [Data.filterStep]
    split
    · rw [Data.mwrite_length]; exact p
    · exact p
  · intro m v p
    rw [Data.filterStep]
    rw [eq_ok_iff]
    cases hm : Data.mget (Data.mobj m i) v <;>
      simp only [go_sat, sat_of_eq (mapGet2_some _ _ _ _ _), hm, sat_of_eq (mapSet_some _ _ _ _ _ _ p), and_self]
  · simp

end PV.ProgTie
