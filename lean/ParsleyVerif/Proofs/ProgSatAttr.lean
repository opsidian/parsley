/-
  The rule sets of Proofs/ProgSat.lean, as simp attributes (an attribute cannot be used in the file that declares it).
-/
import Lean.Meta.Tactic.Simp.RegisterCommand

/-- the rules of one pass over a translated body: the constructs of the monad, and the generated tests (`decide`, the Boolean
    connectives) read as propositions -/
register_simp_attr go_sat

/-- taking the branch a test decides, with the test proved or refuted by the discharger -/
register_simp_attr go_decided

/-- deciding the comparisons of a test one by one, with the discharger -/
register_simp_attr go_atoms
