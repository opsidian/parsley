/-
  THE TIE of the statement-level translator, text package: the reader primitives of Model/Text.lean against the
  Lean definitions `factgen -out-prog` translates from text/reader.go and text/file.go (Generated/FactsProg.lean).

  The model keeps a file's bytes in a list; the translated code reads them through a slice of the array heap.  `FileRel`
  says that the translated `File` struct, in a given state, shows a given model file: its byte slice reads as the
  model's bytes and `len`, `offset`, `filename` agree.  Positions are `Nat` in the model and `Int` in the translation;
  the theorems are stated on the model's domain `offset ≤ pos` (below it the Go cursor is negative).
  Here: the relation with the reads every reader function makes (`FileRel.cur`, `.sat_read`, `.sat_rest`), Remaining, IsEOF,
  Pos, SkipWhitespaces, and `sort.Search` on a line table; text/file.go `setLines` / `Position`, which allocate, are tied in
  Proofs/TxtTieFileSet.lean.
-/
import ParsleyVerif.Proofs.ProgSat
import ParsleyVerif.Proofs.FileSet
import ParsleyVerif.Proofs.Reader
import ParsleyVerif.Generated.FactsProg
namespace PV.ProgTie
open PV.ProgPrelude PV.FactsProg

structure FileRel (st : St) (F : FactsProg.File) (f : Text.File) : Prop where
  data : view st F.data = f.data.map Int.ofNat
  dlen : F.data.len = f.data.length
  len : F.len = (f.data.length : Int)
  off : F.offset = (f.offset : Int)
  name : F.filename = f.name

theorem idx_view_nat {st : St} {s : Sl} {l : List Nat} (hv : view st s = l.map Int.ofNat) (hl : s.len = l.length)
    {j : Nat} (hj : j < l.length) : Go.idx s j st = .ok ((l.getD j 0 : Nat) : Int) st := by
  rw [idx_view st s _ hv (by simp [hl]) _ (by omega) (by simp; omega)]
  congr 1
  simp [List.getD_eq_getElem?_getD, List.getElem?_map, List.getElem?_eq_getElem hj]

theorem FileRel.read {st : St} {F : FactsProg.File} {f : Text.File} (rel : FileRel st F f) (cur : Nat)
    (hc : cur < f.data.length) (i : Int) (hi : i = cur) :
    Go.idx F.data i st = .ok ((f.data.getD cur 0 : Nat) : Int) st := by
  subst hi
  exact idx_view_nat rel.data rel.dlen hc

/-- the cursor `int(pos) - r.file.offset` of every reader function, at or above the base offset -/
theorem FileRel.cur {st : St} {F : FactsProg.File} {f : Text.File} (rel : FileRel st F f) {p : Nat} (h : f.offset ≤ p) :
    (p : Int) - F.offset = ((p - f.offset : Nat) : Int) := by
  rw [rel.off, Int.ofNat_sub h]

/-- `r.file.data[c]`: the model's byte inside the file, a panic beyond it -/
theorem FileRel.sat_read {Q : Int → St → Prop} {P : Prop} {st : St} {F : FactsProg.File} {f : Text.File}
    (rel : FileRel st F f) (c : Nat) :
    (Go.idx F.data (c : Int) st).Sat Q P ↔ if c < f.data.length then Q ((f.data.getD c 0 : Nat) : Int) st else P := by
  split
  next h => rw [rel.read c h _ rfl]; rfl
  next h => rw [idx_panic F.data c st (by rw [rel.dlen]; omega)]; rfl

/-- `r.file.data[c:]`: a header for the rest of the file (`FileRel.view_rest`, Proofs/TxtTieBasics.lean), a panic beyond the end -/
theorem FileRel.sat_rest {Q : Sl → St → Prop} {P : Prop} {st : St} {F : FactsProg.File} {f : Text.File}
    (rel : FileRel st F f) (c : Nat) :
    (Go.sliceFrom F.data (c : Int) st).Sat Q P ↔ if c ≤ f.data.length then Q (F.data.from c) st else P := by
  rw [sat_sliceFrom, rel.dlen]

def textFunctions : List String :=
  ["File_setLines", "File_Len", "File_SetOffset", "File_Pos", "File_Position", "Reader_Remaining", "Reader_IsEOF",
   "Reader_Pos", "Reader_SkipWhitespaces"]

/-- nothing the translator was asked for in text/reader.go and text/file.go is missing -/
theorem tie_text_translated : textFunctions.all (fun f => FactsProg.translatedProg.contains f) = true := by
  decide +kernel

theorem tie_Remaining (st : St) (F : FactsProg.File) (f : Text.File) (rel : FileRel st F f) (p : Nat)
    (h1 : f.offset ≤ p) (h2 : p - f.offset ≤ f.len) :
    Reader_Remaining ⟨F⟩ p st = .ok ((Text.remaining f p : Nat) : Int) st := by
  simp only [Reader_Remaining, pure_apply, rel.len, rel.off, Text.remaining, Text.File.len] at h2 ⊢
  congr 1
  omega

theorem tie_IsEOF (st : St) (F : FactsProg.File) (f : Text.File) (rel : FileRel st F f) (p : Nat) (h1 : f.offset ≤ p) :
    Reader_IsEOF ⟨F⟩ p st = .ok (Text.isEOF f p) st := by
  simp only [Reader_IsEOF, pure_apply, rel.len, rel.off, Text.isEOF, Text.File.len]
  congr 1
  rw [Bool.eq_iff_iff]
  simp only [decide_eq_true_eq, ge_iff_le]
  constructor <;> intro h <;> omega

theorem tie_Pos (st : St) (F : FactsProg.File) (f : Text.File) (rel : FileRel st F f) (cur : Nat) :
    Reader_Pos ⟨F⟩ cur st = .ok ((f.pos cur : Nat) : Int) st ∧ File_Pos F cur st = .ok ((f.pos cur : Nat) : Int) st := by
  simp only [Reader_Pos, File_Pos, pure_apply, rel.off, Text.File.pos]
  constructor <;> rfl

/-- one round of the model's loop, with the byte classes spelled out -/
theorem skipLoop_cons (f : Text.File) (b : Nat) (r : List Nat) (cur nl : Nat) :
    Text.skipLoop f (b :: r) cur nl =
      if b = 32 ∨ b = 9 ∨ b = 10 ∨ b = 12 then
        Text.skipLoop f r (cur + 1) (if (b = 10 ∨ b = 12) ∧ nl = 0 then f.pos cur else nl)
      else (cur, nl) := by
  rw [Text.skipLoop]
  simp only [Text.isWs_iff, Text.isBreak_iff]

theorem skip_loop_tie (st : St) (F : FactsProg.File) (f : Text.File) (rel : FileRel st F f) (fuel cur nl : Nat)
    (hf : f.data.length - cur < fuel) :
    Reader_SkipWhitespaces_loop1 ⟨F⟩ fuel cur nl st =
      .ok (((Text.skipLoop f (f.data.drop cur) cur nl).1 : Int), ((Text.skipLoop f (f.data.drop cur) cur nl).2 : Int)) st := by
  rw [eq_ok_iff]
  refine sat_loop (fun fuel (s : Nat × Nat) => Reader_SkipWhitespaces_loop1 ⟨F⟩ fuel s.1 s.2) (fun s => f.data.length - s.1)
    (fun _ s => s = st)
    (fun s r s' => r = (((Text.skipLoop f (f.data.drop s.1) s.1 s.2).1 : Int), ((Text.skipLoop f (f.data.drop s.1) s.1 s.2).2 : Int)) ∧
      s' = st) (fun _ => False) ?_ fuel (cur, nl) st rfl hf
  rintro fuel ⟨cur, nl⟩ s hs ih
  subst s
  have hoff := rel.off
  have hlen := rel.len
  rw [Reader_SkipWhitespaces_loop1]
  simp only [go_test]
  -- a round, by the byte at the cursor: each case decides every test, however the source arranges them, and the body is run
  rcases Nat.lt_or_ge cur f.data.length with c | c
  · rw [Data.drop_eq_getD_cons _ _ 0 c, skipLoop_cons]
    generalize hb : f.data.getD cur 0 = b
    by_cases hbk : b = 10 ∨ b = 12
    · have hw : b = 32 ∨ b = 9 ∨ b = 10 ∨ b = 12 := hbk.elim (fun h => .inr (.inr (.inl h))) (fun h => .inr (.inr (.inr h)))
      rw [if_pos hw]
      clear hw
      by_cases hn : nl = 0
      · -- the first line break: its position is recorded
        rw [if_pos (show (b = 10 ∨ b = 12) ∧ nl = 0 from ⟨hbk, hn⟩)]
        have h := ih (cur + 1, f.pos cur) st rfl (by dsimp only; omega)
        have hp : F.offset + (cur : Int) = ((f.pos cur : Nat) : Int) := by rw [hoff]; rfl
        clear ih
        rcases hbk with h10 | h12 <;>
        · simp +decide (disch := omega) only [go_sat, go_atoms, ↓reduceIte, ↓rel.sat_read, hb, File_Pos, ← Int.natCast_add_one, hp]
          exact h
      · rw [if_neg (show ¬ ((b = 10 ∨ b = 12) ∧ nl = 0) from fun h => hn h.2)]
        have h := ih (cur + 1, nl) st rfl (by dsimp only; omega)
        clear ih
        rcases hbk with h10 | h12 <;>
        · simp +decide (disch := omega) only [go_sat, go_atoms, ↓reduceIte, ↓rel.sat_read, hb, File_Pos, ← Int.natCast_add_one]
          exact h
    · by_cases hsp : b = 32 ∨ b = 9
      · have hw : b = 32 ∨ b = 9 ∨ b = 10 ∨ b = 12 := hsp.elim .inl (fun h => .inr (.inl h))
        rw [if_pos hw, if_neg (show ¬ ((b = 10 ∨ b = 12) ∧ nl = 0) from fun h => hbk h.1)]
        clear hw
        have h := ih (cur + 1, nl) st rfl (by dsimp only; omega)
        clear hbk ih
        rcases hsp with h32 | h9 <;>
        · simp +decide (disch := omega) only [go_sat, go_atoms, ↓reduceIte, ↓rel.sat_read, hb, File_Pos, ← Int.natCast_add_one]
          exact h
      · -- any other byte ends the run
        rw [if_neg (show ¬ (b = 32 ∨ b = 9 ∨ b = 10 ∨ b = 12) from
          fun h => h.elim (fun h => hsp (.inl h)) (fun h => h.elim (fun h => hsp (.inr h)) hbk))]
        clear ih
        simp +decide (disch := omega) only [go_sat, go_atoms, ↓reduceIte, ↓rel.sat_read, hb, and_self]
  · -- at the end of the file
    rw [List.drop_of_length_le c]
    simp (disch := omega) only [go_sat, go_decided]
    exact ⟨rfl, trivial⟩

/-- the Go constants WsNone … WsSpacesForceNl (as go/types evaluates them) -/
def modeCode : Text.WsMode → Int
  | .none => 0
  | .spaces => 1
  | .spacesNl => 2
  | .forceNl => 3

/-- the package-level error values of text/reader.go, by name -/
def errName : Text.WsErr → String
  | .noneErr => "text.wsNoneErr"
  | .forceNlErr => "text.wsSpacesForceNlErr"
  | .spacesErr => "text.wsSpacesErr"

/-- the model's error (position, kind) as the opaque interface value the translation builds:
    `parsley.NewError(pos, <package-level error>)`, or nil -/
def errObj : Option (Nat × Text.WsErr) → Obj
  | none => .nil
  | some (q, e) => .mk "parsley.NewError" [(q : Int)] [] [.named (errName e)]

theorem tie_SkipWhitespaces (st : St) (F : FactsProg.File) (f : Text.File) (rel : FileRel st F f) (p : Nat)
    (h1 : f.offset ≤ p) (mode : Text.WsMode) :
    Reader_SkipWhitespaces ⟨F⟩ p (modeCode mode) st =
      .ok (((Text.skipWhitespaces f p mode).1 : Int), errObj (Text.skipWhitespaces f p mode).2) st := by
  have hloop := skip_loop_tie st F f rel (f.data.length + 1) (p - f.offset) 0 (by omega)
  rw [Int.natCast_zero] at hloop
  rw [eq_ok_iff]
  generalize hm : Text.skipWhitespaces f p mode = m
  rw [Text.skipWhitespaces] at hm
  rw [Reader_SkipWhitespaces]
  generalize hk : modeCode mode = k
  generalize Text.skipLoop f (f.data.drop (p - f.offset)) (p - f.offset) 0 = res at hloop hm
  obtain ⟨cur, nl⟩ := res
  have hpos : F.offset + (cur : Int) = ((f.pos cur : Nat) : Int) := by rw [rel.off]; rfl
  simp only [go_sat, File_Pos, rel.cur h1, rel.len, Int.toNat_natCast, ↓sat_of_eq hloop, hpos, and_true]
  -- code and model test the same things, mode by mode
  cases mode <;> simp only [modeCode, reduceCtorEq, true_and, false_and, if_false] at hm hk
  · by_cases c : cur > p - f.offset <;> simp (disch := omega) only [go_decided] at hm ⊢ <;> subst hm <;> rfl
  · by_cases c : nl > 0 <;> simp (disch := omega) only [go_decided] at hm ⊢ <;> subst hm <;> rfl
  · simp (disch := omega) only [go_decided]
    subst hm; rfl
  · by_cases c : nl = 0 <;> simp (disch := omega) only [go_decided] at hm ⊢ <;> subst hm <;> rfl

/-! ### sort.Search: the assumed meaning (a left-to-right scan for the least index) against the model's transcribed
    binary search, for a monotone predicate -/

/-- `searchFrom`, for a predicate that is pure on the indices it visits, answers the least index from `i` on at which the
    predicate holds (`i + k` if there is none) -/
theorem searchFrom_spec (st : St) (f : Int → M Bool) (P : Nat → Bool) :
    ∀ (k i : Nat), (∀ j, i ≤ j → j < i + k → f (j : Int) st = .ok (P j) st) →
      ∃ r : Nat, searchFrom f k (i : Int) st = .ok (r : Int) st ∧ i ≤ r ∧ r ≤ i + k ∧
        (∀ j, i ≤ j → j < r → P j = false) ∧ (r < i + k → P r = true) := by
  intro k
  induction k with
  | zero => intro i _; exact ⟨i, rfl, Nat.le_refl _, Nat.le_refl _, fun j h1 h2 => by omega, fun h => by omega⟩
  | succ k ih =>
    intro i hf
    rw [searchFrom]
    simp only [bind_apply, hf i (Nat.le_refl _) (by omega)]
    cases hP : P i with
    | true => exact ⟨i, rfl, Nat.le_refl _, by omega, fun j h1 h2 => by omega, fun _ => hP⟩
    | false =>
      obtain ⟨r, e, a1, a2, a3, a4⟩ := ih (i + 1) (fun j h1 h2 => hf j (by omega) (by omega))
      refine ⟨r, ?_, by omega, by omega, fun j h1 h2 => ?_, fun h => a4 (by omega)⟩
      · simpa only [Bool.false_eq_true, if_false, ite_apply, Int.natCast_add_one] using e
      · rcases Nat.eq_or_lt_of_le h1 with rfl | h
        · exact hP
        · exact a3 j h h2

/-- `sort.Search(len(L), func(i) bool { return L[i] > p })` on a slice that shows the ascending `ls` is the model's
    `goSearch`: the first index whose element exceeds `p` (the length if there is none) -/
theorem search_gt {st : St} {L : Sl} {ls : List Nat} (hv : view st L = ls.map Int.ofNat) (hl : L.len = ls.length)
    (srt : ls.Pairwise (· < ·)) (p : Nat) :
    ∃ s : Nat, Go.search (Go.len L) (fun (i' : Int) => do let t ← Go.idx L i'; pure (decide (t > (p : Int)))) st =
        .ok (s : Int) st ∧
      goSearch ls.length (fun i => decide (ls.getD i 0 > p)) = s ∧ s ≤ ls.length ∧ (∀ k, k < s → ls.getD k 0 ≤ p) ∧
      (s < ls.length → p < ls.getD s 0) := by
  obtain ⟨r, e, _, a2, a3, a4⟩ := searchFrom_spec st
    (fun (i' : Int) => do let t ← Go.idx L i'; pure (decide (t > (p : Int)))) (fun i => decide (ls.getD i 0 > p)) ls.length 0
    (fun j _ h2 => by simp only [bind_apply, pure_apply, idx_view_nat hv hl (show j < ls.length by omega), gt_iff_lt,
      Int.ofNat_lt])
  refine ⟨r, ?_, ?_, by omega, fun k hk => Nat.le_of_not_lt (of_decide_eq_false (a3 k (Nat.zero_le _) hk)),
    fun h => of_decide_eq_true (a4 (by omega))⟩
  · simp only [Go.search, Go.len, hl]
    rw [if_pos (by omega), Int.toNat_natCast]
    exact e
  · -- on an ascending list the predicate is monotone, so the least index is the binary search's answer
    refine goSearch_unique _ _ r (fun a b hab hb ha => ?_) (by omega) (fun k hk => a3 k (Nat.zero_le _) hk)
      (fun h => a4 (by omega))
    simp only [decide_eq_true_eq] at ha ⊢
    rcases Nat.eq_or_lt_of_le hab with rfl | hlt
    · exact ha
    · have := Data.pairwise_getD srt hlt hb 0
      omega

/-- the model's answer as the opaque interface value the translation builds (`.panic` has none: `.nil` is arbitrary, the
    translated function panics there) -/
def posObj : Text.PosResult → Obj
  | .unknown => .mk "parsley.nilPosition" [0] [] []
  | .at_ name l c => .mk "text.Position" [(l : Int), (c : Int)] [name] []
  | .panic => .nil

theorem position_search_tie (st : St) (F : FactsProg.File) (f : Text.File)
    (hv : view st F.lines = f.lines.map Int.ofNat) (hl : F.lines.len = f.lines.length) (p : Nat) (hp : p ≤ f.len)
    :
    f.position p ≠ .panic ∧
    ∃ (i : Nat) (l : Nat), f.position p = .at_ f.name (i + 1) (p - l + 1) ∧ l ≤ p ∧
      Go.search (Go.len F.lines) (fun (i' : Int) => do let t ← Go.idx F.lines i'; pure (decide (t > (p : Int)))) st =
        .ok ((i : Int) + 1) st ∧
      Go.idx F.lines (i : Int) st = .ok (l : Int) st := by
  have hlen1 : 1 ≤ f.lines.length := by simp [Text.File.lines]
  obtain ⟨s, hs, hsv, s1, s2, s3⟩ := search_gt hv hl (Text.File.lines_pairwise f) p
  have hs0 : s ≠ 0 := by
    rintro rfl
    have := s3 (by omega)
    simp [Text.File.lines] at this
  obtain ⟨i, rfl⟩ : ∃ i, s = i + 1 := ⟨s - 1, by omega⟩
  have hi : i < f.lines.length := by omega
  have hle : f.lines.getD i 0 ≤ p := s2 i (Nat.lt_succ_self i)
  have hpos : f.position p = .at_ f.name (i + 1) (p - f.lines.getD i 0 + 1) := by
    simp only [Text.File.position, hsv]
    rw [if_neg (by omega), if_neg (by omega)]
    simp only [Nat.add_sub_cancel, List.getElem?_eq_getElem hi, List.getD_eq_getElem?_getD, Option.getD_some]
  have hne : f.position p ≠ .panic := by rw [hpos]; intro hh; cases hh
  exact ⟨hne, i, f.lines.getD i 0, hpos, hle, hs, idx_view_nat hv hl hi⟩

/-- the cache of line starts is either absent (nil, as NewFile leaves it) or reads as the model's line table -/
def LinesInv (st : St) (F : FactsProg.File) (f : Text.File) : Prop :=
  F.lines.isNil = true ∨
  (F.lines.isNil = false ∧ view st F.lines = f.lines.map Int.ofNat ∧ F.lines.len = f.lines.length)

end PV.ProgTie
