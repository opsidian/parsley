/-
  parsley/result_cache.go (Get, Save) — translated (nested finite maps) vs. `cacheGet`,
  `cacheSave` (a list, newest first) — and combinator.Memoize, their one caller — translated closure vs.
  `run … (.memo idx body)`.
-/
import ParsleyVerif.Proofs.CoreTieWrap
import ParsleyVerif.Proofs.CoreTieData
namespace PV.CoreTie
open PV.FactsCore

/-- the reuse test of ResultCache.Get: the loop over the keys of the stored context -/
theorem get_loop (W : World Context) (m : IntMap) (r : Result) (keys : List Int) (s : Context) :
    ResultCache_Get_loop1 W m (some r) keys s =
      .ok (if keys.all (fun key => !decide (CorePrelude.Data.IntMap_Get r.LeftRecCtx key > CorePrelude.Data.IntMap_Get m key))
        then .done () else .ret (none, false)) s := by
  induction keys with
  | nil => rfl
  | cons key rest ih =>
    by_cases h : CorePrelude.Data.IntMap_Get r.LeftRecCtx key > CorePrelude.Data.IntMap_Get m key <;>
      simp [ResultCache_Get_loop1, h, ih]

theorem cacheGet_eq (c : List CacheEntry) (idx pos : Nat) (ctx : Ctx) :
    cacheGet c idx pos ctx = match cacheFind c idx pos with
      | none => none
      | some e => if e.ctx.all (fun kv => !(kv.2 > ctx.get kv.1)) then some e else none := rfl

theorem tie_Get (W : World Context) (rc : CMap (CMap (Option Result))) (cache : List CacheEntry) (rel : CacheRel rc cache)
    (idx pos : Nat) (m : IntMap) (ctx : Ctx) (hm : CtxRel m ctx) (s : Context) :
    match cacheGet cache idx pos ctx with
    | none => ResultCache_Get W rc idx pos m s = .ok (none, false) s
    | some e => ∃ r, ResultCache_Get W rc idx pos m s = .ok (some r, true) s ∧ ResultRel r e := by
  have he := rel.entries idx pos
  rw [cacheGet_eq]
  cases hf : cacheFind cache idx pos with
  | none =>
    rw [hf] at he
    simp only [lookup] at he
    simp [ResultCache_Get, CorePrelude.Go.mapGet2, CorePrelude.Go.mapGet, he]
  | some e =>
    rw [hf] at he
    obtain ⟨r, h1, h2⟩ := he
    simp only [lookup] at h1
    have hrun : ResultCache_Get W rc idx pos m s =
        .ok (if e.ctx.all (fun kv => !(kv.2 > ctx.get kv.1)) then (some r, true) else (none, false)) s := by
      rw [← CtxRel.keysAll h2.ctx hm]
      simp only [ResultCache_Get, CorePrelude.Go.mapGet2, CorePrelude.Go.mapGet, map_default, h1, Bool.not_true,
        Bool.false_eq_true, if_false, bind_ok (deref_some r s), bind_ok (get_loop W m r _ s)]
      split <;> rfl
    rw [hrun]
    dsimp only
    by_cases hall : e.ctx.all (fun kv => !(kv.2 > ctx.get kv.1)) = true
    · rw [if_pos hall, if_pos hall]
      exact ⟨r, rfl, h2⟩
    · rw [if_neg hall, if_neg hall]

theorem cacheFind_save (c : List CacheEntry) (e : CacheEntry) (i p : Nat) :
    cacheFind (cacheSave c e) i p = if e.idx = i ∧ e.pos = p then some e else cacheFind c i p := by
  unfold cacheFind cacheSave
  by_cases h : e.idx = i ∧ e.pos = p
  · simp [List.find?_cons, h]
  · have : (e.idx == i && e.pos == p) = false := by
      cases h1 : (e.idx == i && e.pos == p) with
      | false => rfl
      | true => simp at h1; exact absurd h1 h
    simp only [List.find?_cons, this, if_neg h, List.find?_filter]
    congr 1
    funext x
    cases hx : (x.idx == i && x.pos == p) with
    | false => simp
    | true =>
      simp only [Bool.and_eq_true, beq_iff_eq] at hx
      have : ¬ x.idx = e.idx ∨ ¬ x.pos = e.pos := by
        by_cases h1 : x.idx = e.idx
        · exact .inr fun h2 => h ⟨h1 ▸ hx.1, h2 ▸ hx.2⟩
        · exact .inl h1
      simpa using this

theorem tie_Save (W : World Context) (rc : CMap (CMap (Option Result))) (cache : List CacheEntry) (rel : CacheRel rc cache)
    (r : Result) (e : CacheEntry) (hr : ResultRel r e) (s : Context) :
    ∃ rc', ResultCache_Save W rc e.idx e.pos (some r) s = .ok rc' s ∧ CacheRel rc' (cacheSave cache e) := by
  obtain ⟨h1, h2, h3⟩ := rel
  cases rc with
  | nil => simp [CorePrelude.Map.isNil] at h1
  | mk f =>
    -- the inner map under the key, as a function (empty when absent)
    obtain ⟨g, hg⟩ : ∃ g : Int → Option (Option Result), ∀ p, lookup (.mk f) e.idx p = g p := by
      cases hf : f e.idx with
      | none => exact ⟨fun _ => none, fun p => by simp [lookup, CorePrelude.Map.find, hf]⟩
      | some mm =>
        cases mm with
        | nil => exact ⟨fun _ => none, fun p => by simp [lookup, CorePrelude.Map.find, hf]⟩
        | mk g => exact ⟨g, fun p => by simp [lookup, CorePrelude.Map.find, hf]⟩
    let f' : Int → Option (CMap (Option Result)) := fun i =>
      if i = e.idx then some (.mk (fun p => if p = e.pos then some (some r) else g p)) else f i
    refine ⟨.mk f', ?_, ?_⟩
    · cases hf : f e.idx with
      | none =>
        have hg' : g = fun _ => none := by funext p; rw [← hg p]; simp [lookup, CorePrelude.Map.find, hf]
        simp only [ResultCache_Save, CorePrelude.Go.mapGet2, CorePrelude.Map.find, hf,
          CorePrelude.Go.mkMap, CorePrelude.Go.mapGet, bind_apply, pure_apply, Bool.not_false, if_true, ite_apply,
          mapSet_mk, Option.getD_some, CorePrelude.Res.ok.injEq, and_true]
        congr 1
        funext i
        by_cases hi : i = e.idx
        · simp [f', hi, hg']
        · simp [f', hi]
      | some mm =>
        have hnn := h2 e.idx mm (by simp [CorePrelude.Map.find, hf])
        cases mm with
        | nil => simp [CorePrelude.Map.isNil] at hnn
        | mk g0 =>
          have hg' : g = g0 := by funext p; rw [← hg p]; simp [lookup, CorePrelude.Map.find, hf]
          simp only [ResultCache_Save, CorePrelude.Go.mapGet2, CorePrelude.Map.find, hf,
            CorePrelude.Go.mapGet, bind_apply, pure_apply, Bool.not_true, Bool.false_eq_true, if_false, ite_apply,
            Option.getD_some, mapSet_mk, CorePrelude.Res.ok.injEq, and_true]
          congr 1
          funext i
          by_cases hi : i = e.idx
          · simp [f', hi, hg']
          · simp [f', hi]
    · refine ⟨rfl, ?_, ?_⟩
      · intro i mm hi
        simp only [CorePrelude.Map.find, f'] at hi
        by_cases hie : i = e.idx
        · simp only [hie, if_true, Option.some.injEq] at hi
          subst hi; rfl
        · simp only [hie, if_false] at hi
          exact h2 i mm (by simpa [CorePrelude.Map.find] using hi)
      · intro i p
        rw [cacheFind_save]
        by_cases hk : e.idx = i ∧ e.pos = p
        · obtain ⟨rfl, rfl⟩ := hk
          simp only [and_self, if_true]
          exact ⟨r, by simp [lookup, CorePrelude.Map.find, f'], hr⟩
        · simp only [hk, if_false]
          have hl : lookup (.mk f') i p = lookup (.mk f) i p := by
            by_cases hi : (i : Int) = e.idx
            · have hp : ¬ (p : Int) = e.pos := by
                intro hp; apply hk; constructor <;> omega
              have := hg p
              rw [← hi] at this
              simp [lookup, CorePrelude.Map.find, f', hi, hp] at this ⊢
              rw [← hi] at this ⊢
              exact this.symm
            · simp [lookup, CorePrelude.Map.find, f', hi]
          have := h3 i p
          rw [hl]
          exact this

/-- the clip of memoize.go (`nl[:len(nl):len(nl)]`) is the identity at value level; stated on the slice expression alone, so that
    the tie below does not depend on how the type test around it is written (a type switch, a comma-ok assertion, a helper) -/
theorem slice3_full {α : Type} (l : List α) (s : Context) :
    (CorePrelude.Go.slice3 l 0 (CorePrelude.Go.len l) (CorePrelude.Go.len l) : CM (List α)) s = .ok l s := by
  simp [CorePrelude.Go.slice3, CorePrelude.Go.slice, CorePrelude.Go.len]

/-- combinator.Memoize; its captured `parserIndex` is the model's memo index -/
theorem tie_Memoize (W : World Context) (cfg : Cfg) (h0 : cfg.maxCalls = 0) (hw : WorldRel W cfg) (fuel : Nat)
    (p : Parser) (g : G) (idx : Nat) (hp : Agrees W cfg fuel p g) :
    AgreesF (Memoize_parse W p (idx : Int)) cfg (fuel + 1) (.memo idx g) := by
  intro m c pos s st hm hs
  rw [run_succ0 h0, runStep]
  have hget := tie_Get W s.resultCache st.cache hs.cache idx pos m c hm s
  have hrc : Context_ResultCache W s = .ok s.resultCache s := rfl
  cases hc : cacheGet st.cache idx pos c with
  | some e =>
    rw [hc] at hget
    obtain ⟨r, e1, rr⟩ := hget
    rw [memoStep_hit cfg _ g hc]
    exact ⟨s, by simp [Memoize_parse, hrc, e1, eOut, rr.node, rr.cp, rr.err], hs.logEv cfg _⟩
  | none =>
    rw [hc] at hget
    have hg := hm.get idx
    have hrem := hw.remaining pos
    have hslack : Facts.curtailSlack = 1 := rfl
    simp only [Memoize_parse, bind_ok hrc, bind_ok hget, Context_Reader, hg, hrem]
    by_cases hcur : c.get idx > Text.remaining cfg.file pos + Facts.curtailSlack
    · rw [memoStep_curtail cfg _ g hc hcur]
      -- (the test is decided by omega from `hcur`, whichever way round the source writes it)
      simp (disch := omega) only [dec_true, dec_false]
      exact ⟨s, by simp [eOut, eSet_single, eSet], hs.logEv cfg _⟩
    · rw [memoStep_body cfg _ g hc hcur]
      simp (disch := omega) only [dec_true, dec_false]
      -- the body runs in a state that differs from `st` in ghost fields only
      have r1 : StRel s (memoEnter cfg idx pos st) :=
        (hs.of_fields (st' := { st with active := (idx, pos) :: st.active }) rfl rfl rfl).logEv cfg _
      simp only [Bool.false_eq_true, if_false]
      refine corr_iff.mpr (hp.bind (hm.inc idx) pos r1 fun o s2 st2 r2 => ?_)
      have rres : ResultRel (Result.mk (CorePrelude.Data.IntMap_Filter m (eSet o.cp)) (eSet o.cp) (eErr o.err) (eRes o.res))
          (CacheEntry.mk idx pos (c.filter o.cp) o.cp o.err o.res) :=
        ⟨rfl, rfl, rfl, hm.filter o.cp⟩
      obtain ⟨rc', e3, r3⟩ := tie_Save W s2.resultCache st2.cache r2.cache _ _ rres s2
      refine ⟨_, { s2 with resultCache := rc' }, ?_, rfl, ⟨r2.calls, r2.err, r3, r2.noTransform, r2.noStaticCheck⟩⟩
      obtain ⟨ores, ocp, oerr⟩ := o
      cases ores <;> simp only [eRes] at e3 <;> simp [eOut, slice3_full, e3]

end PV.CoreTie
