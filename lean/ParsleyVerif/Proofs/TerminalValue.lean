/-
  C08: when exactly each literal specification (`integerSpec`, `floatSpec`, `durationSpec`, `charSpec`, `quotedSpec`,
  `stringSpec`, `regexpSpec`, rune / op / word / nil / bool) answers a node / an error, and with which lexeme and value.
  For integer, float and duration one lemma states the graph of the function (every answer is one of the errors or
  the node, each with its guard); "is this node", "is this error" and "is no panic" are its three projections.  The
  only panic of `Terminal.spec` is the one leaf of `regexpSpec_cases`.
-/
import ParsleyVerif.Proofs.TerminalRange
namespace PV
open PV.Text

/-! ### the projections of a graph, once for all specification functions -/

theorem TermOut.node_of_graph {x : TermOut} {E : Err → Prop} {N : Node → Prop}
    (h : ∀ y, x = y ↔ (∃ e, y = .err e ∧ E e) ∨ ∃ n, y = .node n ∧ N n) (n : Node) : x = .node n ↔ N n := by
  rw [h]
  constructor
  · rintro (⟨_, h, _⟩ | ⟨_, h, hn⟩) <;> cases h
    exact hn
  · exact fun hn => .inr ⟨n, rfl, hn⟩

theorem TermOut.err_of_graph {x : TermOut} {E : Err → Prop} {N : Node → Prop}
    (h : ∀ y, x = y ↔ (∃ e, y = .err e ∧ E e) ∨ ∃ n, y = .node n ∧ N n) (e : Err) : x = .err e ↔ E e := by
  rw [h]
  constructor
  · rintro (⟨_, h, he⟩ | ⟨_, h, _⟩) <;> cases h
    exact he
  · exact fun he => .inl ⟨e, rfl, he⟩

theorem TermOut.ne_panic_of_graph {x : TermOut} {E : Err → Prop} {N : Node → Prop}
    (h : ∀ y, x = y ↔ (∃ e, y = .err e ∧ E e) ∨ ∃ n, y = .node n ∧ N n) (s : String) : x ≠ .panic s := by
  rw [Ne, h]
  rintro (⟨_, h, _⟩ | ⟨_, h, _⟩) <;> cases h

theorem integerSpec_graph (l : Bytes) (pos : Nat) (x : TermOut) :
    integerSpec l pos = x ↔
      (∃ e, x = .err e ∧
        ((e = ⟨pos, .notFound (tokOf "integer value")⟩ ∧
          (integerMatch l = none ∨ ∃ k, integerMatch l = some k ∧ (l.drop k).head? = some 46)) ∨
        (e = ⟨pos, .other (tokOf "invalid integer value")⟩ ∧
          ∃ k, integerMatch l = some k ∧ (l.drop k).head? ≠ some 46 ∧ parseInt0 (l.take k) = none))) ∨
      ∃ n, x = .node n ∧
        ∃ k v, integerMatch l = some k ∧ (l.drop k).head? ≠ some 46 ∧ parseInt0 (l.take k) = some v ∧
          n = .term (tokOf "INTEGER") (.int v) pos (pos + k) := by
  unfold integerSpec
  constructor
  · intro h
    split at h
    · rename_i hm
      exact .inl ⟨_, h.symm, .inl ⟨rfl, .inl hm⟩⟩
    · rename_i k hm
      split at h
      · rename_i hd
        exact .inl ⟨_, h.symm, .inl ⟨rfl, .inr ⟨k, hm, hd⟩⟩⟩
      · rename_i hd
        split at h
        · rename_i hp
          exact .inl ⟨_, h.symm, .inr ⟨rfl, k, hm, hd, hp⟩⟩
        · rename_i v hp
          exact .inr ⟨_, h.symm, k, v, hm, hd, hp, rfl⟩
  · rintro (⟨e, rfl, ⟨rfl, hm | ⟨k, hm, hd⟩⟩ | ⟨rfl, k, hm, hd, hp⟩⟩ | ⟨n, rfl, k, v, hm, hd, hp, rfl⟩)
    · rw [hm]; rfl
    · rw [hm]; simp only []; rw [if_pos hd]; rfl
    · rw [hm]; simp only []; rw [if_neg hd, hp]; rfl
    · rw [hm]; simp only []; rw [if_neg hd, hp]

theorem integerSpec_node (l : Bytes) (pos : Nat) (n : Node) :
    integerSpec l pos = .node n ↔
      ∃ k v, integerMatch l = some k ∧ (l.drop k).head? ≠ some 46 ∧ parseInt0 (l.take k) = some v ∧
        n = .term (tokOf "INTEGER") (.int v) pos (pos + k) :=
  TermOut.node_of_graph (integerSpec_graph l pos) n

theorem floatSpec_graph (P : Params) (l : Bytes) (pos : Nat) (x : TermOut) :
    floatSpec P l pos = x ↔
      (∃ e, x = .err e ∧
        ((e = ⟨pos, .notFound (tokOf "float value")⟩ ∧ floatMatch l = none) ∨
        (e = ⟨pos, .other (tokOf "invalid float value")⟩ ∧
          ∃ k, floatMatch l = some k ∧ P.floatOk (l.take k) = false))) ∨
      ∃ n, x = .node n ∧
        ∃ k, floatMatch l = some k ∧ P.floatOk (l.take k) = true ∧
          n = .term (tokOf "FLOAT") (.float (l.take k)) pos (pos + k) := by
  unfold floatSpec
  constructor
  · intro h
    split at h
    · rename_i hm
      exact .inl ⟨_, h.symm, .inl ⟨rfl, hm⟩⟩
    · rename_i k hm
      split at h
      · rename_i hd
        exact .inr ⟨_, h.symm, k, hm, hd, rfl⟩
      · rename_i hd
        exact .inl ⟨_, h.symm, .inr ⟨rfl, k, hm, eq_false_of_ne_true hd⟩⟩
  · rintro (⟨e, rfl, ⟨rfl, hm⟩ | ⟨rfl, k, hm, hd⟩⟩ | ⟨n, rfl, k, hm, hd, rfl⟩)
    · rw [hm]; rfl
    · rw [hm]; simp only []; rw [hd]; rfl
    · rw [hm]; simp only []; rw [hd]; rfl

theorem floatSpec_node (P : Params) (l : Bytes) (pos : Nat) (n : Node) :
    floatSpec P l pos = .node n ↔
      ∃ k, floatMatch l = some k ∧ P.floatOk (l.take k) = true ∧
        n = .term (tokOf "FLOAT") (.float (l.take k)) pos (pos + k) :=
  TermOut.node_of_graph (floatSpec_graph P l pos) n

theorem durationSpec_graph (P : Params) (l : Bytes) (pos : Nat) (x : TermOut) :
    durationSpec P l pos = x ↔
      (∃ e, x = .err e ∧
        ((e = ⟨pos, .notFound (tokOf "time duration")⟩ ∧ durationMatch l = none) ∨
        (∃ k msg, durationMatch l = some k ∧ P.durErr (l.take k) = some msg ∧ e = ⟨pos, .other msg⟩))) ∨
      ∃ n, x = .node n ∧
        ∃ k, durationMatch l = some k ∧ P.durErr (l.take k) = none ∧
          n = .term (tokOf "TIME_DURATION") (.dur (l.take k)) pos (pos + k) := by
  unfold durationSpec
  constructor
  · intro h
    split at h
    · rename_i hm
      exact .inl ⟨_, h.symm, .inl ⟨rfl, hm⟩⟩
    · rename_i k hm
      split at h
      · rename_i hd
        exact .inr ⟨_, h.symm, k, hm, hd, rfl⟩
      · rename_i msg hd
        exact .inl ⟨_, h.symm, .inr ⟨k, msg, hm, hd, rfl⟩⟩
  · rintro (⟨e, rfl, ⟨rfl, hm⟩ | ⟨k, msg, hm, hd, rfl⟩⟩ | ⟨n, rfl, k, hm, hd, rfl⟩)
    · rw [hm]; rfl
    · rw [hm]; simp only []; rw [hd]
    · rw [hm]; simp only []; rw [hd]

theorem charSpec_node (l : Bytes) (pos : Nat) (n : Node) :
    charSpec l pos = .node n ↔
      ∃ r k v, l = 39 :: r ∧ charMatch r = some k ∧ (r.drop k).head? = some 39 ∧ Lang.charValue (r.take k) = some v ∧
        n = .term (tokOf "CHAR") (.rune v) pos (pos + 1 + k + 1) := by
  unfold charSpec
  constructor
  · intro h
    split at h
    · rename_i r
      split at h
      · simp only [other, reduceCtorEq] at h
      · rename_i k hm
        split at h
        · rename_i hd
          split at h
          · rename_i v hu
            simp only [TermOut.node.injEq] at h
            exact ⟨r, k, v, rfl, hm, hd, (unquoteChar_charValue _ v).mp hu, h.symm⟩
          · simp only [other, reduceCtorEq] at h
        · simp only [other, reduceCtorEq] at h
    · simp only [nf, reduceCtorEq] at h
  · rintro ⟨r, k, v, hl, hm, hd, hv, hn⟩
    subst hl
    simp only []
    rw [hm]
    simp only []
    rw [if_pos hd, (unquoteChar_charValue _ v).mpr hv, hn]

/-! `stringSpec` is `quotedSpec` behind an opening quote it accepts, or "not found" -/

theorem quotedSpec_node (q : Nat) (body : Bytes → Option Bytes × Nat) (r : Bytes) (pos : Nat) (n : Node) :
    quotedSpec q body r pos = .node n ↔
      (r.head? = some q ∧ n = .term (tokOf "STRING") (.str []) pos (pos + 2)) ∨
      (r.head? ≠ some q ∧ r ≠ [] ∧
        ∃ v k, body r = (v, k) ∧ (r.drop k).head? = some q ∧
          n = .term (tokOf "STRING") (.str (v.getD [])) pos (pos + 1 + k + 1)) := by
  unfold quotedSpec
  by_cases hd : r.head? = some q
  · rw [if_pos hd]
    exact ⟨fun h => .inl ⟨hd, by cases h; rfl⟩, fun h => h.elim (fun h => by rw [h.2]) (fun h => absurd hd h.1)⟩
  · rw [if_neg hd]
    refine ⟨fun h => .inr ⟨hd, ?_⟩, fun h => ?_⟩
    · by_cases hr : r = []
      · rw [if_pos hr] at h; subst hr; cases h
      · rw [if_neg hr] at h
        simp only [] at h
        split at h
        · rename_i h2; cases h; exact ⟨hr, _, _, rfl, h2, rfl⟩
        · cases h
    · obtain ⟨_, hr, v, k, hb, h2, rfl⟩ := h.resolve_left (fun h => hd h.1)
      rw [if_neg hr, hb]
      exact if_pos h2

theorem stringSpec_cases (bq : Bool) (l : Bytes) (pos : Nat) :
    (∃ q r body, l = q :: r ∧ (q = 34 ∨ (q = 96 ∧ bq = true)) ∧
        body r = (if q = 34 then Lang.strBody r else backquoteBody r) ∧
        stringSpec bq l pos = quotedSpec q body r pos) ∨
    ((∀ q r, l = q :: r → ¬ (q = 34 ∨ (q = 96 ∧ bq = true))) ∧ stringSpec bq l pos = nf pos (tokOf "string literal")) := by
  unfold stringSpec
  split
  · rename_i r
    exact .inl ⟨34, r, unquoteString, rfl, .inl rfl, unquoteString_eq r, rfl⟩
  · rename_i r
    by_cases hb : bq = true
    · rw [if_pos hb]
      exact .inl ⟨96, r, backquoteBody, rfl, .inr ⟨rfl, hb⟩, rfl, rfl⟩
    · rw [if_neg hb]
      refine .inr ⟨fun q r' hl hq => ?_, rfl⟩
      cases hl
      exact hq.elim (fun h => by cases h) (fun h => hb h.2)
  · rename_i h1 h2
    exact .inr ⟨fun q r hl hq => hq.elim (fun h => h1 r (h ▸ hl)) (fun h => h2 r (h.1 ▸ hl)), rfl⟩

theorem stringSpec_node (bq : Bool) (l : Bytes) (pos : Nat) (n : Node) :
    stringSpec bq l pos = .node n ↔
      ∃ q r, l = q :: r ∧ (q = 34 ∨ (q = 96 ∧ bq = true)) ∧
        ((r.head? = some q ∧ n = .term (tokOf "STRING") (.str []) pos (pos + 2)) ∨
         (r.head? ≠ some q ∧ r ≠ [] ∧
          ∃ v k, (if q = 34 then Lang.strBody r else backquoteBody r) = (v, k) ∧ (r.drop k).head? = some q ∧
            n = .term (tokOf "STRING") (.str (v.getD [])) pos (pos + 1 + k + 1))) := by
  rcases stringSpec_cases bq l pos with ⟨q, r, body, hl, hq, hb, e⟩ | ⟨hno, e⟩
  · rw [e, quotedSpec_node, hb]
    refine ⟨fun h => ⟨q, r, hl, hq, h⟩, ?_⟩
    rintro ⟨q', r', hl', _, h⟩
    rw [hl] at hl'; cases hl'; exact h
  · rw [e]
    refine ⟨fun h => (nomatch h), ?_⟩
    rintro ⟨q, r, hl, hq, _⟩
    exact absurd hq (hno q r hl)

theorem regexpSpec_cases (P : Params) (id : Nat) (tok name : Bytes) (g : Bool) (l : Bytes) (pos : Nat) (x : TermOut)
    (h : regexpSpec P id tok name g l pos = x) :
    ((l = [] ∨ P.regexp id l = none) ∧ x = nf pos name) ∨
    (l ≠ [] ∧ ∃ m gv, P.regexp id l = some (m, gv) ∧
      ((g = false ∧ x = .node (.term tok (.str (l.take m)) pos (pos + m))) ∨
       (g = true ∧ ((∃ gb, gv = some gb ∧ x = .node (.term tok (.str gb) pos (pos + m))) ∨
        (gv = none ∧ x = .panic "Capturing group is invalid"))))) := by
  unfold regexpSpec at h
  split at h
  · rename_i hl
    exact .inl ⟨.inl hl, h.symm⟩
  · rename_i hl
    split at h
    · rename_i hp
      exact .inl ⟨.inr hp, h.symm⟩
    · rename_i m gv hp
      refine .inr ⟨hl, m, gv, hp, ?_⟩
      cases g with
      | false => exact .inl ⟨rfl, h.symm⟩
      | true =>
        cases gv with
        | none => exact .inr ⟨rfl, .inr ⟨rfl, h.symm⟩⟩
        | some gb => exact .inr ⟨rfl, .inl ⟨gb, rfl, h.symm⟩⟩

theorem regexpSpec_node (P : Params) (id : Nat) (tok name : Bytes) (g : Bool) (l : Bytes) (pos : Nat) (n : Node) :
    regexpSpec P id tok name g l pos = .node n ↔
      l ≠ [] ∧ ∃ m gv, P.regexp id l = some (m, gv) ∧
        ((g = false ∧ n = .term tok (.str (l.take m)) pos (pos + m)) ∨
         (g = true ∧ ∃ gb, gv = some gb ∧ n = .term tok (.str gb) pos (pos + m))) := by
  constructor
  · intro h
    rcases regexpSpec_cases P id tok name g l pos _ h with
      ⟨_, e⟩ | ⟨hl, m, gv, hp, ⟨hg, e⟩ | ⟨hg, ⟨gb, hgb, e⟩ | ⟨_, e⟩⟩⟩ <;> cases e
    · exact ⟨hl, m, gv, hp, .inl ⟨hg, rfl⟩⟩
    · exact ⟨hl, m, gv, hp, .inr ⟨hg, gb, hgb, rfl⟩⟩
  · rintro ⟨hl, m, gv, hp, ⟨rfl, rfl⟩ | ⟨rfl, gb, rfl, rfl⟩⟩ <;>
      · unfold regexpSpec
        rw [if_neg hl, hp]
        rfl

theorem regexpSpec_panic (P : Params) (id : Nat) (tok name : Bytes) (g : Bool) (l : Bytes) (pos : Nat) (s : String)
    (h : regexpSpec P id tok name g l pos = .panic s) :
    s = "Capturing group is invalid" ∧ g = true ∧ l ≠ [] ∧ ∃ m, P.regexp id l = some (m, none) := by
  rcases regexpSpec_cases P id tok name g l pos _ h with
    ⟨_, e⟩ | ⟨hl, m, gv, hp, ⟨_, e⟩ | ⟨hg, ⟨_, _, e⟩ | ⟨rfl, e⟩⟩⟩ <;> cases e
  exact ⟨rfl, hg, hl, m, hp⟩

theorem ite_node_iff (c : Prop) [Decidable c] (a : Node) (name : Bytes) (pos : Nat) (n : Node) :
    (if c then TermOut.node a else nf pos name) = .node n ↔ c ∧ n = a := by
  by_cases hc : c
  · rw [if_pos hc]; simp only [TermOut.node.injEq]; exact ⟨fun h => ⟨hc, h.symm⟩, fun h => h.2.symm⟩
  · rw [if_neg hc]; simp only [nf, reduceCtorEq, false_iff]; exact fun h => hc h.1

theorem spec_rune_node (P : Params) (l : Bytes) (pos ch : Nat) (name : Bytes) (n : Node) :
    Terminal.spec P l pos (.rune ch name) = .node n ↔
      ∃ w, runeW ch l = some w ∧ n = .term (Utf8.encodeRune ch) (.rune ch) pos (pos + w) := by
  simp only [Terminal.spec]
  cases hw : runeW ch l with
  | none => simp only [nf, reduceCtorEq, false_and, exists_false]
  | some w =>
    simp only [TermOut.node.injEq, Option.some.injEq]
    exact ⟨fun h => ⟨w, rfl, h.symm⟩, fun ⟨w', h1, h2⟩ => by subst h1; exact h2.symm⟩

theorem spec_op_node (P : Params) (l : Bytes) (pos : Nat) (s name : Bytes) (n : Node) :
    Terminal.spec P l pos (.op s name) = .node n ↔ s <+: l ∧ n = .term s (.str s) pos (pos + s.length) := by
  simp only [Terminal.spec]; exact ite_node_iff _ _ _ _ _

theorem spec_word_node (P : Params) (l : Bytes) (pos : Nat) (w : Bytes) (v : Nat) (name : Bytes) (n : Node) :
    Terminal.spec P l pos (.word w v name) = .node n ↔
      wordAt w l = true ∧ n = .term (upperAscii w) (.opaque v) pos (pos + w.length) := by
  simp only [Terminal.spec]; exact ite_node_iff _ _ _ _ _

theorem spec_nil_node (P : Params) (l : Bytes) (pos : Nat) (w : Bytes) (n : Node) :
    Terminal.spec P l pos (.nil w) = .node n ↔ wordAt w l = true ∧ n = .term (tokOf "NIL") .nil pos (pos + w.length) := by
  simp only [Terminal.spec]; exact ite_node_iff _ _ _ _ _

theorem spec_bool_node (P : Params) (l : Bytes) (pos : Nat) (t e : Bytes) (n : Node) :
    Terminal.spec P l pos (.bool t e) = .node n ↔
      (wordAt t l = true ∧ n = .term (tokOf "BOOL") (.bool true) pos (pos + t.length)) ∨
      (wordAt t l = false ∧ wordAt e l = true ∧ n = .term (tokOf "BOOL") (.bool false) pos (pos + e.length)) := by
  simp only [Terminal.spec]
  by_cases ht : wordAt t l = true
  · rw [if_pos ht]
    simp only [TermOut.node.injEq]
    constructor
    · intro h; exact Or.inl ⟨ht, h.symm⟩
    · rintro (⟨_, h⟩ | ⟨h, _⟩)
      · exact h.symm
      · rw [ht] at h; cases h
  · rw [if_neg ht]
    rw [ite_node_iff]
    constructor
    · intro h; exact Or.inr ⟨eq_false_of_ne_true ht, h⟩
    · rintro (⟨h, _⟩ | ⟨_, h⟩)
      · exact absurd h ht
      · exact h

theorem quotedSpec_ne_panic (q : Nat) (body : Bytes → Option Bytes × Nat) (r : Bytes) (pos : Nat) (s : String) :
    quotedSpec q body r pos ≠ .panic s := by
  intro h
  unfold quotedSpec at h
  repeat' split at h
  all_goals cases h

/-- the only panic `Terminal.spec` contains is the documented one of terminal.Regexp: the expression matched, a group was
    asked for, and the engine has none with that index -/
theorem Terminal.spec_panic (P : Params) (l : Bytes) (pos : Nat) (t : Terminal) (s : String)
    (h : Terminal.spec P l pos t = .panic s) :
    s = "Capturing group is invalid" ∧ ∃ id tok name m, t = .regexp id tok name true ∧ l ≠ [] ∧ P.regexp id l = some (m, none) := by
  cases t with
  | regexp id tok name g =>
    obtain ⟨rfl, rfl, hl, m, hp⟩ := regexpSpec_panic P id tok name g l pos s h
    exact ⟨rfl, id, tok, name, m, rfl, hl, hp⟩
  | integer => exact absurd h (TermOut.ne_panic_of_graph (integerSpec_graph l pos) s)
  | float => exact absurd h (TermOut.ne_panic_of_graph (floatSpec_graph P l pos) s)
  | duration => exact absurd h (TermOut.ne_panic_of_graph (durationSpec_graph P l pos) s)
  | string bq =>
    rcases stringSpec_cases bq l pos with ⟨q, r, body, _, _, _, e⟩ | ⟨_, e⟩
    · exact absurd (e.symm.trans h) (quotedSpec_ne_panic q body r pos s)
    · cases e.symm.trans h
  | char =>
    simp only [Terminal.spec, charSpec, nf, other] at h
    repeat' split at h
    all_goals cases h
  | bool a b => simp only [Terminal.spec] at h; split at h; cases h; split at h <;> cases h
  | _ => simp only [Terminal.spec] at h; split at h <;> cases h

end PV
