/-
  C08: on its domain every terminal of Model/Terminal.lean answers exactly `Terminal.spec` (Spec/TerminalSpec.lean)
  applied to the bytes from the position to the end of the file (`parse_eq_spec`); decoding against the UTF-8
  encoding of a given rune (`decode_of_prefix`, `prefix_of_decode`: under `c08_rune_*`).  (Where the answers are positioned:
  `Terminal.parse_within`, Proofs/TermProgram.lean; which of them are panics: `Terminal.spec_panic`,
  Proofs/TerminalValue.lean.)
-/
import ParsleyVerif.Proofs.TerminalString
import ParsleyVerif.Proofs.TermProgram
import ParsleyVerif.Proofs.LangChar
import ParsleyVerif.Proofs.LangDuration
namespace PV
open PV.Text

/-- for `integerMatch`, `floatMatch`, `durationMatch`, `charMatch`, `backquoteMatch` through their `*_eq_longest` -/
theorem le_of_eq_longest {m : Bytes → Option Nat} {L : Bytes → Bool} (he : ∀ l, m l = Lang.longestPrefix L l)
    (l : Bytes) (k : Nat) (h : m l = some k) : k ≤ l.length :=
  longestPrefix_le (he l ▸ h)

theorem wordAt_iff (w l : Bytes) :
    wordAt w l = true ↔ (w <+: l ∧ ((l.drop w.length).head?.all (fun d => !isWordByte d)) = true) := by
  unfold wordAt; simp

theorem matchWord_eq (f : File) (pos : Nat) (w : Bytes) (h : InFile f pos) (hw : w ≠ []) (ha : ∀ b ∈ w, b < 0x80) :
    matchWord f pos w = some (if wordAt w (rest f pos) then (pos + w.length, true) else (pos, false)) := by
  rw [matchWord_spec f pos w h hw ha]
  by_cases hc : wordAt w (rest f pos) = true
  · rw [if_pos hc, if_pos ((wordAt_iff _ _).mp hc)]
  · rw [if_neg hc, if_neg (fun hh => hc ((wordAt_iff _ _).mpr hh))]

theorem readRegexp_eq (engine : Bytes → Option Nat) (f : File) (pos : Nat) (h : InFile f pos)
    (hc : ∀ r m, engine r = some m → m ≤ r.length) (he : engine [] = none) :
    readRegexp engine f pos = some (match engine (rest f pos) with
      | none => (pos, none)
      | some m => (pos + m, some ((rest f pos).take m))) := by
  rw [readRegexp_spec engine f pos h hc]
  by_cases hr : rest f pos = []
  · rw [if_pos hr, hr, he]
  · rw [if_neg hr]; rfl

theorem head_ascii (f : File) (pos ch : Nat) (h : InFile f pos) (hc : ch < 0x80) :
    readRune f pos ch = some (if (rest f pos).head? = some ch then (pos + 1, true) else (pos, false)) :=
  readRune_ascii f pos ch h hc

theorem parse_integer (P : Params) (f : File) (pos : Nat) (h : InFile f pos) :
    Terminal.parse P f .integer pos = integerSpec (rest f pos) pos := by
  simp only [Terminal.parse, integerSpec]
  rw [readRegexp_eq integerMatch f pos h (le_of_eq_longest integerMatch_eq_longest) rfl]
  cases hm : integerMatch (rest f pos) with
  | none => rfl
  | some k =>
    simp only []
    have hk := (le_of_eq_longest integerMatch_eq_longest) _ _ hm
    rw [readRune_ascii f (pos + k) 46 (inFile_advance h hk) (by omega), rest_advance h k]
    by_cases hd : ((rest f pos).drop k).head? = some 46
    · rw [if_pos hd, if_pos hd]
    · rw [if_neg hd, if_neg hd]; rfl

theorem parse_regexp (P : Params) (f : File) (pos id : Nat) (tok name : Bytes) (g : Bool) (h : InFile f pos)
    (hl : P.LenOk (.regexp id tok name g)) :
    Terminal.parse P f (.regexp id tok name g) pos = regexpSpec P id tok name g (rest f pos) pos := by
  simp only [Terminal.parse, regexpSpec]
  have hc : ∀ r m, (fun rest => (P.regexp id rest).map (·.1)) r = some m → m ≤ r.length := by
    intro r m hm
    simp only [Option.map_eq_some_iff] at hm
    obtain ⟨⟨m', g'⟩, h1, h2⟩ := hm
    cases h2
    exact hl r m' g' h1
  rw [readRegexp_spec _ f pos h hc]
  by_cases hr : rest f pos = []
  · rw [if_pos hr, if_pos hr]
  · rw [if_neg hr, if_neg hr]
    cases hp : P.regexp id (rest f pos) with
    | none => rfl
    | some p =>
      obtain ⟨m, gv⟩ := p
      simp only [Option.map_some]
      cases g with
      | false => rfl
      | true =>
        have : List.drop (pos - f.offset) f.data = rest f pos := rfl
        simp only [if_true, this, hp]
        cases gv <;> rfl

theorem parse_char (P : Params) (f : File) (pos : Nat) (h : InFile f pos) :
    Terminal.parse P f .char pos = charSpec (rest f pos) pos := by
  simp only [Terminal.parse]
  rw [readRune_ascii f pos 39 h (by omega)]
  cases hl : rest f pos with
  | nil => rfl
  | cons c r =>
    by_cases hc : c = 39
    · subst hc
      simp only [List.head?_cons, if_true, charSpec]
      have h1 : InFile f (pos + 1) := inFile_advance h (by rw [hl]; simp)
      have hr1 : rest f (pos + 1) = r := by rw [rest_advance h 1, hl]; rfl
      rw [readRegexp_eq charMatch f (pos + 1) h1 (le_of_eq_longest charMatch_eq_longest) rfl, hr1]
      cases hm : charMatch r with
      | none => rfl
      | some k =>
        simp only []
        have hk := (le_of_eq_longest charMatch_eq_longest) _ _ hm
        have h2 : InFile f (pos + 1 + k) := inFile_advance h1 (by rw [hr1]; exact hk)
        rw [readRune_ascii f (pos + 1 + k) 39 h2 (by omega), rest_advance h1 k, hr1]
        by_cases hd : (r.drop k).head? = some 39
        · rw [if_pos hd, if_pos hd]; rfl
        · rw [if_neg hd, if_neg hd]
    · have : (c :: r).head? ≠ some 39 := by simp [hc]
      rw [if_neg this]
      show nf pos (tokOf "char literal") = _
      unfold charSpec
      split
      · rename_i heq; cases heq; exact absurd rfl hc
      · rfl

theorem readBody_eq (f : File) (p : Nat) (q : Nat) (hq : q = 34 ∨ q = 96) (h : InFile f p) :
    (if q = 96 then readRegexp backquoteMatch f p else readf unquoteString f p) =
      some (p + ((if rest f p = [] then (none, 0) else (if q = 96 then backquoteBody else unquoteString) (rest f p)) : Option Bytes × Nat).2,
            ((if rest f p = [] then (none, 0) else (if q = 96 then backquoteBody else unquoteString) (rest f p)) : Option Bytes × Nat).1) := by
  rcases hq with hq | hq
  · subst hq
    simp only [show ¬ (34 = 96) by omega, if_false]
    rw [readf_spec unquoteString f p h]
    by_cases hr : rest f p = []
    · rw [if_pos hr, if_pos hr]; rfl
    · rw [if_neg hr, if_neg hr]
      obtain ⟨c1, c2, c3⟩ := unquoteString_contract (rest f p) hr
      rcases c3 with ⟨c3, c4⟩ | ⟨c3, c4⟩
      · rw [if_pos c4, c3, c4]; rfl
      · rw [if_neg (by omega), if_neg (by omega)]
  · subst hq
    simp only [if_true]
    rw [readRegexp_eq backquoteMatch f p h (le_of_eq_longest backquoteMatch_eq_longest) rfl]
    by_cases hr : rest f p = []
    · rw [if_pos hr, hr]; rfl
    · rw [if_neg hr]
      unfold backquoteBody
      cases backquoteMatch (rest f p) <;> rfl

theorem body_le (q : Nat) (r : Bytes) :
    ((if r = [] then (none, 0) else (if q = 96 then backquoteBody else unquoteString) r) : Option Bytes × Nat).2 ≤ r.length := by
  by_cases hr : r = []
  · rw [if_pos hr]; simp
  · rw [if_neg hr]
    by_cases hq : q = 96
    · rw [if_pos hq]
      unfold backquoteBody
      cases hm : backquoteMatch r with
      | none => simp
      | some n => exact (le_of_eq_longest backquoteMatch_eq_longest) r n hm
    · rw [if_neg hq]
      exact (unquoteString_contract r hr).1

theorem quoted_eq (f : File) (pos q : Nat) (r : Bytes) (h : InFile f pos) (hl : rest f pos = q :: r)
    (hq : q = 34 ∨ q = 96) :
    (Rd.quoted q).run f pos (pos + 1) = quotedSpec q (if q = 96 then backquoteBody else unquoteString) r pos := by
  have hq80 : q < 0x80 := by omega
  have h1 : InFile f (pos + 1) := inFile_advance h (by rw [hl]; simp)
  have hr1 : rest f (pos + 1) = r := by rw [rest_advance h 1, hl]; rfl
  have body : (if q = 96 then Prim.regexp backquoteMatch else Prim.readf unquoteString).run f (pos + 1) =
      if q = 96 then readRegexp backquoteMatch f (pos + 1) else readf unquoteString f (pos + 1) := by split <;> rfl
  simp only [Rd.quoted, Rd.run, Prim.run, quotedSpec]
  rw [readRune_ascii f (pos + 1) q h1 hq80, hr1]
  by_cases hd : r.head? = some q
  · rw [if_pos hd, if_pos hd]; rfl
  · rw [if_neg hd, if_neg hd]
    simp only [Rd.run]
    rw [body, readBody_eq f (pos + 1) q hq h1, hr1]
    have hn := body_le q r
    generalize ((if r = [] then (none, 0) else (if q = 96 then backquoteBody else unquoteString) r) : Option Bytes × Nat) = vn at hn
    obtain ⟨v, n⟩ := vn
    simp only [Prim.run] at hn ⊢
    have h2 : InFile f (pos + 1 + n) := inFile_advance h1 (by rw [hr1]; exact hn)
    rw [readRune_ascii f (pos + 1 + n) q h2 hq80, rest_advance h1 n, hr1]
    by_cases hd2 : (r.drop n).head? = some q
    · rw [if_pos hd2, if_pos hd2]; rfl
    · rw [if_neg hd2, if_neg hd2]; rfl

theorem parse_string (P : Params) (f : File) (pos : Nat) (bq : Bool) (h : InFile f pos) :
    Terminal.parse P f (.string bq) pos = stringSpec bq (rest f pos) pos := by
  rw [Terminal.parse_eq_run]
  simp only [Terminal.reads, Rd.run, Prim.run]
  rw [readRune_ascii f pos 34 h (by omega)]
  cases hl : rest f pos with
  | nil =>
    cases bq
    · rfl
    · simp only [List.head?_nil, reduceCtorEq, if_false, if_true, Rd.run, Prim.run]
      rw [readRune_ascii f pos 96 h (by omega), hl]
      rfl
  | cons c r =>
    by_cases hc : c = 34
    · subst hc
      simp only [List.head?_cons, if_true]
      exact quoted_eq f pos 34 r h hl (Or.inl rfl)
    · have n1 : (c :: r).head? ≠ some 34 := by simp [hc]
      rw [if_neg n1]
      by_cases hc2 : c = 96
      · subst hc2
        cases bq with
        | false => rfl
        | true =>
          simp only [if_true, Rd.run, Prim.run]
          rw [readRune_ascii f pos 96 h (by omega), hl]
          simp only [List.head?_cons, if_true]
          exact quoted_eq f pos 96 r h hl (Or.inr rfl)
      · have : stringSpec bq (c :: r) pos = nf pos (tokOf "string literal") := by
          unfold stringSpec
          split
          · rename_i heq; cases heq; exact absurd rfl hc
          · rename_i heq; cases heq; exact absurd rfl hc2
          · rfl
        rw [this]
        cases bq
        · rfl
        · have n2 : (c :: r).head? ≠ some 96 := by simp [hc2]
          simp only [if_true, Rd.run, Prim.run]
          rw [readRune_ascii f pos 96 h (by omega), hl, if_neg n2]
          rfl

theorem parse_eq_spec (P : Params) (f : File) (t : Terminal) (pos : Nat) (h : InFile f pos) (wf : t.WF) (hl : P.LenOk t) :
    Terminal.parse P f t pos = Terminal.spec P (rest f pos) pos t := by
  cases t with
  | rune ch name =>
    simp only [Terminal.parse, Terminal.spec]
    rw [readRune_eq f pos ch h]
    cases runeW ch (rest f pos) <;> rfl
  | op s name =>
    simp only [Terminal.parse, Terminal.spec]
    rw [matchString_spec f pos s h wf]
    by_cases hp : s <+: rest f pos <;> simp only [hp, if_true, if_false]
  | word w v name =>
    simp only [Terminal.parse, Terminal.spec]
    rw [matchWord_eq f pos w h wf.1 wf.2]
    cases wordAt w (rest f pos) <;> rfl
  | nil s =>
    simp only [Terminal.parse, Terminal.spec]
    rw [matchWord_eq f pos s h wf.1 wf.2]
    cases wordAt s (rest f pos) <;> rfl
  | bool t e =>
    simp only [Terminal.parse, Terminal.spec]
    rw [matchWord_eq f pos t h wf.1.1 wf.1.2, matchWord_eq f pos e h wf.2.1 wf.2.2]
    cases wordAt t (rest f pos) <;> cases wordAt e (rest f pos) <;> rfl
  | integer => exact parse_integer P f pos h
  | float =>
    simp only [Terminal.parse, Terminal.spec, floatSpec]
    rw [readRegexp_eq floatMatch f pos h (le_of_eq_longest floatMatch_eq_longest) rfl]
    cases floatMatch (rest f pos) <;> rfl
  | duration =>
    simp only [Terminal.parse, Terminal.spec, durationSpec]
    rw [readRegexp_eq durationMatch f pos h (le_of_eq_longest durationMatch_eq_longest) rfl]
    cases durationMatch (rest f pos) <;> rfl
  | string bq => exact parse_string P f pos bq h
  | char => exact parse_char P f pos h
  | regexp id tok name g => exact parse_regexp P f pos id tok name g h hl

/-! ### decoding against the encoding of a given rune -/

theorem runeError_valid : Utf8.ValidScalar Utf8.runeError := by
  unfold Utf8.ValidScalar Utf8.runeError; omega

/-- the encoding of a scalar value at the head of the input is decoded to it -/
theorem decode_of_prefix {ch : Nat} {l : Bytes} (hv : Utf8.ValidScalar ch) (hp : Utf8.encodeRune ch <+: l) :
    l ≠ [] ∧ Utf8.decodeRune l = (ch, (Utf8.encodeRune ch).length) := by
  obtain ⟨t, rfl⟩ := hp
  refine ⟨fun h0 => ?_, Utf8.decode_encode ch t hv⟩
  have h1 := (Utf8.encodeRune_length ch).1
  rw [(List.append_eq_nil_iff.1 h0).1] at h1
  exact Nat.not_succ_le_zero _ h1

theorem prefix_of_decode {ch : Nat} {l : Bytes} (hl : l ≠ []) (hd : (Utf8.decodeRune l).1 = ch) :
    (ch = Utf8.runeError ∧ Utf8.decodeRune l = (Utf8.runeError, 1)) ∨ (Utf8.ValidScalar ch ∧ Utf8.encodeRune ch <+: l) := by
  cases Utf8.decodeRune_decoded l hl with
  | invalid hi => exact Or.inl ⟨by rw [← hd, hi], hi⟩
  | valid h1 h2 =>
    rw [hd] at h1 h2
    exact Or.inr ⟨h1, l.drop (Utf8.decodeRune l).2, by rw [← h2]; exact List.take_append_drop _ _⟩

end PV
