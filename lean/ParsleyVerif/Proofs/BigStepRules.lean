/-
  What the big-step semantics says about the trees of a Sequence-family parser (the longest-path rule,
  made visible), and its link to the monotone reading `Derives`: every exact result is a derivation.
-/
import ParsleyVerif.Proofs.BigStepFun
import ParsleyVerif.Spec.Derives
import ParsleyVerif.Proofs.RunBasics
import ParsleyVerif.Proofs.RunSound
namespace PV
open PV.Text

namespace Big

/-- a chain of results of the elements `d, d+1, …` of the sequence from position `p`, each an alternative of the
    EXACT result of its element at the position where the previous one ended -/
def Chain (cfg : Cfg) (sh : SeqShape) : Nat → Nat → List Node → Prop
  | _, _, [] => True
  | d, p, n :: rest => (∃ g R e, sh.lookup d = some g ∧ Big cfg g p R e ∧ n ∈ R.alts) ∧ Chain cfg sh (d + 1) n.rpos rest

/-- a chain of length `d` that ends at `p` cannot be extended: there is no element `d`, or it yields nothing -/
def Blocked (cfg : Cfg) (sh : SeqShape) (d p : Nat) : Prop :=
  sh.lookup d = none ∨ ∃ g e, sh.lookup d = some g ∧ Big cfg g p .nil e

/-- `x` is the tree of a chain that extends `nodes`, has an accepted length and cannot be extended -/
def Maximal (cfg : Cfg) (sh : SeqShape) (depth : Nat) (nodes : List Node) (pos : Nat) (x : Node) : Prop :=
  ∃ ext, x = handleResult sh (endOf pos ext) (nodes ++ ext) ∧ Chain cfg sh depth pos ext ∧
    sh.lenCheck (depth + ext.length) = true ∧ Blocked cfg sh (depth + ext.length) (endOf pos ext)

theorem Maximal.cons {cfg : Cfg} {sh : SeqShape} {depth : Nat} {nodes : List Node} {pos : Nat} {x n : Node}
    {g : G} {R : Res} {e : Bool} (hl : sh.lookup depth = some g) (hb : Big cfg g pos R e) (hn : n ∈ R.alts)
    (h : Maximal cfg sh (depth + 1) (nodes ++ [n]) n.rpos x) : Maximal cfg sh depth nodes pos x := by
  obtain ⟨ext, hx, hch, hlc, hbl⟩ := h
  refine ⟨n :: ext, ?_, ⟨⟨g, R, e, hl, hb, hn⟩, hch⟩, ?_, ?_⟩
  · rw [endOf_cons, hx]; simp
  · rw [List.length_cons]; rw [← hlc]; congr 1; omega
  · rw [List.length_cons, endOf_cons]
    have : depth + (ext.length + 1) = depth + 1 + ext.length := by omega
    rw [this]; exact hbl

theorem mem_ite_singleton {b : Bool} {x y : Node} (h : x ∈ (if b = true then [y] else [])) : b = true ∧ x = y := by
  cases b with
  | true => simpa using h
  | false => simp at h

theorem emitted_all (cfg : Cfg) :
    (∀ g pos R e, Big cfg g pos R e → True) ∧ (∀ gs pos acc R e, BigAny cfg gs pos acc R e → True) ∧
    (∀ gs pos R e, BigChoice cfg gs pos R e → True) ∧
    (∀ sh depth nodes pos em stop e, BigSeq cfg sh depth nodes pos em stop e →
      ∀ x ∈ em, Maximal cfg sh depth nodes pos x) ∧
    (∀ sh depth nodes alts em stop e, BigAlts cfg sh depth nodes alts em stop e →
      ∀ {pos : Nat} {g : G} {R : Res} {e' : Bool}, sh.lookup depth = some g → Big cfg g pos R e' →
        (∀ n ∈ alts, n ∈ R.alts) → ∀ x ∈ em, Maximal cfg sh depth nodes pos x) := by
  apply Big.induction
  case last =>
    intro sh depth nodes pos hl x hx
    obtain ⟨hlc, rfl⟩ := mem_ite_singleton hx
    exact ⟨[], by simp [endOf], trivial, by simpa using hlc, .inl (by simpa using hl)⟩
  case fail =>
    intro sh depth nodes pos g e hl hb _ x hx
    obtain ⟨hlc, rfl⟩ := mem_ite_singleton hx
    exact ⟨[], by simp [endOf], trivial, by simpa using hlc, .inr ⟨_, _, by simpa using hl, by simpa [endOf] using hb⟩⟩
  case step =>
    intro sh depth nodes pos g R e1 em stop e2 hl hb _ _ _ iha x hx
    exact iha hl hb (fun _ h => h) x hx
  case altsNil => intro sh depth nodes pos g R e' _ _ _ x hx; cases hx
  case stop =>
    intro sh depth nodes n rest em e _ ih pos g R e' hl hb hsub x hx
    exact Maximal.cons hl hb (hsub _ (List.mem_cons_self ..)) (ih x hx)
  case next =>
    intro sh depth nodes n rest em1 e1 em2 stop e2 _ _ ih iht pos g R e' hl hb hsub x hx
    cases List.mem_append.mp hx with
    | inl h1 => exact Maximal.cons hl hb (hsub _ (List.mem_cons_self ..)) (ih x h1)
    | inr h1 => exact iht hl hb (fun n hn => hsub n (List.mem_cons_of_mem _ hn)) x h1
  all_goals intros; trivial

theorem seq_emitted {cfg : Cfg} : ∀ {sh : SeqShape} {depth : Nat} {nodes : List Node} {pos : Nat} {em : List Node}
    {stop e : Bool}, BigSeq cfg sh depth nodes pos em stop e → ∀ x ∈ em, Maximal cfg sh depth nodes pos x :=
  fun h => (emitted_all cfg).2.2.2.1 _ _ _ _ _ _ _ h

theorem alts_emitted {cfg : Cfg} : ∀ {sh : SeqShape} {depth : Nat} {nodes alts : List Node} {em : List Node}
    {stop e : Bool}, BigAlts cfg sh depth nodes alts em stop e →
    ∀ {pos : Nat} {g : G} {R : Res} {e' : Bool}, sh.lookup depth = some g → Big cfg g pos R e' →
      (∀ n ∈ alts, n ∈ R.alts) → ∀ x ∈ em, Maximal cfg sh depth nodes pos x :=
  fun h => (emitted_all cfg).2.2.2.2 _ _ _ _ _ _ _ h

theorem mem_foldEmit (em : List Node) : ∀ (acc : Res) (x : Node), x ∈ (foldEmit acc em).alts → x ∈ acc.alts ∨ x ∈ em :=
  mem_foldl_of_step (f := fun r x => appendNode r (.one x)) (M := fun r x => x ∈ r.alts)
    (fun _ _ _ h => (mem_appendNode _ _ _ h).imp id List.mem_singleton.mp) em

/-- **the longest-path rule**: every tree a Sequence-family parser returns is the tree of a chain of exact
    element results whose length `lenCheck` accepts and which cannot be extended -/
theorem seqfam_maximal {cfg : Cfg} {g : G} {sh : SeqShape} {pos : Nat} {R : Res} {e : Bool}
    (h : Big cfg g pos R e) (hs : g.shape = some sh) :
    ∀ x ∈ R.alts, ∃ chain, x = handleResult sh (endOf pos chain) chain ∧ Chain cfg sh 0 pos chain ∧
      sh.lenCheck chain.length = true ∧ Blocked cfg sh chain.length (endOf pos chain) := by
  intro x hx
  cases h with
  | seqfam hs' hb hR _ =>
    rw [hs] at hs'; cases hs'
    subst hR
    cases mem_foldEmit _ _ _ hx with
    | inl h1 => cases h1
    | inr h1 =>
      obtain ⟨ext, h1, h2, h3, h4⟩ := seq_emitted hb x h1
      exact ⟨ext, by simpa using h1, h2, by simpa using h3, by simpa using h4⟩
  | _ => simp [G.shape] at hs

theorem mem_unwrapSingle {R : Res} {x : Node} (h : x ∈ (unwrapSingle R).alts) :
    x ∈ R.alts ∨ ∃ tk p r i, R = .one (.nt tk [x] p r i) := by
  unfold unwrapSingle at h
  split at h
  · simp only [Res.alts, List.mem_singleton] at h
    subst h
    exact .inr ⟨_, _, _, _, rfl⟩
  · exact .inl h

/-- what the enumeration emits from a derived prefix are trees of full derivations -/
def DerTree (cfg : Cfg) (sh : SeqShape) (pos0 : Nat) (x : Node) : Prop :=
  ∃ chain, x = handleResult sh pos0 chain ∧ DerivesSeq cfg sh 0 pos0 chain ∧ sh.lenCheck chain.length = true

theorem derTree_emit {cfg : Cfg} {sh : SeqShape} {pos0 pos depth : Nat} {nodes : List Node}
    (hd : DerivesSeq cfg sh 0 pos0 nodes) (he : endOf pos0 nodes = pos) (hdep : depth = nodes.length)
    (hlc : sh.lenCheck depth = true) : DerTree cfg sh pos0 (handleResult sh pos nodes) := by
  exact ⟨nodes, handleResult_endOf sh he, hd, by rw [← hdep]; exact hlc⟩

theorem derives_all (cfg : Cfg) :
    (∀ g pos R e, Big cfg g pos R e → ∀ x ∈ R.alts, Derives cfg g pos x) ∧
    (∀ gs pos acc R e, BigAny cfg gs pos acc R e → ∀ x ∈ R.alts, x ∈ acc.alts ∨ ∃ g ∈ gs, Derives cfg g pos x) ∧
    (∀ gs pos R e, BigChoice cfg gs pos R e → ∀ x ∈ R.alts, ∃ g ∈ gs, Derives cfg g pos x) ∧
    (∀ sh depth nodes pos em stop e, BigSeq cfg sh depth nodes pos em stop e →
      ∀ {pos0 : Nat}, DerivesSeq cfg sh 0 pos0 nodes → endOf pos0 nodes = pos → depth = nodes.length →
        ∀ x ∈ em, DerTree cfg sh pos0 x) ∧
    (∀ sh depth nodes alts em stop e, BigAlts cfg sh depth nodes alts em stop e →
      ∀ {pos0 pos : Nat} {g : G}, DerivesSeq cfg sh 0 pos0 nodes → endOf pos0 nodes = pos → depth = nodes.length →
        sh.lookup depth = some g → (∀ n ∈ alts, Derives cfg g pos n) → ∀ x ∈ em, DerTree cfg sh pos0 x) := by
  apply Big.induction
  case termOk =>
    intro t pos n h x hx
    simp only [Res.alts, List.mem_singleton] at hx
    subst hx; exact .term h
  case termFail => intro t pos _ x hx; cases hx
  case empty =>
    intro pos x hx
    simp only [Res.alts, List.mem_singleton] at hx
    subst hx; exact .empty
  case eofOk =>
    intro pos h x hx
    simp only [Res.alts, List.mem_singleton] at hx
    subst hx; exact .eof h
  case eofFail => intro pos _ x hx; cases hx
  case ref => intro k g pos R e hk _ ih x hx; exact .ref hk (ih x hx)
  case refNone => intro k pos _ x hx; cases hx
  case memo => intro i g pos R e _ ih x hx; exact .memo (ih x hx)
  case any =>
    intro gs pos R e e' _ _ ih x hx
    cases ih x hx with
    | inl h1 => cases h1
    | inr h1 => obtain ⟨g, hg, hd⟩ := h1; exact .any hg hd
  case choice =>
    intro gs pos R e _ ih x hx
    obtain ⟨g, hg, hd⟩ := ih x hx
    exact .choice hg hd
  case optional =>
    intro g pos R e _ ih x hx
    cases mem_appendNode _ _ _ hx with
    | inl h1 => exact .optSome (ih x h1)
    | inr h1 =>
      simp only [Res.alts, List.mem_singleton] at h1
      subst h1; exact .optNone
  case name =>
    intro g nm pos R e R' e' _ _ hR ih x hx
    subst hR
    by_cases he : e' = true
    · simp [he, Res.alts] at hx
    · simp only [he] at hx
      exact .name (ih x hx)
  case single =>
    intro g pos R e R' _ hR ih x hx
    subst hR
    by_cases he : e = true
    · simp [he, Res.alts] at hx
    · simp only [he] at hx
      cases mem_unwrapSingle hx with
      | inl h1 => exact .singleKeep (ih x h1)
      | inr h1 =>
        obtain ⟨tk, p, r, i, hRR⟩ := h1
        exact .singleUnwrap (ih (.nt tk [x] p r i) (by rw [hRR]; simp [Res.alts]))
  case suppress => intro g pos R e _ ih x hx; exact .suppress (ih x hx)
  case ltrimOk => intro g m pos R e _ _ ih x hx; exact .ltrim (ih x hx)
  case ltrimWs => intro g m pos R e w _ _ _ _ x hx; cases hx
  case rtrim =>
    intro g m pos R e R' e' _ hR _ ih x hx
    subst hR
    unfold rtrimRes at hx
    by_cases he : e = true
    · simp only [he, ↓reduceIte] at hx
      exact .rtrimKeep (ih x hx)
    · simp only [he] at hx
      cases hws : (setRposRes cfg.file m R).2 with
      | some w => simp [hws, Res.alts] at hx
      | none =>
        simp only [hws] at hx
        obtain ⟨n, hn, hxe⟩ := mem_setRposRes cfg.file m R x hx
        rw [hxe]; exact .rtrimMove (ih n hn)
  case seqfam =>
    intro g sh pos em stop e R e' hs _ hR _ ih x hx
    subst hR
    cases mem_foldEmit _ _ _ hx with
    | inl h1 => cases h1
    | inr h1 =>
      obtain ⟨chain, rfl, hd, hl⟩ := ih .nil rfl rfl x h1
      exact .seqfam hs hd hl
  case anyNil => intro pos acc x hx; exact .inl hx
  case anyCons =>
    intro g gs pos acc R1 e1 R e2 _ _ ih iht x hx
    cases iht x hx with
    | inl h1 =>
      cases mem_appendNode _ _ _ h1 with
      | inl h2 => exact .inl h2
      | inr h2 => exact .inr ⟨_, List.mem_cons_self .., ih x h2⟩
    | inr h1 =>
      obtain ⟨g', hg, hd⟩ := h1
      exact .inr ⟨g', List.mem_cons_of_mem _ hg, hd⟩
  case choiceNil => intro pos x hx; cases hx
  case hit => intro g gs pos R e _ _ ih x hx; exact ⟨_, List.mem_cons_self .., ih x hx⟩
  case skip =>
    intro g gs pos e1 R e2 _ _ _ iht x hx
    obtain ⟨g', hg, hd⟩ := iht x hx
    exact ⟨g', List.mem_cons_of_mem _ hg, hd⟩
  case last =>
    intro sh depth nodes pos _ pos0 hd he hdep x hx
    obtain ⟨hlc, rfl⟩ := mem_ite_singleton hx
    exact derTree_emit hd he hdep hlc
  case fail =>
    intro sh depth nodes pos g e _ _ _ pos0 hd he hdep x hx
    obtain ⟨hlc, rfl⟩ := mem_ite_singleton hx
    exact derTree_emit hd he hdep hlc
  case step =>
    intro sh depth nodes pos g R e1 em stop e2 hl _ _ _ ih iha pos0 hd he hdep x hx
    exact iha hd he hdep hl ih x hx
  case altsNil => intro sh depth nodes pos0 pos g _ _ _ _ _ x hx; cases hx
  case stop =>
    intro sh depth nodes n rest em e _ ih pos0 pos g hd he hdep hl hall x hx
    exact ih
      (DerivesSeq.snoc hd (by rw [Nat.zero_add, ← hdep]; exact hl) (by rw [he]; exact hall n (List.mem_cons_self ..)))
      (endOf_snoc _ _ _) (by simp [hdep]) x hx
  case next =>
    intro sh depth nodes n rest em1 e1 em2 stop e2 _ _ ih iht pos0 pos g hd he hdep hl hall x hx
    cases List.mem_append.mp hx with
    | inl h1 =>
      exact ih
        (DerivesSeq.snoc hd (by rw [Nat.zero_add, ← hdep]; exact hl) (by rw [he]; exact hall n (List.mem_cons_self ..)))
        (endOf_snoc _ _ _) (by simp [hdep]) x h1
    | inr h1 => exact iht hd he hdep hl (fun m hm => hall m (List.mem_cons_of_mem _ hm)) x h1

theorem big_derives {cfg : Cfg} : ∀ {g : G} {pos : Nat} {R : Res} {e : Bool}, Big cfg g pos R e →
    ∀ x ∈ R.alts, Derives cfg g pos x :=
  fun h => (derives_all cfg).1 _ _ _ _ h

theorem any_derives {cfg : Cfg} : ∀ {gs : List G} {pos : Nat} {acc R : Res} {e : Bool}, BigAny cfg gs pos acc R e →
    ∀ x ∈ R.alts, x ∈ acc.alts ∨ ∃ g ∈ gs, Derives cfg g pos x :=
  fun h => (derives_all cfg).2.1 _ _ _ _ _ h

theorem choice_derives {cfg : Cfg} : ∀ {gs : List G} {pos : Nat} {R : Res} {e : Bool}, BigChoice cfg gs pos R e →
    ∀ x ∈ R.alts, ∃ g ∈ gs, Derives cfg g pos x :=
  fun h => (derives_all cfg).2.2.1 _ _ _ _ h

theorem seq_derives {cfg : Cfg} : ∀ {sh : SeqShape} {depth : Nat} {nodes : List Node} {pos : Nat} {em : List Node}
    {stop e : Bool}, BigSeq cfg sh depth nodes pos em stop e →
    ∀ {pos0 : Nat}, DerivesSeq cfg sh 0 pos0 nodes → endOf pos0 nodes = pos → depth = nodes.length →
      ∀ x ∈ em, DerTree cfg sh pos0 x :=
  fun h => (derives_all cfg).2.2.2.1 _ _ _ _ _ _ _ h

theorem alts_derives {cfg : Cfg} : ∀ {sh : SeqShape} {depth : Nat} {nodes alts : List Node} {em : List Node}
    {stop e : Bool}, BigAlts cfg sh depth nodes alts em stop e →
    ∀ {pos0 pos : Nat} {g : G}, DerivesSeq cfg sh 0 pos0 nodes → endOf pos0 nodes = pos → depth = nodes.length →
      sh.lookup depth = some g → (∀ n ∈ alts, Derives cfg g pos n) → ∀ x ∈ em, DerTree cfg sh pos0 x :=
  fun h => (derives_all cfg).2.2.2.2 _ _ _ _ _ _ _ h

end Big

end PV
