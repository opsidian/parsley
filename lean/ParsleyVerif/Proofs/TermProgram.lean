/-
  A terminal is a reader program: reader primitives called one after the other, each at the position the one before
  returned (a mismatch returns the position it was asked about), and a leaf that is a node from the start to the reader
  position, an error at the start or at the reader position, or a panic.  `Terminal.reads` writes the eleven terminals of
  Model/Terminal.lean in that form and `Terminal.parse_eq_run` is the one place where the cases of `Terminal.parse` are
  gone through.  What holds of every primitive and of the three leaves holds of every terminal by induction on the
  program: where the positions of an answer lie (`Rd.run_at`, `Terminal.parse_within`), that a node is wider than nothing
  (`Rd.Adv`, `Rd.run_lt`); the shift of the file is in Proofs/ShiftPrims.lean.
-/
import ParsleyVerif.Spec.Core
import ParsleyVerif.Proofs.Reader
namespace PV
open PV.Text

/-- the reader primitives of text/reader.go that move the reader position, by what they answer beside it -/
inductive Prim : Type → Type
  | rune (ch : Nat) : Prim Bool
  | str (s : Bytes) : Prim Bool
  | word (w : Bytes) : Prim Bool
  | regexp (engine : Bytes → Option Nat) : Prim (Option Bytes)
  | readf (fn : Bytes → Option Bytes × Nat) : Prim (Option Bytes)

def Prim.run {β : Type} : Prim β → File → Nat → Option (Nat × β)
  | .rune ch, f, p => readRune f p ch
  | .str s, f, p => matchString f p s
  | .word w, f, p => matchWord f p w
  | .regexp e, f, p => readRegexp e f p
  | .readf fn, f, p => Text.readf fn f p

/-- reader programs.  `node`: the leaf from the start to the reader position; `err`: at the start or at the reader
    position; `call`: a primitive at the reader position, `site` is the panic reported when it answers `none` -/
inductive Rd : Type 1
  | node (tok : Bytes) (v : Val)
  | err (atStart : Bool) (k : ErrKind)
  | panic (site : String)
  | call {β : Type} (site : String) (p : Prim β) (k : β → Rd)
  /-- the bytes from the start on, without moving (terminal.Regexp asks the engine for the group) -/
  | peek {β : Type} (g : Bytes → β) (k : β → Rd)

/-- from the start position `st` with the reader at `cur` -/
def Rd.run (f : File) (st : Nat) : Rd → Nat → TermOut
  | .node tok v, cur => .node (.term tok v st cur)
  | .err s k, cur => .err ⟨bif s then st else cur, k⟩
  | .panic site, _ => .panic site
  | .call site p k, cur =>
    match p.run f cur with
    | none => .panic site
    | some (rp, v) => (k v).run f st rp
  | .peek g k, cur => (k (g (f.data.drop (st - f.offset)))).run f st cur

def Rd.nf (name : Bytes) : Rd := .err true (.notFound name)
def Rd.other (atStart : Bool) (msg : String) : Rd := .err atStart (.other (tokOf msg))

/-- one word: MatchWord, a leaf or `no` -/
def Rd.wordThen (w tok : Bytes) (v : Val) (no : Rd) : Rd :=
  .call "MatchWord" (.word w) fun | true => .node tok v | false => no

/-- a literal: the expression, then a conversion of the lexeme -/
def Rd.lexThen (e : Bytes → Option Nat) (what : Bytes) (k : Bytes → Rd) : Rd :=
  .call "ReadRegexp" (.regexp e) fun | none => .nf what | some lex => k lex

/-- terminal.String after the opening quote `q` -/
def Rd.quoted (q : Nat) : Rd :=
  .call "ReadRune" (.rune q) fun
    | true => .node (tokOf "STRING") (.str [])
    | false =>
      .call "Readf" (if q = 96 then .regexp backquoteMatch else .readf unquoteString) fun value =>
        .call "ReadRune" (.rune q) fun
          | false => .err false (.other (tokOf "was expecting '" ++ [q] ++ tokOf "'"))
          | true => .node (tokOf "STRING") (.str (value.getD []))

def Terminal.reads (P : Params) : Terminal → Rd
  | .rune ch name => .call "ReadRune" (.rune ch) fun | true => .node (Utf8.encodeRune ch) (.rune ch) | false => .nf name
  | .op s name => .call "MatchString" (.str s) fun | true => .node s (.str s) | false => .nf name
  | .word w valId name => .wordThen w (upperAscii w) (.opaque valId) (.nf name)
  | .bool ts fs =>
    .wordThen ts (tokOf "BOOL") (.bool true) (.wordThen fs (tokOf "BOOL") (.bool false) (.nf (tokOf "boolean")))
  | .nil s => .wordThen s (tokOf "NIL") .nil (.nf s)
  | .integer => .lexThen integerMatch (tokOf "integer value") fun lex =>
    .call "ReadRune" (.rune 46) fun
      | true => .nf (tokOf "integer value")
      | false =>
        match parseInt0 lex with
        | none => .other true "invalid integer value"
        | some v => .node (tokOf "INTEGER") (.int v)
  | .float => .lexThen floatMatch (tokOf "float value") fun lex =>
    if P.floatOk lex then .node (tokOf "FLOAT") (.float lex) else .other true "invalid float value"
  | .duration => .lexThen durationMatch (tokOf "time duration") fun lex =>
    match P.durErr lex with
    | none => .node (tokOf "TIME_DURATION") (.dur lex)
    | some msg => .err true (.other msg)
  | .char =>
    .call "ReadRune" (.rune 39) fun
      | false => .nf (tokOf "char literal")
      | true => .call "ReadRegexp" (.regexp charMatch) fun
        | none => .other false "was expecting one character"
        | some res => .call "ReadRune" (.rune 39) fun
          | false => .other false "was expecting \"'\""
          | true =>
            match unquoteChar res 39 with
            | some (v, []) => .node (tokOf "CHAR") (.rune v)
            | _ => .other false "invalid character value"
  | .string bq =>
    .call "ReadRune" (.rune 34) fun
      | true => .quoted 34
      | false =>
        if bq then .call "ReadRune" (.rune 96) fun | true => .quoted 96 | false => .nf (tokOf "string literal")
        else .nf (tokOf "string literal")
  | .regexp id tok name hasGroup => .lexThen (fun rest => (P.regexp id rest).map (·.1)) name fun m =>
    if hasGroup then
      .peek (P.regexp id) fun
        | some (_, some g) => .node tok (.str g)
        | _ => .panic "Capturing group is invalid"
    else .node tok (.str m)

/-- Each case: unfold both sides, go through the answers of the next primitive; where they end both sides compute to
    the same value.  Where the model goes on at `pos` after a mismatch (Bool's second word, Integer's look-ahead for '.',
    String's second quote) the program goes on at the position the mismatch returned: `readRune_stay`, `matchWord_stay`. -/
theorem Terminal.parse_eq_run (P : Params) (f : File) (t : Terminal) (pos : Nat) :
    Terminal.parse P f t pos = (t.reads P).run f pos pos := by
  cases t with
  | rune ch name =>
    simp only [Terminal.parse, Terminal.reads, Rd.run, Prim.run]
    rcases readRune f pos ch with _ | ⟨rp, _ | _⟩ <;> rfl
  | op s name =>
    simp only [Terminal.parse, Terminal.reads, Rd.run, Prim.run]
    rcases matchString f pos s with _ | ⟨rp, _ | _⟩ <;> rfl
  | word w v name =>
    simp only [Terminal.parse, Terminal.reads, Rd.wordThen, Rd.run, Prim.run]
    rcases matchWord f pos w with _ | ⟨rp, _ | _⟩ <;> rfl
  | bool ts fs =>
    simp only [Terminal.parse, Terminal.reads, Rd.wordThen, Rd.run, Prim.run]
    rcases h : matchWord f pos ts with _ | ⟨rp, _ | _⟩ <;> try rfl
    cases matchWord_stay h
    simp only [Rd.run, Prim.run]
    rcases matchWord f pos fs with _ | ⟨rp, _ | _⟩ <;> rfl
  | nil s =>
    simp only [Terminal.parse, Terminal.reads, Rd.wordThen, Rd.run, Prim.run]
    rcases matchWord f pos s with _ | ⟨rp, _ | _⟩ <;> rfl
  | integer =>
    simp only [Terminal.parse, Terminal.reads, Rd.lexThen, Rd.run, Prim.run]
    rcases readRegexp integerMatch f pos with _ | ⟨rp, _ | lex⟩ <;> try rfl
    simp only [Rd.run, Prim.run]
    rcases h : readRune f rp 46 with _ | ⟨rp2, _ | _⟩ <;> try rfl
    cases readRune_stay h
    simp only []
    cases parseInt0 lex <;> rfl
  | float =>
    simp only [Terminal.parse, Terminal.reads, Rd.lexThen, Rd.run, Prim.run]
    rcases readRegexp floatMatch f pos with _ | ⟨rp, _ | lex⟩ <;> try rfl
    simp only []
    split <;> rfl
  | duration =>
    simp only [Terminal.parse, Terminal.reads, Rd.lexThen, Rd.run, Prim.run]
    rcases readRegexp durationMatch f pos with _ | ⟨rp, _ | lex⟩ <;> try rfl
    simp only []
    cases P.durErr lex <;> rfl
  | char =>
    simp only [Terminal.parse, Terminal.reads, Rd.run, Prim.run]
    rcases readRune f pos 39 with _ | ⟨rp1, _ | _⟩ <;> try rfl
    simp only [Rd.run, Prim.run]
    rcases readRegexp charMatch f rp1 with _ | ⟨rp2, _ | res⟩ <;> try rfl
    simp only [Rd.run, Prim.run]
    rcases readRune f rp2 39 with _ | ⟨rp3, _ | _⟩ <;> try rfl
    rcases unquoteChar res 39 with _ | ⟨v, _ | _⟩ <;> rfl
  | string bq =>
    have quoted (q rp1 : Nat) : (match readRune f rp1 q with
        | none => .panic "ReadRune"
        | some (rp2, true) => .node (.term (tokOf "STRING") (.str []) pos rp2)
        | some (rp2, false) =>
          match (if q = 96 then readRegexp backquoteMatch f rp2 else readf unquoteString f rp2) with
          | none => .panic "Readf"
          | some (rp3, value) =>
            match readRune f rp3 q with
            | none => .panic "ReadRune"
            | some (rp4, false) => .err ⟨rp4, .other (tokOf "was expecting '" ++ [q] ++ tokOf "'")⟩
            | some (rp4, true) => .node (.term (tokOf "STRING") (.str (value.getD [])) pos rp4) : TermOut) =
        (Rd.quoted q).run f pos rp1 := by
      simp only [Rd.quoted, Rd.run, Prim.run]
      rcases readRune f rp1 q with _ | ⟨rp2, _ | _⟩ <;> try rfl
      simp only [Rd.run]
      have e : (if q = 96 then Prim.regexp backquoteMatch else Prim.readf unquoteString).run f rp2 =
          if q = 96 then readRegexp backquoteMatch f rp2 else readf unquoteString f rp2 := by split <;> rfl
      rw [e]
      rcases (if q = 96 then readRegexp backquoteMatch f rp2 else readf unquoteString f rp2) with _ | ⟨rp3, value⟩ <;> try rfl
      simp only [Prim.run]
      rcases readRune f rp3 q with _ | ⟨rp4, _ | _⟩ <;> rfl
    simp only [Terminal.parse, Terminal.reads, Rd.run, Prim.run]
    rcases h : readRune f pos 34 with _ | ⟨rp1, _ | _⟩
    · rfl
    · cases readRune_stay h
      cases bq
      · rfl
      · simp only [if_true, Rd.run, Prim.run]
        rcases readRune f pos 96 with _ | ⟨rp1, _ | _⟩ <;> try rfl
        exact quoted 96 rp1
    · exact quoted 34 rp1
  | regexp id tok name hasGroup =>
    simp only [Terminal.parse, Terminal.reads, Rd.lexThen, Rd.run, Prim.run]
    rcases readRegexp _ f pos with _ | ⟨rp, _ | m⟩ <;> try rfl
    cases hasGroup <;> try rfl
    simp only [if_true, Rd.run]
    rcases P.regexp id _ with _ | ⟨a, _ | g⟩ <;> rfl

/-- a node is a leaf from the start to a position `Q` holds of, an error stands at such a position -/
def TermOut.At (st : Nat) (Q : Nat → Prop) : TermOut → Prop
  | .node n => ∃ tok v r, n = .term tok v st r ∧ Q r
  | .err e => Q e.pos
  | .panic _ => True

/-- the positions of an outcome are the start or positions the primitives returned -/
theorem Rd.run_at {f : File} {st : Nat} {Q : Nat → Prop}
    (hQ : ∀ {β : Type} (p : Prim β) (q r : Nat) (v : β), Q q → p.run f q = some (r, v) → Q r) (hst : Q st) (s : Rd) :
    ∀ cur, Q cur → (s.run f st cur).At st Q := by
  induction s with
  | node tok v => intro cur hc; exact ⟨_, _, _, rfl, hc⟩
  | err a k => intro cur hc; cases a <;> assumption
  | panic site => intro cur _; trivial
  | call site p k ih =>
    intro cur hc
    simp only [Rd.run]
    rcases h : p.run f cur with _ | ⟨rp, v⟩
    · trivial
    · exact ih v rp (hQ p cur rp v hc h)
  | peek g k ih => intro cur hc; exact ih _ cur hc

theorem Terminal.parse_node (P : Params) (f : File) (t : Terminal) (p : Nat) (n : Node)
    (h : t.parse P f p = .node n) : ∃ tok v r, n = .term tok v p r := by
  have := Rd.run_at (f := f) (st := p) (Q := fun _ => True) (fun _ _ _ _ _ _ => trivial) trivial (t.reads P) p trivial
  rw [← Terminal.parse_eq_run, h] at this
  obtain ⟨tok, v, r, e, _⟩ := this
  exact ⟨tok, v, r, e⟩

def Prim.hit : {β : Type} → Prim β → β → Prop
  | _, .rune _, v => v = true
  | _, .str _, v => v = true
  | _, .word _, v => v = true
  | _, .regexp _, v => v.isSome = true
  | _, .readf _, v => v.isSome = true

/-- a match is at least one byte wide.  Not claimed of `readf` (Readf's contract would give it): no terminal relies on it. -/
def Prim.Strict : {β : Type} → Prim β → Prop
  | _, .regexp e => ∀ l k, l ≠ [] → e l = some k → 0 < k
  | _, .readf _ => False
  | _, _ => True

theorem Prim.run_adv {β : Type} (p : Prim β) {f : File} {q r : Nat} {v : β} (hin : InFile f q)
    (h : p.run f q = some (r, v)) : q ≤ r ∧ r ≤ f.offset + f.len ∧ (p.Strict → p.hit v → q < r) := by
  have stay : q ≤ q ∧ q ≤ f.offset + f.len ∧ (p.Strict → False → q < q) := ⟨Nat.le_refl _, hin.2, fun _ => False.elim⟩
  cases p with
  | rune ch =>
    rcases readRune_cases f q ch with e | e | ⟨w, e, hw, hle⟩ <;> rw [Prim.run, e] at h <;> cases h
    · exact ⟨stay.1, stay.2.1, fun _ hv => nomatch hv⟩
    · exact ⟨Nat.le_add_right .., hle, fun _ _ => Nat.lt_add_of_pos_right hw⟩
  | str s =>
    rcases matchString_cases f q s with e | e | ⟨e, hs, hle⟩ <;> rw [Prim.run, e] at h <;> cases h
    · exact ⟨stay.1, stay.2.1, fun _ hv => nomatch hv⟩
    · exact ⟨Nat.le_add_right .., hle, fun _ _ => Nat.lt_add_of_pos_right (List.length_pos_iff.2 hs)⟩
  | word w =>
    rcases matchWord_cases f q w with e | e | ⟨e, hs, hle⟩ <;> rw [Prim.run, e] at h <;> cases h
    · exact ⟨stay.1, stay.2.1, fun _ hv => nomatch hv⟩
    · exact ⟨Nat.le_add_right .., hle, fun _ _ => Nat.lt_add_of_pos_right (List.length_pos_iff.2 hs)⟩
  | regexp e =>
    rcases readRegexp_cases e f q with e' | e' | ⟨m, hm, hne, e', hle⟩ <;> rw [Prim.run, e'] at h <;> cases h
    · exact ⟨stay.1, stay.2.1, fun _ hv => nomatch hv⟩
    · exact ⟨Nat.le_add_right .., hle, fun hs _ => Nat.lt_add_of_pos_right (hs _ m hne hm)⟩
  | readf fn =>
    rcases readf_cases fn f q with e | e | ⟨n, v', e, hle⟩ <;> rw [Prim.run, e] at h <;> cases h
    · exact ⟨stay.1, stay.2.1, fun hs => hs.elim⟩
    · exact ⟨Nat.le_add_right .., hle, fun hs => hs.elim⟩

def Within (f : File) (st q : Nat) : Prop := st ≤ q ∧ q ≤ f.offset + f.len

theorem Within.inFile {f : File} {st q : Nat} (hst : InFile f st) (h : Within f st q) : InFile f q :=
  ⟨Nat.le_trans hst.1 h.1, h.2⟩

/-- **span**, for every terminal, every construction parameter, every engine: a node is a leaf from the call position
    to a position inside the file, an error stands between the call position and the end of the file -/
theorem Terminal.parse_within (P : Params) (f : File) (t : Terminal) (pos : Nat) (h : InFile f pos) :
    (Terminal.parse P f t pos).At pos (Within f pos) := by
  rw [Terminal.parse_eq_run]
  refine Rd.run_at (fun p q r v hq hr => ?_) ⟨Nat.le_refl _, h.2⟩ _ pos ⟨Nat.le_refl _, h.2⟩
  have := p.run_adv (hq.inFile h) hr
  exact ⟨Nat.le_trans hq.1 this.1, this.2.1⟩

/-- `TermGood` (Spec/Core.lean), which `Scope`, `C02Scope`, `CScope`, `TermsW`, `Strat.TermS` and `Cut.Closed` ask of every
    terminal, holds of every terminal: it is a hypothesis that can always be discharged (what those scopes exclude is the
    trims, not terminals) -/
theorem termGood_all (cfg : Cfg) (t : Terminal) : TermGood cfg t := by
  intro pos h
  have := Terminal.parse_within cfg.params cfg.file t pos h
  refine ⟨fun n hn => ?_, fun e he => by rwa [he] at this⟩
  rw [hn] at this
  obtain ⟨_, _, _, rfl, hw⟩ := this
  exact ⟨rfl, hw⟩

/-- no node is reached unless `a` holds or a strict primitive has reported a match on the way -/
def Rd.Adv : Rd → Prop → Prop
  | .node .., a => a
  | .err .., _ => True
  | .panic _, _ => True
  | .call _ p k, a => ∀ v, (k v).Adv (a ∨ (p.Strict ∧ p.hit v))
  | .peek _ k, a => ∀ v, (k v).Adv a

theorem Rd.Adv.mono {a b : Prop} (hab : a → b) : ∀ {s : Rd}, s.Adv a → s.Adv b
  | .node .., h => hab h
  | .err .., _ => trivial
  | .panic _, _ => trivial
  | .call .., h => fun v => (h v).mono (Or.imp_left hab)
  | .peek .., h => fun v => (h v).mono hab

theorem Rd.adv_of {a : Prop} (ha : a) : ∀ s : Rd, s.Adv a
  | .node .. => ha
  | .err .. => trivial
  | .panic _ => trivial
  | .call _ _ k => fun v => Rd.adv_of (Or.inl ha) (k v)
  | .peek _ k => fun v => Rd.adv_of ha (k v)

theorem Rd.run_lt {f : File} {st : Nat} (hst : InFile f st) (s : Rd) : ∀ (a : Prop) (cur : Nat), s.Adv a → (a → st < cur) →
    Within f st cur → ∀ tok v r, s.run f st cur = .node (.term tok v st r) → st < r := by
  induction s with
  | node tok v => intro a cur ha hlt _ tok' v' r h; cases h; exact hlt ha
  | err b k => intro a cur _ _ _ tok v r h; cases h
  | panic site => intro a cur _ _ _ tok v r h; cases h
  | call site p k ih =>
    intro a cur ha hlt hw tok v r h
    simp only [Rd.run] at h
    rcases hp : p.run f cur with _ | ⟨rp, x⟩ <;> rw [hp] at h
    · cases h
    · have hadv := p.run_adv (hw.inFile hst) hp
      refine ih x _ rp (ha x) (fun hh => hh.elim (fun h1 => Nat.lt_of_lt_of_le (hlt h1) hadv.1)
        (fun h2 => Nat.lt_of_le_of_lt hw.1 (hadv.2.2 h2.1 h2.2))) ⟨Nat.le_trans hw.1 hadv.1, hadv.2.1⟩ tok v r h
  | peek g k ih => intro a cur ha hlt hw tok v r h; exact ih _ a cur (ha _) hlt hw tok v r h

theorem Rd.wordThen_adv {a : Prop} (w tok : Bytes) (v : Val) {no : Rd} (hno : no.Adv a) : (Rd.wordThen w tok v no).Adv a
  | true => Or.inr ⟨trivial, rfl⟩
  | false => hno.mono Or.inl

theorem Rd.lexThen_adv {a : Prop} {e : Bytes → Option Nat} (he : ∀ l k, l ≠ [] → e l = some k → 0 < k) (what : Bytes)
    (k : Bytes → Rd) : (Rd.lexThen e what k).Adv a
  | none => trivial
  | some lex => Rd.adv_of (Or.inr ⟨he, rfl⟩) (k lex)

theorem Rd.runeThen_adv {a : Prop} (site : String) (ch : Nat) (yes no : Rd) (hno : no.Adv a) :
    (Rd.call site (.rune ch) fun | true => yes | false => no).Adv a
  | true => Rd.adv_of (Or.inr ⟨trivial, rfl⟩) yes
  | false => hno.mono Or.inl

end PV
