/-
  C17: the accounting of `RegisterCall` (`St.calls`) — for EVERY grammar, environment, input, context state and fuel.

  `RegisterCall` has exactly three call sites in the modelled code: Any (once per alternative), Choice
  (once per alternative tried) and `(*sequence).parse` (once per element invocation).  This file shows
  that nothing else moves the counter and gives the exact identity
      calls' = calls + (number of invocations) + Σ (cost of each invocation)
  for the three loops, parametric in the function `r` that runs a sub-parser; then what one level of `run`
  (`runStep cfg r fuel`) does to the counter for each combinator, and that `run` never lowers it.
-/
import ParsleyVerif.Proofs.RunLoops
import ParsleyVerif.Proofs.RunBasics
import ParsleyVerif.Proofs.RunEqns
import ParsleyVerif.Proofs.MemoBasics
namespace PV
open PV.Text

/-- one invocation of a sub-parser from a combinator that registers the call first -/
structure Inv where
  g : G
  ctx : Ctx
  pos : Nat
  st : St          -- the state before `RegisterCall`
  o : Out
  st' : St         -- the state when the sub-parser returned

/-- the invocation really happened: `RegisterCall`, then the sub-parser ran from that state -/
def Inv.ok (r : RunFn) (i : Inv) : Prop := r i.g i.ctx i.pos i.st.regCall = some (i.o, i.st')

/-- the calls made inside the invocation (not counting its own registration) -/
def Inv.cost (i : Inv) : Nat := i.st'.calls - (i.st.calls + 1)

/-- the invocations follow one another: each starts with the call count the previous one ended with
    (nothing in between moves the counter) -/
def Chained : Nat → List Inv → Nat → Prop
  | c, [], c' => c = c'
  | c, i :: is, c' => i.st.calls = c ∧ Chained i.st'.calls is c'

theorem Chained.append {c1 c2 c3 : Nat} {l1 l2 : List Inv} (h1 : Chained c1 l1 c2) (h2 : Chained c2 l2 c3) :
    Chained c1 (l1 ++ l2) c3 := by
  induction l1 generalizing c1 with
  | nil => simp only [Chained] at h1; subst h1; simpa using h2
  | cons i is ih => exact ⟨h1.1, ih h1.2⟩

/-- **the accounting identity**: a chain of invocations, each of which does not lower the counter, adds
    one call per invocation plus the calls made inside the invocations -/
theorem Chained.total {c c' : Nat} {l : List Inv} (h : Chained c l c')
    (hm : ∀ i ∈ l, i.st.calls + 1 ≤ i.st'.calls) :
    c' = c + l.length + (l.map Inv.cost).sum := by
  induction l generalizing c with
  | nil => simp only [Chained] at h; simp [h]
  | cons i is ih =>
    have h1 := ih h.2 (fun j hj => hm j (List.mem_cons_of_mem _ hj))
    have h2 := hm i (List.mem_cons_self ..)
    have h3 := h.1
    simp only [List.length_cons, List.map_cons, List.sum_cons, Inv.cost]
    omega

/-! ### Any: every alternative is invoked, in order -/
theorem anyLoop_calls (r : RunFn) (ctx : Ctx) (pos : Nat) :
    ∀ (gs : List G) (a : AltSt) (st : St) (a' : AltSt) (st' : St),
      anyLoop r ctx pos gs a st = some (a', st') →
      ∃ invs : List Inv, invs.map Inv.g = gs ∧ (∀ i ∈ invs, i.ok r ∧ i.ctx = ctx ∧ i.pos = pos) ∧
        Chained st.calls invs st'.calls := by
  refine anyLoop_elim r ctx pos ?_ ?_
  · exact fun _ _ => ⟨[], rfl, by simp, rfl⟩
  · intro g gs a st o st1 a' st' hr _ ⟨invs, h1, h2, h3⟩
    refine ⟨⟨g, ctx, pos, st, o, st1⟩ :: invs, by simp [h1], ?_, ⟨rfl, h3⟩⟩
    intro i hi
    rcases List.mem_cons.mp hi with rfl | hi
    · exact ⟨hr, rfl, rfl⟩
    · exact h2 i hi

/-! ### the Sequence family: every element invocation -/
theorem seqParse_calls (r : RunFn) (sh : SeqShape) (fuel : Nat) (fr : Frame) (ss : SeqSt) (st : St)
    (b : Bool) (ss' : SeqSt) (st' : St) (hd : fr.depth = fr.nodes.length)
    (h : seqParse r sh fuel fr.depth fr.nodes fr.ctx fr.pos fr.merge ss st = some (b, ss', st')) :
    ∃ invs : List Inv, (∀ i ∈ invs, i.ok r ∧ ∃ d, sh.lookup d = some i.g) ∧ Chained st.calls invs st'.calls := by
  refine seqParse_ind r sh (fun _ _ _ => True)
    (fun _ s _ s' => ∃ invs : List Inv, (∀ i ∈ invs, i.ok r ∧ ∃ d, sh.lookup d = some i.g) ∧
      Chained s.calls invs s'.calls)
    ?_ ?_ ?_ ?_ ?_ fuel fr ss st b ss' st' trivial hd h
  · intro _ s; exact ⟨[], by simp, rfl⟩
  · rintro _ s1 _ s2 _ s3 ⟨l1, a1, c1⟩ ⟨l2, a2, c2⟩
    refine ⟨l1 ++ l2, ?_, c1.append c2⟩
    intro i hi
    rcases List.mem_append.mp hi with hi | hi
    · exact a1 i hi
    · exact a2 i hi
  · intros; trivial
  · intro fr ss st g o st1 _ _ hl hr
    have one : ∃ invs : List Inv, (∀ i ∈ invs, i.ok r ∧ ∃ d, sh.lookup d = some i.g) ∧
        Chained st.calls invs st1.calls := by
      refine ⟨[⟨g, fr.ctx, fr.pos, st, o, st1⟩], ?_, ⟨rfl, rfl⟩⟩
      intro i hi
      simp only [List.mem_singleton] at hi
      subst hi
      exact ⟨hr, fr.depth, hl⟩
    exact ⟨one, fun _ _ => trivial, fun _ _ => one⟩
  · intro fr ss st _ _ _ _
    exact ⟨[], by simp, rfl⟩

/-- the calls made by a run, as a difference of the counter (meaningful because of `run_calls_le`) -/
def cost (st st' : St) : Nat := st'.calls - st.calls

theorem Inv.ok_le {r : RunFn} (hr : RunGrow r) (i : Inv) (h : i.ok r) : i.st.calls + 1 ≤ i.st'.calls :=
  (hr _ _ _ _ _ _ h).calls

theorem Inv.cost_eq (i : Inv) : i.cost = PV.cost i.st.regCall i.st' := rfl

section
variable (cfg : Cfg) (r : RunFn) (fuel : Nat) (ctx : Ctx) (pos : Nat) (st : St) (o : Out) (st' : St)

/-! ### leaves: no call -/
theorem calls_term (t : Terminal) (h : runStep cfg r fuel (.term t) ctx pos st = some (o, st')) :
    st'.calls = st.calls := by
  have h := Option.some.inj h
  rcases termStep_cases cfg t pos st with ⟨_, _, e⟩ | ⟨_, _, e⟩ | ⟨_, _, e⟩ <;> cases e.symm.trans h
  · rfl
  · exact (logEv_fields _ _ _).2.2.1
  · rfl

theorem calls_empty (h : runStep cfg r fuel .empty ctx pos st = some (o, st')) : st'.calls = st.calls := by
  cases h; rfl

theorem calls_eof (h : runStep cfg r fuel .eof ctx pos st = some (o, st')) : st'.calls = st.calls := by
  have h := Option.some.inj h
  rcases eofStep_cases cfg pos st with ⟨_, e⟩ | ⟨_, e⟩ <;> cases e.symm.trans h
  · rfl
  · exact (logEv_fields _ _ _).2.2.1

/-! ### a reference is the referenced parser (no call); a dangling one answers without a call -/
theorem calls_ref (k : Nat) (h : runStep cfg r fuel (.ref k) ctx pos st = some (o, st')) :
    (∃ g', cfg.env[k]? = some g' ∧ r g' ctx pos st = some (o, st')) ∨
    (cfg.env[k]? = none ∧ st'.calls = st.calls) := by
  rcases runStep_ref_some h with h | ⟨hk, hx⟩
  · exact .inl h
  · cases hx; exact .inr ⟨hk, rfl⟩

/-! ### Memoize: a cache hit and a curtailment make no call; otherwise the calls are those of the body -/
theorem calls_memo_hit (idx : Nat) (body : G) (e : CacheEntry) (hc : cacheGet st.cache idx pos ctx = some e)
    (h : runStep cfg r fuel (.memo idx body) ctx pos st = some (o, st')) :
    st'.calls = st.calls ∧ o = ⟨e.res, e.cp, e.err⟩ := by
  cases (memoStep_hit cfg r body hc).symm.trans h
  exact ⟨(logEv_fields _ _ _).2.2.1, rfl⟩

theorem calls_memo_curtail (idx : Nat) (body : G) (hc : cacheGet st.cache idx pos ctx = none)
    (hcur : ctx.get idx > remaining cfg.file pos + Facts.curtailSlack)
    (h : runStep cfg r fuel (.memo idx body) ctx pos st = some (o, st')) :
    st'.calls = st.calls ∧ o = ⟨.nil, [idx], none⟩ := by
  cases (memoStep_curtail cfg r body hc hcur).symm.trans h
  exact ⟨(logEv_fields _ _ _).2.2.1, rfl⟩

theorem calls_memo_body (idx : Nat) (body : G) (hc : cacheGet st.cache idx pos ctx = none)
    (hcur : ¬ ctx.get idx > remaining cfg.file pos + Facts.curtailSlack)
    (h : runStep cfg r fuel (.memo idx body) ctx pos st = some (o, st')) :
    ∃ st1 st2, st1.calls = st.calls ∧ st1.cache = st.cache ∧
      r body (ctx.inc idx) pos st1 = some (o, st2) ∧ st'.calls = st2.calls := by
  have h := (memoStep_body cfg r body hc hcur).symm.trans h
  split at h
  · cases h
  · rename_i o2 st2 hr
    cases h
    exact ⟨memoEnter cfg idx pos st, st2, (logEv_fields _ _ _).2.2.1, (logEv_fields _ _ _).1, hr, rfl⟩

/-! ### Any: one call per alternative, all alternatives -/
theorem calls_any (gs : List G) (h : runStep cfg r fuel (.any gs) ctx pos st = some (o, st')) :
    ∃ invs : List Inv, invs.map Inv.g = gs ∧
      (∀ i ∈ invs, i.ok r ∧ i.ctx = ctx ∧ i.pos = pos) ∧ Chained st.calls invs st'.calls := by
  obtain ⟨a, st1, hl, hx⟩ := runStep_any_some h
  obtain ⟨invs, h1, h2, h3⟩ := anyLoop_calls _ _ _ _ _ _ _ _ hl
  have hc := (St.frame_of_or (anyFinish_st a st1)).2.2.2
  rw [← hx] at hc
  exact ⟨invs, h1, h2, hc ▸ h3⟩

/-! ### Choice: one call per alternative tried (up to the first that matches): it is Any on the alternatives it tried
    (`choiceLoop_any`), and all were tried when nothing was found -/
theorem calls_choice (gs : List G) (h : runStep cfg r fuel (.choice gs) ctx pos st = some (o, st')) :
    ∃ invs : List Inv, invs.map Inv.g <+: gs ∧
      (∀ i ∈ invs, i.ok r ∧ i.ctx = ctx ∧ i.pos = pos) ∧ Chained st.calls invs st'.calls ∧
      (o.res.isNil = true → invs.map Inv.g = gs) := by
  obtain ⟨y, hl, hx⟩ := runStep_choice_some h
  obtain ⟨pre, a1, st1, h1, h2, h3, h4⟩ := choiceLoop_any r ctx pos gs {} st y rfl hl
  obtain ⟨invs, i1, i2, i3⟩ := anyLoop_calls _ _ _ _ _ _ _ _ h3
  have hc := (St.frame_of_or (anyFinish_st a1 st1)).2.2.2
  rw [h4, ← hx] at hc
  rw [← hx] at h2
  refine ⟨invs, i1 ▸ h1, i2, hc ▸ i3, fun hn => i1.trans (h2.resolve_right fun h => ?_)⟩
  rw [hn] at h; cases h.2

/-! ### the Sequence family: one call per element invocation -/
theorem calls_seqfam (g : G) (sh : SeqShape) (hs : g.shape = some sh)
    (h : runStep cfg r fuel g ctx pos st = some (o, st')) :
    ∃ invs : List Inv, (∀ i ∈ invs, i.ok r ∧ ∃ d, sh.lookup d = some i.g) ∧
      Chained st.calls invs st'.calls := by
  obtain ⟨b, ss, st1, hp, hx⟩ := runStep_seq_some hs h
  have hc := (St.frame_of_or (seqFinish_fields sh pos ss st1).2).2.2.2
  rw [← hx] at hc
  exact hc ▸ seqParse_calls r sh fuel ⟨0, [], ctx, pos, true⟩ {} st b ss st1 rfl hp

end

/-! ### the counter never goes down, so `cost` is the number of calls made -/
theorem run_calls_le (cfg : Cfg) (fuel : Nat) (g : G) (ctx : Ctx) (pos : Nat) (st : St) (o : Out) (st' : St)
    (h : run cfg fuel g ctx pos st = some (o, st')) : st.calls ≤ st'.calls :=
  (run_grow cfg fuel g ctx pos st o st' h).calls

theorem Chained.cost {r : RunFn} (hr : RunGrow r) {st st' : St} {l : List Inv} (h : Chained st.calls l st'.calls)
    (hok : ∀ i ∈ l, i.ok r) : PV.cost st st' = l.length + (l.map Inv.cost).sum := by
  have := h.total (fun i hi => Inv.ok_le hr i (hok i hi))
  unfold PV.cost
  omega

end PV
