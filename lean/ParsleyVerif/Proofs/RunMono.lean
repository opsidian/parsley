/-
  Fuel monotonicity: `fuel` bounds the recursion depth only — once `run` answers, more fuel gives the
  same answer.  (`none` is "out of fuel / over the work budget", never a parser outcome.)
-/
import ParsleyVerif.Proofs.RunLoops
import ParsleyVerif.Proofs.RunEqns
namespace PV

theorem runStep_mono (cfg : Cfg) {r1 r2 : RunFn} (h12 : RunLe r1 r2) {f1 f2 : Nat} (hle : f1 ≤ f2) :
    RunLe (runStep cfg r1 f1) (runStep cfg r2 f2) := by
  intro g ctx pos st x h
  cases g using G.shapes cfg.file pos with
  | term t => exact h
  | empty => exact h
  | eof => exact h
  | ref k =>
    simp only [runStep] at h ⊢
    split at h
    · exact h12 _ _ _ _ _ h
    · exact h
  | memo idx body =>
    refine memoStep_elim (motive := fun x => memoStep cfg r2 idx body ctx pos st = some x) ?_ ?_ ?_ h
    · exact fun e hc => memoStep_hit cfg r2 body hc
    · exact fun hc hcur => memoStep_curtail cfg r2 body hc hcur
    · intro o st2 hc hcur hr
      rw [memoStep_body cfg r2 body hc hcur, h12 _ _ _ _ _ hr]
  | any gs =>
    simp only [runStep] at h ⊢
    split at h
    · cases h
    · rename_i a st1 hr
      rw [anyLoop_mono h12 _ _ _ _ _ _ hr]; exact h
  | choice gs =>
    simp only [runStep] at h ⊢
    split at h
    · cases h
    · rename_i y hr
      rw [choiceLoop_mono h12 _ _ _ _ _ _ hr]; exact h
  | wrap g w hw =>
    rw [runStep_wrap cfg _ _ ctx st hw] at h ⊢
    split at h
    · cases h
    · rename_i o st1 hr
      rw [h12 _ _ _ _ _ hr]; exact h
  | seq g sh hs =>
    rw [runStep_shape cfg _ _ ctx pos st hs] at h ⊢
    unfold runSeq at h ⊢
    split at h
    · cases h
    · rename_i b ss st1 hr
      rw [seqParse_mono h12 _ f1 f2 hle _ _ _ _ _ _ _ _ hr]; exact h

theorem run_mono (cfg : Cfg) : ∀ f1 f2, f1 ≤ f2 → RunLe (run cfg f1) (run cfg f2) := by
  intro f1
  induction f1 with
  | zero => intro f2 _ g ctx pos st x h; cases h
  | succ f1 ih =>
    intro f2 hle g ctx pos st x h
    obtain ⟨f2, rfl⟩ : ∃ k, f2 = k + 1 := ⟨f2 - 1, by omega⟩
    have hle' : f1 ≤ f2 := by omega
    rw [run_succ] at h ⊢
    split at h
    · cases h
    · rename_i hb
      rw [if_neg hb]
      exact runStep_mono cfg (ih f2 hle') hle' _ _ _ _ _ h

/-- "some fuel answers" is "every fuel from some `F` on answers" -/
theorem answers_from {cfg : Cfg} {g : G} {ctx : Ctx} {pos : Nat} {st : St} (h : ∃ f x, run cfg f g ctx pos st = some x) :
    ∃ F, ∀ fuel, F ≤ fuel → (run cfg fuel g ctx pos st).isSome = true :=
  let ⟨F, x, hx⟩ := h
  ⟨F, fun fuel hle => by rw [run_mono cfg F fuel hle _ _ _ _ _ hx]; rfl⟩

theorem run_isNone_of_le (cfg : Cfg) {f1 f2 : Nat} (hle : f1 ≤ f2) (g : G) (ctx : Ctx) (pos : Nat) (st : St)
    (h : (run cfg f2 g ctx pos st).isNone = true) : (run cfg f1 g ctx pos st).isNone = true := by
  cases h1 : run cfg f1 g ctx pos st with
  | none => rfl
  | some x => rw [run_mono cfg f1 f2 hle _ _ _ _ _ h1] at h; exact h

theorem parse_isSome_of_run (cfg : Cfg) (g : G) (fuel : Nat)
    (h : (run cfg fuel g [] (cfg.file.pos 0) {}).isSome = true) : (parse cfg fuel g).isSome = true := by
  cases hr : run cfg fuel g [] (cfg.file.pos 0) {} with
  | none => rw [hr] at h; cases h
  | some r =>
    obtain ⟨o, st1⟩ := r
    simp only [parse, hr]
    split <;> rfl

theorem parse_mono (cfg : Cfg) (f1 f2 : Nat) (hle : f1 ≤ f2) (g : G) (st : St) (x : ParseOut)
    (h : parse cfg f1 g st = some x) : parse cfg f2 g st = some x := by
  cases hr : run cfg f1 g [] (cfg.file.pos 0) st with
  | none => simp [parse, hr] at h
  | some r =>
    obtain ⟨o, st1⟩ := r
    have hr2 := run_mono cfg f1 f2 hle _ _ _ _ _ hr
    simp only [parse, hr] at h
    simp only [parse, hr2]
    exact h

theorem parse_det (cfg : Cfg) (f1 f2 : Nat) (g : G) (st : St) (p1 p2 : ParseOut)
    (h1 : parse cfg f1 g st = some p1) (h2 : parse cfg f2 g st = some p2) : p1 = p2 := by
  have e1 := parse_mono cfg f1 (max f1 f2) (Nat.le_max_left ..) g st p1 h1
  have e2 := parse_mono cfg f2 (max f1 f2) (Nat.le_max_right ..) g st p2 h2
  rw [e1] at e2
  exact Option.some.inj e2

end PV
