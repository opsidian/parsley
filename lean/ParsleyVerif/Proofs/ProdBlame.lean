/-
  "A productive parser fails without an error only through the curtailment of an active parser of smaller
  rank" — the second half of the productivity argument of C06 (the first: Proofs/ProdRun.lean), needed for
  exactness: by induction on fuel over all cases of `run`, free of positions and of the ghost log.

  For a parser that is productive below rank `r` (`Prod.pr`), without SuppressError / Any, Choice, SeqTry
  without parsers (`LocLow`), whose Memoize operands are productive below their own rank (`MemoPr`): a call
  that returns NEITHER a result NOR an error is blamed (`Blame`) on a parser of its set of curtailing
  parsers that is active at the call position and has rank below `r`.  The same for cached outcomes, with
  the counters they were stored with.
-/
import ParsleyVerif.Proofs.ProdBasics
namespace PV
namespace Prod
open PV.Text

def MemoPr (c : ProdCert) : G → Prop
  | .memo i b => pr c (c.prank i) b = true
  | _ => True

structure EntB (c : ProdCert) (e : CacheEntry) : Prop where
  blame : e.res.isNil = true → e.err = none → Blame c e.ctx e.cp (c.prank e.idx)
  ne : NE e.res

def CacheBlame (c : ProdCert) (st : St) : Prop := ∀ e ∈ st.cache, EntB c e

structure BPost (c : ProdCert) (g : G) (ctx : Ctx) (o : Out) (st' : St) : Prop where
  cb : CacheBlame c st'
  blame : ∀ r, pr c r g = true → o.res.isNil = true → o.err = none → Blame c ctx o.cp r
  ne : NE o.res

/-- obtained from the decidable check `Prod.productive` and the scope by `Prod.envBlame` (Props/C06P.lean) -/
structure EnvBlame (c : ProdCert) (cfg : Cfg) : Prop where
  core : ∀ g ∈ cfg.env, g.Core (TermGood cfg)
  low : ∀ g ∈ cfg.env, g.All (LocLow cfg)
  mp : ∀ g ∈ cfg.env, g.All (MemoPr c)
  rules : ∀ k g, cfg.env[k]? = some g → pr c (c.rrank k) g = true

def RunBlameOK (c : ProdCert) (cfg : Cfg) (r : RunFn) : Prop :=
  ∀ g ctx pos st o st', g.Core (TermGood cfg) → g.All (LocLow cfg) → g.All (MemoPr c) → CacheBlame c st →
    r g ctx pos st = some (o, st') → BPost c g ctx o st'

theorem altErr_none_inv {pos : Nat} {a : AltSt} {e : Option Err}
    (h1 : (altErr pos a e).err = none) (h2 : (altErr pos a e).nf = none) :
    e = none ∧ a.err = none ∧ a.nf = none := by
  cases e with
  | none => rw [altErr_none] at h1 h2; exact ⟨rfl, h1, h2⟩
  | some e2 =>
    rcases altErr_some_cases pos a e2 with ⟨h, _⟩ | ⟨h, _⟩ | ⟨h, c, hc, _⟩ <;> rw [h] at h1 h2
    · cases h1
    · cases h2
    · cases hc.symm.trans h1

/-- `BJ`, `BE`, `BQ`: the instance of `seqParse_est` (Proofs/ProdBasics.lean) for blame — what holds when `parse(depth, …)` is
    entered, how the `sequence` object and the state evolve, what every call of it establishes (as `PJ`, `PE`, `PQ` of ProdRun) -/
def BJ (c : ProdCert) (sh : SeqShape) (ctx0 : Ctx) (fr : Frame) (ss : SeqSt) (st : St) : Prop :=
  CacheBlame c st ∧ NE ss.result ∧ (fr.ctx = [] ∨ (fr.ctx = ctx0 ∧ fr.merge = true)) ∧
  (∀ i, i < fr.depth → sh.lookup i ≠ none)

def BE (c : ProdCert) (ss : SeqSt) (st : St) (ss' : SeqSt) (st' : St) : Prop :=
  (CacheBlame c st → CacheBlame c st') ∧ (NE ss.result → NE ss'.result) ∧ (∀ j ∈ ss.cp, j ∈ ss'.cp) ∧
  (ss.result.isNil = false → ss'.result.isNil = false) ∧ (ss.err ≠ none → ss'.err ≠ none)

def BQ (c : ProdCert) (g : G) (ctx0 : Ctx) (ss : SeqSt) (_st : St) : Prop :=
  ∀ r, pr c r g = true → ss.result.isNil = false ∨ ss.err ≠ none ∨ Blame c ctx0 ss.cp r

theorem BE_trans {c : ProdCert} (a : SeqSt) (b : St) (c' : SeqSt) (d : St) (e : SeqSt) (f : St)
    (h1 : BE c a b c' d) (h2 : BE c c' d e f) : BE c a b e f :=
  ⟨fun h => h2.1 (h1.1 h), fun h => h2.2.1 (h1.2.1 h), fun j hj => h2.2.2.1 j (h1.2.2.1 j hj),
    fun h => h2.2.2.2.1 (h1.2.2.2.1 h), fun h => h2.2.2.2.2 (h1.2.2.2.2 h)⟩

theorem BE_refl {c : ProdCert} (ss : SeqSt) (st : St) : BE c ss st ss st := ⟨id, id, fun _ h => h, id, id⟩

theorem BQ_stable {c : ProdCert} {g : G} {ctx0 : Ctx} (ss : SeqSt) (st : St) (ss' : SeqSt) (st' : St)
    (hq : BQ c g ctx0 ss st) (hE : BE c ss st ss' st') : BQ c g ctx0 ss' st' :=
  fun r hpr => (hq r hpr).imp hE.2.2.2.1 (Or.imp hE.2.2.2.2 (Blame.mono_cp hE.2.2.1))

theorem BJ_stable {c : ProdCert} {sh : SeqShape} {ctx0 : Ctx} (fr : Frame) (ss : SeqSt) (st : St) (ss' : SeqSt) (st' : St)
    (hJ : BJ c sh ctx0 fr ss st) (hE : BE c ss st ss' st') : BJ c sh ctx0 fr ss' st' :=
  ⟨hE.1 hJ.1, hE.2.1 hJ.2.1, hJ.2.2.1, hJ.2.2.2⟩

theorem BE_after {c : ProdCert} (m : Bool) (ss : SeqSt) (o : Out) {st st1 : St}
    (hcb : CacheBlame c st → CacheBlame c st1) : BE c ss st (seqAfter m ss o) st1 :=
  ⟨hcb, fun h => by rw [seqAfter_result]; exact h, seqAfter_cp_left _ _ _,
    fun h => by rw [seqAfter_result]; exact h, fun h => by rw [seqAfter_err]; exact pickErr_ne_left h⟩

theorem BE_emit {c : ProdCert} {g : G} {ctx0 : Ctx} (sh : SeqShape) (fr : Frame) {ss ss1 : SeqSt} {st st1 : St}
    (hE : BE c ss st ss1 st1) : BE c ss st (seqEmit sh fr ss1) st1 ∧ BQ c g ctx0 (seqEmit sh fr ss1) st1 :=
  have ⟨_, _, f3, f4⟩ := seqEmit_fields sh fr ss1
  ⟨⟨hE.1, fun h => f4 (hE.2.1 h), hE.2.2.1, fun _ => f3, hE.2.2.2.2⟩, fun _ _ => .inl f3⟩

section seq
variable {c : ProdCert} {cfg : Cfg} {r : RunFn}

theorem seqParse_blame (hr : RunBlameOK c cfg r) (g : G) (sh : SeqShape)
    (hg : g.Core (TermGood cfg)) (hgl : g.All (LocLow cfg)) (hgm : g.All (MemoPr c)) (hs : g.shape = some sh)
    (ctx0 : Ctx) :
    ∀ (fuel : Nat) (fr : Frame) ss st b ss' st', BJ c sh ctx0 fr ss st → fr.depth = fr.nodes.length →
      seqParse r sh fuel fr.depth fr.nodes fr.ctx fr.pos fr.merge ss st = some (b, ss', st') →
      BE c ss st ss' st' ∧ BQ c g ctx0 ss' st' := by
  have hshape := shape_low hs (G.All_self hgl)
  refine seqParse_est r sh (BJ c sh ctx0) (BE c) (BQ c g ctx0) BE_refl BE_trans BJ_stable BQ_stable ?_ ?_
  · intro fr ss st g' o st1 hJ hd hl hrun
    obtain ⟨j1, j2, j3, j4⟩ := hJ
    have hp := hr g' fr.ctx fr.pos st.regCall o st1 (shape_lookup_core hg hs fr.depth g' hl)
      (shape_lookup_all hgl hs fr.depth g' hl) (shape_lookup_all hgm hs fr.depth g' hl)
      (cacheAll_of_eq j1 rfl) hrun
    have hE1 : BE c ss st (seqAfter fr.merge ss o) st1 := BE_after _ _ _ fun _ => hp.cb
    refine ⟨fun hnn => ⟨hE1, hp.ne hnn, ?_⟩, ?_, ?_⟩
    · intro n _
      refine ⟨hp.cb, by rw [seqAfter_result]; exact j2, ?_, ?_⟩
      · simp only [Frame.next]
        by_cases hc : n.rpos > fr.pos
        · left; simp [hc]
        · simp only [hc, ↓reduceIte]
          cases j3 with
          | inl h => exact .inl h
          | inr h => exact .inr ⟨h.1, by simp [h.2]⟩
      · simp only [Frame.next]
        intro i hi
        by_cases hid : i < fr.depth
        · exact j4 i hid
        · have : i = fr.depth := by omega
          subst this
          rw [hl]; exact fun hc => by cases hc
    · exact fun _ _ => BE_emit sh fr hE1
    · intro hn hlc
      refine ⟨hE1, ?_⟩
      intro r' hpr
      have hpr' := prShape hs hpr fr.depth g' hl hlc
      by_cases he : o.err = none
      · have hb := hp.blame r' hpr' hn he
        cases j3 with
        | inl h => rw [h] at hb; exact absurd hb Blame.not_nil
        | inr h =>
          rw [h.1] at hb
          refine .inr (.inr (hb.mono_cp ?_))
          rw [h.2]
          exact seqAfter_cp_right ss o
      · exact .inr (.inl (by rw [seqAfter_err]; exact pickErr_ne_right he))
  · exact fun fr ss st hJ hd hl => ⟨hshape.2 fr.depth hl hJ.2.2.2, BE_emit sh fr (BE_after _ _ _ id)⟩

end seq

theorem seqFinish_blame {c : ProdCert} {g : G} {sh : SeqShape} {ctx : Ctx} {pos : Nat} {st st1 : St} {ss : SeqSt}
    (hcb : CacheBlame c st) (h : BE c {} st ss st1 ∧ BQ c g ctx ss st1) :
    BPost c g ctx (seqFinish sh pos ss st1).1 (seqFinish sh pos ss st1).2 := by
  obtain ⟨hE, hQ⟩ := h
  rcases seqFinish_cases sh pos ss st1 with ⟨hnil, err, ho, he⟩ | ⟨hnil, ho⟩ <;> rw [ho]
  · refine ⟨hE.1 hcb, fun r hpr _ herr => ?_, NE_nil⟩
    rcases hQ r hpr with h1 | h1 | h1
    · rw [hnil] at h1; cases h1
    · rcases he with rfl | ⟨_, _, _, _, _, _, rfl⟩
      · exact absurd herr h1
      · cases herr
    · exact h1
  · exact ⟨cacheAll_of_eq (hE.1 hcb) (setError_ctxErr st1 ss.err).2.1,
      (fun r _ hn => by rw [show ss.result.isNil = true from hn] at hnil; cases hnil), hE.2.1 NE_nil⟩

/-- the post-processing of Optional / Name / Single: only Single hands on an answer that has neither a result nor an
    error, and is productive when its operand is -/
theorem wrapOut_blame {c : ProdCert} {cfg : Cfg} {pos : Nat} {g : G} {w : Wrap} (hg : g.Core (TermGood cfg))
    (hw : g.wrap cfg.file pos = some w) (hloc : LocLow cfg g) {ctx : Ctx} {o : Out} {st' : St}
    (hp : BPost c w.child ctx o st') : BPost c g ctx (w.out o) st' := by
  revert hg hloc hp
  refine G.wrap_cases (motive := fun g w => g.Core (TermGood cfg) → LocLow cfg g → BPost c w.child ctx o st' → BPost c g ctx (w.out o) st')
    ?_ ?_ ?_ ?_ ?_ ?_ hw
  · intro g' hg hloc hp
    exact ⟨hp.cb, (fun r _ hn => by rw [appendNode_one_not_nil] at hn; cases hn), NE_appendNode hp.ne (NE_one _)⟩
  · intro g' nm hg hloc hp
    show BPost c _ ctx (nameOut pos nm o) st'
    rcases nameOut_cases pos nm o with ⟨e, _, ho⟩ | ⟨_, _, ho⟩ | ⟨_, hnn, ho⟩ <;> rw [ho]
    · exact ⟨hp.cb, (fun _ _ _ he => nomatch he), NE_nil⟩
    · exact ⟨hp.cb, (fun _ _ _ he => nomatch he), NE_nil⟩
    · exact ⟨hp.cb, (fun r _ hn => by rw [hnn] at hn; cases hn), hp.ne⟩
  · intro g' hg hloc hp
    show BPost c _ ctx (singleOut o) st'
    rcases singleOut_cases o with ⟨e, _, ho⟩ | ⟨_, _, _, _, _, _, _, ho⟩ | ⟨he, ho⟩ <;> rw [ho]
    · exact ⟨hp.cb, (fun _ _ _ he => nomatch he), NE_nil⟩
    · exact ⟨hp.cb, (fun _ _ hn => nomatch hn), NE_one _⟩
    · exact ⟨hp.cb, fun r hpr hn _ => hp.blame r hpr hn he, hp.ne⟩
  · intro g' hg hloc hp
    exact hloc.elim
  · intro g' m hg hloc hp
    exact hg.elim
  · intro g' m hg hloc hp
    exact hg.elim

theorem any_blame {c : ProdCert} {cfg : Cfg} {r : RunFn} (hr : RunBlameOK c cfg r) {ctx : Ctx} {pos : Nat} {st : St}
    {gs : List G} (hg : ∀ g' ∈ gs, g'.Core (TermGood cfg) ∧ g'.All (LocLow cfg) ∧ g'.All (MemoPr c))
    (hcb : CacheBlame c st) {a : AltSt} {st1 : St} (hl : anyLoop r ctx pos gs {} st = some (a, st1)) :
    BPost c (.any gs) ctx (anyFinish a st1).1 (anyFinish a st1).2 := by
  obtain ⟨_, a1, a2, a3⟩ := anyLoop_ind2 r ctx pos
    (fun rest a s => (∃ pre, gs = pre ++ rest) ∧ CacheBlame c s ∧ NE a.res ∧
      ∀ r, prAny c r gs = true → prAny c r rest = true ∨
        (a.res.isNil = true → a.err = none → a.nf = none → Blame c ctx a.cp r))
    (by
      intro g' rest a s o' s' hA hrun
      obtain ⟨⟨pre, hpre⟩, a1, a2, a3⟩ := hA
      have hmem : g' ∈ gs := by rw [hpre]; simp
      have hp := hr g' ctx pos s.regCall o' s' (hg g' hmem).1 (hg g' hmem).2.1
        (hg g' hmem).2.2 a1 hrun
      obtain ⟨f1, f2, _, _⟩ := altErr_fields pos
        { a with cp := cpUnion a.cp o'.cp, res := appendNode a.res o'.res } o'.err
      refine ⟨⟨pre ++ [g'], by rw [hpre]; simp⟩, hp.cb, by rw [f2]; exact NE_appendNode a2 hp.ne, ?_⟩
      intro r hprgs
      rw [f1, f2]
      cases a3 r hprgs with
      | inl hrest =>
        simp only [prAny, Bool.or_eq_true] at hrest
        cases hrest with
        | inl hpr =>
          refine .inr (fun hn he hnf => ?_)
          obtain ⟨q1, _, _⟩ := altErr_none_inv he hnf
          exact (hp.blame r hpr (appendNode_nil_inv hn).2 q1).mono_cp (mem_cpUnion_right _ _)
        | inr hrest => exact .inl hrest
      | inr hbl =>
        refine .inr (fun hn he hnf => ?_)
        obtain ⟨_, q2, q3⟩ := altErr_none_inv he hnf
        exact (hbl (appendNode_nil_inv hn).1 q2 q3).mono_cp (mem_cpUnion_left _ _))
    gs {} st a st1 ⟨⟨[], rfl⟩, hcb, NE_nil, fun r hr => .inl hr⟩ hl
  rcases anyFinish_cases a st1 with ⟨hnil, e⟩ | ⟨hnil, e⟩ <;> rw [e]
  · refine ⟨a1, fun r hpr _ he => ?_, NE_nil⟩
    cases a3 r hpr with
    | inl h1 => cases h1
    | inr h1 =>
      unfold AltSt.finalErr at he
      split at he
      · cases he
      · exact h1 hnil ‹_› he
  · exact ⟨cacheAll_of_eq a1 (setError_ctxErr st1 a.err).2.1, fun r _ hn => absurd hn (Bool.eq_false_iff.mp hnil), a2⟩

theorem runStep_blame (c : ProdCert) (cfg : Cfg) (henv : EnvBlame c cfg) {r : RunFn} (hr : RunBlameOK c cfg r)
    (fuel : Nat) : RunBlameOK c cfg (runStep cfg r fuel) := by
  intro g ctx pos st o st' hg hgl hgm hcb h
  revert hg hgl hgm
  refine runStep_elim (motive := fun g x => g.Core (TermGood cfg) → g.All (LocLow cfg) → g.All (MemoPr c) →
      BPost c g ctx x.1 x.2) ?term ?empty ?eof ?ref ?refNil ?memo ?any ?choice ?wrap ?seq g (o, st') h
  case term =>
    intro t _ _ _
    rcases termStep_cases cfg t pos st with ⟨n, _, e⟩ | ⟨e', _, e⟩ | ⟨s, _, e⟩ <;> rw [e]
    · exact ⟨hcb, (fun _ _ hn => nomatch hn), NE_one _⟩
    · exact ⟨cacheAll_of_eq hcb (logEv_fields st cfg _).1, (fun _ _ _ he => nomatch he), NE_nil⟩
    · exact ⟨hcb, (fun _ _ _ he => nomatch he), NE_nil⟩
  case empty => exact fun _ _ _ => ⟨hcb, (fun _ _ hn => nomatch hn), NE_one _⟩
  case eof =>
    intro _ _ _
    rcases eofStep_cases cfg pos st with ⟨_, e⟩ | ⟨_, e⟩ <;> rw [e]
    · exact ⟨hcb, (fun _ _ hn => nomatch hn), NE_one _⟩
    · exact ⟨cacheAll_of_eq hcb (logEv_fields st cfg _).1, (fun _ _ _ he => nomatch he), NE_nil⟩
  case ref =>
    intro k g' x hk h _ _ _
    have hm := List.mem_of_getElem? hk
    have hp := hr g' ctx pos st x.1 x.2 (henv.core g' hm) (henv.low g' hm) (henv.mp g' hm) hcb h
    refine ⟨hp.cb, fun r hpr hn he => ?_, hp.ne⟩
    simp only [pr, decide_eq_true_eq] at hpr
    exact (hp.blame _ (henv.rules k g' hk) hn he).mono_r hpr
  case refNil => exact fun _ _ _ _ _ => ⟨hcb, (fun _ _ _ he => nomatch he), NE_nil⟩
  case memo =>
    intro idx body x h hg hgl hgm
    have hprb : pr c (c.prank idx) body = true := hgm.1
    refine memoStep_elim (motive := fun x => BPost c (.memo idx body) ctx x.1 x.2) ?_ ?_ ?_ h
    · intro e hc
      obtain ⟨hm, hi, _⟩ := cacheGet_some hc
      refine ⟨cacheAll_of_eq hcb (logEv_fields st cfg _).1, fun r hpr hn he => ?_, (hcb e hm).ne⟩
      simp only [pr, Bool.and_eq_true, decide_eq_true_eq] at hpr
      obtain ⟨j, hj, h2, h3⟩ := (hcb e hm).blame hn he
      exact ⟨j, hj, cacheGet_live hc j h2, by rw [hi] at h3; omega⟩
    · intro _ hcur
      refine ⟨cacheAll_of_eq hcb (logEv_fields st cfg _).1, fun r hpr _ _ => ?_, NE_nil⟩
      simp only [pr, Bool.and_eq_true, decide_eq_true_eq] at hpr
      exact ⟨idx, List.mem_singleton.mpr rfl, by omega, hpr.1⟩
    · intro o st2 _ _ hr2
      have hp := hr body (ctx.inc idx) pos _ o st2 hg hgl.2 hgm.2
        (cacheAll_of_eq hcb (memoEnter_frame cfg idx pos st).1) hr2
      -- the body's blame is on another parser: `idx` itself has the rank the body is productive below
      have hblame : ∀ r, c.prank idx ≤ r → o.res.isNil = true → o.err = none → Blame c ctx o.cp r :=
        fun r hr hn he => (hp.blame _ hprb hn he).of_inc hr
      refine ⟨fun x hx => ?_, fun r hpr hn he => ?_, hp.ne⟩
      · cases mem_cacheSave hx with
        | inl h1 =>
          subst h1
          refine ⟨fun hn he => ?_, hp.ne⟩
          obtain ⟨j, hj, h3, h4⟩ := hblame (c.prank idx) (Nat.le_refl _) hn he
          exact ⟨j, hj, by show 1 ≤ (ctx.filter o.cp).get j; rw [get_filter hj]; exact h3, h4⟩
        | inr h1 => exact hp.cb x h1
      · simp only [pr, Bool.and_eq_true, decide_eq_true_eq] at hpr
        exact hblame r (by omega) hn he
  case any =>
    exact fun gs a st1 hl hg hgl hgm => any_blame hr
      (fun g' hg' => ⟨CoreList_mem hg g' hg', AllList_mem hgl.2 g' hg', AllList_mem hgm.2 g' hg'⟩) hcb hl
  case choice =>
    -- a productive alternative beyond the ones tried matters only when nothing was found, and then all were tried
    intro gs pre a st1 h1 h2 hl hg hgl hgm
    have hp := any_blame hr (fun g' hg' => ⟨CoreList_mem hg g' (h1.subset hg'), AllList_mem hgl.2 g' (h1.subset hg'),
      AllList_mem hgm.2 g' (h1.subset hg')⟩) hcb hl
    refine ⟨hp.cb, fun r hpr hn he => ?_, hp.ne⟩
    rcases h2 with rfl | ⟨_, h2⟩
    · exact hp.blame r hpr hn he
    · rw [h2] at hn; cases hn
  case wrap =>
    intro g w o1 st1 hw hr1 hg hgl hgm
    exact wrapOut_blame hg hw (G.All_self hgl) (hr _ ctx _ st o1 st1 (hg.wrap hw).1 (hgl.wrap hw) (hgm.wrap hw) hcb hr1)
  case seq =>
    exact fun g sh b ss st1 hs hsp hg hgl hgm => seqFinish_blame hcb
      (seqParse_blame hr g sh hg hgl hgm hs ctx fuel ⟨0, [], ctx, pos, true⟩ {} st b ss st1
        ⟨hcb, NE_nil, .inr ⟨rfl, rfl⟩, (fun i hi => nomatch hi)⟩ rfl hsp)

theorem run_blame (c : ProdCert) (cfg : Cfg) (henv : EnvBlame c cfg) : ∀ fuel, RunBlameOK c cfg (run cfg fuel) := by
  intro fuel
  induction fuel with
  | zero => intro g ctx pos st o st' _ _ _ _ h; cases h
  | succ fuel ih =>
    exact fun g ctx pos st o st' hg hgl hgm hcb h =>
      runStep_blame c cfg henv ih fuel g ctx pos st o st' hg hgl hgm hcb (run_some_step h)

theorem ok_kid {c : ProdCert} {L : List Nat} {g k : G} (h : ok c L g = true) (hk : k ∈ g.kids) : ∃ L', ok c L' k = true := by
  cases g with
  | memo i b => simp only [ok, Bool.and_eq_true] at h; cases List.mem_singleton.mp hk; exact ⟨_, h.2⟩
  | any gs | choice gs => exact ⟨L, okAll_mem h k hk⟩
  | seq _ gs _ =>
    obtain ⟨d, hd⟩ := List.getElem?_of_mem hk
    obtain ⟨Ld, h1, _⟩ := okSeq_get c gs L true d k h hd
    exact ⟨Ld, h1⟩
  | many g _ _ => simp only [ok, Bool.and_eq_true] at h; cases List.mem_singleton.mp hk; exact ⟨L, h.1.1.1.1⟩
  | sepBy v s _ _ =>
    simp only [ok, Bool.and_eq_true] at h
    rcases List.mem_cons.mp hk with rfl | hk
    · exact ⟨L, h.1.1.1.1.1.1.1⟩
    · cases List.mem_singleton.mp hk; exact ⟨[], h.1.1.1.1.1.2⟩
  | optional g => simp only [ok, Bool.and_eq_true] at h; cases List.mem_singleton.mp hk; exact ⟨L, h.1⟩
  | name g _ | ltrim g _ | rtrim g _ | single g | suppress g => cases List.mem_singleton.mp hk; exact ⟨L, h⟩
  | term | empty | eof | ref => cases hk

theorem ok_memoPr (c : ProdCert) : ∀ (g : G) (L : List Nat), ok c L g = true → g.All (MemoPr c) :=
  G.induct fun g ih L h => G.All_kids.mpr ⟨by
    cases g with
    | memo i b => simp only [ok, Bool.and_eq_true] at h; exact h.1
    | _ => trivial, fun k hk => let ⟨L', h'⟩ := ok_kid h hk; ih k hk L' h'⟩

theorem okAll_memoPr (c : ProdCert) : ∀ (gs : List G) (L : List Nat), okAll c L gs = true → AllList (MemoPr c) gs :=
  fun gs L h => AllList_iff.mpr fun g hg => ok_memoPr c g L (okAll_mem h g hg)

theorem okSeq_memoPr (c : ProdCert) : ∀ (gs : List G) (L : List Nat) (first : Bool), okSeq c L first gs = true →
    AllList (MemoPr c) gs :=
  fun gs L first h => AllList_iff.mpr fun g hg =>
    let ⟨d, hd⟩ := List.getElem?_of_mem hg
    let ⟨Ld, h1, _⟩ := okSeq_get c gs L first d g h hd
    ok_memoPr c g Ld h1

end Prod
end PV
