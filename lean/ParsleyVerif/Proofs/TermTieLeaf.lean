/-
  The tie of the TERMINAL PARSERS: the translated closures as LEAVES of the parser core.

  `tie_terminal` (Proofs/TermTieParsers.lean) relates the translated closure to `Terminal.parse`.  The parser core's model
  (`run`, Model/Run.lean) reports a panic inside a terminal as an error VALUE (kind `.panic site`, at the position) — a
  difference of REPRESENTATION, like the dangling parser variable of Props/C01Q.lean: the Go program panics.  Therefore
    * `termLeaf`        the translated closure with a Go panic reported the model's way (`panicAsValue`: an error value of
                        kind panic labelled with the model's site name) agrees with `run` at EVERY position (`tie_leaf`:
                        `AgreesF`), so that it can replace the model leaf `Terminal_parse` of the closed world;
    * `leaf_eq_of_not_panic`  where the closure does not panic the leaf IS the closure (nothing is relabelled).
-/
import ParsleyVerif.Proofs.TermTieParsers
namespace PV.TermTie
open PV.CoreTie PV.Text PV.TermPrelude PV.FactsTerm PV.FactsCore

/-- the model's answer of a terminal, as `run` reports it -/
def termOut (cfg : Cfg) (t : Terminal) (pos : Nat) : Out :=
  match t.parse cfg.params cfg.file pos with
  | .node n => ⟨.one n, [], none⟩
  | .err e => ⟨.nil, [], some e⟩
  | .panic site => ⟨.nil, [], some ⟨pos, .panic (tokOf site)⟩⟩

/-- the site name the model gives to a panic of the terminal at this position (empty: no panic) -/
def panicSite (cfg : Cfg) (t : Terminal) (pos : Nat) : Bytes :=
  match t.parse cfg.params cfg.file pos with
  | .panic site => tokOf site
  | _ => []

/-- a Go panic of `x`, reported as the model reports a panic inside a terminal: the error value
    `parsley.NewError(pos, <panic: site>)` (`eKind (.panic site)`), the state unchanged; any other outcome of `x` as it is -/
def panicAsValue (site : Bytes) (pos : Int) (x : CM (CNode × IntSet × CErr)) : CM (CNode × IntSet × CErr) := fun s =>
  match x s with
  | .panic => .ok (.nil, [], .mk pos (.other 1 site)) s
  | r => r

def termLeaf (cfg : Cfg) (T : TWorld) (X : RxNames) (schema : CorePrelude.Opaque) (t : Terminal)
    (m : IntMap) (pos : Int) : CM (CNode × IntSet × CErr) :=
  panicAsValue (panicSite cfg t pos.toNat) pos (termClosure T X schema t m pos)

theorem tie_leaf (T : TWorld) (cfg : Cfg) (h0 : cfg.maxCalls = 0) (hT : TWorldRel T cfg) (X : RxNames)
    (schema : CorePrelude.Opaque) (t : Terminal) (hX : RegexpOK T cfg X t) (fuel : Nat) :
    AgreesF (termLeaf cfg T X schema t) cfg (fuel + 1) (.term t) := by
  intro m c pos s st _ hs
  have h := tie_terminal T cfg hT X schema t hX m pos s
  rw [run_succ0 h0, runStep, termStep]
  unfold termLeaf panicAsValue panicSite
  rw [Int.toNat_natCast]
  revert h
  rcases t.parse cfg.params cfg.file pos with n | e | site <;> intro h <;>
    rw [show termClosure T X schema t m pos s = _ from h]
  · exact ⟨s, rfl, hs⟩
  · exact ⟨s, rfl, hs.logEv cfg _⟩
  · exact ⟨s, rfl, hs⟩

theorem leaf_eq_of_not_panic (cfg : Cfg) (T : TWorld) (X : RxNames) (schema : CorePrelude.Opaque) (t : Terminal)
    (m : IntMap) (pos : Int) (s : Context) (h : termClosure T X schema t m pos s ≠ .panic) :
    termLeaf cfg T X schema t m pos s = termClosure T X schema t m pos s := by
  unfold termLeaf panicAsValue
  cases hx : termClosure T X schema t m pos s with
  | panic => exact absurd hx h
  | ok a s' => rfl
  | nofuel => rfl

end PV.TermTie
