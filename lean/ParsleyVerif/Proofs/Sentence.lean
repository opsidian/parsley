/-
  Sentence = SeqOf(p, End) with Select(0): inversion of its derivations; its run as the sequence loop over
  `[p, End]` (`run_sentence_inv`) and, from that, WHAT IT ANSWERS in terms of what the operand answers
  (`run_sentence_cases`: nothing, or the Sentence node over one alternative of the operand that ends at the end of the
  input, and then no error) — of which the operand's soundness taken through the wrapper whatever the operand's meaning
  is (`sentence_sound_of_operand`), completeness (`sentence_complete_of_operand`) and "at most one tree"
  (Proofs/A05Sentence.lean) are readings; the trees whose interpreters are applicable
  (`Node.EvalSafe`; that evaluation does not panic on them: Proofs/EvalPanics.lean).
-/
import ParsleyVerif.Proofs.RunSound
import ParsleyVerif.Proofs.RunPos
import ParsleyVerif.Model.Eval
namespace PV
open PV.Text

def sentenceShape (g : G) : SeqShape :=
  { lookup := fun i => [g, G.eof][i]?, lenCheck := fun len => len == 2, token := seqTok,
    interp := .select 0, single := false, name := none }

theorem sentence_shape (g : G) : (G.sentence g).shape = some (sentenceShape g) := rfl

theorem run_sentence_inv {cfg : Cfg} {fuel : Nat} {g : G} {ctx : Ctx} {pos : Nat} {st : St} {o : Out} {st' : St}
    (h : run cfg fuel (G.sentence g) ctx pos st = some (o, st')) :
    ∃ f b ss st1, fuel = f + 1 ∧
      seqParse (run cfg f) (sentenceShape g) f 0 [] ctx pos true {} st = some (b, ss, st1) ∧
      seqFinish (sentenceShape g) pos ss st1 = (o, st') := by
  cases fuel with
  | zero => cases h
  | succ f =>
    rw [run_seqfam cfg f _ (sentenceShape g) ctx pos st (sentence_shape g)] at h
    split at h
    · cases h
    · unfold runSeq at h
      split at h
      · cases h
      · rename_i b ss st1 hsp
        exact ⟨f, b, ss, st1, rfl, hsp, Option.some.inj h⟩

theorem G.sentence_all {P : G → Prop} {g : G} (hg : g.All P) (he : P .eof) (hs : P (G.sentence g)) :
    (G.sentence g).All P :=
  ⟨hs, hg, he, trivial⟩

theorem G.sentence_core {T : Terminal → Prop} {g : G} (hg : g.Core T) : (G.sentence g).Core T :=
  ⟨hg, trivial, trivial⟩

/-- a derivation of `Sentence(g)` is a derivation of `g` that ends at the end of the input, followed by
    the EOF node -/
theorem derives_sentence_inv (cfg : Cfg) (g : G) (pos : Nat) (x : Node) (h : Derives cfg (G.sentence g) pos x) :
    ∃ y, Derives cfg g pos y ∧ isEOF cfg.file y.rpos = true ∧
      x = .nt seqTok [y, .eof y.rpos] y.pos y.rpos (.select 0) := by
  unfold G.sentence at h
  cases h with
  | seqfam hs hd hl =>
    rename_i sh nodes
    simp only [G.shape, Option.some.injEq] at hs
    subst hs
    simp only [List.length_cons, List.length_nil, beq_iff_eq] at hl
    cases hd with
    | nil => simp at hl
    | cons hl0 hy hrest =>
      rename_i g0 y rest
      simp only [List.getElem?_cons_zero, Option.some.injEq] at hl0
      subst hl0
      cases hrest with
      | nil => simp at hl
      | cons hl1 hz hrest2 =>
        rename_i g1 z rest2
        simp only [Nat.zero_add, List.getElem?_cons_succ, List.getElem?_cons_zero, Option.some.injEq] at hl1
        subst hl1
        cases hrest2 with
        | cons _ _ _ => simp at hl
        | nil =>
          cases hz with
          | eof he =>
            refine ⟨y, hy, he, ?_⟩
            simp [handleResult, Node.rpos]
          | seqfam hs' _ _ => simp [G.shape] at hs'

theorem run_eof_eq {cfg : Cfg} {fuel : Nat} {ctx : Ctx} {pos : Nat} {st : St} {x : Out × St}
    (h : run cfg fuel .eof ctx pos st = some x) : x = eofStep cfg pos st :=
  let ⟨_, _, h'⟩ := run_some_inv h
  (Option.some.inj h').symm

/-- the only `.panic` the evaluator may answer is its own "out of fuel" -/
def NoRealPanic (o : EvalOut) : Prop := ∀ s, o = .panic s → s = "out of fuel"

mutual
/-- every non-terminal has an interpreter that is applicable to it: Select within range, Object over
    key/value nodes with string-literal keys -/
def Node.EvalSafe : Node → Prop
  | .term _ _ _ _ => True
  | .empty _ => True
  | .eof _ => True
  | .nt _ cs _ _ interp =>
    EvalSafeList cs ∧
    (match interp with
     | .none => False
     | .select i => i < cs.length
     | .object => ObjShape cs
     | _ => True)
def EvalSafeList : List Node → Prop
  | [] => True
  | c :: cs => c.EvalSafe ∧ EvalSafeList cs
/-- every second child is a key/value node: at least three children, the first a string literal -/
def ObjShape : List Node → Prop
  | [] => True
  | [kv] => KvShape kv
  | kv :: _ :: rest => KvShape kv ∧ ObjShape rest
def KvShape : Node → Prop
  | .nt _ (.term _ (.str _) _ _ :: _ :: _ :: _) _ _ _ => True
  | _ => False
end

theorem EvalSafeList_mem {cs : List Node} : EvalSafeList cs → ∀ c ∈ cs, c.EvalSafe :=
  forall_mem_of_cons fun _ _ h => h

theorem EvalSafe_nt (tk : Bytes) (cs : List Node) (p r : Nat) (interp : Interp)
    (h : (Node.nt tk cs p r interp).EvalSafe) :
    EvalSafeList cs ∧ interp ≠ .none ∧ (∀ i, interp = .select i → i < cs.length) ∧ (interp = .object → ObjShape cs) := by
  unfold Node.EvalSafe at h
  cases interp <;> simp_all

/-- the alternatives loop where every alternative either stops the enumeration with ONE tree `T n` added (`E n`) or
    adds nothing, and none touches the cache -/
theorem seqAlts_first (k : Node → SeqSt → St → Option (Bool × SeqSt × St)) (E : Node → Prop) (T : Node → Node) :
    ∀ (l : List Node), (∀ n ∈ l, ∀ ss st b ss' st', k n ss st = some (b, ss', st') → st'.cache = st.cache ∧
        ((E n ∧ b = true ∧ ss'.result = appendNode ss.result (.one (T n))) ∨ (¬ E n ∧ b = false ∧ ss'.result = ss.result))) →
      ∀ ss st b ss' st', seqAlts k l ss st = some (b, ss', st') → st'.cache = st.cache ∧
        (((∀ n ∈ l, ¬ E n) ∧ ss'.result = ss.result) ∨ ∃ n ∈ l, E n ∧ ss'.result = appendNode ss.result (.one (T n))) := by
  intro l
  induction l with
  | nil =>
    intro _ ss st b ss' st' h
    cases h
    exact ⟨rfl, .inl ⟨nofun, rfl⟩⟩
  | cons n rest ih =>
    intro hk ss st b ss' st' h
    simp only [seqAlts] at h
    split at h
    · cases h
    · rename_i ss1 st1 hk1
      cases h
      obtain ⟨hc, ⟨he, _, hr⟩ | ⟨_, hb, _⟩⟩ := hk n (List.mem_cons_self ..) _ _ _ _ _ hk1
      · exact ⟨hc, .inr ⟨n, List.mem_cons_self .., he, hr⟩⟩
      · cases hb
    · rename_i ss1 st1 hk1
      obtain ⟨hc, ⟨_, hb, _⟩ | ⟨he, _, hr⟩⟩ := hk n (List.mem_cons_self ..) _ _ _ _ _ hk1
      · cases hb
      · obtain ⟨hc2, h2⟩ := ih (fun n' hn' => hk n' (List.mem_cons_of_mem _ hn')) _ _ _ _ _ h
        refine ⟨hc2.trans hc, ?_⟩
        rcases h2 with ⟨hall, hr2⟩ | ⟨m, hm, hem, hr2⟩
        · exact .inl ⟨fun m hm => (List.mem_cons.mp hm).elim (· ▸ he) (hall m), hr2.trans hr⟩
        · exact .inr ⟨m, List.mem_cons_of_mem _ hm, hem, by rw [hr2, hr]⟩

/-- one alternative `n` of the operand: `End` is tried where `n` ends; at the end of the input the Sentence node over `n`
    is emitted and the enumeration stops, otherwise nothing is added.  The cache is not touched. -/
theorem sentence_alt {cfg : Cfg} {f : Nat} {g : G} {fuel : Nat} {n : Node} {ctx : Ctx} {m : Bool} {ss : SeqSt} {st : St}
    {b : Bool} {ss' : SeqSt} {st' : St}
    (h : seqParse (run cfg f) (sentenceShape g) fuel 1 [n] ctx n.rpos m ss st = some (b, ss', st')) :
    st'.cache = st.cache ∧
    ((isEOF cfg.file n.rpos = true ∧ b = true ∧
        ss'.result = appendNode ss.result (.one (.nt seqTok [n, .eof n.rpos] n.pos n.rpos (.select 0)))) ∨
     (¬ isEOF cfg.file n.rpos = true ∧ b = false ∧ ss'.result = ss.result)) := by
  cases fuel with
  | zero => cases h
  | succ f1 =>
    rw [seqParse_deeper (fr := ⟨1, [n], ctx, n.rpos, m⟩)] at h
    simp only [seqCall, show (sentenceShape g).lookup 1 = some .eof from rfl] at h
    cases hr : run cfg f .eof ctx n.rpos st.regCall with
    | none => simp [hr] at h
    | some p =>
      obtain ⟨o, st1⟩ := p
      have e := run_eof_eq hr
      unfold eofStep at e
      simp only [hr] at h
      by_cases he : isEOF cfg.file n.rpos = true
      · rw [if_pos he] at e
        cases e
        simp only [Res.isNil, Bool.false_eq_true, ↓reduceIte, Res.alts, seqAlts] at h
        -- the frame after `End`: no further element, the length is right, the last node carries the token EOF
        have key : ∀ ss2 st2 b2 ss3 st3,
            seqParse (run cfg f) (sentenceShape g) f1 2 [n, .eof n.rpos] (Frame.next ⟨1, [n], ctx, n.rpos, m⟩ (.eof n.rpos)).ctx
              n.rpos (Frame.next ⟨1, [n], ctx, n.rpos, m⟩ (.eof n.rpos)).merge ss2 st2 = some (b2, ss3, st3) →
            b2 = true ∧ ss3.result = appendNode ss2.result (.one (.nt seqTok [n, .eof n.rpos] n.pos n.rpos (.select 0))) ∧
              st3 = st2 := by
          intro ss2 st2 b2 ss3 st3 hk
          cases f1 with
          | zero => cases hk
          | succ f2 =>
            rw [seqParse_deeper (fr := ⟨2, [n, .eof n.rpos], _, n.rpos, _⟩)] at hk
            simp only [seqCall, show (sentenceShape g).lookup 2 = none from rfl, Res.isNil, ↓reduceIte,
              show (sentenceShape g).lenCheck 2 = true from rfl, Option.some.injEq, Prod.mk.injEq] at hk
            obtain ⟨rfl, rfl, rfl⟩ := hk
            refine ⟨by simp [seqExit, Node.token, eofTok], ?_, rfl⟩
            simp [seqEmit, seqAfter_nil, handleResult, sentenceShape, Node.rpos]
        split at h
        · cases h
        · rename_i ss1 st1 hk1
          cases h
          obtain ⟨k1, k2, k3⟩ := key _ _ _ _ _ hk1
          exact ⟨by rw [k3]; rfl, .inl ⟨he, rfl, by rw [k2, seqAfter_result]⟩⟩
        · rename_i ss1 st1 hk1
          cases (key _ _ _ _ _ hk1).1
      · rw [if_neg he] at e
        cases e
        simp only [Res.isNil, ↓reduceIte, show (sentenceShape g).lenCheck 1 = false from rfl, Bool.false_eq_true,
          Option.some.injEq, Prod.mk.injEq] at h
        obtain ⟨rfl, rfl, rfl⟩ := h
        exact ⟨(logEv_fields _ cfg _).1, .inr ⟨he, rfl, seqAfter_result _ _ _⟩⟩

/-- **what `Sentence(g)` answers**, in terms of what `g` answers where the wrapper calls it: nothing when no alternative
    of the operand ends at the end of the input, otherwise exactly ONE tree — the Sentence node over an alternative that
    does — and no error.  The cache is the one the operand left. -/
theorem run_sentence_cases {cfg : Cfg} {fuel : Nat} {g : G} {ctx : Ctx} {pos : Nat} {st : St} {o : Out} {st' : St}
    (h : run cfg fuel (G.sentence g) ctx pos st = some (o, st')) :
    ∃ f o1 st1, fuel = f + 1 ∧ run cfg f g ctx pos st.regCall = some (o1, st1) ∧ st'.cache = st1.cache ∧
      (((∀ n ∈ o1.res.alts, ¬ isEOF cfg.file n.rpos = true) ∧ o.res = .nil) ∨
       ∃ n ∈ o1.res.alts, isEOF cfg.file n.rpos = true ∧
         o.res = .one (.nt seqTok [n, .eof n.rpos] n.pos n.rpos (.select 0)) ∧ o.err = none) := by
  obtain ⟨f, b, ss, st2, rfl, hsp, hfin⟩ := run_sentence_inv h
  have hres := seqFinish_res_eq (sentenceShape g) pos ss st2
  have hca := (seqFinish_res (sentenceShape g) pos ss st2).2
  rw [hfin] at hres hca
  cases f with
  | zero => cases hsp
  | succ f1 =>
    rw [seqParse_deeper (fr := ⟨0, [], ctx, pos, true⟩)] at hsp
    simp only [seqCall, show (sentenceShape g).lookup 0 = some g from rfl] at hsp
    cases hr : run cfg (f1 + 1) g ctx pos st.regCall with
    | none => simp [hr] at hsp
    | some p =>
      obtain ⟨o1, st1⟩ := p
      refine ⟨f1 + 1, o1, st1, rfl, hr, ?_⟩
      simp only [hr] at hsp
      by_cases hnil : o1.res.isNil = true
      · simp only [hnil, ↓reduceIte, show (sentenceShape g).lenCheck 0 = false from rfl, Bool.false_eq_true,
          Option.some.injEq, Prod.mk.injEq] at hsp
        obtain ⟨_, rfl, rfl⟩ := hsp
        refine ⟨hca, .inl ⟨by rw [alts_nil_of_isNil hnil]; exact nofun, ?_⟩⟩
        rw [hres, seqAfter_result]; rfl
      · simp only [hnil, Bool.false_eq_true, ↓reduceIte] at hsp
        obtain ⟨hc, hcase⟩ := seqAlts_first _ (fun n => isEOF cfg.file n.rpos = true)
          (fun n => .nt seqTok [n, .eof n.rpos] n.pos n.rpos (.select 0)) o1.res.alts
          (fun n _ ss2 st2 b2 ss3 st3 hk => sentence_alt hk) _ _ _ _ _ hsp
        refine ⟨hca.trans hc, ?_⟩
        rcases hcase with ⟨hall, hr2⟩ | ⟨n, hn, he, hr2⟩
        · exact .inl ⟨hall, by rw [hres, hr2, seqAfter_result]; rfl⟩
        · have hss : ss.result = .one (.nt seqTok [n, .eof n.rpos] n.pos n.rpos (.select 0)) := by
            rw [hr2, seqAfter_result]; rfl
          refine .inr ⟨n, hn, he, by rw [hres, hss]; rfl, ?_⟩
          have := congrArg (fun x => x.1.err) hfin
          simp only [seqFinish, hss, Res.isNil, Bool.false_eq_true, ↓reduceIte, sentenceShape] at this
          exact this.symm

/-- a Sequence-family parser never returns the empty LIST of alternatives: a non-nil result of `Sentence(g)` has one -/
theorem S04.sentence_alts_ne (cfg : Cfg) (g : G) (fuel : Nat) (pos : Nat) (st : St) (o : Out) (st' : St)
    (hr : run cfg fuel (G.sentence g) [] pos st = some (o, st')) (hnil : o.res.isNil = false) : o.res.alts ≠ [] := by
  obtain ⟨_, _, _, _, _, _, ⟨_, h⟩ | ⟨_, _, _, h, _⟩⟩ := run_sentence_cases hr
  · rw [h] at hnil; cases hnil
  · rw [h]; exact List.cons_ne_nil _ _

/-- **soundness through the wrapper**, generic in the soundness argument for the operand.  `I` is an invariant of
    the state that only depends on the cache, `D` is what the operand's trees at `pos` are known to be.  Every tree
    `Sentence(g)` returns is the Sentence node over a tree `y` of the operand with `D y` after which `End` matches. -/
theorem sentence_sound_of_operand (cfg : Cfg) (g : G) (pos : Nat) (I : St → Prop) (D : Node → Prop)
    (hI : ∀ st st', I st → st'.cache = st.cache → I st')
    (hop : ∀ fuel st o st', I st → run cfg fuel g [] pos st = some (o, st') → (∀ n ∈ o.res.alts, D n) ∧ I st')
    (fuel : Nat) (st : St) (hst : I st) (o : Out) (st' : St)
    (h : run cfg fuel (G.sentence g) [] pos st = some (o, st')) :
    ∀ x ∈ o.res.alts, ∃ y, D y ∧ isEOF cfg.file y.rpos = true ∧
      x = .nt seqTok [y, .eof y.rpos] y.pos y.rpos (.select 0) := by
  obtain ⟨f, o1, st1, _, hr, _, ⟨_, hres⟩ | ⟨n, hn, he, hres, _⟩⟩ := run_sentence_cases h
  · rw [hres]; exact nofun
  · rw [hres]
    intro x hx
    cases List.mem_singleton.mp hx
    exact ⟨n, (hop f st.regCall o1 st1 (hI _ _ hst rfl) hr).1 n hn, he, rfl⟩

/-- the ONLY-IF half at the level of `parsley.Parse`, generic in the soundness argument for the operand: a success of
    `Parse(Sentence(g))` returns at least one tree, and every returned tree is the Sentence node over a tree `y` of the
    operand with `D y` after which `End` matches -/
theorem parse_sentence_sound (cfg : Cfg) (g : G) (I : St → Prop) (D : Node → Prop)
    (hI : ∀ st st', I st → st'.cache = st.cache → I st') (hI0 : I {})
    (hop : ∀ fuel st o st', I st → run cfg fuel g [] (cfg.file.pos 0) st = some (o, st') →
      (∀ n ∈ o.res.alts, D n) ∧ I st')
    (fuel : Nat) (p : ParseOut) (h : parse cfg fuel (G.sentence g) = some p) (hnone : p.err = none) :
    p.res.alts ≠ [] ∧ ∀ x ∈ p.res.alts, ∃ y, D y ∧ isEOF cfg.file y.rpos = true ∧
      x = .nt seqTok [y, .eof y.rpos] y.pos y.rpos (.select 0) := by
  obtain ⟨o, st1, hr, ⟨h1, _, h3, _, _⟩ | ⟨_, _, h4, _⟩⟩ := parse_answer cfg fuel _ {} p h
  · rw [h3]
    exact ⟨S04.sentence_alts_ne cfg g fuel _ {} o st1 hr h1,
      sentence_sound_of_operand cfg g _ I D hI hop fuel {} hI0 o st1 hr⟩
  · rw [hnone] at h4; cases h4

/-- **Sentence completeness**, generic in the completeness argument for the operand (the "if" direction of C04): if every answer of the
    operand at `pos` (from the state the wrapper calls it in) contains a tree `y` that ends at the end of the
    input, `Sentence(operand)` returns a result. -/
theorem sentence_complete_of_operand (cfg : Cfg) (g : G) (fuel : Nat) (pos : Nat) (st : St)
    (o : Out) (st' : St) (h : run cfg fuel (G.sentence g) [] pos st = some (o, st'))
    (y : Node) (hmem : ∀ fuel' o1 st2, run cfg fuel' g [] pos st.regCall = some (o1, st2) → y ∈ o1.res.alts)
    (hend : isEOF cfg.file y.rpos = true) :
    o.res.alts ≠ [] ∧ o.err = none := by
  obtain ⟨f, o1, st1, _, hr, _, ⟨hall, _⟩ | ⟨_, _, _, hres, herr⟩⟩ := run_sentence_cases h
  · exact absurd hend (hall y (hmem f o1 st1 hr))
  · exact ⟨by rw [hres]; exact List.cons_ne_nil _ _, herr⟩

end PV
