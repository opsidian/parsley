/-
  C08: `ReadRune` through `runeW`, and
  strconv.ParseInt(lexeme, 0, 64) as modelled (`parseInt0`) against the mathematical value of an integer literal
  (`Lang.intValue`, positional, base chosen by the prefix).
-/
import ParsleyVerif.Spec.TerminalSpec
import ParsleyVerif.Spec.Lang
import ParsleyVerif.Proofs.Reader
import ParsleyVerif.Proofs.Utf8
namespace PV
open PV.Text

theorem rest_eq_nil_drop (l : Bytes) (k : Nat) (h : l.drop k = []) : l.length ≤ k := by
  simpa using h

/-- a node of terminal.Rune(c) is the leaf from the position asked to where ReadRune stopped, with the rune's encoding as
    token and the rune as value -/
theorem rune_parse_node {P : Params} {f : File} {c : Nat} {nm : Bytes} {pos : Nat} {x : Node}
    (h : Terminal.parse P f (.rune c nm) pos = .node x) :
    ∃ r, x = .term (Utf8.encodeRune c) (.rune c) pos r ∧ readRune f pos c = some (r, true) := by
  simp only [Terminal.parse] at h
  split at h
  · cases h
  · rename_i rp heq
    cases h
    exact ⟨rp, rfl, heq⟩
  · simp [nf] at h

theorem readRune_eq (f : File) (pos ch : Nat) (h : InFile f pos) :
    readRune f pos ch = some (match runeW ch (rest f pos) with | some w => (pos + w, true) | none => (pos, false)) := by
  by_cases hc : ch < 0x80
  · rw [readRune_ascii f pos ch h hc]; unfold runeW; rw [if_pos hc]
    by_cases hh : (rest f pos).head? = some ch
    · rw [if_pos hh, if_pos hh]
    · rw [if_neg hh, if_neg hh]
  · rw [readRune_multibyte f pos ch h hc]; unfold runeW; rw [if_neg hc]
    by_cases hh : rest f pos ≠ [] ∧ (Utf8.decodeRune (rest f pos)).1 = ch
    · rw [if_pos hh, if_pos hh]
    · rw [if_neg hh, if_neg hh]

theorem runeW_ascii (ch : Nat) (l : Bytes) (hc : ch < 0x80) :
    runeW ch l = if l.head? = some ch then some 1 else none := by
  unfold runeW; rw [if_pos hc]

/-- terminal.Rune(c) for a one-byte rune: a node exactly when `c` is the next byte, and then the leaf over that byte -/
theorem rune_node_iff (P : Params) (f : File) (p c : Nat) (nm : Bytes) (n : Node) (h : InFile f p) (hc : c < 0x80) :
    Terminal.parse P f (.rune c nm) p = .node n ↔
      (rest f p).head? = some c ∧ n = .term (Utf8.encodeRune c) (.rune c) p (p + 1) := by
  simp only [Terminal.parse, readRune_eq f p c h, runeW_ascii c _ hc]
  by_cases hh : (rest f p).head? = some c
  · simp [hh, eq_comm]
  · simp [hh, nf]

theorem digitVal_eq (b : Nat) : digitVal b = Lang.digitValue b := by
  unfold digitVal Lang.digitValue isDigit
  by_cases c1 : 48 ≤ b ∧ b ≤ 57
  · rw [if_pos c1, if_pos (by simpa using c1)]
  · rw [if_neg c1, if_neg (by simpa using c1)]
    by_cases c2 : 97 ≤ b ∧ b ≤ 102
    · rw [if_pos c2, if_pos (by simpa using c2)]; omega
    · rw [if_neg c2, if_neg (by simpa using c2)]
      by_cases c3 : 65 ≤ b ∧ b ≤ 70
      · rw [if_pos c3, if_pos (by simpa using c3)]; omega
      · rw [if_neg c3, if_neg (by simpa using c3)]

theorem foldl_digits (base : Nat) : ∀ (l : Bytes) (acc : Nat),
    l.foldl (fun acc b => acc * base + digitVal b) acc = acc * base ^ l.length + Lang.digitsValue base l := by
  intro l
  induction l with
  | nil => intro acc; simp [Lang.digitsValue]
  | cons b r ih =>
    intro acc
    rw [List.foldl_cons, ih, Lang.digitsValue, digitVal_eq, List.length_cons, Nat.pow_succ, Nat.add_mul,
      Nat.mul_assoc, Nat.mul_comm base, Nat.add_assoc]

theorem natOfDigits_eq (base : Nat) (l : Bytes) : natOfDigits base l = Lang.digitsValue base l := by
  unfold natOfDigits; rw [foldl_digits]; simp

/-! The magnitude and the sign test of `parseInt0` under names of their own, so that `parseInt0_eq` is `rfl`. -/

def magOf (body : Bytes) : Nat :=
  match body with
  | 48 :: x :: r => if (x = 120 || x = 88) && body.length ≥ 3 then natOfDigits 16 r else natOfDigits 8 (x :: r)
  | _ => natOfDigits 10 body

def isNeg : Bytes → Bool
  | 45 :: _ => true
  | _ => false

theorem parseInt0_eq (l : Bytes) : parseInt0 l =
    if isNeg l = true
    then (if magOf (l.drop (signLen l)) ≤ 2 ^ 63 then some (-(magOf (l.drop (signLen l)) : Int)) else none)
    else (if magOf (l.drop (signLen l)) < 2 ^ 63 then some (magOf (l.drop (signLen l)) : Int) else none) := rfl

theorem all_octDigit_head (x : Nat) (r : Bytes) (h : Lang.star Lang.octDigit (x :: r) = true) : 48 ≤ x ∧ x ≤ 55 := by
  unfold Lang.star at h
  simp [Lang.octDigit] at h
  exact h.1

theorem magOf_eq (body : Bytes) (h : Lang.isIntBody body = true) : magOf body = Lang.magnitude body := by
  unfold Lang.isIntBody at h
  simp only [Bool.or_eq_true] at h
  match body, h with
  | [], h => simp [Lang.decimalLit, Lang.hexLit, Lang.octalLit] at h
  | [d], h =>
    by_cases hd : d = 48
    · subst hd
      have : Lang.hexLit [48] = false := rfl
      have h2 : Lang.octalLit [48] = true := rfl
      simp only [Lang.magnitude, this, h2, if_true, Bool.false_eq_true, if_false]
      rfl
    · have h1 : Lang.hexLit [d] = false := by unfold Lang.hexLit; split <;> simp_all
      have h2 : Lang.octalLit [d] = false := by unfold Lang.octalLit; split <;> simp_all
      simp only [Lang.magnitude, h1, h2, Bool.false_eq_true, if_false]
      unfold magOf
      split
      · rename_i heq; simp at heq
      · exact natOfDigits_eq 10 _
  | d :: x :: r, h =>
    by_cases hd : d = 48
    · subst hd
      have hdec : Lang.decimalLit (48 :: x :: r) = false := by simp [Lang.decimalLit, Lang.nzDigit]
      rw [hdec] at h
      simp only [Bool.false_eq_true, false_or] at h
      have e : magOf (48 :: x :: r) =
          if (x = 120 || x = 88) && (48 :: x :: r).length ≥ 3 then natOfDigits 16 r else natOfDigits 8 (x :: r) := rfl
      rw [e]
      by_cases hh : Lang.hexLit (48 :: x :: r) = true
      · have hh' := hh
        simp only [Lang.hexLit, Lang.plus1, Bool.and_eq_true, Bool.not_eq_true', List.isEmpty_eq_false_iff] at hh'
        obtain ⟨hx, hne, _⟩ := hh'
        have hlen : (48 :: x :: r).length ≥ 3 := by
          cases r with
          | nil => exact absurd rfl hne
          | cons _ _ => simp
        rw [if_pos (by simp only [Bool.and_eq_true, decide_eq_true_eq]; exact ⟨hx, hlen⟩)]
        simp only [Lang.magnitude, hh, if_true]
        exact natOfDigits_eq 16 _
      · have ho : Lang.octalLit (48 :: x :: r) = true := by
          rcases h with h | h
          · exact absurd h hh
          · exact h
        have hx := all_octDigit_head x r (by simpa [Lang.octalLit] using ho)
        rw [if_neg (by simp; omega)]
        simp only [Lang.magnitude, hh, ho, Bool.false_eq_true, if_false, if_true]
        exact natOfDigits_eq 8 _
    · have h1 : Lang.hexLit (d :: x :: r) = false := by unfold Lang.hexLit; split <;> simp_all
      have h2 : Lang.octalLit (d :: x :: r) = false := by unfold Lang.octalLit; split <;> simp_all
      simp only [Lang.magnitude, h1, h2, Bool.false_eq_true, if_false]
      unfold magOf
      split
      · rename_i heq; simp at heq; exact absurd heq.1 hd
      · exact natOfDigits_eq 10 _

theorem isIntBody_head (body : Bytes) (h : Lang.isIntBody body = true) : ∃ d r, body = d :: r ∧ 48 ≤ d ∧ d ≤ 57 := by
  unfold Lang.isIntBody at h
  simp only [Bool.or_eq_true] at h
  cases body with
  | nil => simp [Lang.decimalLit, Lang.hexLit, Lang.octalLit] at h
  | cons d r =>
    refine ⟨d, r, rfl, ?_⟩
    rcases h with (h | h) | h
    · simp [Lang.decimalLit, Lang.nzDigit] at h; omega
    · unfold Lang.hexLit at h; split at h
      · rename_i heq; cases heq; omega
      · cases h
    · unfold Lang.octalLit at h; split at h
      · rename_i heq; cases heq; omega
      · cases h

theorem two63 : (2 : Nat) ^ 63 = 9223372036854775808 := by decide

theorem Rx.signLen_cons (c : Nat) (t : Bytes) : signLen (c :: t) = if Lang.sign c = true then 1 else 0 := by
  unfold signLen Lang.sign
  split
  · rename_i h; cases h; rfl
  · rename_i h; cases h; rfl
  · rename_i h1 h2
    have a : c ≠ 45 := fun e => h1 t (by rw [e])
    have b : c ≠ 43 := fun e => h2 t (by rw [e])
    simp [a, b]

/-- On a lexeme of the integer syntax, ParseInt succeeds with `v` iff `v` is the
    mathematical value of the literal and fits in 64 bits (two's complement) -/
theorem parseInt0_spec (l : Bytes) (h : Lang.IsInt l) (v : Int) :
    parseInt0 l = some v ↔ (v = Lang.intValue l ∧ -(2 : Int) ^ 63 ≤ v ∧ v < (2 : Int) ^ 63) := by
  have p63 : (2 : Int) ^ 63 = 9223372036854775808 := by decide
  unfold Lang.IsInt Lang.isInt Lang.optSign at h
  simp only [Bool.or_eq_true] at h
  rw [parseInt0_eq, p63, two63]
  rcases h with h | h
  · obtain ⟨d, r, hb, hd1, hd2⟩ := isIntBody_head l h
    subst hb
    have hs : signLen (d :: r) = 0 := by
      unfold signLen; split
      · rename_i heq; cases heq; omega
      · rename_i heq; cases heq; omega
      · rfl
    have hneg : isNeg (d :: r) = false := by
      unfold isNeg; split
      · rename_i heq; cases heq; omega
      · rfl
    have hv : Lang.intValue (d :: r) = (Lang.magnitude (d :: r) : Int) := by
      unfold Lang.intValue; split
      · rename_i heq; cases heq; omega
      · rename_i heq; cases heq; omega
      · rfl
    rw [hs, hneg, hv, List.drop_zero, magOf_eq _ h]
    simp only [Bool.false_eq_true, if_false]
    split
    · simp only [Option.some.injEq]; omega
    · simp only [reduceCtorEq, false_iff]; omega
  · cases l with
    | nil => simp at h
    | cons b r =>
      simp only [Bool.and_eq_true] at h
      obtain ⟨hsg, hbody⟩ := h
      simp only [Lang.sign, Bool.or_eq_true, decide_eq_true_eq] at hsg
      rcases hsg with hsg | hsg
      · subst hsg
        have hs : signLen (45 :: r) = 1 := rfl
        have hv : Lang.intValue (45 :: r) = -(Lang.magnitude r : Int) := rfl
        have hneg : isNeg (45 :: r) = true := rfl
        rw [hs, hv, hneg]
        simp only [List.drop_succ_cons, List.drop_zero, if_true, magOf_eq _ hbody]
        split
        · simp only [Option.some.injEq]; omega
        · simp only [reduceCtorEq, false_iff]; omega
      · subst hsg
        have hs : signLen (43 :: r) = 1 := rfl
        have hv : Lang.intValue (43 :: r) = (Lang.magnitude r : Int) := rfl
        have hneg : isNeg (43 :: r) = false := rfl
        rw [hs, hv, hneg]
        simp only [List.drop_succ_cons, List.drop_zero, Bool.false_eq_true, if_false, magOf_eq _ hbody]
        split
        · simp only [Option.some.injEq]; omega
        · simp only [reduceCtorEq, false_iff]; omega

end PV
