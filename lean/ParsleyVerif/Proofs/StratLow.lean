/-
  STRATUM 0 NEVER CURTAILS AND IS EXACT (property C01, stratified grammars — Spec/Strat.lean).

  `run_low`: a call of a stratum-0 parser `g` — from ANY left-recursion context whose counters of the Memoize
  indexes `g` can enter at its start position are zero (`ZeroL`; in particular from every context a stratum-1
  parser can be in, which counts stratum-1 indexes only), at any position of the file, from any cache whose
  stratum-0 entries are exact and were stored with empty context and empty curtailing set (`MixCache`; the
  entries of the other indexes are only carried along: predicate `U`) — returns

      an EMPTY curtailing set,   the exact big-step result `Big cfg g pos o.res o.err.isSome`,
      and a cache with the same property.

  It is the instance `lowWalk` of the walk to `Big` (`Big.Walk`, Proofs/BigStepRun.lean), merging the two arguments that
  exist separately for whole grammars: `run_big` (an uncurtailed run computes `Big`; there "uncurtailed" is a hypothesis
  on the final ghost log) and Proofs/LRFRun.lean (`run_lrf`: under the `lrf` certificate nothing is curtailed; there the
  invariant is stated over the ghost activation stack).  Here nothing is asked of the final state (`N := True`); the
  curtailment branch of Memoize is excluded by `ZeroL`, which is handed down:

    * descending to a sub-parser at a left position shrinks `lrfMemos` (a reference: closure of `lm`);
    * entering `memo i b` increments `i` only, and `i ∉ lrfMemos b` (condition (ii) of `lrf`);
    * an element of a sequence reached after a consuming element runs under the EMPTY context; an element
      reached at the same position is a left position because every earlier element returned a zero-width
      node, hence may be empty — soundness of the nullable tables, obtained at derivation level
      (`low_big` of Proofs/StratBasics.lean) from the exact result the walk hands to `fr_next`.

  Since nothing is curtailed every stratum-0 result is stored with `Filter([]) = []`, so every later look-up,
  from whatever context, is a hit that returns the exact result.
-/
import ParsleyVerif.Proofs.StratBasics
import ParsleyVerif.Proofs.BigStepRun
import ParsleyVerif.Proofs.LRFRun
namespace PV.Strat
open PV PV.Text PV.Big

structure LowEntry (cfg : Cfg) (bodyOf : Nat → G) (e : CacheEntry) : Prop where
  cp : e.cp = []
  ctx : e.ctx = []
  big : Big cfg (bodyOf e.idx) e.pos e.res e.err.isSome

/-- stratum-0 entries are `LowEntry`s; the others satisfy `U` -/
def MixCache (cfg : Cfg) (s : Cert) (bodyOf : Nat → G) (U : CacheEntry → Prop) (st : St) : Prop :=
  ∀ e ∈ st.cache, (s.lowIdx e.idx = true → LowEntry cfg bodyOf e) ∧ (s.lowIdx e.idx = false → U e)

theorem MixCache.empty {cfg : Cfg} {s : Cert} {bodyOf : Nat → G} {U : CacheEntry → Prop} :
    MixCache cfg s bodyOf U {} := by
  intro e he; cases he

def ZeroL (s : Cert) (g : G) (ctx : Ctx) : Prop := ∀ i ∈ lrfMemos s.lrf g, ctx.get i = 0

theorem ZeroL.mono {s : Cert} {g g' : G} {ctx : Ctx} (h : ZeroL s g ctx)
    (hsub : ∀ i ∈ lrfMemos s.lrf g', i ∈ lrfMemos s.lrf g) : ZeroL s g' ctx :=
  fun i hi => h i (hsub i hi)

def RunLow (cfg : Cfg) (s : Cert) (bodyOf : Nat → G) (U : CacheEntry → Prop) (r : RunFn) : Prop :=
  ∀ g ctx pos st o st', LowS cfg s bodyOf g → InFile cfg.file pos → ZeroL s g ctx → MixCache cfg s bodyOf U st →
    r g ctx pos st = some (o, st') →
    o.cp = [] ∧ Big cfg g pos o.res o.err.isSome ∧ MixCache cfg s bodyOf U st'

/-- stratum 0 as a walk to `Big`.  `Fr`: the frame is in the file, and it runs under the empty context, or still at the Sequence's own position under
    the Sequence's context, every element before it being nullable -/
def lowWalk (cfg : Cfg) (s : Cert) (bodyOf : Nat → G) (U : CacheEntry → Prop) (henv : EnvS cfg s bodyOf) : Big.Walk cfg where
  Sc g ctx pos := LowS cfg s bodyOf g ∧ InFile cfg.file pos ∧ ZeroL s g ctx
  Fr g ctx0 fr := LowS cfg s bodyOf g ∧ ZeroL s g ctx0 ∧ InFile cfg.file fr.pos ∧
    (fr.ctx = [] ∨ (fr.ctx = ctx0 ∧ ∀ sh, g.shape = some sh → ∀ i, i < fr.depth → ∀ gi, sh.lookup i = some gi →
      mayBeEmpty s.lrf.wf gi = true))
  I := MixCache cfg s bodyOf U
  N _ := True
  K := True
  i_frame h hc := cacheAll_of_eq h hc
  n_grow _ _ := trivial
  ref := fun ⟨hg, hin, hz⟩ hk =>
    ⟨henv.low _ _ hk hg.ok, hin, hz.mono (fun i hi => by simp only [lrfMemos]; exact henv.closed _ _ hk hg.ok i hi)⟩
  any := fun ⟨hg, hin, hz⟩ hm =>
    ⟨hg.any _ hm, hin, hz.mono (fun i hi => by simp only [lrfMemos]; exact LRF.memosAny_mem hm i hi)⟩
  choice := fun ⟨hg, hin, hz⟩ hm =>
    ⟨hg.choice _ hm, hin, hz.mono (fun i hi => by simp only [lrfMemos]; exact LRF.memosAny_mem hm i hi)⟩
  wrap := by
    rintro g w ctx pos ⟨hg, hin, hz⟩ hw
    have hz' : ∀ {g'}, lrfMemos s.lrf g = lrfMemos s.lrf g' → ZeroL s g' ctx := fun e => hz.mono (fun i hi => e ▸ hi)
    cases g with
    | optional g' => cases hw; exact ⟨hg.optional, hin, hz' (by simp only [lrfMemos])⟩
    | name g' nm => cases hw; exact ⟨hg.name, hin, hz' (by simp only [lrfMemos])⟩
    | single g' => cases hw; exact ⟨hg.single, hin, hz' (by simp only [lrfMemos])⟩
    | suppress g' => cases hw; exact ⟨hg.suppress, hin, hz' (by simp only [lrfMemos])⟩
    | ltrim g' m | rtrim g' m => exact absurd hg.ok (by simp [lowOK])
    | _ => cases hw
  ltrim := fun ⟨hg, _, _⟩ => absurd hg.ok (by simp [lowOK])
  fr_init := fun ⟨hg, hin, hz⟩ _ => ⟨hg, hz, hin, .inr ⟨rfl, fun _ _ i hi => absurd hi (Nat.not_lt_zero _)⟩⟩
  fr_call := by
    rintro g sh ctx0 fr g' ⟨hg, hz0, hin, hctx⟩ hs hl
    refine ⟨(hg.lookup hs).1 _ _ hl, hin, ?_⟩
    cases hctx with
    | inl h0 => rw [h0]; exact fun _ _ => rfl
    | inr h0 => rw [h0.1]; exact hz0.mono (LRF.memos_lookup hs fr.depth g' (h0.2 sh hs) hl)
  fr_next := by
    rintro g sh ctx0 fr g' R e n ⟨hg, hz0, hin, hctx⟩ hs hl hb hn
    have hdn := low_big henv hb ((hg.lookup hs).1 _ _ hl) hin n hn
    refine ⟨hg, hz0, (hdn.inFile hin).2.2, ?_⟩
    simp only [Frame.next]
    by_cases hcn : n.rpos > fr.pos
    · exact .inl (by simp only [hcn, ↓reduceIte])
    · simp only [hcn, ↓reduceIte]
      refine hctx.imp id fun h0 => ⟨h0.1, fun sh' hs' i hi gi hgi => ?_⟩
      cases hs.symm.trans hs'
      by_cases hid : i < fr.depth
      · exact h0.2 sh hs i hid gi hgi
      · have : i = fr.depth := by omega
        subst this
        rw [hl] at hgi
        cases hgi
        exact hdn.null (by have := (hdn.inFile hin).1; omega)
  memo := by
    rintro r _ hr idx body ctx pos st o st' ⟨hg, hin, hz⟩ h _ hc
    obtain ⟨m1, m2, _, m4, m5⟩ := hg.memo
    rcases memoStep_some h with ⟨e, hcg, h1⟩ | ⟨hcg, hcur, _⟩ | ⟨_, _, o2, st2, hrun, h1⟩
    · cases h1
      obtain ⟨hm, hi, hp⟩ := cacheGet_some hcg
      have hE := (hc e hm).1 (by rw [hi]; exact m1)
      have hbig := hE.big
      rw [hi, hp, ← m4] at hbig
      exact ⟨.memo hbig, cacheAll_of_eq hc (logEv_fields st cfg _).1, fun _ => hE.cp⟩
    · have hzero : ctx.get idx = 0 := hz idx (by simp only [lrfMemos]; exact List.mem_cons_self ..)
      rw [hzero] at hcur
      exact absurd hcur (Nat.not_lt_zero _)
    · cases h1
      have hzb : ZeroL s body (ctx.inc idx) := by
        intro i hi
        have hne : i ≠ idx := fun e => m2 (e ▸ hi)
        rw [Ctx.get_inc_other _ _ _ hne]
        exact hz i (by simp only [lrfMemos]; exact List.mem_cons_of_mem _ hi)
      obtain ⟨hb, hc1, ho⟩ := hr body (ctx.inc idx) pos _ o st2 ⟨m5, hin, hzb⟩ hrun trivial (cacheAll_of_eq hc (memoEnter_cache ..))
      have ho := ho trivial
      refine ⟨.memo hb, ?_, fun _ => ho⟩
      intro e he
      cases mem_cacheSave he with
      | inl h3 =>
        subst h3
        refine ⟨fun _ => ⟨ho, ?_, ?_⟩, fun hf => ?_⟩
        · simp [ho, Ctx.filter]
        · simp only; rw [← m4]; exact hb
        · simp only at hf; rw [m1] at hf; cases hf
      | inr h3 => exact hc1 e h3

theorem runStep_low {cfg : Cfg} {s : Cert} {bodyOf : Nat → G} {U : CacheEntry → Prop} (henv : EnvS cfg s bodyOf)
    {r : RunFn} (hgrow : RunGrow r) (hr : RunLow cfg s bodyOf U r) (fuel : Nat) :
    RunLow cfg s bodyOf U (runStep cfg r fuel) := fun g ctx pos st o st' hg hin hz hc h =>
  let ⟨hb, hc1, ho⟩ := (lowWalk cfg s bodyOf U henv).step
    (fun g ctx pos st o st' hs h _ hc => let ⟨a, b, c⟩ := hr g ctx pos st o st' hs.1 hs.2.1 hs.2.2 hc h; ⟨b, c, fun _ => a⟩)
    hgrow fuel g ctx pos st o st' ⟨hg, hin, hz⟩ h trivial hc
  ⟨ho trivial, hb, hc1⟩

theorem run_low (cfg : Cfg) (s : Cert) (bodyOf : Nat → G) (U : CacheEntry → Prop) (henv : EnvS cfg s bodyOf) :
    ∀ fuel, RunLow cfg s bodyOf U (run cfg fuel) := fun fuel g ctx pos st o st' hg hin hz hc h =>
  let ⟨hb, hc1, ho⟩ := (lowWalk cfg s bodyOf U henv).run_ok fuel g ctx pos st o st' ⟨hg, hin, hz⟩ h trivial hc
  ⟨ho trivial, hb, hc1⟩

end PV.Strat
