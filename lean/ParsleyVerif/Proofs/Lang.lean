/-
  C08: the integer, the float and the back-quoted string body.  Each expression of Spec/Regex.lean is composed node by
  node from the closure lemmas of Proofs/Munch.lean; the hand-written matcher of Model/Terminal.lean is the composed
  scanner; hence it is the leftmost-first match of the expression and the longest prefix in the documented language.
-/
import ParsleyVerif.Proofs.Munch
namespace PV
open PV.Text PV.Lang

theorem digit_iff (c : Nat) : digit c = true ↔ 48 ≤ c ∧ c ≤ 57 := by
  unfold digit; simp

theorem plus1_digit_sign (c : Nat) (w : Bytes) (h : sign c = true) : plus1 digit (c :: w) = false := by
  rw [sign_iff] at h
  rcases h with rfl | rfl <;> simp [plus1, digit]

section
open Rx

/-! ### ``[^`]+`` -/

theorem backquoteRe_eq : backquoteRe = (Re.byte (fun b => b != 96)).plus := by
  simp only [backquoteRe, backquoteSx, Sx.re, cBq_has]

theorem munch_backquote : Munch backquoteRe isBackquoteBody backquoteMatch :=
  backquoteRe_eq ▸ Munch.plus_byte _

theorem backquoteMatch_eq_longest (l : Bytes) : backquoteMatch l = longestPrefix isBackquoteBody l :=
  (munch_backquote.longest l).symm

/-! ### `[-+]?(?:[1-9][0-9]*|0[xX][0-9a-fA-F]+|0[0-7]*)` -/

/-- `[xX][0-9a-fA-F]+` -/
def hexTail : Bytes → Bool
  | x :: r => (x = 120 || x = 88) && plus1 hexDigit r
  | [] => false

theorem hexLit_cons (c : Nat) (w : Bytes) : hexLit (c :: w) = (decide (c = 48) && hexTail w) := by
  by_cases hc : c = 48
  · subst hc
    cases w <;> simp [hexLit, hexTail]
  · simp [hexLit, hc]

theorem octalLit_cons (c : Nat) (w : Bytes) : octalLit (c :: w) = (decide (c = 48) && star octDigit w) := by
  by_cases hc : c = 48
  · subst hc; simp [octalLit]
  · simp [octalLit, hc]

def scDec : Scanner := Sc.byteThen nzDigit (Sc.star digit)
def scHex : Scanner := Sc.byteThen (fun c => decide (c = 48)) (Sc.byteThen (fun x => x = 120 || x = 88) (Sc.plus hexDigit))
def scOct : Scanner := Sc.byteThen (fun c => decide (c = 48)) (Sc.star octDigit)
def scIntBody : Scanner := fun b => (scDec b).or ((scHex b).or (scOct b))

def Rx.intBody : Re :=
  .alt (.seq (.byte nzDigit) (.star (.byte digit)))
  (.alt (.seq (Re.lit [48]) (.seq (.byte fun x => x = 120 || x = 88) (Re.byte hexDigit).plus))
        (.seq (Re.lit [48]) (.star (.byte octDigit))))

theorem integerRe_eq : integerRe = .seq (Re.byte sign).opt intBody := by
  have litBytes_0 : litBytes ['0'] = [48] := by decide
  simp only [integerRe, integerSx, Sx.re, cSign_has, cDigit_has, cHex_has, c19_has, cOct_has, cX_has, litBytes_0, intBody]

theorem munch_dec : Munch (.seq (.byte nzDigit) (.star (.byte digit))) decimalLit scDec :=
  (Munch.star_byte digit).byte_seq nzDigit rfl fun _ _ => rfl

theorem munch_hex :
    Munch (.seq (Re.lit [48]) (.seq (.byte fun x => x = 120 || x = 88) (Re.byte hexDigit).plus)) hexLit scHex :=
  ((Munch.plus_byte hexDigit).byte_seq _ (L := hexTail) rfl fun _ _ => rfl).lit_seq 48 rfl hexLit_cons

theorem munch_oct : Munch (.seq (Re.lit [48]) (.star (.byte octDigit))) octalLit scOct :=
  (Munch.star_byte octDigit).lit_seq 48 rfl octalLit_cons

/-- when the second and the third alternative both match, the earlier one (hexadecimal) is the longer one,
    so taking the first is taking the longest (`0x1F`: hexadecimal 4, octal 1) -/
theorem hex_before_octal (b : Bytes) (h o : Nat) (hh : longestPrefix hexLit b = some h)
    (ho : longestPrefix octalLit b = some o) : o = 1 ∧ o < h := by
  rw [munch_hex.longest] at hh
  rw [munch_oct.longest] at ho
  match b with
  | [] => cases hh
  | [c] => simp [scHex, Sc.byteThen] at hh
  | c :: x :: r =>
    simp only [scHex, scOct, Sc.byteThen, Sc.plus, Sc.star] at hh ho
    by_cases h1 : c = 48
    · by_cases h2 : (x = 120 || x = 88) = true
      · have h3 : octDigit x = false := by
          simp only [Bool.or_eq_true, decide_eq_true_eq] at h2
          rcases h2 with rfl | rfl <;> rfl
        rw [Rx.spanLen_cons, h3] at ho
        by_cases h4 : spanLen hexDigit r > 0
        · simp [h1, h2, h4] at hh ho; omega
        · simp [h1, h2, h4] at hh
      · simp [h1, h2] at hh
    · simp [h1] at hh

theorem decimal_excl (b : Bytes) (d : Nat) (hd : longestPrefix decimalLit b = some d) :
    longestPrefix hexLit b = none ∧ longestPrefix octalLit b = none := by
  rw [munch_dec.longest] at hd
  rw [munch_hex.longest, munch_oct.longest]
  cases b with
  | nil => cases hd
  | cons c r =>
    have hc : c ≠ 48 := by
      rintro rfl
      simp [scDec, Sc.byteThen, nzDigit] at hd
    simp [scHex, scOct, Sc.byteThen, hc]

theorem munch_intBody : Munch intBody isIntBody scIntBody :=
  (munch_dec.alt (munch_hex.alt munch_oct fun l i j hi hj => by
      rw [← munch_hex.longest] at hi; rw [← munch_oct.longest] at hj
      exact Nat.le_of_lt (hex_before_octal l i j hi hj).2) fun l i j hi hj => by
      rw [← munch_dec.longest] at hi
      obtain ⟨h1, h2⟩ := decimal_excl l i hi
      rw [← munch_hex.longest, ← munch_oct.longest, h1, h2] at hj; cases hj).congr
    (fun _ _ => rfl) (fun w => Bool.or_assoc _ _ _) (fun _ => rfl)

theorem isIntBody_nil : isIntBody [] = false := rfl
theorem isIntBody_sign (c : Nat) (w : Bytes) (h : sign c = true) : isIntBody (c :: w) = false := by
  rw [sign_iff] at h
  rcases h with rfl | rfl <;> cases w <;> rfl

theorem munch_integer : Munch integerRe isInt (Sc.after signLen scIntBody) :=
  integerRe_eq ▸ munch_intBody.optSign isIntBody_nil isIntBody_sign

theorem integerMatch_eq (l : Bytes) : integerMatch l = Sc.after signLen scIntBody l := by
  unfold integerMatch Sc.after
  dsimp only
  generalize signLen l = s
  match l.drop s with
  | [] => rfl
  | d :: r =>
    simp only []
    show _ = (((if nzDigit d = true then (Sc.star digit r).map (1 + ·) else none).or
      ((scHex (d :: r)).or (scOct (d :: r)))).map (s + ·))
    by_cases h1 : nzDigit d = true
    · rw [if_pos h1, if_pos (show (49 ≤ d && d ≤ 57) = true from h1)]
      simp [Sc.star, Nat.add_assoc, isDigit_eq_digit]
    · have h1' : scDec (d :: r) = none := by simp [scDec, Sc.byteThen, h1]
      rw [if_neg h1, if_neg (show ¬ (49 ≤ d && d ≤ 57) = true from h1), Option.none_or]
      by_cases h2 : d = 48
      · subst h2
        rw [if_pos rfl]
        cases r with
        | nil => simp [scHex, scOct, Sc.byteThen, Sc.star, spanLen]
        | cons x r' =>
          simp only []
          by_cases h3 : ((x = 120 || x = 88) && spanLen isHex r' > 0) = true
          · rw [if_pos h3]
            simp only [Bool.and_eq_true, decide_eq_true_eq] at h3
            simp [scHex, Sc.byteThen, Sc.plus, h3.1, ← isHex_eq_hexDigit, h3.2, Nat.add_assoc]
            omega
          · rw [if_neg h3]
            have : scHex (48 :: x :: r') = none := by
              simp only [Bool.and_eq_true, decide_eq_true_eq, not_and] at h3
              by_cases hx : (x = 120 || x = 88) = true
              · simp [scHex, Sc.byteThen, Sc.plus, hx, ← isHex_eq_hexDigit, h3 hx]
              · simp [scHex, Sc.byteThen, hx]
            rw [this]
            simp [scOct, Sc.byteThen, Sc.star, Nat.add_assoc, isOct_eq_octDigit]
      · rw [if_neg h2]
        simp [scHex, scOct, Sc.byteThen, h2]

theorem integerMatch_eq_longest (l : Bytes) : integerMatch l = longestPrefix isInt l :=
  (integerMatch_eq l).trans (munch_integer.longest l).symm

end

theorem integerMatch_sound (l : Bytes) (k : Nat) (h : integerMatch l = some k) : isInt (l.take k) = true :=
  longestPrefix_mem (integerMatch_eq_longest l ▸ h)
theorem integerMatch_maximal (l : Bytes) (k : Nat) (h : integerMatch l = some k) :
    ∀ j, k < j → j ≤ l.length → isInt (l.take j) = false :=
  longestPrefix_max (integerMatch_eq_longest l ▸ h)
theorem integerMatch_none (l : Bytes) (h : integerMatch l = none) : ∀ j, j ≤ l.length → isInt (l.take j) = false :=
  longestPrefix_none.1 (integerMatch_eq_longest l ▸ h)

theorem backquoteMatch_sound (l : Bytes) (k : Nat) (h : backquoteMatch l = some k) :
    isBackquoteBody (l.take k) = true :=
  longestPrefix_mem (backquoteMatch_eq_longest l ▸ h)
theorem backquoteMatch_maximal (l : Bytes) (k : Nat) (h : backquoteMatch l = some k) :
    ∀ j, k < j → j ≤ l.length → isBackquoteBody (l.take j) = false :=
  longestPrefix_max (backquoteMatch_eq_longest l ▸ h)
theorem backquoteMatch_none (l : Bytes) (h : backquoteMatch l = none) :
    ∀ j, j ≤ l.length → isBackquoteBody (l.take j) = false :=
  longestPrefix_none.1 (backquoteMatch_eq_longest l ▸ h)

-- `-0x1Fg`
example : longestPrefix isInt [45, 48, 120, 49, 70, 103] = some 5 := by decide +kernel
example : integerMatch [45, 48, 120, 49, 70, 103] = some 5 := by decide +kernel
-- `0x1F`: hexadecimal 4, octal 1
example : longestPrefix hexLit [48, 120, 49, 70] = some 4 ∧ longestPrefix octalLit [48, 120, 49, 70] = some 1 := by decide +kernel
-- `0x`, `089`, `+`, `12a`
example : longestPrefix isInt [48, 120] = some 1 := by decide +kernel
example : longestPrefix isInt [48, 56, 57] = some 1 := by decide +kernel
example : longestPrefix isInt [43] = none ∧ integerMatch [43] = none := by decide +kernel
example : longestPrefix isInt [49, 50, 97] = some 2 := by decide +kernel
-- back-quoted body: "ab`c", "`"
example : longestPrefix isBackquoteBody [97, 98, 96, 99] = some 2 ∧ backquoteMatch [97, 98, 96, 99] = some 2 := by decide +kernel
example : longestPrefix isBackquoteBody [96] = none ∧ backquoteMatch [96] = none := by decide +kernel

section
open Rx

/-! ### `[-+]?[0-9]*\.[0-9]+(?:[eE][-+]?[0-9]+)?` -/

def scExp : Scanner := Sc.byteThen (fun e => e = 101 || e = 69) (Sc.after signLen (Sc.plus digit))
def scFloat : Scanner :=
  Sc.after signLen (Sc.after (spanLen digit) (Sc.byteThen (· == 46) (Sc.plusThen digit (Sc.opt scExp))))

def Rx.expOpt : Re := (Re.seq (.byte fun e => e = 101 || e = 69) (.seq (Re.byte sign).opt (Re.byte digit).plus)).opt

def Rx.floatBody : Re :=
  .seq (.star (.byte digit)) (.seq (.byte (· == 46)) (.seq (Re.byte digit).plus expOpt))

theorem floatRe_eq : floatRe = .seq (Re.byte sign).opt floatBody := by
  simp only [floatRe, floatSx, Sx.re, cSign_has, cDigit_has, cE_has, floatBody, expOpt]
  rfl

theorem opt_isExponent_digit (c : Nat) (w : Bytes) (h : digit c = true) : opt isExponent (c :: w) = false := by
  rw [digit_iff] at h
  have h1 : c ≠ 101 := by omega
  have h2 : c ≠ 69 := by omega
  simp [opt, isExponent, h1, h2]

theorem isFraction_cons (c : Nat) (w : Bytes) :
    isFraction (c :: w) = (decide (c = 46) && cat (plus1 digit) (opt isExponent) w) := by
  by_cases hc : c = 46
  · subst hc; simp [isFraction]
  · simp [isFraction, hc]

theorem isFraction_digit (c : Nat) (w : Bytes) (h : digit c = true) : isFraction (c :: w) = false := by
  rw [digit_iff] at h
  have h1 : c ≠ 46 := by omega
  simp [isFraction_cons, h1]

theorem isFloatBody_nil : isFloatBody [] = false := rfl
theorem isFloatBody_sign (c : Nat) (w : Bytes) (h : sign c = true) : isFloatBody (c :: w) = false := by
  unfold isFloatBody
  rw [cat_star_cons, isFraction_cons]
  rw [sign_iff] at h
  rcases h with rfl | rfl <;> simp [digit]

theorem munch_exponent :
    Munch (.seq (.byte fun e => e = 101 || e = 69) (.seq (Re.byte sign).opt (Re.byte digit).plus)) isExponent scExp :=
  ((Munch.plus_byte digit).optSign (plus1_nil digit) plus1_digit_sign).byte_seq _ rfl fun _ _ => rfl

theorem munch_float : Munch floatRe isFloat scFloat :=
  floatRe_eq ▸ (((munch_exponent.opt.plus_seq digit opt_isExponent_digit).byte_seq (· == 46) rfl
    fun c w => by rw [isFraction_cons, Bool.beq_eq_decide_eq]).star_seq digit isFraction_digit).optSign
      isFloatBody_nil isFloatBody_sign

theorem exponentLen_eq (l : Bytes) : exponentLen l = (scExp l).getD 0 := by
  cases l with
  | nil => rfl
  | cons e r =>
    show (if (decide (e = 101) || decide (e = 69)) = true then
        (if spanLen digit (r.drop (signLen r)) > 0 then 1 + signLen r + spanLen digit (r.drop (signLen r)) else 0) else 0) =
      (if (decide (e = 101) || decide (e = 69)) = true then (Sc.after signLen (Sc.plus digit) r).map (1 + ·) else none).getD 0
    simp only [Sc.after, Sc.plus]
    by_cases he : (decide (e = 101) || decide (e = 69)) = true
    · rw [if_pos he, if_pos he]
      by_cases hd : spanLen digit (r.drop (signLen r)) > 0
      · rw [if_pos hd, if_pos hd]; simp [Nat.add_assoc]
      · rw [if_neg hd, if_neg hd]; rfl
    · rw [if_neg he, if_neg he]; rfl

theorem floatMatch_eq (l : Bytes) : floatMatch l = scFloat l := by
  unfold floatMatch scFloat Sc.after
  dsimp only
  rw [← List.drop_drop]
  generalize signLen l = s
  generalize l.drop s = b
  show (match b.drop (spanLen digit b) with
    | 46 :: r => if spanLen digit r > 0 then
        some (s + spanLen digit b + 1 + spanLen digit r + exponentLen (r.drop (spanLen digit r))) else none
    | _ => none) = _
  generalize spanLen digit b = n
  match b.drop n with
  | [] => rfl
  | c :: r =>
    show _ = ((if (c == 46) = true then (Sc.plusThen digit (Sc.opt scExp) r).map (1 + ·) else none).map (n + ·)).map (s + ·)
    by_cases hc : c = 46
    · subst hc
      simp only [exponentLen_eq, Sc.plusThen, Sc.after, Sc.opt]
      by_cases hm : spanLen digit r > 0
      · simp [hm, Nat.add_assoc]
      · simp [hm]
    · simp [hc]

theorem floatMatch_eq_longest (l : Bytes) : floatMatch l = longestPrefix isFloat l :=
  (floatMatch_eq l).trans (munch_float.longest l).symm

end

theorem floatMatch_sound (l : Bytes) (k : Nat) (h : floatMatch l = some k) : isFloat (l.take k) = true :=
  longestPrefix_mem (floatMatch_eq_longest l ▸ h)
theorem floatMatch_maximal (l : Bytes) (k : Nat) (h : floatMatch l = some k) :
    ∀ j, k < j → j ≤ l.length → isFloat (l.take j) = false :=
  longestPrefix_max (floatMatch_eq_longest l ▸ h)
theorem floatMatch_none (l : Bytes) (h : floatMatch l = none) : ∀ j, j ≤ l.length → isFloat (l.take j) = false :=
  longestPrefix_none.1 (floatMatch_eq_longest l ▸ h)

-- `-1.5e+3x`, `.5e`, `1.`, `1e5`
example : longestPrefix isFloat [45, 49, 46, 53, 101, 43, 51, 120] = some 7 := by decide +kernel
example : floatMatch [45, 49, 46, 53, 101, 43, 51, 120] = some 7 := by decide +kernel
example : longestPrefix isFloat [46, 53, 101] = some 2 ∧ floatMatch [46, 53, 101] = some 2 := by decide +kernel
example : longestPrefix isFloat [49, 46] = none ∧ floatMatch [49, 46] = none := by decide +kernel
example : longestPrefix isFloat [49, 101, 53] = none ∧ floatMatch [49, 101, 53] = none := by decide +kernel

end PV
