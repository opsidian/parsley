/-
  Soundness of the parser core with respect to the derivation relation (C01, first half):
  every tree `run` returns — from any cache state that only holds derivable trees, under any
  left-recursion context, with any fuel — is a derivation of the parser at the call position.
-/
import ParsleyVerif.Spec.Derives
import ParsleyVerif.Proofs.RunBasics
import ParsleyVerif.Proofs.RunEqns
import ParsleyVerif.Proofs.GInduct
import ParsleyVerif.Proofs.RunInv
namespace PV
open PV.Text

def GOK (bodyOf : Nat → G) (g : G) : Prop := g.All (LocalOK bodyOf)

def CacheSound (cfg : Cfg) (bodyOf : Nat → G) (st : St) : Prop :=
  ∀ e ∈ st.cache, ∀ x ∈ e.res.alts, Derives cfg (bodyOf e.idx) e.pos x

/-- the result handler reads the position only for the empty chain, which ends where it starts -/
theorem handleResult_endOf (sh : SeqShape) {p0 p : Nat} {ns : List Node} (h : endOf p0 ns = p) :
    handleResult sh p ns = handleResult sh p0 ns := by
  cases ns with
  | nil => rw [← h, endOf_nil]
  | cons a b => exact handleResult_pos_irrel sh _ _ _ (by simp)

/-- soundness as an instance of `RunInv`: the trees are the derivations, each law a rule of `Derives`; nothing is
    asked of positions, errors or the activation stack -/
def soundInv (cfg : Cfg) (bodyOf : Nat → G) (henv : ∀ g' ∈ cfg.env, GOK bodyOf g') : RunInv cfg where
  Sc := GOK bodyOf
  S := CacheSound cfg bodyOf
  N := Derives cfg
  Ch sh p0 ns p := DerivesSeq cfg sh 0 p0 ns ∧ endOf p0 ns = p
  scope := ⟨fun hg hk => hg.kid hk, henv⟩
  trees :=
    { term := fun _ _ h => .term h
      empty := fun _ _ => .empty
      eof := fun _ _ h => .eof h
      ref := fun _ hk h => .ref hk h
      memo := fun _ h => .memo h
      any := fun _ hg h => .any hg h
      choice := fun _ hg h => .choice hg h
      pass := fun {g w pos o x} _ hw _ _ _ _ h => by
        revert h
        refine G.wrap_cases (motive := fun g w => Derives cfg w.child w.cpos x → Derives cfg g pos x) ?_ ?_ ?_ ?_ ?_ ?_ hw
        · exact fun _ h => .optSome h
        · exact fun _ _ h => .name h
        · exact fun _ h => .singleKeep h
        · exact fun _ h => .suppress h
        · exact fun _ _ h => .ltrim h
        · exact fun _ _ h => .rtrimKeep h
      optNone := fun _ _ => .optNone
      single := fun _ h => .singleUnwrap h
      rkeep := fun _ _ _ _ _ h => .rtrimKeep h
      rtrim := fun _ _ _ _ _ h => .rtrimMove h
      chNil := fun _ _ _ => ⟨.nil, rfl⟩
      chSnoc := fun _ _ hl h hn =>
        ⟨DerivesSeq.snoc h.1 (by rw [Nat.zero_add]; exact hl) (by rw [h.2]; exact hn), endOf_snoc _ _ _⟩
      chEmit := fun {g sh p0 ns p} _ hs hlc h => by
        rw [handleResult_endOf sh h.2]
        exact Derives.seqfam hs h.1 hlc }
  states :=
    { regCall := fun h => h
      logEv := fun ev h _ => cacheAll_of_eq h (logEv_fields _ cfg ev).1
      setError := fun _ h _ => cacheAll_of_eq h (setError_ctxErr _ _).2.1
      enter := fun _ _ h _ _ => cacheAll_of_eq h (memoEnter_frame cfg _ _ _).1
      leave := fun {idx body pos ctx st o st2} hg _ hst hn _ _ e he x hx => by
        obtain ⟨hb, _⟩ : body = bodyOf idx ∧ GOK bodyOf body := hg
        rcases mem_cacheSave he with rfl | h3
        · exact hb ▸ hn x hx
        · exact hst e h3 x hx
      hit := fun {st idx body pos ctx e} hg hst hc => by
        obtain ⟨hb, _⟩ : body = bodyOf idx ∧ GOK bodyOf body := hg
        obtain ⟨hm, hi, hp⟩ := cacheGet_some hc
        exact ⟨fun x hx => .memo (by have := hst e hm x hx; rwa [hi, hp, ← hb] at this), fun _ _ => trivial, trivial⟩ }

theorem run_sound (cfg : Cfg) (bodyOf : Nat → G) (henv : ∀ g' ∈ cfg.env, GOK bodyOf g') :
    ∀ fuel g ctx pos st o st', GOK bodyOf g → CacheSound cfg bodyOf st → run cfg fuel g ctx pos st = some (o, st') →
      (∀ x ∈ o.res.alts, Derives cfg g pos x) ∧ CacheSound cfg bodyOf st' := by
  intro fuel g ctx pos st o st' hg hcs h
  have hp := (soundInv cfg bodyOf henv).run fuel g ctx pos st o st' hg ⟨trivial, hcs, trivial⟩ h
  exact ⟨hp.nodes, hp.st⟩

end PV
