/-
  C05, unambiguity of the arithmetic grammar on every input (`c05_unambiguous`, `c05_cut` in Props/C05V.lean).

  `T P f k q x`: "`x` is a tree of nonterminal `k` (0 = expr, 1 = term, 2 = factor) started at `q`", with the
  trims read exactly (the leaf's end is moved past the whitespace).  The trees started at one position are
  not a chain ("1+2" and "1+2*3" both start at the `1`), but they are all CUTS of each other (`Cut`): a tree
  that ends no later than another one is obtained from it by going down left spines and cutting right
  operands.  Two trees with the same start and the same end are equal (`T_unique`).
-/
import ParsleyVerif.Proofs.A05Lex
import ParsleyVerif.Proofs.ArithEval
namespace PV.A05
open PV PV.Text

section
variable (P : Params) (f : File)

/-- `Trim(Integer())` started at `q` gives `x` -/
def LitAt (q : Nat) (x : Node) : Prop := ∃ n, Terminal.parse P f .integer (sk f q) = .node n ∧ x = mv f n
/-- `Trim(Rune(c))` started at `q` gives `x` -/
def RuneAtQ (c q : Nat) (x : Node) : Prop :=
  ∃ n, Terminal.parse P f (.rune c [34, c, 34]) (sk f q) = .node n ∧ x = mv f n
def OpAt (j q : Nat) (x : Node) : Prop := ∃ c o, Op.ofRune c = some o ∧ o.level = j ∧ RuneAtQ P f c q x

/-- the node of `X → X op Y` -/
def binN (l op r : Node) : Node := .nt seqTok [l, op, r] l.pos r.rpos (.custom 0)
/-- the node of `factor → ( expr )` -/
def parN (lp e rp : Node) : Node := .nt seqTok [lp, e, rp] lp.pos rp.rpos (.select 1)

inductive T : Nat → Nat → Node → Prop
  | lit {k q x} : LitAt P f q x → T k q x
  | paren {k q lp e rp} : RuneAtQ P f 40 q lp → T 0 lp.rpos e → RuneAtQ P f 41 e.rpos rp → T k q (parN lp e rp)
  | bin {k j q l op r} : k ≤ j → j ≤ 1 → T j q l → OpAt P f j l.rpos op → T (j + 1) op.rpos r → T k q (binN l op r)
end

theorem binN_inj {l op r l' op' r' : Node} (h : binN l op r = binN l' op' r') : l = l' ∧ op = op' ∧ r = r' := by
  simp only [binN, Node.nt.injEq, List.cons.injEq, and_true, true_and] at h
  exact ⟨h.1.1, h.1.2.1, h.1.2.2⟩

theorem binN_ne_parN {l op r lp e rp : Node} : binN l op r ≠ parN lp e rp := by
  intro h; simp [binN, parN] at h

theorem binN_rpos (l op r : Node) : (binN l op r).rpos = r.rpos := rfl
theorem parN_rpos (lp e rp : Node) : (parN lp e rp).rpos = rp.rpos := rfl

theorem depth_lt_binN (l op r : Node) : l.depth < (binN l op r).depth ∧ r.depth < (binN l op r).depth := by
  rw [binN, depth_nt3]; omega
theorem depth_lt_parN (lp e rp : Node) : e.depth < (parN lp e rp).depth := by
  rw [parN, depth_nt3]; omega

theorem ofRune_ascii {c : Nat} {o : Op} (h : Op.ofRune c = some o) : c < 0x80 := by
  unfold Op.ofRune at h
  split at h <;> first | omega | cases h

section
variable {P : Params} {f : File} (hoff : 1 ≤ f.offset)
include hoff

theorem leaf_pos {q k : Nat} (hq : InFile f q) (hk : 0 < k) (hk2 : k ≤ (rest f (sk f q)).length) :
    q < sk f (sk f q + k) ∧ InFile f (sk f (sk f q + k)) := by
  have h2 : InFile f (sk f q + k) := inFile_advance (sk_inFile f q hq hoff) hk2
  have h3 := sk_ge f q hq hoff
  have h4 := sk_ge f _ h2 hoff
  exact ⟨by omega, sk_inFile f _ h2 hoff⟩

theorem RuneAtQ.form {c q : Nat} {x : Node} (h : RuneAtQ P f c q x) (hq : InFile f q) (hc : c < 0x80) :
    (rest f (sk f q)).head? = some c ∧
    x = .term (Utf8.encodeRune c) (.rune c) (sk f q) (sk f (sk f q + 1)) := by
  obtain ⟨n, hn, rfl⟩ := h
  obtain ⟨hh, rfl⟩ := (rune_node_iff P f _ c _ n (sk_inFile f q hq hoff) hc).mp hn
  exact ⟨hh, mv_term ..⟩

theorem RuneAtQ.pos {c q : Nat} {x : Node} (h : RuneAtQ P f c q x) (hq : InFile f q) (hc : c < 0x80) :
    q < x.rpos ∧ InFile f x.rpos := by
  obtain ⟨hh, rfl⟩ := h.form hoff hq hc
  refine leaf_pos hoff hq Nat.one_pos ?_
  cases hr : rest f (sk f q) with
  | nil => rw [hr] at hh; cases hh
  | cons b t => exact Nat.succ_le_succ (Nat.zero_le _)

theorem RuneAtQ.det {c c' q : Nat} {x x' : Node} (h : RuneAtQ P f c q x) (h' : RuneAtQ P f c' q x')
    (hq : InFile f q) (hc : c < 0x80) (hc' : c' < 0x80) : c = c' ∧ x = x' := by
  obtain ⟨h1, rfl⟩ := h.form hoff hq hc
  obtain ⟨h2, rfl⟩ := h'.form hoff hq hc'
  rw [h1] at h2
  cases h2
  exact ⟨rfl, rfl⟩

theorem LitAt.form {q : Nat} {x : Node} (h : LitAt P f q x) (hq : InFile f q) :
    ∃ b v k, (rest f (sk f q)).head? = some b ∧ (b = 43 ∨ b = 45 ∨ (48 ≤ b ∧ b ≤ 57)) ∧ 0 < k ∧
      k ≤ (rest f (sk f q)).length ∧
      x = .term (tokOf "INTEGER") (.int v) (sk f q) (sk f (sk f q + k)) := by
  obtain ⟨n, hn, rfl⟩ := h
  obtain ⟨b, hb, hb2, v, k, hk, hk2, rfl⟩ := integer_node_head P f _ n (sk_inFile f q hq hoff) hn
  exact ⟨b, v, k, hb, hb2, hk, hk2, mv_term ..⟩

theorem LitAt.pos {q : Nat} {x : Node} (h : LitAt P f q x) (hq : InFile f q) : q < x.rpos ∧ InFile f x.rpos := by
  obtain ⟨b, v, k, _, _, hk, hk2, rfl⟩ := h.form hoff hq
  exact leaf_pos hoff hq hk hk2

omit hoff in
theorem LitAt.det {q : Nat} {x x' : Node} (h : LitAt P f q x) (h' : LitAt P f q x') : x = x' := by
  obtain ⟨n, hn, rfl⟩ := h
  obtain ⟨n', hn', rfl⟩ := h'
  rw [hn] at hn'
  cases hn'
  rfl

theorem LitAt.not_rune {q c : Nat} {x y : Node} (h : LitAt P f q x) (h' : RuneAtQ P f c q y) (hq : InFile f q)
    (hc : c = 40 ∨ c = 41) : False := by
  obtain ⟨b, _, _, hb, hb2, _⟩ := h.form hoff hq
  obtain ⟨h1, _⟩ := h'.form hoff hq (by omega)
  rw [hb] at h1
  cases h1
  omega

theorem OpAt.pos {j q : Nat} {x : Node} (h : OpAt P f j q x) (hq : InFile f q) : q < x.rpos ∧ InFile f x.rpos := by
  obtain ⟨c, o, ho, _, hr⟩ := h
  exact hr.pos hoff hq (ofRune_ascii ho)

theorem OpAt.det {j j' q : Nat} {x x' : Node} (h : OpAt P f j q x) (h' : OpAt P f j' q x') (hq : InFile f q) :
    j = j' ∧ x = x' := by
  obtain ⟨c, o, ho, hl, hr⟩ := h
  obtain ⟨c', o', ho', hl', hr'⟩ := h'
  obtain ⟨rfl, rfl⟩ := hr.det hoff hr' hq (ofRune_ascii ho) (ofRune_ascii ho')
  rw [ho] at ho'
  cases ho'
  exact ⟨by rw [← hl, ← hl'], rfl⟩

theorem OpAt.not_close {j q : Nat} {x y : Node} (h : OpAt P f j q x) (h' : RuneAtQ P f 41 q y) (hq : InFile f q) :
    False := by
  obtain ⟨c, o, ho, _, hr⟩ := h
  obtain ⟨rfl, _⟩ := hr.det hoff h' hq (ofRune_ascii ho) (by omega)
  simp [Op.ofRune] at ho

theorem LitAt.isTerm {q : Nat} {x : Node} (h : LitAt P f q x) (hq : InFile f q) : ∃ t v p r, x = .term t v p r := by
  obtain ⟨_, _, _, _, _, _, _, rfl⟩ := h.form hoff hq
  exact ⟨_, _, _, _, rfl⟩

theorem T.pos {k q : Nat} {x : Node} (h : T P f k q x) : InFile f q → q < x.rpos ∧ InFile f x.rpos := by
  induction h with
  | lit h => intro hq; exact h.pos hoff hq
  | paren h1 _ h3 ih =>
    intro hq
    obtain ⟨a1, a2⟩ := h1.pos hoff hq (by omega)
    obtain ⟨b1, b2⟩ := ih a2
    obtain ⟨c1, c2⟩ := h3.pos hoff b2 (by omega)
    exact ⟨by rw [parN_rpos]; omega, by rw [parN_rpos]; exact c2⟩
  | bin _ _ _ h2 _ ih1 ih2 =>
    intro hq
    obtain ⟨a1, a2⟩ := ih1 hq
    obtain ⟨b1, b2⟩ := h2.pos hoff a2
    obtain ⟨c1, c2⟩ := ih2 b2
    exact ⟨by rw [binN_rpos]; omega, by rw [binN_rpos]; exact c2⟩

theorem T.bin_pos {j q : Nat} {l op r : Node} (hq : InFile f q) (h3 : T P f j q l) (h4 : OpAt P f j l.rpos op)
    (h5 : T P f (j + 1) op.rpos r) :
    q < l.rpos ∧ InFile f l.rpos ∧ l.rpos < op.rpos ∧ InFile f op.rpos ∧ op.rpos < r.rpos := by
  obtain ⟨b1, b2⟩ := h3.pos hoff hq
  obtain ⟨c1, c2⟩ := h4.pos hoff b2
  exact ⟨b1, b2, c1, c2, (h5.pos hoff c2).1⟩

theorem T.inv_bin {k q : Nat} {l op r : Node} (h : T P f k q (binN l op r)) (hq : InFile f q) :
    ∃ j, k ≤ j ∧ j ≤ 1 ∧ T P f j q l ∧ OpAt P f j l.rpos op ∧ T P f (j + 1) op.rpos r ∧
      q < l.rpos ∧ InFile f l.rpos ∧ l.rpos < op.rpos ∧ InFile f op.rpos ∧ op.rpos < r.rpos := by
  generalize hy : binN l op r = y at h
  cases h with
  | lit h =>
    obtain ⟨_, _, _, _, rfl⟩ := h.isTerm hoff hq
    simp [binN] at hy
  | paren _ _ _ => exact absurd hy binN_ne_parN
  | bin h1 h2 h3 h4 h5 =>
    obtain ⟨rfl, rfl, rfl⟩ := binN_inj hy
    exact ⟨_, h1, h2, h3, h4, h5, T.bin_pos hoff hq h3 h4 h5⟩

end

inductive Cut : Node → Node → Prop
  | refl (a : Node) : Cut a a
  | left {a l op r : Node} : Cut a l → Cut a (binN l op r)
  | right {c l op r : Node} : Cut c r → Cut (binN l op c) (binN l op r)

theorem Cut.inv_bin {x l op r : Node} (h : Cut x (binN l op r)) :
    x = binN l op r ∨ Cut x l ∨ ∃ c, x = binN l op c ∧ Cut c r := by
  generalize hy : binN l op r = y at h
  cases h with
  | refl => exact .inl rfl
  | left h =>
    obtain ⟨rfl, rfl, rfl⟩ := binN_inj hy
    exact .inr (.inl h)
  | right h =>
    obtain ⟨rfl, rfl, rfl⟩ := binN_inj hy
    exact .inr (.inr ⟨_, rfl, h⟩)

theorem Cut.inv_other {x y : Node} (h : Cut x y) (hy : ∀ l op r, y ≠ binN l op r) : x = y := by
  cases h with
  | refl => rfl
  | left _ => exact absurd rfl (hy _ _ _)
  | right _ => exact absurd rfl (hy _ _ _)

section
variable {P : Params} {f : File} (hoff : 1 ≤ f.offset)
include hoff

theorem Cut.le {a b : Node} (h : Cut a b) : ∀ {k q : Nat}, InFile f q → T P f k q b → a.rpos ≤ b.rpos := by
  induction h with
  | refl => intro _ _ _ _; exact Nat.le_refl _
  | left _ ih =>
    intro k q hq hb
    obtain ⟨j, _, _, h3, _, _, _, _, b1, _, c1⟩ := hb.inv_bin hoff hq
    have a1 := ih hq h3
    rw [binN_rpos]; omega
  | right _ ih =>
    intro k q hq hb
    obtain ⟨j, _, _, _, _, h5, _, _, _, c2, _⟩ := hb.inv_bin hoff hq
    exact ih c2 h5

theorem Cut.eq_of_rpos {a b : Node} (h : Cut a b) :
    ∀ {k q : Nat}, InFile f q → T P f k q b → a.rpos = b.rpos → a = b := by
  induction h with
  | refl => intro _ _ _ _ _; rfl
  | left hc _ =>
    intro k q hq hb he
    obtain ⟨j, _, _, h3, _, _, _, _, b1, _, c1⟩ := hb.inv_bin hoff hq
    have a1 := hc.le hoff hq h3
    rw [binN_rpos] at he; omega
  | right _ ih =>
    intro k q hq hb he
    obtain ⟨j, _, _, _, _, h5, _, _, _, c2, _⟩ := hb.inv_bin hoff hq
    rw [ih c2 h5 he]

theorem Cut.follow {c r : Node} (h : Cut c r) :
    ∀ {k q : Nat}, InFile f q → T P f k q r → c.rpos < r.rpos → ∃ j op, k ≤ j ∧ OpAt P f j c.rpos op := by
  induction h with
  | refl => intro _ _ _ _ hlt; omega
  | left hc ih =>
    intro k q hq hb _
    obtain ⟨j, h1, _, h3, h4, _⟩ := hb.inv_bin hoff hq
    have a1 := hc.le hoff hq h3
    rcases Nat.lt_or_ge _ _ with hlt | hge
    · obtain ⟨j', op', hj', ho'⟩ := ih hq h3 hlt
      exact ⟨j', op', by omega, ho'⟩
    · have := hc.eq_of_rpos hoff hq h3 (by omega)
      subst this
      exact ⟨j, _, h1, h4⟩
  | right _ ih =>
    intro k q hq hb hlt
    obtain ⟨j, h1, _, _, _, h5, _, _, _, c2, _⟩ := hb.inv_bin hoff hq
    obtain ⟨j', op', hj', ho'⟩ := ih c2 h5 hlt
    exact ⟨j', op', by omega, ho'⟩

/-- a proper cut is followed by an operator (`Cut.follow`), not by `)` -/
theorem Cut.eq_of_close {c r rp : Node} {k q : Nat} (h : Cut c r) (hq : InFile f q) (hr : T P f k q r)
    (hci : InFile f c.rpos) (h3 : RuneAtQ P f 41 c.rpos rp) : c = r := by
  rcases Nat.lt_or_ge c.rpos r.rpos with hlt | hge
  · obtain ⟨j, op, _, ho⟩ := h.follow hoff hq hr hlt
    exact (ho.not_close hoff h3 hci).elim
  · exact h.eq_of_rpos hoff hq hr (Nat.le_antisymm (h.le hoff hq hr) hge)

/-- the left operand `l'` of a binary tree, followed by its operator `op'`, cannot be a cut of another tree
    `l op r` that ends strictly inside the right operand `r`: it would be `l op c` for a proper cut `c` of `r`, and
    the operator after `c` binds tighter than `op`, whereas `op'` — the operator after `l op c` — binds no tighter -/
theorem Cut.no_straddle {l op r l' op' : Node} {k j' q : Nat} (hq : InFile f q) (hx : T P f k q (binN l op r))
    (hl' : T P f j' q l') (hop' : OpAt P f j' l'.rpos op') (hc : Cut l' (binN l op r))
    (h1 : l.rpos < l'.rpos) (h2 : l'.rpos < r.rpos) : False := by
  obtain ⟨j, _, _, h3, h4, h5, _, l2, _, o2, _⟩ := hx.inv_bin hoff hq
  rcases hc.inv_bin with h | h | ⟨c, rfl, hcr⟩
  · rw [h, binN_rpos] at h2; omega
  · have := h.le hoff hq h3; omega
  · rw [binN_rpos] at h2 hop'
    obtain ⟨j'', op'', hj'', ho''⟩ := hcr.follow hoff o2 h5 h2
    obtain ⟨rfl, _⟩ := ho''.det hoff hop' (hl'.pos hoff hq).2
    obtain ⟨j2, hj2, _, _, hop2, _⟩ := hl'.inv_bin hoff hq
    obtain ⟨rfl, _⟩ := hop2.det hoff h4 l2
    omega

/-! `T.cut` goes by induction on the sum of the depths; every appeal to the induction hypothesis replaces a tree by
  one of its operands (`depth_lt_binN`, `depth_lt_parN`). -/

theorem T.cut : ∀ (n : Nat) {a b : Node} {ka kb q : Nat}, a.depth + b.depth ≤ n → InFile f q →
    T P f ka q a → T P f kb q b → a.rpos ≤ b.rpos → Cut a b := by
  intro n
  induction n using Nat.strongRecOn with
  | ind n IH =>
  intro a b ka kb q hn hq ha hb hle
  -- a bin node that ends no later than a leaf / a parenthesis started at the same place: impossible
  have notbin : ∀ {la opa ra : Node}, a = binN la opa ra → (∀ l op r, b ≠ binN l op r) → False := by
    intro la opa ra hae hnb
    subst hae
    obtain ⟨ja, _, _, h3, _, _, _, _, c1, _, d1⟩ := ha.inv_bin hoff hq
    rw [binN_rpos] at hle
    have hc := IH (la.depth + b.depth) (Nat.lt_of_lt_of_le (Nat.add_lt_add_right (depth_lt_binN la opa ra).1 _) hn)
      (Nat.le_refl _) hq h3 hb (by omega)
    have := hc.inv_other hnb
    subst this
    omega
  cases hb with
  | lit hbl =>
    obtain ⟨tb, vb, pb, rb, rfl⟩ := hbl.isTerm hoff hq
    cases ha with
    | lit hal => rw [hal.det hbl]; exact .refl _
    | paren h1 _ _ => exact (hbl.not_rune hoff h1 hq (.inl rfl)).elim
    | bin _ _ _ _ _ => exact (notbin rfl (by intro l op r h; simp [binN] at h)).elim
  | paren hb1 hb2 hb3 =>
    rename_i lp e rp
    cases ha with
    | lit hal => exact (hal.not_rune hoff hb1 hq (.inl rfl)).elim
    | paren ha1 ha2 ha3 =>
      rename_i lp' e' rp'
      obtain ⟨_, rfl⟩ := ha1.det hoff hb1 hq (by omega) (by omega)
      obtain ⟨_, hlp⟩ := hb1.pos hoff hq (by omega)
      have hd := Nat.lt_of_lt_of_le (Nat.add_lt_add (depth_lt_parN lp' e' rp') (depth_lt_parN lp' e rp)) hn
      -- the two expressions inside are cuts of each other, and both are followed by `)`
      have hee : e' = e := by
        rcases Nat.le_total e'.rpos e.rpos with hle' | hle'
        · exact (IH _ hd (Nat.le_refl _) hlp ha2 hb2 hle').eq_of_close hoff hlp hb2 (ha2.pos hoff hlp).2 ha3
        · exact ((IH _ (Nat.add_comm .. ▸ hd) (Nat.le_refl _) hlp hb2 ha2 hle').eq_of_close hoff hlp ha2
            (hb2.pos hoff hlp).2 hb3).symm
      subst hee
      obtain ⟨_, rfl⟩ := ha3.det hoff hb3 (hb2.pos hoff hlp).2 (by omega) (by omega)
      exact .refl _
    | bin _ _ _ _ _ => exact (notbin rfl (fun l op r h => binN_ne_parN h.symm)).elim
  | bin hb1 hb2 hb3 hb4 hb5 =>
    rename_i j l op r
    obtain ⟨_, l2, _, o2, _⟩ := T.bin_pos hoff hq hb3 hb4 hb5
    have hbT : T P f kb q (binN l op r) := .bin hb1 hb2 hb3 hb4 hb5
    obtain ⟨hdl, hdr⟩ := depth_lt_binN l op r
    rw [binN_rpos] at hle
    rcases Nat.lt_or_ge l.rpos a.rpos with hal | hal
    rotate_left
    · exact .left (IH (a.depth + l.depth) (Nat.lt_of_lt_of_le (Nat.add_lt_add_left hdl _) hn) (Nat.le_refl _) hq ha hb3 hal)
    · -- `a` ends after the left operand of `b`, which therefore is a cut of `a`: `a` is a binary tree
      have hla : Cut l a := IH (l.depth + a.depth) (Nat.add_comm .. ▸ Nat.lt_of_lt_of_le (Nat.add_lt_add_left hdl _) hn)
        (Nat.le_refl _) hq hb3 ha (Nat.le_of_lt hal)
      cases ha with
      | lit hal' =>
        obtain ⟨_, _, _, _, rfl⟩ := hal'.isTerm hoff hq
        have := hla.inv_other (by intro l op r h; simp [binN] at h)
        subst this; omega
      | paren _ _ _ =>
        have := hla.inv_other (fun l op r h => binN_ne_parN h.symm)
        subst this; omega
      | bin ha1 ha2 ha3 ha4 ha5 =>
        rename_i ja la opa ra
        obtain ⟨_, _, m3, _, m5⟩ := T.bin_pos hoff hq ha3 ha4 ha5
        have haT : T P f ka q (binN la opa ra) := .bin ha1 ha2 ha3 ha4 ha5
        obtain ⟨hdla, hdra⟩ := depth_lt_binN la opa ra
        rw [binN_rpos] at hle hal
        rcases Nat.lt_trichotomy la.rpos l.rpos with hlt | heq | hgt
        · exact (hla.no_straddle hoff hq haT hb3 hb4 hlt hal).elim
        · -- the same left operand, hence the same operator: compare the right operands
          have hll : la = l :=
            (IH (la.depth + l.depth) (Nat.lt_of_lt_of_le (Nat.add_lt_add hdla hdl) hn) (Nat.le_refl _) hq ha3 hb3
              (Nat.le_of_eq heq)).eq_of_rpos hoff hq hb3 heq
          subst hll
          obtain ⟨rfl, rfl⟩ := ha4.det hoff hb4 l2
          exact .right (IH (ra.depth + r.depth) (Nat.lt_of_lt_of_le (Nat.add_lt_add hdra hdr) hn) (Nat.le_refl _) o2
            ha5 hb5 hle)
        · have hc := IH (la.depth + (binN l op r).depth) (Nat.lt_of_lt_of_le (Nat.add_lt_add_right hdla _) hn)
            (Nat.le_refl _) hq ha3 hbT (by rw [binN_rpos]; omega)
          exact (hc.no_straddle hoff hq hbT ha3 ha4 hgt (by omega)).elim

theorem T_unique {a b : Node} {ka kb q : Nat} (hq : InFile f q) (ha : T P f ka q a) (hb : T P f kb q b)
    (he : a.rpos = b.rpos) : a = b :=
  (T.cut hoff _ (Nat.le_refl _) hq ha hb (by omega)).eq_of_rpos hoff hq hb he

end

end PV.A05
