/-
  THE TIE for text/file.go `setLines`, `Position` (the line table, built on first use in a fresh array) and for
  parsley/file_set.go (`NewFileSet`, `AddFile`, `Position`; the calls of the interface parsley.File are
  dispatched to the translated methods of text.File) and text/position.go `Position.String` as `factgen -out-prog`
  translates them, against Model/Text.lean `FileSet.addFile`, `FileSet.position`, `PosResult.render`.

  `FSRel st FS fs`: the translated file set `FS`, read in state `st`, shows the model's `fs`: the same `pos`, the offset
  slice reads as the model's offsets, the files are related one by one (`FileOk`: `FileRel`, the line cache absent or the
  model's line table, the arrays exist), and no file's array is the array of the offset slice (they are different
  allocations: `append(fs.offset, …)` may write in place).

  At the end, text.NewFile (`tie_NewFile`): the prelude's `bytes.Replace(s, old, new, -1)` (`Go.bytesReplaceAll`, general
  left-to-right non-overlapping replacement) at old = "\r\n", new = "\n" is the model's `normCRLF`; the struct the
  translated function returns shows `Text.newFile name raw`.
-/
import ParsleyVerif.Proofs.TxtTieBasics
namespace PV.TxtTie
open PV.ProgPrelude PV.FactsProg PV.ProgTie

/-- `[]T{v₁, …, vₙ}`: a buffer in a fresh array -/
theorem sat_litSlice (st : St) (vs : List Int) :
    (Go.litSlice vs st).Sat (fun s st' => Grows st st' ∧ Buf st.arrays.length st' s vs ∧ s.off = 0 ∧
      s.off + s.cap = (ProgPrelude.cells st' s.arr).length) False := by
  have hc : ProgPrelude.cells { st with arrays := st.arrays ++ [vs] } st.arrays.length = vs := Data.cells_append_eq st.arrays _
  refine ⟨Grows.push st _, ⟨⟨by simp, Nat.le_refl _, ?_⟩, Nat.le_refl _, rfl, ?_⟩, rfl, ?_⟩
  rotate_left 2
  · show 0 + vs.length = (ProgPrelude.cells _ st.arrays.length).length
    rw [hc]; omega
  · show 0 + vs.length ≤ (ProgPrelude.cells _ st.arrays.length).length
    rw [hc]; omega
  · show ((ProgPrelude.cells _ st.arrays.length).drop 0).take vs.length = vs
    rw [hc]; simp

/-- the scanning loop of setLines: from byte `k` on, with the line starts found so far in the slice `L`, it appends the
    model's `linesFrom` of the rest; the file's bytes (below `base`) are never written -/
theorem setLines_loop_tie (st0 : St) (F : FactsProg.File) (f : Text.File) (rel : FileRel st0 F f) (base : Nat)
    (hd : F.data.arr < base) (hb0 : base ≤ st0.arrays.length) (fuel k : Nat) (L : Sl) (st : St) (kp : Keeps base st0 st)
    (w : SWFs st L) (hL : base ≤ L.arr) (hn : L.isNil = false) (ho : L.off = 0)
    (he : L.off + L.cap = (ProgPrelude.cells st L.arr).length) (hf : f.data.length - k < fuel) :
    (File_setLines_loop1 F.data fuel { F with lines := L } k st).Sat (fun a st' => ∃ L', a.1 = { F with lines := L' } ∧
      view st' L' = view st L ++ ints (Text.linesFrom (f.data.drop k) k) ∧ SWFs st' L' ∧ Keeps base st0 st' ∧ base ≤ L'.arr ∧
      L'.isNil = false ∧ L'.off = 0 ∧ L'.off + L'.cap = (ProgPrelude.cells st' L'.arr).length) False := by
  -- the loop's variables: the cursor, the slice of line starts, and what it shows
  refine sat_loop (σ := Nat × Sl × List Int) (fun fuel σ => File_setLines_loop1 F.data fuel { F with lines := σ.2.1 } σ.1)
    (fun σ => f.data.length - σ.1)
    (fun σ st => Keeps base st0 st ∧ SWFs st σ.2.1 ∧ base ≤ σ.2.1.arr ∧ σ.2.1.isNil = false ∧ σ.2.1.off = 0 ∧
      σ.2.1.off + σ.2.1.cap = (ProgPrelude.cells st σ.2.1.arr).length ∧ view st σ.2.1 = σ.2.2)
    (fun σ a st' => ∃ L', a.1 = { F with lines := L' } ∧
      view st' L' = σ.2.2 ++ ints (Text.linesFrom (f.data.drop σ.1) σ.1) ∧ SWFs st' L' ∧ Keeps base st0 st' ∧ base ≤ L'.arr ∧
      L'.isNil = false ∧ L'.off = 0 ∧ L'.off + L'.cap = (ProgPrelude.cells st' L'.arr).length)
    (fun _ => False) ?_ fuel (k, L, view st L) st ⟨kp, w, hL, hn, ho, he, rfl⟩ hf
  rintro fuel ⟨k, L, shown⟩ st ⟨kp, w, hL, hn, ho, he, hv⟩ ih
  dsimp only at kp w hL hn ho he hv ⊢
  have relc : FileRel st F f := rel.keeps kp hd F.lines
  rw [File_setLines_loop1]
  simp only [go_sat, len_data relc, relc.sat_read, ← Int.natCast_add_one]
  rcases Nat.lt_or_ge k f.data.length with c | c
  · rw [Data.drop_eq_getD_cons _ _ 0 c, Text.linesFrom]
    generalize f.data.getD k 0 = b
    by_cases h10 : b = 10
    · simp (disch := omega) only [go_decided]
      -- a line feed: its successor is appended, in place or into a fresh array
      refine (sat_append w _).mono ?_ id
      rintro L1 st1 ⟨o, v1, w1, n1, a1, e1⟩
      have hlen := kp.len
      have hla := w.arr
      refine (ih (k + 1, L1, shown ++ [((k + 1 : Nat) : Int)]) st1
        ⟨kp.trans (o.keeps hL (by omega)), w1, ?_, n1, ?_, e1 he, by rw [v1, hv]⟩
        (by dsimp only; omega)).mono ?_ id
      · rcases a1 with a1 | a1 <;> rw [a1.1] <;> omega
      · rcases a1 with a1 | a1
        · rw [a1.2, ho]
        · exact a1.2
      · rintro a st' ⟨L', e, v', r⟩
        refine ⟨L', e, ?_, r⟩
        rw [v', List.append_assoc]
        simp [ints]
    · simp (disch := omega) only [go_decided]
      exact ih (k + 1, L, shown) st ⟨kp, w, hL, hn, ho, he, hv⟩ (by dsimp only; omega)
  · simp (disch := omega) only [go_decided]
    refine ⟨L, rfl, ?_, w, kp, hL, hn, ho, he⟩
    rw [List.drop_of_length_le c, hv]
    simp [Text.linesFrom]

/-- **setLines**: the receiver comes back with `lines` reading as the model's `File.lines` (0, then the offset after
    every line feed), in a fresh array; nothing that existed is written. -/
theorem tie_setLines (st : St) (F : FactsProg.File) (f : Text.File) (rel : FileRel st F f) (hd : F.data.arr < st.arrays.length) :
    (File_setLines F st).Sat (fun F' st' => ∃ L, F' = { F with lines := L } ∧ view st' L = ints f.lines ∧ SWFs st' L ∧
      Keeps st.arrays.length st st' ∧ st.arrays.length ≤ L.arr ∧ L.isNil = false ∧ L.off = 0 ∧
      L.off + L.cap = (ProgPrelude.cells st' L.arr).length) False := by
  rw [File_setLines]
  refine Res.Sat.bind (sat_litSlice st [0]) ?_ id
  rintro L0 st1 ⟨g1, b0, o0, e0⟩
  simp only [go_sat]
  generalize hfu : (Int.toNat _ + 1 : Nat) = fuel
  have hfuel : f.data.length - 0 < fuel := by rw [len_data rel, Int.toNat_natCast] at hfu; omega
  refine (setLines_loop_tie st F f rel st.arrays.length hd (Nat.le_refl _) fuel 0 L0 st1 g1.keeps b0.wf b0.above b0.nonnil o0 e0
    hfuel).mono ?_ id
  rintro a st' ⟨L', e, v', w', k', hL', n', o', e'⟩
  refine ⟨L', e, ?_, w', k', hL', n', o', e'⟩
  rw [v', b0.view]
  simp [Text.File.lines, ints]

/-- **Position**: the translated function answers what the model answers, fills the line cache on first use — in a fresh
    array —, keeps the relation to the model file and writes to nothing that existed. -/
theorem tie_Position (st : St) (F : FactsProg.File) (f : Text.File) (rel : FileRel st F f) (hd : F.data.arr < st.arrays.length)
    (inv : LinesInv st F f) (p : Nat) :
    (File_Position F p st).Sat (fun a st' => a.2 = posObj (f.position p) ∧ FileRel st' a.1 f ∧ LinesInv st' a.1 f ∧
      Keeps st.arrays.length st st' ∧ a.1.data = F.data ∧
      (a.1.lines = F.lines ∨
        (a.1.lines.isNil = false ∧ a.1.lines.off = 0 ∧ st.arrays.length ≤ a.1.lines.arr ∧ SWFs st' a.1.lines))) False := by
  have hlen := rel.len
  rw [File_Position]
  simp only [go_test]
  by_cases hp : p > f.len
  · rw [Text.File.position_unknown f p hp]
    simp only [Text.File.len] at hp
    simp (disch := omega) only [go_sat, go_decided]
    exact ⟨rfl, rel, inv, Keeps.refl _ _, trivial, .inl trivial⟩
  · have hple : p ≤ f.len := by omega
    simp only [Text.File.len] at hp
    rcases inv with hnil | ⟨hnn, hv, hl⟩
    · -- first use: setLines, then the search in the fresh table
      rw [hnil]
      simp (disch := omega) only [go_sat, go_decided]
      refine (tie_setLines st F f rel hd).mono ?_ id
      rintro F1 st1 ⟨L, rfl, v, w, k, hL, n, o, -⟩
      have hl' : L.len = f.lines.length := by have := w.view_length; rw [v] at this; simpa using this.symm
      obtain ⟨_, i, l, hpos, hle, hs, hi⟩ := position_search_tie st1 { F with lines := L } f v hl' p hple
      simp only [sat_of_eq hs, show (i : Int) + 1 - 1 = i by omega, sat_of_eq hi, hpos, posObj, Int.natCast_add_one,
        show ((p - l + 1 : Nat) : Int) = (p : Int) - l + 1 by omega]
      exact ⟨by rw [rel.name], rel.keeps k hd _, .inr ⟨n, v, hl'⟩, k, trivial, .inr ⟨n, o, hL, w⟩⟩
    · obtain ⟨_, i, l, hpos, hle, hs, hi⟩ := position_search_tie st F f hv hl p hple
      rw [hnn]
      simp (disch := omega) only [go_sat, go_decided, sat_of_eq hs, show (i : Int) + 1 - 1 = i by omega, sat_of_eq hi, hpos,
        posObj, Int.natCast_add_one, show ((p - l + 1 : Nat) : Int) = (p : Int) - l + 1 by omega]
      exact ⟨by rw [rel.name], rel, .inr ⟨hnn, hv, hl⟩, Keeps.refl _ _, trivial, .inl trivial⟩

/-- `darr` is asked of the nil data slice (`arr = 0`) too, so some array must exist: `tie_NewFile` has the two patterns of its
    ReplaceAll, allocated before the data -/
structure FileOk (st : St) (F : FactsProg.File) (f : Text.File) : Prop where
  rel : FileRel st F f
  inv : LinesInv st F f
  darr : F.data.arr < st.arrays.length
  larr : F.lines.isNil = false → F.lines.arr < st.arrays.length

theorem FileOk.only {a : Nat} {st st' : St} {F : FactsProg.File} {f : Text.File} (ok : FileOk st F f) (o : Only a st st')
    (h1 : F.data.arr ≠ a) (h2 : F.lines.isNil = false → F.lines.arr ≠ a) : FileOk st' F f := by
  refine ⟨⟨?_, ok.rel.dlen, ok.rel.len, ok.rel.off, ok.rel.name⟩, ?_, by have := o.len; have := ok.darr; omega,
    fun h => by have := o.len; have := ok.larr h; omega⟩
  · rw [o.view _ ok.darr h1]; exact ok.rel.data
  · rcases ok.inv with hn | ⟨hn, hv, hl⟩
    · exact Or.inl hn
    · exact Or.inr ⟨hn, by rw [o.view _ (ok.larr hn) (h2 hn)]; exact hv, hl⟩

theorem FileOk.keeps {st st' : St} {F : FactsProg.File} {f : Text.File} (ok : FileOk st F f)
    (k : Keeps st.arrays.length st st') : FileOk st' F f :=
  ok.only (k.only st'.arrays.length) (by have := ok.darr; have := k.len; omega)
    (fun h => by have := ok.larr h; have := k.len; omega)

/-- **Position** of a file of the set: the model's answer, the file stays related (line cache filled on first use, in a
    fresh array), every array that existed is untouched -/
theorem FileOk.position {st : St} {F : FactsProg.File} {f : Text.File} (ok : FileOk st F f) (p : Nat) :
    (File_Position F p st).Sat (fun a st' => a.2 = posObj (f.position p) ∧ FileOk st' a.1 f ∧ Keeps st.arrays.length st st' ∧
      a.1.data = F.data ∧ (a.1.lines = F.lines ∨ (a.1.lines.isNil = false ∧ st.arrays.length ≤ a.1.lines.arr))) False := by
  refine (tie_Position st F f ok.rel ok.darr ok.inv p).mono ?_ id
  rintro a st' ⟨e, rel', inv', k, hdata, hlines⟩
  have hlen := k.len
  have hd := ok.darr
  refine ⟨e, ⟨rel', inv', by rw [hdata]; omega, fun hn => ?_⟩, k, hdata, hlines.imp id (fun hl => ⟨hl.1, hl.2.2.1⟩)⟩
  rcases hlines with hl | hl
  · rw [hl] at hn ⊢; have := ok.larr hn; omega
  · exact hl.2.2.2.arr

def Apart (a : Nat) (F : FactsProg.File) : Prop := F.data.arr ≠ a ∧ (F.lines.isNil = false → F.lines.arr ≠ a)

def FilesRel (st : St) (Fs : List FactsProg.File) (fl : List Text.File) : Prop :=
  Fs.length = fl.length ∧
    ∀ (i : Nat) (F : FactsProg.File) (f : Text.File), Fs[i]? = some F → fl[i]? = some f → FileOk st F f

theorem FilesRel.nil (st : St) : FilesRel st [] [] := ⟨rfl, fun i F f h => by simp at h⟩

theorem FilesRel.cons_iff {st : St} {F : FactsProg.File} {f : Text.File} {Fs : List FactsProg.File} {fl : List Text.File} :
    FilesRel st (F :: Fs) (f :: fl) ↔ FileOk st F f ∧ FilesRel st Fs fl := by
  constructor
  · intro ⟨h1, h2⟩
    exact ⟨h2 0 F f rfl rfl, (by simpa using h1), fun i G g hG hg => h2 (i + 1) G g (by simpa using hG) (by simpa using hg)⟩
  · intro ⟨h0, h1, h2⟩
    refine ⟨(by simp [h1]), fun i G g hG hg => ?_⟩
    cases i with
    | zero => simp at hG hg; subst hG hg; exact h0
    | succ i => exact h2 i G g (by simpa using hG) (by simpa using hg)

theorem FilesRel.imp {st st' : St} {Fs : List FactsProg.File} {fl : List Text.File} (h : FilesRel st Fs fl)
    (hi : ∀ F f, F ∈ Fs → FileOk st F f → FileOk st' F f) : FilesRel st' Fs fl :=
  ⟨h.1, fun i F f hF hf => hi F f (List.mem_of_getElem? hF) (h.2 i F f hF hf)⟩

theorem FilesRel.mem {st : St} {Fs : List FactsProg.File} {fl : List Text.File} (h : FilesRel st Fs fl)
    {F : FactsProg.File} (hF : F ∈ Fs) : ∃ f, FileOk st F f := by
  obtain ⟨i, hi, e⟩ := List.getElem_of_mem hF
  have hi' : i < fl.length := by rw [← h.1]; exact hi
  exact ⟨fl[i], h.2 i F fl[i] (by rw [List.getElem?_eq_getElem hi, e]) (List.getElem?_eq_getElem hi')⟩

theorem FilesRel.snoc {st : St} {Fs : List FactsProg.File} {fl : List Text.File} (h : FilesRel st Fs fl)
    {F : FactsProg.File} {f : Text.File} (ok : FileOk st F f) : FilesRel st (Fs ++ [F]) (fl ++ [f]) := by
  refine ⟨(by simp [h.1]), fun i G g hG hg => ?_⟩
  by_cases hi : i < Fs.length
  · rw [List.getElem?_append_left hi] at hG
    rw [List.getElem?_append_left (by rw [← h.1]; exact hi)] at hg
    exact h.2 i G g hG hg
  · rw [List.getElem?_append_right (by omega)] at hG
    rw [List.getElem?_append_right (by rw [← h.1]; omega)] at hg
    have h1 := h.1
    cases hk : i - Fs.length with
    | zero =>
      rw [hk] at hG; rw [← h1, hk] at hg
      simp at hG hg; subst hG hg; exact ok
    | succ k => rw [hk] at hG; simp at hG

theorem FilesRel.set {st : St} {Fs : List FactsProg.File} {fl : List Text.File} (h : FilesRel st Fs fl) (k : Nat)
    {F' : FactsProg.File} {f : Text.File} (hf : fl[k]? = some f) (ok : FileOk st F' f) : FilesRel st (Fs.set k F') fl := by
  refine ⟨(by simp [h.1]), fun i G g hG hg => ?_⟩
  by_cases hik : k = i
  · subst hik
    have hk : k < Fs.length := by
      rw [h.1]; exact (List.getElem?_eq_some_iff.mp hf).1
    rw [List.getElem?_set_self hk] at hG
    rw [hf] at hg
    cases hG; cases hg; exact ok
  · rw [List.getElem?_set_ne hik] at hG
    exact h.2 i G g hG hg

structure FSRel (st : St) (FS : FactsProg.FileSet) (fs : Text.FileSet) : Prop where
  pos : FS.pos = (fs.pos : Int)
  off : view st FS.offset = ints fs.offsets
  owf : SWFs st FS.offset
  files : FilesRel st FS.files fs.files
  sep : ∀ F ∈ FS.files, Apart FS.offset.arr F
  flen : fs.files.length = fs.offsets.length
  srt : fs.offsets.Pairwise (· < ·)
  below : ∀ o ∈ fs.offsets, o < fs.pos

theorem FSRel.olen {st : St} {FS : FactsProg.FileSet} {fs : Text.FileSet} (r : FSRel st FS fs) :
    FS.offset.len = fs.offsets.length := by
  have := r.owf.view_length; rw [r.off] at this; simpa using this.symm

/-- **AddFile**: the model's `addFile`; the set's copy of the file is the file as it is after SetOffset; only the array
    of the offset slice may be written -/
theorem tie_AddFile (st : St) (FS : FactsProg.FileSet) (fs : Text.FileSet) (r : FSRel st FS fs)
    (F : FactsProg.File) (f : Text.File) (ok : FileOk st F f) (ap : Apart FS.offset.arr F) :
    (FileSet_AddFile FS F st).Sat (fun FS' st' => FSRel st' FS' (fs.addFile f).1 ∧ Only FS.offset.arr st st' ∧
      FS'.files = FS.files ++ [{ F with offset := FS.pos }] ∧
      (FS'.offset.arr = FS.offset.arr ∨ FS'.offset.arr = st.arrays.length)) False := by
  have hgap : Facts.fileSetGap = 1 := by decide
  rw [FileSet_AddFile]
  simp only [go_sat, File_SetOffset, File_Len]
  -- the one write: `append(fs.offset, fs.pos)`
  refine (sat_append r.owf FS.pos).mono ?_ id
  rintro s' st' ⟨o1, v1, w1, -, ha, -⟩
  replace ha : s'.arr = FS.offset.arr ∨ s'.arr = st.arrays.length := ha.imp And.left And.left
  have hA : ∀ G : FactsProg.File, G.data.arr < st.arrays.length → (G.lines.isNil = false → G.lines.arr < st.arrays.length) →
      Apart FS.offset.arr G → Apart s'.arr G := by
    intro G g1 g2 g3
    rcases ha with ha | ha
    · rw [ha]; exact g3
    · rw [ha]; exact ⟨by omega, fun h => by have := g2 h; omega⟩
  have okF : FileOk st' { F with offset := FS.pos } { f with offset := fs.pos } := by
    have ok' := ok.only o1 ap.1 ap.2
    exact ⟨⟨ok'.rel.data, ok'.rel.dlen, ok'.rel.len, r.pos, ok'.rel.name⟩, ok'.inv, ok'.darr, ok'.larr⟩
  refine ⟨⟨?_, ?_, w1, ?_, ?_, ?_, ?_, ?_⟩, o1, trivial, ha⟩
  · show FS.pos + F.len + 1 = ((fs.pos + f.len + Facts.fileSetGap : Nat) : Int)
    rw [r.pos, ok.rel.len, hgap]; simp [Text.File.len]
  · rw [v1, r.off]; simp [Text.FileSet.addFile, ints_append, r.pos]
  · show FilesRel st' (FS.files ++ [_]) (fs.files ++ [_])
    exact (r.files.imp (fun G g hG okG => okG.only o1 (r.sep G hG).1 (r.sep G hG).2)).snoc okF
  · intro G hG
    simp only [List.mem_append, List.mem_singleton] at hG
    rcases hG with hG | hG
    · obtain ⟨g, hg⟩ := r.files.mem hG
      exact hA G hg.darr hg.larr (r.sep G hG)
    · subst hG; exact hA _ ok.darr ok.larr ap
  · simp [Text.FileSet.addFile, r.flen]
  · simp only [Text.FileSet.addFile]
    rw [List.pairwise_append]
    refine ⟨r.srt, by simp, fun a ha b hb => ?_⟩
    simp only [List.mem_singleton] at hb; subst hb; exact r.below a ha
  · intro o ho
    simp only [Text.FileSet.addFile, List.mem_append, List.mem_singleton] at ho ⊢
    rcases ho with ho | ho
    · have := r.below o ho; omega
    · subst ho; omega

/-- **FileSet.Position**: a panic where the model says `.panic` (no offset at or below the position), else the model's
    answer; the set stays related to the same model set (a file's line cache may have been filled, in a fresh array) and
    every array that existed is untouched -/
theorem tie_FSPosition (st : St) (FS : FactsProg.FileSet) (fs : Text.FileSet) (r : FSRel st FS fs) (p : Nat) :
    (fs.position p = .panic → FactsProg.FileSet_Position FS p st = .panic) ∧
    (fs.position p ≠ .panic → ∃ (FS' : FactsProg.FileSet) (st' : St),
      FactsProg.FileSet_Position FS p st = .ok (FS', posObj (fs.position p)) st' ∧ FSRel st' FS' fs ∧
      Keeps st.arrays.length st st') := by
  have hpos := r.pos
  have hol := r.olen
  unfold Text.FileSet.position
  by_cases c0 : p = 0 ∨ p ≥ fs.pos
  · have hres : FactsProg.FileSet_Position FS p st = .ok (FS, posObj .unknown) st := by
      rw [eq_ok_iff, FactsProg.FileSet_Position]
      simp only [go_test]
      rcases c0 with c0 | c0 <;> simp (disch := omega) only [go_sat, go_decided, posObj, and_self]
    rw [if_pos c0]
    exact ⟨fun h => (by cases h), fun _ => ⟨FS, st, hres, r, Keeps.refl _ _⟩⟩
  · rw [if_neg c0]
    simp only [not_or, Nat.not_le, ge_iff_le] at c0
    obtain ⟨s, hs, hsv, s1, s2, _⟩ := search_gt r.off hol r.srt p
    rw [hsv]
    simp only []
    by_cases c1 : s = 0
    · subst c1
      rw [if_pos rfl]
      refine ⟨fun _ => ?_, fun h => absurd rfl h⟩
      have p1 : Go.listIdx FS.files ((0 : Nat) - 1 : Int) st = .panic := by
        simp only [Go.listIdx]; rw [if_neg (by omega)]
      rw [eq_panic_iff, FactsProg.FileSet_Position]
      simp only [go_test]
      simp (disch := omega) only [go_sat, go_decided, ↓sat_of_eq hs, ↓sat_of_panic p1]
    · rw [if_neg c1]
      obtain ⟨k, rfl⟩ : ∃ k, s = k + 1 := ⟨s - 1, by omega⟩
      have hk : k < fs.offsets.length := by omega
      have hkf : k < fs.files.length := by rw [r.flen]; exact hk
      have hkF : k < FS.files.length := by rw [r.files.1]; exact hkf
      have hle : fs.offsets.getD k 0 ≤ p := s2 k (Nat.lt_succ_self k)
      obtain ⟨o, ho⟩ : ∃ o, fs.offsets.getD k 0 = o := ⟨_, rfl⟩
      have hgo : fs.offsets[k]? = some o := by
        simp [← ho, List.getD_eq_getElem?_getD, List.getElem?_eq_getElem hk]
      have okk : FileOk st FS.files[k] fs.files[k] :=
        r.files.2 k _ _ (List.getElem?_eq_getElem hkF) (List.getElem?_eq_getElem hkf)
      simp only [Nat.add_sub_cancel, List.getElem?_eq_getElem hkf, hgo]
      have hne := Text.File.position_ne_panic fs.files[k] (p - o)
      obtain ⟨⟨F', po⟩, st', e, hpo, ok', k', hdata, hlines⟩ := (okk.position (p - o)).ok
      dsimp only at hpo ok' hdata hlines
      subst hpo
      have hli : Go.listIdx FS.files (k : Int) st = .ok FS.files[k] st := by
        simp only [Go.listIdx, Int.toNat_natCast, List.getElem?_eq_getElem hkF]
        rw [if_pos (by omega)]
      have hoi : Go.idx FS.offset (k : Int) st = .ok (o : Int) st := ho ▸ idx_view_nat r.off hol hk
      have hres : FactsProg.FileSet_Position FS p st =
          .ok ({ FS with files := FS.files.set k F' }, posObj (fs.files[k].position (p - o))) st' := by
        rw [eq_ok_iff, FactsProg.FileSet_Position]
        simp only [go_test]
        simp (disch := omega) only [go_sat, go_decided, ↓sat_of_eq hs, show ((k + 1 : Nat) : Int) - 1 = (k : Int) by omega,
          ↓sat_of_eq hli, ↓sat_of_eq hoi, show ((p : Int) - (o : Int)) = ((p - o : Nat) : Int) by omega, ↓sat_of_eq e,
          Int.toNat_natCast, and_self]
      rw [hres]
      refine ⟨fun h => absurd h hne, fun _ => ?_⟩
      refine ⟨{ FS with files := FS.files.set k F' }, st', rfl, ?_, k'⟩
      have hov : view st' FS.offset = view st FS.offset := k'.view _ r.owf.arr
      refine ⟨r.pos, (by show view st' FS.offset = _; rw [hov]; exact r.off), (show SWFs st' FS.offset from ?_),
        (show FilesRel st' (FS.files.set k F') fs.files from ?_),
        (show ∀ G ∈ FS.files.set k F', Apart FS.offset.arr G from ?_), r.flen, r.srt, r.below⟩
      · refine ⟨by have := k'.len; have := r.owf.arr; omega, r.owf.cap, ?_⟩
        rw [k'.cells r.owf.arr]; exact r.owf.fits
      · exact (r.files.imp (fun G g _ okG => okG.keeps k')).set k (List.getElem?_eq_getElem hkf) ok'
      · intro G hG
        rcases List.mem_or_eq_of_mem_set hG with hG | hG
        · exact r.sep G hG
        · subst hG
          have hsepk := r.sep FS.files[k] (List.getElem_mem hkF)
          refine ⟨by rw [hdata]; exact hsepk.1, fun hn => ?_⟩
          rcases hlines with hl | ⟨_, hl⟩
          · rw [hl] at hn ⊢; exact hsepk.2 hn
          · have := r.owf.arr; omega

theorem newFileSet_loop_tie (n : Nat) :
    ∀ (Fs : List FactsProg.File) (fl : List Text.File) (FS : FactsProg.FileSet) (fs : Text.FileSet) (st : St),
      FSRel st FS fs → n ≤ FS.offset.arr → n ≤ st.arrays.length → FilesRel st Fs fl →
      (∀ F ∈ Fs, F.data.arr < n ∧ (F.lines.isNil = false → F.lines.arr < n)) →
      (NewFileSet_loop1 Fs FS st).Sat (fun FS' st' =>
        FSRel st' FS' (fl.foldl (fun fs f => (fs.addFile f).1) fs) ∧ n ≤ FS'.offset.arr ∧ Keeps n st st') False := by
  intro Fs
  induction Fs with
  | nil =>
    intro fl FS fs st r _ _ hfr _
    have : fl = [] := by have := hfr.1; simpa using this.symm
    subst this
    exact ⟨r, by assumption, Keeps.refl _ _⟩
  | cons F Fs ih =>
    intro fl FS fs st r hn hnl hfr hlow
    cases fl with
    | nil => have := hfr.1; simp at this
    | cons f fl =>
      obtain ⟨ok, hrest⟩ := FilesRel.cons_iff.mp hfr
      have hF := hlow F (by simp)
      have ap : Apart FS.offset.arr F := ⟨by omega, fun h => by have := hF.2 h; omega⟩
      rw [NewFileSet_loop1]
      refine Res.Sat.bind (tie_AddFile st FS fs r F f ok ap) ?_ id
      rintro FS1 st1 ⟨r1, o1, _, ha⟩
      have k1 : Keeps n st st1 := o1.keeps hn hnl
      have hn1 : n ≤ FS1.offset.arr := by rcases ha with ha | ha <;> omega
      have hrest1 : FilesRel st1 Fs fl := hrest.imp (fun G g hG okG => by
        have hG' := hlow G (by simp [hG])
        exact okG.only o1 (by omega) (fun h => by have := hG'.2 h; omega))
      exact (ih fl FS1 (fs.addFile f).1 st1 r1 hn1 (by have := o1.len; omega) hrest1 (fun G hG => hlow G (by simp [hG]))).mono
        (fun FS' st' ⟨r2, hn2, k2⟩ => ⟨r2, hn2, k1.trans k2⟩) id

/-- **NewFileSet(files…)**: the model's `buildFS` (AddFile for each file in order on the empty set); the files' arrays
    are untouched -/
theorem tie_NewFileSet (st : St) (Fs : List FactsProg.File) (fl : List Text.File) (hfr : FilesRel st Fs fl) :
    ∃ (FS : FactsProg.FileSet) (st' : St),
      FactsProg.NewFileSet Fs st = .ok FS st' ∧ FSRel st' FS (Text.buildFS fl) ∧ Keeps st.arrays.length st st' := by
  refine Res.Sat.ok ?_
  rw [NewFileSet]
  refine Res.Sat.bind (sat_litSlice st []) ?_ id
  rintro t1 st1 ⟨g1, b1, -, -⟩
  have r0 : FSRel st1 { pos := 1, files := [], offset := t1 } ({} : Text.FileSet) :=
    ⟨(show (1 : Int) = ((Facts.fileSetFirstPos : Nat) : Int) by decide), b1.view, b1.wf, FilesRel.nil _, fun F h => by simp at h, rfl,
      List.Pairwise.nil, fun o h => by simp at h⟩
  have hfr1 : FilesRel st1 Fs fl := hfr.imp (fun G g _ okG => okG.keeps g1.keeps)
  have hlow : ∀ F ∈ Fs, F.data.arr < st.arrays.length ∧ (F.lines.isNil = false → F.lines.arr < st.arrays.length) := by
    intro F hF
    obtain ⟨g, okG⟩ := hfr.mem hF
    exact ⟨okG.darr, okG.larr⟩
  simp only [go_sat]
  exact (newFileSet_loop_tie st.arrays.length Fs fl _ _ _ r0 b1.above g1.keeps.len hfr1 hlow).mono
    (fun FS' st' ⟨r, _, k⟩ => ⟨r, g1.keeps.trans k⟩) id

theorem lit_append (a b : String) : Go.lit (a ++ b) = Go.lit a ++ Go.lit b := by
  simp [Go.lit, ByteArray.data_append]

/-- **Position.String**: the bytes of the model's rendering "file:line:column" / "line:column" -/
theorem tie_PositionString (st : St) (name : String) (l c : Nat) :
    FactsProg.Position_String { Filename := name, Line := l, Column := c } st =
      .ok (Go.lit (Text.PosResult.render (.at_ name l c))) st := by
  have e1 : toString ((l : Nat) : Int) = toString l := rfl
  have e2 : toString ((c : Nat) : Int) = toString c := rfl
  simp only [FactsProg.Position_String, Text.PosResult.render, ite_apply, pure_apply]
  by_cases h : name = ""
  · subst h
    simp [Go.sprintf, Fmt.out, e1, e2, lit_append]
    rfl
  · simp [Go.sprintf, Fmt.out, e1, e2, lit_append, h]
    rfl

theorem replaceAll_crlf (l : List Nat) : replaceAll [13, 10] [10] 0 (ints l) = ints (Text.normCRLF l) := by
  fun_induction Text.normCRLF l with
  | case1 r ih =>
    simp only [ints_cons, replaceAll]
    rw [if_pos (by simp)]
    simp only [List.length_cons, List.length_nil, Nat.zero_add, Nat.add_one_sub_one, List.singleton_append, replaceAll]
    rw [ih]; rfl
  | case2 b r h ih =>
    have hp : [13, 10].isPrefixOf ((b : Int) :: ints r) = false := by
      cases r with
      | nil => simp [List.isPrefixOf]
      | cons c r =>
        rw [Bool.eq_false_iff]
        intro hp
        simp only [ints_cons, List.isPrefixOf_cons_cons, List.isPrefixOf_nil_left, Bool.and_true, Bool.and_eq_true,
          beq_iff_eq] at hp
        exact h r (by omega) (by rw [show c = 10 by omega])
    rw [ints_cons, replaceAll, if_neg (by rw [hp]; simp), ih]
    rfl
  | case3 => rfl

theorem replaceAll_absent (old new : List Int) (l : List Int) (h : occursIn old l = false) : replaceAll old new 0 l = l := by
  induction l with
  | nil => rfl
  | cons b r ih =>
    simp only [occursIn, Bool.or_eq_false_iff] at h
    simp only [replaceAll]
    rw [if_neg (by rw [h.1]; simp), ih h.2]

/-- `bytes.Replace(s, old, new, -1)` for a non-empty `old`: the result shows the replaced bytes; it is either the nil slice
    (nothing allocated) or one fresh array -/
theorem sat_bytesReplaceAll (st : St) (s old new : Sl) (ho : view st old ≠ []) :
    (Go.bytesReplaceAll s old new st).Sat (fun d st' => Grows st st' ∧
      view st' d = replaceAll (view st old) (view st new) 0 (view st s) ∧
      d.len = (replaceAll (view st old) (view st new) 0 (view st s)).length ∧
      ((d = Go.nilSl ∧ st' = st) ∨
        (d.isNil = false ∧ d.arr = st.arrays.length ∧ st'.arrays.length = st.arrays.length + 1))) False := by
  by_cases hoc : occursIn (view st old) (view st s) = true
  · rw [show Go.bytesReplaceAll s old new st = _ from by simp only [Go.bytesReplaceAll, hoc, if_true, if_neg ho]; rfl]
    exact ⟨Grows.push st _, by simp [view, cells, List.getD_eq_getElem?_getD], rfl, Or.inr ⟨rfl, rfl, by simp⟩⟩
  · have hoc' : occursIn (view st old) (view st s) = false := by simpa using hoc
    rw [replaceAll_absent _ _ _ hoc']
    by_cases hs : view st s = []
    · rw [show Go.bytesReplaceAll s old new st = .ok Go.nilSl st from by
        rw [hs] at hoc'
        simp only [Go.bytesReplaceAll, hoc', Bool.false_eq_true, if_false, Go.appendList, hs, if_true]]
      exact ⟨Grows.refl st, by rw [hs]; simp [view, Go.nilSl], by rw [hs]; rfl, Or.inl ⟨rfl, rfl⟩⟩
    · have hpos : 0 < (view st s).length := List.length_pos_iff.mpr hs
      rw [show Go.bytesReplaceAll s old new st = _ from by
        simp only [Go.bytesReplaceAll, hoc', Bool.false_eq_true, if_false, Go.appendList, if_neg hs]
        rw [if_neg (by simp only [Go.nilSl]; omega)]]
      refine ⟨Grows.push st _, ?_, ?_, Or.inr ⟨rfl, rfl, by simp⟩⟩
      · simp only [Go.nilSl, Nat.zero_add]
        simp [view, cells, List.getD_eq_getElem?_getD]
      · simp [Go.nilSl]

theorem lit_crlf : Go.lit "\r\n" = [13, 10] := by decide
theorem lit_lf : Go.lit "\n" = [10] := by decide

/-- **NewFile**: for every state and every data slice of it (a header into an existing array, or an empty one — the nil
    slice included) the translated function returns a file that shows the model's `newFile name raw` (data = the
    CRLF-normalised bytes, len = their number, offset = `Facts.newFileOffset`, the name kept), with the line cache absent
    (nil); nothing that existed is written, the data array is fresh (or the nil slice, for an empty input) -/
theorem tie_NewFile (st : St) (name : String) (D : Sl) (raw : List Nat) (hv : view st D = ints raw)
    (hD : D.arr < st.arrays.length ∨ D.len = 0) :
    ∃ (F : FactsProg.File) (st' : St),
      NewFile name D st = .ok F st' ∧ FileOk st' F (Text.newFile name raw) ∧ F.lines = Go.nilSl ∧
      F.offset = (Facts.newFileOffset : Int) ∧ F.filename = name ∧
      view st' F.data = ints (Text.normCRLF raw) ∧ F.len = ((Text.normCRLF raw).length : Int) ∧
      Keeps st.arrays.length st st' ∧ (F.data.isNil = true ∨ st.arrays.length ≤ F.data.arr) := by
  refine Res.Sat.ok ?_
  rw [NewFile]
  refine Res.Sat.bind (sat_bytesOf st _) ?_ id
  rintro t1 st1 ⟨g1, v1, l1, n1⟩
  refine Res.Sat.bind (sat_bytesOf st1 _) ?_ id
  rintro t2 st2 ⟨g2, v2, l2, n2⟩
  have v1' : view st2 t1 = [13, 10] := by rw [view_grows g2 t1 (by rw [v1, l1]), v1, lit_crlf]
  have v2' : view st2 t2 = [10] := by rw [v2, lit_lf]
  have g12 : Grows st st2 := g1.trans g2
  have hD2 : view st2 D = ints raw := by
    rcases hD with ha | h0
    · simp only [view, cells_grows g12 ha]; exact hv
    · rw [← hv]; simp [view, h0]
  have hlen12 : st.arrays.length ≤ st2.arrays.length := g12.keeps.len
  have hlen2 : 2 ≤ st2.arrays.length := by omega
  refine Res.Sat.bind (sat_bytesReplaceAll st2 D t1 t2 (by rw [v1']; simp)) ?_ id
  rintro d st3 ⟨g3, v3, l3, hfresh⟩
  rw [v1', v2', hD2, replaceAll_crlf] at v3 l3
  have g13 : Grows st st3 := g12.trans g3
  simp only [go_sat]
  refine ⟨?_, trivial, rfl, trivial, v3, (by simp [Go.len, l3]), g13.keeps, ?_⟩
  · refine ⟨⟨by rw [v3]; rfl, by simpa [Text.newFile] using l3, by simp [Go.len, l3, Text.newFile], rfl, rfl⟩, Or.inl rfl, ?_, fun h => by cases h⟩
    rcases hfresh with ⟨hd, hs⟩ | ⟨_, ha, hl⟩
    · rw [hd, hs]; show 0 < st2.arrays.length; omega
    · show d.arr < st3.arrays.length; omega
  · rcases hfresh with ⟨hd, _⟩ | ⟨_, ha, _⟩
    · left; rw [hd]; rfl
    · right; show st.arrays.length ≤ d.arr; omega

end PV.TxtTie
