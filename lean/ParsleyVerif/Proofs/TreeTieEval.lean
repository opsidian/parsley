/-
  parsley.EvaluateNode, (*NonTerminalNode).Value, ast.InterpreterFunc.Eval and the interpreters of ast/interpreter
  (Select, Array, Object, Nil), translated, against the model's `evalNode` (Model/Eval.lean).

  Evaluation does not write the heap, so no separation is needed: `NRep h x n` says that the heap `h` shows the model
  node `x` at the node value `n` (sharing is allowed).
-/
import ParsleyVerif.Proofs.TreeTieBasics
import ParsleyVerif.Proofs.Walk
namespace PV.TreeTie
open PV.CorePrelude hiding Node World
open PV.TreePrelude PV.FactsTree

abbrev MNode := PV.Node

mutual
/-- a value of the model as an `interface{}` value: a string is a Go string, an array a []interface{}, an object a
    map[string]interface{}; the other kinds of value are of other dynamic types (tagged) -/
def tV : V → TValue
  | .nil => .nil
  | .int i => .other 0 [i]
  | .str b => .str b
  | .rune c => .other 1 [(c : Int)]
  | .bool b => .other 2 [if b then 1 else 0]
  | .float l => .other 3 (l.map Int.ofNat)
  | .dur l => .other 4 (l.map Int.ofNat)
  | .opaque id => .other 5 [(id : Int)]
  | .arr l => .list (tVs l)
  | .obj kvs => .smap (tKVs kvs)
def tVs : List V → List TValue
  | [] => []
  | v :: r => tV v :: tVs r
def tKVs : List (Text.Bytes × V) → List (Bytes × TValue)
  | [] => []
  | (k, v) :: r => (k, tV v) :: tKVs r
end

theorem tVs_snoc : ∀ (l : List V) (v : V), tVs (l ++ [v]) = tVs l ++ [tV v]
  | [], _ => rfl
  | x :: l, v => congrArg (tV x :: ·) (tVs_snoc l v)

theorem tVs_length : ∀ l : List V, (tVs l).length = l.length
  | [] => rfl
  | _ :: l => congrArg (· + 1) (tVs_length l)

def iEnc : PV.Interp → TInterp
  | .none => .nil
  | .select i => .select ⟨(i : Int)⟩
  | .array => .fn .Array
  | .object => .fn .Object
  | .nilI => .fn .Nil
  | .custom id => .custom id

mutual
def NRep (h : Heap) : MNode → TN → Prop
  | .term tok v p r, n => ∃ sch, n = .term { schema := sch, token := tok, value := tV v.toV, pos := p, readerPos := r }
  | .empty p, n => n = .empty p
  | .eof p, n => n = .eof p
  | .nt _ cs p _ ip, n => ∃ a c, n = .ref a ∧ h a = some c ∧ c.pos = (p : Int) ∧ c.interpreter = iEnc ip ∧ NRepL h cs c.children
def NRepL (h : Heap) : List MNode → List TN → Prop
  | [], [] => True
  | x :: xs, n :: ns => NRep h x n ∧ NRepL h xs ns
  | _, _ => False
end

theorem NRepL_length {h : Heap} : ∀ {cs : List MNode} {ns : List TN}, NRepL h cs ns → ns.length = cs.length
  | [], [], _ => rfl
  | _ :: _, _ :: _, hr => congrArg (· + 1) (NRepL_length hr.2)
  | [], _ :: _, hr => hr.elim
  | _ :: _, [], hr => hr.elim

theorem NRepL_get {h : Heap} : ∀ {cs : List MNode} {ns : List TN}, NRepL h cs ns → ∀ (i : Nat) (x : MNode),
    cs[i]? = some x → ∃ n, ns[i]? = some n ∧ NRep h x n
  | _ :: _, _ :: _, hr, 0, _, hx => Option.some.inj hx ▸ ⟨_, rfl, hr.1⟩
  | _ :: _, _ :: _, hr, i + 1, x, hx => NRepL_get hr.2 i x hx
  | [], _ :: _, hr, _, _, _ => hr.elim
  | _ :: _, [], hr, _, _, _ => hr.elim
  | [], [], _, _, _, hx => nomatch hx

theorem nth_rep {h : Heap} {cs : List MNode} {ns : List TN} (hr : NRepL h cs ns) (i : Nat) (s : TSt) :
    match cs[i]? with
    | some x => ∃ n, NRep h x n ∧ (CorePrelude.Go.nth ns (i : Int) : TM TN) s = .ok n s
    | none => (CorePrelude.Go.nth ns (i : Int) : TM TN) s = .panic := by
  rw [nth_nat]
  cases hx : cs[i]? with
  | some x => obtain ⟨n, hn, hrn⟩ := NRepL_get hr i x hx; exact ⟨n, hrn, by rw [hn]⟩
  | none =>
    have : ns[i]? = none := by
      rw [List.getElem?_eq_none_iff] at hx ⊢; rw [NRepL_length hr]; exact hx
    rw [this]

/-- the outcome `x` of a translated evaluation in the state `s` is the model's outcome (the store is not written) -/
def EvCorr (s : TSt) (x : TRes TSt (TValue × TErr)) : EvalOut → Prop
  | .ok v => x = .ok (tV v, PV.CorePrelude.Err.nil) s
  | .err p m => ∃ v, x = .ok (v, PV.CorePrelude.Err.mk (p : Int) (.other 0 m)) s
  | .panic _ => x = .panic

/-- the hypothesis about user-defined interpreters: on a node the heap shows, handed an evaluator that agrees with the
    model's on the nodes not deeper than the children, the world's `Eval` answers what the model's `ce` answers -/
def EvalWorld (W : TW) (ce : CustomEval) (uctx : TValue) : Prop :=
  ∀ (id : Nat) (cb : TValue → TN → TM (TValue × TErr)) (ev : MNode → EvalOut) (s : TSt) (a : Ptr) (tok : Text.Bytes)
    (cs : List MNode) (p r : Nat),
    NRep s.heap (.nt tok cs p r (.custom id)) (.ref a) →
    (∀ x n, x.depth ≤ depthAll cs → NRep s.heap x n → EvCorr s (cb uctx n s) (ev x)) →
    EvCorr s (W.Eval cb (.custom id) uctx (.ref a) s) (ce id cs p ev)

theorem noValue_eq : ErrNoValue = .other 0 noValueMsg := rfl

theorem EvCorr.cases {s : TSt} {x : TRes TSt (TValue × TErr)} {o : EvalOut} (h : EvCorr s x o) :
    (∃ v, o = .ok v ∧ x = .ok (tV v, PV.CorePrelude.Err.nil) s) ∨
    (∃ p m v, o = .err p m ∧ x = .ok (v, PV.CorePrelude.Err.mk (p : Int) (.other 0 m)) s) ∨
    (∃ m, o = .panic m ∧ x = .panic) := by
  cases o with
  | ok v => exact .inl ⟨v, rfl, h⟩
  | err p m => obtain ⟨v, hv⟩ := h; exact .inr (.inl ⟨p, m, v, rfl, hv⟩)
  | panic m => exact .inr (.inr ⟨m, rfl, h⟩)

/-- how Array / Object finish: `return` inside the loop, or the collected values -/
def finish {α : Type} (wrap : α → TValue) : TRes TSt (Brk (TValue × TErr) (α × Int)) → TRes TSt (TValue × TErr)
  | .ok (.ret t) s' => .ok t s'
  | .ok (.done (res, _)) s' => .ok (wrap res, PV.CorePrelude.Err.nil) s'
  | .panic => .panic
  | .nofuel => .nofuel

theorem drop_eq_cons {α : Type} (l : List α) (i : Nat) (x : α) (h : l[i]? = some x) : l.drop i = x :: l.drop (i + 1) := by
  obtain ⟨hi, rfl⟩ := List.getElem?_eq_some_iff.mp h
  exact List.drop_eq_getElem_cons hi

theorem evalArray_step (ev : MNode → EvalOut) (c : MNode) (rest : List MNode) (acc : List V) :
    evalArray ev (c :: rest) acc = match ev c with
      | .ok v => evalArray ev (rest.drop 1) (acc ++ [v])
      | e => e := by
  cases rest <;> cases h : ev c <;> simp only [evalArray, h, List.drop_nil, List.drop_succ_cons, List.drop_zero]

theorem Array_loop_step (W : TW) (u : TValue) (ns : List TN) (r1 : TValue → TN → TM (TValue × TErr)) (r2 r3 r4 r5 r6)
    (lfuel : Nat) (res : List TValue) (k : Nat) (s : TSt) :
    Array_func_loop1 W u ns r1 r2 r3 r4 r5 r6 (lfuel + 1) res (k : Int) s =
      match ns[k]? with
      | none => .ok (.done (res, (k : Int))) s
      | some n =>
        match r1 u n s with
        | .ok (v, .nil) s' =>
          (CorePrelude.Go.setNth res ((k / 2 : Nat) : Int) v >>= fun res =>
            Array_func_loop1 W u ns r1 r2 r3 r4 r5 r6 lfuel res ((k + 2 : Nat) : Int)) s'
        | .ok (_, .mk p c) s' => .ok (.ret (PV.TreePrelude.Value.nil, .mk p c)) s'
        | .panic => .panic
        | .nofuel => .nofuel := by
  have htd : Int.tdiv (k : Int) 2 = ((k / 2 : Nat) : Int) := rfl
  by_cases hk : k < ns.length
  · have : (k : Int) < CorePrelude.Go.len ns := by simp only [CorePrelude.Go.len]; omega
    simp only [Array_func_loop1, this, decide_true, ↓reduceIte, GoM.bind_apply, nth_nat, List.getElem?_eq_getElem hk, htd]
    rcases r1 u ns[k] s with ⟨⟨v, _ | _⟩, s'⟩ | _ | _ <;> rfl
  · have : ¬ (k : Int) < CorePrelude.Go.len ns := by simp only [CorePrelude.Go.len]; omega
    simp only [Array_func_loop1, this, decide_false, Bool.false_eq_true, ↓reduceIte, pure_apply,
      List.getElem?_eq_none (Nat.le_of_not_lt hk)]

/-- Array's loop against the model's `evalArray`: `acc` values are collected, the loop stands at child `2 * |acc|`, the
    result slice is filled up to there -/
theorem arr_loop (W : TW) (uctx : TValue) (s : TSt) (ns : List TN) (cs : List MNode) (hrep : NRepL s.heap cs ns)
    (ev : MNode → EvalOut) (r1 : TValue → TN → TM (TValue × TErr)) (r2 r3 r4 r5 r6)
    (hrec : ∀ x n, x ∈ cs → NRep s.heap x n → EvCorr s (r1 uctx n s) (ev x))
    (lfuel : Nat) (acc : List V) (hfu : cs.length ≤ 2 * acc.length + lfuel) :
    EvCorr s (finish PV.TreePrelude.Value.list (Array_func_loop1 W uctx ns r1 r2 r3 r4 r5 r6 (lfuel + 1)
        (tVs acc ++ List.replicate ((cs.length + 1) / 2 - acc.length) PV.TreePrelude.Value.nil) ((2 * acc.length : Nat) : Int) s))
      (evalArray ev (cs.drop (2 * acc.length)) acc) := by
  have hexit : ∀ (lfuel : Nat) (acc : List V), cs.length ≤ 2 * acc.length →
      EvCorr s (finish PV.TreePrelude.Value.list (Array_func_loop1 W uctx ns r1 r2 r3 r4 r5 r6 (lfuel + 1)
          (tVs acc ++ List.replicate ((cs.length + 1) / 2 - acc.length) PV.TreePrelude.Value.nil) ((2 * acc.length : Nat) : Int) s))
        (evalArray ev (cs.drop (2 * acc.length)) acc) := by
    intro lfuel acc hle
    have : ns[2 * acc.length]? = none := List.getElem?_eq_none (by rw [NRepL_length hrep]; exact hle)
    rw [Array_loop_step, this, List.drop_eq_nil_of_le hle, show (cs.length + 1) / 2 - acc.length = 0 by omega]
    simp only [List.replicate_zero, List.append_nil, finish, evalArray, EvCorr, tV]
  induction lfuel generalizing acc with
  | zero => exact hexit 0 acc hfu
  | succ lfuel ih =>
    by_cases hle : cs.length ≤ 2 * acc.length
    · exact hexit _ acc hle
    · obtain ⟨c, hc⟩ : ∃ c, cs[2 * acc.length]? = some c := ⟨_, List.getElem?_eq_getElem (by omega)⟩
      obtain ⟨n, hn, hrn⟩ := NRepL_get hrep _ c hc
      rw [Array_loop_step, hn, drop_eq_cons cs _ c hc, evalArray_step, List.drop_drop]
      rcases (hrec c n (List.mem_of_getElem? hc) hrn).cases with ⟨v, ho, hx⟩ | ⟨p, m, v, ho, hx⟩ | ⟨m, ho, hx⟩ <;>
        simp only [ho, hx]
      · have hset := setNth_mid (tVs acc) .nil (tV v) (List.replicate ((cs.length + 1) / 2 - (acc.length + 1)) .nil) s
        rw [tVs_length, ← List.replicate_succ,
          show (cs.length + 1) / 2 - (acc.length + 1) + 1 = (cs.length + 1) / 2 - acc.length by omega] at hset
        have := ih (acc ++ [v]) (by simp only [List.length_append, List.length_singleton]; omega)
        rw [tVs_snoc, List.length_append, List.length_singleton, List.append_assoc] at this
        simp only [GoM.bind_apply, Nat.mul_div_cancel_left _ (Nat.zero_lt_two), hset]
        exact this
      · exact ⟨_, rfl⟩
      · rfl

theorem evalObject_step (ev : MNode → EvalOut) (kv : MNode) (rest : List MNode) (acc : List (Text.Bytes × V)) :
    evalObject ev (kv :: rest) acc = match evalKeyValue ev kv acc with
      | .ok acc' => evalObject ev (rest.drop 1) acc'
      | .error e => e := by
  cases rest <;> cases h : evalKeyValue ev kv acc <;>
    simp only [evalObject, h, List.drop_nil, List.drop_succ_cons, List.drop_zero]

theorem smapSet_tKVs (acc : List (Text.Bytes × V)) (k : Text.Bytes) (v : V) :
    TreePrelude.Go.smapSet (tKVs acc) k (tV v) = tKVs (objSet acc k v) := by
  induction acc with
  | nil => rfl
  | cons kv r ih =>
    obtain ⟨k', v'⟩ := kv
    by_cases h : k = k'
    · simp only [tKVs, TreePrelude.Go.smapSet, objSet, h, ↓reduceIte]
    · simp only [tKVs, TreePrelude.Go.smapSet, objSet, h, ↓reduceIte, ih]

theorem tV_str_inv (v : V) (b : Bytes) (h : tV v = .str b) : v = .str b := by
  cases v <;> simp [tV] at h
  subst h; rfl

theorem assertString_tV (v : V) (s : TSt) :
    (TreePrelude.Go.assertString (tV v) : TM Bytes) s = match v with | .str k => .ok k s | _ => .panic := by
  cases v <;> rfl

/-- `Children()` on an interface value asserted to be a non-terminal -/
def kidsOf (W : TW) : TN → TM (List TN)
  | .ref p => NonTerminalNode_Children W p
  | _ => TreePrelude.Go.noMethod

/-- child `i` of a key/value node, evaluated: the value, or the error Object returns at once -/
def evalKid (W : TW) (u : TValue) (r1 : TValue → TN → TM (TValue × TErr)) (kv : TN) (i : Int) :
    TM (Except TErr TValue) := do
  let kids ← kidsOf W kv
  let n ← CorePrelude.Go.nth kids i
  let (v, e) ← r1 u n
  match e with
  | .nil => pure (.ok v)
  | e => pure (.error e)

/-- one round of Object's loop on child `n`: it must be a non-terminal, its children 0 and 2 are evaluated, the key
    must be a string, the pair is stored and the loop goes on (`next`) -/
def objRound (W : TW) (u : TValue) (r1 : TValue → TN → TM (TValue × TErr))
    (next : SMap TValue → TM (Brk (TValue × TErr) (SMap TValue × Int))) (res : SMap TValue) (n : TN) :
    TM (Brk (TValue × TErr) (SMap TValue × Int)) := do
  let kv ← TreePrelude.Node.assertKinds [Kind.ref] n
  match ← evalKid W u r1 kv 0 with
  | .error e => pure (Brk.ret (PV.TreePrelude.Value.nil, e))
  | .ok key =>
    match ← evalKid W u r1 kv 2 with
    | .error e => pure (Brk.ret (PV.TreePrelude.Value.nil, e))
    | .ok value => do
      let key ← TreePrelude.Go.assertString key
      next (TreePrelude.Go.smapSet res key value)

theorem Object_loop_round (W : TW) (u : TValue) (ns : List TN) (r1 : TValue → TN → TM (TValue × TErr)) (r2 r3 r4 r5 r6)
    (lfuel : Nat) (res : SMap TValue) (i : Int) :
    Object_func_loop1 W u ns r1 r2 r3 r4 r5 r6 (lfuel + 1) res i =
      if i < CorePrelude.Go.len ns then
        CorePrelude.Go.nth ns i >>=
          objRound W u r1 (fun res => Object_func_loop1 W u ns r1 r2 r3 r4 r5 r6 lfuel res (i + 2)) res
      else pure (.done (res, i)) := by
  rw [Object_func_loop1]
  split
  · rename_i h; rw [if_pos (of_decide_eq_true h)]
    refine bind_congr fun n => ?_
    simp only [objRound, evalKid, GoM.bind_bind]
    -- both sides make the same calls in the same order; they differ in how the test `err != nil` is written
    refine bind_congr fun _ => bind_congr fun _ => bind_congr fun _ => bind_congr fun ve => ?_
    obtain ⟨key, e⟩ := ve
    cases e
    · refine bind_congr fun _ => bind_congr fun _ => bind_congr fun ve => ?_
      obtain ⟨value, e⟩ := ve
      cases e <;> rfl
    · rfl
  · rename_i h; rw [if_neg (of_decide_eq_false (Bool.eq_false_iff.mpr h))]

theorem Object_loop_step (W : TW) (u : TValue) (ns : List TN) (r1 : TValue → TN → TM (TValue × TErr)) (r2 r3 r4 r5 r6)
    (lfuel : Nat) (res : SMap TValue) (k : Nat) (s : TSt) :
    Object_func_loop1 W u ns r1 r2 r3 r4 r5 r6 (lfuel + 1) res (k : Int) s =
      match ns[k]? with
      | none => .ok (.done (res, (k : Int))) s
      | some n => objRound W u r1
          (fun res => Object_func_loop1 W u ns r1 r2 r3 r4 r5 r6 lfuel res ((k + 2 : Nat) : Int)) res n s := by
  rw [Object_loop_round]
  by_cases hk : k < ns.length
  · rw [if_pos (by simp only [CorePrelude.Go.len]; omega), GoM.bind_apply, nth_nat, List.getElem?_eq_getElem hk]; rfl
  · rw [if_neg (by simp only [CorePrelude.Go.len]; omega), List.getElem?_eq_none (Nat.le_of_not_lt hk)]; rfl

theorem evalKid_rep (W : TW) (u : TValue) (r1 : TValue → TN → TM (TValue × TErr)) {s : TSt} {a : Ptr} {c : TCell}
    {kcs : List MNode} {ev : MNode → EvalOut} (hca : s.heap a = some c) (hkr : NRepL s.heap kcs c.children)
    (hrec : ∀ x n, x ∈ kcs → NRep s.heap x n → EvCorr s (r1 u n s) (ev x)) (i : Nat) :
    evalKid W u r1 (.ref a) (i : Int) s =
      match kcs[i]? with
      | none => .panic
      | some x =>
        match ev x with
        | .ok v => .ok (.ok (tV v)) s
        | .err p m => .ok (.error (.mk (p : Int) (.other 0 m))) s
        | .panic _ => .panic := by
  have hn := nth_rep hkr i s
  simp only [evalKid, kidsOf, GoM.bind_apply, children_apply W hca]
  cases hx : kcs[i]? with
  | none => rw [hx] at hn; rw [hn]
  | some x =>
    rw [hx] at hn
    obtain ⟨n, hrn, hn⟩ := hn
    rw [hn]
    rcases (hrec x n (List.mem_of_getElem? hx) hrn).cases with ⟨v, ho, hx⟩ | ⟨p, m, v, ho, hx⟩ | ⟨m, ho, hx⟩ <;>
      simp only [ho, hx] <;> rfl

theorem obj_loop (W : TW) (uctx : TValue) (s : TSt) (ns : List TN) (cs : List MNode) (hrep : NRepL s.heap cs ns)
    (ev : MNode → EvalOut) (r1 : TValue → TN → TM (TValue × TErr)) (r2 r3 r4 r5 r6)
    (hrec : ∀ x n, x.depth ≤ depthAll cs → NRep s.heap x n → EvCorr s (r1 uctx n s) (ev x))
    (lfuel j : Nat) (acc : List (Text.Bytes × V)) (hfu : cs.length ≤ 2 * j + lfuel) :
    EvCorr s (finish PV.TreePrelude.Value.smap
        (Object_func_loop1 W uctx ns r1 r2 r3 r4 r5 r6 (lfuel + 1) (tKVs acc) ((2 * j : Nat) : Int) s))
      (evalObject ev (cs.drop (2 * j)) acc) := by
  induction lfuel generalizing j acc with
  | zero =>
    rw [Nat.add_zero] at hfu
    rw [Object_loop_step, List.getElem?_eq_none (by rw [NRepL_length hrep]; exact hfu), List.drop_eq_nil_of_le hfu]
    rfl
  | succ lfuel ih =>
    rw [Object_loop_step]
    cases hc : cs[2 * j]? with
    | none =>
      have hle : cs.length ≤ 2 * j := List.getElem?_eq_none_iff.mp hc
      rw [List.getElem?_eq_none (by rw [NRepL_length hrep]; exact hle), List.drop_eq_nil_of_le hle]
      rfl
    | some kv =>
      obtain ⟨n, hn, hrn⟩ := NRepL_get hrep _ kv hc
      have hkvd : kv.depth ≤ depthAll cs := depth_le_depthAll (List.mem_of_getElem? hc)
      rw [hn, drop_eq_cons cs _ kv hc, evalObject_step, List.drop_drop]
      cases kv with
      | term tok v p r => obtain ⟨sch, rfl⟩ := hrn; rfl
      | empty p => cases hrn; rfl
      | eof p => cases hrn; rfl
      | nt tok kcs p r ip =>
        obtain ⟨a, c, rfl, hca, _, _, hkr⟩ := hrn
        have hkid := evalKid_rep W uctx r1 hca hkr (ev := ev) (fun x n hm hr =>
          hrec x n (by have := depth_le_depthAll hm; have : depthAll kcs < depthAll cs := hkvd; omega) hr)
        have has : (TreePrelude.Node.assertKinds [Kind.ref] (.ref a) : TM TN) s = .ok (.ref a) s := rfl
        simp only [objRound, GoM.bind_apply, has, show (0 : Int) = ((0 : Nat) : Int) from rfl,
          show (2 : Int) = ((2 : Nat) : Int) from rfl, hkid, evalKeyValue]
        cases kcs[0]? with
        | none => rfl
        | some kn =>
          dsimp only
          cases ev kn with
          | err p0 m0 => exact ⟨_, rfl⟩
          | panic m0 => rfl
          | ok key =>
            simp only [GoM.bind_apply, hkid]
            cases kcs[2]? with
            | none => rfl
            | some vn =>
              dsimp only
              cases ev vn with
              | err p0 m0 => exact ⟨_, rfl⟩
              | panic m0 => rfl
              | ok v =>
                simp only [GoM.bind_apply, assertString_tV]
                cases key with
                | str k =>
                  simp only [smapSet_tKVs]
                  exact ih (j + 1) (objSet acc k v) (by omega)
                | _ => rfl

theorem ntValue_cell (W : TW) (g : Nat) (u : TValue) {a : Ptr} {s : TSt} {c : TCell} (hc : s.heap a = some c) :
    NonTerminalNode_Value W (g + 1) a u s =
      match c.interpreter with
      | .nil => .panic
      | .select sel => selectInterpreter_Eval W g sel u (.ref a) s
      | .fn f => InterpreterFunc_Eval W g f u (.ref a) s
      | .custom id => W.Eval (EvaluateNode W g) (.custom id) u (.ref a) s := by
  cases hi : c.interpreter <;>
    simp only [NonTerminalNode_Value, GoM.bind_apply, load_some hc, hi, TreePrelude.Interp.isNil, Bool.false_eq_true,
      ↓reduceIte, pure_apply, panic_apply]

theorem selectEval_cell (W : TW) (g : Nat) (u : TValue) (i : Nat) {a : Ptr} {s : TSt} {c : TCell} (hc : s.heap a = some c) :
    selectInterpreter_Eval W (g + 1) ⟨(i : Int)⟩ u (.ref a) s =
      (CorePrelude.Go.nth c.children (i : Int) >>= EvaluateNode W g u) s := by
  simp only [selectInterpreter_Eval, GoM.bind_apply, children_apply W hc, CorePrelude.Go.len, nth_nat, ge_iff_le]
  have h1 : ¬ ((i : Int) < 0) := by omega
  by_cases hi : i < c.children.length
  · have h2 : ¬ ((c.children.length : Int) ≤ (i : Int)) := by omega
    simp only [h1, h2, decide_false, Bool.or_self, Bool.false_eq_true, ↓reduceIte, pure_apply]
  · have h2 : (c.children.length : Int) ≤ (i : Int) := by omega
    simp only [h1, h2, decide_false, decide_true, Bool.or_true, ↓reduceIte, panic_apply,
      List.getElem?_eq_none (Nat.le_of_not_lt hi)]

theorem arrayFunc_cell (W : TW) (g : Nat) (u : TValue) {a : Ptr} {s : TSt} {c : TCell} (hc : s.heap a = some c) :
    Array_func W (g + 1) u (.ref a) s =
      finish PV.TreePrelude.Value.list (Array_func_loop1 W u c.children (EvaluateNode W g) (NonTerminalNode_Value W g)
        (InterpreterFunc_Eval W g) (selectInterpreter_Eval W g) (Array_func W g) (Object_func W g) (c.children.length + 1)
        (List.replicate ((c.children.length + 1) / 2) PV.TreePrelude.Value.nil) 0 s) := by
  have hmk : (CorePrelude.Go.mkList (Int.tdiv ((c.children.length : Int) + 1) 2) : TM (List TValue)) s =
      .ok (List.replicate ((c.children.length + 1) / 2) PV.TreePrelude.Value.nil) s := rfl
  simp only [Array_func, GoM.bind_apply, children_apply W hc, GoM.ite_apply, GoM.dec_false _ _ (show ¬ 2 = 0 by decide),
    Bool.false_eq_true, ↓reduceIte, pure_apply, CorePrelude.Go.len, hmk, Int.toNat_natCast]
  generalize Array_func_loop1 W u c.children _ _ _ _ _ _ _ _ _ s = x
  rcases x with ⟨_ | ⟨_, _⟩, _⟩ | _ | _ <;> rfl

theorem objectFunc_cell (W : TW) (g : Nat) (u : TValue) {a : Ptr} {s : TSt} {c : TCell} (hc : s.heap a = some c) :
    Object_func W (g + 1) u (.ref a) s =
      finish PV.TreePrelude.Value.smap (Object_func_loop1 W u c.children (EvaluateNode W g) (NonTerminalNode_Value W g)
        (InterpreterFunc_Eval W g) (selectInterpreter_Eval W g) (Array_func W g) (Object_func W g) (c.children.length + 1)
        [] 0 s) := by
  simp only [Object_func, GoM.bind_apply, children_apply W hc, GoM.ite_apply, GoM.dec_false _ _ (show ¬ 2 = 0 by decide),
    Bool.false_eq_true, ↓reduceIte, pure_apply, CorePrelude.Go.len, Int.toNat_natCast, TreePrelude.Go.mkSMap]
  generalize Object_func_loop1 W u c.children _ _ _ _ _ _ _ _ _ s = x
  rcases x with ⟨_ | ⟨_, _⟩, _⟩ | _ | _ <;> rfl

/-- **parsley.EvaluateNode, translated, is the model's `evalNode`** (with (*NonTerminalNode).Value, InterpreterFunc.Eval,
    Select, Array, Object, Nil): on every node the heap shows, with fuel above the nesting depth on both sides -/
theorem tie_EvaluateNode (W : TW) (ce : CustomEval) (uctx : TValue) (hw : EvalWorld W ce uctx) (s : TSt) :
    ∀ (F : Nat) (x : MNode) (n : TN) (fuel : Nat), NRep s.heap x n → x.depth < F → 4 * x.depth + 1 ≤ fuel →
      EvCorr s (EvaluateNode W fuel uctx n s) (evalNode ce F x) := by
  intro F
  induction F with
  | zero => intro x n fuel _ h; omega
  | succ F ih =>
    intro x n fuel hrep hd hfu
    cases x with
    | term tok v p r =>
      obtain ⟨sch, rfl⟩ := hrep
      obtain ⟨fuel, rfl⟩ : ∃ k, fuel = k + 1 := ⟨fuel - 1, by omega⟩
      rfl
    | empty p =>
      cases hrep
      obtain ⟨fuel, rfl⟩ : ∃ k, fuel = k + 1 := ⟨fuel - 1, by omega⟩
      exact ⟨_, rfl⟩
    | eof p =>
      cases hrep
      obtain ⟨fuel, rfl⟩ : ∃ k, fuel = k + 1 := ⟨fuel - 1, by omega⟩
      rfl
    | nt tok cs p r ip =>
      obtain ⟨a, c, rfl, hca, hpos, hip, hkr⟩ := hrep
      have hkl := NRepL_length hkr
      simp only [PV.Node.depth] at hd hfu
      -- four levels of the translated recursion per level of the tree (EvaluateNode → (*NonTerminalNode).Value → Eval →
      -- Array / Object → EvaluateNode on a child), one for a leaf: hence `4 * x.depth + 1`
      obtain ⟨f4, rfl⟩ : ∃ k, fuel = k + 4 := ⟨fuel - 4, by omega⟩
      -- the children, and everything not deeper, at every fuel the recursion hands on
      have hrec : ∀ (f : Nat), f4 ≤ f → ∀ x' n', x'.depth ≤ depthAll cs → NRep s.heap x' n' →
          EvCorr s (EvaluateNode W f uctx n' s) (evalNode ce F x') :=
        fun f hf x' n' hx' hr' => ih x' n' f hr' (by omega) (by omega)
      rw [show EvaluateNode W (f4 + 4) uctx (.ref a) s = NonTerminalNode_Value W (f4 + 3) a uctx s from rfl,
        ntValue_cell W _ uctx hca, hip]
      cases ip with
      | none => rfl
      | nilI => rfl
      | custom id =>
        exact hw id (EvaluateNode W (f4 + 2)) (evalNode ce F) s a tok cs p r ⟨a, c, rfl, hca, hpos, hip, hkr⟩
          (hrec (f4 + 2) (by omega))
      | select i =>
        have := nth_rep hkr i s
        simp only [iEnc, selectEval_cell W _ uctx i hca, GoM.bind_apply, evalNode]
        cases hci : cs[i]? with
        | none => rw [hci] at this; rw [this]; rfl
        | some ci =>
          rw [hci] at this
          obtain ⟨ni, hri, hni⟩ := this
          rw [hni]
          exact hrec (f4 + 1) (by omega) ci ni (depth_le_depthAll (List.mem_of_getElem? hci)) hri
      | array =>
        show EvCorr s (Array_func W (f4 + 1) uctx (.ref a) s) _
        rw [arrayFunc_cell W _ uctx hca, hkl]
        exact arr_loop W uctx s c.children cs hkr (evalNode ce F) _ _ _ _ _ _
          (fun x' n' hm hr' => hrec f4 (Nat.le_refl _) x' n' (depth_le_depthAll hm) hr') cs.length [] (Nat.le_add_left _ _)
      | object =>
        show EvCorr s (Object_func W (f4 + 1) uctx (.ref a) s) _
        rw [objectFunc_cell W _ uctx hca, hkl]
        exact obj_loop W uctx s c.children cs hkr (evalNode ce F) _ _ _ _ _ _ (hrec f4 (Nat.le_refl _)) cs.length 0 []
          (Nat.le_add_left _ _)

def RRep (h : Heap) : PV.Res → TN → Prop
  | .nil, n => n = .nil
  | .one x, n => NRep h x n
  | .list l, n => ∃ ns, n = .list ns ∧ NRepL h l ns

/-- `n.Pos()` on an interface value, as the translator writes the call: by the dynamic type -/
def nodePos (W : TW) (g : Nat) : TN → TM Int
  | .empty e => EmptyNode_Pos W e
  | .eof e => EndNode_Pos W e
  | .list l => NodeList_Pos W g l
  | .ref p => NonTerminalNode_Pos W p
  | .term t => TerminalNode_Pos W t
  | .nil => CorePrelude.Go.panic

theorem pos_rep (W : TW) (g : Nat) {s : TSt} {x : MNode} {n : TN} (hr : NRep s.heap x n) :
    nodePos W g n s = .ok (x.pos : Int) s := by
  cases x with
  | term tok v p r => obtain ⟨sch, rfl⟩ := hr; rfl
  | empty p => cases hr; rfl
  | eof p => cases hr; rfl
  | nt tok cs p r ip =>
    obtain ⟨a, c, rfl, hca, hpos, _⟩ := hr
    simp only [nodePos, NonTerminalNode_Pos, GoM.bind_apply, load_some hca, pure_apply, hpos, PV.Node.pos]

theorem EvaluateNode_list (W : TW) (g : Nat) (u : TValue) (n0 : TN) (ns : List TN) :
    EvaluateNode W (g + 2) u (.list (n0 :: ns)) =
      (nodePos W g n0 >>= fun p => pure (PV.TreePrelude.Value.nil, CorePrelude.NewError p ErrNoValue)) := by
  cases n0 <;> rfl

/-- EvaluateNode on the root handed over by Evaluate: the model's `evalRes` -/
theorem tie_evalRes (W : TW) (ce : CustomEval) (uctx : TValue) (hw : EvalWorld W ce uctx) (s : TSt) (F : Nat) (r : PV.Res)
    (n : TN) (fuel : Nat) (hrep : RRep s.heap r n) (hd : ∀ x ∈ r.alts, x.depth < F ∧ 4 * x.depth + 1 ≤ fuel) (hf : 2 ≤ fuel) :
    EvCorr s (EvaluateNode W fuel uctx n s) (evalRes ce F r) := by
  cases r with
  | nil =>
    cases hrep
    obtain ⟨fuel, rfl⟩ : ∃ k, fuel = k + 1 := ⟨fuel - 1, by omega⟩
    rfl
  | one x =>
    have := hd x (List.mem_singleton.mpr rfl)
    exact tie_EvaluateNode W ce uctx hw s F x n fuel hrep this.1 this.2
  | list l =>
    obtain ⟨ns, rfl, hl⟩ := hrep
    obtain ⟨fuel, rfl⟩ : ∃ k, fuel = k + 2 := ⟨fuel - 2, by omega⟩
    match l, ns, hl with
    | [], [], _ => rfl
    | x :: _, n0 :: _, hl =>
      -- a node list has no value: ErrNoValue at the position of its first node
      have hp := pos_rep W fuel hl.1
      refine ⟨PV.TreePrelude.Value.nil, ?_⟩
      rw [EvaluateNode_list, GoM.bind_apply, hp]
      rfl

/-- **parsley.Evaluate, translated**: Parse (the world's), then EvaluateNode with the context's user context; an
    evaluation error is handed to FileSet.ErrorWithPosition (kept symbolic: `positioned`), a parse error is returned as
    it is.  `po` is the model's parse outcome that the world's Parse shows. -/
theorem tie_Evaluate (W : TW) (ce : CustomEval) (p : Parser) (s s1 : TSt) (n : TN) (c : TCause) (F fuel : Nat)
    (po : ParseOut) (hparse : W.Parse p s = .ok (n, c) s1) (hw : EvalWorld W ce s1.userCtx)
    (hc : c.isNil = po.msg.isNone) (hrep : po.msg = none → RRep s1.heap po.res n)
    (hd : ∀ x ∈ po.res.alts, x.depth < F ∧ 4 * x.depth + 1 ≤ fuel) (hf : 2 ≤ fuel) :
    Evaluate W fuel p s =
      if po.msg.isSome then .ok (PV.TreePrelude.Value.nil, c) s1
      else match evalRes ce F po.res with
        | .ok v => .ok (tV v, PV.CorePrelude.Cause.nil) s1
        | .err pos msg => .ok (PV.TreePrelude.Value.nil, PV.CorePrelude.Cause.positioned (pos : Int) (.other 0 msg)) s1
        | .panic _ => .panic := by
  simp only [Evaluate, GoM.bind_apply, hparse]
  cases hm : po.msg with
  | some m =>
    rw [hm] at hc
    simp [hc]
  | none =>
    rw [hm] at hc
    simp only [hc, Option.isNone_none, Bool.not_true, Bool.false_eq_true, ↓reduceIte, read_apply, GoM.bind_apply,
      Option.isSome_none]
    rcases (tie_evalRes W ce s1.userCtx hw s1 F po.res n fuel (hrep hm) hd hf).cases with
      ⟨v, ho, hx⟩ | ⟨p, m, v, ho, hx⟩ | ⟨m, ho, hx⟩ <;> rw [ho, hx] <;> rfl

end PV.TreeTie
