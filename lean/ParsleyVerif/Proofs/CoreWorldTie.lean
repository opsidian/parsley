/-
  The CLOSED WORLD of the translated parser core: `gWorld cfg root fuel` (Proofs/CoreWorld.lean) agrees with the model's
  `run cfg fuel` on every sub-parser of the root and of the rules — by induction on the fuel, the induction step being
  the per-combinator ties of Proofs/CoreTie*.lean (Props/C01P.lean).
-/
import ParsleyVerif.Proofs.CoreWorld
import ParsleyVerif.Proofs.GInduct
namespace PV.CW
open PV.CoreTie PV.FactsCore

theorem subAt_snoc : ∀ (π : List Nat) (g g' k : G) (i : Nat), subAt π g = some g' → (kids g')[i]? = some k →
    subAt (π ++ [i]) g = some k
  | [], g, g', k, i, h, hk => by
    simp only [subAt, Option.some.injEq] at h
    subst h
    simp [subAt, hk]
  | j :: π, g, g', k, i, h, hk => by
    simp only [subAt] at h
    cases hj : (kids g)[j]? with
    | none => simp [hj] at h
    | some kj =>
      rw [hj] at h
      simp only [List.cons_append, subAt, hj]
      exact subAt_snoc π kj g' k i h hk

theorem resolve_snoc (T : List G) (π : List Nat) (g k : G) (i : Nat) (h : resolve T π = some g)
    (hk : (kids g)[i]? = some k) : resolve T (π ++ [i]) = some k := by
  cases π with
  | nil => simp [resolve] at h
  | cons j π =>
    simp only [resolve] at h
    cases hj : T[j]? with
    | none => simp [hj] at h
    | some gj =>
      rw [hj] at h
      simp only [List.cons_append, resolve, hj]
      exact subAt_snoc π gj g k i h hk

theorem resolve_ref (cfg : Cfg) (root : G) (k : Nat) (g : G) (h : cfg.env[k]? = some g) :
    resolve (table cfg root) [k + 1] = some g := by
  simp [resolve, table, h, subAt]

theorem resolve_root (cfg : Cfg) (root : G) : resolve (table cfg root) [0] = some root := by
  simp [resolve, table, subAt]

theorem kids_eq (g : G) : kids g = g.kids := by cases g <;> rfl

theorem subAt_all {P : G → Prop} : ∀ (π : List Nat) (g g' : G), g.All P → subAt π g = some g' → g'.All P
  | [], g, g', hg, h => by
    simp only [subAt, Option.some.injEq] at h
    subst h
    exact hg
  | j :: π, g, g', hg, h => by
    simp only [subAt] at h
    cases hj : (kids g)[j]? with
    | none => simp [hj] at h
    | some kj =>
      rw [hj] at h
      exact subAt_all π kj g' (hg.kid (kids_eq g ▸ List.mem_of_getElem? hj)) h

theorem resolve_refsBelow (cfg : Cfg) (root : G) (hc : Closed cfg root) (π : List Nat) (g : G)
    (h : resolve (table cfg root) π = some g) : RefsBelow cfg.env.length g := by
  cases π with
  | nil => simp [resolve] at h
  | cons j π =>
    simp only [resolve] at h
    cases hj : (table cfg root)[j]? with
    | none => simp [hj] at h
    | some gj =>
      rw [hj] at h
      have hgj : RefsBelow cfg.env.length gj := by
        have hm := List.mem_of_getElem? hj
        simp only [table, List.mem_cons] at hm
        rcases hm with rfl | hm
        · exact hc.root
        · exact hc.env gj hm
      exact subAt_all π gj g hgj h

mutual
theorem refsBelowB_sound (n : Nat) : ∀ g : G, refsBelowB n g = true → RefsBelow n g
  | .term _, _ | .empty, _ | .eof, _ => by simp [RefsBelow, G.All]
  | .ref k, h => by
    simp only [refsBelowB, decide_eq_true_eq] at h
    simp only [RefsBelow, G.All]
    intro k' hk'
    cases hk'
    exact h
  | .memo _ g, h | .many g _ _, h | .optional g, h | .name g _, h | .ltrim g _, h | .rtrim g _, h | .single g, h
  | .suppress g, h => by
    simp only [refsBelowB] at h
    exact ⟨by simp, refsBelowB_sound n g h⟩
  | .any gs, h | .choice gs, h | .seq _ gs _, h => by
    simp only [refsBelowB] at h
    exact ⟨by simp, refsBelowAllB_sound n gs h⟩
  | .sepBy v s ae o, h => by
    simp only [refsBelowB, Bool.and_eq_true] at h
    exact ⟨by simp, refsBelowB_sound n v h.1, refsBelowB_sound n s h.2⟩
theorem refsBelowAllB_sound (n : Nat) : ∀ gs : List G, refsBelowAllB n gs = true →
    AllList (fun x => ∀ k, x = .ref k → k < n) gs
  | [], _ => trivial
  | g :: gs, h => by
    simp only [refsBelowAllB, Bool.and_eq_true] at h
    exact ⟨refsBelowB_sound n g h.1, refsBelowAllB_sound n gs h.2⟩
end

theorem closedB_sound (cfg : Cfg) (root : G) (h : closedB cfg.env root = true) : Closed cfg root := by
  simp only [closedB, Bool.and_eq_true] at h
  exact ⟨refsBelowB_sound _ root h.1, fun g hg => AllList_mem (refsBelowAllB_sound _ cfg.env h.2) g hg⟩

theorem modeOf_code (m : Text.WsMode) : modeOf (modeCode m) = m := by
  cases m <;> simp [modeOf, modeCode]

theorem rdWorld_rel (cfg : Cfg) : WorldRel (rdWorld cfg) cfg :=
  ⟨fun p => by simp [rdWorld], fun p => by simp [rdWorld], by simp [rdWorld],
   fun p m => by simp [rdWorld, modeOf_code]⟩

theorem gWorld_rel (cfg : Cfg) (root : G) (fuel : Nat) : WorldRel (gWorld cfg root fuel) cfg := by
  have h := rdWorld_rel cfg
  cases fuel <;> exact ⟨h.remaining, h.isEOF, h.pos0, h.skipWs⟩

@[simp] theorem hdl_isNil (π : List Nat) : (hdl π).isNil = false := rfl

theorem kidsH_notNil (π : List Nat) (n : Nat) : ∀ p ∈ kidsH π n, p.isNil = false := by
  intro p hp
  simp only [kidsH, List.mem_map] at hp
  obtain ⟨i, -, rfl⟩ := hp
  rfl

theorem agreesAll_range (W : World Context) (cfg : Cfg) (fuel : Nat) (π : List Nat) :
    ∀ (gs : List G) (off : Nat),
      (∀ i k, gs[i]? = some k → Agrees W cfg fuel (kidH π (off + i)) k) →
      AgreesAll W cfg fuel ((List.range' off gs.length).map (kidH π)) gs
  | [], off, _ => .nil
  | g :: gs, off, h => by
    simp only [List.length_cons, List.range'_succ, List.map_cons]
    refine .cons (by simpa using h 0 g rfl) (agreesAll_range W cfg fuel π gs (off + 1) fun i k hk => ?_)
    have := h (i + 1) k (by simpa using hk)
    rwa [show off + (i + 1) = off + 1 + i by omega] at this

theorem agreesAll_kids (W : World Context) (cfg : Cfg) (fuel : Nat) (π : List Nat) (gs : List G)
    (h : ∀ i k, gs[i]? = some k → Agrees W cfg fuel (kidH π i) k) : AgreesAll W cfg fuel (kidsH π gs.length) gs :=
  agreesAll_range W cfg fuel π gs 0 (fun i k hk => by simpa using h i k hk)

theorem tie_Terminal (cfg : Cfg) (h0 : cfg.maxCalls = 0) (fuel : Nat) (t : Terminal) :
    AgreesF (Terminal_parse cfg t) cfg (fuel + 1) (.term t) := by
  intro m c pos s st hm hs
  rw [run_succ0 h0]
  have e : Terminal_parse cfg t m (pos : Int) s = .ok (eOut (termOut cfg t pos)) s := by
    simp [Terminal_parse]
  rw [e]
  simp only [runStep, termStep, termOut]
  cases t.parse cfg.params cfg.file pos with
  | node n => exact ⟨s, rfl, hs⟩
  | err er => exact ⟨s, rfl, hs.logEv cfg _⟩
  | panic site => exact ⟨s, rfl, hs⟩

/-- a parser variable: calling it is calling the rule it holds, with one unit of fuel less -/
theorem tie_Ref (W : World Context) (cfg : Cfg) (h0 : cfg.maxCalls = 0) (fuel : Nat) (k : Nat) (g : G) (p : Parser)
    (hk : cfg.env[k]? = some g) (hp : Agrees W cfg fuel p g) : AgreesF (W.parse p) cfg (fuel + 1) (.ref k) := by
  intro m c pos s st hm hs
  rw [run_succ0 h0]
  simp only [runStep, hk]
  exact hp m c pos s st hm hs

/-- the shape after the setters of `applyOpts` -/
def optShape (sh : SeqShape) (o : SeqOpts) : SeqShape :=
  { sh with
    token := (match o.token with | some t => t | none => sh.token),
    name := (match o.name with | some nm => some nm | none => sh.name),
    single := (if o.single then true else sh.single),
    interp := o.interp }

theorem applyOpts_static (W : World Context) (cfg : Cfg) (fuel : Nat) (sh : SeqShape) (S : Sequence) (o : SeqOpts)
    (h : SeqStatic W cfg fuel sh S) (s : Context) :
    ∃ S', applyOpts W o S s = .ok S' s ∧ SeqStatic W cfg fuel (optShape sh o) S' := by
  obtain ⟨S1, e1, h1⟩ : ∃ S1, optToken W o S s = .ok S1 s ∧
      SeqStatic W cfg fuel { sh with token := (match o.token with | some t => t | none => sh.token) } S1 := by
    unfold optToken
    cases o.token with
    | none => exact ⟨S, rfl, h⟩
    | some t =>
      obtain ⟨-, ht, -, -⟩ := tie_setters W cfg fuel sh S h s
      obtain ⟨S1, e, hs⟩ := ht t
      exact ⟨S1, by simp [e], hs⟩
  obtain ⟨S2, e2, h2⟩ : ∃ S2, optName W o S1 s = .ok S2 s ∧
      SeqStatic W cfg fuel { sh with token := (match o.token with | some t => t | none => sh.token),
                                     name := (match o.name with | some nm => some nm | none => sh.name) } S2 := by
    unfold optName
    cases o.name with
    | none => exact ⟨S1, rfl, h1⟩
    | some nm =>
      obtain ⟨hn, -, -, -⟩ := tie_setters W cfg fuel _ S1 h1 s
      obtain ⟨S2, e, hs⟩ := hn nm
      exact ⟨S2, by simp [e], hs⟩
  obtain ⟨S3, e3, h3⟩ : ∃ S3, optSingle W o S2 s = .ok S3 s ∧
      SeqStatic W cfg fuel { sh with token := (match o.token with | some t => t | none => sh.token),
                                     name := (match o.name with | some nm => some nm | none => sh.name),
                                     single := (if o.single then true else sh.single) } S3 := by
    unfold optSingle
    cases o.single with
    | false => exact ⟨S2, rfl, h2⟩
    | true =>
      obtain ⟨-, -, -, S3, e, hs⟩ := tie_setters W cfg fuel _ S2 h2 s
      exact ⟨S3, by simp [ReturnSingle, e], hs⟩
  obtain ⟨-, -, hb, -⟩ := tie_setters W cfg fuel _ S3 h3 s
  obtain ⟨S4, e4, h4⟩ := hb o.interp
  refine ⟨S4, ?_, h4⟩
  simp only [applyOpts, bind_apply, e1, e2, e3, e4, pure_apply]

/-- a parser of the Sequence family: the constructor's tie (`tie_SeqOf`, `tie_newMany`, `tie_newSepBy`, about the term
    `g0` without options) gives a shape for every state; it does not depend on the state, being `g0.shape` -/
theorem tie_seqNode (W : World Context) (cfg : Cfg) (h0 : cfg.maxCalls = 0) (fuel : Nat) (g g0 : G)
    (ctor : CM (Option Sequence)) (o : SeqOpts)
    (hctor : ∀ s, ∃ S sh0, ctor s = .ok (some S) s ∧ g0.shape = some sh0 ∧ SeqStatic W cfg fuel sh0 S)
    (hg : ∀ sh0, g0.shape = some sh0 → g.shape = some (optShape sh0 o)) :
    AgreesF (seqNode W fuel ctor o) cfg (fuel + 1) g := by
  intro m c pos s st hm hs
  obtain ⟨S, sh0, e1, hsh, h1⟩ := hctor s
  obtain ⟨S', e2, h2⟩ := applyOpts_static W cfg fuel sh0 S o h1 s
  have e : seqNode W fuel ctor o m (pos : Int) s = Sequence_Parse W (2 * fuel - 1) S' m (pos : Int) s := by
    simp only [seqNode, bind_apply, e1, deref_some, e2]
  rw [e]
  exact tie_Sequence_Parse W cfg h0 fuel g _ (hg sh0 hsh) S' h2 m c pos s st hm hs

/-- the setters of `applyOpts` on a shape built without options give the shape built with them -/
theorem optShape_default (lk : Nat → Option G) (lc : Nat → Bool) (tok : Text.Bytes) (o : SeqOpts) :
    optShape { lookup := lk, lenCheck := lc, token := tok, interp := .none, single := false, name := none } o =
      { lookup := lk, lenCheck := lc, token := o.token.getD tok, interp := o.interp, single := o.single, name := o.name } := by
  obtain ⟨i, nm, sg, tk⟩ := o
  cases nm <;> cases sg <;> cases tk <;> rfl

theorem shape_seq (k : SeqKind) (gs : List G) (o : SeqOpts) (sh0 : SeqShape) (h : (G.seq k gs {}).shape = some sh0) :
    (G.seq k gs o).shape = some (optShape sh0 o) := by
  cases h; exact congrArg some (optShape_default _ _ _ o).symm

theorem shape_many (g : G) (ae : Bool) (o : SeqOpts) (sh0 : SeqShape) (h : (G.many g ae {}).shape = some sh0) :
    (G.many g ae o).shape = some (optShape sh0 o) := by
  cases h; exact congrArg some (optShape_default _ _ _ o).symm

theorem shape_sepBy (v sp : G) (ae : Bool) (o : SeqOpts) (sh0 : SeqShape) (h : (G.sepBy v sp ae {}).shape = some sh0) :
    (G.sepBy v sp ae o).shape = some (optShape sh0 o) := by
  cases h; exact congrArg some (optShape_default _ _ _ o).symm

theorem many_eq (W : World Context) (p : Parser) (ae : Bool) (s : Context) :
    (if ae then Many W p else Many1 W p) s = newMany W p ae s := by
  cases ae <;> simp [Many, Many1]

theorem sepBy_eq (W : World Context) (pv ps : Parser) (ae : Bool) (s : Context) :
    (if ae then SepBy W pv ps else SepBy1 W pv ps) s = newSepBy W pv ps ae s := by
  cases ae <;> simp [SepBy, SepBy1]

/-- the induction step of `gWorld_agrees`, in any world whose reader is the model's file -/
theorem node_agrees (W : World Context) (cfg : Cfg) (h0 : cfg.maxCalls = 0) (hw : WorldRel W cfg) (fuel : Nat)
    (π : List Nat) (g : G)
    (hkids : ∀ i k, (kids g)[i]? = some k → Agrees W cfg fuel (kidH π i) k)
    (href : ∀ k, g = .ref k → ∃ g', cfg.env[k]? = some g' ∧ Agrees W cfg fuel (refH k) g') :
    AgreesF (node cfg W fuel π g) cfg (fuel + 1) g := by
  cases g with
  | term t => exact tie_Terminal cfg h0 fuel t
  | empty => exact tie_Empty W cfg h0 fuel
  | eof => exact tie_End W cfg h0 hw fuel
  | ref k =>
    obtain ⟨g', hk, hp⟩ := href k rfl
    exact tie_Ref W cfg h0 fuel k g' (refH k) hk hp
  | memo idx b => exact tie_Memoize W cfg h0 hw fuel _ b idx (hkids 0 b rfl)
  | any gs => exact tie_Any W cfg h0 fuel _ gs (agreesAll_kids W cfg fuel π gs hkids)
  | choice gs => exact tie_Choice W cfg h0 fuel _ gs (agreesAll_kids W cfg fuel π gs hkids)
  | seq k gs o =>
    have hall := agreesAll_kids W cfg fuel π gs hkids
    have hnn := kidsH_notNil π gs.length
    cases k with
    | seqOf =>
      exact tie_seqNode W cfg h0 fuel _ (.seq .seqOf gs {}) _ o (fun s => (tie_SeqOf W cfg fuel _ gs hall hnn s).1) (shape_seq _ gs o)
    | seqTry =>
      exact tie_seqNode W cfg h0 fuel _ (.seq .seqTry gs {}) _ o (fun s => (tie_SeqOf W cfg fuel _ gs hall hnn s).2.1) (shape_seq _ gs o)
    | seqFirstOrAll =>
      exact tie_seqNode W cfg h0 fuel _ (.seq .seqFirstOrAll gs {}) _ o (fun s => (tie_SeqOf W cfg fuel _ gs hall hnn s).2.2)
        (shape_seq _ gs o)
  | many b ae o =>
    exact tie_seqNode W cfg h0 fuel _ (.many b ae {}) _ o
      (fun s => by rw [many_eq]; exact tie_newMany W cfg fuel _ b ae (hkids 0 b rfl) (hdl_isNil _) s) (shape_many b ae o)
  | sepBy v sp ae o =>
    exact tie_seqNode W cfg h0 fuel _ (.sepBy v sp ae {}) _ o
      (fun s => by
        rw [sepBy_eq]
        exact tie_newSepBy W cfg fuel _ _ v sp ae (hkids 0 v rfl) (hkids 1 sp rfl) (hdl_isNil _) (hdl_isNil _) s)
      (shape_sepBy v sp ae o)
  | optional b => exact tie_Optional W cfg h0 fuel _ b (hkids 0 b rfl)
  | name b nm => exact tie_ReturnError W cfg h0 fuel _ b nm (hkids 0 b rfl)
  | ltrim b mode => exact tie_LeftTrim W cfg h0 hw fuel _ b mode (hkids 0 b rfl)
  | rtrim b mode => exact tie_RightTrim W cfg h0 hw fuel _ b mode (hkids 0 b rfl)
  | single b => exact tie_Single W cfg h0 fuel _ b (hkids 0 b rfl)
  | suppress b => exact tie_SuppressError W cfg h0 fuel _ b (hkids 0 b rfl)

theorem gWorld_parse_succ (cfg : Cfg) (root : G) (fuel : Nat) (π : List Nat) (g : G)
    (h : resolve (table cfg root) π = some g) :
    (gWorld cfg root (fuel + 1)).parse (hdl π) = node cfg (gWorld cfg root fuel) fuel π g := by
  funext m pos
  show dispatch cfg root (gWorld cfg root fuel) fuel (hdl π) m pos = _
  simp only [dispatch, hdl, Encodable.encodek, h]

theorem gWorld_parse_zero (cfg : Cfg) (root : G) (p : Parser) (m : IntMap) (pos : Int) (s : Context) :
    (gWorld cfg root 0).parse p m pos s = .nofuel := rfl

/-- the closed-world induction, for any family of worlds `Wf` that is out of fuel at 0 and at fuel+1 runs, on the handle of a
    path that leads to `g`, a function `nd fuel π g` which agrees with `run cfg (fuel+1)` on `g` whenever `Wf fuel` agrees
    with `run cfg fuel` on the operands of `g` -/
theorem closedWorld_agrees (cfg : Cfg) (root : G) (hc : Closed cfg root) (Wf : Nat → World Context)
    {nd : Nat → List Nat → G → IntMap → Int → CM (CNode × IntSet × CErr)}
    (h0 : ∀ p m pos s, (Wf 0).parse p m pos s = .nofuel)
    (hsucc : ∀ fuel π g, resolve (table cfg root) π = some g → (Wf (fuel + 1)).parse (hdl π) = nd fuel π g)
    (hstep : ∀ fuel π g, (∀ i k, (kids g)[i]? = some k → Agrees (Wf fuel) cfg fuel (kidH π i) k) →
      (∀ k, g = .ref k → ∃ g', cfg.env[k]? = some g' ∧ Agrees (Wf fuel) cfg fuel (refH k) g') →
      AgreesF (nd fuel π g) cfg (fuel + 1) g) :
    ∀ (fuel : Nat) (π : List Nat) (g : G), resolve (table cfg root) π = some g →
      Agrees (Wf fuel) cfg fuel (hdl π) g := by
  intro fuel
  induction fuel with
  | zero =>
    intro π g _ m c pos s st _ _
    exact h0 _ _ _ _
  | succ fuel ih =>
    intro π g hπ
    rw [agrees_iff, hsucc fuel π g hπ]
    refine hstep fuel π g (fun i k hk => ih (π ++ [i]) k (resolve_snoc _ π g k i hπ hk)) (fun k hk => ?_)
    subst hk
    have hlt : k < cfg.env.length := G.All_self (resolve_refsBelow cfg root hc π _ hπ) k rfl
    exact ⟨cfg.env[k], List.getElem?_eq_getElem hlt, ih [k + 1] _ (resolve_ref cfg root k _ (List.getElem?_eq_getElem hlt))⟩

/-- the closed-world theorem, path form -/
theorem gWorld_agrees (cfg : Cfg) (h0 : cfg.maxCalls = 0) (root : G) (hc : Closed cfg root) :
    ∀ (fuel : Nat) (π : List Nat) (g : G), resolve (table cfg root) π = some g →
      Agrees (gWorld cfg root fuel) cfg fuel (hdl π) g :=
  closedWorld_agrees cfg root hc (gWorld cfg root) (gWorld_parse_zero cfg root) (gWorld_parse_succ cfg root)
    (fun fuel => node_agrees (gWorld cfg root fuel) cfg h0 (gWorld_rel cfg root fuel) fuel)

theorem gWorld_root (cfg : Cfg) (h0 : cfg.maxCalls = 0) (root : G) (hc : Closed cfg root) (fuel : Nat) :
    Agrees (gWorld cfg root fuel) cfg fuel rootH root :=
  gWorld_agrees cfg h0 root hc fuel [0] root (resolve_root cfg root)

end PV.CW
