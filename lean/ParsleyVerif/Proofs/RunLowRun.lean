/-
  The coverage invariant (Proofs/RunLow.lean) for `run`, with coverage by curtailments: the fourth way of being
  covered is "at or before a position at which a memoized parser was curtailed" (`GeC`, permanent once logged).
-/
import ParsleyVerif.Proofs.RunLow
namespace PV
open PV.Text

def GeC (x : Nat) (log : List Ev) : Prop := ∃ i q, Ev.curtail i q ∈ log ∧ x ≤ q

def Cov (x : Nat) (err : Option Err) (res : Res) (st : St) : Prop :=
  GeE x err ∨ GeR x res ∨ GeE x st.ctxErr ∨ GeC x st.log

theorem GeC_le {x y : Nat} {log : List Ev} (h : x ≤ y) : GeC y log → GeC x log :=
  fun ⟨i, q, hq, hy⟩ => ⟨i, q, hq, Nat.le_trans h hy⟩

theorem GeC_mono {x : Nat} {log log' : List Ev} (h : log <:+ log') : GeC x log → GeC x log' :=
  fun ⟨i, q, hq, hy⟩ => ⟨i, q, h.subset hq, hy⟩

structure StLe (st st' : St) : Prop where
  log : st.log <:+ st'.log
  ctx : ∀ x, GeE x st.ctxErr → GeE x st'.ctxErr

theorem StLe.refl (st : St) : StLe st st := ⟨List.suffix_refl _, fun _ h => h⟩
theorem StLe.trans {a b c : St} (h1 : StLe a b) (h2 : StLe b c) : StLe a c :=
  ⟨h1.log.trans h2.log, fun x h => h2.ctx x (h1.ctx x h)⟩

theorem StLe_setError (st : St) (e : Option Err) : StLe st (st.setError e) :=
  ⟨by rw [(setError_ctxErr st e).2.2.2.1]; exact List.suffix_refl _, fun _ h => GeE_setError_left st e h⟩

theorem StLe_logEv (st : St) (cfg : Cfg) (ev : Ev) : StLe st (st.logEv cfg ev) :=
  ⟨logEv_suffix st cfg ev, fun x h => by rw [(logEv_fields st cfg ev).2.1]; exact h⟩

theorem StLe_regCall (st : St) : StLe st st.regCall := ⟨List.suffix_refl _, fun _ h => h⟩

def SLow (cfg : Cfg) (st : St) : Prop :=
  ∀ c ∈ st.cache, Cov c.pos c.err c.res st ∧ OutOK cfg c.pos c.res c.err

def NewCov (cfg : Cfg) (st st' : St) (err : Option Err) (res : Res) : Prop :=
  ∃ d, st'.log = d ++ st.log ∧ ∀ x k, Ev.termFail x k ∈ d → Cov x err res st' ∧ x ≤ cfg.hi

structure PostLow (cfg : Cfg) (pos : Nat) (st : St) (o : Out) (st' : St) : Prop where
  le : StLe st st'
  newTF : NewCov cfg st st' o.err o.res
  prog : Cov pos o.err o.res st'
  slow : SLow cfg st'
  out : OutOK cfg pos o.res o.err

def RunLowOK (cfg : Cfg) (r : RunFn) : Prop :=
  ∀ g ctx pos st o st', g.Core (TermGood cfg) → g.All (LocLow cfg) → Pre cfg ctx pos st → SLow cfg st →
    r g ctx pos st = some (o, st') → PostLow cfg pos st o st'

/-- `CovAlt`, `AltInv`: `CovSys.CovAlt` and `CovSys.AltJ` written out for `logSys`; the walk uses those -/
def CovAlt (pos x : Nat) (a : AltSt) (s : St) : Prop := Cov x a.err a.res s ∨ (x ≤ pos ∧ a.nf.isSome = true)

structure AltInv (cfg : Cfg) (pos : Nat) (st0 : St) (a : AltSt) (s : St) : Prop where
  le : StLe st0 s
  newTF : ∃ d, s.log = d ++ st0.log ∧ ∀ x k, Ev.termFail x k ∈ d → CovAlt pos x a s ∧ x ≤ cfg.hi
  slow : SLow cfg s
  stOK : StOK cfg s
  active : s.active = st0.active
  altOK : AltOK cfg pos a
  eof : ∀ n ∈ a.res.alts, n.EofOK cfg.hi
  nonempty : a.res.isNil = false → a.res.alts ≠ []

def logSys (cfg : Cfg) : CovSys cfg where
  tail x st := GeC x st.log
  le := StLe
  slow := SLow cfg
  loc := LocLow cfg
  cx _ _ _ := True
  tail_le := GeC_le
  le_refl := StLe.refl
  le_trans := StLe.trans
  le_ctx h := h.ctx
  le_tail h _ := GeC_mono h.log
  le_setError := StLe_setError
  le_logEv st ev := StLe_logEv st cfg ev
  le_regCall := StLe_regCall
  slow_of_eq h hc hle c hcm := by
    obtain ⟨h1 | h1 | h1 | h1, h2⟩ := h c (hc ▸ hcm)
    · exact ⟨.inl h1, h2⟩
    · exact ⟨.inr (.inl h1), h2⟩
    · exact ⟨.inr (.inr (.inl (hle.ctx _ h1))), h2⟩
    · exact ⟨.inr (.inr (.inr (GeC_mono hle.log h1))), h2⟩
  loc_low _ h := h
  cx_next _ _ _ _ := trivial

/-- Memoize: a hit returns what the cache holds, covered when it was stored; a curtailment is logged at the call
    position; what the body covered stays covered, since curtailments stay in the log -/
theorem memoStep_low {cfg : Cfg} (hgh : cfg.ghost = true) {r : RunFn} (hr : (logSys cfg).RunOK r)
    (idx : Nat) (body : G) (ctx : Ctx) (pos : Nat) (st : St) (o : Out) (st' : St)
    (hg : (G.memo idx body).Core (TermGood cfg)) (hgl : (G.memo idx body).All (LocLow cfg)) (hpre : Pre cfg ctx pos st)
    (hsl : SLow cfg st) (h : memoStep cfg r idx body ctx pos st = some (o, st')) :
    (logSys cfg).Post pos st o st' := by
  refine memoStep_elim (motive := fun x => (logSys cfg).Post pos st x.1 x.2) ?_ ?_ ?_ h
  · intro e hc
    obtain ⟨hm, _, hp⟩ := cacheGet_some hc
    have hle := StLe_logEv st cfg (.hit idx pos)
    exact ⟨hle, (logSys cfg).NewCov_logEv st (.hit idx pos) nofun _ _, (logSys cfg).Cov_mono hle (hp ▸ (hsl e hm).1),
      (logSys cfg).slow_of_eq hsl (logEv_fields st cfg _).1 hle, hp ▸ (hsl e hm).2⟩
  · intro _ _
    have hle := StLe_logEv st cfg (.curtail idx pos)
    exact ⟨hle, (logSys cfg).NewCov_logEv st (.curtail idx pos) nofun _ _,
      .inr (.inr (.inr ⟨idx, pos, logEv_ghost_log hgh st _ ▸ List.mem_cons_self .., Nat.le_refl _⟩)),
      (logSys cfg).slow_of_eq hsl (logEv_fields st cfg _).1 hle, OutOK_nil cfg pos _⟩
  · intro o st2 _ hcur hr2
    obtain ⟨f1, f2, _, _, f5⟩ := memoEnter_frame cfg idx pos st
    have hle1 : StLe st (memoEnter cfg idx pos st) :=
      ⟨logEv_suffix { st with active := (idx, pos) :: st.active } cfg _, fun _ hx => f2 ▸ hx⟩
    have hlow := hr body _ pos _ o st2 hg hgl.2 (Pre_memoEnter hpre hcur) trivial
      ((logSys cfg).slow_of_eq hsl f1 hle1) hr2
    have hle2 : StLe st2 (memoLeave idx pos ctx st o st2) := ⟨List.suffix_refl _, fun _ hx => hx⟩
    refine ⟨(hle1.trans hlow.le).trans hle2, ?_, (logSys cfg).Cov_mono hle2 hlow.prog, fun c hcm => ?_, hlow.out⟩
    · exact (logSys cfg).NewCov_frame hlow.newTF (f5.imp id fun h5 => ⟨.body idx pos _, nofun, h5⟩) rfl
        (fun x _ hx => (logSys cfg).Cov_mono hle2 hx)
    · cases mem_cacheSave hcm with
      | inl h1 => subst h1; exact ⟨(logSys cfg).Cov_mono hle2 hlow.prog, hlow.out⟩
      | inr h1 => exact ⟨(logSys cfg).Cov_mono hle2 (hlow.slow c h1).1, (hlow.slow c h1).2⟩

theorem run_low (cfg : Cfg) (hgh : cfg.ghost = true)
    (henv : ∀ g' ∈ cfg.env, g'.Core (TermGood cfg)) (henvL : ∀ g' ∈ cfg.env, g'.All (LocLow cfg)) :
    ∀ fuel, RunLowOK cfg (run cfg fuel) := by
  intro fuel g ctx pos st o st' hg hgl hpre hsl h
  have p := (logSys cfg).run_low hgh henv henvL
    (fun _ hr idx body ctx pos st o st' hg hgl hpre _ hsl h => memoStep_low hgh hr idx body ctx pos st o st' hg hgl hpre hsl h)
    fuel g ctx pos st o st' hg hgl hpre trivial hsl h
  exact ⟨p.le, p.newTF, p.prog, p.slow, p.out⟩

end PV
