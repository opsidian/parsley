/-
  C16, full value theorem — the lexemes of the supported subset are lexemes of the terminals' documented languages:
  the canonical decimal lexeme of an integer is in `Lang.IsInt` (Spec/Lang.lean) and has that integer as its value,
  a decimal lexeme `-? ip . fr exponent?` is in `Lang.IsFloat`, a string literal is one of the String terminal's
  language (`IsStrElem`, `IsStrBody`; Spec/J16AccLang.lean), element by element, with the same code points.  What
  the terminals do on lexemes of those languages is Proofs/J16AccNum.lean and Proofs/J16AccStr.lean.
-/
import ParsleyVerif.Props.C08
import ParsleyVerif.Spec.JsonRender
import ParsleyVerif.Spec.J16AccLang
namespace PV.J16
open PV PV.Text

theorem wsNl_nil : WsNl [] := by intro b hb; cases hb
theorem wsSp_nil : WsSp [] := by intro b hb; cases hb

theorem tok_int : tokOf "INTEGER" = intTok := by decide +kernel
theorem tok_float : tokOf "FLOAT" = floatTok := by decide +kernel
theorem tok_str : tokOf "STRING" = strTok := by decide +kernel
theorem tok_bool : tokOf "BOOL" = boolTok := by decide +kernel
theorem tok_nil : tokOf "NIL" = nilTok := by decide +kernel

theorem isDigit_of {b : Nat} (h : 48 ≤ b ∧ b ≤ 57) : isDigit b = true := by
  unfold isDigit; simp; omega

theorem digit_of {b : Nat} (h : 48 ≤ b ∧ b ≤ 57) : Lang.digit b = true := by
  simp only [Lang.digit, Bool.and_eq_true, decide_eq_true_eq]; exact h

theorem star_digits {l : Bytes} (h : AllDigits l) : Lang.star Lang.digit l = true :=
  (star_iff _ _).2 fun b hb => digit_of (h b hb)

theorem plus1_digits {l : Bytes} (h : AllDigits l) (hne : l ≠ []) : Lang.plus1 Lang.digit l = true :=
  (plus1_iff _ _).2 ⟨hne, fun b hb => digit_of (h b hb)⟩

theorem natOfDigits_snoc (l : Bytes) (x : Nat) : natOfDigits 10 (l ++ [x]) = natOfDigits 10 l * 10 + digitVal x := by
  unfold natOfDigits
  rw [List.foldl_append]
  rfl

theorem digitVal_digit (d : Nat) (h : d < 10) : digitVal (48 + d) = d := by
  unfold digitVal
  rw [if_pos (isDigit_of (by omega))]
  omega

/-- the digit string of `n`: digits only, no superfluous leading zero, value `n` -/
structure DigitsOf (n : Nat) (ds : Bytes) : Prop where
  all : AllDigits ds
  zero : n = 0 → ds = [48]
  pos : 0 < n → ∃ d r, ds = d :: r ∧ 49 ≤ d
  val : natOfDigits 10 ds = n

theorem natDigitsAux_spec : ∀ (fuel n : Nat) (acc : Bytes), n < fuel →
    ∃ ds, natDigitsAux fuel n acc = ds ++ acc ∧ DigitsOf n ds := by
  intro fuel
  induction fuel with
  | zero => intro n acc h; omega
  | succ fuel ih =>
    intro n acc h
    unfold natDigitsAux
    by_cases hn : n < 10
    · rw [if_pos hn]
      refine ⟨[48 + n], rfl, ?_, ?_, ?_, ?_⟩
      · intro b hb; simp only [List.mem_singleton] at hb; omega
      · intro h0; subst h0; rfl
      · intro hp; exact ⟨48 + n, [], rfl, by omega⟩
      · show (0 * 10 + digitVal (48 + n)) = n
        rw [digitVal_digit n hn]; omega
    · rw [if_neg hn]
      obtain ⟨ds, hds, hD⟩ := ih (n / 10) ((48 + n % 10) :: acc) (by omega)
      refine ⟨ds ++ [48 + n % 10], by rw [hds]; simp, ?_, ?_, ?_, ?_⟩
      · intro b hb
        rcases List.mem_append.mp hb with hb | hb
        · exact hD.all b hb
        · simp only [List.mem_singleton] at hb; omega
      · intro h0; omega
      · intro _
        obtain ⟨d, r, hdr, hd⟩ := hD.pos (by omega)
        exact ⟨d, r ++ [48 + n % 10], by rw [hdr]; rfl, hd⟩
      · rw [natOfDigits_snoc, hD.val, digitVal_digit _ (by omega)]; omega

theorem natDigits_spec (n : Nat) : DigitsOf n (natDigits n) := by
  obtain ⟨ds, hds, hD⟩ := natDigitsAux_spec (n + 1) n [] (by omega)
  unfold natDigits
  rw [hds, List.append_nil]; exact hD

theorem digitsOf_cons {n : Nat} {ds : Bytes} (h : DigitsOf n ds) :
    ∃ d r, ds = d :: r ∧ AllDigits r ∧ ((n = 0 ∧ d = 48 ∧ r = []) ∨ (49 ≤ d ∧ d ≤ 57)) := by
  by_cases hn : n = 0
  · have := h.zero hn
    exact ⟨48, [], this, (by intro b hb; cases hb), .inl ⟨hn, rfl, rfl⟩⟩
  · obtain ⟨d, r, hdr, hd⟩ := h.pos (by omega)
    have hall := h.all
    rw [hdr] at hall
    exact ⟨d, r, hdr, fun b hb => hall b (by simp [hb]), .inr ⟨hd, (hall d (by simp)).2⟩⟩

theorem natDigits_head_not_sign (n : Nat) : ∃ d r, natDigits n = d :: r ∧ d ≠ 45 ∧ d ≠ 43 ∧ 48 ≤ d ∧ d ≤ 57 := by
  obtain ⟨d, r, hdr, _, hcase⟩ := digitsOf_cons (natDigits_spec n)
  refine ⟨d, r, hdr, ?_⟩
  rcases hcase with ⟨_, hd, _⟩ | ⟨h1, h2⟩ <;> omega

theorem isIntBody_natDigits (n : Nat) : Lang.isIntBody (natDigits n) = true := by
  obtain ⟨d, r, hdr, hall, hcase⟩ := digitsOf_cons (natDigits_spec n)
  rw [hdr]
  rcases hcase with ⟨_, rfl, rfl⟩ | ⟨h1, h2⟩
  · rfl
  · have : Lang.decimalLit (d :: r) = true := by
      simp only [Lang.decimalLit, Lang.nzDigit, Bool.and_eq_true, decide_eq_true_eq]
      exact ⟨⟨h1, h2⟩, star_digits hall⟩
    simp only [Lang.isIntBody, this, Bool.true_or]

theorem isInt_renderInt (i : Int) : Lang.IsInt (renderInt i) := by
  unfold renderInt
  split
  · exact (optSign_iff _ _).2 (.inr ⟨45, _, rfl, rfl, isIntBody_natDigits _⟩)
  · exact (optSign_iff _ _).2 (.inl (isIntBody_natDigits _))

theorem magnitude_natDigits (n : Nat) : Lang.magnitude (natDigits n) = n := by
  have hD := natDigits_spec n
  obtain ⟨d, r, hdr, hall, hcase⟩ := digitsOf_cons hD
  rcases hcase with ⟨hn, hd, hr⟩ | ⟨h1, h2⟩
  · subst hd; subst hr; rw [hdr, hn]; rfl
  · have hval := hD.val
    rw [natOfDigits_eq] at hval
    unfold Lang.magnitude
    rw [hdr] at hval ⊢
    have hhex : Lang.hexLit (d :: r) = false := by
      unfold Lang.hexLit
      split
      · rename_i heq; injection heq with h _; omega
      · rfl
    have hoct : Lang.octalLit (d :: r) = false := by
      unfold Lang.octalLit
      split
      · rename_i heq; injection heq with h _; omega
      · rfl
    simp only [hhex, hoct, Bool.false_eq_true, if_false]
    exact hval

theorem intValue_renderInt (i : Int) : Lang.intValue (renderInt i) = i := by
  unfold renderInt
  by_cases hi : i < 0
  · rw [if_pos hi]
    show -(Lang.magnitude (natDigits i.natAbs) : Int) = i
    rw [magnitude_natDigits]; omega
  · rw [if_neg hi]
    obtain ⟨d, r, hdr, h1, h2, _⟩ := natDigits_head_not_sign i.natAbs
    have : Lang.intValue (natDigits i.natAbs) = (Lang.magnitude (natDigits i.natAbs) : Int) := by
      rw [hdr]
      unfold Lang.intValue
      split
      · rename_i heq; injection heq with h _; exact absurd h h1
      · rename_i heq; injection heq with h _; exact absurd h h2
      · rfl
    rw [this, magnitude_natDigits]; omega

theorem opt_isExponent_renderEx (ex : Option (Nat × Option Nat × Bytes))
    (hex : match ex with
      | none => True
      | some (e, s, ds) => (e = 101 ∨ e = 69) ∧ (s = none ∨ s = some 43 ∨ s = some 45) ∧ ds ≠ [] ∧ AllDigits ds) :
    Lang.opt Lang.isExponent (DecLex.renderEx ex) = true := by
  match ex, hex with
  | none, _ => rfl
  | some (e, none, ds), ⟨he, _, hne, hall⟩ =>
    refine (opt_iff _ _).2 (.inr ?_)
    simp only [DecLex.renderEx, Lang.isExponent, Bool.and_eq_true, Bool.or_eq_true, decide_eq_true_eq]
    exact ⟨he, (optSign_iff _ _).2 (.inl (plus1_digits hall hne))⟩
  | some (e, some s, ds), ⟨he, hs, hne, hall⟩ =>
    have hsign : Lang.sign s = true := (sign_iff s).2 (by
      rcases hs with h | h | h
      · cases h
      · exact .inr (Option.some.inj h)
      · exact .inl (Option.some.inj h))
    refine (opt_iff _ _).2 (.inr ?_)
    simp only [DecLex.renderEx, Lang.isExponent, Bool.and_eq_true, Bool.or_eq_true, decide_eq_true_eq]
    exact ⟨he, (optSign_iff _ _).2 (.inr ⟨s, ds, rfl, hsign, plus1_digits hall hne⟩)⟩

theorem isFloat_render (d : DecLex) (hd : d.OK) : Lang.IsFloat d.render := by
  obtain ⟨hip, _, _, hfr, hfr0, hex⟩ := hd
  have hfrac : Lang.isFraction (46 :: (d.fr ++ DecLex.renderEx d.ex)) = true :=
    (cat_iff _ _ _).2 ⟨d.fr, _, rfl, plus1_digits hfr hfr0, opt_isExponent_renderEx d.ex hex⟩
  have hbody : Lang.isFloatBody (d.ip ++ 46 :: (d.fr ++ DecLex.renderEx d.ex)) = true :=
    (cat_iff _ _ _).2 ⟨d.ip, _, rfl, star_digits hip, hfrac⟩
  unfold DecLex.render
  cases d.neg with
  | true => exact (optSign_iff _ _).2 (.inr ⟨45, _, rfl, rfl, hbody⟩)
  | false => exact (optSign_iff _ _).2 (.inl hbody)

theorem dec_head (d : DecLex) (hd : d.OK) : ∃ c r, d.render = c :: r ∧ (c = 45 ∨ (48 ≤ c ∧ c ≤ 57)) := by
  obtain ⟨hip, hip0, _⟩ := hd
  unfold DecLex.render
  cases d.neg with
  | true => exact ⟨45, _, rfl, .inl rfl⟩
  | false =>
    cases h : d.ip with
    | nil => exact absurd h hip0
    | cons c r => exact ⟨c, _, rfl, .inr (hip c (by rw [h]; simp))⟩

theorem int_head (i : Int) : ∃ c r, renderInt i = c :: r ∧ (c = 45 ∨ (48 ≤ c ∧ c ≤ 57)) := by
  unfold renderInt
  by_cases hi : i < 0
  · rw [if_pos hi]; exact ⟨45, _, rfl, .inl rfl⟩
  · rw [if_neg hi]
    obtain ⟨d, r, hdr, _, _, h1, h2⟩ := natDigits_head_not_sign i.natAbs
    exact ⟨d, r, hdr, .inr ⟨h1, h2⟩⟩

theorem wordAt_head_ne (w l : Bytes) (a b : Nat) (w' l' : Bytes) (hw : w = a :: w') (hl : l = b :: l') (hne : a ≠ b) :
    wordAt w l = false := by
  apply Bool.eq_false_iff.mpr
  intro h
  have hp := ((wordAt_iff w l).mp h).1
  rw [hw, hl] at hp
  obtain ⟨t, ht⟩ := hp
  injection ht with h1 _
  exact hne h1

theorem wordAt_not_cons (w : Bytes) (a : Nat) (w' : Bytes) (hw : w = a :: w') : wordAt w [] = false := by
  apply Bool.eq_false_iff.mpr
  intro h
  have hp := ((wordAt_iff w []).mp h).1
  rw [hw] at hp
  obtain ⟨t, ht⟩ := hp
  cases ht

end PV.J16

namespace PV.J16
open PV PV.Text

theorem digitValue_le (b : Nat) : Lang.digitValue b ≤ 15 := by
  unfold Lang.digitValue
  split
  · omega
  · split
    · omega
    · split <;> omega

theorem digitsValue4 (a b c d : Nat) :
    Lang.digitsValue 16 [a, b, c, d] =
      Lang.digitValue a * 4096 + (Lang.digitValue b * 256 + (Lang.digitValue c * 16 + Lang.digitValue d)) := by
  simp [Lang.digitsValue]

theorem elem_isStrElem (e : SElem) (he : e.OK) : IsStrElem e.render e.code := by
  cases e with
  | plain b =>
    obtain ⟨_, h2, h3, h4⟩ := he
    exact .plain h2 (by omega) (by omega) h3 h4
  | esc x =>
    rcases he with rfl | rfl | rfl | rfl | rfl | rfl | rfl
    · exact .quote
    all_goals exact .simple (by decide)
  | uni a b c d =>
    obtain ⟨ha, hb, hc, hd, hs⟩ := he
    -- four hexadecimal digits stay below U+10FFFF
    have hval : Utf8.validRune (Lang.digitsValue 16 [a, b, c, d]) = true := by
      have := digitValue_le a; have := digitValue_le b; have := digitValue_le c; have := digitValue_le d
      have hle : Lang.digitsValue 16 [a, b, c, d] ≤ Utf8.maxRune := by
        rw [digitsValue4]; unfold Utf8.maxRune; omega
      unfold Utf8.validRune
      rw [hs]
      simp [hle]
    exact .hex (x := 117) (n := 4) (ds := [a, b, c, d]) (.inr (.inl ⟨rfl, rfl⟩)) rfl (by simp [ha, hb, hc, hd]) (.inr hval)
  | utf8 c => exact .utf8 he.1 he.2

theorem isStrBody_render : ∀ (s : List SElem), StrOK s → IsStrBody (renderElems s) (decodeStr s)
  | [], _ => .nil
  | e :: r, hs => .cons (elem_isStrElem e (hs e (by simp))) (isStrBody_render r fun x hx => hs x (by simp [hx]))

end PV.J16
