/-
  Lemmas for property C11 (global positions ↔ file, line, column).

  Nothing here looks at the values of the generated constants `Facts.fileSetFirstPos` and `Facts.fileSetGap`;
  what the theorems of Props/C11.lean need of them is four inequalities, each decided there once.
-/
import ParsleyVerif.Spec.LineCol
import ParsleyVerif.Proofs.Search
namespace PV.Text

theorem pairwise_le_getElem (l : List Nat) (hl : l.Pairwise (· ≤ ·)) (j k : Nat) (hk : k < l.length) (hjk : j ≤ k) :
    l[j]'(Nat.lt_of_le_of_lt hjk hk) ≤ l[k] := by
  rcases Nat.lt_or_eq_of_le hjk with h | rfl
  · exact List.pairwise_iff_getElem.mp hl j k _ hk h
  · exact Nat.le_refl _

/-- the search both Position functions run, on a sorted table: when entry `i` is `≤ q` and the next entry, if there
    is one, is `> q`, it returns `i + 1` -/
theorem goSearch_sorted (l : List Nat) (hl : l.Pairwise (· ≤ ·)) (q i a : Nat) (ha : l[i]? = some a) (h1 : a ≤ q)
    (h2 : ∀ b, l[i + 1]? = some b → q < b) :
    goSearch l.length (fun k => decide (l.getD k 0 > q)) = i + 1 := by
  obtain ⟨hi, rfl⟩ := List.getElem?_eq_some_iff.mp ha
  have get : ∀ k (hk : k < l.length), l.getD k 0 = l[k] := fun k hk => (List.getElem_eq_getD 0).symm
  apply goSearch_unique _ _ _ _ hi
  · intro k hk
    rw [get k (Nat.lt_of_lt_of_le hk hi)]
    exact decide_eq_false (Nat.not_lt.mpr (Nat.le_trans (pairwise_le_getElem l hl k i hi (Nat.le_of_lt_succ hk)) h1))
  · intro hn
    rw [get _ hn]
    exact decide_eq_true (h2 _ (List.getElem?_eq_getElem hn))
  · intro j k hjk hk hj
    rw [get j (Nat.lt_of_le_of_lt hjk hk)] at hj
    rw [get k hk]
    exact decide_eq_true (Nat.lt_of_lt_of_le (of_decide_eq_true hj) (pairwise_le_getElem l hl j k hk hjk))

theorem linesFrom_append (a b : Bytes) (off : Nat) :
    linesFrom (a ++ b) off = linesFrom a off ++ linesFrom b (off + a.length) := by
  induction a generalizing off with
  | nil => rfl
  | cons x a ih =>
    simp only [List.cons_append, linesFrom, ih, List.length_cons, Nat.add_assoc, Nat.add_comm 1]
    split <;> rfl

theorem linesFrom_snoc (d : Bytes) (b off : Nat) :
    linesFrom (d ++ [b]) off = linesFrom d off ++ (if b = 10 then [off + d.length + 1] else []) :=
  linesFrom_append d [b] off

theorem mem_linesFrom (d : Bytes) (off x : Nat) :
    x ∈ linesFrom d off ↔ ∃ k, x = off + k + 1 ∧ d[k]? = some 10 := by
  induction d generalizing off with
  | nil => exact ⟨nofun, fun ⟨_, _, h⟩ => nomatch h⟩
  | cons b d ih =>
    -- an entry of the tail's table, seen from the whole list
    have tl : x ∈ linesFrom d (off + 1) ↔ ∃ k, x = off + (k + 1) + 1 ∧ (b :: d)[k + 1]? = some 10 := by
      rw [ih]
      exact exists_congr fun k => by rw [Nat.add_right_comm off 1 k]; rfl
    unfold linesFrom
    constructor
    · intro h
      split at h
      · rename_i hb
        rcases List.mem_cons.mp h with h | h
        · exact ⟨0, h, congrArg some hb⟩
        · obtain ⟨k, hk⟩ := tl.mp h; exact ⟨k + 1, hk⟩
      · obtain ⟨k, hk⟩ := tl.mp h; exact ⟨k + 1, hk⟩
    · rintro ⟨k, h1, h2⟩
      cases k with
      | zero => rw [if_pos (Option.some.inj h2), h1]; exact List.mem_cons_self
      | succ k =>
        have := tl.mpr ⟨k, h1, h2⟩
        split
        · exact List.mem_cons_of_mem _ this
        · exact this

theorem linesFrom_bounds (d : Bytes) (off x : Nat) (h : x ∈ linesFrom d off) : off < x ∧ x ≤ off + d.length := by
  obtain ⟨k, rfl, hk⟩ := (mem_linesFrom d off x).mp h
  have := (List.getElem?_eq_some_iff.mp hk).1
  omega

theorem linesFrom_length (d : Bytes) (off : Nat) : (linesFrom d off).length = d.count 10 := by
  induction d generalizing off with
  | nil => rfl
  | cons b d ih =>
    rw [linesFrom, List.count_cons, ← ih (off + 1)]
    by_cases hb : b = 10
    · rw [if_pos hb, if_pos (beq_iff_eq.mpr hb)]; rfl
    · rw [if_neg hb, if_neg (mt beq_iff_eq.mp hb)]; rfl

theorem linesFrom_pairwise (d : Bytes) (off : Nat) : (linesFrom d off).Pairwise (· < ·) := by
  induction d generalizing off with
  | nil => exact List.Pairwise.nil
  | cons b d ih =>
    unfold linesFrom
    split
    · exact List.pairwise_cons.mpr ⟨fun y hy => (linesFrom_bounds d (off + 1) y hy).1, ih _⟩
    · exact ih _

theorem File.lines_pairwise (f : File) : f.lines.Pairwise (· < ·) :=
  List.pairwise_cons.mpr ⟨fun y hy => Nat.zero_lt_of_lt (linesFrom_bounds _ _ y hy).1, linesFrom_pairwise _ _⟩

theorem File.mem_lines (f : File) (x : Nat) :
    x ∈ f.lines ↔ x = 0 ∨ ∃ k, x = k + 1 ∧ f.data[k]? = some 10 := by
  unfold File.lines
  rw [List.mem_cons, mem_linesFrom]
  simp only [Nat.zero_add]

theorem File.lines_length (f : File) : f.lines.length = 1 + f.data.count 10 := by
  unfold File.lines
  rw [List.length_cons, linesFrom_length, Nat.add_comm]

theorem linesFrom_take_getLast (data : Bytes) (off : Nat) (h : off ≤ data.length) :
    (0 :: linesFrom (data.take off) 0).getLast? = some (lineStart data off) := by
  induction off with
  | zero => rfl
  | succ off ih =>
    rw [take_succ_of_lt data off h, linesFrom_snoc, lineStart_succ data off h, List.length_take_of_le (Nat.le_of_lt h)]
    by_cases hb : data[off] = 10
    · rw [if_pos hb, if_pos hb, ← List.cons_append, List.getLast?_concat, Nat.zero_add]
    · rw [if_neg hb, if_neg hb, List.append_nil]; exact ih (Nat.le_of_lt h)

theorem File.lines_split (f : File) (pos : Nat) (h : pos ≤ f.len) :
    f.lines = (0 :: linesFrom (f.data.take pos) 0) ++ linesFrom (f.data.drop pos) pos := by
  have := linesFrom_append (f.data.take pos) (f.data.drop pos) 0
  rw [List.take_append_drop, List.length_take_of_le h, Nat.zero_add] at this
  exact congrArg (0 :: ·) this

theorem File.position_eq (f : File) (pos : Nat) (h : pos ≤ f.len) :
    f.position pos = .at_ f.name (lineCol f.data pos).1 (lineCol f.data pos).2 := by
  -- by `lines_split` the table is that of the first `pos` bytes, whose last entry is the line start, followed by
  -- entries `> pos`: the search stops just after that last entry
  have hlen : (0 :: linesFrom (f.data.take pos) 0).length = (f.data.take pos).count 10 + 1 := by
    rw [List.length_cons, linesFrom_length]
  have hidx : f.lines[(f.data.take pos).count 10]? = some (lineStart f.data pos) := by
    rw [File.lines_split f pos h, List.getElem?_append_left (hlen ▸ Nat.lt_succ_self _),
      ← linesFrom_take_getLast _ _ h, List.getLast?_eq_getElem?, hlen]; rfl
  have hs : goSearch f.lines.length (fun i => decide (f.lines.getD i 0 > pos)) = (f.data.take pos).count 10 + 1 := by
    apply goSearch_sorted _ ((File.lines_pairwise f).imp Nat.le_of_lt) pos _ _ hidx (lineStart_le _ _)
    intro b hb
    rw [File.lines_split f pos h, List.getElem?_append_right (Nat.le_of_eq hlen)] at hb
    exact (linesFrom_bounds _ _ b (List.mem_of_getElem? hb)).1
  unfold File.position
  rw [if_neg (Nat.not_lt.mpr h)]
  simp only [hs]
  rw [if_neg (Nat.succ_ne_zero _), Nat.add_sub_cancel, hidx]
  simp only [lineCol, Nat.add_comm 1]

theorem File.position_unknown (f : File) (pos : Nat) (h : f.len < pos) : f.position pos = .unknown := by
  unfold File.position; rw [if_pos h]

theorem File.position_ne_panic (f : File) (pos : Nat) : f.position pos ≠ .panic := by
  by_cases h : pos ≤ f.len
  · rw [File.position_eq f pos h]; exact nofun
  · rw [File.position_unknown f pos (Nat.lt_of_not_le h)]; exact nofun

/-- every file set the API can build: NewFileSet(files...) = AddFile for each file, in order, on the empty set -/
def buildFS (files : List File) : FileSet := files.foldl (fun fs f => (fs.addFile f).1) {}

/-- closed form of the files after AddFile: each gets the running position as its offset -/
def fsPlace (p : Nat) : List File → List File
  | [] => []
  | f :: r => { f with offset := p } :: fsPlace (p + f.len + Facts.fileSetGap) r

def fsEndPos (p : Nat) : List File → Nat
  | [] => p
  | f :: r => fsEndPos (p + f.len + Facts.fileSetGap) r

theorem foldl_addFile (fs : FileSet) (files : List File) :
    files.foldl (fun fs f => (fs.addFile f).1) fs =
      { pos := fsEndPos fs.pos files, files := fs.files ++ fsPlace fs.pos files,
        offsets := fs.offsets ++ (fsPlace fs.pos files).map (·.offset) } := by
  induction files generalizing fs with
  | nil => rw [List.foldl_nil, fsPlace, fsEndPos, List.map_nil, List.append_nil, List.append_nil]
  | cons f r ih =>
    rw [List.foldl_cons, ih]
    simp only [FileSet.addFile, fsPlace, fsEndPos, List.map_cons, List.append_assoc, List.singleton_append]

theorem buildFS_eq (files : List File) :
    buildFS files =
      { pos := fsEndPos Facts.fileSetFirstPos files, files := fsPlace Facts.fileSetFirstPos files,
        offsets := (fsPlace Facts.fileSetFirstPos files).map (·.offset) } :=
  foldl_addFile {} files

theorem fsPlace_length (p : Nat) (files : List File) : (fsPlace p files).length = files.length := by
  induction files generalizing p with
  | nil => rfl
  | cons f r ih => exact congrArg (· + 1) (ih _)

theorem fsPlace_getElem?_some (p : Nat) (files : List File) (i : Nat) (f : File) (h : files[i]? = some f) :
    ∃ o, (fsPlace p files)[i]? = some { f with offset := o } := by
  induction files generalizing p i with
  | nil => cases h
  | cons f' r ih =>
    cases i with
    | zero => cases Option.some.inj h; exact ⟨p, rfl⟩
    | succ i => exact ih (p + f'.len + Facts.fileSetGap) i h

theorem fsPlace_content (p : Nat) (files : List File) :
    (fsPlace p files).map (fun f => (f.name, f.data)) = files.map (fun f => (f.name, f.data)) := by
  induction files generalizing p with
  | nil => rfl
  | cons f r ih => simp [fsPlace, ih]

theorem fsEndPos_ge (p : Nat) (files : List File) : p ≤ fsEndPos p files := by
  induction files generalizing p with
  | nil => exact Nat.le_refl _
  | cons f r ih => exact Nat.le_trans (Nat.le_add_right_of_le (Nat.le_add_right _ _)) (ih _)

theorem fsPlace_slot (p : Nat) (files : List File) (i : Nat) (g : File) (hg : (fsPlace p files)[i]? = some g) :
    g.offset = fsEndPos p (files.take i) ∧ g.offset + g.len + Facts.fileSetGap = fsEndPos p (files.take (i + 1)) := by
  induction files generalizing p i with
  | nil => cases hg
  | cons f r ih =>
    cases i with
    | zero => cases Option.some.inj hg; exact ⟨rfl, rfl⟩
    | succ i => exact ih _ i hg

theorem fsEndPos_take_le (p : Nat) (files : List File) {i j : Nat} (h : i ≤ j) :
    fsEndPos p (files.take i) ≤ fsEndPos p (files.take j) := by
  induction files generalizing p i j with
  | nil => rw [List.take_nil, List.take_nil]; exact Nat.le_refl _
  | cons f r ih =>
    cases i with
    | zero => exact fsEndPos_ge p _
    | succ i =>
      cases j with
      | zero => exact absurd h (Nat.not_succ_le_zero i)
      | succ j => exact ih _ (Nat.le_of_succ_le_succ h)

theorem fsPlace_lt (p : Nat) (files : List File) (i j : Nat) (a b : File)
    (ha : (fsPlace p files)[i]? = some a) (hb : (fsPlace p files)[j]? = some b) (hij : i < j) :
    a.offset + a.len + Facts.fileSetGap ≤ b.offset := by
  rw [(fsPlace_slot p files i a ha).2, (fsPlace_slot p files j b hb).1]
  exact fsEndPos_take_le p files hij

theorem fsPlace_pairwise (p : Nat) (files : List File) :
    (fsPlace p files).Pairwise (fun a b => a.offset + a.len + Facts.fileSetGap ≤ b.offset) :=
  List.pairwise_iff_getElem.mpr fun i j hi hj hij =>
    fsPlace_lt p files i j _ _ (List.getElem?_eq_getElem hi) (List.getElem?_eq_getElem hj) hij

theorem fsPlace_cover (p : Nat) (files : List File) (q : Nat) (h1 : p ≤ q) (h2 : q < fsEndPos p files) :
    ∃ i : Nat, ∃ g : File, (fsPlace p files)[i]? = some g ∧ g.offset ≤ q ∧ q < g.offset + g.len + Facts.fileSetGap := by
  induction files generalizing p with
  | nil => exact absurd h2 (Nat.not_lt.mpr h1)
  | cons f r ih =>
    by_cases hq : q < p + f.len + Facts.fileSetGap
    · exact ⟨0, { f with offset := p }, rfl, h1, hq⟩
    · obtain ⟨i, g, hg, hb⟩ := ih (p + f.len + Facts.fileSetGap) (Nat.le_of_not_lt hq) h2
      exact ⟨i + 1, g, hg, hb⟩

theorem buildFS_files_length (files : List File) : (buildFS files).files.length = files.length := by
  rw [buildFS_eq]; exact fsPlace_length _ _

theorem buildFS_offsets (files : List File) : (buildFS files).offsets = (buildFS files).files.map (·.offset) := by
  rw [buildFS_eq]

theorem buildFS_getElem? (files : List File) (i : Nat) (f : File) (h : files[i]? = some f) :
    ∃ o, (buildFS files).offsets[i]? = some o ∧ (buildFS files).files[i]? = some { f with offset := o } := by
  rw [buildFS_offsets, buildFS_eq]
  obtain ⟨o, ho⟩ := fsPlace_getElem?_some Facts.fileSetFirstPos files i f h
  exact ⟨o, by rw [List.getElem?_map, ho]; rfl, ho⟩

theorem buildFS_mem_bounds (files : List File) (i : Nat) (g : File) (hg : (buildFS files).files[i]? = some g) :
    Facts.fileSetFirstPos ≤ g.offset ∧ g.offset + g.len + Facts.fileSetGap ≤ (buildFS files).pos := by
  rw [buildFS_eq] at hg ⊢
  obtain ⟨h1, h2⟩ := fsPlace_slot _ _ i g hg
  rw [h2, h1]
  refine ⟨fsEndPos_take_le _ files (Nat.zero_le i), ?_⟩
  have := fsEndPos_take_le Facts.fileSetFirstPos files (Nat.le_max_left (i + 1) files.length)
  rwa [List.take_of_length_le (Nat.le_max_right _ _)] at this

theorem buildFS_lt (files : List File) (i j : Nat) (a b : File)
    (ha : (buildFS files).files[i]? = some a) (hb : (buildFS files).files[j]? = some b) (hij : i < j) :
    a.offset + a.len + Facts.fileSetGap ≤ b.offset := by
  rw [buildFS_eq] at ha hb
  exact fsPlace_lt _ _ i j a b ha hb hij

theorem position_in_slot (files : List File) (i : Nat) (g : File) (q : Nat)
    (hg : (buildFS files).files[i]? = some g) (hq0 : q ≠ 0)
    (h1 : g.offset ≤ q) (h2 : q < g.offset + g.len + Facts.fileSetGap) :
    (buildFS files).position q = g.position (q - g.offset) := by
  have hend := (buildFS_mem_bounds files i g hg).2
  have ho : (buildFS files).offsets[i]? = some g.offset := by rw [buildFS_offsets, List.getElem?_map, hg]; rfl
  -- the offsets are sorted, entry `i` is `≤ q`, and entry `i + 1` lies beyond the slot of file `i`
  have hs : goSearch (buildFS files).offsets.length (fun k => decide ((buildFS files).offsets.getD k 0 > q)) = i + 1 := by
    apply goSearch_sorted _ _ q i _ ho h1
    · intro o ho'
      rw [buildFS_offsets, List.getElem?_map] at ho'
      obtain ⟨g', hg', rfl⟩ := Option.map_eq_some_iff.mp ho'
      exact Nat.lt_of_lt_of_le h2 (buildFS_lt files i (i + 1) g g' hg hg' (Nat.lt_succ_self i))
    · rw [buildFS_offsets, buildFS_eq]
      exact List.pairwise_map.mpr
        ((fsPlace_pairwise _ files).imp fun h => Nat.le_trans (Nat.le_add_right_of_le (Nat.le_add_right _ _)) h)
  unfold FileSet.position
  rw [if_neg (not_or.mpr ⟨hq0, Nat.not_le.mpr (Nat.lt_of_lt_of_le h2 hend)⟩)]
  simp only [hs]
  rw [if_neg (Nat.succ_ne_zero i)]
  simp only [Nat.add_sub_cancel, hg, ho]

theorem filterMap_range_succ {α} (g : Nat → Option α) (n : Nat) :
    (List.range (n + 1)).filterMap g = (g 0).toList ++ (List.range n).filterMap (fun i => g (i + 1)) := by
  rw [List.range_succ_eq_map, List.filterMap_cons, List.filterMap_map]
  cases g 0 <;> rfl

theorem dropCRbeforeLF_cons (b : Nat) (r : Bytes) :
    dropCRbeforeLF (b :: r) = (if isCRofCRLF (b :: r) 0 then [] else [b]) ++ dropCRbeforeLF r := by
  unfold dropCRbeforeLF
  rw [List.length_cons, filterMap_range_succ]
  congr 1
  split <;> rfl

/-- bytes.Replace(data, "\r\n", "\n", -1) deletes exactly the CRs that stand immediately before an LF -/
theorem normCRLF_eq_dropCRbeforeLF (raw : Bytes) : normCRLF raw = dropCRbeforeLF raw := by
  induction raw using normCRLF.induct with
  | case1 r ih => rw [normCRLF.eq_1, ih, dropCRbeforeLF_cons, dropCRbeforeLF_cons]; rfl
  | case2 b r hne ih =>
    have h0 : isCRofCRLF (b :: r) 0 = false := by
      cases r with
      | nil => exact Bool.and_false _
      | cons c r' =>
        refine Bool.eq_false_iff.mpr fun hc => ?_
        obtain ⟨hb, hc⟩ := Bool.and_eq_true_iff.mp hc
        exact hne r' (Option.some.inj (eq_of_beq hb)) (by rw [Option.some.inj (eq_of_beq hc)])
    rw [normCRLF.eq_2 b r hne, ih, dropCRbeforeLF_cons, h0]; rfl
  | case3 => rfl

theorem normCRLF_append (a b : Bytes) (hb : b.head? ≠ some 10) : normCRLF (a ++ b) = normCRLF a ++ normCRLF b := by
  induction a using normCRLF.induct with
  | case1 r ih => rw [normCRLF.eq_1, List.cons_append, List.cons_append, normCRLF.eq_1, ih, List.cons_append]
  | case2 x r hne ih =>
    rw [normCRLF.eq_2 x r hne, List.cons_append, normCRLF.eq_2, ih, List.cons_append]
    intro r1 hx hr
    cases r with
    | nil => rw [List.nil_append] at hr; rw [hr] at hb; exact hb rfl
    | cons c r' => exact hne r' hx (by rw [(List.cons.inj hr).1])
  | case3 => rfl

theorem normCRLF_split (a b : Bytes) : normCRLF (a ++ 13 :: 10 :: b) = normCRLF a ++ 10 :: normCRLF b := by
  have hcr : (13 :: 10 :: b).head? ≠ some 10 := fun h => absurd (Option.some.inj h) (by decide)
  rw [normCRLF_append a _ hcr, normCRLF.eq_1]

theorem normCRLF_lone_cr (a b : Bytes) (hb : b.head? ≠ some 10) :
    normCRLF (a ++ 13 :: b) = normCRLF a ++ 13 :: normCRLF b := by
  have hcr : (13 :: b).head? ≠ some 10 := fun h => absurd (Option.some.inj h) (by decide)
  rw [normCRLF_append a _ hcr, normCRLF.eq_2]
  intro r1 _ hr
  rw [hr] at hb
  exact hb rfl

theorem normCRLF_id (raw : Bytes) (h : ¬ [13, 10] <:+: raw) : normCRLF raw = raw := by
  induction raw using normCRLF.induct with
  | case1 r ih => exact absurd ⟨[], r, rfl⟩ h
  | case2 b r hne ih =>
    rw [normCRLF.eq_2 b r hne, ih]
    intro hr
    exact h (List.infix_cons hr)
  | case3 => rfl

theorem normCRLF_no13 (l : Bytes) (h : 13 ∉ l) : normCRLF l = l :=
  normCRLF_id l fun ⟨s, t, e⟩ => h (e ▸ by simp)

theorem normCRLF_count_lf (raw : Bytes) : (normCRLF raw).count 10 = raw.count 10 := by
  induction raw using normCRLF.induct with
  | case1 r ih => rw [normCRLF.eq_1]; simp [ih]
  | case2 b r hne ih => rw [normCRLF.eq_2 b r hne]; simp [List.count_cons, ih]
  | case3 => rfl

end PV.Text
