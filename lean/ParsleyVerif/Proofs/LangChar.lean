/-
  C08: the char body `\\[abfnrtv']|\\x[0-9a-fA-F]{2,2}|\\u[0-9a-fA-F]{4,4}|\\U[0-9a-fA-F]{8,8}|[^']`.  Four escapes
  (a backslash, a letter of a class, a fixed tail) and one rune; an escape that matches is at least two bytes long
  and excludes the other escapes, the rune alternative reads the backslash alone: so the first alternative that
  matches is the longest match, and `charMatch` is that scanner.
-/
import ParsleyVerif.Proofs.Lang
import ParsleyVerif.Proofs.Utf8
namespace PV
open PV.Text PV.Lang

theorem optMax_none_left (y : Option Nat) : optMax none y = y := rfl
theorem optMax_none_right (x : Option Nat) : optMax x none = x := by cases x <;> rfl
theorem optMax_some (a b : Nat) : optMax (some a) (some b) = some (max a b) := rfl

section
open Rx

/-! ### `[^']` -/

def scRune : Scanner
  | [] => none
  | c :: t => if c = 39 then none else some (Utf8.decodeRune (c :: t)).2

theorem longestPrefix_isOneRuneNotQuote (l : Bytes) : longestPrefix isOneRuneNotQuote l = scRune l := by
  cases l with
  | nil => rw [longestPrefix_nil]; rfl
  | cons c r =>
    show _ = if c = 39 then none else some (Utf8.decodeRune (c :: r)).2
    have hne : c :: r ≠ [] := by simp
    have hw := Utf8.decodeRune_width (c :: r) hne
    have hlen : ∀ j, j ≤ (c :: r).length → ((c :: r).take j).length = j := by
      intro j hj; rw [List.length_take]; omega
    by_cases hc : c = 39
    · rw [if_pos hc, longestPrefix_none]
      intro j hj
      cases j with
      | zero => rfl
      | succ j =>
        have h1 : (Utf8.decodeRune (c :: r)).2 = 1 := by subst hc; rfl
        have h2 := Utf8.decode_take (c :: r) (j + 1) (by omega) hne
        unfold isOneRuneNotQuote
        rw [h2, h1, hlen _ hj]
        cases j with
        | zero => subst hc; simp
        | succ j => simp
    · rw [if_neg hc]
      apply longestPrefix_eq_some hw.2
      · unfold isOneRuneNotQuote
        rw [Utf8.decode_take _ _ (Nat.le_refl _) hne, hlen _ hw.2]
        obtain ⟨w, hw'⟩ : ∃ w, (Utf8.decodeRune (c :: r)).2 = w + 1 := ⟨_, (Nat.sub_add_cancel hw.1).symm⟩
        rw [hw']
        simp [hc]
      · intro j hj1 hj2
        unfold isOneRuneNotQuote
        rw [Utf8.decode_take _ _ (by omega) hne, hlen _ hj2]
        have : (Utf8.decodeRune (c :: r)).2 ≠ j := by omega
        simp [this]

theorem decodeRune_ne39 (c : Nat) (t : Bytes) : ((Utf8.decodeRune (c :: t)).1 != 39) = (c != 39) := by
  by_cases h : c < 0x80
  · rw [Utf8.decodeRune_ascii c t h]
  · have := Utf8.decodeRune_ge c t h
    have a : (Utf8.decodeRune (c :: t)).1 ≠ 39 := by omega
    have b : c ≠ 39 := by omega
    rw [bne_iff_ne.mpr a, bne_iff_ne.mpr b]

theorem munch_rune : Munch (.rune fun b => b != 39) isOneRuneNotQuote scRune where
  first f l _ := by
    cases l with
    | nil => rfl
    | cons c t =>
      show _ = if c = 39 then none else some (Utf8.decodeRune (c :: t)).2
      rw [run_rune_cons, decodeRune_ne39]
      by_cases hc : c = 39
      · subst hc; rfl
      · rw [if_neg hc, if_pos (bne_iff_ne.mpr hc)]; rfl
  longest := longestPrefix_isOneRuneNotQuote

/-! ### the escapes -/

def scEsc (q : Nat → Bool) (m : Scanner) : Scanner := Sc.byteThen (· == 92) (Sc.byteThen q m)

theorem scEsc_cons (q : Nat → Bool) (m : Scanner) (e : Nat) (r : Bytes) :
    scEsc q m (92 :: e :: r) = if q e then (m r).map (2 + ·) else none := by
  show ((if q e then (m r).map (1 + ·) else none : Option Nat)).map (1 + ·) = _
  split
  · cases m r with
    | none => rfl
    | some k => exact congrArg some (by show 1 + (1 + k) = 2 + k; omega)
  · rfl

theorem scEsc_some {q : Nat → Bool} {m : Scanner} {l : Bytes} {i : Nat} (h : scEsc q m l = some i) :
    ∃ e r, l = 92 :: e :: r ∧ q e = true ∧ 2 ≤ i := by
  match l, h with
  | c :: e :: r, h =>
    by_cases hc : c = 92
    · subst hc
      rw [scEsc_cons] at h
      by_cases hq : q e = true
      · rw [if_pos hq] at h
        cases hm : m r with
        | none => rw [hm] at h; cases h
        | some k => rw [hm] at h; cases h; exact ⟨e, r, rfl, hq, Nat.le_add_right _ _⟩
      · rw [if_neg hq] at h; cases h
    · simp [scEsc, Sc.byteThen, hc] at h
  | [c], h => by_cases hc : c = 92 <;> simp [scEsc, Sc.byteThen, hc] at h

theorem scEsc_none {q : Nat → Bool} (m : Scanner) {e : Nat} (r : Bytes) (h : q e = false) : scEsc q m (92 :: e :: r) = none := by
  rw [scEsc_cons, h]; rfl

def escLetters : Nat → Bool := fun b => [97, 98, 102, 110, 114, 116, 118, 39].contains b

theorem munch_simpleEscape :
    Munch (.seq (.byte (· == 92)) (.byte escLetters)) isSimpleEscape (scEsc escLetters Sc.eps) :=
  (Munch.byte escLetters (L := fun w => match w with | [e] => escLetters e | _ => false) rfl fun c w => by
      cases w <;> simp).byte_seq (· == 92) rfl fun c w => by
    by_cases hc : c = 92
    · subst hc; match w with
      | [] => rfl
      | [e] => rfl
      | _ :: _ :: _ => rfl
    · match w with
      | [] => simp [isSimpleEscape, hc]
      | [e] => simp [isSimpleEscape, hc]
      | _ :: _ :: _ => simp [isSimpleEscape, hc]

/-- `\\<letter>[0-9a-fA-F]{n,n}` -/
theorem munch_hexEscape (x n : Nat) :
    Munch (.seq (.byte (· == 92)) (.seq (Re.lit [x]) (Re.rep n (.byte hexDigit)))) (isHexEscape x n)
      (scEsc (fun c => decide (c = x)) (Sc.rep n hexDigit)) :=
  ((Munch.rep n hexDigit).lit_seq x
      (L := fun w => match w with | y :: r => decide (y = x) && (decide (r.length = n) && r.all hexDigit) | [] => false)
      rfl fun _ _ => rfl).byte_seq (· == 92) rfl fun c w => by
    by_cases hc : c = 92
    · subst hc; cases w with
      | nil => rfl
      | cons y r => simp [isHexEscape, Bool.and_assoc]
    · cases w <;> simp [isHexEscape, hc]

def scChar : Scanner := fun l =>
  (scEsc escLetters Sc.eps l).or ((scEsc (fun c => decide (c = 120)) (Sc.rep 2 hexDigit) l).or
    ((scEsc (fun c => decide (c = 117)) (Sc.rep 4 hexDigit) l).or
      ((scEsc (fun c => decide (c = 85)) (Sc.rep 8 hexDigit) l).or (scRune l))))

def Rx.charCore : Re :=
  .alt (.seq (.byte (· == 92)) (.byte escLetters))
  (.alt (.seq (.byte (· == 92)) (.seq (Re.lit [120]) (Re.rep 2 (.byte hexDigit))))
  (.alt (.seq (.byte (· == 92)) (.seq (Re.lit [117]) (Re.rep 4 (.byte hexDigit))))
  (.alt (.seq (.byte (· == 92)) (.seq (Re.lit [85]) (Re.rep 8 (.byte hexDigit))))
        (.rune (fun b => b != 39)))))

theorem charRe_eq : charRe = charCore := by
  simp only [charRe, charSx, Sx.re, cHex_has, cEsc_has, cNq_has]
  rfl

/-- an escape that matches is at least as long as whatever a later alternative `m` answers, provided `m` answers one
    byte (or nothing) on a backslash followed by a letter of the class -/
theorem esc_first {q : Nat → Bool} {m' m : Scanner} (hm : ∀ e r j, q e = true → m (92 :: e :: r) = some j → j = 1)
    (l : Bytes) (i j : Nat) (hi : scEsc q m' l = some i) (hj : m l = some j) : j ≤ i := by
  obtain ⟨e, r, rfl, hq, h2⟩ := scEsc_some hi
  rw [hm e r j hq hj]; omega

theorem munch_char : Munch charRe isCharBody scChar := by
  have hR : ∀ e r, scRune (92 :: e :: r) = some 1 := fun _ _ => rfl
  refine charRe_eq ▸ Munch.congr
    (munch_simpleEscape.alt ((munch_hexEscape 120 2).alt ((munch_hexEscape 117 4).alt ((munch_hexEscape 85 8).alt munch_rune
      (esc_first ?_)) (esc_first ?_)) (esc_first ?_)) (esc_first ?_))
    (fun _ _ => rfl) (fun w => by simp only [isCharBody, Bool.or_assoc]) (fun _ => rfl)
  · intro e r j _ h; rw [hR] at h; exact (Option.some.inj h).symm
  · intro e r j he h
    rw [scEsc_none _ r (by rw [of_decide_eq_true he]; rfl), Option.none_or, hR] at h
    exact (Option.some.inj h).symm
  · intro e r j he h
    rw [scEsc_none _ r (by rw [of_decide_eq_true he]; rfl), Option.none_or,
      scEsc_none _ r (by rw [of_decide_eq_true he]; rfl), Option.none_or, hR] at h
    exact (Option.some.inj h).symm
  · intro e r j he h
    have ne : ∀ x, escLetters x = false → decide (e = x) = false := fun x hx =>
      decide_eq_false (by rintro rfl; rw [hx] at he; cases he)
    rw [scEsc_none _ r (ne 120 rfl), Option.none_or, scEsc_none _ r (ne 117 rfl), Option.none_or,
      scEsc_none _ r (ne 85 rfl), Option.none_or, hR] at h
    exact (Option.some.inj h).symm

/-- a hex escape in front of the later alternatives `y`, as `charMatch` tests it -/
theorem scEsc_hex_or (x n e : Nat) (r : Bytes) (y : Option Nat) :
    (scEsc (fun c => decide (c = x)) (Sc.rep n hexDigit) (92 :: e :: r)).or y =
      if (decide (e = x) && decide (r.length ≥ n) && allHex (r.take n)) = true then some (n + 2) else y := by
  rw [scEsc_cons]
  unfold Sc.rep
  by_cases h : (decide (e = x) && decide (r.length ≥ n) && allHex (r.take n)) = true
  · rw [if_pos h]
    simp only [Bool.and_eq_true, decide_eq_true_eq] at h
    rw [if_pos (decide_eq_true h.1.1), if_pos ⟨h.1.2, h.2⟩]
    exact congrArg some (Nat.add_comm 2 n)
  · rw [if_neg h]
    by_cases hx : e = x
    · rw [if_pos (decide_eq_true hx), if_neg fun hh => h (by
        simp only [Bool.and_eq_true, decide_eq_true_eq]; exact ⟨⟨hx, hh.1⟩, hh.2⟩)]
      rfl
    · rw [if_neg (by simpa using hx)]; rfl

theorem charMatch_esc (e : Nat) (r : Bytes) : charMatch (92 :: e :: r) = scChar (92 :: e :: r) := by
  unfold scChar
  rw [show scRune (92 :: e :: r) = some 1 from rfl, scEsc_hex_or, scEsc_hex_or, scEsc_hex_or, scEsc_cons]
  show (if escLetters e = true then some 2 else _) = _
  by_cases h1 : escLetters e = true
  · rw [if_pos h1, if_pos h1]; rfl
  · rw [if_neg h1, if_neg h1]; rfl

theorem charMatch_eq (l : Bytes) : charMatch l = scChar l := by
  have esc_ne : ∀ (q : Nat → Bool) (m : Scanner) (c : Nat) (t : Bytes), (c ≠ 92 ∨ t = []) → scEsc q m (c :: t) = none := by
    intro q m c t h
    rcases h with h | rfl
    · simp [scEsc, Sc.byteThen, h]
    · by_cases hc : c = 92 <;> simp [scEsc, Sc.byteThen, hc]
  match l with
  | [] => rfl
  | [c] =>
    unfold scChar
    rw [esc_ne _ _ c [] (Or.inr rfl), esc_ne _ _ c [] (Or.inr rfl), esc_ne _ _ c [] (Or.inr rfl),
      esc_ne _ _ c [] (Or.inr rfl)]
    by_cases hc : c = 92
    · subst hc; rfl
    · simp [charMatch, scRune]
  | c :: e :: r =>
    by_cases hc : c = 92
    · subst hc; exact charMatch_esc e r
    · unfold scChar
      rw [esc_ne _ _ c _ (Or.inl hc), esc_ne _ _ c _ (Or.inl hc), esc_ne _ _ c _ (Or.inl hc), esc_ne _ _ c _ (Or.inl hc)]
      simp [charMatch, scRune, hc]

theorem charMatch_eq_longest (l : Bytes) : charMatch l = longestPrefix isCharBody l :=
  (charMatch_eq l).trans (munch_char.longest l).symm

end

theorem charMatch_sound (l : Bytes) (k : Nat) (h : charMatch l = some k) : isCharBody (l.take k) = true :=
  longestPrefix_mem (charMatch_eq_longest l ▸ h)
theorem charMatch_maximal (l : Bytes) (k : Nat) (h : charMatch l = some k) :
    ∀ j, k < j → j ≤ l.length → isCharBody (l.take j) = false :=
  longestPrefix_max (charMatch_eq_longest l ▸ h)
theorem charMatch_none (l : Bytes) (h : charMatch l = none) : ∀ j, j ≤ l.length → isCharBody (l.take j) = false :=
  longestPrefix_none.1 (charMatch_eq_longest l ▸ h)

-- `\n'`, `\x4G`, `\u00e9'`, `é'`, `'`, a lone continuation byte, a cut three-byte sequence
example : longestPrefix isCharBody [92, 110, 39] = some 2 ∧ charMatch [92, 110, 39] = some 2 := by decide +kernel
example : longestPrefix isCharBody [92, 120, 52, 71] = some 1 ∧ charMatch [92, 120, 52, 71] = some 1 := by decide +kernel
example : longestPrefix isCharBody [92, 117, 48, 48, 101, 57, 39] = some 6 := by decide +kernel
example : longestPrefix isCharBody [0xC3, 0xA9, 39] = some 2 ∧ charMatch [0xC3, 0xA9, 39] = some 2 := by decide +kernel
example : longestPrefix isCharBody [39] = none ∧ charMatch [39] = none := by decide +kernel
example : longestPrefix isCharBody [0x80, 97] = some 1 ∧ charMatch [0x80, 97] = some 1 := by decide +kernel
example : longestPrefix isCharBody [0xE2, 0x82] = some 1 ∧ charMatch [0xE2, 0x82] = some 1 := by decide +kernel

end PV
