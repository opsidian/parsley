/-
  C05, tree shape: every derivation of the arithmetic grammar's nonterminals is an expression / term / factor
  tree.  One finite check per rule on abstract derivations (Proofs/ArithAbs.lean).  Then, for C05 / C16: a
  successful parse of a Sentence-rooted grammar has at least one tree; `evaluate` unfolded.
-/
import ParsleyVerif.Proofs.ArithAbs
import ParsleyVerif.Proofs.Terminal
import ParsleyVerif.Proofs.Sentence
import ParsleyVerif.Proofs.ArithEval
import ParsleyVerif.Props.C04
namespace PV
open PV.Text

/-- what the three rules derive -/
def arithR (f : File) (k _pos : Nat) (x : Node) : Prop := k ≤ 2 → IsTree f k x

theorem rune_parse_leaf {P : Params} {f : File} {c : Nat} {nm : Bytes} {pos : Nat} {x : Node}
    (h : Terminal.parse P f (.rune c nm) pos = .node x) : IsRuneLeaf f c x := by
  obtain ⟨r, rfl, hr⟩ := rune_parse_node h
  exact ⟨pos, r, rfl, r, hr⟩

theorem integer_parse_leaf {P : Params} {f : File} {pos : Nat} {x : Node}
    (h : Terminal.parse P f .integer pos = .node x) : ∃ tok v p r, x = .term tok (.int v) p r := by
  simp only [Terminal.parse] at h
  split at h
  · cases h
  · split at h
    · cases h
    · simp [nf] at h
    · split at h
      · simp [other] at h
      · cases h; exact ⟨_, _, _, _, rfl⟩
  · simp [nf] at h

theorem setRpos_runeLeaf {f : File} {c : Nat} {m : WsMode} {y : Node} (h : IsRuneLeaf f c y) :
    IsRuneLeaf f c (setRposNode f m y none).1 := by
  obtain ⟨p, r, rfl, hat⟩ := h
  exact ⟨p, _, rfl, hat⟩

variable {cfg : Cfg} {R : Nat → Nat → Node → Prop}

theorem trim_rune {c pos x} (h : DerivesR cfg R (Garith.trim (Garith.rn c)) pos x) : IsRuneLeaf cfg.file c x := by
  obtain ⟨y, hy, hx⟩ := h.rtrim_inv
  have hl := rune_parse_leaf hy.ltrim_inv.term_inv
  rcases hx with rfl | rfl
  · exact hl
  · exact setRpos_runeLeaf hl

theorem trim_int {pos x} (h : DerivesR cfg R (Garith.trim (.term .integer)) pos x) : IsTree cfg.file 2 x := by
  obtain ⟨y, hy, hx⟩ := h.rtrim_inv
  obtain ⟨tok, v, p, r, rfl⟩ := integer_parse_leaf hy.ltrim_inv.term_inv
  rcases hx with rfl | rfl
  · exact .int
  · exact .int

theorem arith_closed (cfg : Cfg) (henv : cfg.env = Garith.env) : ClosedR cfg (arithR cfg.file) := by
  intro k g pos x hk h hk2
  rw [henv] at hk
  rcases Nat.lt_or_ge k 2 with hlt | hge
  · -- `expr`, `term`: `X_k → X_k op_k X_{k+1} | X_{k+1}`
    have hk1 : k ≤ 1 := by omega
    rw [Garith.env_level hk1] at hk
    cases hk
    obtain ⟨g, hm, dg⟩ := h.memo_inv.any_inv
    rcases mem_pair hm with rfl | rfl
    · obtain ⟨x1, x2, x3, d1, d2, d3, rfl⟩ := dg.seqOf3_inv
      obtain ⟨c1, c2, o1, o2, he, h1, h2, l1, l2⟩ := opsAt_eq hk1
      rw [he] at d2
      obtain ⟨g, hm, dg⟩ := d2.any_inv
      rcases mem_pair hm with rfl | rfl
      · exact .bin (d1.ref_inv hk2) (trim_rune dg) h1 l1 (d3.ref_inv (by omega))
      · exact .bin (d1.ref_inv hk2) (trim_rune dg) h2 l2 (d3.ref_inv (by omega))
    · exact .up (dg.ref_inv (by omega))
  · -- `factor → INTEGER | ( expr )`
    obtain rfl : k = 2 := by omega
    simp only [Garith.env, List.getElem?_cons_succ, List.getElem?_cons_zero, Option.some.injEq] at hk
    subst hk
    obtain ⟨g, hm, dg⟩ := h.any_inv
    rcases mem_pair hm with rfl | rfl
    · exact trim_int dg
    · obtain ⟨x1, x2, x3, d1, d2, d3, rfl⟩ := dg.seqOf3_inv
      exact .paren (trim_rune d1) (d2.ref_inv (by omega)) (trim_rune d3)

theorem arith_derives_tree (cfg : Cfg) (henv : cfg.env = Garith.env) (k : Nat) (hk : k < 3) (pos : Nat) (x : Node)
    (h : Derives cfg (.ref k) pos x) : IsTree cfg.file k x :=
  (derives_abs cfg (arithR cfg.file) (arith_closed cfg henv) h).ref_inv (by omega)

end PV

namespace PV
open PV.Text

theorem parse_sentence_alts_ne (cfg : Cfg) (g : G) (fuel : Nat) (p : ParseOut)
    (h : parse cfg fuel (G.sentence g) = some p) (hok : p.msg = none) : p.res.alts ≠ [] := by
  obtain ⟨o, st1, hr, ⟨h1, _, h3, _, _⟩ | ⟨_, _, _, h4⟩⟩ := parse_answer cfg fuel _ {} p h
  · rw [h3]; exact S04.sentence_alts_ne cfg g fuel _ {} o st1 hr h1
  · rw [hok] at h4; cases h4

/-- the last step of parsley.Evaluate: the evaluator's outcome as the answer, an error rendered with its position -/
def EvalOut.answer (fs : FileSet) : EvalOut → EvaluateOut
  | .ok v => .value v
  | .err pos msg => .error (errorWithPosition fs ⟨pos, .other msg⟩)
  | .panic s => .panic s

theorem evaluate_cases (cfg : Cfg) (ce : CustomEval) (fuel : Nat) (g : G) (out : EvaluateOut)
    (h : evaluate cfg ce fuel g = some out) :
    ∃ p, parse cfg fuel g = some p ∧
      ((∃ m, p.msg = some m ∧ out = .error m) ∨
       (p.msg = none ∧ out = (evalRes ce fuel p.res).answer cfg.fileSet)) := by
  unfold evaluate at h
  cases hp : parse cfg fuel g with
  | none => simp [hp] at h
  | some p =>
    refine ⟨p, rfl, ?_⟩
    simp only [hp] at h
    cases hm : p.msg with
    | some m =>
      simp only [hm, Option.some.injEq] at h
      exact .inl ⟨m, rfl, h.symm⟩
    | none =>
      simp only [hm] at h
      refine .inr ⟨rfl, ?_⟩
      cases he : evalRes ce fuel p.res <;> simp only [he, Option.some.injEq] at h <;> exact h.symm

end PV
