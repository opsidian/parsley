/-
  Generic lemmas about the backtracking semantics of Spec/Regex.lean: the run equations, the candidate
  list of `p*` for a byte class `p` (`[n, …, 0]` with `n = spanLen p l`), of `p{n,n}` and of
  a literal, the first candidate of `[-+]? X` and of one more iteration of `X*`; and `Re.run` against the declarative
  language `Re.Matches`: with enough fuel the candidate list contains exactly the lengths of the matching prefixes,
  hence `Re.first` answers a match, and answers `none` only when there is none.
-/
import ParsleyVerif.Spec.Regex
import ParsleyVerif.Proofs.Terminal
namespace PV
open PV.Text
open Rx

namespace Rx

def down : Nat → List Nat
  | 0 => [0]
  | n + 1 => (n + 1) :: down n

theorem down_map_succ (n : Nat) : (down n).map (1 + ·) ++ [0] = down (n + 1) := by
  induction n with
  | zero => rfl
  | succ n ih => rw [down, List.map_cons, List.cons_append, ih, Nat.add_comm 1]; rfl

theorem head?_down (n : Nat) : (down n).head? = some n := by cases n <;> rfl

theorem findSome?_down_none (g : Nat → Option Nat) (n : Nat) (h : ∀ i, i ≤ n → g i = none) :
    (down n).findSome? g = none := by
  induction n with
  | zero => simp [down, h 0]
  | succ n ih =>
    rw [down, List.findSome?_cons, h (n + 1) (Nat.le_refl _)]
    exact ih (fun i hi => h i (by omega))

theorem findSome?_down (g : Nat → Option Nat) (n : Nat) (h : ∀ i, i < n → g i = none) :
    (down n).findSome? g = g n := by
  cases n with
  | zero => simp [down]
  | succ n =>
    rw [down, List.findSome?_cons, findSome?_down_none g n (fun i hi => h i (by omega))]
    cases g (n + 1) <;> rfl

theorem findSome?_down_some (g : Nat → Option Nat) (n : Nat) (h : (g n).isSome) :
    (down n).findSome? g = g n := by
  cases n <;> exact List.findSome?_cons_of_isSome h

@[simp] theorem run_byte_cons (p : Nat → Bool) (f c : Nat) (t : Bytes) :
    (Re.byte p).run f (c :: t) = if p c then [1] else [] := rfl
@[simp] theorem run_byte_nil (p : Nat → Bool) (f : Nat) : (Re.byte p).run f [] = [] := rfl
@[simp] theorem run_rune_cons (p : Nat → Bool) (f c : Nat) (t : Bytes) :
    (Re.rune p).run f (c :: t) = if p (Utf8.decodeRune (c :: t)).1 then [(Utf8.decodeRune (c :: t)).2] else [] := rfl
@[simp] theorem run_rune_nil (p : Nat → Bool) (f : Nat) : (Re.rune p).run f [] = [] := rfl
@[simp] theorem run_eps (f : Nat) (l : Bytes) : Re.eps.run f l = [0] := rfl
theorem run_seq (a b : Re) (f : Nat) (l : Bytes) :
    (Re.seq a b).run f l = (a.run f l).flatMap fun i => (b.run f (l.drop i)).map (i + ·) := rfl
@[simp] theorem run_alt (a b : Re) (f : Nat) (l : Bytes) : (Re.alt a b).run f l = a.run f l ++ b.run f l := rfl
theorem run_star (a : Re) (f : Nat) (l : Bytes) : (Re.star a).run f l = starRun (a.run f) f l := rfl
@[simp] theorem run_opt (a : Re) (f : Nat) (l : Bytes) : a.opt.run f l = a.run f l ++ [0] := rfl

@[simp] theorem run_seq_byte_cons (p : Nat → Bool) (b : Re) (f c : Nat) (t : Bytes) :
    (Re.seq (.byte p) b).run f (c :: t) = if p c then (b.run f t).map (1 + ·) else [] := by
  rw [run_seq, run_byte_cons]
  by_cases h : p c = true
  · simp [h]
  · simp [h]

@[simp] theorem run_seq_byte_nil (p : Nat → Bool) (b : Re) (f : Nat) :
    (Re.seq (.byte p) b).run f [] = [] := by
  rw [run_seq, run_byte_nil]; rfl

theorem run_seq_assoc (a b c : Re) (f : Nat) (l : Bytes) :
    (Re.seq (.seq a b) c).run f l = (Re.seq a (.seq b c)).run f l := by
  simp only [run_seq, List.flatMap_assoc, List.flatMap_map, List.map_flatMap, List.map_map, List.drop_drop]
  congr 1; funext i; congr 1; funext j; congr 1
  funext k; simp [Nat.add_assoc]

theorem run_seq_alt (a b c : Re) (f : Nat) (l : Bytes) :
    (Re.seq (.alt a b) c).run f l = (Re.seq a c).run f l ++ (Re.seq b c).run f l := by
  simp only [run_seq, run_alt, List.flatMap_append]

theorem run_seq_eps (c : Re) (f : Nat) (l : Bytes) : (Re.seq .eps c).run f l = c.run f l := by
  simp [run_seq]

theorem head?_run_seq (a b : Re) (f : Nat) (l : Bytes) :
    ((Re.seq a b).run f l).head? = (a.run f l).findSome? fun i => ((b.run f (l.drop i)).head?).map (i + ·) := by
  rw [run_seq, List.head?_flatMap]; simp only [List.head?_map]

theorem spanLen_nil (p : Nat → Bool) : spanLen p [] = 0 := rfl
theorem spanLen_cons (p : Nat → Bool) (c : Nat) (t : Bytes) :
    spanLen p (c :: t) = if p c then spanLen p t + 1 else 0 := by
  unfold spanLen; rw [List.takeWhile_cons]; by_cases h : p c = true <;> simp [h]

theorem starRun_byte (p : Nat → Bool) (F : Nat) : ∀ (f : Nat) (l : Bytes), l.length ≤ f →
    starRun ((Re.byte p).run F) f l = down (spanLen p l) := by
  intro f
  induction f with
  | zero => intro l h; cases l with
    | nil => rfl
    | cons => simp at h
  | succ f ih =>
    intro l h
    cases l with
    | nil => simp [starRun, spanLen_nil, down]
    | cons c t =>
      rw [starRun, run_byte_cons, spanLen_cons]
      by_cases hc : p c = true
      · have := ih t (by simpa using h)
        simp [hc, this, down_map_succ]
      · simp [hc, down]

theorem run_star_byte (p : Nat → Bool) (f : Nat) (l : Bytes) (h : l.length ≤ f) :
    (Re.star (.byte p)).run f l = down (spanLen p l) := starRun_byte p f f l h

theorem spanLen_drop (p : Nat → Bool) (l : Bytes) (i : Nat) (h : i < spanLen p l) :
    ∃ c t, l.drop i = c :: t ∧ p c = true := by
  induction l generalizing i with
  | nil => simp [spanLen_nil] at h
  | cons c t ih =>
    rw [spanLen_cons] at h
    by_cases hc : p c = true
    · cases i with
      | zero => exact ⟨c, t, rfl, hc⟩
      | succ i => rw [if_pos hc] at h; exact ih i (by omega)
    · rw [if_neg hc] at h; omega

theorem head?_signed (X : Re) (f : Nat) (l : Bytes)
    (hX : ∀ c t, l = c :: t → Lang.sign c = true → X.run f l = []) :
    ((Re.seq (Re.byte Lang.sign).opt X).run f l).head? =
      ((X.run f (l.drop (signLen l))).head?).map (signLen l + ·) := by
  unfold Re.opt
  rw [run_seq_alt, run_seq_eps]
  cases l with
  | nil => simp [signLen]
  | cons c t =>
    rw [run_seq_byte_cons, signLen_cons]
    by_cases hc : Lang.sign c = true
    · rw [if_pos hc, if_pos hc, hX c t rfl hc]; simp
    · rw [if_neg hc, if_neg hc]; simp

theorem head?_star_byte (p : Nat → Bool) (f : Nat) (l : Bytes) (h : l.length ≤ f) :
    ((Re.star (.byte p)).run f l).head? = some (spanLen p l) := by
  rw [run_star_byte p f l h, head?_down]

/-- `p{n,n}` -/
theorem run_rep_byte (p : Nat → Bool) (f : Nat) : ∀ (n : Nat) (l : Bytes),
    (Re.rep n (.byte p)).run f l = if n ≤ l.length ∧ (l.take n).all p = true then [n] else [] := by
  intro n
  induction n with
  | zero => intro l; simp [Re.rep]
  | succ n ih =>
    intro l
    cases l with
    | nil => simp [Re.rep]
    | cons c t =>
      rw [Re.rep, run_seq_byte_cons, ih t]
      have hiff : (n + 1 ≤ (c :: t).length ∧ ((c :: t).take (n + 1)).all p = true) ↔
          (p c = true ∧ n ≤ t.length ∧ (t.take n).all p = true) := by
        rw [List.take_succ_cons, List.all_cons, Bool.and_eq_true, List.length_cons]
        constructor
        · intro ⟨a, b, c⟩; exact ⟨b, by omega, c⟩
        · intro ⟨a, b, c⟩; exact ⟨by omega, a, c⟩
      by_cases hc : p c = true
      · by_cases ht : n ≤ t.length ∧ (t.take n).all p = true
        · rw [if_pos hc, if_pos ht, if_pos (hiff.2 ⟨hc, ht⟩), Nat.add_comm]; rfl
        · rw [if_pos hc, if_neg ht, if_neg (fun h => ht (hiff.1 h).2)]; rfl
      · rw [if_neg hc, if_neg (fun h => hc (hiff.1 h).1)]

theorem zero_mem_starRun (ra : Bytes → List Nat) (f : Nat) (l : Bytes) : 0 ∈ starRun ra f l := by
  cases f <;> simp [starRun]

theorem head?_starRun_succ (ra : Bytes → List Nat) (f : Nat) (l : Bytes) :
    (starRun ra (f + 1) l).head? =
      match (ra l).find? (0 < ·) with
      | some i => (starRun ra f (l.drop i)).head?.map (i + ·)
      | none => some 0 := by
  rw [starRun, List.head?_append, List.head?_flatMap]
  generalize (ra l) = xs
  induction xs with
  | nil => rfl
  | cons x xs ih =>
    by_cases hx : 0 < x
    · have hne := List.ne_nil_of_mem (zero_mem_starRun ra f (l.drop x))
      cases hs : starRun ra f (l.drop x) with
      | nil => exact absurd hs hne
      | cons y ys => simp [hx, hs]
    · simp only [List.filter_cons, List.find?_cons]
      simp only [hx, decide_false, Bool.false_eq_true, if_false]
      exact ih

@[simp] theorem run_seq_lit_nil (X : Re) (f : Nat) (l : Bytes) : (Re.seq (Re.lit []) X).run f l = X.run f l :=
  run_seq_eps X f l
@[simp] theorem run_seq_lit_cons (b : Nat) (bs : Bytes) (X : Re) (f : Nat) (l : Bytes) :
    (Re.seq (Re.lit (b :: bs)) X).run f l = (Re.seq (.byte (· == b)) (.seq (Re.lit bs) X)).run f l :=
  run_seq_assoc _ _ _ f l
theorem run_lit (bs : Bytes) (f : Nat) (l : Bytes) : (Re.lit bs).run f l = (Re.seq (Re.lit bs) .eps).run f l := by
  simp [run_seq]

theorem run_lit_prefix (f : Nat) : ∀ (bs l : Bytes), (Re.lit bs).run f l = if bs <+: l then [bs.length] else []
  | [], l => by rw [if_pos List.nil_prefix]; rfl
  | b :: bs, [] => by rw [if_neg (by simp)]; rfl
  | b :: bs, c :: t => by
    rw [Re.lit, run_seq_byte_cons, run_lit_prefix f bs t, List.length_cons, Nat.add_comm]
    by_cases hc : c = b
    · subst hc
      by_cases hp : bs <+: t
      · rw [if_pos (beq_self_eq_true c), if_pos hp, if_pos (List.cons_prefix_cons.2 ⟨rfl, hp⟩)]; rfl
      · rw [if_pos (beq_self_eq_true c), if_neg hp, if_neg (fun h => hp (List.cons_prefix_cons.1 h).2)]; rfl
    · rw [if_neg (by simpa using hc), if_neg (fun h => hc (List.cons_prefix_cons.1 h).1.symm)]

/-! the classes of the five expressions are the byte classes of Spec/Lang.lean (or the tests the model writes inline) -/
theorem cSign_has : cSign.has = Lang.sign := by funext b; simp [cSign, Class.has, Item.has, Lang.sign, Bool.beq_eq_decide_eq]
theorem cDigit_has : cDigit.has = Lang.digit := by funext b; simp [cDigit, Class.has, Item.has, Lang.digit]
theorem cHex_has : cHex.has = Lang.hexDigit := by
  funext b; simp [cHex, Class.has, Item.has, Lang.hexDigit, Bool.or_assoc]
theorem c19_has : Class.has ⟨false, [.range '1' '9']⟩ = Lang.nzDigit := by funext b; simp [Class.has, Item.has, Lang.nzDigit]
theorem cOct_has : Class.has ⟨false, [.range '0' '7']⟩ = Lang.octDigit := by funext b; simp [Class.has, Item.has, Lang.octDigit]
theorem cX_has : Class.has ⟨false, [.ch 'x', .ch 'X']⟩ = fun b => (b = 120 || b = 88) := by
  funext b; simp [Class.has, Item.has, Bool.beq_eq_decide_eq]
theorem cE_has : Class.has ⟨false, [.ch 'e', .ch 'E']⟩ = fun b => (b = 101 || b = 69) := by
  funext b; simp [Class.has, Item.has, Bool.beq_eq_decide_eq]
theorem cBq_has : Class.has ⟨true, [.ch '`']⟩ = (fun b => b != 96) := by
  funext b; cases h : b == 96 <;> simp [Class.has, Item.has, bne, h]
theorem cNq_has : Class.has ⟨true, [.ch '\'']⟩ = (fun b => b != 39) := by
  funext b; cases h : b == 39 <;> simp [Class.has, Item.has, bne, h]
theorem cEsc_has : Class.has ⟨false, [.ch 'a', .ch 'b', .ch 'f', .ch 'n', .ch 'r', .ch 't', .ch 'v', .ch '\'']⟩ =
    fun b => [97, 98, 102, 110, 114, 116, 118, 39].contains b := by
  funext b; simp [Class.has, Item.has, Bool.beq_eq_decide_eq]

theorem Matches_le {r : Re} {l : Bytes} {k : Nat} (h : Re.Matches r l k) : k ≤ l.length := by
  induction h with
  | byte _ => simp
  | rune hne _ => exact (Utf8.decodeRune_width _ hne).2
  | eps => omega
  | seq _ _ ih1 ih2 => rw [List.length_drop] at ih2; omega
  | altL _ ih => exact ih
  | altR _ ih => exact ih
  | star0 => omega
  | starS _ _ ih1 ih2 => rw [List.length_drop] at ih2; omega

theorem starRun_sound (a : Re) (ra : Bytes → List Nat) (hra : ∀ l i, i ∈ ra l → Re.Matches a l i) :
    ∀ (f : Nat) (l : Bytes) (k : Nat), k ∈ starRun ra f l → Re.Matches (.star a) l k := by
  intro f
  induction f with
  | zero => intro l k h; simp [starRun] at h; subst h; exact .star0
  | succ f ih =>
    intro l k h
    rw [starRun, List.mem_append, List.mem_flatMap] at h
    rcases h with ⟨i, hi, hk⟩ | h
    · rw [List.mem_map] at hk
      obtain ⟨j, hj, rfl⟩ := hk
      exact .starS (hra l i (List.mem_filter.mp hi).1) (ih _ _ hj)
    · simp at h; subst h; exact .star0

theorem run_sound : ∀ (r : Re) (f : Nat) (l : Bytes) (k : Nat), k ∈ r.run f l → Re.Matches r l k := by
  intro r
  induction r with
  | byte p =>
    intro f l k h
    cases l with
    | nil => simp at h
    | cons b t =>
      rw [run_byte_cons] at h
      by_cases hp : p b = true
      · rw [if_pos hp] at h; simp at h; subst h; exact .byte hp
      · rw [if_neg hp] at h; simp at h
  | rune p =>
    intro f l k h
    cases l with
    | nil => cases h
    | cons b t =>
      rw [run_rune_cons] at h
      by_cases hp : p (Utf8.decodeRune (b :: t)).1 = true
      · rw [if_pos hp] at h; simp at h; subst h; exact .rune (by simp) hp
      · rw [if_neg hp] at h; simp at h
  | eps => intro f l k h; simp at h; subst h; exact .eps
  | seq a b iha ihb =>
    intro f l k h
    rw [run_seq, List.mem_flatMap] at h
    obtain ⟨i, hi, hk⟩ := h
    rw [List.mem_map] at hk
    obtain ⟨j, hj, rfl⟩ := hk
    exact .seq (iha f l i hi) (ihb f _ j hj)
  | alt a b iha ihb =>
    intro f l k h
    rw [run_alt, List.mem_append] at h
    rcases h with h | h
    · exact .altL (iha f l k h)
    · exact .altR (ihb f l k h)
  | star a iha =>
    intro f l k h
    exact starRun_sound a (a.run f) (fun l i hi => iha f l i hi) f l k h

theorem run_complete_aux {r : Re} {l : Bytes} {k : Nat} (h : Re.Matches r l k) :
    (∀ F, l.length ≤ F → k ∈ r.run F l) ∧
    (∀ a, r = .star a → ∀ F f, l.length ≤ f → f ≤ F → k ∈ starRun (a.run F) f l) := by
  induction h with
  | byte hp => exact ⟨fun F _ => by simp [hp], fun a e => by cases e⟩
  | @rune p l hne hp =>
    refine ⟨fun F _ => ?_, fun a e => by cases e⟩
    cases l with
    | nil => exact absurd rfl hne
    | cons b t =>
      rw [run_rune_cons, if_pos hp]; simp
  | eps => exact ⟨fun F _ => by simp, fun a e => by cases e⟩
  | @seq a b l i j _ _ ih1 ih2 =>
    refine ⟨fun F hF => ?_, fun a e => by cases e⟩
    rw [run_seq, List.mem_flatMap]
    exact ⟨i, ih1.1 F hF, List.mem_map.mpr ⟨j, ih2.1 F (by simp; omega), rfl⟩⟩
  | altL _ ih => exact ⟨fun F hF => by rw [run_alt]; exact List.mem_append_left _ (ih.1 F hF), fun a e => by cases e⟩
  | altR _ ih => exact ⟨fun F hF => by rw [run_alt]; exact List.mem_append_right _ (ih.1 F hF), fun a e => by cases e⟩
  | star0 => exact ⟨fun F _ => zero_mem_starRun _ _ _, fun a _ F f _ _ => zero_mem_starRun _ _ _⟩
  | @starS a l i j h1 _ ih1 ih2 =>
    have key : ∀ F f, l.length ≤ f → f ≤ F → i + j ∈ starRun (a.run F) f l := by
      intro F f hf hF
      by_cases hi : i = 0
      · subst hi
        have := ih2.2 a rfl F f (by simpa using hf) hF
        simpa using this
      · have hil := Matches_le h1
        cases f with
        | zero => omega
        | succ f =>
          rw [starRun, List.mem_append, List.mem_flatMap]
          refine Or.inl ⟨i, List.mem_filter.mpr ⟨ih1.1 F (by omega), by simp; omega⟩, ?_⟩
          exact List.mem_map.mpr ⟨j, ih2.2 a rfl F f (by simp; omega) (by omega), rfl⟩
    exact ⟨fun F hF => key F F hF (Nat.le_refl _), fun a' e => by cases e; exact key⟩

theorem mem_run_iff (r : Re) (f : Nat) (l : Bytes) (k : Nat) (h : l.length ≤ f) :
    k ∈ r.run f l ↔ Re.Matches r l k :=
  ⟨run_sound r f l k, fun m => (run_complete_aux m).1 f h⟩

theorem first_matches (r : Re) (l : Bytes) (k : Nat) (h : r.first l = some k) : Re.Matches r l k :=
  run_sound r l.length l k (List.mem_of_mem_head? h)

theorem first_none_iff (r : Re) (l : Bytes) : r.first l = none ↔ ∀ k, ¬ Re.Matches r l k := by
  unfold Re.first
  rw [List.head?_eq_none_iff]
  constructor
  · intro h k m
    have := (mem_run_iff r l.length l k (Nat.le_refl _)).2 m
    rw [h] at this; cases this
  · intro h
    cases hr : r.run l.length l with
    | nil => rfl
    | cons k ks =>
      exact absurd ((mem_run_iff r l.length l k (Nat.le_refl _)).1 (by rw [hr]; simp)) (h k)

/-- a class with ASCII members only: reading one rune (as Go does) and reading one byte are the same thing -/
theorem run_rune_ascii (p : Nat → Bool) (hp : ∀ r, p r = true → r < 0x80) (f : Nat) (l : Bytes) :
    (Re.rune p).run f l = (Re.byte p).run f l := by
  cases l with
  | nil => rfl
  | cons c t =>
    rw [run_rune_cons, run_byte_cons]
    by_cases hc : c < 0x80
    · rw [Utf8.decodeRune_ascii c t hc]
    · have h1 : ¬ p c = true := fun h => hc (hp c h)
      have h2 : ¬ p (Utf8.decodeRune (c :: t)).1 = true := fun h => by
        have := hp _ h; have := Utf8.decodeRune_ge c t hc; omega
      rw [if_neg h1, if_neg h2]

end Rx
end PV
