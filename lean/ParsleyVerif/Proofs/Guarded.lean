/-
  A DECIDABLE SUFFICIENT CONDITION FOR ACYCLICITY (C01, completeness, trees).

  The trees theorems ask that no `memo k` node is nested, at the same start, in a derivation of the body of `k` with
  the same end (`Acyclic`, `AcyclicW`, `AcyclicS`: a statement about all derivations).  The usual reason why a grammar
  has that property is syntactic: on every way from the body of `k` to a `memo k` that still starts at the same
  position, some SeqOf element is followed by an element that consumes — then the nested node ends strictly before
  the tree does.  `G.guards env lf k n g` is that test (`n`: how many references it may follow; `lf`: the parsers a
  derivation does not enter), `Cut.nest_end` its soundness, by ONE induction over `Cut.Nest` — the nesting relation
  of Proofs/Cut.lean as an inductive over the sized derivations `DN`, into which the three readings embed
  (`nest_of_contains`, `nest_of_containsW`, `nest_of_containsS` in their files).  On a concrete grammar the test is
  evaluated (`rfl`).
-/
import ParsleyVerif.Proofs.Cut
import ParsleyVerif.Proofs.Terminal
namespace PV
open PV.Text

theorem rune_node_rpos (cfg : Cfg) (ch : Nat) (name : Bytes) (hc : ch < 0x80) (pos : Nat) (hin : InFile cfg.file pos)
    (m : Node) (h : Terminal.parse cfg.params cfg.file (.rune ch name) pos = .node m) : m.rpos = pos + 1 := by
  obtain ⟨_, rfl⟩ := (rune_node_iff cfg.params cfg.file pos ch name m hin hc).mp h
  rfl

end PV

namespace PV.Cut
open PV PV.Text PV.C1T

mutual
/-- a derivation of `x` from `g` at `pos` in which, on the part that still starts at `pos`, a `memo k` node spans
    `pos … e` (what `Nesting` closes `Cont` under, as an inductive of its own: the three readings embed into it) -/
inductive Nest (cfg : Cfg) (L : Leaves) (k e : Nat) : G → Nat → Node → Prop
  | here {n body pos x} : ¬ L.is (.memo k body) → DN cfg L n (.memo k body) pos x → x.rpos = e →
      Nest cfg L k e (.memo k body) pos x
  | ref {r g pos x} : ¬ L.is (.ref r) → cfg.env[r]? = some g → Nest cfg L k e g pos x → Nest cfg L k e (.ref r) pos x
  | memo {i g pos x} : ¬ L.is (.memo i g) → Nest cfg L k e g pos x → Nest cfg L k e (.memo i g) pos x
  | any {gs g pos x} : g ∈ gs → Nest cfg L k e g pos x → Nest cfg L k e (.any gs) pos x
  | optSome {g pos x} : Nest cfg L k e g pos x → Nest cfg L k e (.optional g) pos x
  | seqOf {gs o sh pos nodes} : (G.seq .seqOf gs o).shape = some sh → NestS cfg L k e sh 0 pos nodes →
      sh.lenCheck nodes.length = true → Nest cfg L k e (.seq .seqOf gs o) pos (handleResult sh pos nodes)
  | ltrim {g m pos x} : (skipWhitespaces cfg.file pos m).2 = none → (skipWhitespaces cfg.file pos m).1 = pos →
      Nest cfg L k e g pos x → Nest cfg L k e (.ltrim g m) pos x
  | rtrim {g m pos x} : Nest cfg L k e g pos x → movedErr cfg m x = none → Nest cfg L k e (.rtrim g m) pos (moved cfg m x)
inductive NestS (cfg : Cfg) (L : Leaves) (k e : Nat) : SeqShape → Nat → Nat → List Node → Prop
  | head {b sh d pos g n rest} : sh.lookup d = some g → Nest cfg L k e g pos n → DSN cfg L b sh (d + 1) n.rpos rest →
      NestS cfg L k e sh d pos (n :: rest)
  | tail {a sh d pos g n rest} : sh.lookup d = some g → DN cfg L a g pos n → n.rpos = pos →
      NestS cfg L k e sh (d + 1) n.rpos rest → NestS cfg L k e sh d pos (n :: rest)
end

end PV.Cut

namespace PV
open PV.Text PV.Cut PV.C1T

/-- every tree of the parser consumes: an ASCII rune -/
def G.eats : G → Bool
  | .term (.rune ch _) => decide (ch < 0x80)
  | _ => false

mutual
/-- one level of the test; `lf` recognises the leaves, `r` judges the rule behind a reference -/
def G.guardStep (env : List G) (lf r : G → Bool) (k : Nat) : G → Bool
  | .memo i g => lf (.memo i g) || (i != k && g.guardStep env lf r k)
  | .ref j => lf (.ref j) || match env[j]? with
    | some g => r g
    | none => true
  | .any gs => guardAll env lf r k gs
  | .optional g => g.guardStep env lf r k
  | .seq .seqOf gs _ => guardSeq env lf r k gs
  | .ltrim g _ => g.guardStep env lf r k
  | .rtrim g _ => g.guardStep env lf r k
  | _ => true
def guardAll (env : List G) (lf r : G → Bool) (k : Nat) : List G → Bool
  | [] => true
  | g :: gs => g.guardStep env lf r k && guardAll env lf r k gs
/-- an element may hold the nested node if a consuming element follows or it is guarded itself; the walk goes on to
    the next element only past one that can be empty -/
def guardSeq (env : List G) (lf r : G → Bool) (k : Nat) : List G → Bool
  | [] => true
  | g :: gs => (gs.any G.eats || g.guardStep env lf r k) && (g.eats || guardSeq env lf r k gs)
end

/-- a `memo k` nested at the start of a tree of `g` ends strictly before the tree does: tested through `n` references -/
def G.guards (env : List G) (lf : G → Bool) (k : Nat) : Nat → G → Bool
  | 0, _ => false
  | n + 1, g => g.guardStep env lf (G.guards env lf k n) k

theorem guardAll_mem {env : List G} {lf r : G → Bool} {k : Nat} {gs : List G} : guardAll env lf r k gs = true →
    ∀ g ∈ gs, g.guardStep env lf r k = true :=
  forall_mem_of_cons (L := (guardAll env lf r k · = true)) fun _ _ => Bool.and_eq_true_iff.mp

/-- `g' :: gs` are the elements of `sh` from `d` on: `g'` is element `d`, `gs` those from `d + 1` on -/
theorem SeqShape.lookup_cons {sh : SeqShape} {d : Nat} {g g' : G} {gs : List G} (hl : sh.lookup d = some g)
    (hlk : ∀ i, sh.lookup (d + i) = (g' :: gs)[i]?) : g' = g ∧ ∀ i, sh.lookup (d + 1 + i) = gs[i]? :=
  ⟨Option.some.inj ((hlk 0).symm.trans hl), fun i => by rw [Nat.add_assoc, Nat.add_comm 1 i]; exact hlk (i + 1)⟩

namespace Cut
variable {cfg : Cfg} {L : Leaves} {Sc : G → Prop}

theorem dn_eats (hT : ∀ t, ¬ L.is (.term t)) {n : Nat} {g : G} {pos : Nat} {x : Node} (hg : g.eats = true)
    (hin : InFile cfg.file pos) (h : DN cfg L n g pos x) : x.rpos = pos + 1 := by
  cases g with
  | term t =>
    cases t with
    | rune ch nm =>
      cases h with
      | leaf hl _ => exact absurd hl (hT _)
      | term hp => exact rune_node_rpos cfg ch nm (by simpa [G.eats] using hg) pos hin x hp
    | _ => cases hg
  | _ => cases hg

/-- a complete chain over elements one of which consumes ends after its start -/
theorem dsn_eats (hS : Closed cfg L Sc) (hT : ∀ t, ¬ L.is (.term t)) {sh : SeqShape}
    (hg : ∀ d g', sh.lookup d = some g' → Sc g') : ∀ {nodes : List Node} {b d pos : Nat} (gs : List G),
    DSN cfg L b sh d pos nodes → (∀ i, sh.lookup (d + i) = gs[i]?) → nodes.length = gs.length →
    gs.any G.eats = true → InFile cfg.file pos → pos < endOf pos nodes
  | _, _, _, _, [], _, _, _, he, _ => by simp at he
  | [], _, _, _, _ :: _, _, _, hlen, _, _ => by simp at hlen
  | n :: rest, _, d, pos, g :: gs, .cons hl hd hrest, hlk, hlen, he, hin => by
    obtain ⟨rfl, hlk'⟩ := SeqShape.lookup_cons hl hlk
    obtain ⟨a1, a2, _⟩ := (dn_pos hS _).1 _ _ _ (hg _ _ hl) hin hd
    have hin' := InFile_of_le hin a1 a2
    obtain ⟨b1, _⟩ := (dn_pos hS _).2 _ _ _ _ hg hin' hrest
    rw [endOf_cons]
    simp only [List.any_cons, Bool.or_eq_true] at he
    cases he with
    | inl he => have := dn_eats hT he hin hd; omega
    | inr he =>
      have := dsn_eats hS hT hg gs hrest hlk' (by simpa using hlen) he hin'
      omega

theorem nest_dn {k e : Nat} {g : G} {pos : Nat} {x : Node} (h : Nest cfg L k e g pos x) : ∃ n, DN cfg L n g pos x :=
  @Nest.rec cfg L k e (fun g pos x _ => ∃ n, DN cfg L n g pos x) (fun sh d pos nodes _ => ∃ n, DSN cfg L n sh d pos nodes)
    (fun _ hd _ => ⟨_, hd⟩) (fun hl hk _ ⟨n, hn⟩ => ⟨n + 1, .ref hl hk hn⟩) (fun hl _ ⟨n, hn⟩ => ⟨n + 1, .memo hl hn⟩)
    (fun hm _ ⟨n, hn⟩ => ⟨n + 1, .any hm hn⟩) (fun _ ⟨n, hn⟩ => ⟨n + 1, .optSome hn⟩)
    (fun hs _ hl ⟨n, hn⟩ => ⟨n + 1, .seqOf hs hn hl⟩) (fun hws hmv _ ⟨n, hn⟩ => ⟨n + 1, .ltrim hws (by rw [hmv]; exact hn)⟩)
    (fun _ hok ⟨n, hn⟩ => ⟨n + 1, .rtrim hn hok⟩) (fun hl _ hds ⟨a, ha⟩ => ⟨_, .cons hl ha hds⟩)
    (fun hl hd _ _ ⟨b, hb⟩ => ⟨_, .cons hl hd hb⟩) g pos x h

/-- the nested node ends no later than the tree, and strictly earlier where the test passes -/
theorem nest_end (hS : Closed cfg L Sc) (hT : ∀ t, ¬ L.is (.term t)) {lf : G → Bool} (hlf : ∀ g, lf g = true → L.is g)
    {k e : Nat} {g : G} {pos : Nat} {x : Node} (h : Nest cfg L k e g pos x) : Sc g → InFile cfg.file pos →
      e ≤ x.rpos ∧ ∀ m, g.guardStep cfg.env lf (G.guards cfg.env lf k m) k = true → e < x.rpos :=
  @Nest.rec cfg L k e
    (fun g pos x _ => Sc g → InFile cfg.file pos →
      e ≤ x.rpos ∧ ∀ m, g.guardStep cfg.env lf (G.guards cfg.env lf k m) k = true → e < x.rpos)
    (fun sh d pos nodes _ => (∀ d g', sh.lookup d = some g' → Sc g') → InFile cfg.file pos →
      e ≤ endOf pos nodes ∧ ∀ (gs : List G) m, (∀ i, sh.lookup (d + i) = gs[i]?) → nodes.length = gs.length →
        guardSeq cfg.env lf (G.guards cfg.env lf k m) k gs = true → e < endOf pos nodes)
    (fun hl _ he _ _ => ⟨Nat.le_of_eq he.symm, fun m hgd => by
      simp only [G.guardStep, Bool.or_eq_true, bne_self_eq_false, Bool.false_and, Bool.false_eq_true, or_false] at hgd
      exact absurd (hlf _ hgd) hl⟩)
    (fun hl hk _ ih hg hin => ⟨(ih (hS.ref hg hl hk) hin).1, fun m hgd => by
      simp only [G.guardStep, hk, Bool.or_eq_true] at hgd
      cases hgd with
      | inl h1 => exact absurd (hlf _ h1) hl
      | inr h1 =>
        cases m with
        | zero => cases h1
        | succ m => exact (ih (hS.ref hg hl hk) hin).2 m h1⟩)
    (fun hl _ ih hg hin => ⟨(ih (hS.memo hg hl) hin).1, fun m hgd => by
      simp only [G.guardStep, Bool.or_eq_true, Bool.and_eq_true] at hgd
      cases hgd with
      | inl h1 => exact absurd (hlf _ h1) hl
      | inr h1 => exact (ih (hS.memo hg hl) hin).2 m h1.2⟩)
    (fun hm _ ih hg hin => ⟨(ih (hS.any hg _ hm) hin).1, fun m hgd => (ih (hS.any hg _ hm) hin).2 m (guardAll_mem hgd _ hm)⟩)
    (fun _ ih hg hin => ih (hS.optional hg) hin)
    (fun {gs} _ _ _ _ hs _ hl ih hg hin => by
      rw [handleResult_rpos]
      have hlk := hS.lookup hg hs
      simp only [G.shape, Option.some.injEq] at hs
      subst hs
      exact ⟨(ih hlk hin).1, fun m hgd => (ih hlk hin).2 gs m (fun i => by simp) (by simpa using hl) hgd⟩)
    (fun _ _ _ ih hg hin => ih (hS.ltrim hg) hin)
    (fun {g m pos x} hn _ ih hg hin => by
      obtain ⟨n, hd⟩ := nest_dn hn
      obtain ⟨a1, a2, a3⟩ := (dn_pos hS n).1 _ _ _ (hS.rtrim hg) hin hd
      obtain ⟨b1, _⟩ := InFile_skip (InFile_of_le hin a1 a2) m
      rw [moved_rpos cfg m x a3]
      exact ⟨by have := (ih (hS.rtrim hg) hin).1; omega, fun m' hgd => by have := (ih (hS.rtrim hg) hin).2 m' hgd; omega⟩)
    (fun {b sh d pos g n rest} hl hn hds ih hg hin => by
      obtain ⟨a, hd⟩ := nest_dn hn
      obtain ⟨a1, a2, _⟩ := (dn_pos hS a).1 _ _ _ (hg _ _ hl) hin hd
      have hin' := InFile_of_le hin a1 a2
      obtain ⟨b1, _⟩ := (dn_pos hS b).2 _ _ _ _ hg hin' hds
      rw [endOf_cons]
      refine ⟨by have := (ih (hg _ _ hl) hin).1; omega, fun gs m hlk hlen hgd => ?_⟩
      match gs, hlk, hlen, hgd with
      | g' :: gs', hlk, hlen, hgd =>
        obtain ⟨rfl, hlk'⟩ := SeqShape.lookup_cons hl hlk
        simp only [guardSeq, Bool.and_eq_true, Bool.or_eq_true] at hgd
        cases hgd.1 with
        | inr h1 => have := (ih (hg _ _ hl) hin).2 m h1; omega
        | inl h1 =>
          have := dsn_eats hS hT hg gs' hds hlk' (by simpa using hlen) h1 hin'
          have := (ih (hg _ _ hl) hin).1
          omega)
    (fun {a sh d pos g n rest} hl hd hz _ ih hg hin => by
      rw [endOf_cons]
      refine ⟨(ih hg (hz ▸ hin)).1, fun gs m hlk hlen hgd => ?_⟩
      match gs, hlk, hlen, hgd with
      | g' :: gs', hlk, hlen, hgd =>
        obtain ⟨rfl, hlk'⟩ := SeqShape.lookup_cons hl hlk
        simp only [guardSeq, Bool.and_eq_true, Bool.or_eq_true] at hgd
        cases hgd.2 with
        | inl h1 => have := dn_eats hT h1 hin hd; omega
        | inr h1 =>
          exact (ih hg (hz ▸ hin)).2 gs' m hlk' (by simpa using hlen) h1)
    g pos x h

/-- **a decidable sufficient condition for acyclicity**: the body of `k` passes the test for its own index -/
theorem not_nest_of_guards (hS : Closed cfg L Sc) (hT : ∀ t, ¬ L.is (.term t)) {lf : G → Bool}
    (hlf : ∀ g, lf g = true → L.is g) {k n : Nat} {g : G} (hg : Sc g) (hgd : g.guards cfg.env lf k n = true)
    {pos : Nat} (hin : InFile cfg.file pos) {x : Node} : ¬ Nest cfg L k x.rpos g pos x := fun hc => by
  cases n with
  | zero => cases hgd
  | succ n => exact Nat.lt_irrefl _ ((nest_end hS hT hlf hc hg hin).2 n hgd)

end Cut

end PV
