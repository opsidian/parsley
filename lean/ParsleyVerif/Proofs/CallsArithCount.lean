/-
  C17, the operator grammars — counting.

  The input `1 o₁ 1 … o_k 1` is described by its terms: term `i` (i ≤ s) starts at the odd position
  `q_i = 2·pre i + 1` and has `r_i` operators of `M`, `pre i = Σ_{i' < i} (r_{i'} + 1)`, `pre (s+1) = k + 1`  (`LvTerms`).
  The alternatives of every level are known up to their order (`List.Perm`): the counts depend on the numbers of
  alternatives and of operators behind them only.
  * `T` at `q_i`: level `j` returns the ends `q_i + 1 + 2t`, t < min(j, r_i + 1)                     (`TN_rpos`).
  * `E` at 1: level `j` returns the ends of the first min(j, s+1) terms                               (`EN_rpos`).
  * every `T` behind an operator of `A` starts a term (`EN_add_next`), so every call of `T` in the spine of `E` is paid by the
    potential over the term starts (`Lv.E_level`): the levels cost
        EC J = Σ_{j<J} (1 + |A|·(2 + |EN j|) + #{x ∈ EN j followed by an operator of A})                (`EC_eq`),
    the potential of the empty cache is the first runs of `T` for all terms (`phi_nil`), and it is used up once `T` has run behind
    the last end of every term (`phi_marked`).
-/
import ParsleyVerif.Proofs.CallsArith
import ParsleyVerif.Proofs.CallsEnds
namespace PV.C17b
open PV.Text PV.C17 List

/-- the ends `q + 1 + 2t`, t < m, last first -/
def tl (q : Nat) : Nat → List Nat
  | 0 => []
  | m + 1 => (q + 1 + 2 * m) :: tl q m

theorem tl_length (q : Nat) : ∀ m, (tl q m).length = m := length_of_succ_cons rfl fun _ => rfl

theorem tl_mem (q : Nat) : ∀ m p, p ∈ tl q m ↔ ∃ t, t < m ∧ p = q + 1 + 2 * t :=
  mem_iff_of_succ_cons rfl fun _ => rfl

theorem tl_map_succ (q : Nat) : ∀ m, (tl q m).map (· + 2) ++ [q + 1] = tl q (m + 1) := by
  intro m; induction m with
  | zero => rfl
  | succ m ih =>
    show (q + 1 + 2 * m + 2) :: ((tl q m).map (· + 2) ++ [q + 1]) = _
    rw [ih]; rfl

/-- the filter of `tl q m` by a predicate that holds exactly for t < r -/
theorem tl_filter_lt (q r : Nat) (p : Nat → Bool) : ∀ m, m ≤ r + 1 →
    (∀ t, t ≤ r → p (q + 1 + 2 * t) = decide (t < r)) → (tl q m).filter p = tl q (min m r) := by
  intro m
  induction m with
  | zero => intro _ _; simp [tl]
  | succ m ih =>
    intro hm hp
    have h1 := hp m (by omega)
    rw [tl, List.filter_cons, h1, ih (by omega) hp]
    by_cases h : m < r
    · have e1 : min m r = m := by omega
      have e2 : min (m + 1) r = m + 1 := by omega
      simp only [h, decide_true, ↓reduceIte, e1, e2, tl]
    · have e1 : min (m + 1) r = min m r := by omega
      simp only [h, decide_false, Bool.false_eq_true, ↓reduceIte, e1]

/-- the number of `1`s before term `i` -/
def pre (rf : Nat → Nat) : Nat → Nat
  | 0 => 0
  | i + 1 => pre rf i + rf i + 1

/-- the start of term `i` -/
def qf (rf : Nat → Nat) (i : Nat) : Nat := 2 * pre rf i + 1

theorem pre_mono (rf : Nat → Nat) : ∀ i j, i ≤ j → pre rf i ≤ pre rf j := by
  intro i j h
  induction j with
  | zero => have : i = 0 := by omega
            subst this; exact Nat.le_refl _
  | succ j ih =>
    by_cases h' : i = j + 1
    · subst h'; exact Nat.le_refl _
    · have := ih (by omega); rw [pre]; omega

theorem le_pre (rf : Nat → Nat) : ∀ m, m ≤ pre rf m := by
  intro m; induction m with
  | zero => exact Nat.le_refl _
  | succ m ih => rw [pre]; omega

theorem qf_succ (rf : Nat → Nat) (i : Nat) : qf rf (i + 1) = qf rf i + 2 * rf i + 2 := by
  unfold qf; rw [pre]; omega

theorem qf_lt (rf : Nat → Nat) : ∀ i j, i < j → qf rf i < qf rf j := by
  intro i j h
  have := pre_mono rf (i + 1) j h
  rw [pre] at this
  unfold qf; omega

/-- the ends of term `i` -/
def blk (rf : Nat → Nat) (i : Nat) : List Nat := tl (qf rf i) (rf i + 1)

/-- the ends at level `j` of `E`: the first min(j, s+1) terms, last term first -/
def BL (rf : Nat → Nat) (s : Nat) : Nat → List Nat
  | 0 => []
  | j + 1 => (if j ≤ s then blk rf j else []) ++ BL rf s j

theorem BL_length (rf : Nat → Nat) (s : Nat) : ∀ j, (BL rf s j).length = pre rf (min j (s + 1)) := by
  intro j
  induction j with
  | zero => rfl
  | succ j ih =>
    rw [BL, List.length_append, ih]
    by_cases h : j ≤ s
    · have e1 : min j (s + 1) = j := by omega
      have e2 : min (j + 1) (s + 1) = j + 1 := by omega
      simp only [h, ↓reduceIte, blk, tl_length, e1, e2, pre]
      omega
    · have e1 : min j (s + 1) = s + 1 := by omega
      have e2 : min (j + 1) (s + 1) = s + 1 := by omega
      simp only [h, ↓reduceIte, e1, e2, List.length_nil]
      omega

/-- the last end of term `i` is among the ends of level `j > i` -/
theorem BL_head_mem (rf : Nat → Nat) (s : Nat) : ∀ j i, i < min j (s + 1) → qf rf i + 1 + 2 * rf i ∈ BL rf s j := by
  intro j
  induction j with
  | zero => intro i hi; omega
  | succ j ih =>
    intro i hi
    rw [BL, List.mem_append]
    by_cases h : i = j
    · subst h
      left
      have : i ≤ s := by omega
      simp only [this, ↓reduceIte, blk]
      exact (tl_mem _ _ _).mpr ⟨rf i, by omega, rfl⟩
    · right
      exact ih i (by omega)

def starts (rf : Nat → Nat) : Nat → List Nat
  | 0 => []
  | m + 1 => qf rf m :: starts rf m

theorem starts_mem (rf : Nat → Nat) : ∀ m q, q ∈ starts rf m ↔ ∃ i, i < m ∧ q = qf rf i :=
  mem_iff_of_succ_cons rfl fun _ => rfl

theorem starts_nodup (rf : Nat → Nat) : ∀ m, (starts rf m).Nodup := by
  intro m
  induction m with
  | zero => exact List.nodup_nil
  | succ m ih =>
    rw [starts, List.nodup_cons]
    refine ⟨?_, ih⟩
    intro h
    obtain ⟨i, hi, e⟩ := (starts_mem rf m _).mp h
    have := qf_lt rf i m hi
    omega

theorem sum_range_mono (f g : Nat → Nat) : ∀ J, (∀ j, j < J → f j ≤ g j) →
    ((List.range J).map f).sum ≤ ((List.range J).map g).sum := by
  intro J
  induction J with
  | zero => intro _; exact Nat.le_refl _
  | succ J ih =>
    intro h
    rw [List.range_succ, List.map_append, List.map_append, List.sum_append, List.sum_append]
    exact Nat.add_le_add (ih fun j hj => h j (Nat.lt_succ_of_lt hj)) (by simpa using h J (Nat.lt_succ_self J))

theorem sum_range_const (B J : Nat) : ((List.range J).map fun _ => B).sum = J * B := by
  rw [List.map_const', List.sum_replicate_nat, List.length_range]

theorem sum_range_le (f : Nat → Nat) (B J : Nat) (h : ∀ j, j < J → f j ≤ B) : ((List.range J).map f).sum ≤ J * B :=
  sum_range_const B J ▸ sum_range_mono f (fun _ => B) J h

theorem filter_or_perm {α : Type} (p1 p2 : α → Bool) (hd : ∀ x, ¬ (p1 x = true ∧ p2 x = true)) (l : List α) :
    l.filter p1 ++ l.filter p2 ~ l.filter (fun x => p1 x || p2 x) := by
  -- core's `filter_append_perm` splits the right side by `p1`; what is left of it without `p1` is the `p2` part
  have e1 : (l.filter fun x => p1 x || p2 x).filter p1 = l.filter p1 := by
    rw [List.filter_filter]; exact List.filter_congr fun x _ => by cases p1 x <;> rfl
  have e2 : (l.filter fun x => p1 x || p2 x).filter (fun x => !p1 x) = l.filter p2 := by
    rw [List.filter_filter]
    exact List.filter_congr fun x _ => by
      have := hd x
      cases h1 : p1 x <;> cases h2 : p2 x <;> simp_all
  exact e1 ▸ e2 ▸ List.filter_append_perm p1 _

theorem fol_disjoint (data : Bytes) (a b p : Nat) (hab : a ≠ b) : ¬ (fol data a p = true ∧ fol data b p = true) := by
  intro ⟨h1, h2⟩
  simp only [fol, beq_iff_eq] at h1 h2
  rw [h1] at h2
  exact hab (Option.some.inj h2)

theorem split_first {α : Type} (P : α → Prop) [DecidablePred P] (l : List α) (h : ∃ x ∈ l, P x) :
    ∃ pre h rest, l = pre ++ h :: rest ∧ P h ∧ ∀ y ∈ pre, ¬ P y := by
  obtain ⟨x, hx, hp⟩ := h
  obtain ⟨b, hb⟩ := Option.isSome_iff_exists.mp
    (List.find?_isSome (p := fun x => decide (P x)) |>.mpr ⟨x, hx, decide_eq_true hp⟩)
  obtain ⟨hb, pre, rest, e, hn⟩ := List.find?_eq_some_iff_append.mp hb
  exact ⟨pre, b, rest, e, of_decide_eq_true hb, fun y hy => by simpa using hn y hy⟩

/-- splitting a list by predicates `p c`, `c ∈ ops`, that exclude one another keeps its elements -/
theorem flatMap_filter_perm {α : Type} (p : Nat → α → Bool) (hd : ∀ a b x, p a x = true → p b x = true → a = b) :
    ∀ ops : List Nat, ops.Nodup → ∀ l : List α,
      ops.flatMap (fun c => l.filter (p c)) ~ l.filter (fun x => ops.any (fun c => p c x)) := by
  intro ops
  induction ops with
  | nil => intro _ l; simp
  | cons c ops ih =>
    intro hnd l
    obtain ⟨h1, h2⟩ := List.nodup_cons.mp hnd
    rw [List.flatMap_cons]
    refine Perm.trans (Perm.append_left _ (ih h2 l)) ?_
    have := filter_or_perm (p c) (fun x => ops.any (fun c => p c x)) (fun x hx => by
      obtain ⟨b, hb, hpb⟩ := List.any_eq_true.mp hx.2
      exact h1 (hd c b x hx.1 hpb ▸ hb)) l
    simpa only [List.any_cons] using this

theorem flatMap_ite_filter {α β : Type} (q : α → Bool) (g : α → List β) (l : List α) :
    l.flatMap (fun x => if q x then g x else []) = (l.filter q).flatMap g := by
  induction l with
  | nil => rfl
  | cons x l ih =>
    by_cases h : q x = true
    · simp only [List.flatMap_cons, List.filter_cons, h, ↓reduceIte, ih]
    · simp only [List.flatMap_cons, List.filter_cons, h, ↓reduceIte, ih, Bool.false_eq_true, List.nil_append]

/-- one of the operators `ops` follows position `p - 1` -/
def anyOp (data : Bytes) (ops : List Nat) (p : Nat) : Bool := ops.any (fun c => fol data c p)

theorem fol_inj (data : Bytes) (a b p : Nat) (ha : fol data a p = true) (hb : fol data b p = true) : a = b :=
  Classical.byContradiction fun h => fol_disjoint data a b p h ⟨ha, hb⟩

/-- the input consists of the terms 0 … s, term `i` with `rf i` operators of `M`; an operator of `A` between
    consecutive terms -/
structure LvTerms (A M : List Nat) (data : Bytes) (k : Nat) (rf : Nat → Nat) (s : Nat) : Prop where
  total : pre rf (s + 1) = k + 1
  mul : ∀ i, i ≤ s → ∀ t, t ≤ rf i → anyOp data M (qf rf i + 1 + 2 * t) = decide (t < rf i)
  add : ∀ i, i ≤ s → ∀ t, t ≤ rf i → anyOp data A (qf rf i + 1 + 2 * t) = decide (t = rf i ∧ i < s)
  nodupA : A.Nodup
  nodupM : M.Nodup

namespace Lv
variable {A M : List Nat} {data : Bytes} {k s : Nat} {rf : Nat → Nat}

theorem qf_bound (ht : LvTerms A M data k rf s) (i : Nat) (hi : i ≤ s) : qf rf i + 2 * rf i ≤ 2 * k + 1 := by
  have h1 := pre_mono rf (i + 1) (s + 1) (by omega)
  rw [ht.total, pre] at h1
  unfold qf; omega

theorem mulAll_rpos (data : Bytes) (ops : List Nat) (L : List Node) :
    (mulAll data ops L).map Node.rpos = (ops.flatMap fun c => (L.map Node.rpos).filter (fol data c)).map (· + 2) := by
  rw [mulAll, List.map_flatMap, List.map_flatMap]
  congr 1
  funext c
  rw [← filter_op_rpos, List.map_map, List.map_map]
  rfl

theorem opCount_perm (hnd : ops.Nodup) (L : List Node) :
    (ops.flatMap fun c => (L.map Node.rpos).filter (fol data c)) ~ (L.map Node.rpos).filter (anyOp data ops) :=
  flatMap_filter_perm (fol data) (fol_inj data) ops hnd _

/-- `T` at `q` with `r` operators of `M` behind it: the ends, up to their order -/
theorem TN_rpos (hnd : M.Nodup) (q r : Nat) (hp : ∀ t, t ≤ r → anyOp data M (q + 1 + 2 * t) = decide (t < r)) :
    ∀ j, (TN M data q j).map Node.rpos ~ tl q (min j (r + 1)) := by
  intro j
  induction j with
  | zero => simp [TN, LN, tl]
  | succ j ih =>
    rw [TN_succ, List.map_append, mulAll_rpos]
    have h2 := Perm.trans (opCount_perm hnd _) (Perm.filter (anyOp data M) ih)
    rw [tl_filter_lt q r _ _ (Nat.min_le_right _ _) hp] at h2
    have e : min (min j (r + 1)) r + 1 = min (j + 1) (r + 1) := by omega
    rw [← e, ← tl_map_succ]
    exact Perm.append_right _ (h2.map (· + 2))

/-- the calls of the first `j` levels of the spine of `T` at a term with `r` operators, `m` operators in the grammar:
    per level `T c F`, `T` for every `c`, `F` and the 3 inside it; one `c` per alternative below, and `F` where `c` follows -/
def tcLv (m r : Nat) : Nat → Nat
  | 0 => 0
  | j + 1 => tcLv m r j + (2 * m + 4) + m * min j (r + 1) + 4 * min (min j (r + 1)) r

theorem TC_eq (hnd : M.Nodup) (q r : Nat) (hp : ∀ t, t ≤ r → anyOp data M (q + 1 + 2 * t) = decide (t < r)) :
    ∀ j, TC M data q j = tcLv M.length r j := by
  intro j
  induction j with
  | zero => rfl
  | succ j ih =>
    have hperm := TN_rpos hnd q r hp j
    have h1 : (TN M data q j).length = min j (r + 1) := by
      rw [← List.length_map (f := Node.rpos), hperm.length_eq, tl_length]
    have h2 : opCount data M (TN M data q j) = min (min j (r + 1)) r := by
      have b := Perm.trans (opCount_perm hnd _) (Perm.filter (anyOp data M) hperm)
      rw [tl_filter_lt q r _ _ (Nat.min_le_right _ _) hp] at b
      rw [opCount, b.length_eq, tl_length]
    rw [TC_succ, ih, lvOwn, h1, h2, tcLv, Nat.mul_add]
    omega

theorem tcLv_le (m r : Nat) : ∀ j, tcLv m r j ≤ j * ((m + 4) * r + 3 * m + 4) := by
  intro j
  induction j with
  | zero => simp [tcLv]
  | succ j ih =>
    have hB : (2 * m + 4) + m * min j (r + 1) + 4 * min (min j (r + 1)) r ≤ (m + 4) * r + 3 * m + 4 := by
      have h1 : m * min j (r + 1) ≤ m * (r + 1) := Nat.mul_le_mul_left _ (Nat.min_le_right _ _)
      rw [Nat.mul_add, Nat.mul_one] at h1
      rw [Nat.add_mul]
      omega
    rw [tcLv, Nat.add_mul, Nat.one_mul]
    omega

theorem TNf_rpos (ht : LvTerms A M data k rf s) (i : Nat) (hi : i ≤ s) :
    (TNf M data k (qf rf i)).map Node.rpos ~ blk rf i := by
  have := qf_bound ht i hi
  have h := TN_rpos ht.nodupM (qf rf i) (rf i) (ht.mul i hi) (2 * k + 4 - qf rf i)
  have e : min (2 * k + 4 - qf rf i) (rf i + 1) = rf i + 1 := by omega
  rw [e] at h
  exact h

/-- the `T`-ends behind an operator of `A` -/
def gAdd (M : List Nat) (data : Bytes) (k : Nat) (p : Nat) : List Nat := (TNf M data k (p + 1)).map Node.rpos

theorem pRes_rpos (M : List Nat) (data : Bytes) (k c : Nat) (l : List Node) :
    (pRes (TNf M data k) 0 1 data c l).map Node.rpos = ((l.map Node.rpos).filter (fol data c)).flatMap (gAdd M data k) := by
  rw [pRes, flatMap_ite_filter, List.map_flatMap, ← filter_op_rpos, List.flatMap_map]
  congr 1
  funext x
  rw [List.map_map]
  rfl

theorem addAll_rpos (hnd : ops.Nodup) (L : List Node) :
    (addAll (TNf M data k) 0 1 data ops L).map Node.rpos ~ ((L.map Node.rpos).filter (anyOp data ops)).flatMap (gAdd M data k) := by
  rw [addAll, List.map_flatMap]
  simp only [pRes_rpos]
  rw [← List.flatMap_assoc]
  exact Perm.flatMap_right _ (opCount_perm hnd L)

theorem blk_filter_add (ht : LvTerms A M data k rf s) (i : Nat) (hi : i ≤ s) :
    (blk rf i).filter (anyOp data A) = if i < s then [qf rf i + 1 + 2 * rf i] else [] := by
  have hrest : (tl (qf rf i) (rf i)).filter (anyOp data A) = [] := by
    apply List.filter_eq_nil_iff.mpr
    intro p hp
    obtain ⟨t, ht', rfl⟩ := (tl_mem _ _ _).mp hp
    rw [ht.add i hi t (by omega)]
    simp; omega
  rw [blk, tl, List.filter_cons, hrest, ht.add i hi (rf i) (Nat.le_refl _)]
  by_cases h : i < s <;> simp [h]

/-- what the loops of `E c T` make of the ends of term `i`: the ends of term `i+1` -/
theorem blk_flat (ht : LvTerms A M data k rf s) (i : Nat) (hi : i ≤ s) :
    ((blk rf i).filter (anyOp data A)).flatMap (gAdd M data k) ~ if i < s then blk rf (i + 1) else [] := by
  rw [blk_filter_add ht i hi]
  by_cases h : i < s
  · have e2 : qf rf i + 1 + 2 * rf i + 1 = qf rf (i + 1) := by rw [qf_succ]; omega
    simp only [h, ↓reduceIte, List.flatMap_cons, List.flatMap_nil, List.append_nil, gAdd, e2]
    exact TNf_rpos ht (i + 1) (by omega)
  · simp [h]

theorem BL_flat (ht : LvTerms A M data k rf s) : ∀ j,
    ((BL rf s j).filter (anyOp data A)).flatMap (gAdd M data k) ++ blk rf 0 ~ BL rf s (j + 1) := by
  intro j
  induction j with
  | zero => simp [BL]
  | succ j ih =>
    conv => lhs; rw [BL]
    rw [List.filter_append, List.flatMap_append, List.append_assoc]
    have hb : ((if j ≤ s then blk rf j else []).filter (anyOp data A)).flatMap (gAdd M data k) ~
        (if j + 1 ≤ s then blk rf (j + 1) else []) := by
      by_cases h : j ≤ s
      · simp only [h, ↓reduceIte]
        have := blk_flat ht j h
        by_cases h' : j < s
        · have h'' : j + 1 ≤ s := h'
          simpa [h', h''] using this
        · have h'' : ¬ j + 1 ≤ s := by omega
          simpa [h', h''] using this
      · have h'' : ¬ j + 1 ≤ s := by omega
        simp [h, h'']
    conv => rhs; rw [BL]
    exact Perm.append hb ih

/-- the ends at level `j` of `E`: those of the first min(j, s+1) terms, up to their order -/
theorem EN_rpos (ht : LvTerms A M data k rf s) : ∀ j, (EN A M data k j).map Node.rpos ~ BL rf s j := by
  intro j
  induction j with
  | zero => exact Perm.refl _
  | succ j ih =>
    rw [EN_succ, List.map_append]
    have h3 := Perm.flatMap_right (gAdd M data k) (Perm.filter (anyOp data A) ih)
    exact Perm.trans (Perm.append (Perm.trans (addAll_rpos ht.nodupA _) h3) (TNf_rpos ht 0 (Nat.zero_le _)))
      (BL_flat ht j)

theorem EN_length (ht : LvTerms A M data k rf s) (j : Nat) : (EN A M data k j).length = pre rf (min j (s + 1)) := by
  rw [← List.length_map (f := Node.rpos), (EN_rpos ht j).length_eq, BL_length]

theorem BL_add (ht : LvTerms A M data k rf s) : ∀ j, ((BL rf s j).filter (anyOp data A)).length = min j s := by
  intro j
  induction j with
  | zero => simp [BL]
  | succ j ih =>
    rw [BL, List.filter_append, List.length_append, ih]
    by_cases h : j ≤ s
    · simp only [h, ↓reduceIte]
      rw [blk_filter_add ht j h]
      split <;> simp <;> omega
    · simp only [h, ↓reduceIte, List.filter_nil, List.length_nil]
      omega

/-- the alternatives that an operator of `A` follows: one per term but the last -/
theorem EN_add (ht : LvTerms A M data k rf s) (j : Nat) : opCount data A (EN A M data k j) = min j s := by
  have b := Perm.trans (opCount_perm ht.nodupA _) (Perm.filter (anyOp data A) (EN_rpos ht j))
  rw [opCount, b.length_eq, BL_add ht]

/-- an end that an operator of `A` follows is followed by the start of a term -/
theorem BL_add_next (ht : LvTerms A M data k rf s) : ∀ j p, p ∈ BL rf s j → anyOp data A p = true →
    ∃ i, i < min j s ∧ p + 1 = qf rf (i + 1) := by
  intro j
  induction j with
  | zero => intro p hp; cases hp
  | succ j ih =>
    intro p hp h43
    rw [BL, List.mem_append] at hp
    rcases hp with hp | hp
    · by_cases h : j ≤ s
      · simp only [h, ↓reduceIte, blk] at hp
        obtain ⟨t, ht', rfl⟩ := (tl_mem _ _ _).mp hp
        rw [ht.add j h t (by omega)] at h43
        simp only [decide_eq_true_eq] at h43
        refine ⟨j, by omega, ?_⟩
        rw [qf_succ, h43.1]; omega
      · simp [h] at hp
    · obtain ⟨i, hi, e⟩ := ih p hp h43
      exact ⟨i, by omega, e⟩

theorem starts_le (ht : LvTerms A M data k rf s) : ∀ q ∈ starts rf (s + 1), q ≤ 2 * k + 1 := by
  intro q hq
  obtain ⟨i, hi, rfl⟩ := (starts_mem rf _ _).mp hq
  have := qf_bound ht i (by omega)
  omega

theorem EN_add_next (ht : LvTerms A M data k rf s) (c : Nat) (hc : c ∈ A) (j : Nat) :
    ∀ x ∈ EN A M data k j, isOp data c x = true → x.rpos + 1 ∈ starts rf (s + 1) := by
  intro x hx hp
  have hm : x.rpos ∈ BL rf s j := (EN_rpos ht j).mem_iff.mp (List.mem_map_of_mem hx)
  obtain ⟨i, hi, e⟩ := BL_add_next ht j x.rpos hm (List.any_eq_true.mpr ⟨c, hc, hp⟩)
  exact (starts_mem rf _ _).mpr ⟨i + 1, by omega, e⟩

/-- the first runs of `T` for the terms 0 … m-1 -/
def firstRunsK (m k : Nat) (rf : Nat → Nat) : Nat → Nat
  | 0 => 0
  | i + 1 => tcLv m (rf i) (2 * k + 4 - qf rf i) + firstRunsK m k rf i

theorem phi_nil (ht : LvTerms A M data k rf s) : ∀ m, m ≤ s + 1 →
    phi M data k (starts rf m) [] = firstRunsK M.length k rf m := by
  intro m
  induction m with
  | zero => intro _; rfl
  | succ m ih =>
    intro hm
    have := ih (by omega)
    simp only [phi, starts, List.map_cons, List.sum_cons, firstRunsK] at this ⊢
    rw [this]
    congr 1
    show TCf M data k (qf rf m) = _
    rw [TCf, TC_eq ht.nodupM (qf rf m) (rf m) (ht.mul m (by omega))]

theorem terms_le (ht : LvTerms A M data k rf s) : s ≤ k := by
  have := le_pre rf (s + 1)
  rw [ht.total] at this
  omega

/-- **the call count of the spine of `E`** on the input with `k` operators whose terms 0 … s have `rf i` operators of
    `M` (`a`, `m`: the numbers of operators of the grammar): per level `E c T`, `E` for every `c`, `T`; one `c` per
    alternative of the level below (the ends of its first min(j, s+1) terms) and one `T` per operator of `A` behind them;
    the first run of `T` for every term -/
def arCountK (a m k s : Nat) (rf : Nat → Nat) : Nat :=
  ((List.range (2 * k + 3)).map (fun j => 1 + a * (2 + pre rf (min j (s + 1))) + min j s)).sum +
    firstRunsK m k rf (s + 1)

theorem EC_eq (ht : LvTerms A M data k rf s) : ∀ J,
    EC A M data k J = ((List.range J).map (fun j => 1 + A.length * (2 + pre rf (min j (s + 1))) + min j s)).sum
  | 0 => rfl
  | J + 1 => by
    rw [EC_succ, EC_eq ht J, lvOwn, EN_length ht J, EN_add ht J, List.range_succ, List.map_append, List.sum_append]
    simp only [List.map_cons, List.map_nil, List.sum_cons, List.sum_nil]
    omega

theorem EC_exact (ht : LvTerms A M data k rf s) :
    EC A M data k (2 * k + 3) + phi M data k (starts rf (s + 1)) [] = arCountK A.length M.length k s rf := by
  rw [EC_eq ht, phi_nil ht _ (Nat.le_refl _), arCountK]

/-- once `T` has been called at position 1 and behind every alternative of level 2k+2 of `E` that an operator of `A`
    follows, it has run at every term start: nothing is left of the potential -/
theorem phi_marked (ht : LvTerms A M data k rf s) (K : Cache)
    (hm : Marked (fun p K => hasT K p) (TNf M data k) 0 1 data A 1 (2 * k + 2 + 1) K) :
    phi M data k (starts rf (s + 1)) K = 0 := by
  have hs := terms_le ht
  apply List.sum_eq_zero_iff_forall_eq_nat.mpr
  intro c hc
  obtain ⟨q, hq, rfl⟩ := List.mem_map.mp hc
  obtain ⟨i, hi, rfl⟩ := (starts_mem rf _ _).mp hq
  have : hasT K (qf rf i) := by
    cases i with
    | zero => exact hm.1
    | succ i =>
      obtain ⟨x, hx, hxe⟩ := List.mem_map.mp ((EN_rpos ht (2 * k + 2)).mem_iff.mpr (BL_head_mem rf s (2 * k + 2) i (by omega)))
      have hadd := ht.add i (by omega) (rf i) (Nat.le_refl _)
      rw [show decide (rf i = rf i ∧ i < s) = true by simp; omega, ← hxe] at hadd
      obtain ⟨c, hc, hp⟩ := List.any_eq_true.mp hadd
      have := hm.2 c hc x hx hp
      rwa [hxe, show qf rf i + 1 + 2 * rf i + 1 = qf rf (i + 1) by rw [qf_succ]; omega] at this
  unfold hasT at this
  rw [this]
  rfl

theorem firstRunsK_le (m : Nat) : ∀ i, firstRunsK m k rf i ≤ (2 * k + 3) * ((m + 4) * pre rf i + 2 * m * i) := by
  intro i
  induction i with
  | zero => simp [firstRunsK]
  | succ i ih =>
    have h2 : tcLv m (rf i) (2 * k + 4 - qf rf i) ≤ (2 * k + 3) * ((m + 4) * rf i + 3 * m + 4) :=
      Nat.le_trans (tcLv_le m (rf i) _) (Nat.mul_le_mul_right _ (by unfold qf; omega))
    have e : (m + 4) * pre rf (i + 1) + 2 * m * (i + 1) =
        ((m + 4) * rf i + 3 * m + 4) + ((m + 4) * pre rf i + 2 * m * i) := by
      rw [pre, Nat.mul_add, Nat.mul_add, Nat.mul_add, Nat.add_mul]; omega
    rw [firstRunsK, e, Nat.mul_add]
    omega

/-- **at most (2k+3)((a+3m+5)k + 3a+3m+5) calls in the spine of `E`** (k operators, n = 2k+1 characters) -/
theorem arCountK_le (a m : Nat) (ht : LvTerms A M data k rf s) :
    arCountK a m k s rf ≤ (2 * k + 3) * ((a + 3 * m + 5) * k + (3 * a + 3 * m + 5)) := by
  have hs := terms_le ht
  have h1 : ((List.range (2 * k + 3)).map (fun j => 1 + a * (2 + pre rf (min j (s + 1))) + min j s)).sum ≤
      (2 * k + 3) * (1 + a * (k + 3) + k) := by
    apply sum_range_le
    intro j _
    have := pre_mono rf (min j (s + 1)) (s + 1) (Nat.min_le_right _ _)
    rw [ht.total] at this
    have : a * (2 + pre rf (min j (s + 1))) ≤ a * (k + 3) := Nat.mul_le_mul_left _ (by omega)
    omega
  have h2 := firstRunsK_le (k := k) (rf := rf) m (s + 1)
  rw [ht.total] at h2
  have h3 : (2 * k + 3) * ((m + 4) * (k + 1) + 2 * m * (s + 1)) ≤ (2 * k + 3) * ((3 * m + 4) * (k + 1)) := by
    apply Nat.mul_le_mul_left
    have h4 : m * (s + 1) ≤ m * (k + 1) := Nat.mul_le_mul_left _ (by omega)
    rw [Nat.add_mul, Nat.add_mul, Nat.mul_assoc 2 m, Nat.mul_assoc 3 m]
    omega
  have e : (a + 3 * m + 5) * k + (3 * a + 3 * m + 5) = (1 + a * (k + 3) + k) + (3 * m + 4) * (k + 1) := by
    simp only [Nat.add_mul, Nat.mul_add, Nat.mul_one]; omega
  rw [arCountK, e, Nat.mul_add]
  omega

variable {cfg : Cfg}

/-- among the alternatives of the top level of `E` one spans the input; at most `k` come before the first that does -/
theorem EN_spans (hc : IsLv A M k cfg) (ht : LvTerms A M cfg.file.data k rf s) :
    ∃ pre' h rest, EN A M cfg.file.data k (2 * k + 3) = pre' ++ h :: rest ∧ h.rpos = 2 * k + 2 ∧
      (∀ y ∈ pre', 1 < y.rpos ∧ y.rpos < 2 * k + 2) ∧ pre'.length ≤ k := by
  have hs := terms_le ht
  have hmem : 2 * k + 2 ∈ BL rf s (2 * k + 3) := by
    have := BL_head_mem rf s (2 * k + 3) s (by omega)
    have hq := ht.total
    rw [pre] at hq
    rwa [show qf rf s + 1 + 2 * rf s = 2 * k + 2 by unfold qf; omega] at this
  obtain ⟨x0, hx0, hx0e⟩ := List.mem_map.mp ((EN_rpos ht (2 * k + 3)).mem_iff.mpr hmem)
  obtain ⟨pre', h, rest, hL, hh, hpre⟩ := split_first (fun x : Node => x.rpos = 2 * k + 2) _ ⟨x0, hx0, hx0e⟩
  refine ⟨pre', h, rest, hL, hh, fun y hy => ?_, ?_⟩
  · obtain ⟨g1, _, g3, _⟩ := EN_good hc (2 * k + 3) y (by rw [hL]; exact List.mem_append_left _ hy)
    have := hpre y hy
    omega
  · have h3 := EN_length ht (2 * k + 3)
    rw [hL, List.length_append, List.length_cons] at h3
    have := pre_mono rf (min (2 * k + 3) (s + 1)) (s + 1) (Nat.min_le_right _ _)
    rw [ht.total] at this
    omega

/-- **the operator grammar on any input `1 o₁ 1 … o_k 1`**: the parse succeeds; its calls are those of the spine of `E`
    (`arCountK`: the levels and the first runs of `T`, `arCountK_le`), one for the element of Sentence, and one `End` per
    alternative up to the first that spans the input (at most k+1; the first one when the alternatives come out by
    decreasing end) -/
theorem lv_parse (hc : IsLv A M k cfg) (ht : LvTerms A M cfg.file.data k rf s) :
    ∃ p, parse cfg (24 * k + 50) (G.sentence (.ref 0)) = some p ∧ p.err = none ∧ p.res.isNil = false ∧
      arCountK A.length M.length k s rf + 2 ≤ p.st.calls ∧ p.st.calls ≤ arCountK A.length M.length k s rf + k + 2 ∧
      ((EN A M cfg.file.data k (2 * k + 3)).Pairwise (fun x y => x.rpos > y.rpos) →
        p.st.calls = arCountK A.length M.length k s rf + 2) := by
  obtain ⟨pre', h, rest, hL, hh, hpre, hl⟩ := EN_spans hc ht
  have hlen : cfg.file.len = 2 * k + 1 := hc.len
  have lvl := E_level hc (starts_nodup rf (s + 1))
    (fun q hq => ⟨by obtain ⟨i, _, rfl⟩ := (starts_mem rf _ _).mp hq; unfold qf; omega, starts_le ht q hq⟩)
    ((starts_mem rf _ _).mpr ⟨0, by omega, rfl⟩) (fun j c hcA x hx ho => EN_add_next ht c hcA j x hx ho) (2 * k + 3) 0 rfl
  rw [if_neg (by omega), hL] at lvl
  have top : Runs cfg Z (24 * k + 46 + 2) (lvE A) [] 1 (· = []) (pre' ++ h :: rest) [0, 1]
      (arCountK A.length M.length k s rf) (fun _ => True) :=
    Runs.of_eq rfl rfl (EC_exact ht)
      ((Runs.discharge (K0 := []) ((lvl.mono (by omega)).weaken fun K (hK : K = []) => by
          subst hK; exact ⟨fun q e he => (nomatch he), trivial, rfl⟩)
        fun K hK => phi_marked ht K hK.2.2.2).post fun _ _ => trivial)
  obtain ⟨p, h1, h2, h3, h4⟩ := Runs.sentence_parse hc.max (by simp [File.pos, hc.off])
    (show cfg.env[0]? = some (lvE A) by rw [hc.env]; rfl) top
    (fun y hy => ⟨(hpre y hy).1, by simp only [isEOF, hc.off, hlen]; have := (hpre y hy).2; simp; omega⟩) (by omega)
    (by simp only [isEOF, hc.off, hh, hlen]; simp)
  refine ⟨p, h1, h2, h3, by omega, by omega, fun hsort => ?_⟩
  rw [hL] at hsort
  cases pre' with
  | nil => rw [h4]; rfl
  | cons y _ =>
    have := (List.pairwise_append.mp hsort).2.2 y (List.mem_cons_self ..) h (List.mem_cons_self ..)
    have := (hpre y (List.mem_cons_self ..)).2
    omega

end Lv
end PV.C17b
