/-
  Facts about the value-level helpers of the parser core, none about `run` but `parse_eq`, `parse_answer`, `parse_of_ok` and
  `parse_msg_form` (`parse` read through the run it wraps): AppendNode, the result cache, the
  left-recursion context and its filter, error selection (`pickErr`; `altErr` through its one case lemma
  `altErr_some_cases`), SetError and the ghost log, the union of curtailing sets (IntSet.Union), SkipWhitespaces and
  the reader positions RightTrim sets (`setRposNode_notEof`, `setRposRes_alts`), the result handler of the Sequence
  family (`handleResult_cases`).
-/
import ParsleyVerif.Spec.Core
import ParsleyVerif.Proofs.Reader
namespace PV
open PV.Text

theorem noAlt {P : Node → Prop} : ∀ x ∈ Res.nil.alts, P x := fun _ h => nomatch h
theorem noErr {P : Err → Prop} : ∀ e, (none : Option Err) = some e → P e := fun _ h => nomatch h

theorem mem_nlAppend1 (nl : List Node) (n x : Node) (h : x ∈ nlAppend1 nl n) : x ∈ nl ∨ x = n := by
  unfold nlAppend1 at h
  split at h
  · split at h
    · exact .inl h
    · simpa using h
  · simpa using h

/-- what a left fold holds (`M`) when each step adds at most its argument (`nlAppend1`; `appendNode` of one node) -/
theorem mem_foldl_of_step {α β : Type} {f : β → α → β} {M : β → α → Prop}
    (hstep : ∀ acc y x, M (f acc y) x → M acc x ∨ x = y) :
    ∀ (l : List α) (acc : β) (x : α), M (l.foldl f acc) x → M acc x ∨ x ∈ l
  | [], _, _, h => .inl h
  | y :: l, acc, x, h =>
    (mem_foldl_of_step hstep l (f acc y) x h).elim
      (fun h1 => (hstep acc y x h1).imp id fun (h2 : x = y) => h2 ▸ List.mem_cons_self ..)
      (fun h1 => .inr (List.mem_cons_of_mem _ h1))

theorem mem_foldl_nlAppend1 (l : List Node) : ∀ (nl : List Node) (x : Node),
    x ∈ l.foldl nlAppend1 nl → x ∈ nl ∨ x ∈ l :=
  mem_foldl_of_step (M := fun nl x => x ∈ nl) mem_nlAppend1 l

theorem mem_nlAppend (nl : List Node) (b : Res) (x : Node) (h : x ∈ nlAppend nl b) : x ∈ nl ∨ x ∈ b.alts := by
  cases b with
  | nil => exact .inl h
  | one n =>
    cases mem_nlAppend1 _ _ _ h with
    | inl h1 => exact .inl h1
    | inr h1 => exact .inr (by simp [Res.alts, h1])
  | list l => exact mem_foldl_nlAppend1 l nl x h

theorem mem_appendNode (a b : Res) (x : Node) (h : x ∈ (appendNode a b).alts) : x ∈ a.alts ∨ x ∈ b.alts := by
  cases a with
  | nil => exact .inr (by simpa [appendNode] using h)
  | one n =>
    cases b with
    | nil => exact .inl (by simpa [appendNode] using h)
    | one m =>
      simp only [appendNode, Res.alts] at h
      cases mem_nlAppend [n] (.one m) x h with
      | inl h1 => exact .inl (by simpa [Res.alts] using h1)
      | inr h1 => exact .inr h1
    | list l =>
      simp only [appendNode, Res.alts] at h
      cases mem_nlAppend [n] (.list l) x h with
      | inl h1 => exact .inl (by simpa [Res.alts] using h1)
      | inr h1 => exact .inr h1
  | list la =>
    cases b with
    | nil => exact .inl (by simpa [appendNode] using h)
    | one m =>
      simp only [appendNode, Res.alts] at h
      exact mem_nlAppend la (.one m) x h
    | list l =>
      simp only [appendNode, Res.alts] at h
      exact mem_nlAppend la (.list l) x h

theorem mem_nlAppend1_left (nl : List Node) (n x : Node) (h : x ∈ nl) : x ∈ nlAppend1 nl n := by
  unfold nlAppend1
  split
  · split
    · exact h
    · exact List.mem_append_left _ h
  · exact List.mem_append_left _ h

theorem mem_nlAppend1_self (nl : List Node) (n : Node) : n ∈ nlAppend1 nl n := by
  unfold nlAppend1
  split
  · rename_i p
    split
    · rename_i hany
      obtain ⟨y, hy, hye⟩ := List.any_eq_true.mp hany
      cases y with
      | empty q =>
        simp only [Node.isEmptyAt, beq_iff_eq] at hye
        subst hye; exact hy
      | term _ _ _ _ => simp [Node.isEmptyAt] at hye
      | eof _ => simp [Node.isEmptyAt] at hye
      | nt _ _ _ _ _ => simp [Node.isEmptyAt] at hye
    · simp
  · simp

theorem mem_foldl_nlAppend1_left (l : List Node) : ∀ (nl : List Node) (x : Node), x ∈ nl → x ∈ l.foldl nlAppend1 nl := by
  induction l with
  | nil => intro nl x h; exact h
  | cons n l ih => intro nl x h; rw [List.foldl_cons]; exact ih _ _ (mem_nlAppend1_left nl n x h)

theorem mem_foldl_nlAppend1_right (l : List Node) : ∀ (nl : List Node) (x : Node), x ∈ l → x ∈ l.foldl nlAppend1 nl := by
  induction l with
  | nil => intro nl x h; cases h
  | cons n l ih =>
    intro nl x h
    rw [List.foldl_cons]
    cases h with
    | head => exact mem_foldl_nlAppend1_left l _ _ (mem_nlAppend1_self nl n)
    | tail _ hm => exact ih _ _ hm

theorem mem_nlAppend_left (nl : List Node) (b : Res) (x : Node) (h : x ∈ nl) : x ∈ nlAppend nl b := by
  cases b with
  | nil => exact h
  | one n => exact mem_nlAppend1_left nl n x h
  | list l => exact mem_foldl_nlAppend1_left l nl x h

theorem mem_nlAppend_right (nl : List Node) (b : Res) (x : Node) (h : x ∈ b.alts) : x ∈ nlAppend nl b := by
  cases b with
  | nil => cases h
  | one n =>
    simp only [Res.alts, List.mem_singleton] at h
    subst h; exact mem_nlAppend1_self nl x
  | list l => exact mem_foldl_nlAppend1_right l nl x h

/-- the converse of `mem_appendNode`: only an EMPTY node equal to one already present is skipped -/
theorem mem_appendNode_left (a b : Res) (x : Node) (h : x ∈ a.alts) : x ∈ (appendNode a b).alts := by
  cases a with
  | nil => cases h
  | one n =>
    cases b with
    | nil => exact h
    | one m => exact mem_nlAppend_left [n] (.one m) x h
    | list l => exact mem_nlAppend_left [n] (.list l) x h
  | list la =>
    cases b with
    | nil => exact h
    | one m => exact mem_nlAppend_left la (.one m) x h
    | list l => exact mem_nlAppend_left la (.list l) x h

theorem mem_appendNode_right (a b : Res) (x : Node) (h : x ∈ b.alts) : x ∈ (appendNode a b).alts := by
  cases a with
  | nil => simpa [appendNode] using h
  | one n =>
    cases b with
    | nil => cases h
    | one m => exact mem_nlAppend_right [n] (.one m) x h
    | list l => exact mem_nlAppend_right [n] (.list l) x h
  | list la =>
    cases b with
    | nil => cases h
    | one m => exact mem_nlAppend_right la (.one m) x h
    | list l => exact mem_nlAppend_right la (.list l) x h

theorem mem_appendNode_iff (a b : Res) (x : Node) : x ∈ (appendNode a b).alts ↔ x ∈ a.alts ∨ x ∈ b.alts :=
  ⟨mem_appendNode a b x, fun h => h.elim (mem_appendNode_left a b x) (mem_appendNode_right a b x)⟩

theorem appendNode_isNil (a b : Res) : (appendNode a b).isNil = (a.isNil && b.isNil) := by
  cases a <;> cases b <;> rfl

theorem appendNode_nil_inv {a b : Res} (h : (appendNode a b).isNil = true) : a.isNil = true ∧ b.isNil = true := by
  rw [appendNode_isNil] at h; simpa using h

theorem appendNode_one_not_nil (a : Res) (n : Node) : (appendNode a (.one n)).isNil = false := by
  rw [appendNode_isNil]; simp [Res.isNil]

theorem alts_nil_of_isNil {r : Res} (h : r.isNil = true) : r.alts = [] := by
  cases r <;> simp_all [Res.isNil, Res.alts]

theorem isNil_false_of_mem {r : Res} {x : Node} (h : x ∈ r.alts) : r.isNil = false := by
  cases r with
  | nil => cases h
  | one n => rfl
  | list l => rfl

theorem isNil_iff (r : Res) : r.isNil = true ↔ r = .nil := by
  cases r <;> simp [Res.isNil]

theorem cacheGet_some {c : List CacheEntry} {idx pos : Nat} {ctx : Ctx} {e : CacheEntry}
    (h : cacheGet c idx pos ctx = some e) : e ∈ c ∧ e.idx = idx ∧ e.pos = pos := by
  unfold cacheGet at h
  split at h
  · cases h
  · rename_i e' hf
    split at h
    · cases h
      have := List.find?_some hf
      have hm := List.mem_of_find?_eq_some hf
      simp only [Bool.and_eq_true, beq_iff_eq] at this
      exact ⟨hm, this.1, this.2⟩
    · cases h

theorem mem_cacheSave {c : List CacheEntry} {e x : CacheEntry} (h : x ∈ cacheSave c e) : x = e ∨ x ∈ c := by
  unfold cacheSave at h
  cases h with
  | head => exact .inl rfl
  | tail _ hm => exact .inr (List.mem_filter.mp hm).1

theorem Ctx.get_nil (k : Nat) : Ctx.get [] k = 0 := rfl

theorem find_map_of_pres {α : Type} (f : α → α) (p : α → Bool) (h : ∀ x, p (f x) = p x) :
    ∀ l : List α, List.find? p (l.map f) = (l.find? p).map f := by
  intro l
  induction l with
  | nil => rfl
  | cons x l ih =>
    simp only [List.map_cons, List.find?_cons, h]
    cases p x with
    | true => rfl
    | false => exact ih

def incF (k : Nat) (kv : Nat × Nat) : Nat × Nat := if kv.1 == k then (kv.1, kv.2 + 1) else kv

theorem incF_fst (k : Nat) (kv : Nat × Nat) : (incF k kv).1 = kv.1 := by
  unfold incF; split <;> rfl

theorem find_map_inc (k j : Nat) (c : Ctx) :
    List.find? (fun kv => kv.1 == j) (c.map (incF k)) = (List.find? (fun kv => kv.1 == j) c).map (incF k) :=
  find_map_of_pres (incF k) (fun kv => kv.1 == j) (fun x => by simp only [incF_fst]) c

theorem Ctx.inc_eq (c : Ctx) (k : Nat) :
    Ctx.inc c k = if c.any (·.1 == k) then c.map (incF k) else c ++ [(k, 1)] := rfl

theorem Ctx.get_inc_self (c : Ctx) (k : Nat) : Ctx.get (Ctx.inc c k) k = Ctx.get c k + 1 := by
  rw [Ctx.inc_eq]
  unfold Ctx.get
  split
  · rename_i hany
    rw [find_map_inc]
    cases hf : List.find? (fun kv => kv.1 == k) c with
    | none =>
      have := List.find?_eq_none.mp hf
      simp only [List.any_eq_true] at hany
      obtain ⟨x, hx, hxk⟩ := hany
      exact absurd hxk (by simpa using this x hx)
    | some kv =>
      have hk := List.find?_some hf
      simp only [Option.map_some, Option.getD_some]
      unfold incF
      simp [hk]
  · rename_i hany
    have hnone : List.find? (fun kv => kv.1 == k) c = none := by
      apply List.find?_eq_none.mpr
      intro x hx hxk
      exact hany (List.any_eq_true.mpr ⟨x, hx, hxk⟩)
    rw [List.find?_append, hnone]
    simp

theorem Ctx.get_inc_other (c : Ctx) (k j : Nat) (h : j ≠ k) : Ctx.get (Ctx.inc c k) j = Ctx.get c j := by
  rw [Ctx.inc_eq]
  unfold Ctx.get
  split
  · rw [find_map_inc]
    cases hf : List.find? (fun kv => kv.1 == j) c with
    | none => rfl
    | some kv =>
      have hj := List.find?_some hf
      simp only [beq_iff_eq] at hj
      have hkj : (kv.1 == k) = false := by
        simp only [beq_eq_false_iff_ne, ne_eq, hj]; exact h
      simp only [Option.map_some, Option.getD_some]
      unfold incF
      simp [hkj]
  · rw [List.find?_append]
    cases hf : List.find? (fun kv => kv.1 == j) c with
    | none =>
      have : (k == j) = false := by
        simp only [beq_eq_false_iff_ne, ne_eq]; exact fun e => h e.symm
      simp [this]
    | some kv => simp

theorem get_pos_mem {ctx : Ctx} {j : Nat} (h : 1 ≤ ctx.get j) : ∃ kv ∈ ctx, kv.1 = j ∧ kv.2 = ctx.get j := by
  unfold Ctx.get at h ⊢
  cases hf : List.find? (fun kv => kv.1 == j) ctx with
  | none => simp [hf] at h
  | some kv =>
    have hm := List.mem_of_find?_eq_some hf
    have hk := List.find?_some hf
    simp only [beq_iff_eq] at hk
    exact ⟨kv, hm, hk, by simp⟩

/-- a hit means: every counter STORED with the entry is at most the current one -/
theorem cacheGet_ctx {c : List CacheEntry} {idx pos : Nat} {ctx : Ctx} {e : CacheEntry}
    (h : cacheGet c idx pos ctx = some e) : ∀ kv ∈ e.ctx, kv.2 ≤ ctx.get kv.1 := by
  unfold cacheGet at h
  split at h
  · cases h
  · rename_i e' hf
    split at h
    · rename_i hall
      cases h
      intro kv hkv
      have := List.all_eq_true.mp hall kv hkv
      simpa using this
    · cases h

theorem cacheGet_live {cch : List CacheEntry} {idx pos : Nat} {ctx : Ctx} {e : CacheEntry}
    (h : cacheGet cch idx pos ctx = some e) (j : Nat) (hj : 1 ≤ e.ctx.get j) : 1 ≤ ctx.get j := by
  obtain ⟨kv, hm, hk1, hk2⟩ := get_pos_mem hj
  have := cacheGet_ctx h kv hm
  rw [hk1] at this
  omega

theorem find_filter {α : Type} (p q : α → Bool) (h : ∀ x, p x = true → q x = true) :
    ∀ l : List α, (l.filter q).find? p = l.find? p
  | [] => rfl
  | x :: l => by
    have ih := find_filter p q h l
    cases hq : q x with
    | true =>
      rw [List.filter_cons_of_pos hq, List.find?_cons, List.find?_cons]
      cases p x with
      | true => rfl
      | false => exact ih
    | false =>
      have hp : p x = false := by
        cases hp : p x with
        | false => rfl
        | true => rw [h x hp] at hq; cases hq
      rw [List.filter_cons_of_neg (by simp [hq]), List.find?_cons, hp]
      exact ih

theorem get_filter {ctx : Ctx} {keys : List Nat} {j : Nat} (hj : j ∈ keys) : (ctx.filter keys).get j = ctx.get j := by
  unfold Ctx.get Ctx.filter
  rw [find_filter (fun kv : Nat × Nat => kv.1 == j) (fun kv => keys.contains kv.1)]
  intro x hx
  simp only [beq_iff_eq] at hx
  rw [hx]
  simpa using hj

theorem pickErr_cases (cur new : Option Err) : pickErr cur new = cur ∨ pickErr cur new = new := by
  unfold pickErr
  cases new with
  | none => exact .inl rfl
  | some e =>
    cases cur with
    | none => exact .inr rfl
    | some c => simp only; split <;> simp

theorem pickErr_isSome (cur new : Option Err) : (pickErr cur new).isSome = (cur.isSome || new.isSome) := by
  cases new with
  | none => simp [pickErr]
  | some e =>
    cases cur with
    | none => simp [pickErr]
    | some c => simp only [pickErr]; split <;> simp

theorem pickErr_ne_left {a b : Option Err} (h : a ≠ none) : pickErr a b ≠ none := by
  rw [← Option.isSome_iff_ne_none, pickErr_isSome, Option.isSome_iff_ne_none.mpr h]; rfl

theorem pickErr_ne_right {a b : Option Err} (h : b ≠ none) : pickErr a b ≠ none := by
  rw [← Option.isSome_iff_ne_none, pickErr_isSome, Option.isSome_iff_ne_none.mpr h, Bool.or_true]

theorem setError_ctxErr (st : St) (e : Option Err) :
    ((st.setError e).ctxErr = st.ctxErr ∨ (st.setError e).ctxErr = e) ∧
    (st.setError e).cache = st.cache ∧ (st.setError e).active = st.active ∧
    (st.setError e).log = st.log ∧ (st.setError e).calls = st.calls := by
  unfold St.setError
  cases e with
  | none => simp
  | some e =>
    simp only
    split
    · simp
    · split <;> simp

theorem setError_cache (st : St) (e : Option Err) : (st.setError e).cache = st.cache := (setError_ctxErr st e).2.1
theorem setError_active (st : St) (e : Option Err) : (st.setError e).active = st.active := (setError_ctxErr st e).2.2.1
theorem setError_log (st : St) (e : Option Err) : (st.setError e).log = st.log := (setError_ctxErr st e).2.2.2.1
theorem setError_calls (st : St) (e : Option Err) : (st.setError e).calls = st.calls := (setError_ctxErr st e).2.2.2.2

/-- under `StOK_setError`, `StErrOK_setError`, `PSt_setError` -/
theorem setError_ctxErr_of {st : St} {e : Option Err} {P : Err → Prop} (h : ∀ er, st.ctxErr = some er → P er)
    (he : ∀ er, e = some er → P er) : ∀ er, (st.setError e).ctxErr = some er → P er :=
  fun er her => (setError_ctxErr st e).1.elim (fun h1 => h er (h1 ▸ her)) (fun h1 => he er (h1 ▸ her))

/-- what `SetError` at the end of Any / Choice / Sequence leaves alone -/
theorem St.frame_of_or {st st' : St} {e : Option Err} (h : st' = st ∨ st' = st.setError e) :
    st'.cache = st.cache ∧ st'.active = st.active ∧ st'.log = st.log ∧ st'.calls = st.calls := by
  rcases h with h | h <;> rw [h]
  · exact ⟨rfl, rfl, rfl, rfl⟩
  · exact (setError_ctxErr st e).2

/-- the context-error relocation of LeftTrim never changes the context: SetError keeps the furthest
    error, and the relocated error is never further than the one it replaces -/
theorem setError_back (st : St) (ce : Err) (pos : Nat) (hce : st.ctxErr = some ce) (h : pos ≤ ce.pos) :
    st.setError (some ⟨pos, ce.kind⟩) = st := by
  simp only [St.setError, hce]
  split
  · rename_i hge
    have : pos = ce.pos := by simp only [ge_iff_le] at hge; omega
    cases st; cases ce; simp_all
  · rfl

theorem altErr_none (pos : Nat) (a : AltSt) : altErr pos a none = a := rfl

/-- what (*Any / *Choice) make of a new error: it replaces `err` when it is at least as far and either beyond the
    position of the combinator or not a not-found error; a not-found error at the position goes to `nf`; an error
    short of the one already held is dropped -/
theorem altErr_some_cases (pos : Nat) (a : AltSt) (e2 : Err) :
    (altErr pos a (some e2) = { a with err := some e2 } ∧ (∀ c, a.err = some c → c.pos ≤ e2.pos) ∧
      (e2.pos > pos ∨ e2.kind.isNotFound = false)) ∨
    (altErr pos a (some e2) = { a with nf := some e2 } ∧ (∀ c, a.err = some c → c.pos ≤ e2.pos) ∧ e2.pos ≤ pos ∧
      e2.kind.isNotFound = true) ∨
    (altErr pos a (some e2) = a ∧ ∃ c, a.err = some c ∧ e2.pos < c.pos) := by
  cases ha : a.err with
  | none =>
    by_cases h2 : e2.pos > pos
    · exact .inl ⟨by simp [altErr, ha, h2], nofun, .inl h2⟩
    · cases hk : e2.kind.isNotFound
      · exact .inl ⟨by simp [altErr, ha, h2, hk], nofun, .inr rfl⟩
      · exact .inr (.inl ⟨by simp [altErr, ha, h2, hk], nofun, Nat.le_of_not_lt h2, rfl⟩)
  | some c =>
    by_cases h1 : e2.pos ≥ c.pos
    · by_cases h2 : e2.pos > pos
      · exact .inl ⟨by simp [altErr, ha, h1, h2], fun c' hc' => by cases hc'; exact h1, .inl h2⟩
      · cases hk : e2.kind.isNotFound
        · exact .inl ⟨by simp [altErr, ha, h1, h2, hk], fun c' hc' => by cases hc'; exact h1, .inr rfl⟩
        · exact .inr (.inl ⟨by simp [altErr, ha, h1, h2, hk], fun c' hc' => by cases hc'; exact h1, Nat.le_of_not_lt h2, rfl⟩)
    · exact .inr (.inr ⟨by simp [altErr, ha, h1], c, rfl, Nat.lt_of_not_le h1⟩)

theorem altErr_fields (pos : Nat) (a : AltSt) (e : Option Err) :
    (altErr pos a e).cp = a.cp ∧ (altErr pos a e).res = a.res ∧
    ((altErr pos a e).err = a.err ∨ (altErr pos a e).err = e) ∧
    ((altErr pos a e).nf = a.nf ∨ (altErr pos a e).nf = e) := by
  cases e with
  | none => exact ⟨rfl, rfl, .inl rfl, .inl rfl⟩
  | some e2 =>
    rcases altErr_some_cases pos a e2 with ⟨h, _⟩ | ⟨h, _⟩ | ⟨h, _⟩ <;> rw [h]
    · exact ⟨rfl, rfl, .inr rfl, .inl rfl⟩
    · exact ⟨rfl, rfl, .inl rfl, .inr rfl⟩
    · exact ⟨rfl, rfl, .inl rfl, .inl rfl⟩

theorem altErr_cp (pos : Nat) (a : AltSt) (e : Option Err) : (altErr pos a e).cp = a.cp := (altErr_fields pos a e).1

theorem altErr_res (pos : Nat) (a : AltSt) (e : Option Err) (r : Res) :
    altErr pos { a with res := r } e = { altErr pos a e with res := r } := by
  cases e with
  | none => rfl
  | some e2 =>
    simp only [altErr]
    rw [apply_ite (fun s : AltSt => ({ s with res := r } : AltSt)), apply_ite (fun s : AltSt => ({ s with res := r } : AltSt))]

theorem appendNode_nil_right (a : Res) : appendNode a .nil = a := by cases a <;> rfl

theorem logEv_fields (st : St) (cfg : Cfg) (ev : Ev) :
    (st.logEv cfg ev).cache = st.cache ∧ (st.logEv cfg ev).ctxErr = st.ctxErr ∧
    (st.logEv cfg ev).calls = st.calls ∧ (st.logEv cfg ev).active = st.active ∧
    ((st.logEv cfg ev).log = st.log ∨ (st.logEv cfg ev).log = ev :: st.log) := by
  unfold St.logEv
  split <;> simp

theorem logEv_suffix (st : St) (cfg : Cfg) (ev : Ev) : st.log <:+ (st.logEv cfg ev).log := by
  cases (logEv_fields st cfg ev).2.2.2.2 with
  | inl h => rw [h]; exact List.suffix_refl _
  | inr h => rw [h]; exact List.suffix_cons _ _

theorem logEv_ghost {cfg : Cfg} (hg : cfg.ghost = true) (st : St) (ev : Ev) :
    st.logEv cfg ev = { st with log := ev :: st.log } := by
  simp [St.logEv, hg]

theorem logEv_ghost_log {cfg : Cfg} (hg : cfg.ghost = true) (st : St) (ev : Ev) : (st.logEv cfg ev).log = ev :: st.log := by
  rw [logEv_ghost hg]

theorem skipWhitespaces_ge (f : File) (pos : Nat) (m : WsMode) : pos ≤ (skipWhitespaces f pos m).1 := by
  rw [skipWs_fst, File.pos]
  omega

theorem setRposNode_fst (f : File) (m : WsMode) (n : Node) (ws : Option Err) :
    (setRposNode f m n ws).1 = (setRposNode f m n none).1 := by
  cases n <;> rfl

theorem setRposNode_token (f : File) (m : WsMode) (n : Node) (ws : Option Err) :
    (setRposNode f m n ws).1.token = n.token := by
  cases n <;> rfl

/-- SetReaderPos on anything but an EndNode: the reader position (of an EmptyNode, its one position) moves past the
    whitespace, and the verdict is that of this skip, whatever was held before -/
theorem setRposNode_notEof (f : File) (m : WsMode) {n : Node} (ws : Option Err) (h : ∀ p, n ≠ .eof p) :
    (setRposNode f m n ws).1.rpos = (skipWhitespaces f n.rpos m).1 ∧
      (setRposNode f m n ws).2 = wsToErr (skipWhitespaces f n.rpos m).2 := by
  cases n with
  | eof p => exact absurd rfl (h p)
  | _ => exact ⟨rfl, rfl⟩

theorem setRposList_fst (f : File) (m : WsMode) : ∀ (l : List Node) (ws : Option Err),
    (setRposList f m l ws).1 = l.map fun n => (setRposNode f m n none).1
  | [], _ => rfl
  | n :: rest, ws => by
    simp only [setRposList, List.map_cons]
    rw [setRposNode_fst, setRposList_fst f m rest]

theorem setRposRes_alts (f : File) (m : WsMode) (r : Res) :
    (setRposRes f m r).1.alts = r.alts.map fun n => (setRposNode f m n none).1 := by
  cases r with
  | list l => exact setRposList_fst f m l none
  | _ => rfl

theorem mem_setRposRes (f : File) (m : WsMode) (r : Res) (x : Node) (h : x ∈ (setRposRes f m r).1.alts) :
    ∃ n ∈ r.alts, x = (setRposNode f m n none).1 := by
  rw [setRposRes_alts] at h
  obtain ⟨n, hn, e⟩ := List.mem_map.mp h
  exact ⟨n, hn, e.symm⟩

theorem skipWhitespaces_spacesNl (f : File) (pos : Nat) : (skipWhitespaces f pos .spacesNl).2 = none := by
  unfold skipWhitespaces
  simp

theorem pickErr_none_left (e : Option Err) : pickErr none e = e := by
  cases e <;> rfl

theorem cpUnion_nil_left (b : List Nat) : cpUnion [] b = b := by
  cases b <;> simp [cpUnion]

theorem cpUnion_nil_right (a : List Nat) : cpUnion a [] = a := by
  cases a <;> simp [cpUnion]

/-! ### IntSet.Union never loses a member (sortedness is not needed for this direction) -/

theorem cpUnion_cons_cons (x : Nat) (xs : List Nat) (y : Nat) (ys : List Nat) :
    cpUnion (x :: xs) (y :: ys) =
      if x < y then x :: cpUnion xs (y :: ys) else if y < x then y :: cpUnion (x :: xs) ys else x :: cpUnion xs ys := by
  rw [cpUnion]

theorem mem_cpUnion_left (a b : List Nat) (k : Nat) (h : k ∈ a) : k ∈ cpUnion a b := by
  induction a generalizing b with
  | nil => cases h
  | cons x xs iha =>
    induction b with
    | nil => rw [cpUnion]; exact h; nofun
    | cons y ys ihb =>
      rw [cpUnion_cons_cons]
      split
      · exact (List.mem_cons.mp h).elim (· ▸ List.mem_cons_self ..) fun hm => List.mem_cons_of_mem _ (iha _ hm)
      · split
        · exact List.mem_cons_of_mem _ ihb
        · exact (List.mem_cons.mp h).elim (· ▸ List.mem_cons_self ..) fun hm => List.mem_cons_of_mem _ (iha _ hm)

theorem mem_cpUnion_right (a b : List Nat) (k : Nat) (h : k ∈ b) : k ∈ cpUnion a b := by
  induction a generalizing b with
  | nil => rw [cpUnion]; exact h
  | cons x xs iha =>
    induction b with
    | nil => cases h
    | cons y ys ihb =>
      rw [cpUnion_cons_cons]
      split
      · exact List.mem_cons_of_mem _ (iha _ h)
      · split
        · exact (List.mem_cons.mp h).elim (· ▸ List.mem_cons_self ..) fun hm => List.mem_cons_of_mem _ (ihb hm)
        · have hxy : x = y := by omega
          exact (List.mem_cons.mp h).elim (fun e => e ▸ hxy ▸ List.mem_cons_self ..) fun hm =>
            List.mem_cons_of_mem _ (iha _ hm)

theorem parse_answer (cfg : Cfg) (fuel : Nat) (g : G) (st : St) (p : ParseOut) (h : parse cfg fuel g st = some p) :
    ∃ o st1, run cfg fuel g [] (cfg.file.pos 0) st = some (o, st1) ∧
      ((o.res.isNil = false ∧ o.err = none ∧ p.res = o.res ∧ p.err = none ∧ p.msg = none) ∨
       (¬ (o.res.isNil = false ∧ o.err = none) ∧ p.res = .nil ∧ p.err.isSome ∧ p.msg.isSome)) := by
  cases hr : run cfg fuel g [] (cfg.file.pos 0) st with
  | none => simp [parse, hr] at h
  | some r =>
    obtain ⟨o, st1⟩ := r
    refine ⟨o, st1, rfl, ?_⟩
    simp only [parse, hr] at h
    by_cases hn : (o.res.isNil && o.err.isNone) = true
    · have hnil : o.res.isNil = true := (Bool.and_eq_true _ _ ▸ hn).1
      simp only [hn, ↓reduceIte] at h
      split at h
      · cases h
        exact .inr ⟨fun hc => (by rw [hnil] at hc; cases hc.1), rfl, rfl, rfl⟩
      · rename_i he
        cases hc : st1.ctxErr <;> simp [hc] at he
    · simp only [hn] at h
      cases he : o.err with
      | some e =>
        simp only [he] at h
        cases h
        exact .inr ⟨fun hc => (by cases hc.2), rfl, rfl, rfl⟩
      | none =>
        simp only [he] at h
        cases h
        have : o.res.isNil = false := by
          cases hnil : o.res.isNil with
          | false => rfl
          | true => simp [hnil, he] at hn
        exact .inl ⟨this, rfl, rfl, rfl, rfl⟩

/-- the error parsley.Parse starts from: the parser's own; without error and without result, the context's or "no match" -/
def parseErr (pos0 : Nat) (o : Out) (st : St) : Option Err :=
  if o.res.isNil && o.err.isNone then
    (match st.ctxErr with | some ce => some ce | none => some ⟨pos0, .other noMatchMsg⟩)
  else o.err

/-- … replaced by the context's error when that lies further, unless it is a white space error -/
def further (st : St) (e : Err) : Err :=
  if !e.kind.isWs then (match st.ctxErr with | some ce => if ce.pos > e.pos then ce else e | none => e) else e

theorem parse_eq (cfg : Cfg) (fuel : Nat) (g : G) (st : St) :
    parse cfg fuel g st = (run cfg fuel g [] (cfg.file.pos 0) st).map fun x =>
      match (parseErr (cfg.file.pos 0) x.1 x.2).map (further x.2) with
      | some e => { res := .nil, err := some e, msg := some (failedPrefix ++ errorWithPosition cfg.fileSet e), st := x.2 }
      | none => { res := x.1.res, err := none, msg := none, st := x.2 } := by
  unfold parse
  dsimp only
  rcases run cfg fuel g [] (cfg.file.pos 0) st with _ | ⟨o, st1⟩
  · rfl
  · dsimp only [Option.map_some]
    unfold parseErr
    generalize (if (o.res.isNil && o.err.isNone) = true then _ else o.err) = err
    cases err <;> rfl

/-- Parse hands on, as it is, a result that the run answers without an error -/
theorem parse_of_ok {cfg : Cfg} {fuel : Nat} {g : G} {st : St} {o : Out} {st' : St}
    (h : run cfg fuel g [] (cfg.file.pos 0) st = some (o, st')) (hn : o.res.isNil = false) (he : o.err = none) :
    parse cfg fuel g st = some { res := o.res, err := none, msg := none, st := st' } := by
  simp only [parse, h, hn, he]
  rfl

theorem parse_msg_form (cfg : Cfg) (fuel : Nat) (g : G) (st : St) (r : ParseOut) (e : Err)
    (h : parse cfg fuel g st = some r) (he : r.err = some e) :
    r.msg = some (failedPrefix ++ errorWithPosition cfg.fileSet e) ∧
    (cfg.fileSet.position e.pos ≠ .unknown →
      errorWithPosition cfg.fileSet e = e.kind.msg ++ tokOf " at " ++ tokOf (cfg.fileSet.position e.pos).render) := by
  constructor
  · unfold parse at h
    simp only [] at h
    split at h
    · cases h
    · split at h
      · cases h; cases he; rfl
      · cases h; cases he
  · intro hne
    unfold errorWithPosition
    split
    · rename_i hu; exact absurd hu hne
    · rfl

/-- seqDefaultResultHandler answers its one node (ReturnSingle), or a non-terminal over all the nodes, from the start of the
    first to the end of the last (from `pos` to `pos` over none) -/
theorem handleResult_cases (sh : SeqShape) (pos : Nat) (nodes : List Node) :
    (∃ n, nodes = [n] ∧ handleResult sh pos nodes = n) ∨
      handleResult sh pos nodes = .nt sh.token nodes ((nodes.head?.map Node.pos).getD pos)
        ((nodes.getLast?.map Node.rpos).getD pos) sh.interp := by
  match nodes with
  | [] => exact .inr rfl
  | [n] =>
    by_cases hs : sh.single = true
    · exact .inl ⟨n, rfl, if_pos hs⟩
    · exact .inr (if_neg hs)
  | n :: m :: rest =>
    refine .inr ?_
    rw [List.getLast?_cons_cons]
    cases h : (m :: rest).getLast? with
    | none => simp at h
    | some l => simp only [handleResult, h]; rfl

/-- without ReturnSingle the result handler always builds the non-terminal -/
theorem handleResult_nt (sh : SeqShape) (hs : sh.single = false) (pos : Nat) (nodes : List Node) :
    handleResult sh pos nodes = .nt sh.token nodes ((nodes.head?.map Node.pos).getD pos)
      ((nodes.getLast?.map Node.rpos).getD pos) sh.interp := by
  rcases handleResult_cases sh pos nodes with ⟨n, rfl, _⟩ | e
  · exact if_neg (hs ▸ Bool.false_ne_true)
  · exact e

theorem handleResult_pos_irrel (sh : SeqShape) (p q : Nat) (nodes : List Node) (h : nodes ≠ []) :
    handleResult sh p nodes = handleResult sh q nodes := by
  cases nodes with
  | nil => exact absurd rfl h
  | cons n rest => cases rest <;> rfl

theorem seqAlts_one (k : Node → SeqSt → St → Option (Bool × SeqSt × St)) (n : Node) (ss : SeqSt) (st : St) :
    seqAlts k [n] ss st = k n ss st := by
  rw [seqAlts]
  rcases k n ss st with _ | ⟨_ | _, ss', st'⟩ <;> rfl

end PV
