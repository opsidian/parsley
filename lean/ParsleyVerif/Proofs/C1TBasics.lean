/-
  C01 with trims (prefix C1T): value-level facts about SkipWhitespaces / SetReaderPos and about the ends of
  text.LeftTrim / text.RightTrim, shared by the soundness and the completeness induction.
-/
import ParsleyVerif.Spec.DerivesW
import ParsleyVerif.Proofs.RunCompleteBasics
import ParsleyVerif.Proofs.RunSound
import ParsleyVerif.Proofs.RunEqns
import ParsleyVerif.Proofs.WFTCons
import ParsleyVerif.Proofs.Trim
namespace PV.C1T
open PV PV.Text

theorem wsRun_drop_self (l : Bytes) : wsRun (l.drop (wsRun l)) = 0 := by
  unfold wsRun
  induction l with
  | nil => simp
  | cons b r ih =>
    by_cases hw : isWs b = true
    · simp only [List.takeWhile_cons, hw, ↓reduceIte, List.length_cons, List.drop_succ_cons]
      exact ih
    · simp [hw]

theorem skip_fst_eq (f : File) (pos : Nat) (m : WsMode) (h : InFile f pos) :
    (skipWhitespaces f pos m).1 = pos + wsRun (rest f pos) := by
  rw [skipWs_fst]
  obtain ⟨h1, h2⟩ := h
  unfold File.pos
  omega

/-- after the maximal run there is no whitespace left: a second skip (any mode) stays where it is -/
theorem skip_idem (f : File) (pos : Nat) (m m' : WsMode) (h : InFile f pos) :
    (skipWhitespaces f (skipWhitespaces f pos m).1 m').1 = (skipWhitespaces f pos m).1 := by
  have hb := skipWs_bounds f pos m h
  have hin' : InFile f (skipWhitespaces f pos m).1 := ⟨by have := h.1; omega, hb.2⟩
  rw [skip_fst_eq f _ m' hin', skip_fst_eq f pos m h, rest_advance h, wsRun_drop_self]
  rfl

/-- where no whitespace is left, a skip (any mode) stays where it is -/
theorem skip_fix (f : File) (pos : Nat) (m m' : WsMode) (h : InFile f pos)
    (hfix : (skipWhitespaces f pos m).1 = pos) : (skipWhitespaces f pos m').1 = pos := by
  rw [skip_fst_eq f pos m h] at hfix
  rw [skip_fst_eq f pos m' h]
  exact hfix

theorem moved_token (cfg : Cfg) (m : WsMode) (x : Node) : (moved cfg m x).token = x.token :=
  setRposNode_token ..

/-- not an EndNode (the one node type whose SetReaderPos does nothing) -/
def NotEof (x : Node) : Prop := ∀ p, x ≠ .eof p

theorem NotEof_of_token {x : Node} (h : x.token ≠ eofTok) : NotEof x := by
  intro p hp; subst hp; exact h rfl

theorem moved_rpos (cfg : Cfg) (m : WsMode) (x : Node) (h : NotEof x) :
    (moved cfg m x).rpos = (skipWhitespaces cfg.file x.rpos m).1 :=
  (setRposNode_notEof _ m none h).1

theorem movedErr_eq (cfg : Cfg) (m : WsMode) (x : Node) (h : NotEof x) :
    movedErr cfg m x = wsToErr (skipWhitespaces cfg.file x.rpos m).2 :=
  (setRposNode_notEof _ m none h).2

theorem moved_notEof (cfg : Cfg) (m : WsMode) (x : Node) (h : NotEof x) : NotEof (moved cfg m x) := by
  cases x with
  | eof p => exact absurd rfl (h p)
  | _ => intro p hp; simp [moved, setRposNode] at hp

theorem handleResult_notEof (sh : SeqShape) (p : Nat) (nodes : List Node) (h : ∀ n ∈ nodes, NotEof n) :
    NotEof (handleResult sh p nodes) := by
  rcases handleResult_cases sh p nodes with ⟨n, rfl, e⟩ | e <;> rw [e]
  · exact h n (List.mem_cons_self ..)
  · exact fun _ => nofun

theorem setRposNode_snd_spacesNl (f : File) (n : Node) : (setRposNode f .spacesNl n none).2 = none := by
  cases n <;> simp [setRposNode, skipWhitespaces_spacesNl, wsToErr]

theorem movedErr_spacesNl (cfg : Cfg) (x : Node) : movedErr cfg .spacesNl x = none := setRposNode_snd_spacesNl cfg.file x

theorem setRposNode_snd (f : File) (m : WsMode) (n : Node) (ws : Option Err) (h : n.token ≠ eofTok) :
    (setRposNode f m n ws).2 = (setRposNode f m n none).2 :=
  (setRposNode_notEof f m ws (NotEof_of_token h)).2.trans (setRposNode_notEof f m none (NotEof_of_token h)).2.symm

theorem setRposList_snd_spacesNl (f : File) : ∀ (l : List Node), (setRposList f .spacesNl l none).2 = none
  | [] => rfl
  | n :: rest => by
    simp only [setRposList]
    rw [setRposNode_snd_spacesNl f n]
    exact setRposList_snd_spacesNl f rest

theorem setRposRes_snd_spacesNl (f : File) (r : Res) : (setRposRes f .spacesNl r).2 = none := by
  cases r with
  | nil => rfl
  | one n => simp only [setRposRes]; exact setRposNode_snd_spacesNl f n
  | list l => simp only [setRposRes]; exact setRposList_snd_spacesNl f l

/-- with at most one alternative, the verdict SetReaderPos leaves behind is that alternative's -/
theorem setRposRes_snd_one (f : File) (m : WsMode) (r : Res) (x : Node) (hx : x ∈ r.alts) (hlen : r.alts.length ≤ 1) :
    (setRposRes f m r).2 = (setRposNode f m x none).2 := by
  cases r with
  | nil => cases hx
  | one n =>
    simp only [Res.alts, List.mem_singleton] at hx
    subst hx
    simp [setRposRes]
  | list l =>
    simp only [Res.alts] at hx hlen
    cases l with
    | nil => cases hx
    | cons n rest =>
      cases rest with
      | nil =>
        simp only [List.mem_singleton] at hx
        subst hx
        simp [setRposRes, setRposList]
      | cons n2 rest2 => simp at hlen

theorem isNil_setRposRes (f : File) (m : WsMode) (r : Res) : (setRposRes f m r).1.isNil = r.isNil := by
  cases r <;> simp [setRposRes, Res.isNil]

/-- what the scope predicates promise about an answer -/
def OutShape (cfg : Cfg) (g : G) (o : Out) : Prop :=
  (ErrFree cfg g → o.res.isNil = false → o.err = none) ∧ (OneAlt g → o.res.alts.length ≤ 1)

theorem ErrFree_of_top (cfg : Cfg) : ∀ g : G, ErrFreeTop g → ErrFree cfg g
  | .term _, _ | .empty, _ | .any _, _ | .seq .seqOf _ _, _ => trivial
  | .memo _ g, h | .ltrim g _, h | .rtrim g _, h => ErrFree_of_top cfg g h
  | .seq .seqTry _ _, h | .seq .seqFirstOrAll _ _, h | .eof, h | .ref _, h | .choice _, h | .many _ _ _, h
  | .sepBy _ _ _ _, h | .optional _, h | .name _ _, h | .single _, h | .suppress _, h => h.elim

theorem isNil_of_err {o : Out} {e : Err} (h : o.res.isNil = false → o.err = none) (he : o.err = some e) :
    o.res.isNil = true := by
  cases hh : o.res.isNil with
  | true => rfl
  | false => rw [h hh] at he; cases he

theorem OutShape_nil (cfg : Cfg) (g : G) (cp : List Nat) (err : Option Err) : OutShape cfg g ⟨.nil, cp, err⟩ :=
  ⟨fun _ h => (nomatch h), fun _ => Nat.zero_le _⟩

theorem OutShape_one (cfg : Cfg) (g : G) (n : Node) (cp : List Nat) : OutShape cfg g ⟨.one n, cp, none⟩ :=
  ⟨fun _ _ => rfl, fun _ => Nat.le_refl _⟩

theorem OutShape_term (cfg : Cfg) (t : Terminal) (pos : Nat) (st : St) :
    OutShape cfg (.term t) (termStep cfg t pos st).1 := by
  rcases termStep_cases cfg t pos st with ⟨_, _, e⟩ | ⟨_, _, e⟩ | ⟨_, _, e⟩ <;> rw [e]
  · exact OutShape_one ..
  · exact OutShape_nil ..
  · exact OutShape_nil ..

theorem OutShape_of_not {cfg : Cfg} {g : G} (o : Out) (h1 : ¬ ErrFree cfg g) (h2 : ¬ OneAlt g) : OutShape cfg g o :=
  ⟨fun h => absurd h h1, fun h => absurd h h2⟩

theorem OutShape_ref {cfg : Cfg} {k : Nat} {g : G} {o : Out} (hk : cfg.env[k]? = some g) (h : OutShape cfg g o) :
    OutShape cfg (.ref k) o := by
  refine ⟨?_, fun h5 => nomatch h5⟩
  intro ⟨g2, hk2, ht⟩
  rw [hk] at hk2; cases hk2
  exact h.1 (ErrFree_of_top cfg g ht)

theorem OutShape_memo {cfg : Cfg} {i : Nat} {g : G} {o : Out} (h : ErrFree cfg g → o.res.isNil = false → o.err = none) :
    OutShape cfg (.memo i g) o := ⟨h, fun h5 => nomatch h5⟩

theorem OutShape_any (cfg : Cfg) (gs : List G) (a : AltSt) (st : St) : OutShape cfg (.any gs) (anyFinish a st).1 := by
  refine ⟨fun _ => ?_, fun h5 => nomatch h5⟩
  rcases anyFinish_cases a st with ⟨_, e⟩ | ⟨_, e⟩ <;> rw [e]
  · intro h; exact nomatch h
  · intro _; rfl

theorem OutShape_seqOf (cfg : Cfg) (gs : List G) (so : SeqOpts) (sh : SeqShape) (pos : Nat) (ss : SeqSt) (st : St) :
    OutShape cfg (.seq .seqOf gs so) (seqFinish sh pos ss st).1 := by
  refine ⟨fun _ => ?_, fun h5 => nomatch h5⟩
  rcases seqFinish_cases sh pos ss st with ⟨_, _, e, _⟩ | ⟨_, e⟩ <;> rw [e]
  · intro h; exact nomatch h
  · intro _; rfl

/-- a rejected run over an operand that never answers a result with an error: no result -/
theorem ltrimOut_reject (pos pos' : Nat) (w : Err) (o : Out) (h : o.res.isNil = false → o.err = none) :
    (ltrimOut pos pos' (some w) o).res.alts = [] := by
  rcases ltrimOut_cases pos pos' (some w) o with ⟨hw, _⟩ | ⟨_, _, ho⟩ | ⟨e, _, he, _, ho⟩
  · cases hw
  · rw [ho]; rfl
  · rw [ho]; exact alts_nil_of_isNil (isNil_of_err (o := o) h he)

theorem ltrimOut_errfree (pos pos' : Nat) (wsErr : Option Err) (o : Out) (h : o.res.isNil = false → o.err = none) :
    (ltrimOut pos pos' wsErr o).res.isNil = false → (ltrimOut pos pos' wsErr o).err = none := by
  rcases ltrimOut_cases pos pos' wsErr o with ⟨_, ho⟩ | ⟨_, _, ho⟩ | ⟨e, _, he, _, ho⟩ <;> rw [ho]
  · exact h
  · intro hh; exact nomatch hh
  · intro hh; exact absurd (isNil_of_err h he) (by simp only at hh; simp [hh])

theorem OutShape_ltrim (cfg : Cfg) (g : G) (m : WsMode) (pos pos' : Nat) (wsErr : Option Err) (o : Out)
    (h : OutShape cfg g o) : OutShape cfg (.ltrim g m) (ltrimOut pos pos' wsErr o) := by
  refine ⟨fun he => ltrimOut_errfree pos pos' wsErr o (h.1 he), fun h1 => ?_⟩
  cases ltrimOut_res_eq pos pos' wsErr o with
  | inl e => rw [e]; exact h.2 h1
  | inr e => rw [e]; exact Nat.zero_le _

theorem rtrimOut_errfree (f : File) (m : WsMode) (o : Out) (h : o.res.isNil = false → o.err = none) :
    (rtrimOut f m o).res.isNil = false → (rtrimOut f m o).err = none := by
  rcases rtrimOut_cases f m o with ⟨e, he, ho⟩ | ⟨_, _, _, ho⟩ | ⟨_, _, ho⟩ <;> rw [ho]
  · intro hh; exact absurd (isNil_of_err h he) (by simp only at hh; simp [hh])
  · intro hh; exact nomatch hh
  · intro _; rfl

theorem rtrimOut_length (f : File) (m : WsMode) (o : Out) : (rtrimOut f m o).res.alts.length ≤ o.res.alts.length := by
  rcases rtrimOut_cases f m o with ⟨_, _, ho⟩ | ⟨_, _, _, ho⟩ | ⟨_, _, ho⟩ <;> rw [ho]
  · exact Nat.le_refl _
  · exact Nat.zero_le _
  · rw [setRposRes_alts, List.length_map]; exact Nat.le_refl _

theorem OutShape_rtrim (cfg : Cfg) (g : G) (m : WsMode) (o : Out) (h : OutShape cfg g o) :
    OutShape cfg (.rtrim g m) (rtrimOut cfg.file m o) :=
  ⟨fun he => rtrimOut_errfree cfg.file m o (h.1 he),
    fun h1 => Nat.le_trans (rtrimOut_length cfg.file m o) (h.2 h1)⟩

/-- RightTrim returns every moved alternative of the operand whose whitespace the mode accepts — given that the operand
    never answers a result with an error and, for a rejecting mode, at most one alternative -/
theorem rtrimOut_complete (cfg : Cfg) (m : WsMode) (o : Out) (herr : o.res.isNil = false → o.err = none)
    (hone : m = .spacesNl ∨ o.res.alts.length ≤ 1) (n : Node) (hn : n ∈ o.res.alts) (hok : movedErr cfg m n = none) :
    moved cfg m n ∈ (rtrimOut cfg.file m o).res.alts ∧ (rtrimOut cfg.file m o).cp = o.cp := by
  have hnn := isNil_false_of_mem hn
  have hs : (setRposRes cfg.file m o.res).2 = none := by
    cases hone with
    | inl h1 => subst h1; exact setRposRes_snd_spacesNl cfg.file o.res
    | inr h1 => rw [setRposRes_snd_one cfg.file m o.res n hn h1]; exact hok
  rcases rtrimOut_cases cfg.file m o with ⟨e, he, _⟩ | ⟨_, w, hw, _⟩ | ⟨_, _, ho⟩
  · rw [herr hnn] at he; cases he
  · rw [hs] at hw; cases hw
  · rw [ho]; exact ⟨setRposRes_alts cfg.file m o.res ▸ List.mem_map_of_mem hn, rfl⟩

theorem rtrimOut_noEOF (cfg : Cfg) (m : WsMode) (o : Out) (h : ∀ x ∈ o.res.alts, x.token ≠ eofTok) :
    ∀ x ∈ (rtrimOut cfg.file m o).res.alts, x.token ≠ eofTok := by
  intro x hx
  rcases rtrimOut_alts cfg.file m o x hx with ⟨_, hx⟩ | ⟨n, hn, rfl⟩
  · exact h x hx
  · rw [setRposNode_token]; exact h n hn

end PV.C1T
