/-
  C08: strconv.UnquoteChar and unquoteString as modelled.  UnquoteChar is the escape table `Lang.escElem` (each
  element denotes one code point); unquoteString is `Lang.strBody` (plain run, then elements each re-encoded as
  UTF-8).  What else is claimed of unquoteString is read off that specification: an element is at least as wide as the
  encoding of its code point (except the (RuneError, 1) answer, which the string body refuses), hence the contract
  of Readf; and the bytes consumed never contain a raw CR or LF.
-/
import ParsleyVerif.Spec.LangString
import ParsleyVerif.Proofs.LangBasic
namespace PV
open PV.Text

/-! UnquoteChar cut into named pieces (definitionally the model: `unquoteChar_cons` is `rfl`). -/

def hexEsc (e : Nat) (r2 : Bytes) : Option (Nat × Bytes) :=
  let n := if e = 120 then 2 else if e = 117 then 4 else 8
  if r2.length < n then none
  else if !allHex (r2.take n) then none
  else
    let v := natOfDigits 16 (r2.take n)
    if e = 120 then some (v, r2.drop n)
    else if !Utf8.validRune v then none
    else some (v, r2.drop n)

def octEsc (e : Nat) (r2 : Bytes) : Option (Nat × Bytes) :=
  if r2.length < 2 then none
  else if !(r2.take 2).all isOct then none
  else
    let v := natOfDigits 8 (e :: r2.take 2)
    if v > 255 then none else some (v, r2.drop 2)

def escTail (quote e : Nat) (r2 : Bytes) : Option (Nat × Bytes) :=
  if e = 97 then some (7, r2) else if e = 98 then some (8, r2) else if e = 102 then some (12, r2)
  else if e = 110 then some (10, r2) else if e = 114 then some (13, r2) else if e = 116 then some (9, r2)
  else if e = 118 then some (11, r2)
  else if e = 120 || e = 117 || e = 85 then hexEsc e r2
  else if 48 ≤ e && e ≤ 55 then octEsc e r2
  else if e = 92 then some (92, r2)
  else if e = 39 || e = 34 then (if e ≠ quote then none else some (e, r2))
  else none

theorem unquoteChar_cons (c : Nat) (r : Bytes) (q : Nat) : unquoteChar (c :: r) q =
    if c = q && (q = 39 || q = 34) then none
    else if c ≥ 0x80 then some ((Utf8.decodeRune (c :: r)).1, (c :: r).drop (Utf8.decodeRune (c :: r)).2)
    else if c ≠ 92 then some (c, r)
    else match r with
      | [] => none
      | e :: r2 => escTail q e r2 := by
  cases r <;> rfl
theorem enc_ascii (c : Nat) (h : c < 0x80) : (Utf8.encodeRune c).length = 1 := by
  rw [(Utf8.Seq.one h).encode]; rfl

theorem isHex_eq (b : Nat) : isHex b = Lang.hexDigit b := rfl
theorem isOct_eq (b : Nat) : isOct b = Lang.octDigit b := rfl

/-- the specification's (code point, width) in the form UnquoteChar answers: (rune, tail) -/
def stepOf (s : Bytes) (cw : Option (Nat × Nat)) : Option (Nat × Bytes) := cw.map (fun p => (p.1, s.drop p.2))

theorem hexEsc_eq (c e : Nat) (r2 : Bytes) (n : Nat) (any : Bool)
    (hn : (if e = 120 then 2 else if e = 117 then 4 else 8) = n) (ha : any = decide (e = 120)) :
    hexEsc e r2 = stepOf (c :: e :: r2) (Lang.hexEscape n any r2) := by
  unfold hexEsc Lang.hexEscape stepOf
  simp only []
  rw [hn, allHex_eq_all, natOfDigits_eq]
  have hd : (c :: e :: r2).drop (2 + n) = r2.drop n := by simp [Nat.add_comm]
  by_cases c1 : r2.length < n
  · rw [if_pos c1, if_neg (by omega)]; rfl
  · rw [if_neg c1]
    by_cases c2 : (r2.take n).all Lang.hexDigit = true
    · rw [if_neg (by simp [c2])]
      by_cases c3 : e = 120
      · rw [if_pos c3, if_pos ⟨by omega, c2, Or.inl (by rw [ha]; simp [c3])⟩]
        simp only [Option.map_some, hd]
      · rw [if_neg c3]
        have hany : any = false := by rw [ha]; simp [c3]
        by_cases c4 : Utf8.validRune (Lang.digitsValue 16 (r2.take n)) = true
        · rw [if_neg (by simp [c4]), if_pos ⟨by omega, c2, Or.inr c4⟩]
          simp only [Option.map_some, hd]
        · rw [if_pos (by simp [eq_false_of_ne_true c4]), if_neg (by simp [hany, c4])]
          rfl
    · rw [if_pos (by simp [eq_false_of_ne_true c2]), if_neg (fun h => c2 h.2.1)]
      rfl

theorem octEsc_eq (c e : Nat) (r2 : Bytes) : octEsc e r2 = stepOf (c :: e :: r2) (Lang.octEscape e r2) := by
  unfold octEsc Lang.octEscape stepOf
  simp only []
  rw [natOfDigits_eq]
  have ho : (r2.take 2).all isOct = (r2.take 2).all Lang.octDigit := rfl
  rw [ho]
  by_cases c1 : r2.length < 2
  · rw [if_pos c1, if_neg (by omega)]; rfl
  · rw [if_neg c1]
    by_cases c2 : (r2.take 2).all Lang.octDigit = true
    · rw [if_neg (by simp [c2])]
      by_cases c3 : Lang.digitsValue 8 (e :: r2.take 2) > 255
      · rw [if_pos c3, if_neg (by omega)]; rfl
      · rw [if_neg c3, if_pos ⟨by omega, c2, by omega⟩]
        rfl
    · rw [if_pos (by simp [eq_false_of_ne_true c2]), if_neg (fun h => c2 h.2.1)]
      rfl

theorem hexEscape_some {n : Nat} {any : Bool} {r : Bytes} {c w : Nat} (h : Lang.hexEscape n any r = some (c, w)) :
    w = 2 + n ∧ n ≤ r.length ∧ (r.take n).all Lang.hexDigit = true := by
  unfold Lang.hexEscape at h
  split at h
  · rename_i hc
    exact ⟨(Prod.mk.inj (Option.some.inj h)).2.symm, hc.1, hc.2.1⟩
  · cases h

theorem octEscape_some {e : Nat} {r : Bytes} {c w : Nat} (h : Lang.octEscape e r = some (c, w)) :
    w = 4 ∧ 2 ≤ r.length ∧ (r.take 2).all Lang.octDigit = true := by
  unfold Lang.octEscape at h
  split at h
  · rename_i hc
    exact ⟨(Prod.mk.inj (Option.some.inj h)).2.symm, hc.1, hc.2.1⟩
  · cases h

theorem stepOf_some {s : Bytes} {cw : Option (Nat × Nat)} {ch : Nat} {tail : Bytes} (h : stepOf s cw = some (ch, tail)) :
    ∃ w, cw = some (ch, w) ∧ tail = s.drop w := by
  cases cw with
  | none => cases h
  | some p =>
    simp only [stepOf, Option.map_some, Option.some.injEq, Prod.mk.injEq] at h
    exact ⟨p.2, by rw [← h.1], h.2.symm⟩

/-- what `Lang.escElem` answers after a backslash; `isQ` says whether `e` is the quote that may be escaped -/
def escBody (isQ : Prop) [Decidable isQ] (e : Nat) (r2 : Bytes) : Option (Nat × Nat) :=
  match Lang.simpleEscapes.lookup e with
  | some v => some (v, 2)
  | none =>
    if isQ then some (e, 2)
    else if e = 120 then Lang.hexEscape 2 true r2
    else if e = 117 then Lang.hexEscape 4 false r2
    else if e = 85 then Lang.hexEscape 8 false r2
    else if Lang.octDigit e = true then Lang.octEscape e r2
    else none

theorem escBody_congr {p p' : Prop} [Decidable p] [Decidable p'] (h : p ↔ p') (e : Nat) (r2 : Bytes) :
    escBody p e r2 = escBody p' e r2 := by
  simp only [escBody, h]

theorem lookup_none (e : Nat) (h1 : e ≠ 97) (h2 : e ≠ 98) (h3 : e ≠ 102) (h4 : e ≠ 110) (h5 : e ≠ 114)
    (h6 : e ≠ 116) (h7 : e ≠ 118) (h8 : e ≠ 92) : Lang.simpleEscapes.lookup e = none := by
  have b1 : (e == 97) = false := by simp [h1]
  have b2 : (e == 98) = false := by simp [h2]
  have b3 : (e == 102) = false := by simp [h3]
  have b4 : (e == 110) = false := by simp [h4]
  have b5 : (e == 114) = false := by simp [h5]
  have b6 : (e == 116) = false := by simp [h6]
  have b7 : (e == 118) = false := by simp [h7]
  have b8 : (e == 92) = false := by simp [h8]
  simp [Lang.simpleEscapes, List.lookup, b1, b2, b3, b4, b5, b6, b7, b8]

/-- UnquoteChar after the backslash is the table, for every `quote` argument: only `'` and `"` can be escaped
    as quotes, and only the one that was asked for -/
theorem escTail_table (q c e : Nat) (r2 : Bytes) :
    escTail q e r2 = stepOf (c :: e :: r2) (escBody (e = q ∧ (q = 39 ∨ q = 34)) e r2) := by
  unfold escTail escBody
  cases hl : Lang.simpleEscapes.lookup e with
  | some v =>
    obtain ⟨l₁, l₂, hm, -⟩ := List.lookup_eq_some_iff.1 hl
    have : (e, v) ∈ Lang.simpleEscapes := by rw [hm]; simp
    simp only [Lang.simpleEscapes, List.mem_cons, Prod.mk.injEq, List.not_mem_nil, or_false] at this
    rcases this with ⟨rfl, rfl⟩ | ⟨rfl, rfl⟩ | ⟨rfl, rfl⟩ | ⟨rfl, rfl⟩ | ⟨rfl, rfl⟩ | ⟨rfl, rfl⟩ | ⟨rfl, rfl⟩ |
      ⟨rfl, rfl⟩ <;> rfl
  | none =>
    have hn := List.lookup_eq_none_iff.1 hl
    simp only [Lang.simpleEscapes, List.mem_cons, List.not_mem_nil, or_false, forall_eq_or_imp, forall_eq, bne_iff_ne,
      ne_eq] at hn
    obtain ⟨c1, c2, c3, c4, c5, c6, c7, c8⟩ := hn
    rw [if_neg c1, if_neg c2, if_neg c3, if_neg c4, if_neg c5, if_neg c6, if_neg c7]
    simp only []
    by_cases d1 : e = 120
    · rw [if_pos (by simp [d1]), if_neg (by omega), if_pos d1]
      exact hexEsc_eq c e r2 2 true (by simp [d1]) (by simp [d1])
    by_cases d2 : e = 117
    · rw [if_pos (by simp [d2]), if_neg (by omega), if_neg d1, if_pos d2]
      exact hexEsc_eq c e r2 4 false (by simp [d2]) (by simp [d2])
    by_cases d3 : e = 85
    · rw [if_pos (by simp [d3]), if_neg (by omega), if_neg d1, if_neg d2, if_pos d3]
      exact hexEsc_eq c e r2 8 false (by simp [d3]) (by simp [d3])
    rw [if_neg (by simp [d1, d2, d3])]
    by_cases d4 : 48 ≤ e ∧ e ≤ 55
    · rw [if_pos (by simpa using d4), if_neg (by omega), if_neg d1, if_neg d2, if_neg d3,
        if_pos (by simpa [Lang.octDigit] using d4)]
      exact octEsc_eq c e r2
    rw [if_neg (by simpa using d4), if_neg c8]
    have hoct : ¬ (Lang.octDigit e = true) := by simpa [Lang.octDigit] using d4
    by_cases d5 : e = q ∧ (q = 39 ∨ q = 34)
    · rw [if_pos d5, if_pos (by simp; omega), if_neg (by simp [d5.1])]
      rfl
    · rw [if_neg d5, if_neg d1, if_neg d2, if_neg d3, if_neg hoct]
      by_cases d6 : (e = 39 || e = 34) = true
      · rw [if_pos d6, if_pos (by simp at d6; omega)]; rfl
      · rw [if_neg d6]; rfl

theorem escElem_cons (q c : Nat) (r : Bytes) : Lang.escElem q (c :: r) =
    if c = q then none
    else if c ≠ 92 then (if c < 0x80 then some (c, 1) else some (Utf8.decodeRune (c :: r)))
    else match r with
      | [] => none
      | e :: r2 =>
        match Lang.simpleEscapes.lookup e with
        | some v => some (v, 2)
        | none =>
          if e = q then some (e, 2)
          else if e = 120 then Lang.hexEscape 2 true r2
          else if e = 117 then Lang.hexEscape 4 false r2
          else if e = 85 then Lang.hexEscape 8 false r2
          else if Lang.octDigit e = true then Lang.octEscape e r2
          else none := rfl

theorem take_esc (a e : Nat) (r2 : Bytes) (n : Nat) : (a :: e :: r2).take (2 + n) = a :: e :: r2.take n := by
  rw [Nat.add_comm]; rfl

theorem simpleEscapes_spec : ∀ p ∈ Lang.simpleEscapes, p.2 < 0x80 ∧ p.1 ≠ 10 ∧ p.1 ≠ 13 := by decide

/-- what the table accepts after a backslash: the letter and `n` hexadecimal (or octal) digits; the letter is not a
    line break; the code point is ASCII, or the escaped quote, or spelt with at least two digits -/
theorem escBody_some {isQ : Prop} [Decidable isQ] {e : Nat} {r2 : Bytes} {c w : Nat}
    (h : escBody isQ e r2 = some (c, w)) :
    ∃ n, w = 2 + n ∧ n ≤ r2.length ∧ (∀ b ∈ r2.take n, Lang.hexDigit b = true) ∧
      ((isQ ∧ c = e) ∨ (e ≠ 10 ∧ e ≠ 13)) ∧ (c < 0x80 ∨ (isQ ∧ c = e) ∨ 2 ≤ n) := by
  unfold escBody at h
  cases hl : Lang.simpleEscapes.lookup e with
  | some v =>
    rw [hl] at h; cases h
    obtain ⟨l₁, l₂, hm, -⟩ := List.lookup_eq_some_iff.1 hl
    have := simpleEscapes_spec (e, c) (by rw [hm]; simp)
    exact ⟨0, rfl, Nat.zero_le _, by simp, Or.inr this.2, Or.inl this.1⟩
  | none =>
    rw [hl] at h
    dsimp only at h
    by_cases d0 : isQ
    · rw [if_pos d0] at h; cases h
      exact ⟨0, rfl, Nat.zero_le _, by simp, Or.inl ⟨d0, rfl⟩, Or.inr (Or.inl ⟨d0, rfl⟩)⟩
    rw [if_neg d0] at h
    have hex : ∀ n any, Lang.hexEscape n any r2 = some (c, w) → 2 ≤ n → e ≠ 10 ∧ e ≠ 13 →
        ∃ n, w = 2 + n ∧ n ≤ r2.length ∧ (∀ b ∈ r2.take n, Lang.hexDigit b = true) ∧
          ((isQ ∧ c = e) ∨ (e ≠ 10 ∧ e ≠ 13)) ∧ (c < 0x80 ∨ (isQ ∧ c = e) ∨ 2 ≤ n) := by
      intro n any hh h2 he
      obtain ⟨hw, hn, hd⟩ := hexEscape_some hh
      exact ⟨n, hw, hn, List.all_eq_true.1 hd, Or.inr he, Or.inr (Or.inr h2)⟩
    by_cases d1 : e = 120
    · rw [if_pos d1] at h; exact hex _ _ h (by decide) (by omega)
    rw [if_neg d1] at h
    by_cases d2 : e = 117
    · rw [if_pos d2] at h; exact hex _ _ h (by decide) (by omega)
    rw [if_neg d2] at h
    by_cases d3 : e = 85
    · rw [if_pos d3] at h; exact hex _ _ h (by decide) (by omega)
    rw [if_neg d3] at h
    by_cases d4 : Lang.octDigit e = true
    · rw [if_pos d4] at h
      obtain ⟨hw, hn, hd⟩ := octEscape_some h
      refine ⟨2, hw, hn, fun b hb => octDigit_hex (List.all_eq_true.1 hd b hb), Or.inr ?_,
        Or.inr (Or.inr (Nat.le_refl 2))⟩
      simp [Lang.octDigit] at d4; omega
    · rw [if_neg d4] at h; cases h

/-- UnquoteChar is the escape table: the rune returned is the code point of the element at the head
    of the input, the tail is the input without that element -/
theorem unquoteChar_eq (s : Bytes) (q : Nat) (hq : q = 34 ∨ q = 39) :
    unquoteChar s q = stepOf s (Lang.escElem q s) := by
  cases s with
  | nil => rfl
  | cons c r =>
    rw [unquoteChar_cons]
    rw [escElem_cons]
    by_cases c1 : c = q
    · rw [if_pos (by rcases hq with hq | hq <;> simp [c1, hq]), if_pos c1]; rfl
    · rw [if_neg (by simp [c1]), if_neg c1]
      by_cases c2 : c ≥ 0x80
      · rw [if_pos c2, if_pos (by omega), if_neg (by omega)]; rfl
      · rw [if_neg c2]
        by_cases c3 : c ≠ 92
        · rw [if_pos c3, if_pos c3, if_pos (by omega)]; rfl
        · rw [if_neg c3, if_neg c3]
          cases r with
          | nil => rfl
          | cons e r2 =>
            show escTail q e r2 = stepOf _ (escBody (e = q) e r2)
            rw [escTail_table q c, escBody_congr (p' := e = q) ⟨fun h => h.1, fun h => ⟨h, by omega⟩⟩]

theorem escElem_some {q a : Nat} {r : Bytes} {c w : Nat} (h : Lang.escElem q (a :: r) = some (c, w)) :
    (a < 0x80 ∧ a ≠ q ∧ a ≠ 92 ∧ c = a ∧ w = 1) ∨ (0x80 ≤ a ∧ Utf8.decodeRune (a :: r) = (c, w)) ∨
    (a = 92 ∧ ∃ e r2, r = e :: r2 ∧ escBody (e = q) e r2 = some (c, w)) := by
  rw [escElem_cons] at h
  by_cases c1 : a = q
  · rw [if_pos c1] at h; cases h
  rw [if_neg c1] at h
  by_cases c2 : a ≠ 92
  · rw [if_pos c2] at h
    by_cases c3 : a < 0x80
    · rw [if_pos c3] at h; cases h; exact Or.inl ⟨c3, c1, c2, rfl, rfl⟩
    · rw [if_neg c3] at h; exact Or.inr (Or.inl ⟨by omega, Option.some.inj h⟩)
  rw [if_neg c2] at h
  match r, h with
  | [], h => cases h
  | e :: r2, h => exact Or.inr (Or.inr ⟨by omega, e, r2, rfl, h⟩)

theorem escElem_width (q : Nat) (s : Bytes) (c w : Nat) (h : Lang.escElem q s = some (c, w)) : 1 ≤ w ∧ w ≤ s.length := by
  match s, h with
  | [], h => cases h
  | a :: r, h =>
    rcases escElem_some h with ⟨-, -, -, -, rfl⟩ | ⟨-, hd⟩ | ⟨-, e, r2, rfl, hb⟩
    · simp
    · have := Utf8.decodeRune_width (a :: r) (by simp)
      rw [hd] at this; exact this
    · obtain ⟨n, rfl, hn, -⟩ := escBody_some hb
      simp; omega

theorem unquoteChar_shorter {s : Bytes} {q ch : Nat} {tail : Bytes} (hq : q = 34 ∨ q = 39)
    (h : unquoteChar s q = some (ch, tail)) : tail.length < s.length := by
  rw [unquoteChar_eq s q hq] at h
  obtain ⟨w, hw, rfl⟩ := stepOf_some h
  have := escElem_width q s ch w hw
  rw [List.length_drop]; omega

theorem strElem_nl (l : Bytes) (h : l.head? = some 13 ∨ l.head? = some 10) : Lang.strElem l = none := by
  unfold Lang.strElem; rw [if_pos h]

theorem strElem_not_nl (l : Bytes) (h : ¬ (l.head? = some 13 ∨ l.head? = some 10)) :
    Lang.strElem l = match Lang.escElem 34 l with
      | some (c, w) => if c = Utf8.runeError ∧ w = 1 then none else some (c, w)
      | none => none := by
  unfold Lang.strElem; rw [if_neg h]; rfl

theorem strElem_some (s : Bytes) (c w : Nat) (h : Lang.strElem s = some (c, w)) :
    ¬ (s.head? = some 13 ∨ s.head? = some 10) ∧ Lang.escElem 34 s = some (c, w) ∧ ¬ (c = Utf8.runeError ∧ w = 1) := by
  by_cases hnl : s.head? = some 13 ∨ s.head? = some 10
  · rw [strElem_nl s hnl] at h; cases h
  · rw [strElem_not_nl s hnl] at h
    cases he : Lang.escElem 34 s with
    | none => rw [he] at h; cases h
    | some p =>
      obtain ⟨c', w'⟩ := p
      rw [he] at h
      simp only [] at h
      by_cases hb : c' = Utf8.runeError ∧ w' = 1
      · rw [if_pos hb] at h; cases h
      · rw [if_neg hb] at h
        simp only [Option.some.injEq, Prod.mk.injEq] at h
        obtain ⟨h1, h2⟩ := h
        subst h1; subst h2
        exact ⟨hnl, rfl, hb⟩

theorem strElem_width (s : Bytes) (c w : Nat) (h : Lang.strElem s = some (c, w)) : 1 ≤ w ∧ w ≤ s.length :=
  escElem_width 34 s c w (strElem_some s c w h).2.1

def widths (es : List (Nat × Nat)) : Nat := (es.map (·.2)).sum

theorem widths_append (a b : List (Nat × Nat)) : widths (a ++ b) = widths a + widths b := by
  simp [widths]

theorem strElems_sum_le (n : Nat) (l : Bytes) : widths (Lang.strElems n l) ≤ l.length := by
  fun_induction Lang.strElems n l with
  | case1 l => exact Nat.zero_le _
  | case2 n l he => exact Nat.zero_le _
  | case3 n l c w he ih =>
    have hw := strElem_width l c w he
    rw [List.length_drop] at ih
    simp only [widths, List.map_cons, List.sum_cons] at ih ⊢
    omega

/-- the second loop of unquoteString appends, for each element, the UTF-8 encoding of its code point -/
theorem unquoteLoop_eq : ∀ (fuel : Nat) (str res : Bytes),
    unquoteLoop fuel str res =
      (res ++ (Lang.strElems fuel str).flatMap (fun e => Utf8.encodeRune e.1), str.drop (widths (Lang.strElems fuel str))) := by
  intro fuel
  induction fuel with
  | zero => intro str res; simp [unquoteLoop, Lang.strElems, widths]
  | succ n ih =>
    intro str res
    unfold unquoteLoop Lang.strElems
    by_cases hs : str = []
    · subst hs; simp [Lang.strElem, Lang.escElem, widths]
    rw [if_neg hs]
    by_cases hnl : str.head? = some 13 ∨ str.head? = some 10
    · rw [if_pos (by simpa using hnl), strElem_nl str hnl]; simp [widths]
    rw [if_neg (by simpa using hnl), strElem_not_nl str hnl, unquoteChar_eq str 34 (Or.inl rfl)]
    cases he : Lang.escElem 34 str with
    | none => simp [stepOf, widths]
    | some p =>
      obtain ⟨c, w⟩ := p
      have hw := escElem_width 34 str c w he
      have hlen : str.length - (str.drop w).length = w := by rw [List.length_drop]; omega
      simp only [stepOf, Option.map_some, hlen]
      by_cases hb : c = Utf8.runeError ∧ w = 1
      · rw [if_pos (by simpa using hb), if_pos hb]; simp [widths]
      · rw [if_neg (by simpa using hb), if_neg hb, ih]
        simp only [widths, List.flatMap_cons, List.map_cons, List.sum_cons, List.append_assoc, List.drop_drop]

theorem takeWhile_drop_head (p : Nat → Bool) (l : Bytes) (b : Nat) (t : Bytes)
    (h : l.drop (l.takeWhile p).length = b :: t) : p b = false := by
  have := List.head?_dropWhile_not p l
  rwa [← drop_length_takeWhile, h] at this

/-- the first loop of unquoteString: the run of plain bytes, and why it stopped -/
theorem unquoteScan_eq : ∀ (r : Bytes) (i : Nat),
    unquoteScan r i = (i + (r.takeWhile Lang.plainByte).length,
      match r.drop (r.takeWhile Lang.plainByte).length with
      | [] => 0
      | b :: _ => if b = 13 ∨ b = 10 ∨ b = 34 then 1 else 2) := by
  intro r
  induction r with
  | nil => intro i; rfl
  | cons b r ih =>
    intro i
    unfold unquoteScan
    by_cases c1 : (b = 13 || b = 10 || b = 34) = true
    · have hp : Lang.plainByte b = false := by
        simp only [Bool.or_eq_true, decide_eq_true_eq] at c1
        unfold Lang.plainByte; rcases c1 with (c | c) | c <;> subst c <;> rfl
      rw [if_pos c1, List.takeWhile_cons_of_neg (by simp [hp])]
      simp only [List.length_nil, List.drop_zero, Nat.add_zero]
      rw [if_pos (by simpa [or_assoc] using c1)]
    · rw [if_neg c1]
      have c1' : ¬ (b = 13 ∨ b = 10 ∨ b = 34) := by simpa [or_assoc] using c1
      by_cases c2 : (b = 92 || b ≥ 0x80) = true
      · have hp : Lang.plainByte b = false := by
          simp only [Bool.or_eq_true, decide_eq_true_eq] at c2
          unfold Lang.plainByte
          rcases c2 with c | c
          · subst c; rfl
          · simp; omega
        rw [if_pos c2, List.takeWhile_cons_of_neg (by simp [hp])]
        simp only [List.length_nil, List.drop_zero, Nat.add_zero]
        rw [if_neg c1']
      · have hp : Lang.plainByte b = true := by
          simp only [Bool.or_eq_true, decide_eq_true_eq, not_or] at c2
          unfold Lang.plainByte
          simp; omega
        rw [if_neg c2, ih, List.takeWhile_cons_of_pos hp]
        simp only [List.length_cons, List.drop_succ_cons]
        congr 1; omega

theorem unquoteScan_bounds (r : Bytes) (i : Nat) :
    (unquoteScan r i).1 ≤ i + r.length ∧ ((unquoteScan r i).2 = 0 → (unquoteScan r i).1 = i + r.length) := by
  rw [unquoteScan_eq]
  have hle : (r.takeWhile Lang.plainByte).length ≤ r.length := (List.takeWhile_prefix _).length_le
  refine ⟨Nat.add_le_add_left hle i, fun h => ?_⟩
  dsimp only at h ⊢
  cases hd : r.drop (r.takeWhile Lang.plainByte).length with
  | nil => have := rest_eq_nil_drop r _ hd; omega
  | cons b t => rw [hd] at h; dsimp only at h; split at h <;> cases h

theorem unquoteString_eq (r : Bytes) : unquoteString r = Lang.strBody r := by
  unfold unquoteString Lang.strBody
  rw [unquoteScan_eq]
  simp only [Nat.zero_add]
  have hle : (r.takeWhile Lang.plainByte).length ≤ r.length := (List.takeWhile_prefix _).length_le
  generalize hi : (r.takeWhile Lang.plainByte).length = i at hle
  have hDl : (r.drop i).length = r.length - i := List.length_drop
  cases hD : r.drop i with
  | nil =>
    rw [hD] at hDl
    have : i = r.length := by simp at hDl; omega
    simp only [this]
  | cons b t =>
    rw [hD] at hDl
    simp only []
    by_cases c : b = 13 ∨ b = 10 ∨ b = 34
    · rw [if_pos c, if_pos c]; rfl
    · rw [if_neg c, if_neg c]
      simp only []
      rw [hD, unquoteLoop_eq]
      simp only []
      have hs := strElems_sum_le r.length (b :: t)
      have hw : ((Lang.strElems r.length (b :: t)).map (·.2)).sum = widths (Lang.strElems r.length (b :: t)) := rfl
      rw [hw]
      generalize widths (Lang.strElems r.length (b :: t)) = S at hs
      rw [List.length_drop]
      clear hw hD c hi
      by_cases hz : i + S = 0
      · rw [if_pos (by omega), if_pos hz]
      · rw [if_neg (by omega), if_neg hz, show r.length - ((b :: t).length - S) = i + S by omega]

/-- an element of the escape table is at least as wide as the encoding of its code point, except the
    replacement character read from one invalid byte -/
theorem escElem_enc {q : Nat} {s : Bytes} {c w : Nat} (hq : q < 0x80) (h : Lang.escElem q s = some (c, w)) :
    (Utf8.encodeRune c).length ≤ w ∨ (c = Utf8.runeError ∧ w = 1) := by
  match s, h with
  | [], h => cases h
  | a :: r, h =>
    rcases escElem_some h with ⟨ha, -, -, rfl, rfl⟩ | ⟨-, hd⟩ | ⟨-, e, r2, rfl, hb⟩
    · left; rw [enc_ascii _ ha]; exact Nat.le_refl _
    · rcases Utf8.decodeRune_encode_le (a :: r) (by simp) with he | he
      · right; rw [hd] at he; cases he; exact ⟨rfl, rfl⟩
      · left; rw [hd] at he; exact Nat.le_of_eq he
    · obtain ⟨n, rfl, -, -, -, henc⟩ := escBody_some hb
      left
      rcases henc with h1 | ⟨hq', rfl⟩ | h2
      · rw [enc_ascii _ h1]; omega
      · rw [enc_ascii _ (by omega)]; omega
      · have := (Utf8.encodeRune_length c).2; omega

theorem strElems_value_le (n : Nat) (l : Bytes) :
    ((Lang.strElems n l).flatMap (fun e => Utf8.encodeRune e.1)).length ≤ widths (Lang.strElems n l) := by
  fun_induction Lang.strElems n l with
  | case1 l => exact Nat.le_refl _
  | case2 n l he => exact Nat.le_refl _
  | case3 n l c w he ih =>
    obtain ⟨-, hs, hb⟩ := strElem_some l c w he
    have henc : (Utf8.encodeRune c).length ≤ w := (escElem_enc (by decide) hs).resolve_right hb
    simp only [widths, List.flatMap_cons, List.length_append, List.map_cons, List.sum_cons] at ih ⊢
    omega

theorem strElem_plain {b : Nat} (hb : Lang.plainByte b = true) (t : Bytes) : Lang.strElem (b :: t) = some (b, 1) := by
  simp only [Lang.plainByte, Bool.and_eq_true, decide_eq_true_eq, bne_iff_ne, ne_eq] at hb
  rw [strElem_not_nl _ (by simp; omega), escElem_cons, if_neg (by omega), if_pos (by omega), if_pos (by omega)]
  simp only
  rw [if_neg (by unfold Utf8.runeError; omega)]

/-- a plain byte is an element of width one that stands for itself -/
def plainElems (p : Bytes) : List (Nat × Nat) := p.map fun b => (b, 1)

theorem plainElems_spec : ∀ (p : Bytes), (∀ x ∈ p, Lang.plainByte x = true) →
    widths (plainElems p) = p.length ∧ (plainElems p).flatMap (fun e => Utf8.encodeRune e.1) = p
  | [], _ => ⟨rfl, rfl⟩
  | a :: r, hp => by
    obtain ⟨h1, h2⟩ := plainElems_spec r fun x hx => hp x (by simp [hx])
    have ha : Utf8.encodeRune a = [a] := by
      have := hp a (by simp)
      simp only [Lang.plainByte, Bool.and_eq_true, decide_eq_true_eq] at this
      unfold Utf8.encodeRune; rw [if_pos this.1.1.1.1]
    simp only [plainElems, widths, List.map_cons, List.sum_cons, List.flatMap_cons, List.length_cons] at h1 h2 ⊢
    rw [h1, h2, ha]
    exact ⟨by omega, rfl⟩

theorem strElems_plain : ∀ (p : Bytes), (∀ x ∈ p, Lang.plainByte x = true) → ∀ (n : Nat) (l : Bytes),
    Lang.strElems (n + p.length) (p ++ l) = plainElems p ++ Lang.strElems n l
  | [], _, _, _ => rfl
  | a :: r, hp, n, l => by
    show Lang.strElems (n + r.length + 1) (a :: (r ++ l)) = _
    rw [Lang.strElems, strElem_plain (hp a (by simp))]
    simp only [List.drop_succ_cons, List.drop_zero]
    rw [strElems_plain r (fun x hx => hp x (by simp [hx])) n l]
    rfl

theorem strElems_fuel : ∀ (n m : Nat) (l : Bytes), l.length ≤ n → l.length ≤ m → Lang.strElems n l = Lang.strElems m l
  | 0, m, l, hn, _ => by
    have : l = [] := List.length_eq_zero_iff.mp (by omega)
    subst this
    cases m <;> rfl
  | n + 1, 0, l, _, hm => by
    have : l = [] := List.length_eq_zero_iff.mp (by omega)
    subst this; rfl
  | n + 1, m + 1, l, hn, hm => by
    rw [Lang.strElems, Lang.strElems]
    cases he : Lang.strElem l with
    | none => rfl
    | some p =>
      obtain ⟨c, w⟩ := p
      have hw := strElem_width l c w he
      simp only
      rw [strElems_fuel n m (l.drop w) (by rw [List.length_drop]; omega) (by rw [List.length_drop]; omega)]

/-- The body reader answers the elements at the head of its input, all of them as `Lang.strElem` reads them: that a
    run of plain bytes is read first without the escape table (the fast path of `unquoteString`, which `Lang.strBody`
    mirrors) cannot be observed.  Every fact about `strBody` is the fact about `strElems`. -/
theorem strBody_elems (r : Bytes) (hr : r ≠ []) :
    Lang.strBody r = if widths (Lang.strElems r.length r) = 0 then (none, 0)
      else (some ((Lang.strElems r.length r).flatMap fun e => Utf8.encodeRune e.1), widths (Lang.strElems r.length r)) := by
  have hsplit : r.takeWhile Lang.plainByte ++ r.dropWhile Lang.plainByte = r := List.takeWhile_append_dropWhile
  have hdrop := drop_length_takeWhile Lang.plainByte r
  have htake : r.take (r.takeWhile Lang.plainByte).length = r.takeWhile Lang.plainByte := by
    conv => lhs; arg 2; rw [← hsplit]
    exact List.take_left
  have hp : ∀ x ∈ r.takeWhile Lang.plainByte, Lang.plainByte x = true := List.all_eq_true.1 List.all_takeWhile
  obtain ⟨hw, hf⟩ := plainElems_spec _ hp
  have hlen : r.length = (r.dropWhile Lang.plainByte).length + (r.takeWhile Lang.plainByte).length := by
    conv => lhs; rw [← hsplit]
    rw [List.length_append]; omega
  have hes : Lang.strElems r.length r =
      plainElems (r.takeWhile Lang.plainByte) ++ Lang.strElems (r.dropWhile Lang.plainByte).length (r.dropWhile Lang.plainByte) := by
    conv => lhs; arg 2; rw [← hsplit]
    rw [hlen]
    exact strElems_plain _ hp _ _
  unfold Lang.strBody
  simp only [hdrop, htake]
  rw [hes, widths_append, List.flatMap_append, hw, hf]
  generalize r.takeWhile Lang.plainByte = p at *
  cases hs : r.dropWhile Lang.plainByte with
  | nil =>
    rw [hs, List.append_nil] at hsplit
    subst hsplit
    have : p.length ≠ 0 := fun h => hr (List.length_eq_zero_iff.mp h)
    simp [Lang.strElems, widths, this]
  | cons b t =>
    have hl : (b :: t).length ≤ r.length := by rw [hlen, hs]; omega
    simp only []
    by_cases c : b = 13 ∨ b = 10 ∨ b = 34
    · have hnone : Lang.strElem (b :: t) = none := by
        rcases c with rfl | rfl | rfl
        · exact strElem_nl _ (.inl rfl)
        · exact strElem_nl _ (.inr rfl)
        · rw [strElem_not_nl _ (by simp)]; rfl
      have : Lang.strElems (b :: t).length (b :: t) = [] := by rw [List.length_cons, Lang.strElems, hnone]
      rw [if_pos c, this]
      simp [widths]
    · rw [if_neg c, strElems_fuel r.length (b :: t).length (b :: t) hl (Nat.le_refl _)]
      rfl

/-- unquoteString respects the contract of Readf on every non-empty input: it consumes at most the
    input, returns a value no longer than what it consumed, and answers either (nil, 0) or (value, > 0) -/
theorem unquoteString_contract (b : Bytes) (hb : b ≠ []) :
    (unquoteString b).2 ≤ b.length ∧ ((unquoteString b).1.getD []).length ≤ (unquoteString b).2 ∧
    (((unquoteString b).1 = none ∧ (unquoteString b).2 = 0) ∨ ((unquoteString b).1.isSome = true ∧ 0 < (unquoteString b).2)) := by
  have hs := strElems_sum_le b.length b
  have hv := strElems_value_le b.length b
  rw [unquoteString_eq, strBody_elems b hb]
  split
  · exact ⟨Nat.zero_le _, Nat.le_refl _, .inl ⟨rfl, rfl⟩⟩
  · exact ⟨hs, hv, .inr ⟨rfl, by omega⟩⟩

/-- the char literal check `tail == "" && err == nil` of terminal.Char is `Lang.charValue` -/
theorem unquoteChar_charValue (body : Bytes) (v : Nat) :
    unquoteChar body 39 = some (v, []) ↔ Lang.charValue body = some v := by
  rw [unquoteChar_eq body 39 (Or.inr rfl)]
  unfold Lang.charValue stepOf
  cases he : Lang.escElem 39 body with
  | none => simp
  | some p =>
    obtain ⟨c, w⟩ := p
    have hw := escElem_width 39 body c w he
    simp only [Option.map_some, Option.some.injEq, Prod.mk.injEq]
    by_cases hl : w = body.length
    · rw [if_pos hl]; simp [hl]
    · rw [if_neg hl]
      simp only [reduceCtorEq, iff_false, not_and]
      intro _ hd
      have : body.length ≤ w := by simpa using hd
      omega

def Clean (l : Bytes) : Prop := ∀ b ∈ l, b ≠ 10 ∧ b ≠ 13

theorem clean_nil : Clean [] := fun _ h => nomatch h
theorem clean_cons {a : Nat} {l : Bytes} (ha : a ≠ 10 ∧ a ≠ 13) (hl : Clean l) : Clean (a :: l) :=
  List.forall_mem_cons.mpr ⟨ha, hl⟩
theorem clean_append {a b : Bytes} (ha : Clean a) (hb : Clean b) : Clean (a ++ b) :=
  List.forall_mem_append.mpr ⟨ha, hb⟩

theorem hexDigit_clean (b : Nat) (h : Lang.hexDigit b = true) : b ≠ 10 ∧ b ≠ 13 := by
  simp [Lang.hexDigit] at h; omega

theorem escElem_clean (l : Bytes) (c w : Nat) (h : Lang.escElem 34 l = some (c, w))
    (hnl : ¬ (l.head? = some 13 ∨ l.head? = some 10)) : Clean (l.take w) := by
  match l, h with
  | [], h => cases h
  | a :: r, h =>
    have ha : a ≠ 10 ∧ a ≠ 13 := by
      simp only [List.head?_cons, Option.some.injEq, not_or] at hnl; omega
    rcases escElem_some h with ⟨-, -, -, -, rfl⟩ | ⟨-, hd⟩ | ⟨-, e, r2, rfl, hb⟩
    · exact clean_cons ha clean_nil
    · -- a sequence that starts with a byte ≥ 0x80 continues with bytes ≥ 0x80
      rcases Utf8.decodeRune_cases (a :: r) (by simp) with e | ⟨s, c', t, e, hs⟩
      · rw [e] at hd; cases hd
        exact clean_cons ha clean_nil
      · rw [e, hs.decode] at hd; cases hd
        rw [e, List.take_left' rfl]
        match s, hs, e with
        | _ :: s', hs, e =>
          cases (List.cons.inj e).1
          exact clean_cons ha fun b hb => by have := hs.tail_high b hb; omega
    · obtain ⟨n, rfl, -, hd, he, -⟩ := escBody_some hb
      rw [take_esc]
      refine clean_cons ha (clean_cons ?_ fun b hb => hexDigit_clean b (hd b hb))
      rcases he with ⟨rfl, -⟩ | he
      · omega
      · exact he

theorem strElems_clean (n : Nat) (l : Bytes) : Clean (l.take (widths (Lang.strElems n l))) := by
  fun_induction Lang.strElems n l with
  | case1 l => exact clean_nil
  | case2 n l he => exact clean_nil
  | case3 n l c w he ih =>
    obtain ⟨hnl, hesc, _⟩ := strElem_some l c w he
    simp only [widths, List.map_cons, List.sum_cons]
    rw [List.take_add]
    exact clean_append (escElem_clean l c w hesc hnl) ih

theorem strBody_clean (r : Bytes) : Clean (r.take (Lang.strBody r).2) := by
  cases r with
  | nil => exact clean_nil
  | cons a t =>
    rw [strBody_elems _ (by simp)]
    split
    · exact clean_nil
    · exact strElems_clean _ _

end PV
