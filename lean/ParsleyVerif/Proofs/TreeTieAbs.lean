/-
  The translated parsley.Walk / NodeList.Walk visits the nodes of a shaped heap in post-order and stops after the first
  `true` (`walk_visit`).  Reading a heap as a model tree (`PV.Walk.T`): the abstraction `absT`, its frame property, the
  post-order of the abstract tree; the translated Walk against the model's `walk` (`tie_Walk`).
-/
import ParsleyVerif.Proofs.TreeTieBasics
import ParsleyVerif.Proofs.Walk
namespace PV.TreeTie
open PV.CorePrelude hiding Node World
open PV.TreePrelude PV.FactsTree

theorem visit_single (f : TN → TM Bool) (n : TN) (s : TSt) : visit f [n] s = f n s := by
  simp only [visit, GoM.bind_apply]
  rcases f n s with ⟨_ | _, _⟩ | _ | _ <;> rfl

theorem Walk_leaf (W : TW) (fuel : Nat) (f : TN → TM Bool) {n : TN} (h : LeafNode n) : Walk W (fuel + 1) n f = f n := by
  cases n <;> first | exact h.elim | rfl

theorem Walk_ref (W : TW) (fuel : Nat) (f : TN → TM Bool) (a : Ptr) :
    Walk W (fuel + 1) (.ref a) f = (do
      let kids ← NonTerminalNode_Children W a
      match ← Walk_loop1 W f (Walk W fuel) (NodeList_Walk W fuel) kids with
      | .ret b => pure b
      | .done _ => f (.ref a)) := rfl

theorem Walk_list (W : TW) (fuel : Nat) (f : TN → TM Bool) (n : TN) (l : List TN) :
    Walk W (fuel + 2) (.list (n :: l)) f = (do
      if ← Walk W fuel n f then pure true else f (.list (n :: l))) := rfl

theorem Walk_loop1_cons (W : TW) (f : TN → TM Bool) (r1 r2) (n : TN) (l : List TN) :
    Walk_loop1 W f r1 r2 (n :: l) = (do
      if ← r1 n f then pure (Brk.ret true) else Walk_loop1 W f r1 r2 l) := rfl

/-- what `Walk` does after the children, or after the first item of a list: the node itself, unless stopped -/
theorem visit_snoc (f : TN → TM Bool) (l : List TN) (n : TN) (s : TSt) :
    visit f (l ++ [n]) s = (do if ← visit f l then pure true else f n) s := by
  rw [visit_append, GoM.bind_apply, GoM.bind_apply]
  cases visit f l s with
  | ok b s' => cases b <;> simp only [Bool.false_eq_true, ↓reduceIte, visit_single]
  | panic => rfl
  | nofuel => rfl

/-- **parsley.Walk**, translated, and the loop over the children of a non-terminal -/
theorem walk_visit_and_loop (W : TW) (f : TN → TM Bool) (hf : KidStable f) :
    (∀ (sk : Sk) (fuel : Nat) (s : TSt), Shaped s.heap sk → sk.fuel ≤ fuel → Walk W fuel sk.node f s = visit f sk.post s) ∧
    (∀ (kids : List Sk) (fuel : Nat) (s : TSt), ShapedL s.heap kids → fuelL kids ≤ fuel →
      Walk_loop1 W f (Walk W fuel) (NodeList_Walk W fuel) (nodes kids) s =
        (do let b ← visit f (postL kids); pure (if b then Brk.ret true else Brk.done ())) s) := by
  refine Sk.rec₂ (fun n fuel s hs hfu => ?_) (fun a kids ih fuel s hs hfu => ?_) (fun fuel s hs _ => absurd rfl hs.1)
    (fun first rest ih fuel s hs hfu => ?_) (fun _ _ _ _ => rfl) (fun k r ih ihr fuel s hs hfu => ?_)
  · obtain ⟨fuel, rfl⟩ : ∃ k, fuel = k + 1 := ⟨fuel - 1, by simp only [Sk.fuel] at hfu; omega⟩
    exact (congrFun (Walk_leaf W fuel f hs) s).trans (visit_single f n s).symm
  · obtain ⟨fuel, rfl⟩ : ∃ k, fuel = k + 1 := ⟨fuel - 1, by simp only [Sk.fuel] at hfu; omega⟩
    obtain ⟨⟨c, hc, hch⟩, hl⟩ := hs
    simp only [Sk.post, visit_snoc, Sk.node, Walk_ref, GoM.bind_apply, children_apply W hc, hch,
      ih fuel s hl (by simp only [Sk.fuel] at hfu; omega)]
    cases visit f (postL kids) s with
    | ok b s' => cases b <;> rfl
    | panic => rfl
    | nofuel => rfl
  · obtain ⟨fuel, rfl⟩ : ∃ k, fuel = k + 2 := ⟨fuel - 2, by simp only [Sk.fuel] at hfu; omega⟩
    simp only [Sk.post, visit_snoc, Sk.node, nodes, Walk_list, GoM.bind_apply,
      ih fuel s hs.2.1 (by simp only [Sk.fuel, fuelL] at hfu; omega)]
  · simp only [nodes, Walk_loop1_cons, postL, GoM.bind_apply, ih fuel s hs.1 (by simp only [fuelL] at hfu; omega), visit_append]
    cases hv : visit f k.post s with
    | ok b s' =>
      cases b
      · -- the call-back left the children slices alone, so the remaining children still lie in the heap as before
        have hs' : ShapedL s'.heap r := shapedL_sameKids (visit_kidStable hf _ _ _ _ hv) r hs.2
        simp only [Bool.false_eq_true, ↓reduceIte, ihr fuel s' hs' (by simp only [fuelL] at hfu; omega), GoM.bind_apply]
      · rfl
    | panic => rfl
    | nofuel => rfl

theorem walk_visit (W : TW) (f : TN → TM Bool) (hf : KidStable f) :
    ∀ (sk : Sk) (fuel : Nat) (s : TSt), Shaped s.heap sk → sk.fuel ≤ fuel → Walk W fuel sk.node f s = visit f sk.post s :=
  (walk_visit_and_loop W f hf).1

theorem walk_loop (W : TW) (f : TN → TM Bool) (hf : KidStable f) :
    ∀ (kids : List Sk) (fuel : Nat) (s : TSt), ShapedL s.heap kids → fuelL kids ≤ fuel →
      Walk_loop1 W f (Walk W fuel) (NodeList_Walk W fuel) (nodes kids) s =
        (do let b ← visit f (postL kids); pure (if b then Brk.ret true else Brk.done ())) s :=
  (walk_visit_and_loop W f hf).2

open PV.Walk (T ICap Checker Transformer walk walkList check checkList transform transformList postorder postorderAll takeThrough)

/-- how node values, interpreters and schemas are named in the model: `key` gives every node value its id,
    `icode` every interpreter value its number (nil: none) -/
structure Enc where
  key : TN → Nat
  icode : TInterp → Option Nat

/-- a schema value of the model as an `interface{}` value, and back -/
def encS : Option Nat → TValue
  | none => .nil
  | some k => .other 0 [(k : Int)]

def decS : TValue → Option Nat
  | .other 0 [k] => some k.toNat
  | _ => none

@[simp] theorem decS_encS (x : Option Nat) : decS (encS x) = x := by
  cases x <;> simp [encS, decS]

/-- an error code of the model as a `parsley.Error` -/
def encErr (e : Nat) : TErr := .mk 0 (.other e [])

def encErrO : Option Nat → TErr
  | none => PV.CorePrelude.Err.nil
  | some e => encErr e

@[simp] theorem encErr_isNil (e : Nat) : (encErr e).isNil = false := rfl

mutual
def absT (E : Enc) (h : Heap) : Sk → T
  | .leaf n => .leaf (E.key n)
  | .nt a kids =>
    match h a with
    | some c => .nt (E.key (.ref a)) (E.icode c.interpreter) (decS c.schema) (absL E h kids)
    | none => .nt (E.key (.ref a)) none none (absL E h kids)
  | .list items => .list (E.key (.list (nodes items))) (absL E h items)
def absL (E : Enc) (h : Heap) : List Sk → List T
  | [] => []
  | k :: r => absT E h k :: absL E h r
end

theorem absT_nt (E : Enc) {h : Heap} {a : Ptr} {c : TCell} (hc : h a = some c) (kids : List Sk) :
    absT E h (.nt a kids) = .nt (E.key (.ref a)) (E.icode c.interpreter) (decS c.schema) (absL E h kids) := by
  simp only [absT, hc]

/-- an interpreter value that passes a type test is not nil, so it has a number -/
theorem Enc.code_of_passes {E : Enc} (hn : ∀ i, E.icode i = none ↔ i = PV.TreePrelude.Interp.nil) {impl : Nat → Bytes → Bool}
    {ks : List IKind} {name : Bytes} {i : TInterp} (hp : passes impl ks name i = true) : ∃ k, E.icode i = some k := by
  cases hk : E.icode i with
  | some k => exact ⟨k, rfl⟩
  | none => rw [(hn i).mp hk] at hp; cases hp

mutual
theorem abs_agree (E : Enc) {h h' : Heap} : ∀ sk, Agree h h' sk.addrs → absT E h' sk = absT E h sk
  | .leaf _, _ => rfl
  | .nt a kids, ha => by
    have hk := absL_agree E kids (ha.mono (by simp [Sk.addrs]; intro x hx; exact .inr hx))
    simp only [absT, ha a (by simp [Sk.addrs]), hk]
  | .list items, ha => by
    simp only [absT, absL_agree E items (ha.mono (by simp [Sk.addrs]))]
theorem absL_agree (E : Enc) {h h' : Heap} : ∀ l, Agree h h' (addrsL l) → absL E h' l = absL E h l
  | [], _ => rfl
  | k :: r, ha => by
    simp only [absL, abs_agree E k (ha.mono (by simp [addrsL]; intro x hx; exact .inl hx)),
      absL_agree E r (ha.mono (by simp [addrsL]; intro x hx; exact .inr hx))]
end

mutual
theorem postorder_abs (E : Enc) (h : Heap) : ∀ sk, postorder (absT E h sk) = sk.post.map E.key
  | .leaf n => by simp [absT, postorder, Sk.post]
  | .nt a kids => by
    cases hh : h a <;> simp [absT, hh, postorder, Sk.post, postorderAll_abs E h kids]
  | .list [] => by simp [absT, absL, postorder, Sk.post, nodes]
  | .list (first :: rest) => by
    simp [absT, absL, postorder, Sk.post, postorder_abs E h first, nodes]
theorem postorderAll_abs (E : Enc) (h : Heap) : ∀ l, postorderAll (absL E h l) = (postL l).map E.key
  | [] => rfl
  | k :: r => by simp [absL, postorderAll, postL, postorder_abs E h k, postorderAll_abs E h r]
end

/-- the call-back of the model: it records the id of the node in `ext` and answers `stop id` -/
def logStop (key : TN → Nat) (stop : Nat → Bool) : TN → TM Bool :=
  fun n s => .ok (stop (key n)) { s with ext := s.ext ++ [(key n : Int)] }

theorem logStop_kidStable (key : TN → Nat) (stop : Nat → Bool) : KidStable (logStop key stop) := by
  intro n s b s' h
  simp only [logStop] at h
  injection h with _ h2
  subst h2
  exact SameKids.refl _

theorem takeThrough_map {α β} (g : α → β) (p : β → Bool) (l : List α) :
    (takeThrough (fun a => p (g a)) l).map g = takeThrough p (l.map g) := by
  induction l with
  | nil => rfl
  | cons a l ih => by_cases h : p (g a) <;> simp [takeThrough, h, ih]

theorem logStop_apply (key : TN → Nat) (stop : Nat → Bool) (n : TN) (s : TSt) :
    logStop key stop n s = .ok (stop (key n)) { s with ext := s.ext ++ [(key n : Int)] } := rfl

theorem visit_logStop (key : TN → Nat) (stop : Nat → Bool) (l : List TN) (s : TSt) :
    visit (logStop key stop) l s =
      .ok ((l.map key).any stop) { s with ext := s.ext ++ (takeThrough stop (l.map key)).map Int.ofNat } := by
  induction l generalizing s with
  | nil => simp [visit, takeThrough]
  | cons n r ih =>
    simp only [visit, GoM.bind_apply, logStop_apply]
    cases hst : stop (key n)
    · simp only [Bool.false_eq_true, ↓reduceIte, ih]
      simp [takeThrough, hst, List.append_assoc]
    · simp [takeThrough, hst]

/-- **parsley.Walk, translated, is the model's `walk`**: on every shape, for every stop predicate — the result, and the
    sequence of the call-back's calls (recorded in `ext`) -/
theorem tie_Walk (W : TW) (E : Enc) (stop : Nat → Bool) (sk : Sk) (fuel : Nat) (s : TSt)
    (hs : Shaped s.heap sk) (hfu : sk.fuel ≤ fuel) :
    Walk W fuel sk.node (logStop E.key stop) s =
      .ok (walk stop (absT E s.heap sk)).2
        { s with ext := s.ext ++ (walk stop (absT E s.heap sk)).1.map Int.ofNat } := by
  rw [walk_visit W _ (logStop_kidStable _ _) sk fuel s hs hfu, visit_logStop, PV.Walk.walk_spec, postorder_abs]

end PV.TreeTie
