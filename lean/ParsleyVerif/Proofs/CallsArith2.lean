/-
  C17, family 8 of the harness ("arith2"):
      E → E + T | E - T | T ;  T → T * F | T / F | F ;  F → 1 | ( E )
  — the operator grammar with two operators per level, `A = [+, -]`, `M = [*, /]` (CallsArith.lean … CallsArithDouble.lean):
  every activation of a memoized rule runs its inner activation in the FIRST alternative and reads it from the cache
  in the SECOND, and the alternatives come out in the order (`*`- or `+`-extensions, `/`- or `-`-extensions, base).
  Every operator string over {+, -, *, /} is parsed with `arCalls2 ops` calls in the spine of `E`, one for the element
  of Sentence and one `End` per alternative up to the one that spans the input (`ar2_ops_parse`); doubling ≤ 16 (`ar2_double`).
-/
import Mathlib.Algebra.GroupWithZero.Nat
import ParsleyVerif.Proofs.CallsArithDouble
namespace PV.C17b
open PV.Text PV.C17

def ar2TBody : G := .any [opS 1 42 2, opS 1 47 2, .ref 2]
def ar2T : G := .memo 1 ar2TBody
def ar2EBody : G := .any [opS 0 43 1, opS 0 45 1, .ref 1]
def ar2E : G := .memo 0 ar2EBody
def arith2Env : List G := [ar2E, ar2T, arF]

def ar2Cfg (ops : List Nat) : Cfg := famCfg arith2Env (arData ops)

theorem opsOK2 : Lv.OpsOK [43, 45] [42, 47] := ⟨by simp, by simp, by simp, by simp, by simp, by simp⟩

theorem mem_ops2 {ops : List Nat} (hops : ∀ o ∈ ops, o = 42 ∨ o = 47 ∨ o = 43 ∨ o = 45) :
    ∀ o ∈ ops, o ∈ [43, 45] ++ [42, 47] := by
  intro o ho
  rcases hops o ho with rfl | rfl | rfl | rfl <;> simp

/-- the numbers of operators `*`, `/` of the terms -/
def split2 : List Nat → List Nat
  | [] => [0]
  | o :: os => if o = 42 ∨ o = 47 then bump (split2 os) else 0 :: split2 os

theorem split2_eq : ∀ ops, split2 ops = Lv.splitK [42, 47] ops := by
  intro ops
  induction ops with
  | nil => rfl
  | cons o os ih => simp only [split2, Lv.splitK, ih, List.mem_cons, List.not_mem_nil, or_false]

theorem split2_ne : ∀ ops, split2 ops ≠ [] := by
  intro ops
  rw [split2_eq]
  exact Lv.splitK_ne _ ops

def tcLevels2 (r : Nat) : Nat → Nat
  | 0 => 0
  | j + 1 => tcLevels2 r j + 8 + 2 * min j (r + 1) + 4 * min (min j (r + 1)) r

theorem tcLevels2_eq (r : Nat) : ∀ j, tcLevels2 r j = Lv.tcLv 2 r j := by
  intro j
  induction j with
  | zero => rfl
  | succ j ih => rw [tcLevels2, Lv.tcLv, ih]

def firstRunsX2 (k : Nat) (rf : Nat → Nat) : Nat → Nat
  | 0 => 0
  | m + 1 => tcLevels2 (rf m) (2 * k + 4 - qf rf m) + firstRunsX2 k rf m

theorem firstRunsX2_eq (k : Nat) (rf : Nat → Nat) : ∀ m, firstRunsX2 k rf m = Lv.firstRunsK 2 k rf m := by
  intro m
  induction m with
  | zero => rfl
  | succ m ih => rw [firstRunsX2, Lv.firstRunsK, ih, tcLevels2_eq]

/-- **the calls of the spine of `E`** for the input with `k` operators whose terms 0 … s have `rf i` operators `*`, `/`:
    per level 5 calls, two per alternative of the level below and one `T` per `+` or `-` behind them; the first run
    of `T` for every term -/
def arCount2 (k s : Nat) (rf : Nat → Nat) : Nat :=
  ((List.range (2 * k + 3)).map (fun j => 5 + 2 * pre rf (min j (s + 1)) + min j s)).sum + firstRunsX2 k rf (s + 1)

theorem arCount2_eq (k s : Nat) (rf : Nat → Nat) : arCount2 k s rf = Lv.arCountK 2 2 k s rf := by
  have e : (fun j => 5 + 2 * pre rf (min j (s + 1)) + min j s) = fun j => 1 + 2 * (2 + pre rf (min j (s + 1))) + min j s := by
    funext j; omega
  rw [arCount2, Lv.arCountK, firstRunsX2_eq, e]

def arCalls2 (ops : List Nat) : Nat := arCount2 ops.length ((split2 ops).length - 1) (rfOf (split2 ops))

theorem arCalls2_eq (ops : List Nat) :
    arCalls2 ops = Lv.arCountK 2 2 ops.length ((Lv.splitK [42, 47] ops).length - 1) (rfOf (Lv.splitK [42, 47] ops)) := by
  rw [arCalls2, arCount2_eq, split2_eq]

/-- **THEOREM (every operator string over {+, -, *, /})**: the parse succeeds; it makes `arCalls2 ops` calls in the
    spine of `E`, one for the element of Sentence and one `End` per alternative up to the one that spans the input
    (between 1 and k+1): between `arCalls2 ops + 2` and `arCalls2 ops + k + 2`, at most (2k+3)(13k+17) + k + 2 -/
theorem ar2_ops_parse (ops : List Nat) (hops : ∀ o ∈ ops, o = 42 ∨ o = 47 ∨ o = 43 ∨ o = 45) :
    ∃ p, parse (ar2Cfg ops) (24 * ops.length + 50) (G.sentence (.ref 0)) = some p ∧ p.err = none ∧
      p.res.isNil = false ∧ arCalls2 ops + 2 ≤ p.st.calls ∧ p.st.calls ≤ arCalls2 ops + ops.length + 2 ∧
      p.st.calls ≤ (2 * ops.length + 3) * (13 * ops.length + 17) + ops.length + 2 := by
  obtain ⟨p, h1, h2, h3, h4, h5, _⟩ := Lv.lv_ops_parse opsOK2 ops (mem_ops2 hops)
  have h6 : Lv.arCountK 2 2 ops.length _ _ ≤ (2 * ops.length + 3) * (13 * ops.length + 17) :=
    Lv.arCountK_le 2 2 (Lv.arData_terms opsOK2 ops (mem_ops2 hops))
  have h4' : arCalls2 ops + 2 ≤ p.st.calls := by rw [arCalls2_eq]; exact h4
  have h5' : p.st.calls ≤ arCalls2 ops + ops.length + 2 := by rw [arCalls2_eq]; exact h5
  rw [← arCalls2_eq] at h6
  exact ⟨p, h1, h2, h3, h4', h5', by omega⟩

theorem arCalls2_ge (ops : List Nat) (hops : ∀ o ∈ ops, o = 42 ∨ o = 47 ∨ o = 43 ∨ o = 45) :
    26 * (ops.length * ops.length) + 118 * ops.length + 112 ≤ 4 * arCalls2 ops := by
  have := Lv.arCountK_ge 2 2 ops.length _ _ (Lv.arData_terms opsOK2 ops (mem_ops2 hops)).total
  rw [Lv.mul_succ2 ops.length, sq_succ ops.length] at this
  rw [arCalls2_eq]
  omega

/-- **doubling, for all inputs**: if `ops'` has at most 2k+1 operators (k the number of operators of `ops`), every
    count in the range of `ops'` is at most 16 times every count in the range of `ops` -/
theorem ar2_double (ops ops' : List Nat) (hops : ∀ o ∈ ops, o = 42 ∨ o = 47 ∨ o = 43 ∨ o = 45)
    (hk : ops'.length ≤ 2 * ops.length + 1)
    (c c' : Nat) (hc : arCalls2 ops + 2 ≤ c) (hc' : c' ≤ (2 * ops'.length + 3) * (13 * ops'.length + 17) + ops'.length + 2) :
    c' ≤ 16 * c := by
  have h1 := arCalls2_ge ops hops
  have h6 : (2 * ops'.length + 3) * (13 * ops'.length + 17) ≤ (4 * ops.length + 5) * (26 * ops.length + 30) :=
    Nat.mul_le_mul (by omega) (by omega)
  rw [Lv.lin_mul 4 5 26 30] at h6
  omega

def ops2Cycle (i : Nat) : Nat := [43, 45, 42, 47].getD (i % 4) 43

def arith2Build : Nat → Nat → Bytes → Bytes
  | 0, _, acc => acc
  | fuel + 1, n, acc =>
    if acc.length < n - 1 then arith2Build fuel n (acc ++ [49, ops2Cycle ((acc.length + 1) / 2)]) else acc
def arith2Input (n : Nat) : Bytes := arith2Build n n [] ++ [49]

theorem ops2Cycle_ok (i : Nat) : ops2Cycle i = 42 ∨ ops2Cycle i = 47 ∨ ops2Cycle i = 43 ∨ ops2Cycle i = 45 := by
  unfold ops2Cycle
  have : i % 4 < 4 := Nat.mod_lt _ (by omega)
  generalize i % 4 = m at *
  match m, this with
  | 0, _ => simp
  | 1, _ => simp
  | 2, _ => simp
  | 3, _ => simp

/-- the harness's input of every length parameter is `1 o₁ 1 … o_k 1`, k = n/2, with the four operators in turn -/
theorem arith2Input_eq (n : Nat) :
    arith2Input n = arData (Lv.hOps (fun len => ops2Cycle ((len + 1) / 2)) (n / 2)) := by
  rw [arith2Input, ← blocks_end]
  congr 1
  exact Lv.build_blocks arith2Build _ n (fun _ => rfl) (fun fuel acc => by rw [arith2Build]) n 0 (by omega) (by omega)

theorem hOps2_ok (m : Nat) :
    ∀ o ∈ Lv.hOps (fun len => ops2Cycle ((len + 1) / 2)) m, o = 42 ∨ o = 47 ∨ o = 43 ∨ o = 45 := by
  intro o ho
  obtain ⟨i, _, rfl⟩ := List.mem_map.mp ho
  exact ops2Cycle_ok _

end PV.C17b
