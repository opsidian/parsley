/-
  C14 — lemmas about the interleaving machines of Model/Conc.lean.  Every machine there folds a step over a schedule,
  and there are two rules for such a fold: `unwind` (what run `i` sees of an interleaved run is its solo run, if its own
  steps keep the view and foreign steps do not touch it) and core's `List.foldlRecOn` (what every step keeps, the run
  keeps).  Each machine supplies its per-step facts: `Machine.stepRun_self/other/graph/counter`, and for the one shared
  heap of `HMachine`, under the footprint discipline, `stepRun_self` / `stepRun_frame`; `CInv` is the invariant of
  atomic index hand-out; `exHeap` keeps the discipline.
-/
import ParsleyVerif.Model.Conc
namespace PV.Conc

theorem occ_cons_self {N : Nat} (i : Fin N) (rest : List (Fin N)) : occ i (i :: rest) = occ i rest + 1 := by
  simp [occ, Nat.add_comm]

theorem occ_cons_ne {N : Nat} {i j : Fin N} (h : j ≠ i) (rest : List (Fin N)) : occ i (j :: rest) = occ i rest := by
  simp [occ, h]

/-- Unwinding.  `S` global states, `T` what run `i` has when alone, `solo n` is `n` solo steps.  If `R` is kept by run
    `i`'s step against its solo step (`self`) and is left alone by every other run's step (`other`), then after any
    schedule the global state is `R`-related to run `i`'s solo state after as many steps as the schedule gave it. -/
theorem unwind {N : Nat} {S : Type u} {T : Type v} (step : S → Fin N → S) (i : Fin N)
    (sstep : T → T) (solo : Nat → T → T)
    (solo_zero : ∀ t, solo 0 t = t) (solo_succ : ∀ n t, solo (n + 1) t = solo n (sstep t))
    (R : S → T → Prop)
    (self : ∀ s t, R s t → R (step s i) (sstep t))
    (other : ∀ j s t, j ≠ i → R s t → R (step s j) t)
    (sched : List (Fin N)) : ∀ s t, R s t → R (sched.foldl step s) (solo (occ i sched) t) := by
  induction sched with
  | nil => intro s t h; rw [show occ i [] = 0 from rfl, solo_zero]; exact h
  | cons j rest ih =>
    intro s t h
    show R (rest.foldl step (step s j)) _
    by_cases hj : j = i
    · subst hj
      rw [occ_cons_self, solo_succ]
      exact ih _ _ (self s t h)
    · rw [occ_cons_ne hj]
      exact ih _ _ (other j s t hj h)

theorem upd_same {N : Nat} {β : Fin N → Type} (f : (i : Fin N) → β i) (i : Fin N) (v : β i) :
    upd f i v i = v := by
  simp [upd]

theorem upd_other {N : Nat} {β : Fin N → Type} (f : (i : Fin N) → β i) (i j : Fin N) (v : β i) (h : j ≠ i) :
    upd f i v j = f j := by
  simp [upd, h]

namespace Machine
variable {N : Nat} (M : Machine N)

theorem stepRun_graph (s : State M) (j : Fin N) : (M.stepRun s j).graph = s.graph := by
  unfold stepRun; split <;> rfl

theorem stepRun_counter (s : State M) (j : Fin N) : (M.stepRun s j).counter = s.counter := by
  unfold stepRun; split <;> rfl

theorem stepRun_self (s : State M) (i : Fin N) :
    (M.stepRun s i).locals i = M.soloStep i s.graph (s.locals i) := by
  unfold stepRun soloStep
  split
  · next h => rw [h]; rfl
  · next l h => rw [h]; exact upd_same _ _ _

theorem stepRun_other (s : State M) (i j : Fin N) (h : i ≠ j) :
    (M.stepRun s j).locals i = s.locals i := by
  unfold stepRun
  split
  · rfl
  · exact upd_other _ _ _ _ h

theorem solo_stable (i : Fin N) (g : M.Graph) (l : M.Local i) (h : M.step i g l = none) :
    ∀ n, M.solo i g n l = l := by
  intro n
  induction n with
  | zero => rfl
  | succ n ih =>
    show M.solo i g n (M.soloStep i g l) = l
    have : M.soloStep i g l = l := by simp [soloStep, h]
    rw [this, ih]

theorem solo_add (i : Fin N) (g : M.Graph) (m : Nat) :
    ∀ (n : Nat) (l : M.Local i), M.solo i g (n + m) l = M.solo i g m (M.solo i g n l) := by
  intro n
  induction n with
  | zero => intro l; simp [solo]
  | succ n ih =>
    intro l
    rw [Nat.add_right_comm]
    show M.solo i g (n + m) (M.soloStep i g l) = M.solo i g m (M.solo i g n (M.soloStep i g l))
    exact ih _

theorem solo_final_unique (i : Fin N) (g : M.Graph) (l : M.Local i) (n m : Nat)
    (hn : M.step i g (M.solo i g n l) = none) (hm : M.step i g (M.solo i g m l) = none) :
    M.solo i g n l = M.solo i g m l := by
  rcases Nat.le_total n m with h | h
  · obtain ⟨d, rfl⟩ := Nat.exists_eq_add_of_le h
    rw [solo_add, solo_stable M i g _ hn]
  · obtain ⟨d, rfl⟩ := Nat.exists_eq_add_of_le h
    rw [solo_add, solo_stable M i g _ hm]

end Machine

namespace HMachine
variable {N : Nat} {Loc Val : Type} (H : HMachine N Loc Val)

theorem stepRun_frame {own : Fin N → Loc → Prop} {ro : Loc → Prop} (F : H.Footprint own ro)
    (j : Fin N) (h : Loc → Val) (l : Loc) (hl : ¬ own j l) : H.stepRun h j l = h l := by
  unfold stepRun
  cases hs : H.step j h with
  | none => rfl
  | some h' => exact F.writes_own j h h' l hs hl

theorem stepRun_other {own : Fin N → Loc → Prop} {ro : Loc → Prop} (F : H.Footprint own ro)
    (i j : Fin N) (hij : j ≠ i) (h : Loc → Val) : Agree own ro i (H.stepRun h j) h :=
  fun l hl => stepRun_frame H F j h l
    (hl.elim (fun hi hj => F.own_disjoint j i l hij hj hi) (fun hr hj => F.ro_disjoint j l hj hr))

theorem stepRun_self {own : Fin N → Loc → Prop} {ro : Loc → Prop} (F : H.Footprint own ro)
    (i : Fin N) (h₁ h₂ : Loc → Val) (hag : Agree own ro i h₁ h₂) :
    Agree own ro i (H.stepRun h₁ i) (H.stepRun h₂ i) := by
  have hh := F.reads_halt i h₁ h₂ hag
  unfold stepRun
  cases h1 : H.step i h₁ with
  | none =>
    cases h2 : H.step i h₂ with
    | none => exact hag
    | some b => rw [h1, h2] at hh; cases hh
  | some a =>
    cases h2 : H.step i h₂ with
    | none => rw [h1, h2] at hh; cases hh
    | some b => exact F.reads_val i h₁ h₂ a b hag h1 h2

theorem run_agree {own : Fin N → Loc → Prop} {ro : Loc → Prop} (F : H.Footprint own ro)
    (i : Fin N) (sched : List (Fin N)) (h₁ h₂ : Loc → Val) (hag : Agree own ro i h₁ h₂) :
    Agree own ro i (H.run sched h₁) (H.solo i (occ i sched) h₂) :=
  unwind H.stepRun i (H.stepRun · i) (H.solo i) (fun _ => rfl) (fun _ _ => rfl) (Agree own ro i)
    (stepRun_self H F i) (fun j h _ hj hag l hl => (stepRun_other H F i j hj h l hl).trans (hag l hl))
    sched h₁ h₂ hag

theorem run_unowned {own : Fin N → Loc → Prop} {ro : Loc → Prop} (F : H.Footprint own ro)
    (l : Loc) (hl : ∀ j, ¬ own j l) (sched : List (Fin N)) (h : Loc → Val) : H.run sched h l = h l :=
  List.foldlRecOn (motive := fun h' => h' l = h l) sched H.stepRun rfl
    (fun h' ih j _ => (stepRun_frame H F j h' l (hl j)).trans ih)

end HMachine

/-- The bound by the counter makes distinctness inductive: a fresh index is above the counter, hence above every
    index held. -/
def CInv {k : Nat} (s : CState k) : Prop :=
  (∀ i v, s.got i = some v → v ≤ s.counter) ∧
  (∀ i j v w, i ≠ j → s.got i = some v → s.got j = some w → v ≠ w)

theorem fetchAdd_inv {k : Nat} (s : CState k) (i : Fin k) (inv : CInv s) : CInv (fetchAdd s i) := by
  unfold fetchAdd
  split
  · exact inv
  · next hnone =>
    obtain ⟨hle, hne⟩ := inv
    refine ⟨?_, ?_⟩
    · intro a v
      show (if a = i then some (s.counter + 1) else s.got a) = some v → v ≤ s.counter + 1
      split
      · intro h; cases h; exact Nat.le_refl _
      · intro h; exact Nat.le_succ_of_le (hle a v h)
    · intro a b v w hab
      show (if a = i then some (s.counter + 1) else s.got a) = some v →
           (if b = i then some (s.counter + 1) else s.got b) = some w → v ≠ w
      by_cases ha : a = i
      · have hb : b ≠ i := fun e => hab (ha.trans e.symm)
        rw [if_pos ha, if_neg hb]
        intro h1 h2; cases h1
        have := hle b w h2
        omega
      · rw [if_neg ha]
        by_cases hb : b = i
        · rw [if_pos hb]
          intro h1 h2; cases h2
          have := hle a v h1
          omega
        · rw [if_neg hb]
          exact hne a b v w hab

theorem runAtomic_inv {k : Nat} (sched : List (Fin k)) (s : CState k) (inv : CInv s) : CInv (runAtomic sched s) :=
  List.foldlRecOn sched fetchAdd inv (fun s inv j _ => fetchAdd_inv s j inv)

theorem init_inv (k c₀ : Nat) : CInv (CState.init k c₀) :=
  ⟨fun _ _ h => (by cases h), fun _ _ _ _ _ h => (by cases h)⟩

theorem fetchAdd_keeps {k : Nat} (s : CState k) (i j : Fin k) (h : (s.got j).isSome) :
    ((fetchAdd s i).got j).isSome := by
  unfold fetchAdd
  split
  · exact h
  · show (if j = i then some (s.counter + 1) else s.got j).isSome
    split
    · rfl
    · exact h

theorem fetchAdd_gets {k : Nat} (s : CState k) (i : Fin k) : ((fetchAdd s i).got i).isSome := by
  unfold fetchAdd
  split
  · next v h => rw [h]; rfl
  · show (if i = i then some (s.counter + 1) else s.got i).isSome
    rw [if_pos rfl]; rfl

theorem runAtomic_keeps {k : Nat} (sched : List (Fin k)) (j : Fin k) (s : CState k) (h : (s.got j).isSome) :
    ((runAtomic sched s).got j).isSome :=
  List.foldlRecOn (motive := fun s => (s.got j).isSome) sched fetchAdd h (fun s h i _ => fetchAdd_keeps s i j h)

theorem runAtomic_gets {k : Nat} (sched : List (Fin k)) (j : Fin k) (hj : j ∈ sched) :
    ∀ s : CState k, ((runAtomic sched s).got j).isSome := by
  induction sched with
  | nil => cases hj
  | cons i rest ih =>
    intro s
    show ((runAtomic rest (fetchAdd s i)).got j).isSome
    rcases List.mem_cons.mp hj with h | h
    · subst h; exact runAtomic_keeps rest j _ (fetchAdd_gets s j)
    · exact ih h _

theorem exHeap_footprint : exHeap.Footprint exOwn exRo := by
  refine ⟨?_, ?_, ?_, ?_, ?_⟩
  · intro i j l hij hi hj
    apply hij
    apply Fin.ext
    unfold exOwn at hi hj
    omega
  · intro i l hi hr
    unfold exOwn at hi
    unfold exRo at hr
    have := i.isLt
    omega
  · intro i h h' l hs hn
    unfold exOwn at hn
    simp only [exHeap] at hs
    split at hs
    · cases hs
      simp [hn]
    · cases hs
  · intro i h₁ h₂ hag
    have : h₁ i.val = h₂ i.val := hag i.val (Or.inl rfl)
    simp only [exHeap, this]
    split <;> rfl
  · intro i h₁ h₂ a b hag ha hb
    have e0 : h₁ i.val = h₂ i.val := hag i.val (Or.inl rfl)
    have e2 : h₁ 2 = h₂ 2 := hag 2 (Or.inr rfl)
    simp only [exHeap] at ha hb
    split at ha
    · split at hb
      · cases ha; cases hb
        intro l hl
        show (if l = i.val then h₁ l + h₁ 2 else h₁ l) = (if l = i.val then h₂ l + h₂ 2 else h₂ l)
        rw [hag l hl, e2]
      · cases hb
    · cases ha

end PV.Conc
