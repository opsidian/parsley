/-
  parsley.Transform / (*NonTerminalNode).Transform, translated, against the model's `transform`.

  Transform rebuilds the tree in place: the children slice of every non-terminal is overwritten, child by child, with what
  the transformation of the child returns; a user-defined NodeTransformer may allocate new nodes.  `TrOut` is the contract
  that user transformers are assumed to satisfy and that the translated Transform is proved to satisfy: the result is a
  tree-shaped part of the new heap showing the model's result, made of addresses of the old tree or of fresh ones, and
  every other allocated cell is left alone (`Frame`).

  At the end (`PV.TreeTie.Ex`): a concrete instance showing that the hypotheses of the tree ties can be met.
-/
import ParsleyVerif.Proofs.TreeTieCheck
namespace PV.TreeTie
open PV.CorePrelude hiding Node World
open PV.TreePrelude PV.FactsTree
open PV.Walk (T ICap Transformer transform transformList)

def Frame (h h' : Heap) (old new : List Ptr) : Prop := ∀ b, h b ≠ none → b ∉ old → h' b = h b ∧ b ∉ new

def TrOut (E : Enc) (s : TSt) (sk : Sk) (x : TRes TSt (TN × TErr)) : Except Nat T → Prop
  | .error e => ∃ n' s', x = .ok (n', encErr e) s' ∧ Frame s.heap s'.heap sk.addrs []
  | .ok t' => ∃ s' sk', x = .ok (sk'.node, PV.CorePrelude.Err.nil) s' ∧ Shaped s'.heap sk' ∧ absT E s'.heap sk' = t' ∧
      sk'.addrs.Nodup ∧ Frame s.heap s'.heap sk.addrs sk'.addrs

def isTransformer (W : TW) : TInterp → Bool
  | .custom id => W.implements id (Go.str "parsley.NodeTransformer")
  | _ => false

theorem isTransformer_eq (W : TW) (i : TInterp) :
    isTransformer W i = passes W.implements [] (Go.str "parsley.NodeTransformer") i := by
  cases i <;> rfl

/-- what the Transform tie assumes of the world: only the nil interpreter has no code; the model's capability `transformer` of
    a code is the type test `i.(parsley.NodeTransformer)`; a user-defined transformer, on every non-terminal that carries it,
    keeps the contract `TrOut` against the model's `tr` -/
structure TransformWorld (W : TW) (E : Enc) (uctx : TValue) (caps : Nat → ICap) (tr : Transformer) : Prop where
  nilCode : ∀ i, E.icode i = none ↔ i = PV.TreePrelude.Interp.nil
  caps : ∀ i k, E.icode i = some k → (caps k).transformer = isTransformer W i
  custom : ∀ (id : Nat) (k : Nat) (a : Ptr) (kids : List Sk) (s : TSt) (c : TCell),
    E.icode (.custom id) = some k → W.implements id (Go.str "parsley.NodeTransformer") = true →
    s.heap a = some c → c.interpreter = .custom id → Shaped s.heap (.nt a kids) → (Sk.nt a kids).addrs.Nodup →
    TrOut E s (.nt a kids) (W.TransformNode id uctx (.ref a) s) (tr k (absT E s.heap (.nt a kids)))

theorem transform_nt_tr (caps : Nat → ICap) (tr : Transformer) (i k : Nat) (sc : Option Nat) (cs : List T)
    (h : (caps k).transformer = true) : transform caps tr (.nt i (some k) sc cs) = tr k (.nt i (some k) sc cs) := by
  simp [transform, h]

theorem transform_nt_kids (caps : Nat → ICap) (tr : Transformer) (i : Nat) (ip sc : Option Nat) (cs : List T)
    (h : ∀ k, ip = some k → (caps k).transformer = false) :
    transform caps tr (.nt i ip sc cs) = match transformList caps tr cs with
      | .ok cs' => .ok (.nt i ip sc cs')
      | .error e => .error e := by
  cases h2 : transformList caps tr cs <;> cases ip with
  | none => simp [transform, h2]
  | some k => simp [transform, h k rfl, h2]

theorem transformList_cons (caps : Nat → ICap) (tr : Transformer) (c : T) (rest : List T) :
    transformList caps tr (c :: rest) = match transform caps tr c with
      | .error e => .error e
      | .ok c' => match transformList caps tr rest with
        | .error e => .error e
        | .ok rest' => .ok (c' :: rest') := by
  cases h1 : transform caps tr c with
  | error e => simp [transformList, h1]
  | ok c' => cases h2 : transformList caps tr rest <;> simp [transformList, h1, h2]

/-- `TrOut` for the children loop of (*NonTerminalNode).Transform at cell `a` (`pre`: written so far, `todo`: still to do)
    against `transformList`: an error leaves through `return`; otherwise the loop ends with the cell holding `pre` and then the
    results, which lie tree-shaped and apart from each other and from `a` in the new heap and show the model's list -/
def LoopOut (E : Enc) (s : TSt) (a : Ptr) (c : TCell) (pre : List TN) (todo : List Sk)
    (x : TRes TSt (Brk (TN × TErr) (TErr × Int))) : Except Nat (List T) → Prop
  | .error e => ∃ s', x = .ok (.ret (PV.TreePrelude.Node.nil, encErr e)) s' ∧ Frame s.heap s'.heap (a :: addrsL todo) []
  | .ok ts' => ∃ s' res i', x = .ok (.done (PV.CorePrelude.Err.nil, i')) s' ∧
      s'.heap a = some { c with children := pre ++ nodes res } ∧ ShapedL s'.heap res ∧ absL E s'.heap res = ts' ∧
      (addrsL res).Nodup ∧ a ∉ addrsL res ∧ Frame s.heap s'.heap (a :: addrsL todo) (addrsL res)

theorem frame_agree {h h' : Heap} {old new l : List Ptr} (f : Frame h h' old new) (hal : ∀ b ∈ l, h b ≠ none)
    (hd : ∀ b ∈ l, b ∉ old) : Agree h h' l := fun b hb => (f b (hal b hb) (hd b hb)).1

/-- a pass below one child, a write to the parent's cell `a`, a pass below the remaining children -/
theorem Frame.seq {h h1 h2 h' : Heap} {a : Ptr} {o1 n1 o2 n2 : List Ptr} (f1 : Frame h h1 o1 n1)
    (h12 : ∀ b, b ≠ a → h2 b = h1 b) (f2 : Frame h2 h' (a :: o2) n2) : Frame h h' (a :: (o1 ++ o2)) (n1 ++ n2) := by
  intro b hb hbo
  simp only [List.mem_cons, List.mem_append, not_or] at hbo
  have g1 := f1 b hb hbo.2.1
  have g2 := f2 b (by rw [h12 b hbo.1, g1.1]; exact hb) (by simp only [List.mem_cons, not_or]; exact ⟨hbo.1, hbo.2.2⟩)
  exact ⟨by rw [g2.1, h12 b hbo.1, g1.1], by simp only [List.mem_append, not_or]; exact ⟨g1.2, g2.2⟩⟩

/-- how (*NonTerminalNode).Transform finishes after the loop -/
def finishT (a : Ptr) : TRes TSt (Brk (TN × TErr) (TErr × Int)) → TRes TSt (TN × TErr)
  | .ok (.ret t) s' => .ok t s'
  | .ok (.done _) s' => .ok (PV.TreePrelude.Node.ref a, PV.CorePrelude.Err.nil) s'
  | .panic => .panic
  | .nofuel => .nofuel

/-- (*NonTerminalNode).Transform, translated, in one equation -/
theorem ntTransform_eq (W : TW) (g : Nat) (a : Ptr) (uctx : TValue) (s : TSt) (c : TCell) (hc : s.heap a = some c) :
    NonTerminalNode_Transform W (g + 1) a uctx s =
      if isTransformer W c.interpreter then
        (match c.interpreter with
          | .custom id => W.TransformNode id uctx (.ref a)
          | _ => TreePrelude.Go.noMethod : TM (TN × TErr)) s
      else finishT a (NonTerminalNode_Transform_loop1 W a uctx (Transform W g) (NonTerminalNode_Transform W g) c.children
        PV.CorePrelude.Err.nil 0 s) := by
  rw [isTransformer_eq]
  cases hp : passes W.implements [] (Go.str "parsley.NodeTransformer") c.interpreter with
  | false =>
    simp only [NonTerminalNode_Transform, GoM.bind_apply, GoM.ite_apply, load_some hc, asIface_eq, hp, Bool.false_eq_true,
      ↓reduceIte, ite_self]
    generalize NonTerminalNode_Transform_loop1 W a uctx _ _ c.children PV.CorePrelude.Err.nil 0 s = x
    rcases x with ⟨_ | ⟨_, _⟩, _⟩ | _ | _ <;> rfl
  | true =>
    simp only [NonTerminalNode_Transform, GoM.bind_apply, load_some hc, asIface_eq, hp, passes_not_nil hp,
      Bool.not_false, ↓reduceIte]
    cases c.interpreter <;> rfl

/-- one round of the loop of (*NonTerminalNode).Transform: the child is transformed, what comes back is written over it
    in the parent's cell (also when it comes with an error), an error is returned at once -/
theorem Transform_loop_round (W : TW) (a : Ptr) (uctx : TValue) (r1 : TValue → TN → TM (TN × TErr)) (r2)
    {child x n' : TN} {rest pre tl : List TN} {e : TErr} {s s1 : TSt} {c : TCell} (e0 : TErr)
    (h1 : r1 uctx child s = .ok (n', e) s1) (hc1 : s1.heap a = some c) (hch : c.children = pre ++ x :: tl) :
    NonTerminalNode_Transform_loop1 W a uctx r1 r2 (child :: rest) e0 (pre.length : Int) s =
      match e with
      | .nil => NonTerminalNode_Transform_loop1 W a uctx r1 r2 rest PV.CorePrelude.Err.nil ((pre ++ [n']).length : Int)
          { s1 with heap := hset s1.heap a { c with children := pre ++ n' :: tl } }
      | e => .ok (.ret (PV.TreePrelude.Node.nil, e)) { s1 with heap := hset s1.heap a { c with children := pre ++ n' :: tl } } := by
  have hi : ((pre.length : Int) + 1) = ((pre ++ [n']).length : Int) := by
    rw [List.length_append, List.length_singleton]; rfl
  simp only [NonTerminalNode_Transform_loop1, GoM.bind_apply, h1, load_some hc1, hch, setNth_mid, store_some _ hc1, hi]
  cases e <;> rfl

/-- the claim of the Transform induction at a tree -/
def Transforms (W : TW) (E : Enc) (uctx : TValue) (caps : Nat → ICap) (tr : Transformer) (sk : Sk) : Prop :=
  ∀ (fuel : Nat) (s : TSt), Shaped s.heap sk → sk.addrs.Nodup → 2 * sk.fuel ≤ fuel →
    TrOut E s sk (Transform W fuel uctx sk.node s) (transform caps tr (absT E s.heap sk))

/-- … and at the children `todo` of the cell `a` that the loop has not reached yet (`pre`: what it wrote so far) -/
def TransformsL (W : TW) (E : Enc) (uctx : TValue) (caps : Nat → ICap) (tr : Transformer) (todo : List Sk) : Prop :=
  ∀ (a : Ptr) (g : Nat) (s : TSt) (c : TCell) (pre : List TN), s.heap a = some c →
    c.children = pre ++ nodes todo → ShapedL s.heap todo → (a :: addrsL todo).Nodup → 2 * fuelL todo ≤ g →
    LoopOut E s a c pre todo
      (NonTerminalNode_Transform_loop1 W a uctx (Transform W g) (NonTerminalNode_Transform W g) (nodes todo)
        PV.CorePrelude.Err.nil (pre.length : Int) s)
      (transformList caps tr (absL E s.heap todo))

/-- a non-terminal: a NodeTransformer is called on the node as it is; otherwise the children are transformed in place -/
theorem Transforms.nt {W : TW} {E : Enc} {uctx : TValue} {caps : Nat → ICap} {tr : Transformer}
    (tw : TransformWorld W E uctx caps tr) (a : Ptr) {kids : List Sk} (ih : TransformsL W E uctx caps tr kids) :
    Transforms W E uctx caps tr (.nt a kids) := by
  intro fuel s hs hnd hfu
  -- two levels of the translated recursion per level of the tree (Transform → (*NonTerminalNode).Transform, whose loop calls
  -- Transform on the children): hence `2 * sk.fuel`
  obtain ⟨g, rfl⟩ : ∃ k, fuel = k + 2 := ⟨fuel - 2, by simp [Sk.fuel] at hfu; omega⟩
  obtain ⟨⟨c, hc, hch⟩, hl⟩ := hs
  have hfl : 2 * fuelL kids ≤ g := by simp [Sk.fuel] at hfu; omega
  have hstart : Transform W (g + 2) uctx (Sk.nt a kids).node s = NonTerminalNode_Transform W (g + 1) a uctx s := rfl
  have habs0 := absT_nt E hc kids
  rw [hstart, ntTransform_eq W g a uctx s c hc, habs0]
  cases htrf : isTransformer W c.interpreter with
  | true =>
    cases hi : c.interpreter with
    | custom id =>
      rw [hi] at htrf
      obtain ⟨k, hk⟩ := Enc.code_of_passes tw.nilCode ((isTransformer_eq W _).symm.trans htrf)
      have hcap : (caps k).transformer = true := by rw [tw.caps _ k hk, htrf]
      have := tw.custom id k a kids s c hk (by simpa [isTransformer] using htrf) hc hi ⟨⟨c, hc, hch⟩, hl⟩ hnd
      rw [habs0, hi, hk] at this
      simp only [↓reduceIte, hk]
      rw [transform_nt_tr caps tr _ k _ _ hcap]
      exact this
    | nil => rw [hi] at htrf; simp [isTransformer] at htrf
    | select sel => rw [hi] at htrf; simp [isTransformer] at htrf
    | fn f => rw [hi] at htrf; simp [isTransformer] at htrf
  | false =>
    simp only [Bool.false_eq_true, ↓reduceIte]
    rw [transform_nt_kids caps tr _ _ _ _ (fun k hk => by rw [tw.caps _ k hk, htrf])]
    have hloop := ih a g s c [] hc (by simpa using hch) hl hnd hfl
    rw [hch]
    rw [show ((([] : List TN).length : Nat) : Int) = 0 from rfl] at hloop
    cases htl : transformList caps tr (absL E s.heap kids) with
    | error e =>
      rw [htl] at hloop
      obtain ⟨s', hx, hfr⟩ := hloop
      simp only [TrOut]
      exact ⟨_, s', by rw [hx]; rfl, hfr⟩
    | ok ts' =>
      rw [htl] at hloop
      obtain ⟨s', res, i', hx, hca, hsh, habs, hndr, har, hfr⟩ := hloop
      simp only [TrOut]
      refine ⟨s', .nt a res, by rw [hx]; rfl, ⟨⟨_, hca, by simp⟩, hsh⟩, ?_, ?_, ?_⟩
      · simp only [absT, hca, habs]
      · simp only [Sk.addrs]; exact List.nodup_cons.mpr ⟨har, hndr⟩
      · intro b hb hbo
        have := hfr b hb hbo
        refine ⟨this.1, ?_⟩
        simp only [Sk.addrs, List.mem_cons, not_or] at hbo ⊢
        exact ⟨hbo.1, this.2⟩

/-- one round: the child is transformed, what comes back is written over it in the parent's cell, then the rest.  The
    addresses of the old trees are distinct and the new ones fresh, so each step leaves the other trees alone (`Frame`). -/
theorem TransformsL.cons {W : TW} {E : Enc} {uctx : TValue} {caps : Nat → ICap} {tr : Transformer} {k : Sk} {rest : List Sk}
    (ih : Transforms W E uctx caps tr k) (ihr : TransformsL W E uctx caps tr rest) :
    TransformsL W E uctx caps tr (k :: rest) := by
  intro a g s c pre hc hch hs hnd hfu
  have hkf : 2 * k.fuel ≤ g := by simp [fuelL] at hfu; omega
  have hrf : 2 * fuelL rest ≤ g := by simp [fuelL] at hfu; omega
  have hnd0 := List.nodup_cons.mp hnd
  have hnd1 := List.nodup_append.mp (by simpa only [addrsL] using hnd0.2)
  have hak : a ∉ k.addrs := fun h => hnd0.1 (by simp [addrsL, h])
  have har : a ∉ addrsL rest := fun h => hnd0.1 (by simp [addrsL, h])
  have haal : s.heap a ≠ none := by rw [hc]; simp
  have hih := ih g s hs.1 hnd1.1 hkf
  simp only [nodes, absL]
  rw [transformList_cons]
  have hch' : c.children = pre ++ k.node :: nodes rest := by rw [hch]; simp [nodes]
  cases htr : transform caps tr (absT E s.heap k) with
  | error e =>
    rw [htr] at hih
    obtain ⟨n', s1, hx, hfr⟩ := hih
    have hc1 : s1.heap a = some c := by rw [(hfr a haal hak).1]; exact hc
    rw [Transform_loop_round W a uctx _ _ _ hx hc1 hch']
    refine ⟨_, rfl, fun b hb hbo => ?_⟩
    simp only [List.mem_cons, addrsL, List.mem_append, not_or] at hbo
    exact ⟨(hset_other _ _ _ _ hbo.1).trans (hfr b hb hbo.2.1).1, List.not_mem_nil⟩
  | ok t' =>
    rw [htr] at hih
    obtain ⟨s1, k', hx, hsh1, habs1, hnd', hfr⟩ := hih
    have hc1 : s1.heap a = some c := by rw [(hfr a haal hak).1]; exact hc
    have hak' : a ∉ k'.addrs := (hfr a haal hak).2
    have hrest_alloc : ∀ b ∈ addrsL rest, s.heap b ≠ none := shapedL_alloc rest hs.2
    have hrk : ∀ b ∈ addrsL rest, b ∉ k.addrs := fun b hb hb' => hnd1.2.2 b hb' b hb rfl
    have hrk' : ∀ b ∈ addrsL rest, b ∉ k'.addrs := fun b hb => (hfr b (hrest_alloc b hb) (hrk b hb)).2
    let c2 : TCell := { c with children := pre ++ k'.node :: nodes rest }
    let s2 : TSt := { s1 with heap := hset s1.heap a c2 }
    have hc2 : s2.heap a = some c2 := hset_same _ _ _
    have hag12 : ∀ b, b ≠ a → s2.heap b = s1.heap b := fun b hb => hset_other _ _ _ _ hb
    -- the remaining children lie where they lay: neither the pass below `k` nor the store into cell `a` touched them
    have hagrest : Agree s.heap s2.heap (addrsL rest) := fun b hb =>
      (hag12 b (fun e => har (e ▸ hb))).trans (frame_agree hfr hrest_alloc hrk b hb)
    have hrest2 : ShapedL s2.heap rest := shapedL_agree rest hagrest hs.2
    have habsrest : absL E s2.heap rest = absL E s.heap rest := absL_agree E rest hagrest
    have hloop := ihr a g s2 c2 (pre ++ [k'.node]) hc2
      (by simp [c2]) hrest2 (List.nodup_cons.mpr ⟨har, hnd1.2.1⟩) hrf
    rw [Transform_loop_round W a uctx _ _ _ hx hc1 hch']
    rw [habsrest] at hloop
    change LoopOut E s a c pre (k :: rest)
      (NonTerminalNode_Transform_loop1 W a uctx (Transform W g) (NonTerminalNode_Transform W g) (nodes rest)
        PV.CorePrelude.Err.nil ((pre ++ [k'.node]).length : Int) s2) _
    have hk'alloc1 : ∀ b ∈ k'.addrs, s1.heap b ≠ none := shaped_alloc k' hsh1
    have hk'alloc2 : ∀ b ∈ k'.addrs, s2.heap b ≠ none := fun b hb => by
      rw [hag12 b (fun e => hak' (e ▸ hb))]; exact hk'alloc1 b hb
    have hk'old : ∀ b ∈ k'.addrs, b ∉ a :: addrsL rest := fun b hb hb' => by
      rcases List.mem_cons.mp hb' with e | hb'
      · exact hak' (e ▸ hb)
      · exact hrk' b hb' hb
    cases htl : transformList caps tr (absL E s.heap rest) with
    | error e =>
      rw [htl] at hloop
      obtain ⟨s', hx', hfr'⟩ := hloop
      simp only [LoopOut]
      exact ⟨s', hx', fun b hb hbo => ⟨((hfr.seq hag12 hfr') b hb (by simpa only [addrsL] using hbo)).1, List.not_mem_nil⟩⟩
    | ok ts =>
      rw [htl] at hloop
      obtain ⟨s', res, i', hx', hca', hsh', habs', hndr, har', hfr'⟩ := hloop
      have hagk' : Agree s1.heap s'.heap k'.addrs := fun b hb =>
        (frame_agree hfr' hk'alloc2 hk'old b hb).trans (hag12 b (fun e => hak' (e ▸ hb)))
      simp only [LoopOut]
      refine ⟨s', k' :: res, i', hx', ?_, ⟨shaped_agree k' hagk' hsh1, hsh'⟩, ?_, ?_, ?_, ?_⟩
      · rw [hca']; simp [c2, nodes]
      · simp only [absL, abs_agree E k' hagk', habs1, habs']
      · simp only [addrsL]
        refine List.nodup_append.mpr ⟨hnd', hndr, ?_⟩
        intro b hb b' hb' e
        subst e
        exact (hfr' b (hk'alloc2 b hb) (hk'old b hb)).2 hb'
      · simp only [addrsL, List.mem_append, not_or]; exact ⟨hak', har'⟩
      · simpa only [addrsL] using hfr.seq hag12 hfr'

theorem transforms_all (W : TW) (E : Enc) (uctx : TValue) (caps : Nat → ICap) (tr : Transformer)
    (tw : TransformWorld W E uctx caps tr) :
    (∀ sk, Transforms W E uctx caps tr sk) ∧ (∀ todo, TransformsL W E uctx caps tr todo) := by
  -- a NodeList is not Transformable: it is returned as it is
  have hlist : ∀ items, Transforms W E uctx caps tr (.list items) := by
    intro items fuel s hs hnd hfu
    obtain ⟨fuel, rfl⟩ : ∃ k, fuel = k + 1 := ⟨fuel - 1, by simp [Sk.fuel] at hfu; omega⟩
    simp only [absT, transform, TrOut]
    exact ⟨s, .list items, rfl, hs, rfl, hnd, fun _ _ hb => ⟨rfl, hb⟩⟩
  refine Sk.rec₂ (fun n fuel s hs _ hfu => ?_) (fun a _ => Transforms.nt tw a) (hlist []) (fun f r _ => hlist (f :: r))
    (fun a g s c pre hc hch _ _ _ => ?_) (fun _ _ => TransformsL.cons)
  · obtain ⟨fuel, rfl⟩ : ∃ k, fuel = k + 1 := ⟨fuel - 1, by simp [Sk.fuel] at hfu; omega⟩
    simp only [absT, transform, TrOut]
    refine ⟨s, .leaf n, ?_, hs, rfl, by simp [Sk.addrs], fun _ _ hb => ⟨rfl, hb⟩⟩
    cases n <;> first | exact hs.elim | rfl
  · simp only [nodes, NonTerminalNode_Transform_loop1, absL, transformList, LoopOut, pure_apply]
    refine ⟨s, [], _, rfl, ?_, trivial, rfl, List.nodup_nil, List.not_mem_nil, fun _ _ _ => ⟨rfl, List.not_mem_nil⟩⟩
    rw [hc, ← hch]

/-- **parsley.Transform, translated, against the model's `transform`** -/
theorem tie_Transform (W : TW) (E : Enc) (uctx : TValue) (caps : Nat → ICap) (tr : Transformer)
    (tw : TransformWorld W E uctx caps tr) :
    ∀ (sk : Sk) (fuel : Nat) (s : TSt), Shaped s.heap sk → sk.addrs.Nodup → 2 * sk.fuel ≤ fuel →
      TrOut E s sk (Transform W fuel uctx sk.node s) (transform caps tr (absT E s.heap sk)) :=
  (transforms_all W E uctx caps tr tw).1

theorem transform_loop (W : TW) (E : Enc) (uctx : TValue) (caps : Nat → ICap) (tr : Transformer)
    (tw : TransformWorld W E uctx caps tr) (a : Ptr) :
    ∀ (todo : List Sk) (g : Nat) (s : TSt) (c : TCell) (pre : List TN), s.heap a = some c →
      c.children = pre ++ nodes todo → ShapedL s.heap todo → (a :: addrsL todo).Nodup → 2 * fuelL todo ≤ g →
      LoopOut E s a c pre todo
        (NonTerminalNode_Transform_loop1 W a uctx (Transform W g) (NonTerminalNode_Transform W g) (nodes todo)
          PV.CorePrelude.Err.nil (pre.length : Int) s)
        (transformList caps tr (absL E s.heap todo)) :=
  fun todo => (transforms_all W E uctx caps tr tw).2 todo a

end PV.TreeTie

/-! Non-vacuity of the tree ties: a concrete heap, tree, world, encoding and model parameters that satisfy the hypotheses
    of `tie_Walk`, `tie_StaticCheck` (`CheckWorld`, with a user-defined checker that can fail and a Select node) and
    `tie_Transform` (`TransformWorld`, with a user-defined transformer). -/
namespace PV.TreeTie.Ex
open PV.CorePrelude hiding Node World
open PV.TreePrelude PV.FactsTree PV.TreeTie
open PV.Walk (T ICap Checker Transformer)

def tm (p : Int) : TN := .term { schema := .nil, token := [], value := .nil, pos := p, readerPos := p }

def cell (i : TInterp) (kids : List TN) : TCell :=
  { schema := .nil, token := [], children := kids, pos := 0, readerPos := 0, interpreter := i }

/-- 1: no interpreter, over [terminal, 2, a list, 4]; 2: Select(0) over two terminals; 3: a user-defined interpreter (type 1:
    a checker and a transformer) over a terminal; 4: another one (type 2), no children -/
def heap : Heap := fun a =>
  if a = 1 then some (cell .nil [tm 10, .ref 2, .list [.ref 3, tm 11], .ref 4])
  else if a = 2 then some (cell (.select ⟨0⟩) [tm 12, tm 13])
  else if a = 3 then some (cell (.custom 1) [tm 14])
  else if a = 4 then some (cell (.custom 2) [])
  else none

def root : Sk :=
  .nt 1 [.leaf (tm 10), .nt 2 [.leaf (tm 12), .leaf (tm 13)], .list [.nt 3 [.leaf (tm 14)], .leaf (tm 11)], .nt 4 []]

def st : TSt := { heap := heap, vars := [], userCtx := .nil, ext := [] }

/-- the world: the user-defined types 1 and 2 implement StaticChecker and NodeTransformer; as checkers they answer schema
    42 — or fail with code 9 when `bad`; as transformers they answer a new terminal node — or fail with code 8 when `bad` -/
def world (bad : Bool) : TW where
  implements id _ := id == 1 || id == 2
  StaticCheck _ _ _ := fun s => .ok (if bad then (.nil, encErr 9) else (encS (some 42), .nil)) s
  TransformNode _ _ _ := fun s => .ok (if bad then (.nil, encErr 8) else (tm 677, .nil)) s
  Eval _ _ _ _ := Go.panic
  Parse _ := Go.panic

def enc : Enc where
  key
    | .ref a => a
    | .term t => 100 + t.pos.toNat
    | .list _ => 50
    | _ => 0
  icode
    | .nil => none
    | .select _ => some 0
    | .fn _ => some 1
    | .custom id => some (id + 2)

def caps : Nat → ICap := fun k => ⟨k == 0 || k == 3 || k == 4, k == 3 || k == 4⟩

def chk (bad : Bool) : Checker := fun k _ => if k = 0 then .ok none else if bad then .error 9 else .ok (some 42)

def tr (bad : Bool) : Transformer := fun _ _ => if bad then .error 8 else .ok (.leaf 777)

theorem shaped : Shaped heap root := by
  simp [root, Shaped, ShapedL, heap, cell, nodes, Sk.node, tm, LeafNode]

theorem nodup : root.addrs.Nodup := by decide

theorem checkWorld (bad : Bool) (u : TValue) : CheckWorld (world bad) enc u caps (chk bad) heap root where
  readOnly id u n := by intro s a s' h; simp [world] at h; exact h.2.symm
  nilCode i := by cases i <;> simp [enc]
  caps i k h := by
    cases i with
    | nil => simp [enc] at h
    | select s => simp [enc] at h; subst h; simp [caps, isChecker]
    | fn f => simp [enc] at h; subst h; simp [caps, isChecker]
    | custom id =>
      simp [enc] at h; subst h
      simp [caps, isChecker, world]
  custom id k a kids s c hk himp _ _ _ := by
    simp [enc] at hk; subst hk
    cases bad <;> simp [world, chk, encChk]
  select sel k a kids s c hk _ hsame hc hi hsh := by
    cases Option.some.inj hk
    -- up to its schema the cell is the cell of the initial heap, and there only cell 2 has a Select interpreter
    have h0 : some (stripS c) = (heap a).map stripS := by rw [← hsame a, hc]; rfl
    have hint : ∀ c0 : TCell, some (stripS c) = some (stripS c0) → c0.interpreter = .select sel := fun c0 h =>
      (congrArg (·.interpreter) (Option.some.inj h)).symm.trans hi
    rcases a with _ | _ | _ | _ | _ | a
    · cases h0
    · cases hint _ h0
    · cases hint _ h0
      have hkid : c.children = [tm 12, tm 13] := congrArg (·.children) (Option.some.inj h0)
      rw [tie_Select_StaticCheck (world bad) 0 u 2 s c hc, hkid]
      rfl
    · cases hint _ h0
    · cases hint _ h0
    · cases h0

theorem transformWorld (bad : Bool) (u : TValue) : TransformWorld (world bad) enc u caps (tr bad) where
  nilCode i := by cases i <;> simp [enc]
  caps i k h := by
    cases i with
    | nil => simp [enc] at h
    | select s => simp [enc] at h; subst h; simp [caps, isTransformer]
    | fn f => simp [enc] at h; subst h; simp [caps, isTransformer]
    | custom id =>
      simp [enc] at h; subst h
      simp [caps, isTransformer, world]
  custom id k a kids s c hk _ _ _ _ _ := by
    cases bad
    · simp only [tr, Bool.false_eq_true, ↓reduceIte, TrOut]
      refine ⟨s, .leaf (tm 677), by simp [world, Sk.node], by simp [Shaped, LeafNode, tm], by simp [absT, enc, tm],
        by simp [Sk.addrs], fun b _ _ => ⟨rfl, by simp [Sk.addrs]⟩⟩
    · simp only [tr, ↓reduceIte, TrOut]
      exact ⟨.nil, s, by simp [world], fun b _ _ => ⟨rfl, by simp⟩⟩

end PV.TreeTie.Ex
