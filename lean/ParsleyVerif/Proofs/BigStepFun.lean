/-
  The big-step semantics `Big` (Spec/BigStep.lean) is FUNCTIONAL: a parser has at most one exact result at
  a position.  Induction on the first derivation, inversion of the second.

  `Big`, `BigAny`, `BigChoice`, `BigSeq` and `BigAlts` are defined together, so a proof by induction on a
  derivation proves five statements at once; `Big.induction` is that principle, and every such proof of the
  development is one application of it.
-/
import ParsleyVerif.Spec.BigStep
namespace PV
open PV.Text

namespace Big

theorem shape_none_of (g : G) (h : ∀ sh, g.shape ≠ some sh) : g.shape = none := by
  cases hs : g.shape with
  | none => rfl
  | some sh => exact absurd hs (h sh)

end Big

open Big in
/-- Induction on derivations of the five relations: one statement for each of them, and for every rule of
    Spec/BigStep.lean a step that may use the statement for the rule's premises.  (Proving the same by recursion on
    the derivation, `termination_by structural`, is an order of magnitude dearer to check.) -/
theorem Big.induction {cfg : Cfg} {P : G → Nat → Res → Bool → Prop}
    {PAny : List G → Nat → Res → Res → Bool → Prop} {PChoice : List G → Nat → Res → Bool → Prop}
    {PSeq : SeqShape → Nat → List Node → Nat → List Node → Bool → Bool → Prop}
    {PAlts : SeqShape → Nat → List Node → List Node → List Node → Bool → Bool → Prop}
    (termOk : ∀ {t pos n}, t.parse cfg.params cfg.file pos = .node n → P (.term t) pos (.one n) false)
    (termFail : ∀ {t pos}, (∀ n, t.parse cfg.params cfg.file pos ≠ .node n) → P (.term t) pos .nil true)
    (empty : ∀ {pos}, P .empty pos (.one (.empty pos)) false)
    (eofOk : ∀ {pos}, isEOF cfg.file pos = true → P .eof pos (.one (.eof pos)) false)
    (eofFail : ∀ {pos}, isEOF cfg.file pos = false → P .eof pos .nil true)
    (ref : ∀ {k g pos R e}, cfg.env[k]? = some g → Big cfg g pos R e → P g pos R e → P (.ref k) pos R e)
    (refNone : ∀ {k pos}, cfg.env[k]? = none → P (.ref k) pos .nil true)
    (memo : ∀ {i g pos R e}, Big cfg g pos R e → P g pos R e → P (.memo i g) pos R e)
    (any : ∀ {gs pos R e e'}, BigAny cfg gs pos .nil R e → e' = (R.isNil && e) → PAny gs pos .nil R e →
      P (.any gs) pos R e')
    (choice : ∀ {gs pos R e}, BigChoice cfg gs pos R e → PChoice gs pos R e → P (.choice gs) pos R e)
    (optional : ∀ {g pos R e}, Big cfg g pos R e → P g pos R e →
      P (.optional g) pos (appendNode R (.one (.empty pos))) e)
    (name : ∀ {g nm pos R e R' e'}, Big cfg g pos R e → e' = (e || R.isNil) → R' = (if e' then Res.nil else R) →
      P g pos R e → P (.name g nm) pos R' e')
    (single : ∀ {g pos R e R'}, Big cfg g pos R e → R' = (if e then Res.nil else unwrapSingle R) → P g pos R e →
      P (.single g) pos R' e)
    (suppress : ∀ {g pos R e}, Big cfg g pos R e → P g pos R e → P (.suppress g) pos R false)
    (ltrimOk : ∀ {g m pos R e}, (skipWhitespaces cfg.file pos m).2 = none →
      Big cfg g (skipWhitespaces cfg.file pos m).1 R e → P g (skipWhitespaces cfg.file pos m).1 R e →
      P (.ltrim g m) pos R e)
    (ltrimWs : ∀ {g m pos R e w}, (skipWhitespaces cfg.file pos m).2 = some w →
      Big cfg g (skipWhitespaces cfg.file pos m).1 R e → (e = false ∨ R = .nil) →
      P g (skipWhitespaces cfg.file pos m).1 R e → P (.ltrim g m) pos .nil true)
    (rtrim : ∀ {g m pos R e R' e'}, Big cfg g pos R e → R' = (rtrimRes cfg.file m R e).1 →
      e' = (rtrimRes cfg.file m R e).2 → P g pos R e → P (.rtrim g m) pos R' e')
    (seqfam : ∀ {g sh pos em stop e R e'}, g.shape = some sh → BigSeq cfg sh 0 [] pos em stop e →
      R = foldEmit .nil em → e' = (R.isNil && e) → PSeq sh 0 [] pos em stop e → P g pos R e')
    (anyNil : ∀ {pos acc}, PAny [] pos acc acc false)
    (anyCons : ∀ {g gs pos acc R1 e1 R e2}, Big cfg g pos R1 e1 → BigAny cfg gs pos (appendNode acc R1) R e2 →
      P g pos R1 e1 → PAny gs pos (appendNode acc R1) R e2 → PAny (g :: gs) pos acc R (e1 || e2))
    (choiceNil : ∀ {pos}, PChoice [] pos .nil false)
    (hit : ∀ {g gs pos R e}, Big cfg g pos R e → R.isNil = false → P g pos R e → PChoice (g :: gs) pos R false)
    (skip : ∀ {g gs pos e1 R e2}, Big cfg g pos .nil e1 → BigChoice cfg gs pos R e2 → P g pos .nil e1 →
      PChoice gs pos R e2 → PChoice (g :: gs) pos R ((R.isNil && e1) || e2))
    (last : ∀ {sh depth nodes pos}, sh.lookup depth = none →
      PSeq sh depth nodes pos (if sh.lenCheck depth then [handleResult sh pos nodes] else [])
        (sh.lenCheck depth && lastIsEOF nodes) false)
    (fail : ∀ {sh depth nodes pos g e}, sh.lookup depth = some g → Big cfg g pos .nil e → P g pos .nil e →
      PSeq sh depth nodes pos (if sh.lenCheck depth then [handleResult sh pos nodes] else [])
        (sh.lenCheck depth && lastIsEOF nodes) e)
    (step : ∀ {sh depth nodes pos g R e1 em stop e2}, sh.lookup depth = some g → Big cfg g pos R e1 →
      R.isNil = false → BigAlts cfg sh depth nodes R.alts em stop e2 → P g pos R e1 →
      PAlts sh depth nodes R.alts em stop e2 → PSeq sh depth nodes pos em stop (e1 || e2))
    (altsNil : ∀ {sh depth nodes}, PAlts sh depth nodes [] [] false false)
    (stop : ∀ {sh depth nodes n rest em e}, BigSeq cfg sh (depth + 1) (nodes ++ [n]) n.rpos em true e →
      PSeq sh (depth + 1) (nodes ++ [n]) n.rpos em true e → PAlts sh depth nodes (n :: rest) em true e)
    (next : ∀ {sh depth nodes n rest em1 e1 em2 stop e2},
      BigSeq cfg sh (depth + 1) (nodes ++ [n]) n.rpos em1 false e1 → BigAlts cfg sh depth nodes rest em2 stop e2 →
      PSeq sh (depth + 1) (nodes ++ [n]) n.rpos em1 false e1 → PAlts sh depth nodes rest em2 stop e2 →
      PAlts sh depth nodes (n :: rest) (em1 ++ em2) stop (e1 || e2)) :
    (∀ g pos R e, Big cfg g pos R e → P g pos R e) ∧
    (∀ gs pos acc R e, BigAny cfg gs pos acc R e → PAny gs pos acc R e) ∧
    (∀ gs pos R e, BigChoice cfg gs pos R e → PChoice gs pos R e) ∧
    (∀ sh depth nodes pos em stop e, BigSeq cfg sh depth nodes pos em stop e → PSeq sh depth nodes pos em stop e) ∧
    (∀ sh depth nodes alts em stop e, BigAlts cfg sh depth nodes alts em stop e →
      PAlts sh depth nodes alts em stop e) := by
  refine ⟨fun _ _ _ _ h => ?_, fun _ _ _ _ _ h => ?_, fun _ _ _ _ h => ?_, fun _ _ _ _ _ _ _ h => ?_,
    fun _ _ _ _ _ _ _ h => ?_⟩ <;>
  -- `h.rec` is the recursor of the relation `h` is a derivation of; all five take the same steps, one for each rule
  exact h.rec (motive_1 := fun g pos R e _ => P g pos R e) (motive_2 := fun gs pos acc R e _ => PAny gs pos acc R e)
    (motive_3 := fun gs pos R e _ => PChoice gs pos R e) (motive_4 := fun sh d ns pos em s e _ => PSeq sh d ns pos em s e)
    (motive_5 := fun sh d ns al em s e _ => PAlts sh d ns al em s e)
    termOk termFail empty eofOk eofFail ref refNone memo any choice optional name single suppress ltrimOk ltrimWs
    rtrim seqfam anyNil anyCons choiceNil hit skip last fail step altsNil stop next

theorem big_fun_all (cfg : Cfg) :
    (∀ g pos R1 e1, Big cfg g pos R1 e1 → ∀ R2 e2, Big cfg g pos R2 e2 → R1 = R2 ∧ e1 = e2) ∧
    (∀ gs pos acc R1 e1, BigAny cfg gs pos acc R1 e1 → ∀ R2 e2, BigAny cfg gs pos acc R2 e2 → R1 = R2 ∧ e1 = e2) ∧
    (∀ gs pos R1 e1, BigChoice cfg gs pos R1 e1 → ∀ R2 e2, BigChoice cfg gs pos R2 e2 → R1 = R2 ∧ e1 = e2) ∧
    (∀ sh depth nodes pos em1 s1 e1, BigSeq cfg sh depth nodes pos em1 s1 e1 →
      ∀ em2 s2 e2, BigSeq cfg sh depth nodes pos em2 s2 e2 → em1 = em2 ∧ s1 = s2 ∧ e1 = e2) ∧
    (∀ sh depth nodes alts em1 s1 e1, BigAlts cfg sh depth nodes alts em1 s1 e1 →
      ∀ em2 s2 e2, BigAlts cfg sh depth nodes alts em2 s2 e2 → em1 = em2 ∧ s1 = s2 ∧ e1 = e2) := by
  apply Big.induction
  case termOk =>
    intro t pos n h R2 e2 h2
    cases h2 with
    | termOk h' => rw [h] at h'; cases h'; exact ⟨rfl, rfl⟩
    | termFail h' => exact absurd h (h' _)
    | seqfam hs => cases hs
  case termFail =>
    intro t pos h R2 e2 h2
    cases h2 with
    | termOk h' => exact absurd h' (h _)
    | termFail h' => exact ⟨rfl, rfl⟩
    | seqfam hs => cases hs
  case empty =>
    intro pos R2 e2 h2
    cases h2 with
    | empty => exact ⟨rfl, rfl⟩
    | seqfam hs => cases hs
  case eofOk =>
    intro pos h R2 e2 h2
    cases h2 with
    | eofOk h' => exact ⟨rfl, rfl⟩
    | eofFail h' => rw [h] at h'; cases h'
    | seqfam hs => cases hs
  case eofFail =>
    intro pos h R2 e2 h2
    cases h2 with
    | eofOk h' => rw [h] at h'; cases h'
    | eofFail h' => exact ⟨rfl, rfl⟩
    | seqfam hs => cases hs
  case ref =>
    intro k g pos R e hk _ ih R2 e2 h2
    cases h2 with
    | ref hk' h' => rw [hk] at hk'; cases hk'; exact ih _ _ h'
    | refNone hk' => rw [hk] at hk'; cases hk'
    | seqfam hs => cases hs
  case refNone =>
    intro k pos hk R2 e2 h2
    cases h2 with
    | ref hk' h' => rw [hk] at hk'; cases hk'
    | refNone hk' => exact ⟨rfl, rfl⟩
    | seqfam hs => cases hs
  case memo =>
    intro i g pos R e _ ih R2 e2 h2
    cases h2 with
    | memo h' => exact ih _ _ h'
    | seqfam hs => cases hs
  case any =>
    intro gs pos R e e' _ he ih R2 e2 h2
    cases h2 with
    | any h' he' =>
      obtain ⟨rfl, rfl⟩ := ih _ _ h'
      exact ⟨rfl, he.trans he'.symm⟩
    | seqfam hs => cases hs
  case choice =>
    intro gs pos R e _ ih R2 e2 h2
    cases h2 with
    | choice h' => exact ih _ _ h'
    | seqfam hs => cases hs
  case optional =>
    intro g pos R e _ ih R2 e2 h2
    cases h2 with
    | optional h' =>
      obtain ⟨rfl, rfl⟩ := ih _ _ h'
      exact ⟨rfl, rfl⟩
    | seqfam hs => cases hs
  case name =>
    intro g nm pos R e R' e' _ he hR ih R2 e2 h2
    cases h2 with
    | name h' he' hR' =>
      obtain ⟨rfl, rfl⟩ := ih _ _ h'
      subst he he'
      exact ⟨hR.trans hR'.symm, rfl⟩
    | seqfam hs => cases hs
  case single =>
    intro g pos R e R' _ hR ih R2 e2 h2
    cases h2 with
    | single h' hR' =>
      obtain ⟨rfl, rfl⟩ := ih _ _ h'
      exact ⟨hR.trans hR'.symm, rfl⟩
    | seqfam hs => cases hs
  case suppress =>
    intro g pos R e _ ih R2 e2 h2
    cases h2 with
    | suppress h' => exact ⟨(ih _ _ h').1, rfl⟩
    | seqfam hs => cases hs
  case ltrimOk =>
    intro g m pos R e hw _ ih R2 e2 h2
    cases h2 with
    | ltrimOk hw' h' => exact ih _ _ h'
    | ltrimWs hw' h' _ => rw [hw] at hw'; cases hw'
    | seqfam hs => cases hs
  case ltrimWs =>
    intro g m pos R e w hw _ _ _ R2 e2 h2
    cases h2 with
    | ltrimOk hw' h' => rw [hw] at hw'; cases hw'
    | ltrimWs hw' h' _ => exact ⟨rfl, rfl⟩
    | seqfam hs => cases hs
  case rtrim =>
    intro g m pos R e R' e' _ hR he ih R2 e2 h2
    cases h2 with
    | rtrim h' hR' he' =>
      obtain ⟨rfl, rfl⟩ := ih _ _ h'
      exact ⟨hR.trans hR'.symm, he.trans he'.symm⟩
    | seqfam hs => cases hs
  case seqfam =>
    intro g sh pos em stop e R e' hs _ hR he ih R2 e2 h2
    cases h2 with
    | seqfam hs' h' hR' he' =>
      rw [hs] at hs'; cases hs'
      obtain ⟨rfl, _, rfl⟩ := ih _ _ _ h'
      subst hR hR'
      exact ⟨rfl, he.trans he'.symm⟩
    | _ => cases hs
  case anyNil => intro pos acc R2 e2 h2; cases h2; exact ⟨rfl, rfl⟩
  case anyCons =>
    intro g gs pos acc R1 e1 R e2 _ _ ih iht R2 e2' h2
    cases h2 with
    | cons h' ht' =>
      obtain ⟨rfl, rfl⟩ := ih _ _ h'
      obtain ⟨rfl, rfl⟩ := iht _ _ ht'
      exact ⟨rfl, rfl⟩
  case choiceNil => intro pos R2 e2 h2; cases h2; exact ⟨rfl, rfl⟩
  case hit =>
    intro g gs pos R e _ hn ih R2 e2 h2
    cases h2 with
    | hit h' hn' => exact ⟨(ih _ _ h').1, rfl⟩
    | skip h' ht' => rw [(ih _ _ h').1] at hn; cases hn
  case skip =>
    intro g gs pos e1 R e2 _ _ ih iht R2 e2' h2
    cases h2 with
    | hit h' hn' => rw [← (ih _ _ h').1] at hn'; cases hn'
    | skip h' ht' =>
      obtain ⟨_, rfl⟩ := ih _ _ h'
      obtain ⟨rfl, rfl⟩ := iht _ _ ht'
      exact ⟨rfl, rfl⟩
  case last =>
    intro sh depth nodes pos hl em2 s2 e2 h2
    cases h2 with
    | last hl' => exact ⟨rfl, rfl, rfl⟩
    | fail hl' _ => rw [hl] at hl'; cases hl'
    | step hl' _ _ _ => rw [hl] at hl'; cases hl'
  case fail =>
    intro sh depth nodes pos g e hl _ ih em2 s2 e2 h2
    cases h2 with
    | last hl' => rw [hl] at hl'; cases hl'
    | fail hl' h' =>
      rw [hl] at hl'; cases hl'
      exact ⟨rfl, rfl, (ih _ _ h').2⟩
    | step hl' h' hn' _ =>
      rw [hl] at hl'; cases hl'
      rw [← (ih _ _ h').1] at hn'; cases hn'
  case step =>
    intro sh depth nodes pos g R e1 em stop e2 hl _ hn _ ih iha em2 s2 e2' h2
    cases h2 with
    | last hl' => rw [hl] at hl'; cases hl'
    | fail hl' h' =>
      rw [hl] at hl'; cases hl'
      rw [(ih _ _ h').1] at hn; cases hn
    | step hl' h' hn' ha' =>
      rw [hl] at hl'; cases hl'
      obtain ⟨rfl, rfl⟩ := ih _ _ h'
      obtain ⟨rfl, rfl, rfl⟩ := iha _ _ _ ha'
      exact ⟨rfl, rfl, rfl⟩
  case altsNil => intro sh depth nodes em2 s2 e2 h2; cases h2; exact ⟨rfl, rfl, rfl⟩
  case stop =>
    intro sh depth nodes n rest em e _ ih em2 s2 e2 h2
    cases h2 with
    | stop h' => exact ⟨(ih _ _ _ h').1, rfl, (ih _ _ _ h').2.2⟩
    | next h' ht' => cases (ih _ _ _ h').2.1
  case next =>
    intro sh depth nodes n rest em1 e1 em2 stop e2 _ _ ih iht em2' s2 e2' h2
    cases h2 with
    | stop h' => cases (ih _ _ _ h').2.1
    | next h' ht' =>
      obtain ⟨rfl, _, rfl⟩ := ih _ _ _ h'
      obtain ⟨rfl, rfl, rfl⟩ := iht _ _ _ ht'
      exact ⟨rfl, rfl, rfl⟩

theorem big_fun {cfg : Cfg} : ∀ {g : G} {pos : Nat} {R1 : Res} {e1 : Bool} {R2 : Res} {e2 : Bool},
    Big cfg g pos R1 e1 → Big cfg g pos R2 e2 → R1 = R2 ∧ e1 = e2 :=
  fun h1 h2 => (big_fun_all cfg).1 _ _ _ _ h1 _ _ h2

theorem big_any_fun {cfg : Cfg} : ∀ {gs : List G} {pos : Nat} {acc R1 : Res} {e1 : Bool} {R2 : Res} {e2 : Bool},
    BigAny cfg gs pos acc R1 e1 → BigAny cfg gs pos acc R2 e2 → R1 = R2 ∧ e1 = e2 :=
  fun h1 h2 => (big_fun_all cfg).2.1 _ _ _ _ _ h1 _ _ h2

theorem big_choice_fun {cfg : Cfg} : ∀ {gs : List G} {pos : Nat} {R1 : Res} {e1 : Bool} {R2 : Res} {e2 : Bool},
    BigChoice cfg gs pos R1 e1 → BigChoice cfg gs pos R2 e2 → R1 = R2 ∧ e1 = e2 :=
  fun h1 h2 => (big_fun_all cfg).2.2.1 _ _ _ _ h1 _ _ h2

theorem big_seq_fun {cfg : Cfg} : ∀ {sh : SeqShape} {depth : Nat} {nodes : List Node} {pos : Nat}
    {em1 : List Node} {s1 e1 : Bool} {em2 : List Node} {s2 e2 : Bool},
    BigSeq cfg sh depth nodes pos em1 s1 e1 → BigSeq cfg sh depth nodes pos em2 s2 e2 →
    em1 = em2 ∧ s1 = s2 ∧ e1 = e2 :=
  fun h1 h2 => (big_fun_all cfg).2.2.2.1 _ _ _ _ _ _ _ h1 _ _ _ h2

theorem big_alts_fun {cfg : Cfg} : ∀ {sh : SeqShape} {depth : Nat} {nodes alts : List Node}
    {em1 : List Node} {s1 e1 : Bool} {em2 : List Node} {s2 e2 : Bool},
    BigAlts cfg sh depth nodes alts em1 s1 e1 → BigAlts cfg sh depth nodes alts em2 s2 e2 →
    em1 = em2 ∧ s1 = s2 ∧ e1 = e2 :=
  fun h1 h2 => (big_fun_all cfg).2.2.2.2 _ _ _ _ _ _ _ h1 _ _ _ h2

end PV
