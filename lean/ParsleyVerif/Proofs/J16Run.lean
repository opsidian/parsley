/-
  C16, full value theorem: forward ("symbolic execution") lemmas about `run` for the combinators the JSON
  grammar uses, in the deterministic single-result fragment:

    `Succ cfg g pos n`   with enough fuel, from EVERY left-recursion context and state, `g` at `pos` answers
                         exactly the one node `n`, no curtailing parsers, no error;
    `Fails cfg g pos`    with enough fuel, from every context and state, `g` at `pos` answers nothing
                         (with or without an error), no curtailing parsers.
-/
import ParsleyVerif.Proofs.Trim
import ParsleyVerif.Proofs.RunEqns
import ParsleyVerif.Proofs.RunLoops
namespace PV.J16
open PV PV.Text

def Succ (cfg : Cfg) (g : G) (pos : Nat) (n : Node) : Prop :=
  ∃ F, ∀ fuel, F ≤ fuel → ∀ (ctx : Ctx) (st : St), ∃ st', run cfg fuel g ctx pos st = some (⟨.one n, [], none⟩, st')

def Fails (cfg : Cfg) (g : G) (pos : Nat) : Prop :=
  ∃ F, ∀ fuel, F ≤ fuel → ∀ (ctx : Ctx) (st : St), ∃ e st', run cfg fuel g ctx pos st = some (⟨.nil, [], e⟩, st')

theorem fuel_succ {F fuel : Nat} (h : F + 1 ≤ fuel) : ∃ k, fuel = k + 1 ∧ F ≤ k := ⟨fuel - 1, by omega, by omega⟩

theorem succ_of_step {cfg : Cfg} (hmc : cfg.maxCalls = 0) {g : G} {pos : Nat} {n : Node} (F : Nat)
    (h : ∀ fuel, F ≤ fuel → ∀ (ctx : Ctx) (st : St), ∃ st',
      runStep cfg (run cfg fuel) fuel g ctx pos st = some (⟨.one n, [], none⟩, st')) : Succ cfg g pos n := by
  refine ⟨F + 1, fun fuel hf ctx st => ?_⟩
  obtain ⟨k, rfl, hk⟩ := fuel_succ hf
  rw [run_succ0 hmc]; exact h k hk ctx st

theorem fails_of_step {cfg : Cfg} (hmc : cfg.maxCalls = 0) {g : G} {pos : Nat} (F : Nat)
    (h : ∀ fuel, F ≤ fuel → ∀ (ctx : Ctx) (st : St), ∃ e st',
      runStep cfg (run cfg fuel) fuel g ctx pos st = some (⟨.nil, [], e⟩, st')) : Fails cfg g pos := by
  refine ⟨F + 1, fun fuel hf ctx st => ?_⟩
  obtain ⟨k, rfl, hk⟩ := fuel_succ hf
  rw [run_succ0 hmc]; exact h k hk ctx st

theorem succ_term {cfg : Cfg} (hmc : cfg.maxCalls = 0) {t : Terminal} {pos : Nat} {n : Node}
    (h : t.parse cfg.params cfg.file pos = .node n) : Succ cfg (.term t) pos n :=
  succ_of_step hmc 0 fun _ _ _ st => ⟨st, by simp only [runStep, termStep, h]⟩

theorem fails_term {cfg : Cfg} (hmc : cfg.maxCalls = 0) {t : Terminal} {pos : Nat}
    (h : ∀ n, t.parse cfg.params cfg.file pos ≠ .node n) : Fails cfg (.term t) pos :=
  fails_of_step hmc 0 fun _ _ _ st => by
    simp only [runStep, termStep]
    cases hp : t.parse cfg.params cfg.file pos with
    | node n => exact absurd hp (h n)
    | err e => exact ⟨_, _, rfl⟩
    | panic s => exact ⟨_, _, rfl⟩

theorem succ_eof {cfg : Cfg} (hmc : cfg.maxCalls = 0) {pos : Nat} (h : isEOF cfg.file pos = true) :
    Succ cfg .eof pos (.eof pos) :=
  succ_of_step hmc 0 fun _ _ _ st => ⟨st, by simp only [runStep, eofStep, h, if_true]⟩

theorem succ_ref {cfg : Cfg} (hmc : cfg.maxCalls = 0) {k : Nat} {g : G} {pos : Nat} {n : Node}
    (hk : cfg.env[k]? = some g) (h : Succ cfg g pos n) : Succ cfg (.ref k) pos n := by
  obtain ⟨F, hF⟩ := h
  exact succ_of_step hmc F fun fuel hf ctx st => by simp only [runStep, hk]; exact hF fuel hf ctx st

theorem fails_ref {cfg : Cfg} (hmc : cfg.maxCalls = 0) {k : Nat} {g : G} {pos : Nat}
    (hk : cfg.env[k]? = some g) (h : Fails cfg g pos) : Fails cfg (.ref k) pos := by
  obtain ⟨F, hF⟩ := h
  exact fails_of_step hmc F fun fuel hf ctx st => by simp only [runStep, hk]; exact hF fuel hf ctx st

theorem succ_wrap {cfg : Cfg} (hmc : cfg.maxCalls = 0) {g : G} {w : Wrap} {pos : Nat} {n n' : Node}
    (hw : g.wrap cfg.file pos = some w) (h : Succ cfg w.child w.cpos n)
    (ho : w.out ⟨.one n, [], none⟩ = ⟨.one n', [], none⟩) : Succ cfg g pos n' := by
  obtain ⟨F, hF⟩ := h
  refine succ_of_step hmc F fun fuel hf ctx st => ?_
  obtain ⟨st', hr⟩ := hF fuel hf ctx st
  rw [runStep_wrap cfg _ fuel ctx st hw, hr]
  exact ⟨st', by rw [← ho]⟩

theorem fails_wrap {cfg : Cfg} (hmc : cfg.maxCalls = 0) {g : G} {w : Wrap} {pos : Nat}
    (hw : g.wrap cfg.file pos = some w) (h : Fails cfg w.child w.cpos)
    (ho : ∀ e, ∃ e', w.out ⟨.nil, [], e⟩ = ⟨.nil, [], e'⟩) : Fails cfg g pos := by
  obtain ⟨F, hF⟩ := h
  refine fails_of_step hmc F fun fuel hf ctx st => ?_
  obtain ⟨e, st', hr⟩ := hF fuel hf ctx st
  obtain ⟨e', he'⟩ := ho e
  rw [runStep_wrap cfg _ fuel ctx st hw, hr]
  exact ⟨e', st', by rw [← he']⟩

theorem succ_name {cfg : Cfg} (hmc : cfg.maxCalls = 0) {g : G} {nm : Bytes} {pos : Nat} {n : Node}
    (h : Succ cfg g pos n) : Succ cfg (.name g nm) pos n :=
  succ_wrap hmc (g := .name g nm) rfl h rfl

theorem fails_name {cfg : Cfg} (hmc : cfg.maxCalls = 0) {g : G} {nm : Bytes} {pos : Nat}
    (h : Fails cfg g pos) : Fails cfg (.name g nm) pos :=
  fails_wrap hmc (g := .name g nm) rfl h fun e => by
    cases e with
    | none => exact ⟨_, rfl⟩
    | some e => unfold nameOut; simp only; split <;> exact ⟨_, rfl⟩

theorem ltrimOut_nil (pos pos' : Nat) (ws e : Option Err) : ∃ e', ltrimOut pos pos' ws ⟨.nil, [], e⟩ = ⟨.nil, [], e'⟩ := by
  rcases ltrimOut_cases pos pos' ws ⟨.nil, [], e⟩ with ⟨_, h⟩ | ⟨_, _, h⟩ | ⟨_, _, _, _, h⟩ <;> exact ⟨_, h⟩

theorem succ_ltrim {cfg : Cfg} (hmc : cfg.maxCalls = 0) (hoff : 1 ≤ cfg.file.offset) {g : G} {m : WsMode} {pos : Nat}
    {n : Node} (hin : InFile cfg.file pos) (hok : wsOk m (rest cfg.file pos))
    (h : Succ cfg g (pos + wsRun (rest cfg.file pos)) n) : Succ cfg (.ltrim g m) pos n := by
  have hsk := skipWhitespaces_spec cfg.file pos m hin hoff
  refine succ_wrap hmc (g := .ltrim g m) (n := n) rfl ?_ ?_
  · show Succ cfg g (skipWhitespaces cfg.file pos m).1 n
    rw [hsk]; exact h
  · show ltrimOut pos (skipWhitespaces cfg.file pos m).1 (wsToErr (skipWhitespaces cfg.file pos m).2) ⟨.one n, [], none⟩ = ⟨.one n, [], none⟩
    rw [hsk, wsVerdict_ok m pos _ hok]; rfl

theorem fails_ltrim {cfg : Cfg} (hmc : cfg.maxCalls = 0) (hoff : 1 ≤ cfg.file.offset) {g : G} {m : WsMode} {pos : Nat}
    (hin : InFile cfg.file pos) (h : Fails cfg g (pos + wsRun (rest cfg.file pos))) : Fails cfg (.ltrim g m) pos := by
  refine fails_wrap hmc (g := .ltrim g m) rfl ?_ (ltrimOut_nil _ _ _)
  show Fails cfg g (skipWhitespaces cfg.file pos m).1
  rw [skipWhitespaces_spec cfg.file pos m hin hoff]; exact h

theorem choiceLoop_skip (r : RunFn) (ctx : Ctx) (pos : Nat) (post : List G) :
    ∀ (pre : List G), (∀ g ∈ pre, ∀ st, ∃ e st', r g ctx pos st = some (⟨.nil, [], e⟩, st')) →
      ∀ (a : AltSt) (st : St), ∃ a' st', a'.cp = a.cp ∧
        choiceLoop r ctx pos (pre ++ post) a st = choiceLoop r ctx pos post a' st' := by
  intro pre
  induction pre with
  | nil => intro _ a st; exact ⟨a, st, rfl, rfl⟩
  | cons g gs ih =>
    intro hpre a st
    obtain ⟨e, st1, hr⟩ := hpre g (by simp) st.regCall
    obtain ⟨a', st', hcp, hloop⟩ := ih (fun g' hg' => hpre g' (by simp [hg']))
      (altErr pos { a with cp := cpUnion a.cp [] } e) st1
    refine ⟨a', st', ?_, ?_⟩
    · rw [hcp, altErr_cp]; exact cpUnion_nil_right _
    · rw [List.cons_append, choiceLoop, hr]
      simp only [Res.isNil, Bool.not_true, Bool.false_eq_true, if_false]
      exact hloop

theorem fails_all {cfg : Cfg} {pos : Nat} : ∀ {gs : List G}, (∀ g ∈ gs, Fails cfg g pos) →
    ∃ F, ∀ g ∈ gs, ∀ fuel, F ≤ fuel → ∀ (ctx : Ctx) (st : St), ∃ e st',
      run cfg fuel g ctx pos st = some (⟨.nil, [], e⟩, st')
  | [], _ => ⟨0, fun _ hg => by cases hg⟩
  | a :: l, h => by
    obtain ⟨F1, h1⟩ := h a (by simp)
    obtain ⟨F2, h2⟩ := fails_all (gs := l) (fun g hg => h g (by simp [hg]))
    refine ⟨max F1 F2, fun g hg fuel hf ctx st => ?_⟩
    rcases List.mem_cons.mp hg with rfl | hm
    · exact h1 fuel (by omega) ctx st
    · exact h2 g hm fuel (by omega) ctx st

theorem succ_choice {cfg : Cfg} (hmc : cfg.maxCalls = 0) {pre post : List G} {g : G} {pos : Nat} {n : Node}
    (hpre : ∀ g' ∈ pre, Fails cfg g' pos) (hg : Succ cfg g pos n) : Succ cfg (.choice (pre ++ g :: post)) pos n := by
  obtain ⟨F1, h1⟩ := fails_all hpre
  obtain ⟨F2, h2⟩ := hg
  refine succ_of_step hmc (max F1 F2) fun fuel hf ctx st => ?_
  obtain ⟨a', st1, hcp, hloop⟩ := choiceLoop_skip (run cfg fuel) ctx pos (g :: post) pre
    (fun g' hg' st => h1 g' hg' fuel (by omega) ctx st) {} st
  obtain ⟨st2, hr⟩ := h2 fuel (by omega) ctx st1.regCall
  simp only [runStep, hloop, choiceLoop, hr, Res.isNil, Bool.not_false, if_true, altErr_cp, cpUnion_nil_right, hcp,
    choiceFinish]
  exact ⟨_, rfl⟩

theorem fails_choice {cfg : Cfg} (hmc : cfg.maxCalls = 0) {gs : List G} {pos : Nat}
    (hgs : ∀ g' ∈ gs, Fails cfg g' pos) : Fails cfg (.choice gs) pos := by
  obtain ⟨F1, h1⟩ := fails_all hgs
  refine fails_of_step hmc F1 fun fuel hf ctx st => ?_
  obtain ⟨a', st1, hcp, hloop⟩ := choiceLoop_skip (run cfg fuel) ctx pos [] gs
    (fun g' hg' st => h1 g' hg' fuel hf ctx st) {} st
  rw [List.append_nil] at hloop
  simp only [runStep, hloop, choiceLoop, choiceFinish, hcp]
  exact ⟨_, _, rfl⟩

def bump (k : Nat) : Node → Node
  | .term t v p r => .term t v p (r + k)
  | .nt t c p r i => .nt t c p (r + k) i
  | n => n

def IsTN : Node → Prop
  | .term _ _ _ _ => True
  | .nt _ _ _ _ _ => True
  | _ => False

theorem bump_rpos (k : Nat) (n : Node) (h : IsTN n) : (bump k n).rpos = n.rpos + k := by
  cases n <;> first | rfl | exact absurd h (by simp [IsTN])

theorem bump_pos (k : Nat) (n : Node) : (bump k n).pos = n.pos := by
  cases n <;> rfl

theorem setRposNode_nl (f : File) (n : Node) (htn : IsTN n) (hin : InFile f n.rpos) (hoff : 1 ≤ f.offset) :
    setRposNode f .spacesNl n none = (bump (wsRun (rest f n.rpos)) n, none) := by
  cases n with
  | term t v p r =>
    have hin' : InFile f r := hin
    simp only [setRposNode, skipWhitespaces_spec f r .spacesNl hin' hoff, wsVerdict, wsToErr, bump]
    rfl
  | nt t c p r i =>
    have hin' : InFile f r := hin
    simp only [setRposNode, skipWhitespaces_spec f r .spacesNl hin' hoff, wsVerdict, wsToErr, bump]
    rfl
  | empty p => exact absurd htn (by simp [IsTN])
  | eof p => exact absurd htn (by simp [IsTN])

theorem succ_rtrim_nl {cfg : Cfg} (hmc : cfg.maxCalls = 0) (hoff : 1 ≤ cfg.file.offset) {g : G} {pos : Nat} {n : Node}
    (htn : IsTN n) (hin : InFile cfg.file n.rpos) (h : Succ cfg g pos n) :
    Succ cfg (.rtrim g .spacesNl) pos (bump (wsRun (rest cfg.file n.rpos)) n) := by
  refine succ_wrap hmc (g := .rtrim g .spacesNl) rfl h ?_
  show rtrimOut cfg.file .spacesNl ⟨.one n, [], none⟩ = _
  simp only [rtrimOut, setRposRes, setRposNode_nl cfg.file n htn hin hoff]

/-- a chain of single results of the elements `depth`, `depth + 1`, … that cannot be extended -/
inductive ShChain (cfg : Cfg) (sh : SeqShape) : Nat → Nat → List Node → Prop
  | stopNone {depth pos} : sh.lookup depth = none → ShChain cfg sh depth pos []
  | stopFail {depth pos g} : sh.lookup depth = some g → Fails cfg g pos → ShChain cfg sh depth pos []
  | step {depth pos g n ns} : sh.lookup depth = some g → Succ cfg g pos n → ShChain cfg sh (depth + 1) n.rpos ns →
      ShChain cfg sh depth pos (n :: ns)

theorem seqAfter_cp (m : Bool) (ss : SeqSt) (res : Res) (e : Option Err) : (seqAfter m ss ⟨res, [], e⟩).cp = ss.cp := by
  unfold seqAfter
  split
  · exact cpUnion_nil_right _
  · rfl

/-- the chain stops at `fr`: element `fr.depth` is missing (`seqCall` then answers nothing) or answers nothing -/
theorem seqParse_stop (r : RunFn) (sh : SeqShape) (fuel : Nat) (fr : Frame) (ss : SeqSt) (st : St) (e : Option Err) (st1 : St)
    (hcall : seqCall r sh fr st = some (⟨.nil, [], e⟩, st1)) (hlen : sh.lenCheck fr.depth = true)
    (hnodes : fr.depth = 0 → fr.nodes = []) :
    ∃ b ss', seqParse r sh (fuel + 1) fr.depth fr.nodes fr.ctx fr.pos fr.merge ss st = some (b, ss', st1) ∧
      ss'.result = appendNode ss.result (.one (handleResult sh fr.pos fr.nodes)) ∧ ss'.cp = ss.cp := by
  rw [seqParse_deeper, hcall]
  simp only [Res.isNil, hlen, if_true]
  refine ⟨_, _, rfl, ?_, seqAfter_cp _ _ _ _⟩
  have hn : (if fr.depth > 0 then fr.nodes else []) = fr.nodes := by
    by_cases hd : fr.depth > 0
    · rw [if_pos hd]
    · rw [if_neg hd, hnodes (by omega)]
  simp only [seqEmit, seqAfter_result, hn]

/-- two fuels: `fr` for the runs of the elements (`run cfg fr`), `fuel` for the element loop, which goes one level down per
    node and once more to find that the chain ends (`ns.length + 1`) -/
theorem seqParse_chain (cfg : Cfg) (sh : SeqShape) : ∀ {depth pos : Nat} {ns : List Node},
    ShChain cfg sh depth pos ns → sh.lenCheck (depth + ns.length) = true →
    ∃ F, ∀ fr, F ≤ fr → ∀ fuel, ns.length + 1 ≤ fuel → ∀ (nodes : List Node) (ctx : Ctx) (merge : Bool) (ss : SeqSt) (st : St),
      (depth = 0 → nodes = []) →
      ∃ b ss' st', seqParse (run cfg fr) sh fuel depth nodes ctx pos merge ss st = some (b, ss', st') ∧
        ss'.result = appendNode ss.result (.one (handleResult sh pos (nodes ++ ns))) ∧ ss'.cp = ss.cp := by
  intro depth pos ns hc
  induction hc with
  | @stopNone depth pos hlk =>
    intro hlen
    refine ⟨0, fun fr _ fuel hf nodes ctx merge ss st hnodes => ?_⟩
    obtain ⟨k, rfl⟩ : ∃ k, fuel = k + 1 := ⟨fuel - 1, by simp at hf; omega⟩
    obtain ⟨b, ss', h⟩ := seqParse_stop (run cfg fr) sh k ⟨depth, nodes, ctx, pos, merge⟩ ss st none st
      (by simp only [seqCall, hlk]) (by simpa using hlen) hnodes
    rw [List.append_nil]
    exact ⟨b, ss', st, h⟩
  | @stopFail depth pos g hlk hfail =>
    intro hlen
    obtain ⟨F, hF⟩ := hfail
    refine ⟨F, fun fr hfr fuel hf nodes ctx merge ss st hnodes => ?_⟩
    obtain ⟨k, rfl⟩ : ∃ k, fuel = k + 1 := ⟨fuel - 1, by simp at hf; omega⟩
    obtain ⟨e, st1, hr⟩ := hF fr hfr ctx st.regCall
    obtain ⟨b, ss', h⟩ := seqParse_stop (run cfg fr) sh k ⟨depth, nodes, ctx, pos, merge⟩ ss st e st1
      (by simp only [seqCall, hlk, hr]) (by simpa using hlen) hnodes
    rw [List.append_nil]
    exact ⟨b, ss', st1, h⟩
  | @step depth pos g n ns hlk hsucc _ ih =>
    intro hlen
    obtain ⟨F1, hF1⟩ := hsucc
    obtain ⟨F2, hF2⟩ := ih (by rw [← hlen]; congr 1; simp only [List.length_cons]; omega)
    refine ⟨max F1 F2, fun fr hfr fuel hf nodes ctx merge ss st hnodes => ?_⟩
    obtain ⟨k, rfl⟩ : ∃ k, fuel = k + 1 := ⟨fuel - 1, by simp at hf; omega⟩
    obtain ⟨st1, hr⟩ := hF1 fr (by omega) ctx st.regCall
    let f : Frame := ⟨depth, nodes, ctx, pos, merge⟩
    obtain ⟨b, ss', st', hsp, hres, hcp⟩ := hF2 fr (by omega) k (by simp only [List.length_cons] at hf; omega)
      (f.next n).nodes (f.next n).ctx (f.next n).merge (seqAfter merge ss ⟨.one n, [], none⟩) st1 (by simp [Frame.next, f])
    refine ⟨b, ss', st', ?_, ?_, by rw [hcp, seqAfter_cp]⟩
    · rw [seqParse_deeper (run cfg fr) sh k f ss st]
      simp only [seqCall, f, hlk, hr]
      exact (seqAlts_one ..).trans hsp
    · rw [hres, seqAfter_result]
      simp only [Frame.next, f, List.append_assoc, List.cons_append, List.nil_append]
      rw [handleResult_pos_irrel sh n.rpos pos (nodes ++ n :: ns) (by simp)]

theorem succ_seqfam {cfg : Cfg} (hmc : cfg.maxCalls = 0) {g : G} {sh : SeqShape} (hs : g.shape = some sh)
    {pos : Nat} {ns : List Node} (hc : ShChain cfg sh 0 pos ns) (hlen : sh.lenCheck ns.length = true) :
    Succ cfg g pos (handleResult sh pos ns) := by
  obtain ⟨F, hF⟩ := seqParse_chain cfg sh hc (by simpa using hlen)
  refine succ_of_step hmc (max F (ns.length + 1)) fun fuel hf ctx st => ?_
  obtain ⟨b, ss', st', hsp, hres, hcp⟩ := hF fuel (by omega) fuel (by omega) [] ctx true {} st (fun _ => rfl)
  rw [runStep_shape cfg _ fuel ctx pos st hs, runSeq, hsp]
  simp only [List.nil_append, appendNode] at hres
  have hcp' : ss'.cp = [] := hcp
  refine ⟨st'.setError ss'.err, ?_⟩
  simp only [seqFinish, hres, hcp', Res.isNil, Bool.false_eq_true, if_false]

theorem succ_seqOf3 {cfg : Cfg} (hmc : cfg.maxCalls = 0) {a b c : G} {o : SeqOpts} {pos : Nat} {x1 x2 x3 : Node}
    (h1 : Succ cfg a pos x1) (h2 : Succ cfg b x1.rpos x2) (h3 : Succ cfg c x2.rpos x3) :
    Succ cfg (.seq .seqOf [a, b, c] o) pos (.nt (o.token.getD seqTok) [x1, x2, x3] x1.pos x3.rpos o.interp) :=
  succ_seqfam hmc (g := .seq .seqOf [a, b, c] o) rfl (.step rfl h1 (.step rfl h2 (.step rfl h3 (.stopNone rfl)))) rfl

theorem fails_seqOf {cfg : Cfg} (hmc : cfg.maxCalls = 0) {g0 : G} {gs : List G} {o : SeqOpts} {pos : Nat}
    (h : Fails cfg g0 pos) : Fails cfg (.seq .seqOf (g0 :: gs) o) pos := by
  obtain ⟨F, hF⟩ := h
  refine fails_of_step hmc (F + 1) fun fuel hf ctx st => ?_
  obtain ⟨f, rfl, hle⟩ := fuel_succ hf
  obtain ⟨e, st1, hr⟩ := hF (f + 1) (by omega) ctx st.regCall
  rw [runStep_shape cfg _ (f + 1) ctx pos st rfl, runSeq, seqParse_deeper _ _ f ⟨0, [], ctx, pos, true⟩]
  simp only [seqCall, List.getElem?_cons_zero, hr, Res.isNil, if_true]
  have : ((0 : Nat) == (g0 :: gs).length) = false := by simp
  simp only [this, Bool.false_eq_true, if_false, seqFinish, seqAfter_result, seqAfter_cp, Res.isNil, if_true]
  cases hn : o.name with
  | none => exact ⟨_, _, rfl⟩
  | some nm => exact ⟨_, _, rfl⟩

end PV.J16
