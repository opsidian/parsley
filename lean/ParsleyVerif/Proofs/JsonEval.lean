/-
  C16, evaluation of JSON trees: every JSON tree denotes a JSON value, and evaluates — with every custom
  interpreter table, for every fuel — to the evaluator value of that JSON value, unless the fuel runs out.
-/
import ParsleyVerif.Spec.JsonSem
import ParsleyVerif.Proofs.Walk
namespace PV
open PV.Text

theorem jvalOfList_eq : ∀ cs : List Node, jvalOfList cs = cs.map jvalOf
  | [] => by simp [jvalOfList]
  | c :: cs => by simp [jvalOfList, jvalOfList_eq cs]

theorem jkvOfList_eq : ∀ cs : List Node, jkvOfList cs = cs.map jkvOf
  | [] => by simp [jkvOfList]
  | c :: cs => by simp [jkvOfList, jkvOfList_eq cs]

inductive Forall2 {α β} (P : α → β → Prop) : List α → List β → Prop
  | nil : Forall2 P [] []
  | cons {a b l₁ l₂} : P a b → Forall2 P l₁ l₂ → Forall2 P (a :: l₁) (b :: l₂)

theorem forall2_of_mem {α β} {P : α → β → Prop} : ∀ (L : List α), (∀ n ∈ L, ∃ j, P n j) → ∃ js, Forall2 P L js
  | [], _ => ⟨[], .nil⟩
  | a :: L, h => by
    obtain ⟨j, hj⟩ := h a (by simp)
    obtain ⟨js, hjs⟩ := forall2_of_mem L (fun n hn => h n (by simp [hn]))
    exact ⟨j :: js, .cons hj hjs⟩

theorem allSome_map {α β} {g : α → Option β} {P : α → β → Prop} (hP : ∀ a b, P a b → g a = some b) :
    ∀ {L : List α} {js : List β}, Forall2 P L js → allSome (L.map g) = some js
  | _, _, .nil => rfl
  | _, _, .cons h t => by simp [allSome, hP _ _ h, allSome_map hP t]

def JsonOutcome (x : Node) (j : JVal) (fuel : Nat) (o : EvalOut) : Prop :=
  o = .ok (denote j) ∨ (o = .panic "out of fuel" ∧ fuel ≤ x.depth)

def JsonGood (ce : CustomEval) (x : Node) (j : JVal) : Prop :=
  jvalOf x = some j ∧ ∀ fuel, JsonOutcome x j fuel (evalNode ce fuel x)

theorem evalSeq_good (ce : CustomEval) (k : Nat) : ∀ {L : List Node} {js : List JVal}, Forall2 (JsonGood ce) L js →
    evalSeq (evalNode ce k) L = .ok (denoteList js) ∨
    (evalSeq (evalNode ce k) L = .error (.panic "out of fuel") ∧ ∃ n ∈ L, k ≤ n.depth)
  | _, _, .nil => .inl rfl
  | _, _, .cons (a := n) (l₁ := L) h t => by
    simp only [evalSeq]
    rcases h.2 k with h1 | ⟨h1, h2⟩
    · rcases evalSeq_good ce k t with h3 | ⟨h3, m, hm, hk⟩
      · exact .inl (by simp [h1, h3, EvalOut.toExcept, denoteList])
      · exact .inr ⟨by simp [h1, h3, EvalOut.toExcept], m, by simp [hm], hk⟩
    · exact .inr ⟨by simp [h1, EvalOut.toExcept], n, by simp, h2⟩

def KvGood (ce : CustomEval) (n : Node) (kj : Bytes × JVal) : Prop :=
  jkvOf n = some kj ∧ ∀ k, kvOf (evalNode ce k) n = .ok (kj.1, denote kj.2) ∨
    (kvOf (evalNode ce k) n = .error (.panic "out of fuel") ∧ k + 1 ≤ n.depth + 1 ∧ k ≤ n.depth)

theorem kvSeq_good (ce : CustomEval) (k : Nat) : ∀ {L : List Node} {kjs : List (Bytes × JVal)}, Forall2 (KvGood ce) L kjs →
    kvSeq (evalNode ce k) L = .ok (denotePairs kjs) ∨
    (kvSeq (evalNode ce k) L = .error (.panic "out of fuel") ∧ ∃ n ∈ L, k ≤ n.depth)
  | _, _, .nil => .inl rfl
  | _, _, .cons (a := n) (b := kj) (l₁ := L) h t => by
    simp only [kvSeq]
    rcases h.2 k with h1 | ⟨h1, _, h2⟩
    · rcases kvSeq_good ce k t with h3 | ⟨h3, m, hm, hk⟩
      · refine .inl ?_
        obtain ⟨kk, jj⟩ := kj
        simp [h1, h3, denotePairs]
      · exact .inr ⟨by simp [h1, h3], m, by simp [hm], hk⟩
    · exact .inr ⟨by simp [h1], n, by simp, h2⟩

theorem kv_good (ce : CustomEval) (tk tok kb : Bytes) (kp kr : Nat) (colon v : Node) (p q : Nat) (i : Interp) (jv : JVal)
    (hc : colon.depth = 0) (hv : JsonGood ce v jv) :
    KvGood ce (.nt tk [.term tok (.str kb) kp kr, colon, v] p q i) (kb, jv) := by
  refine ⟨?_, ?_⟩
  · simp [jkvOf, jvalOfList, hv.1]
  · intro k
    have hd : (Node.nt tk [.term tok (.str kb) kp kr, colon, v] p q i).depth = v.depth + 1 := by
      simp [Node.depth, depthAll, hc]
    simp only [kvOf, List.getElem?_cons_zero, List.getElem?_cons_succ, Option.elim]
    cases k with
    | zero => exact .inr ⟨by simp [evalNode, EvalOut.toExcept], by omega, by omega⟩
    | succ k' =>
      rcases hv.2 (k' + 1) with h1 | ⟨h1, h2⟩
      · exact .inl (by simp [evalNode, EvalOut.toExcept, h1, Val.toV])
      · exact .inr ⟨by simp [evalNode, EvalOut.toExcept, h1, Val.toV], by omega, by omega⟩

theorem leaf_depth (tok : Bytes) (v : Val) (p r : Nat) : (Node.term tok v p r).depth = 0 := by simp [Node.depth]

theorem runeLeaf_depth {f : File} {c : Nat} {x : Node} (h : IsRuneLeaf f c x) : x.depth = 0 := by
  obtain ⟨p, r, rfl, _⟩ := h
  exact leaf_depth ..

theorem depth_wrap (tk tk2 : Bytes) (lb rb : Node) (cs : List Node) (p2 q2 p q : Nat) (i2 i : Interp)
    (hl : lb.depth = 0) (hr : rb.depth = 0) :
    (Node.nt tk [lb, .nt tk2 cs p2 q2 i2, rb] p q i).depth = depthAll cs + 2 := by
  simp [Node.depth, depthAll, hl, hr]

theorem jvalOf_select1 (tk : Bytes) (a b c : Node) (p q : Nat) :
    jvalOf (.nt tk [a, b, c] p q (.select 1)) = jvalOf b := by
  simp [jvalOf, jvalOfList]

theorem leaf_good (ce : CustomEval) {tok : Bytes} {v : Val} {p r : Nat} {j : JVal}
    (hj : jvalOf (.term tok v p r) = some j) (hv : v.toV = denote j) : JsonGood ce (.term tok v p r) j :=
  ⟨hj, fun fuel => by
    cases fuel with
    | zero => exact .inr ⟨rfl, Nat.zero_le _⟩
    | succ k => exact .inl (by simp [evalNode, hv])⟩

theorem json_good (ce : CustomEval) {f : File} {x : Node} (h : IsJsonTree f x) : ∃ j, JsonGood ce x j := by
  induction h with
  | @str tok s p r => exact ⟨.str s, leaf_good ce rfl rfl⟩
  | @float tok s p r => exact ⟨.float s, leaf_good ce rfl rfl⟩
  | @int tok s p r => exact ⟨.int s, leaf_good ce rfl rfl⟩
  | @bool tok s p r => exact ⟨.bool s, leaf_good ce rfl rfl⟩
  | @null tok p r => exact ⟨.null, leaf_good ce rfl rfl⟩
  | @arr tk lb tk2 elems p2 q2 rb p q hlb hrb _ _ _ ih =>
    obtain ⟨js, hjs⟩ := forall2_of_mem (P := JsonGood ce) (everySecond elems) (fun n hn => by
      obtain ⟨i, hi, hpar⟩ := mem_everySecond hn
      exact ih i n hi hpar)
    have hval : jvalOf (.nt tk2 elems p2 q2 .array) = some (.arr js) := by
      simp only [jvalOf, jvalOfList_eq, everySecond_map]
      rw [allSome_map (P := JsonGood ce) (fun a b hab => hab.1) hjs]
      rfl
    have hdep := depth_wrap tk tk2 lb rb elems p2 q2 p q .array (.select 1) (runeLeaf_depth hlb) (runeLeaf_depth hrb)
    refine ⟨.arr js, ?_, fun fuel => ?_⟩
    · rw [jvalOf_select1, hval]
    · rw [JsonOutcome, hdep]
      match fuel with
      | 0 => exact .inr ⟨rfl, Nat.zero_le _⟩
      | 1 => exact .inr ⟨by simp [evalNode], by omega⟩
      | k + 2 =>
        have he : evalNode ce (k + 2) (.nt tk [lb, .nt tk2 elems p2 q2 .array, rb] p q (.select 1)) =
            EvalOut.ofExcept (fun vs => .arr ([] ++ vs)) (evalSeq (evalNode ce k) (everySecond elems)) := by
          simp [evalNode, evalArray_spec]
        rw [he]
        rcases evalSeq_good ce k hjs with h1 | ⟨h1, n, hn, hk⟩
        · exact .inl (by simp [h1, EvalOut.ofExcept, denote])
        · refine .inr ⟨by simp [h1, EvalOut.ofExcept], ?_⟩
          have := depth_le_depthAll (everySecond_subset _ _ hn)
          omega
  | @obj tk lb tk2 mems p2 q2 rb p q hlb hrb _ _ hkv _ ih =>
    obtain ⟨kjs, hkjs⟩ := forall2_of_mem (P := KvGood ce) (everySecond mems) (fun n hn => by
      obtain ⟨i, hi, hpar⟩ := mem_everySecond hn
      obtain ⟨tk3, tok, kb, kp, kr, colon, v, p3, q3, rfl, hcolon⟩ := hkv i n hi hpar
      obtain ⟨jv, hjv⟩ := ih i _ _ _ _ _ _ _ hi hpar
      exact ⟨(kb, jv), kv_good ce _ _ _ _ _ _ _ _ _ _ _ (runeLeaf_depth hcolon) hjv⟩)
    have hval : jvalOf (.nt tk2 mems p2 q2 .object) = some (.obj kjs) := by
      simp only [jvalOf, jkvOfList_eq, everySecond_map]
      rw [allSome_map (P := KvGood ce) (fun a b hab => hab.1) hkjs]
      rfl
    have hdep := depth_wrap tk tk2 lb rb mems p2 q2 p q .object (.select 1) (runeLeaf_depth hlb) (runeLeaf_depth hrb)
    refine ⟨.obj kjs, ?_, fun fuel => ?_⟩
    · rw [jvalOf_select1, hval]
    · rw [JsonOutcome, hdep]
      match fuel with
      | 0 => exact .inr ⟨rfl, Nat.zero_le _⟩
      | 1 => exact .inr ⟨by simp [evalNode], by omega⟩
      | k + 2 =>
        have he : evalNode ce (k + 2) (.nt tk [lb, .nt tk2 mems p2 q2 .object, rb] p q (.select 1)) =
            EvalOut.ofExcept (fun kvs => .obj (kvs.foldl (fun m kv => objSet m kv.1 kv.2) []))
              (kvSeq (evalNode ce k) (everySecond mems)) := by
          simp [evalNode, evalObject_spec]
        rw [he]
        rcases kvSeq_good ce k hkjs with h1 | ⟨h1, n, hn, hk⟩
        · exact .inl (by simp [h1, EvalOut.ofExcept, denote, mapOfPairs])
        · refine .inr ⟨by simp [h1, EvalOut.ofExcept], ?_⟩
          have := depth_le_depthAll (everySecond_subset _ _ hn)
          omega

end PV
