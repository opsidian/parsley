/-
  The alternatives: combinator.Any — translated closure vs. `run … (.any gs)` (`anyLoop`,
  `altErr`) — and combinator.Choice — vs. `run … (.choice gs)` (`choiceLoop`, `altErr`).
-/
import ParsleyVerif.Proofs.CoreTieWrap
import ParsleyVerif.Proofs.CoreTieData
namespace PV.CoreTie
open PV.FactsCore

inductive AgreesAll (W : World Context) (cfg : Cfg) (fuel : Nat) : List Parser → List G → Prop
  | nil : AgreesAll W cfg fuel [] []
  | cons {p : Parser} {g : G} {ps : List Parser} {gs : List G} :
      Agrees W cfg fuel p g → AgreesAll W cfg fuel ps gs → AgreesAll W cfg fuel (p :: ps) (g :: gs)

/-- the error selection shared by Any and Choice, in the order of the tests the translation makes (`altErr_some_cases`) -/
theorem altErr_cases (pos : Nat) (a : AltSt) (oerr : Option PV.Err) :
    (oerr = none ∧ altErr pos a oerr = a) ∨
    (∃ e, oerr = some e ∧ (a.err = none ∨ ∃ ce, a.err = some ce ∧ e.pos ≥ ce.pos) ∧
      ((e.pos > pos ∨ e.kind.isNotFound = false) ∧ altErr pos a oerr = { a with err := some e } ∨
       (¬ e.pos > pos ∧ e.kind.isNotFound = true) ∧ altErr pos a oerr = { a with nf := some e })) ∨
    (∃ e ce, oerr = some e ∧ a.err = some ce ∧ ¬ e.pos ≥ ce.pos ∧ altErr pos a oerr = a) := by
  cases oerr with
  | none => exact .inl ⟨rfl, rfl⟩
  | some e =>
    have far : (∀ c, a.err = some c → c.pos ≤ e.pos) → a.err = none ∨ ∃ ce, a.err = some ce ∧ e.pos ≥ ce.pos := fun h => by
      cases hae : a.err with
      | none => exact .inl rfl
      | some ce => exact .inr ⟨ce, rfl, h ce hae⟩
    rcases altErr_some_cases pos a e with ⟨h, hle, hk⟩ | ⟨h, hle, hp, hk⟩ | ⟨h, ce, hce, hlt⟩
    · exact .inr (.inl ⟨e, rfl, far hle, .inl ⟨hk, h⟩⟩)
    · exact .inr (.inl ⟨e, rfl, far hle, .inr ⟨⟨Nat.not_lt.mpr hp, hk⟩, h⟩⟩)
    · exact .inr (.inr ⟨e, ce, rfl, hce, Nat.not_le.mpr hlt, h⟩)

/-- the loop state of Any / Choice shows the model's `AltSt` -/
def RAlt (x : IntSet × CNode × CErr × CErr) (s' : Context) (r : AltSt × St) : Prop :=
  x = (eSet r.1.cp, eRes r.1.res, eErr r.1.err, eErr r.1.nf) ∧ StRel s' r.2

/-- the loop of Any; a round: the call is registered, the operand answers `o`, and the loop goes on with the model's
    next `AltSt` -/
theorem any_loop (W : World Context) (cfg : Cfg) (fuel : Nat) (m : IntMap) (c : Ctx) (hm : CtxRel m c) (pos : Nat) :
    ∀ (ps : List Parser) (gs : List G), AgreesAll W cfg fuel ps gs →
    ∀ (a : AltSt) (s : Context) (st : St), StRel s st →
      Sim RAlt (Any_parse_loop1 W m pos ps (eSet a.cp) (eRes a.res) (eErr a.err) (eErr a.nf) s)
        (anyLoop (run cfg fuel) c pos gs a st) := by
  intro ps gs hall
  induction hall with
  | nil => exact fun a s st hs => .ret ⟨rfl, hs⟩
  | @cons p g ps gs hp _ ih =>
    intro a s st hs
    obtain ⟨s0, e0, r0⟩ := tie_RegisterCall W s st hs
    rw [anyLoop, Any_parse_loop1, bind_ok e0]
    refine hp.bind hm pos r0 fun ⟨ores, ocp, oerr⟩ s1 st1 r1 => ?_
    -- what follows the call computes the model's next `AltSt`, and the loop goes on
    refine Sim.of_eq ?_ (ih _ s1 st1 r1)
    simp only [eOut, bind_ok (tie_AppendNode W a.res ores s1), ← eSet_union]
    generalize Any_parse_loop1 W m pos ps = L
    rcases altErr_cases pos { a with cp := cpUnion a.cp ocp, res := appendNode a.res ores } oerr with
      ⟨rfl, h⟩ | ⟨e, rfl, hce, ⟨hc, h⟩ | ⟨hc, h⟩⟩ | ⟨e, ce, rfl, hce, hlt, h⟩ <;> rw [h] <;> dsimp only at *
    · simp
    · rcases hce with hce | ⟨ce, hce, hge⟩ <;> rcases hc with hc | hc
      · simp [← Nat.not_lt, hce, hc]
      · simp [← Nat.not_lt, hce, hc]
      · simp [← Nat.not_lt, hce, hge, hc]
      · simp [← Nat.not_lt, hce, hge, hc]
    · rcases hce with hce | ⟨ce, hce, hge⟩
      · simp [← Nat.not_lt, hce, hc]
      · simp [← Nat.not_lt, hce, hge, hc]
    · simp [← Nat.not_lt, hce, hlt]

theorem tie_Any (W : World Context) (cfg : Cfg) (h0 : cfg.maxCalls = 0) (fuel : Nat) (ps : List Parser) (gs : List G)
    (hp : AgreesAll W cfg fuel ps gs) : AgreesF (Any_parse W ps) cfg (fuel + 1) (.any gs) := by
  intro m c pos s st hm hs
  rw [run_succ0 h0, runStep]
  refine corr_iff.mpr (Sim.bind (any_loop W cfg fuel m c hm pos ps gs hp {} s st hs) (fun h => by rw [h]) ?_)
  rintro _ s' ⟨a, st'⟩ hl ⟨rfl, r1⟩
  simp only [hl, anyFinish]
  cases hn : a.res.isNil
  · obtain ⟨s'', e2, r2⟩ := tie_SetError W s' st' r1 a.err
    exact ⟨_, s'', by simp [hn, e2, eOut], rfl, r2⟩
  · have : a.res = .nil := (isNil_iff _).mp hn
    exact ⟨_, s', by cases hae : a.err <;> simp [this, hae, eOut, AltSt.finalErr], rfl, r1⟩

/-- the loop of Choice returns the match, or falls through with the model's `AltSt` -/
def RChoice (x : CorePrelude.Brk (CNode × IntSet × CErr) (IntSet × CErr × CErr)) (s' : Context)
    (r : Option Out × AltSt × St) : Prop :=
  (match r.1 with
    | some o => x = .ret (eOut o)
    | none => x = .done (eSet r.2.1.cp, eErr r.2.1.err, eErr r.2.1.nf)) ∧ StRel s' r.2.2

/-- the loop of Choice; a round: the call is registered, the operand answers `o`, the errors are selected as in the
    model's `altErr`; then a match is returned after `ctx.SetError`, and otherwise the loop goes on -/
theorem choice_loop (W : World Context) (cfg : Cfg) (fuel : Nat) (m : IntMap) (c : Ctx) (hm : CtxRel m c) (pos : Nat) :
    ∀ (ps : List Parser) (gs : List G), AgreesAll W cfg fuel ps gs →
    ∀ (a : AltSt) (s : Context) (st : St), StRel s st →
      Sim RChoice (Choice_parse_loop1 W m pos ps (eSet a.cp) (eErr a.err) (eErr a.nf) s)
        (choiceLoop (run cfg fuel) c pos gs a st) := by
  intro ps gs hall
  induction hall with
  | nil => exact fun a s st hs => .ret ⟨rfl, hs⟩
  | @cons p g ps gs hp _ ih =>
    intro a s st hs
    obtain ⟨s0, e0, r0⟩ := tie_RegisterCall W s st hs
    rw [choiceLoop, Choice_parse_loop1, bind_ok e0]
    refine hp.bind hm pos r0 fun ⟨ores, ocp, oerr⟩ s1 st1 r1 => ?_
    -- the errors are selected as in `altErr`; then a match is returned after `ctx.SetError`, or the loop goes on
    refine Sim.of_eq (x' := (if (!(eRes ores).isNil) then do
          Context_SetError W (eErr (altErr pos { a with cp := cpUnion a.cp ocp } oerr).err)
          pure (.ret (eRes ores, eSet (altErr pos { a with cp := cpUnion a.cp ocp } oerr).cp, .nil))
        else Choice_parse_loop1 W m pos ps (eSet (altErr pos { a with cp := cpUnion a.cp ocp } oerr).cp)
          (eErr (altErr pos { a with cp := cpUnion a.cp ocp } oerr).err)
          (eErr (altErr pos { a with cp := cpUnion a.cp ocp } oerr).nf)) s1) ?_ ?_
    · simp only [eOut, ← eSet_union]
      generalize Choice_parse_loop1 W m pos ps = L
      generalize Context_SetError W = SE
      rcases altErr_cases pos { a with cp := cpUnion a.cp ocp } oerr with
        ⟨rfl, h⟩ | ⟨e, rfl, hce, ⟨hc, h⟩ | ⟨hc, h⟩⟩ | ⟨e, ce, rfl, hce, hlt, h⟩ <;> rw [h] <;> dsimp only at *
      · simp
      · rcases hce with hce | ⟨ce, hce, hge⟩ <;> rcases hc with hc | hc
        · simp [← Nat.not_lt, hce, hc]
        · simp [← Nat.not_lt, hce, hc]
        · simp [← Nat.not_lt, hce, hge, hc]
        · simp [← Nat.not_lt, hce, hge, hc]
      · rcases hce with hce | ⟨ce, hce, hge⟩
        · simp [← Nat.not_lt, hce, hc]
        · simp [← Nat.not_lt, hce, hge, hc]
      · simp [← Nat.not_lt, hce, hlt]
    · rw [eRes_isNil]
      dsimp only
      cases ores.isNil
      · obtain ⟨s2, e2, r2⟩ := tie_SetError W s1 st1 r1 (altErr pos { a with cp := cpUnion a.cp ocp } oerr).err
        exact ⟨_, s2, bind_ok e2, rfl, r2⟩
      · exact ih _ s1 st1 r1

theorem tie_Choice (W : World Context) (cfg : Cfg) (h0 : cfg.maxCalls = 0) (fuel : Nat) (ps : List Parser) (gs : List G)
    (hp : AgreesAll W cfg fuel ps gs) : AgreesF (Choice_parse W ps) cfg (fuel + 1) (.choice gs) := by
  intro m c pos s st hm hs
  rw [run_succ0 h0, runStep]
  refine corr_iff.mpr (Sim.bind (choice_loop W cfg fuel m c hm pos ps gs hp {} s st hs) (fun h => by rw [h]) ?_)
  rintro x s' ⟨oo, a, st'⟩ hl ⟨hx, r1⟩
  rw [hl]
  cases oo with
  | some o => exact ⟨_, s', by rw [show x = _ from hx]; rfl, rfl, r1⟩
  | none =>
    exact ⟨_, s', by rw [show x = _ from hx]; cases hae : a.err <;> simp [eOut, hae, choiceFinish, AltSt.finalErr], rfl, r1⟩

end PV.CoreTie
