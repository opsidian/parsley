/-
  The data package at VALUE level, as the core translation uses it (Generated/CorePrelude.lean `CorePrelude.Data.*`):
  * these are the specification functions of Spec/SetSpec.lean (`sMerge`, `sOfList`, `mInc`, `mFilter`, `mget`) — which
    Props/C15P.lean proves of the TRANSLATED slice/map-level functions of data/;
  * on related contexts (`CtxRel`) they compute what the model's `Ctx.get` / `Ctx.inc` / `Ctx.filter` / `cpUnion` compute.
-/
import ParsleyVerif.Proofs.CoreTieBasics
import ParsleyVerif.Proofs.DataMap
namespace PV.CoreTie
open PV.FactsCore

theorem mget_spec (m : IntMap) (k : Int) : CorePrelude.Data.mget m k = PV.Data.mget m k := rfl

theorem mset_spec : ∀ (m : IntMap) (k v : Int), CorePrelude.Data.mset m k v = PV.Data.mset m k v
  | [], _, _ => rfl
  | (k', v') :: r, k, v => by
    simp only [CorePrelude.Data.mset, PV.Data.mset, mset_spec r k v]

theorem union_spec (a b : IntSet) : CorePrelude.Data.IntSet_Union a b = PV.Data.sMerge a b := by
  induction a, b using CorePrelude.Data.IntSet_Union.induct <;> simp [CorePrelude.Data.IntSet_Union, PV.Data.sMerge, *]

theorem sInsert_spec : ∀ (a : IntSet) (v : Int), CorePrelude.Data.sInsert a v = PV.Data.sInsert a v
  | [], _ => rfl
  | x :: xs, v => by simp only [CorePrelude.Data.sInsert, PV.Data.sInsert, sInsert_spec xs v]

theorem newIntSet_spec (vs : List Int) : CorePrelude.Data.NewIntSet vs = PV.Data.sOfList vs := by
  have : CorePrelude.Data.sInsert = PV.Data.sInsert := by funext a v; exact sInsert_spec a v
  simp [CorePrelude.Data.NewIntSet, PV.Data.sOfList, this]

theorem inc_spec (m : IntMap) (k : Int) : CorePrelude.Data.IntMap_Inc m k = PV.Data.mInc m k := by
  unfold CorePrelude.Data.IntMap_Inc PV.Data.mInc
  rw [mget_spec]
  cases PV.Data.mget m k <;> simp [mset_spec]

theorem filter_spec (m : IntMap) (keys : IntSet) : CorePrelude.Data.IntMap_Filter m keys = PV.Data.mFilter m keys := by
  unfold CorePrelude.Data.IntMap_Filter PV.Data.mFilter
  generalize ([] : IntMap) = acc
  induction keys generalizing acc with
  | nil => rfl
  | cons key rest ih =>
    simp only [List.foldl_cons]
    cases h : CorePrelude.Data.mget m key with
    | none => simp only [PV.Data.mFilterStep, ← mget_spec, h]; exact ih _
    | some v => simp only [PV.Data.mFilterStep, ← mget_spec, h, ← mset_spec]; exact ih _

theorem get_spec (m : IntMap) (k : Int) : CorePrelude.Data.IntMap_Get m k = (PV.Data.mget m k).getD 0 := rfl

theorem eSet_union (a b : List Nat) : eSet (cpUnion a b) = CorePrelude.Data.IntSet_Union (eSet a) (eSet b) := by
  induction a, b using cpUnion.induct with
  | case1 b => simp [cpUnion, CorePrelude.Data.IntSet_Union, eSet]
  | case2 a h => cases a <;> simp [cpUnion, CorePrelude.Data.IntSet_Union, eSet] at h ⊢
  | case3 x xs y ys h ih =>
    simp only [eSet, List.map_cons] at ih ⊢
    simp [cpUnion, CorePrelude.Data.IntSet_Union, h, ih]
  | case4 x xs y ys h1 h2 ih | case5 x xs y ys h1 h2 ih =>
    simp only [eSet, List.map_cons] at ih ⊢
    simp [cpUnion, CorePrelude.Data.IntSet_Union, h1, h2, ih]

theorem eSet_single (k : Nat) : CorePrelude.Data.NewIntSet [(k : Int)] = eSet [k] := rfl

theorem mem_mset (m : IntMap) (hs : Data.MSorted m) (k v x y : Int) :
    (x, y) ∈ CorePrelude.Data.mset m k v ↔ (x = k ∧ y = v) ∨ (x ≠ k ∧ (x, y) ∈ m) := by
  induction m with
  | nil => simp [CorePrelude.Data.mset]
  | cons p r ih =>
    obtain ⟨k', v'⟩ := p
    have hs' : Data.MSorted r := (List.pairwise_cons.mp hs).2
    have hlt : ∀ a b, (a, b) ∈ r → k' < a := fun a b hab =>
      (List.pairwise_cons.mp hs).1 a (List.mem_map.mpr ⟨(a, b), hab, rfl⟩)
    simp only [CorePrelude.Data.mset]
    split
    · rename_i hk
      simp only [List.mem_cons, Prod.mk.injEq]
      constructor
      · rintro (⟨rfl, rfl⟩ | ⟨rfl, rfl⟩ | h)
        · exact .inl ⟨rfl, rfl⟩
        · exact .inr ⟨by omega, .inl ⟨rfl, rfl⟩⟩
        · exact .inr ⟨by have := hlt x y h; omega, .inr h⟩
      · rintro (⟨rfl, rfl⟩ | ⟨_, h⟩)
        · exact .inl ⟨rfl, rfl⟩
        · exact .inr h
    · split
      · rename_i hk hk2
        subst hk2
        simp only [List.mem_cons, Prod.mk.injEq]
        constructor
        · rintro (⟨rfl, rfl⟩ | h)
          · exact .inl ⟨rfl, rfl⟩
          · exact .inr ⟨by have := hlt x y h; omega, .inr h⟩
        · rintro (⟨rfl, rfl⟩ | ⟨hne, h⟩)
          · exact .inl ⟨rfl, rfl⟩
          · rcases h with ⟨rfl, rfl⟩ | h
            · exact absurd rfl hne
            · exact .inr h
      · rename_i hk hk2
        simp only [List.mem_cons, Prod.mk.injEq, ih hs']
        constructor
        · rintro (⟨rfl, rfl⟩ | ⟨rfl, rfl⟩ | ⟨hne, h⟩)
          · exact .inr ⟨hk2 ∘ Eq.symm, .inl ⟨rfl, rfl⟩⟩
          · exact .inl ⟨rfl, rfl⟩
          · exact .inr ⟨hne, .inr h⟩
        · rintro (⟨rfl, rfl⟩ | ⟨hne, ⟨rfl, rfl⟩ | h⟩)
          · exact .inr (.inl ⟨rfl, rfl⟩)
          · exact .inl ⟨rfl, rfl⟩
          · exact .inr (.inr ⟨hne, h⟩)

theorem mset_sorted (m : IntMap) (k v : Int) (hs : Data.MSorted m) : Data.MSorted (CorePrelude.Data.mset m k v) := by
  rw [mset_spec]; exact PV.Data.mset_sorted m k v hs

theorem mget_some_iff (m : IntMap) (hs : Data.MSorted m) (k v : Int) : CorePrelude.Data.mget m k = some v ↔ (k, v) ∈ m := by
  induction m with
  | nil => simp [CorePrelude.Data.mget]
  | cons p r ih =>
    obtain ⟨k', v'⟩ := p
    have hs' : Data.MSorted r := (List.pairwise_cons.mp hs).2
    have hlt : ∀ a b, (a, b) ∈ r → k' < a := fun a b hab =>
      (List.pairwise_cons.mp hs).1 a (List.mem_map.mpr ⟨(a, b), hab, rfl⟩)
    by_cases hk : k' = k
    · subst hk
      simp only [CorePrelude.Data.mget, List.find?_cons, decide_true, Option.map_some, Option.some.injEq, List.mem_cons,
        Prod.mk.injEq, true_and]
      constructor
      · intro h; exact .inl h.symm
      · rintro (h | h)
        · exact h.symm
        · have := hlt _ _ h; omega
    · have : CorePrelude.Data.mget ((k', v') :: r) k = CorePrelude.Data.mget r k := by
        simp [CorePrelude.Data.mget, List.find?_cons, hk]
      rw [this, ih hs']
      simp only [List.mem_cons, Prod.mk.injEq]
      constructor
      · exact .inr
      · rintro (⟨h, _⟩ | h)
        · exact absurd h.symm hk
        · exact h

theorem mget_none_iff (m : IntMap) (hs : Data.MSorted m) (k : Int) : CorePrelude.Data.mget m k = none ↔ ∀ v, (k, v) ∉ m := by
  constructor
  · intro h v hv
    rw [← mget_some_iff m hs] at hv
    rw [h] at hv; cases hv
  · intro h
    cases hg : CorePrelude.Data.mget m k with
    | none => rfl
    | some v => exact absurd ((mget_some_iff m hs k v).mp hg) (h v)

theorem CtxRel.nil : CtxRel CorePrelude.Data.EmptyIntMap [] :=
  ⟨by simp [CorePrelude.Data.EmptyIntMap], by simp [CorePrelude.Data.EmptyIntMap], by simp, by simp⟩

theorem ctx_get_some (c : Ctx) (k v : Nat) (hf : ∀ k v v', (k, v) ∈ c → (k, v') ∈ c → v = v') (h : (k, v) ∈ c) :
    c.get k = v := by
  unfold Ctx.get
  cases hfind : c.find? (·.1 == k) with
  | none =>
    have := List.find?_eq_none.mp hfind (k, v) h
    simp at this
  | some p =>
    have h1 := List.find?_some hfind
    have h2 := List.mem_of_find?_eq_some hfind
    obtain ⟨a, b⟩ := p
    simp only [beq_iff_eq] at h1
    subst h1
    simp [hf a b v h2 h]

theorem ctx_get_none (c : Ctx) (k : Nat) (h : ∀ v, (k, v) ∉ c) : c.get k = 0 := by
  unfold Ctx.get
  cases hfind : c.find? (·.1 == k) with
  | none => rfl
  | some p =>
    have h1 := List.find?_some hfind
    have h2 := List.mem_of_find?_eq_some hfind
    obtain ⟨a, b⟩ := p
    simp only [beq_iff_eq] at h1
    subst h1
    exact absurd h2 (h b)

theorem CtxRel.mget {m : IntMap} {c : Ctx} (r : CtxRel m c) (k : Nat) :
    (∃ v : Nat, CorePrelude.Data.mget m k = some (v : Int) ∧ (k, v) ∈ c ∧ c.get k = v) ∨
    (CorePrelude.Data.mget m k = none ∧ (∀ v, (k, v) ∉ c) ∧ c.get k = 0) := by
  cases hg : CorePrelude.Data.mget m (k : Int) with
  | some v =>
    have hm := (mget_some_iff m r.sorted _ _).mp hg
    obtain ⟨kn, vn, e1, e2, hc⟩ := r.fwd _ _ hm
    have : kn = k := by omega
    subst this
    subst e2
    exact .inl ⟨vn, rfl, hc, ctx_get_some c _ _ r.func hc⟩
  | none =>
    have hn := (mget_none_iff m r.sorted _).mp hg
    have : ∀ v, (k, v) ∉ c := fun v hv => hn _ (r.bwd _ _ hv)
    exact .inr ⟨rfl, this, ctx_get_none c k this⟩

theorem CtxRel.get {m : IntMap} {c : Ctx} (r : CtxRel m c) (k : Nat) : CorePrelude.Data.IntMap_Get m k = (c.get k : Nat) := by
  rcases r.mget k with ⟨v, h1, _, h3⟩ | ⟨h1, _, h3⟩
  · simp [CorePrelude.Data.IntMap_Get, h1, h3]
  · simp [CorePrelude.Data.IntMap_Get, h1, h3]

theorem ctx_any_iff (c : Ctx) (k : Nat) : c.any (·.1 == k) = true ↔ ∃ v, (k, v) ∈ c := by
  simp only [List.any_eq_true, beq_iff_eq]
  constructor
  · rintro ⟨⟨a, b⟩, h, rfl⟩; exact ⟨b, h⟩
  · rintro ⟨v, h⟩; exact ⟨(k, v), h, rfl⟩

theorem CtxRel.set {m : IntMap} {c c' : Ctx} (r : CtxRel m c) (k v : Nat)
    (hmem : ∀ a b, (a, b) ∈ c' ↔ (a = k ∧ b = v) ∨ (a ≠ k ∧ (a, b) ∈ c)) : CtxRel (CorePrelude.Data.mset m k v) c' := by
  refine ⟨mset_sorted _ _ _ r.sorted, ?_, ?_, ?_⟩
  · intro x y hxy
    rcases (mem_mset m r.sorted _ _ x y).mp hxy with ⟨rfl, rfl⟩ | ⟨hne, hin⟩
    · exact ⟨k, v, rfl, rfl, (hmem _ _).mpr (.inl ⟨rfl, rfl⟩)⟩
    · obtain ⟨kn, vn, rfl, rfl, hc⟩ := r.fwd _ _ hin
      exact ⟨kn, vn, rfl, rfl, (hmem _ _).mpr (.inr ⟨by omega, hc⟩)⟩
  · intro kn vn hc
    rcases (hmem _ _).mp hc with ⟨rfl, rfl⟩ | ⟨hne, hin⟩
    · exact (mem_mset m r.sorted _ _ _ _).mpr (.inl ⟨rfl, rfl⟩)
    · exact (mem_mset m r.sorted _ _ _ _).mpr (.inr ⟨by omega, r.bwd _ _ hin⟩)
  · intro a b b' h1' h2'
    rcases (hmem _ _).mp h1' with ⟨rfl, rfl⟩ | ⟨hne, hin⟩ <;> rcases (hmem _ _).mp h2' with ⟨e, rfl⟩ | ⟨hne', hin'⟩
    · rfl
    · exact absurd rfl hne'
    · exact absurd e hne
    · exact r.func _ _ _ hin hin'

theorem CtxRel.inc {m : IntMap} {c : Ctx} (r : CtxRel m c) (k : Nat) : CtxRel (CorePrelude.Data.IntMap_Inc m k) (c.inc k) := by
  rcases r.mget k with ⟨v, h1, h2, _⟩ | ⟨h1, h2, _⟩
  · have hany : c.any (·.1 == k) = true := (ctx_any_iff c k).mpr ⟨v, h2⟩
    simp only [CorePrelude.Data.IntMap_Inc, h1]
    refine r.set k (v + 1) fun a b => ?_
    simp only [Ctx.inc, hany, if_true, List.mem_map]
    constructor
    · rintro ⟨⟨a', b'⟩, hin, he⟩
      by_cases hk : a' = k
      · subst hk
        simp only [beq_self_eq_true, if_true, Prod.mk.injEq] at he
        have := r.func _ _ _ hin h2
        exact .inl ⟨he.1.symm, by omega⟩
      · have : (a' == k) = false := by simpa using hk
        simp only [this, Bool.false_eq_true, if_false, Prod.mk.injEq] at he
        obtain ⟨rfl, rfl⟩ := he
        exact .inr ⟨hk, hin⟩
    · rintro (⟨rfl, rfl⟩ | ⟨hne, hin⟩)
      · exact ⟨(a, v), h2, by simp⟩
      · exact ⟨(a, b), hin, by simp [hne]⟩
  · have hany : c.any (·.1 == k) = false := by
      cases h : c.any (·.1 == k) with
      | false => rfl
      | true => obtain ⟨v, hv⟩ := (ctx_any_iff c k).mp h; exact absurd hv (h2 v)
    simp only [CorePrelude.Data.IntMap_Inc, h1]
    refine r.set k 1 fun a b => ?_
    simp only [Ctx.inc, hany, Bool.false_eq_true, if_false, List.mem_append, List.mem_singleton, Prod.mk.injEq]
    constructor
    · rintro (h | h)
      · exact .inr ⟨fun e => h2 b (e ▸ h), h⟩
      · exact .inl h
    · rintro (h | ⟨_, h⟩)
      · exact .inr h
      · exact .inl h

theorem filter_fold_mem (m : IntMap) (hs : Data.MSorted m) (keys : List Int) :
    ∀ (acc : IntMap) (done : List Int), Data.MSorted acc → (∀ x y, (x, y) ∈ acc ↔ x ∈ done ∧ (x, y) ∈ m) →
      Data.MSorted (keys.foldl (fun acc key => match CorePrelude.Data.mget m key with | some v => CorePrelude.Data.mset acc key v | none => acc) acc) ∧
      ∀ x y, (x, y) ∈ keys.foldl (fun acc key => match CorePrelude.Data.mget m key with | some v => CorePrelude.Data.mset acc key v | none => acc) acc ↔
        (x ∈ done ∨ x ∈ keys) ∧ (x, y) ∈ m := by
  induction keys with
  | nil => intro acc done h1 h2; exact ⟨h1, by simpa using h2⟩
  | cons key rest ih =>
    intro acc done h1 h2
    simp only [List.foldl_cons]
    cases hg : CorePrelude.Data.mget m key with
    | none =>
      have hn := (mget_none_iff m hs key).mp hg
      obtain ⟨i1, i2⟩ := ih acc (key :: done) h1 (by
        intro x y; rw [h2]; simp only [List.mem_cons]
        constructor
        · rintro ⟨a, b⟩; exact ⟨.inr a, b⟩
        · rintro ⟨rfl | a, b⟩
          · exact absurd b (hn y)
          · exact ⟨a, b⟩)
      refine ⟨i1, fun x y => ?_⟩
      rw [i2]; simp only [List.mem_cons]; grind
    | some v =>
      have hv := (mget_some_iff m hs key v).mp hg
      obtain ⟨i1, i2⟩ := ih (CorePrelude.Data.mset acc key v) (key :: done) (mset_sorted _ _ _ h1) (by
        intro x y
        rw [mem_mset acc h1, h2]; simp only [List.mem_cons]
        constructor
        · rintro (⟨rfl, rfl⟩ | ⟨hne, a, b⟩)
          · exact ⟨.inl rfl, hv⟩
          · exact ⟨.inr a, b⟩
        · rintro ⟨a, b⟩
          by_cases hx : x = key
          · subst hx
            have : y = v := by
              have := (mget_some_iff m hs x y).mpr b
              rw [hg] at this; exact (Option.some.inj this).symm
            exact .inl ⟨rfl, this⟩
          · exact .inr ⟨hx, a.resolve_left hx, b⟩)
      refine ⟨i1, fun x y => ?_⟩
      rw [i2]; simp only [List.mem_cons]; grind

theorem CtxRel.filter {m : IntMap} {c : Ctx} (r : CtxRel m c) (cp : List Nat) :
    CtxRel (CorePrelude.Data.IntMap_Filter m (eSet cp)) (c.filter cp) := by
  obtain ⟨f1, f2⟩ := filter_fold_mem m r.sorted (eSet cp) [] [] List.Pairwise.nil (by simp)
  have hc : ∀ a b, (a, b) ∈ c.filter cp ↔ a ∈ cp ∧ (a, b) ∈ c := by
    intro a b
    simp only [Ctx.filter, List.mem_filter, List.contains_iff_mem]
    exact And.comm
  refine ⟨f1, ?_, ?_, ?_⟩
  · intro x y hxy
    obtain ⟨h1, h2⟩ := (f2 x y).mp hxy
    obtain ⟨kn, vn, rfl, rfl, hcm⟩ := r.fwd _ _ h2
    refine ⟨kn, vn, rfl, rfl, (hc _ _).mpr ⟨?_, hcm⟩⟩
    simp only [List.not_mem_nil, false_or, eSet, List.mem_map] at h1
    obtain ⟨z, hz, e⟩ := h1
    have : z = kn := by have : (z : Int) = kn := e; omega
    exact this ▸ hz
  · intro kn vn h
    obtain ⟨h1, h2⟩ := (hc _ _).mp h
    exact (f2 _ _).mpr ⟨.inr (List.mem_map.mpr ⟨kn, h1, rfl⟩), r.bwd _ _ h2⟩
  · intro a b b' h1 h2
    exact r.func _ _ _ ((hc _ _).mp h1).2 ((hc _ _).mp h2).2

/-- the test of ResultCache.Get, over the keys of the stored context -/
theorem CtxRel.keysAll {m m' : IntMap} {c c' : Ctx} (r : CtxRel m c) (r' : CtxRel m' c') :
    (CorePrelude.Data.IntMap_Keys m).all (fun key => !decide (CorePrelude.Data.IntMap_Get m key > CorePrelude.Data.IntMap_Get m' key)) =
      c.all (fun kv => !(kv.2 > c'.get kv.1)) := by
  rw [Bool.eq_iff_iff]
  simp only [List.all_eq_true, CorePrelude.Data.IntMap_Keys, List.mem_map, Bool.not_eq_true', decide_eq_false_iff_not,
    forall_exists_index, and_imp]
  constructor
  · intro h kv hkv
    obtain ⟨a, b⟩ := kv
    have hm := r.bwd _ _ hkv
    have := h a (a, b) hm rfl
    rw [r.get, r'.get] at this
    have e : c.get a = b := ctx_get_some c a b r.func hkv
    simp only [gt_iff_lt, decide_eq_false_iff_not]
    simp only [e] at this
    omega
  · intro h key kv hkv e
    obtain ⟨x, y⟩ := kv
    simp only at e; subst e
    obtain ⟨kn, vn, rfl, rfl, hc⟩ := r.fwd _ _ hkv
    have := h (kn, vn) hc
    simp only [gt_iff_lt, decide_eq_false_iff_not] at this
    rw [r.get, r'.get, ctx_get_some c kn vn r.func hc]
    omega

end PV.CoreTie
