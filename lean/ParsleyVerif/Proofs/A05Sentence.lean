/-
  C05 (full value theorem): the relations of Proofs/A05Rel.lean inside the exact trim meaning of Spec/DerivesW.lean,
  whose soundness and completeness for `run` are Props/C01W.lean (`DC.toCW`, `DSR.ofDerivesW`, `run_completeT`), and
  the `Sentence` wrapper: it returns a result when its operand has a curtailed derivation to the end of the input
  (`sentence_completeT`), and never more than ONE tree (`sentence_res_one`): the sequence stops at the first
  alternative of the operand after which `End` matches.
-/
import ParsleyVerif.Proofs.RunComplete
import ParsleyVerif.Proofs.A05Rel
import ParsleyVerif.Props.C01W
namespace PV.A05
open PV PV.Text PV.C1T

/-- what a cache entry promises about the curtailed derivations of the fragment (cf. `C1T.EntryC`) -/
structure EntryC (cfg : Cfg) (bodyOf : Nat → G) (e : CacheEntry) : Prop where
  keys : ∀ kv ∈ e.ctx, kv.1 ∈ e.cp
  complete : ∀ (c' : Nat → Nat) (x : Node), (∀ kv ∈ e.ctx, kv.2 ≤ c' kv.1) →
      DC cfg c' (.memo e.idx (bodyOf e.idx)) e.pos x → x ∈ e.res.alts
  noEOF : NoEOF e.res

theorem GOK_mem {bodyOf : Nat → G} {gs : List G} (h : AllList (LocalOK bodyOf) gs) : ∀ g ∈ gs, GOK bodyOf g :=
  fun g hg => AllList_mem h g hg

theorem shape_lookup_frag {cfg : Cfg} {b : Bool} {gs : List G} {o : SeqOpts} {sh : SeqShape} (hf : FragL cfg b gs)
    (hs : (G.seq .seqOf gs o).shape = some sh) (i : Nat) (g' : G) (hl : sh.lookup i = some g') : Frag cfg b g' := by
  simp only [G.shape, Option.some.injEq] at hs
  subst hs
  exact FragL_mem hf g' (List.mem_of_getElem? hl)

theorem DC.toCW {cfg : Cfg} {c : Nat → Nat} {g : G} {pos : Nat} {x : Node} (h : DC cfg c g pos x) :
    DerivesCW cfg c g pos x := by
  refine @DC.rec cfg (fun c g pos x _ => DerivesCW cfg c g pos x)
    (fun c sh d pos nodes _ => DerivesSeqCW cfg c sh d pos nodes) ?_ ?_ ?_ ?_ ?_ ?_ ?_ c g pos x h
  · intro c t pos n hp
    exact .rtrim (.ltrim (skipWhitespaces_spacesNl _ _) (.term hp)) (movedErr_spacesNl _ _)
  · intro c k g pos x hk _ ih; exact .ref hk ih
  · intro c i g pos x hc _ ih; exact .memo hc ih
  · intro c gs g pos x hm _ ih; exact .any hm ih
  · intro c gs o sh pos nodes hs _ hl ih; exact .seqOf hs ih hl
  · intro c sh d pos; exact .nil
  · intro c sh d pos g n rest hl _ _ ih1 ih2; exact .cons hl ih1 ih2

/-- the only trims of the fragment are `Trim(terminal)` with mode WsSpacesNl, which accepts every run: the two trim
    rules of `DerivesW` compose to the rule `trim` -/
theorem DSR.ofDerivesW {cfg : Cfg} {R : Nat → Nat → Node → Prop} (hR : Closed cfg R) {b : Bool}
    (henv : ∀ g' ∈ cfg.env, Frag cfg b g') {g : G} {pos : Nat} {x : Node} (h : DerivesW cfg g pos x) :
    Frag cfg b g → DSR cfg R g pos x := by
  refine @DerivesW.rec cfg (fun g pos x _ => Frag cfg b g → DSR cfg R g pos x)
    (fun sh d pos nodes _ => (∀ i g', sh.lookup i = some g' → Frag cfg b g') → DSRSeq cfg R sh d pos nodes)
    ?_ ?_ ?_ ?_ ?_ ?_ ?_ ?_ ?_ ?_ ?_ ?_ g pos x h
  · intro t pos n _ hf; simp only [Frag] at hf
  · intro pos hf; simp only [Frag] at hf
  · intro k g pos x hk _ ih _
    exact .ref (hR k g pos x hk (ih (henv g (List.mem_of_getElem? hk))))
  · intro i g pos x _ ih hf
    simp only [Frag] at hf
    exact .memo (ih hf)
  · intro gs g pos x hm _ ih hf
    simp only [Frag] at hf
    exact .any hm (ih (FragL_mem hf g hm))
  · intro g pos x _ _ hf; simp only [Frag] at hf
  · intro g pos hf; simp only [Frag] at hf
  · intro gs o sh pos nodes hs _ hl ih hf
    exact .seqOf hs (ih (shape_lookup_frag (Frag_seq hf).2.2 hs)) hl
  · intro g m pos x _ _ _ hf; simp only [Frag] at hf
  · intro g m pos x hd _ _ hf
    obtain ⟨t, rfl, rfl, _⟩ := Frag_rtrim hf
    cases hd with
    | ltrim _ hd =>
      cases hd with
      | term hp => exact .trim hp
  · intro sh d pos _; exact .nil
  · intro sh d pos g n rest hl _ _ ih1 ih2 hall
    exact .cons hl (ih1 (hall d g hl)) (ih2 hall)

/-- **every curtailed derivation is found**: `run` answered `o`; every tree with a curtailed derivation `DC` under
    counters `c'` that dominate the context on the returned curtailing set is among the alternatives -/
theorem run_completeT (cfg : Cfg) (bodyOf : Nat → G) (henv : ∀ g' ∈ cfg.env, FragW cfg g' ∧ GOK bodyOf g')
    (fuel : Nat) (g : G) (ctx : Ctx) (pos : Nat) (st : St) (o : Out) (st' : St)
    (hf : FragW cfg g) (hg : GOK bodyOf g) (hst : C1T.CacheC cfg bodyOf st)
    (h : run cfg fuel g ctx pos st = some (o, st')) (c' : Nat → Nat) (x : Node)
    (hdom : ∀ k ∈ o.cp, ctx.get k ≤ c' k) (hd : DC cfg c' g pos x) : x ∈ o.res.alts :=
  c01w_reuse_complete cfg bodyOf henv fuel g ctx pos st o st' hf hg hst h c' x hdom hd.toCW

theorem sentence_completeT (cfg : Cfg) (bodyOf : Nat → G) (henv : ∀ g' ∈ cfg.env, FragW cfg g' ∧ GOK bodyOf g')
    (g : G) (hf : FragW cfg g) (hg : GOK bodyOf g) (fuel : Nat) (pos : Nat) (st : St) (hst : C1T.CacheC cfg bodyOf st)
    (o : Out) (st' : St) (h : run cfg fuel (G.sentence g) [] pos st = some (o, st'))
    (y : Node) (hy : DC cfg zeroC g pos y) (hend : isEOF cfg.file y.rpos = true) :
    o.res.alts ≠ [] ∧ o.err = none :=
  C1T.sentence_completeW cfg bodyOf henv g hf hg fuel pos st hst o st' h y hy.toCW hend

theorem sentence_res_one (cfg : Cfg) (fuel : Nat) (g : G) (ctx : Ctx) (pos : Nat) (st : St) (o : Out) (st' : St)
    (h : run cfg fuel (G.sentence g) ctx pos st = some (o, st')) : o.res = .nil ∨ ∃ x, o.res = .one x := by
  obtain ⟨_, _, _, _, _, _, ⟨_, hres⟩ | ⟨_, _, _, hres, _⟩⟩ := run_sentence_cases h
  · exact .inl hres
  · exact .inr ⟨_, hres⟩

end PV.A05
