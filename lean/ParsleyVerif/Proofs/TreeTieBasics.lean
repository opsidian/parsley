/-
  The tie of the TREE PASSES and the EVALUATION: vocabulary.

  `factgen -out-tree` translates parsley.Walk / StaticCheck / Transform / EvaluateNode / Evaluate, the node methods of
  package ast and the interpreters of ast/interpreter (Generated/FactsTree.lean; run-time Generated/TreePrelude.lean).
  In the translation a `*ast.NonTerminalNode` is an ADDRESS into the heap of the store, and the passes mutate the heap in
  place, as the Go code does.  This file says how a heap is read as a tree:

  * `Sk` (skeleton): the shape of a tree as it lies in a heap — the addresses of the non-terminals, the node values of
    the leaves (ast.EmptyNode, parser.EndNode, *ast.TerminalNode), node lists; `Sk.node` is the `parsley.Node` value of
    the root, `Sk.addrs` the addresses, `Sk.post` the node values in post-order (a node list is followed through its
    first item only);
  * `Shaped h sk`: the heap `h` holds that shape (every non-terminal's cell is there and its `children` slice holds the
    node values of the sub-skeletons; node lists are not empty);
  * `SameKids h h'`: the same addresses are allocated in both heaps, with equal `children` fields — what a call-back
    must preserve for the traversal to be determined by the shape; `SameShape h h'`: the heaps differ in `schema` fields
    only (`stripS` forgets them) — what StaticCheck's call-back preserves;
  * `Agree h h' l`: the heaps agree on the addresses `l` (frame reasoning: a pass that writes below one child leaves
    the other children alone, because the addresses of a tree are distinct — `(Sk.addrs sk).Nodup`);
  * `visit f l`: call `f` on the nodes of `l` in order, stop after the first `true` — the specification of Walk;
  * `Sk.rec₂`: the one induction principle of the passes, over skeletons and child sequences together;
  * `passes`: the type test `i.(I)` on an interpreter value (`asIface_eq`);
  * `ReadOnly x` / `KidSafe x`: the computation writes nothing / leaves the `children` fields and the escaped variables
    alone — effects with rules that follow the shape of a translated body.
-/
import ParsleyVerif.Generated.FactsTree
import ParsleyVerif.Proofs.GoMonad
namespace PV.TreeTie
open PV.CorePrelude hiding Node World
open PV.TreePrelude PV.FactsTree

abbrev TN := PV.TreePrelude.Node
abbrev TM := PV.FactsTree.M
abbrev TRes := PV.CorePrelude.Res
abbrev TSt := PV.FactsTree.St
abbrev TW := PV.TreePrelude.World TSt
abbrev TErr := PV.CorePrelude.Err
abbrev TCause := PV.CorePrelude.Cause
abbrev TInterp := PV.TreePrelude.Interp
abbrev TValue := PV.TreePrelude.Value
abbrev TCell := PV.FactsTree.NonTerminalNode
abbrev Heap := Ptr → Option PV.FactsTree.NonTerminalNode

attribute [simp] GoM.bind_apply GoM.ite_apply

@[simp] theorem pure_apply {σ α : Type} (a : α) (s : σ) : (pure a : CorePrelude.M σ α) s = .ok a s := GoM.pure_apply a s

@[simp] theorem res_match_id {σ α : Type} (r : TRes σ α) :
    (match r with
      | .ok a s' => CorePrelude.Res.ok a s'
      | .panic => .panic
      | .nofuel => .nofuel) = r := by
  cases r <;> rfl

@[simp] theorem read_apply {σ α : Type} (f : σ → α) (s : σ) : CorePrelude.Go.read f s = .ok (f s) s := GoM.read_apply f s
@[simp] theorem panic_apply {σ α : Type} (s : σ) : (CorePrelude.Go.panic : CorePrelude.M σ α) s = .panic := GoM.panic_apply s
@[simp] theorem noMethod_apply {σ α : Type} (s : σ) : (TreePrelude.Go.noMethod : CorePrelude.M σ α) s = .panic := rfl
@[simp] theorem outOfFuel_apply {σ α : Type} (s : σ) : (CorePrelude.Go.outOfFuel : CorePrelude.M σ α) s = .nofuel := GoM.outOfFuel_apply s

theorem load_apply (p : Ptr) (s : TSt) :
    (TreePrelude.Go.load p : TM TCell) s = match s.heap p with | some c => .ok c s | none => .panic := by
  unfold TreePrelude.Go.load
  cases s.heap p <;> rfl

@[simp] theorem load_some {p : Ptr} {s : TSt} {c : TCell} (h : s.heap p = some c) :
    (TreePrelude.Go.load p : TM TCell) s = .ok c s := by
  simp [load_apply, h]

def hset (h : Heap) (p : Ptr) (c : TCell) : Heap := fun q => if q = p then some c else h q

@[simp] theorem hset_same (h : Heap) (p : Ptr) (c : TCell) : hset h p c p = some c := by simp [hset]
theorem hset_other (h : Heap) (p q : Ptr) (c : TCell) (hq : q ≠ p) : hset h p c q = h q := by simp [hset, hq]

theorem store_some {p : Ptr} {s : TSt} {c0 : TCell} (c : TCell) (h : s.heap p = some c0) :
    (TreePrelude.Go.store p c : TM Unit) s = .ok () { s with heap := hset s.heap p c } := by
  simp only [TreePrelude.Go.store, h]
  rfl

@[simp] theorem children_apply (W : TW) {a : Ptr} {s : TSt} {c : TCell} (h : s.heap a = some c) :
    NonTerminalNode_Children W a s = .ok c.children s := by
  simp only [NonTerminalNode_Children, GoM.bind_apply, load_some h, pure_apply]

theorem nth_nat {α : Type} (l : List α) (i : Nat) (s : TSt) :
    (CorePrelude.Go.nth l (i : Int) : TM α) s = match l[i]? with | some v => .ok v s | none => .panic := by
  simp only [CorePrelude.Go.nth, Int.natCast_nonneg, ↓reduceIte, Int.toNat_natCast]
  cases l[i]? <;> rfl

theorem setNth_mid {α : Type} (pre : List α) (x y : α) (rest : List α) (s : TSt) :
    (CorePrelude.Go.setNth (pre ++ x :: rest) (pre.length : Int) y : TM (List α)) s = .ok (pre ++ y :: rest) s := by
  have h : (0 : Int) ≤ pre.length ∧ (pre.length : Int).toNat < (pre ++ x :: rest).length := by simp
  rw [CorePrelude.Go.setNth, if_pos h, Int.toNat_natCast, List.set_append_right _ _ (Nat.le_refl _), Nat.sub_self]
  rfl

theorem dec_true (p : Prop) (inst : Decidable p) (h : p) : @decide p inst = true := GoM.dec_true p inst h

/-- does the interpreter value pass the type test `i.(I)`, for an interface `I` that the library types `ks` implement and
    whose name is `name` (a user-defined type: `impl` says) -/
def passes (impl : Nat → Bytes → Bool) (ks : List IKind) (name : Bytes) : TInterp → Bool
  | .nil => false
  | .select _ => ks.contains .select
  | .fn _ => ks.contains .fn
  | .custom id => impl id name

theorem asIface_eq (impl : Nat → Bytes → Bool) (ks : List IKind) (name : Bytes) (i : TInterp) :
    Interp.asIface impl ks name i = (if passes impl ks name i then i else .nil, passes impl ks name i) := by
  have pair : ∀ (b : Bool) (x y : TInterp), (if b = true then (x, true) else (y, false)) = (if b = true then x else y, b) := by
    intro b x y; cases b <;> rfl
  cases i with
  | nil => rfl
  | _ => exact pair _ _ _

theorem passes_not_nil {impl : Nat → Bytes → Bool} {ks : List IKind} {name : Bytes} {i : TInterp}
    (h : passes impl ks name i = true) : i.isNil = false := by
  cases i <;> first | rfl | cases h

inductive Sk where
  | leaf (n : TN)
  | nt (a : Ptr) (kids : List Sk)
  | list (items : List Sk)

/-- Skeletons and child sequences together, in the cases the passes distinguish: a node list stands for its first item. -/
theorem Sk.rec₂ {P : Sk → Prop} {Q : List Sk → Prop}
    (leaf : ∀ n, P (.leaf n)) (nt : ∀ a kids, Q kids → P (.nt a kids))
    (list₀ : P (.list [])) (list : ∀ f r, P f → P (.list (f :: r)))
    (nil : Q []) (cons : ∀ k r, P k → Q r → Q (k :: r)) : (∀ sk, P sk) ∧ (∀ l, Q l) :=
  have R := @Sk.rec P (fun l => Q l ∧ P (.list l)) leaf (fun a kids h => nt a kids h.1)
    (fun _ h => h.2) ⟨nil, list₀⟩ (fun k r h1 h2 => ⟨cons k r h1 h2.1, list k r h1⟩)
  ⟨R, fun l => (@Sk.rec_1 P (fun l => Q l ∧ P (.list l)) leaf (fun a kids h => nt a kids h.1)
    (fun _ h => h.2) ⟨nil, list₀⟩ (fun k r h1 h2 => ⟨cons k r h1 h2.1, list k r h1⟩) l).1⟩

mutual
def Sk.node : Sk → TN
  | .leaf n => n
  | .nt a _ => .ref a
  | .list items => .list (nodes items)
def nodes : List Sk → List TN
  | [] => []
  | k :: r => k.node :: nodes r
end

theorem nodes_eq_map (l : List Sk) : nodes l = l.map Sk.node := by
  induction l with
  | nil => rfl
  | cons k r ih => simp [nodes, ih]

mutual
def Sk.addrs : Sk → List Ptr
  | .leaf _ => []
  | .nt a kids => a :: addrsL kids
  | .list items => addrsL items
def addrsL : List Sk → List Ptr
  | [] => []
  | k :: r => k.addrs ++ addrsL r
end

mutual
def Sk.post : Sk → List TN
  | .leaf n => [n]
  | .nt a kids => postL kids ++ [.ref a]
  | .list [] => [.list []]
  | .list (first :: rest) => first.post ++ [.list (first.node :: nodes rest)]
def postL : List Sk → List TN
  | [] => []
  | k :: r => k.post ++ postL r
end

mutual
/-- the fuel the translated recursions need on this shape: Walk calls itself on the children of a non-terminal (one level)
    and goes through NodeList.Walk on a node list (two) -/
def Sk.fuel : Sk → Nat
  | .leaf _ => 1
  | .nt _ kids => fuelL kids + 1
  | .list items => fuelL items + 2
def fuelL : List Sk → Nat
  | [] => 0
  | k :: r => max k.fuel (fuelL r)
end

def LeafNode : TN → Prop
  | .empty _ => True
  | .eof _ => True
  | .term _ => True
  | _ => False

mutual
def Shaped (h : Heap) : Sk → Prop
  | .leaf n => LeafNode n
  | .nt a kids => (∃ c, h a = some c ∧ c.children = nodes kids) ∧ ShapedL h kids
  | .list items => items ≠ [] ∧ ShapedL h items
def ShapedL (h : Heap) : List Sk → Prop
  | [] => True
  | k :: r => Shaped h k ∧ ShapedL h r
end

def Agree (h h' : Heap) (l : List Ptr) : Prop := ∀ a ∈ l, h' a = h a

theorem Agree.refl (h : Heap) (l : List Ptr) : Agree h h l := fun _ _ => rfl

theorem Agree.mono {h h' : Heap} {l l' : List Ptr} (hl : ∀ a ∈ l', a ∈ l) (ha : Agree h h' l) : Agree h h' l' :=
  fun a m => ha a (hl a m)

theorem Agree.symm {h h' : Heap} {l : List Ptr} (ha : Agree h h' l) : Agree h' h l := fun a m => (ha a m).symm

theorem Agree.trans {h h' h'' : Heap} {l : List Ptr} (h1 : Agree h h' l) (h2 : Agree h' h'' l) : Agree h h'' l :=
  fun a m => (h2 a m).trans (h1 a m)

def SameKids (h h' : Heap) : Prop := ∀ a, (h' a).map (·.children) = (h a).map (·.children)

theorem SameKids.refl (h : Heap) : SameKids h h := fun _ => rfl
theorem SameKids.trans {h h' h'' : Heap} (h1 : SameKids h h') (h2 : SameKids h' h'') : SameKids h h'' :=
  fun a => (h2 a).trans (h1 a)

def stripS (c : TCell) : TCell := { c with schema := PV.TreePrelude.Value.nil }

def SameShape (h h' : Heap) : Prop := ∀ a, (h' a).map stripS = (h a).map stripS

theorem SameShape.refl (h : Heap) : SameShape h h := fun _ => rfl
theorem SameShape.trans {h h' h'' : Heap} (h1 : SameShape h h') (h2 : SameShape h' h'') : SameShape h h'' :=
  fun a => (h2 a).trans (h1 a)

theorem SameShape.kids {h h' : Heap} (hs : SameShape h h') : SameKids h h' := by
  intro a
  have := hs a
  cases h1 : h a <;> cases h2 : h' a <;> simp [h1, h2] at this ⊢
  have := congrArg (·.children) this
  simpa [stripS] using this

theorem SameShape.interp {h h' : Heap} (hs : SameShape h h') {a : Ptr} {c c' : TCell} (h1 : h a = some c) (h2 : h' a = some c') :
    c'.interpreter = c.interpreter := by
  have := hs a
  rw [h1, h2] at this
  simp only [Option.map_some, Option.some.injEq] at this
  have := congrArg (·.interpreter) this
  simpa [stripS] using this

mutual
theorem shaped_sameKids {h h' : Heap} (hk : SameKids h h') : ∀ sk, Shaped h sk → Shaped h' sk
  | .leaf _, hs => hs
  | .nt a kids, hs => by
    obtain ⟨⟨c, hc, hch⟩, hl⟩ := hs
    refine ⟨?_, shapedL_sameKids hk kids hl⟩
    have := hk a
    rw [hc] at this
    cases h2 : h' a with
    | none => simp [h2] at this
    | some c' =>
      rw [h2] at this
      simp only [Option.map_some, Option.some.injEq] at this
      exact ⟨c', rfl, this.trans hch⟩
  | .list items, hs => ⟨hs.1, shapedL_sameKids hk items hs.2⟩
theorem shapedL_sameKids {h h' : Heap} (hk : SameKids h h') : ∀ l, ShapedL h l → ShapedL h' l
  | [], _ => trivial
  | k :: r, hs => ⟨shaped_sameKids hk k hs.1, shapedL_sameKids hk r hs.2⟩
end

mutual
theorem shaped_agree {h h' : Heap} : ∀ sk, Agree h h' sk.addrs → Shaped h sk → Shaped h' sk
  | .leaf _, _, hs => hs
  | .nt a kids, ha, hs => by
    obtain ⟨⟨c, hc, hch⟩, hl⟩ := hs
    refine ⟨⟨c, ?_, hch⟩, shapedL_agree kids (ha.mono (by simp [Sk.addrs]; intro x hx; exact .inr hx)) hl⟩
    rw [ha a (by simp [Sk.addrs])]; exact hc
  | .list items, ha, hs => ⟨hs.1, shapedL_agree items (ha.mono (by simp [Sk.addrs])) hs.2⟩
theorem shapedL_agree {h h' : Heap} : ∀ l, Agree h h' (addrsL l) → ShapedL h l → ShapedL h' l
  | [], _, _ => trivial
  | k :: r, ha, hs =>
    ⟨shaped_agree k (ha.mono (by simp [addrsL]; intro x hx; exact .inl hx)) hs.1,
     shapedL_agree r (ha.mono (by simp [addrsL]; intro x hx; exact .inr hx)) hs.2⟩
end

theorem shapedL_mem {h : Heap} : ∀ {l : List Sk}, ShapedL h l → ∀ k ∈ l, Shaped h k
  | [], _, _, hk => by cases hk
  | k :: r, hs, x, hx => by
    rcases List.mem_cons.mp hx with e | hx
    · exact e ▸ hs.1
    · exact shapedL_mem hs.2 x hx

mutual
theorem shaped_alloc {h : Heap} : ∀ sk, Shaped h sk → ∀ a ∈ sk.addrs, h a ≠ none
  | .leaf _, _, a, ha => by simp [Sk.addrs] at ha
  | .nt a kids, hs, b, hb => by
    simp only [Sk.addrs, List.mem_cons] at hb
    rcases hb with e | hb
    · obtain ⟨⟨c, hc, _⟩, _⟩ := hs
      rw [e, hc]; simp
    · exact shapedL_alloc kids hs.2 b hb
  | .list items, hs, b, hb => shapedL_alloc items hs.2 b (by simpa [Sk.addrs] using hb)
theorem shapedL_alloc {h : Heap} : ∀ l, ShapedL h l → ∀ a ∈ addrsL l, h a ≠ none
  | [], _, a, ha => by simp [addrsL] at ha
  | k :: r, hs, a, ha => by
    simp only [addrsL, List.mem_append] at ha
    rcases ha with ha | ha
    · exact shaped_alloc k hs.1 a ha
    · exact shapedL_alloc r hs.2 a ha
end

theorem fuel_le_fuelL {k : Sk} : ∀ {l : List Sk}, k ∈ l → k.fuel ≤ fuelL l
  | [], hk => by cases hk
  | x :: r, hk => by
    rcases List.mem_cons.mp hk with e | hk
    · subst e; simp [fuelL]; omega
    · have := fuel_le_fuelL hk
      simp [fuelL]; omega

theorem fuel_pos (sk : Sk) : 0 < sk.fuel := by cases sk <;> simp [Sk.fuel]

def visit (f : TN → TM Bool) : List TN → TM Bool
  | [] => pure false
  | n :: r => do
    let b ← f n
    if b then pure true else visit f r

theorem visit_append (f : TN → TM Bool) (l₁ l₂ : List TN) (s : TSt) :
    visit f (l₁ ++ l₂) s = (do let b ← visit f l₁; if b then pure true else visit f l₂) s := by
  induction l₁ generalizing s with
  | nil => simp [visit]
  | cons n r ih =>
    simp only [List.cons_append, visit, GoM.bind_apply]
    cases hf : f n s with
    | ok b s' =>
      cases b
      · simp [ih]
      · simp
    | panic => rfl
    | nofuel => rfl

def KidStable (f : TN → TM Bool) : Prop := ∀ n s b s', f n s = .ok b s' → SameKids s.heap s'.heap

theorem visit_kidStable {f : TN → TM Bool} (hf : KidStable f) :
    ∀ (l : List TN) (s : TSt) b s', visit f l s = .ok b s' → SameKids s.heap s'.heap := by
  intro l
  induction l with
  | nil => intro s b s' h; simp [visit] at h; obtain ⟨_, rfl⟩ := h; exact SameKids.refl _
  | cons n r ih =>
    intro s b s' h
    simp only [visit] at h
    obtain ⟨b1, s1, hf', h⟩ := GoM.bind_eq_ok h
    have k1 := hf n s b1 s1 hf'
    cases b1
    · simp at h; exact k1.trans (ih s1 b s' h)
    · simp at h; obtain ⟨_, rfl⟩ := h; exact k1

def ReadOnly {α : Type} (x : TM α) : Prop := ∀ s a s', x s = .ok a s' → s' = s

theorem ReadOnly.pure {α : Type} (a : α) : ReadOnly (pure a : TM α) := by
  intro s b s' h; simp at h; exact h.2.symm

theorem ReadOnly.panic {α : Type} : ReadOnly (CorePrelude.Go.panic : TM α) := by
  intro s b s' h; simp at h

theorem ReadOnly.noMethod {α : Type} : ReadOnly (TreePrelude.Go.noMethod : TM α) := by
  intro s b s' h; simp at h

theorem ReadOnly.outOfFuel {α : Type} : ReadOnly (CorePrelude.Go.outOfFuel : TM α) := by
  intro s b s' h; simp at h

theorem ReadOnly.bind {α β : Type} {x : TM α} {f : α → TM β} (hx : ReadOnly x) (hf : ∀ a, ReadOnly (f a)) :
    ReadOnly (x >>= f) := by
  intro s b s' h
  obtain ⟨a, s1, hxs, hfs⟩ := GoM.bind_eq_ok h
  cases hx s a s1 hxs
  exact hf a s b s' hfs

theorem ReadOnly.ite {α : Type} (c : Prop) [Decidable c] {x y : TM α} (hx : ReadOnly x) (hy : ReadOnly y) :
    ReadOnly (if c then x else y) := by
  split <;> assumption

theorem ReadOnly.load (p : Ptr) : ReadOnly (TreePrelude.Go.load p : TM TCell) := by
  intro s a s' h
  rw [load_apply] at h
  cases hh : s.heap p with
  | some c => rw [hh] at h; simp at h; exact h.2.symm
  | none => rw [hh] at h; cases h

theorem ReadOnly.nth {α : Type} (l : List α) (i : Int) : ReadOnly (CorePrelude.Go.nth l i : TM α) := by
  intro s a s' h
  unfold CorePrelude.Go.nth at h
  by_cases h0 : 0 ≤ i
  · simp only [h0, ↓reduceIte] at h
    cases hl : l[i.toNat]? with
    | some v => rw [hl] at h; simp at h; exact h.2.symm
    | none => rw [hl] at h; simp at h
  · simp [h0] at h

theorem ReadOnly.read {α : Type} (f : TSt → α) : ReadOnly (CorePrelude.Go.read f : TM α) := by
  intro s a s' h; simp at h; exact h.2.symm

theorem sameShape_hset (h : Heap) (a : Ptr) (c : TCell) (v : TValue) (hc : h a = some c) :
    SameShape h (hset h a { c with schema := v }) := by
  intro b
  by_cases hb : b = a
  · subst hb; simp [hset, hc, stripS]
  · simp [hset, hb]

/-- the computation leaves every `children` field and the escaped variables alone (it may store schemas) -/
def KidSafe {α : Type} (x : TM α) : Prop := ∀ s a s', x s = .ok a s' → SameKids s.heap s'.heap ∧ s'.vars = s.vars

theorem ReadOnly.kidSafe {α : Type} {x : TM α} (h : ReadOnly x) : KidSafe x := by
  intro s a s' hx; rw [h s a s' hx]; exact ⟨SameKids.refl _, rfl⟩

theorem KidSafe.bind {α β : Type} {x : TM α} {f : α → TM β} (hx : KidSafe x) (hf : ∀ a, KidSafe (f a)) :
    KidSafe (x >>= f) := by
  intro s b s' h
  obtain ⟨a, s1, hxs, hfs⟩ := GoM.bind_eq_ok h
  have h1 := hx s a s1 hxs
  have h2 := hf a s1 b s' hfs
  exact ⟨h1.1.trans h2.1, h2.2.trans h1.2⟩

theorem KidSafe.ite {α : Type} (c : Prop) [Decidable c] {x y : TM α} (hx : KidSafe x) (hy : KidSafe y) :
    KidSafe (if c then x else y) := by
  split <;> assumption

/-- `n.schema = v`: the cell is loaded and its copy with another schema stored -/
theorem KidSafe.storeSchema {β : Type} (a : Ptr) (v : TValue) {k : TM β} (hk : KidSafe k) :
    KidSafe (do let t ← TreePrelude.Go.load a; TreePrelude.Go.store a { t with schema := v }; k) := by
  intro s b s' h
  cases hc : s.heap a with
  | none => simp [load_apply, hc] at h
  | some c =>
    simp only [GoM.bind_apply, load_some hc, store_some _ hc] at h
    have := hk _ b s' h
    exact ⟨(sameShape_hset _ a c v hc).kids.trans this.1, this.2⟩

end PV.TreeTie
