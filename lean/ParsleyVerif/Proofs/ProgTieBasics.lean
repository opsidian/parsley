/-
  The prelude of the statement-level translator (Generated/ProgPrelude.lean) against the primitives of the
  hand-written slice/map heap model (Model/Data.lean): every Go construct the translated functions are built
  from does, on a model slice `sl s` / a model map handle, exactly what the model's primitive does.  An index read is
  stated on what ANY header shows (`idx_view`); the read of a model slice (`idx_sl`) is its instance.
  Everything here is about the two hand-written sides; nothing depends on the generated file.
-/
import ParsleyVerif.Proofs.DataMap
import ParsleyVerif.Generated.ProgPrelude
namespace PV.ProgTie
open PV.ProgPrelude

/-- a model slice as a prelude slice header (offset 0, not nil) -/
def sl (s : Data.Slice) : Sl := { arr := s.arr, off := 0, len := s.len, cap := s.cap }

@[simp] theorem sl_arr (s : Data.Slice) : (sl s).arr = s.arr := by cases s; rfl
@[simp] theorem sl_off (s : Data.Slice) : (sl s).off = 0 := by cases s; rfl
@[simp] theorem sl_len (s : Data.Slice) : (sl s).len = s.len := by cases s; rfl
@[simp] theorem sl_cap (s : Data.Slice) : (sl s).cap = s.cap := by cases s; rfl
@[simp] theorem sl_isNil (s : Data.Slice) : (sl s).isNil = false := by cases s; rfl

theorem sl_inj {a b : Data.Slice} (h : sl a = sl b) : a = b := by
  cases a; cases b; simp [sl] at h; simp [h]

@[simp] theorem bind_apply {α β : Type} (x : M α) (f : α → M β) (st : St) :
    (x >>= f) st = match x st with
      | .ok a s' => f a s'
      | .panic => .panic
      | .nofuel => .nofuel := rfl

@[simp] theorem pure_apply {α : Type} (a : α) (st : St) : (pure a : M α) st = .ok a st := rfl

/-- the Decidable instance is an explicit argument, so that `simp` unifies it instead of synthesising it -/
@[simp] theorem ite_apply {α : Type} (c : Prop) (inst : Decidable c) (a b : M α) (st : St) :
    (@ite (M α) c inst a b) st = @ite (Res α) c inst (a st) (b st) := by
  split <;> rfl

theorem bind_ok {α β : Type} {x : M α} {f : α → M β} {st st' : St} {a : α} (h : x st = .ok a st') :
    (x >>= f) st = f a st' := by
  simp [h]

/-! ### deciding a generated comparison from the facts at hand

Conditional rewrite rules for `simp (disch := omega)`: a comparison that `omega` can prove or refute from the context becomes
`True` / `False`, so only the meaning of a test matters, not the way the source spells it (`go_atoms`, Proofs/ProgSat.lean). -/

theorem lt_true {α : Type} [LT α] {a b : α} (h : a < b) : (a < b) = True := eq_true h
theorem lt_false {α : Type} [LT α] {a b : α} (h : ¬ a < b) : (a < b) = False := eq_false h
theorem int_eq_true {a b : Int} (h : a = b) : (a = b) = True := eq_true h
theorem int_eq_false {a b : Int} (h : ¬ a = b) : (a = b) = False := eq_false h
theorem nat_eq_true {a b : Nat} (h : a = b) : (a = b) = True := eq_true h
theorem nat_eq_false {a b : Nat} (h : ¬ a = b) : (a = b) = False := eq_false h

@[simp] theorem cells_mk (h : Data.Heap) (mh : Data.MHeap) (g : Nat → Nat) (a : Nat) :
    cells ⟨h, mh, g⟩ a = Data.cells h a := rfl

@[simp] theorem view_sl (h : Data.Heap) (mh : Data.MHeap) (g : Nat → Nat) (s : Data.Slice) :
    view ⟨h, mh, g⟩ (sl s) = Data.view h s := by
  simp [view, Data.view]

/-- (proved by `cases`, not `rfl`, on purpose: as a `rfl`-lemma `simp` would rewrite inside `decide (… < len …)` without
    touching the Decidable instance, and later conditional rewrites would not match) -/
@[simp] theorem len_sl (s : Data.Slice) : Go.len (sl s) = (s.len : Int) := by cases s; rfl

theorem getElem?_getD {α : Type} (l : List α) (i : Nat) (d : α) (h : i < l.length) : l[i]? = some (l.getD i d) := by
  simp [List.getD_eq_getElem?_getD, List.getElem?_eq_getElem h]

theorem idx_view (st : St) (s : Sl) (l : List Int) (hv : view st s = l) (hl : s.len = l.length) (i : Int)
    (h0 : 0 ≤ i) (h1 : i < l.length) : Go.idx s i st = .ok (l.getD i.toNat 0) st := by
  have hi : i.toNat < l.length := by omega
  have e : (cells st s.arr)[s.off + i.toNat]? = some (l.getD i.toNat 0) := by
    rw [← getElem?_getD l _ 0 hi, ← hv]
    simp only [view, List.getElem?_take, List.getElem?_drop]
    rw [if_pos (by omega)]
  simp only [Go.idx, e]
  rw [if_pos ⟨h0, by omega⟩]

theorem idx_sl (h : Data.Heap) (mh : Data.MHeap) (g : Nat → Nat) (s : Data.Slice) (w : Data.SWF h s) (i : Nat)
    (hi : i < s.len) : Go.idx (sl s) i ⟨h, mh, g⟩ = .ok ((Data.view h s).getD i 0) ⟨h, mh, g⟩ := by
  have hl := w.view_length
  exact idx_view _ _ _ (view_sl h mh g s) (by rw [sl_len, hl]) i (by omega) (by omega)

theorem idx_panic (s : Sl) (i : Int) (st : St) (h : i < 0 ∨ (s.len : Int) ≤ i) : Go.idx s i st = .panic := by
  simp only [Go.idx]
  rw [if_neg (by omega)]

theorem append_sl (h : Data.Heap) (mh : Data.MHeap) (g : Nat → Nat) (s : Data.Slice) (v : Int) :
    Go.append (sl s) v ⟨h, mh, g⟩ = .ok (sl (Data.append g h s v).2) ⟨(Data.append g h s v).1, mh, g⟩ := by
  unfold Go.append Data.append
  by_cases hc : s.len < s.cap
  · simp [hc, sl, Data.writeCell]
  · simp [hc, sl]
    rfl

theorem mkSlice_sl (h : Data.Heap) (mh : Data.MHeap) (g : Nat → Nat) (l c : Int) (h0 : 0 ≤ l) (h1 : l ≤ c) :
    Go.mkSlice l c ⟨h, mh, g⟩ = .ok (sl (Data.make h l.toNat c.toNat).2) ⟨(Data.make h l.toNat c.toNat).1, mh, g⟩ := by
  simp only [Go.mkSlice]
  rw [if_pos ⟨h0, h1⟩]
  rfl

theorem setIdx_sl (h : Data.Heap) (mh : Data.MHeap) (g : Nat → Nat) (s : Data.Slice) (w : Data.SWF h s) (i : Int) (v : Int)
    (h0 : 0 ≤ i) (h1 : i < s.len) :
    Go.setIdx (sl s) i v ⟨h, mh, g⟩ = .ok () ⟨Data.writeCell h s.arr i.toNat v, mh, g⟩ := by
  have hc : i.toNat < (Data.cells h s.arr).length := by have := w.2.1; have := w.2.2; omega
  simp only [Go.setIdx, sl_len, sl_arr, sl_off, cells_mk, Nat.zero_add]
  rw [if_pos ⟨h0, h1, hc⟩]
  rfl

/-- `copy(dst, src)` into a slice of the same length is the model's `copyInto` -/
theorem copy_sl_into (h : Data.Heap) (mh : Data.MHeap) (g : Nat → Nat) (dst src : Data.Slice) (w : Data.SWF h src)
    (hl : dst.len = src.len) :
    Go.copy (sl dst) (sl src) ⟨h, mh, g⟩ = .ok (src.len : Int) ⟨Data.copyInto h dst src, mh, g⟩ := by
  have hv := w.view_length
  simp only [Go.copy, sl_len, sl_arr, sl_off, view_sl, hl, Nat.min_self, Nat.zero_add, List.take_zero, List.nil_append,
    Data.copyInto, Data.modify_eq_setCells]
  rw [List.take_of_length_le (by omega)]

/-- `copy(s[i+1:], s[i:])`, for any two headers in that relation, is the model's `copyShift` -/
theorem copy_shift (h : Data.Heap) (mh : Data.MHeap) (g : Nat → Nat) (d s : Sl) (hA : d.arr = s.arr) (ho : d.off = s.off + 1)
    (hl : d.len + 1 = s.len) :
    Go.copy d s ⟨h, mh, g⟩ =
      .ok (d.len : Int) ⟨Data.setCells h s.arr (Data.copyShift (Data.cells h s.arr) s.off (s.off + d.len)), mh, g⟩ := by
  simp only [Go.copy, view, cells_mk, hA, ho, ← hl, Data.modify_eq_setCells, Data.copyShift, List.take_take,
    Nat.min_eq_left (Nat.le_succ _), Nat.add_sub_cancel_left, Nat.add_right_comm _ 1]

theorem sliceFrom_sl (s : Data.Slice) (lo : Int) (st : St) (h0 : 0 ≤ lo) (h1 : lo ≤ s.len) :
    Go.sliceFrom (sl s) lo st =
      .ok { arr := s.arr, off := lo.toNat, len := s.len - lo.toNat, cap := s.cap - lo.toNat, isNil := false } st := by
  simp [Go.sliceFrom, h0, h1]

/-! ### sort.SearchInts: the assumed meaning (least index with an element ≥ x) is what the transcribed binary search
    of the model returns on an ascending list -/

theorem leastGE_unique : ∀ (l : List Int) (x : Int) (i : Nat), i ≤ l.length → (∀ k, k < i → l.getD k 0 < x) →
    (i < l.length → l.getD i 0 ≥ x) → leastGE l x = i
  | [], _, i, hi, _, _ => by simp at hi; simp [leastGE, hi]
  | a :: r, x, 0, _, _, h2 => by
    have := h2 (by simp)
    rw [leastGE, if_pos (by simpa using this)]
  | a :: r, x, i + 1, hi, h1, h2 => by
    have ha := h1 0 (by omega)
    rw [leastGE, if_neg (by simp at ha; omega), leastGE_unique r x i (by simpa using hi)
      (fun k hk => by simpa using h1 (k + 1) (by omega)) (fun h => by simpa using h2 (by simpa using h))]

theorem searchInts_sl (h : Data.Heap) (mh : Data.MHeap) (g : Nat → Nat) (s : Data.Slice) (x : Int)
    (hs : (Data.view h s).Pairwise (· < ·)) :
    Go.searchInts (sl s) x ⟨h, mh, g⟩ = .ok ((goSearchInts (Data.view h s) x : Nat) : Int) ⟨h, mh, g⟩ := by
  obtain ⟨g1, g2, g3⟩ := Data.goSearchInts_spec (Data.view h s) x hs
  simp only [Go.searchInts, view_sl, leastGE_unique _ x _ g1 g2 g3]

@[simp] theorem mobj_mk (h : Data.Heap) (mh : Data.MHeap) (g : Nat → Nat) (i : Nat) :
    mobj ⟨h, mh, g⟩ i = Data.mobj mh i := rfl

theorem mget_eq (m : List (Int × Int)) (k : Int) : mget m k = Data.mget m k := rfl

theorem mset_eq (m : List (Int × Int)) (k v : Int) : mset m k v = Data.mset m k v := by
  induction m with
  | nil => rfl
  | cons p r ih => obtain ⟨k', v'⟩ := p; simp only [mset, Data.mset, ih]

theorem mapSet_some (h : Data.Heap) (mh : Data.MHeap) (g : Nat → Nat) (i : Nat) (k v : Int) (hi : i < mh.length) :
    Go.mapSet (some i) k v ⟨h, mh, g⟩ = .ok () ⟨h, Data.mwrite mh i k v, g⟩ := by
  simp only [Go.mapSet]
  rw [if_pos hi]
  simp only [Data.mwrite]
  congr 2
  congr 1
  funext o
  exact mset_eq o k v

theorem mapGet_some (h : Data.Heap) (mh : Data.MHeap) (g : Nat → Nat) (i : Nat) (k : Int) :
    Go.mapGet (some i) k ⟨h, mh, g⟩ = .ok ((Data.mget (Data.mobj mh i) k).getD 0) ⟨h, mh, g⟩ := rfl

theorem mapGet2_some (h : Data.Heap) (mh : Data.MHeap) (g : Nat → Nat) (i : Nat) (k : Int) :
    Go.mapGet2 (some i) k ⟨h, mh, g⟩ =
      .ok (match Data.mget (Data.mobj mh i) k with | some v => (v, true) | none => (0, false)) ⟨h, mh, g⟩ := by
  simp only [Go.mapGet2, mobj_mk, mget_eq]
  cases Data.mget (Data.mobj mh i) k <;> rfl

theorem mkMap_mk (h : Data.Heap) (mh : Data.MHeap) (g : Nat → Nat) :
    Go.mkMap ⟨h, mh, g⟩ = .ok (some mh.length) ⟨h, mh ++ [[]], g⟩ := rfl

theorem mapLen_some (h : Data.Heap) (mh : Data.MHeap) (g : Nat → Nat) (i : Nat) :
    Go.mapLen (some i) ⟨h, mh, g⟩ = .ok (((Data.mobj mh i).length : Nat) : Int) ⟨h, mh, g⟩ := rfl

theorem mapEntries_some (h : Data.Heap) (mh : Data.MHeap) (g : Nat → Nat) (i : Nat) :
    Go.mapEntries (some i) ⟨h, mh, g⟩ = .ok (Data.mobj mh i) ⟨h, mh, g⟩ := rfl

end PV.ProgTie
