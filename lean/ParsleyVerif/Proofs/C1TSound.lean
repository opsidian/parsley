/-
  SOUNDNESS FOR THE EXACT TRIM MEANING (C01 with trims): every tree `run` returns for a parser of the
  fragment with trims is an exact derivation (`DerivesW`, Spec/DerivesW.lean) — the whitespace before a
  LeftTrim's operand and after a RightTrim's tree is the MAXIMAL run and the mode ACCEPTS it.
  An instance of `RunInv` (`soundInvW`): the invariant carries what `ErrFree` /
  `OneAlt` promise about the answer of the parser called (`OutShape cfg g o`, also for cached answers), because that
  is what rules the two deviations of text/trim.go out (Spec/DerivesW.lean, findings F1 / F2 of Props/C01W.lean) —
  the verdict on the whitespace after a RightTrim's tree is known only through it.
-/
import ParsleyVerif.Proofs.C1TComplete
import ParsleyVerif.Proofs.RunInv
import ParsleyVerif.Proofs.Lexeme
namespace PV.C1T
open PV PV.Text

structure EntryS (cfg : Cfg) (bodyOf : Nat → G) (e : CacheEntry) : Prop where
  sound : ∀ x ∈ e.res.alts, DerivesW cfg (bodyOf e.idx) e.pos x
  shape : ErrFree cfg (bodyOf e.idx) → e.res.isNil = false → e.err = none

def CacheS (cfg : Cfg) (bodyOf : Nat → G) (st : St) : Prop := ∀ e ∈ st.cache, EntryS cfg bodyOf e

def ScopeS (cfg : Cfg) (bodyOf : Nat → G) (g : G) : Prop := FragW cfg g ∧ SoundW cfg g ∧ GOK bodyOf g

theorem ScopeS.lookup {cfg : Cfg} {bodyOf : Nat → G} {g : G} {sh : SeqShape} (h : ScopeS cfg bodyOf g)
    (hs : g.shape = some sh) : ∀ d g', sh.lookup d = some g' → ScopeS cfg bodyOf g' :=
  fun d g' hl => ⟨shape_lookup_all h.1 hs d g' hl, shape_lookup_all h.2.1 hs d g' hl, shape_lookup_all h.2.2 hs d g' hl⟩

theorem DerivesSeqW.snoc {cfg : Cfg} {sh : SeqShape} {g : G} {n : Node} :
    ∀ {nodes : List Node} {d p : Nat}, DerivesSeqW cfg sh d p nodes →
      sh.lookup (d + nodes.length) = some g → DerivesW cfg g (endOf p nodes) n →
      DerivesSeqW cfg sh d p (nodes ++ [n])
  | [], d, p, _, hl, hd => by
    simp only [List.length_nil, Nat.add_zero] at hl
    exact .cons hl (by simpa [endOf] using hd) .nil
  | m :: rest, d, p, h, hl, hd => by
    cases h with
    | cons hl' hm hrest =>
      refine .cons hl' hm (DerivesSeqW.snoc (g := g) hrest ?_ ?_)
      · simpa [Nat.add_assoc, Nat.add_comm 1] using hl
      · rw [endOf_cons] at hd; exact hd

/-- when RightTrim hands a tree on, SkipWhitespaces raised no error on the operand's result -/
theorem rtrimOut_verdict (cfg : Cfg) (m : WsMode) (o : Out) (he : o.err = none) {y : Node}
    (hy : y ∈ (rtrimOut cfg.file m o).res.alts) : (setRposRes cfg.file m o.res).2 = none := by
  rcases rtrimOut_cases cfg.file m o with ⟨e, he', _⟩ | ⟨_, _, _, ho⟩ | ⟨_, hs, _⟩
  · rw [he] at he'; cases he'
  · rw [ho] at hy; cases hy
  · exact hs

/-- soundness for the exact trim meaning as an instance of `RunInv`: the trees of a parser of the fragment are its exact
    derivations (for a parser outside the fragment nothing is said: `DerivesW` has no rule for it), the answers have
    `OutShape`; the laws of the two trims are where `OutShape` is used: a rejected run before a LeftTrim's operand leaves no
    tree when the operand is `ErrFree`, and the verdict on the whitespace after a RightTrim's tree is that on the whole
    result when there is one alternative -/
def soundInvW (cfg : Cfg) (bodyOf : Nat → G) (henv : ∀ g' ∈ cfg.env, ScopeS cfg bodyOf g') : RunInv cfg where
  Sc := ScopeS cfg bodyOf
  S := CacheS cfg bodyOf
  N := DerivesW cfg
  O := OutShape cfg
  Ch sh p0 ns p := DerivesSeqW cfg sh 0 p0 ns ∧ endOf p0 ns = p
  scope := ⟨fun hg hk => ⟨hg.1.kid hk, hg.2.1.kid hk, hg.2.2.kid hk⟩, henv⟩
  trees :=
    { term := fun _ _ h => .term h
      empty := fun _ _ => .empty
      eof := fun hg _ _ => (G.All_self (P := FragLocalW cfg) hg.1).elim
      ref := fun _ hk h => .ref hk h
      memo := fun _ h => .memo h
      any := fun _ hm h => .any hm h
      choice := fun hg _ _ => (G.All_self (P := FragLocalW cfg) hg.1).elim
      pass := fun {g w pos o x} hg hw hnr _ ho hx h => by
        revert hg hnr ho hx h
        refine G.wrap_cases (motive := fun g w => ScopeS cfg bodyOf g → (∀ g' m, g ≠ .rtrim g' m) → OutShape cfg w.child o →
          x ∈ (w.out o).res.alts → DerivesW cfg w.child w.cpos x → DerivesW cfg g pos x)
          ?_ ?_ ?_ ?_ ?_ ?_ hw
        · exact fun _ _ _ _ _ h => .optSome h
        · exact fun _ _ hg _ _ _ _ => (G.All_self (P := FragLocalW cfg) hg.1).elim
        · exact fun _ hg _ _ _ _ => (G.All_self (P := FragLocalW cfg) hg.1).elim
        · exact fun _ hg _ _ _ _ => (G.All_self (P := FragLocalW cfg) hg.1).elim
        · intro g' m hg _ ho hx h
          have hm : m = .spacesNl ∨ ErrFree cfg g' := G.All_self (P := SoundLocalW cfg) hg.2.1
          cases hw : wsToErr (skipWhitespaces cfg.file pos m).2 with
          | none => exact .ltrim (wsToErr_none hw) h
          | some w =>
            -- the mode rejects the run: with WsSpacesNl impossible, otherwise the operand is ErrFree
            exfalso
            cases hm with
            | inl h5 => subst h5; rw [skipWhitespaces_spacesNl] at hw; exact nomatch hw
            | inr h5 =>
              change x ∈ (ltrimOut pos _ (wsToErr (skipWhitespaces cfg.file pos m).2) o).res.alts at hx
              rw [hw, ltrimOut_reject pos _ w o (ho.1 h5)] at hx
              cases hx
        · exact fun g' m _ hnr => absurd rfl (hnr g' m)
      optNone := fun _ _ => .optNone
      single := fun hg _ => (G.All_self (P := FragLocalW cfg) hg.1).elim
      rkeep := fun hg _ ho he hx _ => by
        rw [ho.1 (FragW.rtrim hg.1).1 (isNil_false_of_mem hx)] at he; cases he
      rtrim := fun {g' m pos o x} hg _ ho hx hmv h => by
        obtain ⟨r1, r2⟩ := FragW.rtrim hg.1
        refine .rtrim h ?_
        cases r2 with
        | inl h5 => subst h5; exact movedErr_spacesNl cfg x
        | inr h5 =>
          have hv := rtrimOut_verdict cfg m o (ho.1 r1 (isNil_false_of_mem hx)) hmv
          rw [setRposRes_snd_one cfg.file m o.res x hx (ho.2 h5)] at hv
          exact hv
      chNil := fun _ _ _ => ⟨.nil, rfl⟩
      chSnoc := fun _ _ hl h hn =>
        ⟨DerivesSeqW.snoc h.1 (by rw [Nat.zero_add]; exact hl) (by rw [h.2]; exact hn), endOf_snoc _ _ _⟩
      chEmit := fun {g sh p0 ns p} hg hs hlc h => by
        obtain ⟨hds, hend⟩ := h
        rw [handleResult_endOf sh hend]
        have hl := G.All_self (P := FragLocalW cfg) hg.1
        cases g with
        | seq k gs so =>
          cases k with
          | seqOf => exact .seqOf hs hds hlc
          | _ => exact hl.elim
        | many | sepBy => exact hl.elim
        | _ => cases hs }
  outs :=
    { fail := fun _ => OutShape_nil ..
      leaf := fun _ _ => OutShape_one ..
      ref := fun _ hk h => OutShape_ref hk h
      memo := fun _ h => OutShape_memo h.1
      any := fun _ => ⟨fun _ _ => rfl, fun h => h.elim⟩
      choice := fun _ => OutShape_of_not _ (fun h => h) (fun h => h)
      seq := fun {g sh res cp} hg hs => by
        have hl := G.All_self (P := FragLocalW cfg) hg.1
        cases g with
        | seq k gs so =>
          cases k with
          | seqOf => exact ⟨fun _ _ => rfl, fun h => h.elim⟩
          | _ => exact hl.elim
        | many | sepBy => exact hl.elim
        | _ => cases hs
      wrap := fun {g w pos o} _ hw ho => by
        revert ho
        refine G.wrap_cases (motive := fun g w => OutShape cfg w.child o → OutShape cfg g (w.out o)) ?_ ?_ ?_ ?_ ?_ ?_ hw
        · exact fun _ _ => OutShape_of_not _ (fun h => h) (fun h => h)
        · exact fun _ _ _ => OutShape_of_not _ (fun h => h) (fun h => h)
        · exact fun _ _ => OutShape_of_not _ (fun h => h) (fun h => h)
        · exact fun _ _ => OutShape_of_not _ (fun h => h) (fun h => h)
        · exact fun g' m ho => OutShape_ltrim cfg g' m _ _ _ o ho
        · exact fun g' m ho => OutShape_rtrim cfg g' m o ho }
  states :=
    { regCall := fun h => h
      logEv := fun ev h _ => cacheAll_of_eq h (logEv_fields _ cfg ev).1
      setError := fun _ h _ => cacheAll_of_eq h (setError_ctxErr _ _).2.1
      enter := fun _ _ h _ _ => cacheAll_of_eq h (memoEnter_frame cfg _ _ _).1
      leave := fun {idx body pos ctx st o st2} hg _ hst hn _ ho e he => by
        have hb : body = bodyOf idx := G.All_self (P := LocalOK bodyOf) hg.2.2
        rcases mem_cacheSave he with rfl | h3
        · exact ⟨fun x hx => hb ▸ hn x hx, hb ▸ ho.1⟩
        · exact hst e h3
      hit := fun {st idx body pos ctx e} hg hst hc => by
        have hb : body = bodyOf idx := G.All_self (P := LocalOK bodyOf) hg.2.2
        obtain ⟨hm, hi, hp⟩ := cacheGet_some hc
        have hE := hst e hm
        refine ⟨fun x hx => .memo ?_, fun _ _ => trivial, OutShape_memo ?_⟩
        · have := hE.sound x hx
          rwa [hi, hp, ← hb] at this
        · have := hE.shape
          rwa [hi, ← hb] at this }

theorem run_soundW (cfg : Cfg) (bodyOf : Nat → G) (henv : ∀ g' ∈ cfg.env, ScopeS cfg bodyOf g')
    (fuel : Nat) (g : G) (ctx : Ctx) (pos : Nat) (st : St) (o : Out) (st' : St) (hg : ScopeS cfg bodyOf g)
    (hcs : CacheS cfg bodyOf st) (h : run cfg fuel g ctx pos st = some (o, st')) :
    (∀ x ∈ o.res.alts, DerivesW cfg g pos x) ∧ OutShape cfg g o ∧ CacheS cfg bodyOf st' :=
  have hp := (soundInvW cfg bodyOf henv).run fuel g ctx pos st o st' hg ⟨trivial, hcs, trivial⟩ h
  ⟨hp.nodes, hp.out, hp.st⟩

end PV.C1T

namespace PV.S04W
open PV PV.Text PV.C1T

def SentW (cfg : Cfg) (g : G) (pos : Nat) (x : Node) : Prop :=
  ∃ y, DerivesW cfg g pos y ∧ isEOF cfg.file y.rpos = true ∧
    x = .nt seqTok [y, .eof y.rpos] y.pos y.rpos (.select 0)

/-- **every tree `Sentence(g)` returns is the Sentence node over an exact derivation of `g` that ends at the end
    of the input** — from any cache that only holds exact derivations, with any fuel -/
theorem sentence_sound_w (cfg : Cfg) (bodyOf : Nat → G) (henv : ∀ g' ∈ cfg.env, ScopeS cfg bodyOf g')
    (g : G) (hg : ScopeS cfg bodyOf g) (fuel : Nat) (pos : Nat) (st : St)
    (hst : CacheS cfg bodyOf st) (o : Out) (st' : St)
    (h : run cfg fuel (G.sentence g) [] pos st = some (o, st')) :
    ∀ x ∈ o.res.alts, SentW cfg g pos x :=
  sentence_sound_of_operand cfg g pos (CacheS cfg bodyOf) (DerivesW cfg g pos) (fun _ _ => cacheAll_of_eq)
    (fun fuel st o st' hC hr =>
      have hs := run_soundW cfg bodyOf henv fuel g [] pos st o st' hg hC hr
      ⟨hs.1, hs.2.2⟩)
    fuel st hst o st' h

end PV.S04W
