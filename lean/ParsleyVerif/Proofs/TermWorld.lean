/-
  The CLOSED WORLD of the translated parser core WITH TRANSLATED TERMINALS: definitions and the induction.

  Proofs/CoreWorld.lean builds `gWorld cfg root fuel` from the translated combinator closures; its terminal leaf
  `Terminal_parse` is taken from the model.  Here the leaf runs the TRANSLATED terminal closure (Generated/FactsTerm.lean):
    * `tWorld cfg : TWorld` — the world of the terminals, built from the configuration: the reader's methods are the
      model's file functions (Model/Text.lean; Props/C09P.lean ties them to the translated reader), `unquoteString` the
      model's (Props/C08P.lean), the regexp engine answers for the five literal expressions what the hand-written
      matchers answer (Props/C08.lean: = the leftmost-first semantics of the expressions) and for the user expression
      `id` — written `rxText id` in this world — what `cfg.params.regexp id` answers; strconv.ParseInt(·, 0, 64) is
      `parseInt0`, ParseFloat / ParseDuration / UnquoteChar are the model's parameters.  `tWorld_rel`, `tWorld_regexp`: it satisfies the
      contracts `TWorldRel` and `RegexpRel` BY CONSTRUCTION, for every configuration.
    * `nodeT` = `CW.node` with the case `.term t` replaced by `termLeaf cfg (tWorld cfg) cwNames [] t`: the translated
      closure of the terminal, a Go panic inside it reported the model's way (Proofs/TermTieLeaf.lean).
    * `gWorldT`, `dispatchT`: as `gWorld`, `dispatch`, over `nodeT`.
  `gWorldT_agrees`: the induction of Proofs/CoreWorldTie.lean with `tie_Terminal` replaced by `tie_leaf`.
-/
import ParsleyVerif.Proofs.TermTieLeaf
import ParsleyVerif.Proofs.CoreWorldTie
namespace PV.CWT
open PV.CoreTie PV.FactsCore PV.CW PV.TermTie PV.Text

/-- the text this world gives to the model's user expression `id`: a NUL byte, then `id` more (none of the five literal
    expressions starts with NUL) -/
def rxText (id : Nat) : Bytes := 0 :: List.replicate id 0

def rxIdOf : Bytes → Option Nat
  | 0 :: r => some r.length
  | _ => none

/-- the user expressions as this world writes them; a Regexp terminal with a group uses the group 1 -/
def cwNames : RxNames := { text := rxText, group := fun _ hg => if hg then 1 else 0 }

def engineOf (cfg : Cfg) (rx : Bytes) : Bytes → Option Nat :=
  if rx = rxBytes Rx.integerSx then integerMatch
  else if rx = rxBytes Rx.floatSx then floatMatch
  else if rx = rxBytes Rx.durationSx then durationMatch
  else if rx = rxBytes Rx.charSx then charMatch
  else if rx = rxBytes Rx.backquoteSx then backquoteMatch
  else match rxIdOf rx with
    | some id => userEngine cfg id
    | none => fun _ => none

/-- FindSubmatch for the user expression `id`: the whole match, then the group the model's engine reports (if any) -/
def submatches (cfg : Cfg) (id : Nat) (pos : Nat) (whole : Bytes) : List (Option Bytes) :=
  match cfg.params.regexp id (cfg.file.data.drop (pos - cfg.file.offset)) with
  | some (_, some g) => [some whole, some g]
  | _ => [some whole]

def tWorld (cfg : Cfg) : TWorld :=
  { Reader_ReadRune := fun p ch => (readRune cfg.file p.toNat ch.toNat).map ePB,
    Reader_MatchString := fun p s => (matchString cfg.file p.toNat s).map ePB,
    Reader_MatchWord := fun p w => (matchWord cfg.file p.toNat w).map ePB,
    Reader_ReadRegexp := fun p rx => (readRegexp (engineOf cfg rx) cfg.file p.toNat).map ePS,
    Reader_ReadRegexpSubmatch := fun p rx =>
      match rxIdOf rx with
      | none => none
      | some id =>
        match readRegexp (userEngine cfg id) cfg.file p.toNat with
        | none => none
        | some (rp, none) => some ((rp : Int), none)
        | some (rp, some whole) => some ((rp : Int), some (submatches cfg id p.toNat whole)),
    Reader_Readf := fun p fn => (readf (fun b => ((fn b).1, (fn b).2.toNat)) cfg.file p.toNat).map ePS,
    Reader_IsEOF := fun p => isEOF cfg.file p.toNat,
    Reader_Remaining := fun p => (remaining cfg.file p.toNat : Nat),
    unquoteString := fun b => ((unquoteString b).1, ((unquoteString b).2 : Nat)),
    strconv_ParseInt := fun lex base bits =>
      if base = 0 ∧ bits = 64 then
        match parseInt0 lex with
        | some v => (v, .nil)
        | none => (0, .other 0 [])
      else (0, .other 0 []),
    strconv_ParseFloat := fun lex _ => if cfg.params.floatOk lex then (symOf lex, .nil) else ([], .other 0 []),
    strconv_UnquoteChar := fun s q =>
      match unquoteChar s q.toNat with
      | some (v, tail) => ((v : Int), false, tail, .nil)
      | none => (0, false, [], .other 0 []),
    time_ParseDuration := fun lex =>
      match cfg.params.durErr lex with
      | none => (symOf lex, .nil)
      | some msg => ([], .other 0 msg),
    -- strconv.Quote is not modelled (the quoted name is a construction parameter of the model's terminals): a placeholder
    strconv_Quote := fun s => 34 :: s ++ [34],
    strings_ToUpper := upperAscii }

/-- the texts of the five literal expressions; the one `engineOf` asks for last comes first, so that `Nodup` says that each
    differs from those asked for before it -/
def litTexts : List Bytes :=
  [rxBytes Rx.backquoteSx, rxBytes Rx.charSx, rxBytes Rx.durationSx, rxBytes Rx.floatSx, rxBytes Rx.integerSx]

/-- the five texts are pairwise different and none is the text of a user expression (none starts with NUL): a fact about
    five fixed strings, evaluated -/
theorem litTexts_distinct : litTexts.Nodup ∧ ∀ b ∈ litTexts, rxIdOf b = none := by decide +kernel

theorem rx_ne : (rxBytes Rx.backquoteSx ≠ rxBytes Rx.charSx ∧ rxBytes Rx.backquoteSx ≠ rxBytes Rx.durationSx ∧
      rxBytes Rx.backquoteSx ≠ rxBytes Rx.floatSx ∧ rxBytes Rx.backquoteSx ≠ rxBytes Rx.integerSx) ∧
    (rxBytes Rx.charSx ≠ rxBytes Rx.durationSx ∧ rxBytes Rx.charSx ≠ rxBytes Rx.floatSx ∧
      rxBytes Rx.charSx ≠ rxBytes Rx.integerSx) ∧
    (rxBytes Rx.durationSx ≠ rxBytes Rx.floatSx ∧ rxBytes Rx.durationSx ≠ rxBytes Rx.integerSx) ∧
    rxBytes Rx.floatSx ≠ rxBytes Rx.integerSx := by
  simpa [litTexts] using litTexts_distinct.1

theorem engineOf_integer (cfg : Cfg) : engineOf cfg (rxBytes Rx.integerSx) = integerMatch := by simp [engineOf]
theorem engineOf_float (cfg : Cfg) : engineOf cfg (rxBytes Rx.floatSx) = floatMatch := by simp [engineOf, rx_ne]
theorem engineOf_duration (cfg : Cfg) : engineOf cfg (rxBytes Rx.durationSx) = durationMatch := by simp [engineOf, rx_ne]
theorem engineOf_char (cfg : Cfg) : engineOf cfg (rxBytes Rx.charSx) = charMatch := by simp [engineOf, rx_ne]
theorem engineOf_backquote (cfg : Cfg) : engineOf cfg (rxBytes Rx.backquoteSx) = backquoteMatch := by
  simp [engineOf, rx_ne]

theorem rxIdOf_text (id : Nat) : rxIdOf (rxText id) = some id := by simp [rxIdOf, rxText]

theorem engineOf_user (cfg : Cfg) (id : Nat) : engineOf cfg (rxText id) = userEngine cfg id := by
  have h : rxText id ∉ litTexts := fun hm => by
    have := litTexts_distinct.2 _ hm
    rw [rxIdOf_text] at this
    cases this
  simp only [litTexts, List.mem_cons, List.not_mem_nil, or_false, not_or] at h
  simp [engineOf, rxIdOf_text, h]

theorem tWorld_readRegexp (cfg : Cfg) {rx : Bytes} {e : Bytes → Option Nat} (h : engineOf cfg rx = e) (p : Nat) :
    (tWorld cfg).Reader_ReadRegexp p rx = (readRegexp e cfg.file p).map ePS :=
  congrArg (fun e => (readRegexp e cfg.file p).map ePS) h

theorem tWorld_rel (cfg : Cfg) : TWorldRel (tWorld cfg) cfg where
  readRune _ _ := rfl
  matchString _ _ := rfl
  matchWord _ _ := rfl
  reInteger := tWorld_readRegexp cfg (engineOf_integer cfg)
  reFloat := tWorld_readRegexp cfg (engineOf_float cfg)
  reDuration := tWorld_readRegexp cfg (engineOf_duration cfg)
  reChar := tWorld_readRegexp cfg (engineOf_char cfg)
  reBackquote := tWorld_readRegexp cfg (engineOf_backquote cfg)
  readf _ := rfl
  isEOF _ := rfl
  remaining _ := rfl
  parseInt lex _ := by
    dsimp only [tWorld]
    cases parseInt0 lex <;> rfl
  parseFloat lex := by
    dsimp only [tWorld]
    cases cfg.params.floatOk lex <;> rfl
  parseDuration lex := by
    dsimp only [tWorld]
    cases cfg.params.durErr lex <;> rfl
  unquoteChar s := by
    dsimp only [tWorld, Int.reduceToNat]
    rcases unquoteChar s 39 with _ | ⟨v, tail⟩
    · rfl
    · exact ⟨false, rfl⟩
  toUpper w _ := rfl

theorem tWorld_regexp (cfg : Cfg) (id : Nat) (hasGroup : Bool) :
    RegexpRel (tWorld cfg) cfg id (rxText id) (cwNames.group id hasGroup) where
  whole := tWorld_readRegexp cfg (engineOf_user cfg id)
  group hne := by
    cases hasGroup with
    | false => exact absurd rfl hne
    | true =>
      refine ⟨Int.one_pos, fun p => ?_⟩
      simp only [tWorld, rxIdOf_text, Int.toNat_natCast]
      rcases readRegexp (userEngine cfg id) cfg.file p with _ | ⟨rp, _ | whole⟩
      · rfl
      · rfl
      · refine ⟨_, rfl, ?_⟩
        unfold submatches
        rcases cfg.params.regexp id (List.drop (p - cfg.file.offset) cfg.file.data) with _ | ⟨ml, _ | g⟩
        · exact Int.le_refl 1
        · exact Int.le_refl 1
        · exact ⟨some g, rfl, rfl⟩

theorem tWorld_regexpOK (cfg : Cfg) (t : Terminal) : RegexpOK (tWorld cfg) cfg cwNames t := by
  cases t with
  | regexp id tok name hasGroup =>
    refine ⟨tWorld_regexp cfg id hasGroup, ?_⟩
    cases hasGroup <;> simp [cwNames]
  | _ => trivial

/-- the terminal leaf of this world: the TRANSLATED closure of the terminal over `tWorld cfg` (nil schema) -/
def leafT (cfg : Cfg) (t : Terminal) : IntMap → Int → CM (CNode × IntSet × CErr) :=
  termLeaf cfg (tWorld cfg) cwNames [] t

def nodeT (cfg : Cfg) (W : World Context) (fuel : Nat) (π : List Nat) : G → IntMap → Int → CM (CNode × IntSet × CErr)
  | .term t => leafT cfg t
  | g => node cfg W fuel π g

def dispatchT (cfg : Cfg) (root : G) (W : World Context) (fuel : Nat) :
    Parser → IntMap → Int → CM (CNode × IntSet × CErr)
  | .nil, _, _ => CorePrelude.Go.panic
  | .mk n, m, pos =>
    match (Encodable.decode n : Option (List Nat)) with
    | none => CorePrelude.Go.panic
    | some π =>
      match resolve (table cfg root) π with
      | none => CorePrelude.Go.panic
      | some g => nodeT cfg W fuel π g m pos

def gWorldT (cfg : Cfg) (root : G) : Nat → World Context
  | 0 => { rdWorld cfg with parse := fun _ _ _ => CorePrelude.Go.outOfFuel }
  | fuel + 1 => { rdWorld cfg with parse := dispatchT cfg root (gWorldT cfg root fuel) fuel }

theorem gWorldT_rel (cfg : Cfg) (root : G) (fuel : Nat) : WorldRel (gWorldT cfg root fuel) cfg := by
  have h := rdWorld_rel cfg
  cases fuel <;> exact ⟨h.remaining, h.isEOF, h.pos0, h.skipWs⟩

theorem nodeT_of_not_term (cfg : Cfg) (W : World Context) (fuel : Nat) (π : List Nat) (g : G) (h : ∀ t, g ≠ .term t) :
    nodeT cfg W fuel π g = node cfg W fuel π g := by
  cases g <;> first | rfl | exact absurd rfl (h _)

theorem nodeT_agrees (W : World Context) (cfg : Cfg) (h0 : cfg.maxCalls = 0) (hw : WorldRel W cfg) (fuel : Nat)
    (π : List Nat) (g : G)
    (hkids : ∀ i k, (kids g)[i]? = some k → Agrees W cfg fuel (kidH π i) k)
    (href : ∀ k, g = .ref k → ∃ g', cfg.env[k]? = some g' ∧ Agrees W cfg fuel (refH k) g') :
    AgreesF (nodeT cfg W fuel π g) cfg (fuel + 1) g := by
  by_cases ht : ∃ t, g = .term t
  · obtain ⟨t, rfl⟩ := ht
    exact tie_leaf (tWorld cfg) cfg h0 (tWorld_rel cfg) cwNames [] t (tWorld_regexpOK cfg t) fuel
  · rw [nodeT_of_not_term cfg W fuel π g (fun t e => ht ⟨t, e⟩)]
    exact node_agrees W cfg h0 hw fuel π g hkids href

theorem gWorldT_parse_succ (cfg : Cfg) (root : G) (fuel : Nat) (π : List Nat) (g : G)
    (h : resolve (table cfg root) π = some g) :
    (gWorldT cfg root (fuel + 1)).parse (hdl π) = nodeT cfg (gWorldT cfg root fuel) fuel π g := by
  funext m pos
  show dispatchT cfg root (gWorldT cfg root fuel) fuel (hdl π) m pos = _
  simp only [dispatchT, hdl, Encodable.encodek, h]

/-- the closed-world theorem with translated terminals, path form -/
theorem gWorldT_agrees (cfg : Cfg) (h0 : cfg.maxCalls = 0) (root : G) (hc : Closed cfg root) :
    ∀ (fuel : Nat) (π : List Nat) (g : G), resolve (table cfg root) π = some g →
      Agrees (gWorldT cfg root fuel) cfg fuel (hdl π) g :=
  closedWorld_agrees cfg root hc (gWorldT cfg root) (fun _ _ _ _ => rfl) (gWorldT_parse_succ cfg root)
    (fun fuel => nodeT_agrees (gWorldT cfg root fuel) cfg h0 (gWorldT_rel cfg root fuel) fuel)

end PV.CWT
