/-
  The CLOSED WORLD of the translated parser core: definitions.

  Props/C01P.lean ties every TRANSLATED combinator closure (Generated/FactsCore.lean) to the matching case of the
  model's `run`, under the hypothesis that the world's `parse` agrees with `run` on the operands.  This file builds the
  world in which that hypothesis is discharged: `gWorld cfg root fuel`, by recursion on the fuel, from the translated
  closures themselves.

  * Parser handles.  A `parsley.Parser` value of the translation is `Parser.mk n`.  Here `n` encodes a PATH into the finite
    table `root :: cfg.env` of the grammar: `[k]` is the k-th entry of the table (0 = the root, k+1 = the rule `cfg.env[k]`),
    `π ++ [i]` the i-th operand (`kids`) of the sub-parser at `π`.  (`Encodable (List ℕ)` of Mathlib: a computable
    bijection `List ℕ ≃ ℕ`.)  `ref k` — a parser VARIABLE of the Go program, through which the recursion of the grammar
    goes — is the handle `[k+1]`.
  * `(gWorld cfg root (fuel+1)).parse (hdl π)` looks the path up (`resolve`) and runs the TRANSLATED closure of the
    combinator found there (`node`), over the world `gWorld cfg root fuel` and the handles of the operands.  Parsers of the
    Sequence family are built by the TRANSLATED constructors (SeqOf / SeqTry / SeqFirstOrAll / Many / Many1 / SepBy /
    SepBy1) and setters (Token / Name / HandleResult(ReturnSingle()) / Bind) and run by the translated
    `(*Sequence).Parse` (whose own recursion `sequence.parse` ⇄ `parseNext` gets the fuel 2·fuel − 1).
  * The only leaves taken from the model: the terminals (`Terminal.parse`, Model/Terminal.lean: C08's subject) and the
    reader (`rdWorld`: the model's file functions, so `WorldRel` holds by construction; C10P ties those to the
    translated reader).
  * Fuel 0: out of fuel.  A handle that is nil / not a path of the table: a Go panic (nil-pointer call).
-/
import ParsleyVerif.Proofs.CoreTieCache
import ParsleyVerif.Proofs.CoreTieTrim
import ParsleyVerif.Proofs.CoreTieParse
import ParsleyVerif.Proofs.CoreTieSeqCtor
import ParsleyVerif.Spec.Derives
import Mathlib.Logic.Equiv.List
namespace PV.CW
open PV.CoreTie PV.FactsCore

/-! ### paths into the grammar -/

/-- the operands of a combinator node, in the order the Go constructor takes them -/
def kids : G → List G
  | .memo _ g => [g]
  | .any gs => gs
  | .choice gs => gs
  | .seq _ gs _ => gs
  | .many g _ _ => [g]
  | .sepBy v s _ _ => [v, s]
  | .optional g => [g]
  | .name g _ => [g]
  | .ltrim g _ => [g]
  | .rtrim g _ => [g]
  | .single g => [g]
  | .suppress g => [g]
  | .term _ => []
  | .empty => []
  | .eof => []
  | .ref _ => []

/-- the sub-parser of `g` at a path of operand indexes -/
def subAt : List Nat → G → Option G
  | [], g => some g
  | i :: π, g =>
    match (kids g)[i]? with
    | some k => subAt π k
    | none => none

/-- the sub-parser at a path into a table: entry `k`, then operand indexes -/
def resolve (T : List G) : List Nat → Option G
  | [] => none
  | k :: π =>
    match T[k]? with
    | some g => subAt π g
    | none => none

/-- the table of a configuration and a root parser: entry 0 = the root, entry k+1 = the rule `cfg.env[k]` -/
def table (cfg : Cfg) (root : G) : List G := root :: cfg.env

/-- the handle of a path -/
def hdl (π : List Nat) : Parser := .mk (Encodable.encode π)

/-- the handle of the root parser -/
def rootH : Parser := hdl [0]

/-- the handle of the parser variable `ref k` -/
def refH (k : Nat) : Parser := hdl [k + 1]

/-- the handle of the i-th operand of the node at `π` -/
def kidH (π : List Nat) (i : Nat) : Parser := hdl (π ++ [i])

/-- the handles of the first `n` operands of the node at `π` -/
def kidsH (π : List Nat) (n : Nat) : List Parser := (List.range' 0 n).map (kidH π)

/-! ### the leaves taken from the model -/

/-- the model's answer of a terminal, as `run` reports it -/
def termOut (cfg : Cfg) (t : Terminal) (pos : Nat) : Out :=
  match t.parse cfg.params cfg.file pos with
  | .node n => ⟨.one n, [], none⟩
  | .err e => ⟨.nil, [], some e⟩
  | .panic site => ⟨.nil, [], some ⟨pos, .panic (tokOf site)⟩⟩

/-- a terminal parser: the model's `Terminal.parse` (the context is not touched) -/
def Terminal_parse (cfg : Cfg) (t : Terminal) (_leftRecCtx : IntMap) (pos : Int) : CM (CNode × IntSet × CErr) :=
  pure (eOut (termOut cfg t pos.toNat))

/-- the whitespace mode of a code (`text.WsMode` is an int in Go) -/
def modeOf (m : Int) : Text.WsMode :=
  if m = 0 then .none else if m = 1 then .spaces else if m = 3 then .forceNl else .spacesNl

/-- the reader of a configuration (the model's file functions), and no parser -/
def rdWorld (cfg : Cfg) : World Context :=
  { parse := fun _ _ _ => CorePrelude.Go.panic,
    Reader_Remaining := fun p => (Text.remaining cfg.file p.toNat : Nat),
    Reader_IsEOF := fun p => Text.isEOF cfg.file p.toNat,
    Reader_Pos := fun i => (cfg.file.pos i.toNat : Nat),
    Reader_SkipWhitespaces := fun p m =>
      (((Text.skipWhitespaces cfg.file p.toNat (modeOf m)).1 : Nat),
        eErr (wsToErr (Text.skipWhitespaces cfg.file p.toNat (modeOf m)).2)),
    Transform := fun _ n => (n, .nil),
    StaticCheck := fun _ _ => .nil }

/-! ### parsers of the Sequence family: translated constructors, setters, Parse -/

/-- SeqOf / SeqTry / SeqFirstOrAll, translated -/
def seqCtor (W : World Context) (k : SeqKind) (ps : List Parser) : CM (Option Sequence) :=
  match k with
  | .seqOf => SeqOf W ps
  | .seqTry => SeqTry W ps
  | .seqFirstOrAll => SeqFirstOrAll W ps

/-- `.Token(t)`, translated, where the grammar term has a token -/
def optToken (W : World Context) (o : SeqOpts) (S : Sequence) : CM Sequence :=
  match o.token with
  | some t => do let r ← Sequence_Token W S t; pure r.1
  | none => pure S

/-- `.Name(nm)`, translated, where the grammar term has a name -/
def optName (W : World Context) (o : SeqOpts) (S : Sequence) : CM Sequence :=
  match o.name with
  | some nm => do let r ← Sequence_Name W S nm; pure r.1
  | none => pure S

/-- `.HandleResult(ReturnSingle())`, translated, where the grammar term has the option -/
def optSingle (W : World Context) (o : SeqOpts) (S : Sequence) : CM Sequence :=
  if o.single then (do
    let h ← ReturnSingle W
    let r ← Sequence_HandleResult W S (some h)
    pure r.1)
  else pure S

/-- the option setters of a Sequence, translated: `.Token(t)` / `.Name(nm)` / `.HandleResult(ReturnSingle())` where the
    grammar term has the option, then `.Bind(interp)` (the nil interpreter when there is none) -/
def applyOpts (W : World Context) (o : SeqOpts) (S : Sequence) : CM Sequence := do
  let S ← optToken W o S
  let S ← optName W o S
  let S ← optSingle W o S
  let r ← Sequence_Bind W S (eInterp o.interp)
  pure r.1

/-- build the Sequence with the translated constructor and setters, then run the translated `(*Sequence).Parse`;
    `fuel` is the fuel of the world `W` the operands are called in -/
def seqNode (W : World Context) (fuel : Nat) (ctor : CM (Option Sequence)) (o : SeqOpts)
    (leftRecCtx : IntMap) (pos : Int) : CM (CNode × IntSet × CErr) := do
  let oS ← ctor
  let S ← CorePrelude.Go.deref oS
  let S ← applyOpts W o S
  Sequence_Parse W (2 * fuel - 1) S leftRecCtx pos

/-! ### one level of the world -/

/-- the TRANSLATED closure of the combinator at the head of `g` (the node at path `π`), over the world `W` (which has
    fuel `fuel`) and the handles of its operands -/
def node (cfg : Cfg) (W : World Context) (fuel : Nat) (π : List Nat) : G → IntMap → Int → CM (CNode × IntSet × CErr)
  | .term t => Terminal_parse cfg t
  | .empty => Empty_parse W
  | .eof => End_parse W (CorePrelude.errors_New (CorePrelude.Go.str "was expecting the end of input"))
  | .ref k => W.parse (refH k)
  | .memo idx _ => Memoize_parse W (kidH π 0) (idx : Int)
  | .any gs => Any_parse W (kidsH π gs.length)
  | .choice gs => Choice_parse W (kidsH π gs.length)
  | .seq k gs o => seqNode W fuel (seqCtor W k (kidsH π gs.length)) o
  | .many _ ae o => seqNode W fuel (if ae then Many W (kidH π 0) else Many1 W (kidH π 0)) o
  | .sepBy _ _ ae o =>
    seqNode W fuel (if ae then SepBy W (kidH π 0) (kidH π 1) else SepBy1 W (kidH π 0) (kidH π 1)) o
  | .optional _ => Optional_parse W (kidH π 0)
  | .name _ nm => ReturnError_parse W (kidH π 0) (CorePrelude.NotFoundError nm)
  | .ltrim _ mode => LeftTrim_parse W (kidH π 0) (modeCode mode)
  | .rtrim _ mode => RightTrim_parse W (kidH π 0) (modeCode mode)
  | .single _ => Single_parse W (kidH π 0)
  | .suppress _ => SuppressError_parse W (kidH π 0)

/-- `p.Parse(ctx, leftRecCtx, pos)` on a handle: decode the path, find the sub-parser, run its translated closure -/
def dispatch (cfg : Cfg) (root : G) (W : World Context) (fuel : Nat) :
    Parser → IntMap → Int → CM (CNode × IntSet × CErr)
  | .nil, _, _ => CorePrelude.Go.panic
  | .mk n, m, pos =>
    match (Encodable.decode n : Option (List Nat)) with
    | none => CorePrelude.Go.panic
    | some π =>
      match resolve (table cfg root) π with
      | none => CorePrelude.Go.panic
      | some g => node cfg W fuel π g m pos

/-- **the closed world**, by recursion on the fuel -/
def gWorld (cfg : Cfg) (root : G) : Nat → World Context
  | 0 => { rdWorld cfg with parse := fun _ _ _ => CorePrelude.Go.outOfFuel }
  | fuel + 1 => { rdWorld cfg with parse := dispatch cfg root (gWorld cfg root fuel) fuel }

/-! ### the grammars covered: every `ref` names a rule of the environment -/

/-- every `ref k` inside `g` has `k < n` -/
def RefsBelow (n : Nat) (g : G) : Prop := g.All (fun x => ∀ k, x = .ref k → k < n)

/-- the root and every rule only refer to rules that exist (no nil parser variable is ever called) -/
structure Closed (cfg : Cfg) (root : G) : Prop where
  root : RefsBelow cfg.env.length root
  env : ∀ g ∈ cfg.env, RefsBelow cfg.env.length g

mutual
/-- a checker for `RefsBelow` -/
def refsBelowB (n : Nat) : G → Bool
  | .term _ => true
  | .empty => true
  | .eof => true
  | .ref k => decide (k < n)
  | .memo _ g => refsBelowB n g
  | .any gs => refsBelowAllB n gs
  | .choice gs => refsBelowAllB n gs
  | .seq _ gs _ => refsBelowAllB n gs
  | .many g _ _ => refsBelowB n g
  | .sepBy v s _ _ => refsBelowB n v && refsBelowB n s
  | .optional g => refsBelowB n g
  | .name g _ => refsBelowB n g
  | .ltrim g _ => refsBelowB n g
  | .rtrim g _ => refsBelowB n g
  | .single g => refsBelowB n g
  | .suppress g => refsBelowB n g
def refsBelowAllB (n : Nat) : List G → Bool
  | [] => true
  | g :: gs => refsBelowB n g && refsBelowAllB n gs
end

/-- the checker of `Closed` -/
def closedB (env : List G) (root : G) : Bool := refsBelowB env.length root && refsBelowAllB env.length env

end PV.CW
