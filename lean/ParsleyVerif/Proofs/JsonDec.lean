/-
  A boolean equality test on evaluator values with its soundness, so that closed examples of `evaluate` can be
  checked by kernel evaluation (`decide +kernel`): `V` is a nested inductive type and has no derived
  `DecidableEq`.
-/
import ParsleyVerif.Model.Eval
namespace PV
open PV.Text

mutual
def V.beq : V → V → Bool
  | .nil, .nil => true
  | .int a, .int b => a == b
  | .str a, .str b => a == b
  | .rune a, .rune b => a == b
  | .bool a, .bool b => a == b
  | .float a, .float b => a == b
  | .dur a, .dur b => a == b
  | .opaque a, .opaque b => a == b
  | .arr a, .arr b => V.beqList a b
  | .obj a, .obj b => V.beqPairs a b
  | _, _ => false
def V.beqList : List V → List V → Bool
  | [], [] => true
  | a :: as, b :: bs => V.beq a b && V.beqList as bs
  | _, _ => false
def V.beqPairs : List (Bytes × V) → List (Bytes × V) → Bool
  | [], [] => true
  | (k, a) :: as, (k', b) :: bs => k == k' && V.beq a b && V.beqPairs as bs
  | _, _ => false
end

mutual
theorem V.beq_sound : ∀ (a b : V), V.beq a b = true → a = b
  | .nil, b, h => by cases b <;> simp_all [V.beq]
  | .int a, b, h => by cases b <;> simp_all [V.beq]
  | .str a, b, h => by cases b <;> simp_all [V.beq]
  | .rune a, b, h => by cases b <;> simp_all [V.beq]
  | .bool a, b, h => by cases b <;> simp_all [V.beq]
  | .float a, b, h => by cases b <;> simp_all [V.beq]
  | .dur a, b, h => by cases b <;> simp_all [V.beq]
  | .opaque a, b, h => by cases b <;> simp_all [V.beq]
  | .arr a, b, h => by
    cases b with
    | arr b => simp only [V.beq] at h; rw [V.beqList_sound a b h]
    | _ => simp [V.beq] at h
  | .obj a, b, h => by
    cases b with
    | obj b => simp only [V.beq] at h; rw [V.beqPairs_sound a b h]
    | _ => simp [V.beq] at h
theorem V.beqList_sound : ∀ (a b : List V), V.beqList a b = true → a = b
  | [], b, h => by cases b <;> simp_all [V.beqList]
  | a :: as, b, h => by
    cases b with
    | nil => simp [V.beqList] at h
    | cons b bs =>
      simp only [V.beqList, Bool.and_eq_true] at h
      rw [V.beq_sound a b h.1, V.beqList_sound as bs h.2]
theorem V.beqPairs_sound : ∀ (a b : List (Bytes × V)), V.beqPairs a b = true → a = b
  | [], b, h => by cases b <;> simp_all [V.beqPairs]
  | (k, a) :: as, b, h => by
    cases b with
    | nil => simp [V.beqPairs] at h
    | cons kb bs =>
      obtain ⟨k', b⟩ := kb
      simp only [V.beqPairs, Bool.and_eq_true, beq_iff_eq] at h
      rw [h.1.1, V.beq_sound a b h.1.2, V.beqPairs_sound as bs h.2]
end

def outIsValue (o : Option EvaluateOut) (v : V) : Bool :=
  match o with | some (.value w) => V.beq w v | _ => false

theorem outIsValue_sound {o : Option EvaluateOut} {v : V} (h : outIsValue o v = true) : o = some (.value v) := by
  unfold outIsValue at h
  split at h
  · rw [V.beq_sound _ _ h]
  · cases h

def outIsError (o : Option EvaluateOut) (m : Bytes) : Bool :=
  match o with | some (.error m') => m' == m | _ => false

theorem outIsError_sound {o : Option EvaluateOut} {m : Bytes} (h : outIsError o m = true) : o = some (.error m) := by
  unfold outIsError at h
  split at h
  · simp only [beq_iff_eq] at h; rw [h]
  · cases h

end PV
