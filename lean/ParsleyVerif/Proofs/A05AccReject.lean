/-
  C05, the CONVERSE: from an accepting parse to a rendering, and a small toolkit to show that a
  CONCRETE text has no exact tree that reaches the end of the input (hence is not a rendering, hence is rejected).
-/
import ParsleyVerif.Proofs.A05AccInv
namespace PV.A05Acc
open PV PV.Text PV.A05

theorem rest_pos0 (f : File) : rest f (f.pos 0) = f.data := by
  unfold rest File.pos; simp

theorem rest_eof (f : File) (q : Nat) (he : isEOF f q = true) : rest f q = [] := by
  simp only [isEOF, ge_iff_le, decide_eq_true_eq] at he
  unfold rest
  unfold File.len at *
  exact List.drop_eq_nil_of_le (by omega)

/-- **tree ⟹ input**: an exact expression tree from the first byte to the end of the file makes the file an
    `Input` — `ws0 ++ e.render` for a well-formed `e` — and the tree is the tree of `e` -/
theorem input_of_tree (cfg : Cfg) (henv : cfg.env = Garith.env) (hoff : 1 ≤ cfg.file.offset) (y : Node)
    (hT : T cfg.params cfg.file 0 (cfg.file.pos 0) y) (heof : isEOF cfg.file y.rpos = true) :
    ∃ ws0 e, Input cfg ws0 e ∧ y = e.tree (start cfg ws0) := by
  have hq := pos0_inFile cfg.file
  obtain ⟨e, hwf, hr, hy, _⟩ := T_toCst hoff hT hq
  have hsplit := rest_split hoff _ hq
  rw [rest_pos0, hr, rest_eof _ _ heof, List.append_nil] at hsplit
  refine ⟨wsAt cfg.file (cfg.file.pos 0), e, ⟨henv, hoff, hsplit, wsAt_ok _ _, hwf⟩, ?_⟩
  rw [hy, sk_len hoff _ hq]
  rfl

theorem tree_of_accept (cfg : Cfg) (henv : cfg.env = Garith.env) (fuel : Nat) (p : ParseOut)
    (h : parse cfg fuel Garith.root = some p) (herr : p.err = none) :
    ∃ y, T cfg.params cfg.file 0 (cfg.file.pos 0) y ∧ isEOF cfg.file y.rpos = true ∧
      p.res = .one (sentenceNode y) := by
  obtain ⟨o, st1, hr, hiff, hres⟩ := S04.parse_cases cfg fuel _ p h
  rw [hres herr]
  rcases sentence_res_one cfg fuel (.ref 0) [] _ {} o st1 hr with hnil | ⟨x, hx⟩
  · rw [hnil] at hiff; cases (hiff.mp herr).1
  · obtain ⟨y, hy, he, rfl⟩ := c05_returned_exact cfg henv fuel o st1 hr x (by rw [hx]; simp [Res.alts])
    exact ⟨y, hy, he, hx⟩

theorem rendering_of_input {cfg : Cfg} {ws0 : Bytes} {e : Cst} (hin : Input cfg ws0 e) :
    ∃ (pe : PExpr) (ws : Nat → Bytes), pe.WF 0 ∧ Admissible ws ∧ cfg.file.data = render pe ws ∧
      ws 0 = ws0 ∧ (pe.layout ws 1).1 = e := by
  obtain ⟨pe, ws, h1, h2, h3, h4, h5⟩ := render_of_cst ws0 e hin.ws0 hin.wf
  exact ⟨pe, ws, h1, h2, by rw [hin.data, h5], h3, h4⟩

theorem input_of_rendering (cfg : Cfg) (henv : cfg.env = Garith.env) (hoff : 1 ≤ cfg.file.offset)
    (e : PExpr) (ws : Nat → Bytes) (he : e.WF 0) (hws : Admissible ws) (hd : cfg.file.data = render e ws) :
    Input cfg (ws 0) (e.layout ws 1).1 :=
  ⟨henv, hoff, hd, hws 0, e.layout_WF ws hws 0 1 he⟩

section
variable {P : Params} {f : File} (hoff : 1 ≤ f.offset)
include hoff

omit hoff in
theorem T_none {q : Nat} (hq : InFile f q)
    (hint : ∀ n, Terminal.parse P f .integer (sk f q) ≠ .node n)
    (hpar : ∀ lp e rp, RuneAtQ P f 40 q lp → T P f 0 lp.rpos e → RuneAtQ P f 41 e.rpos rp → False) :
    ∀ k x, ¬ T P f k q x := by
  intro k x h
  revert hq hint hpar
  induction h with
  | lit h =>
    intro _ hint _
    obtain ⟨n, hn, _⟩ := h
    exact hint n hn
  | paren h1 h2 h3 _ =>
    intro _ _ hpar
    exact hpar _ _ _ h1 h2 h3
  | bin _ _ _ _ _ ih1 _ =>
    intro hq hint hpar
    exact ih1 hq hint hpar

theorem no_paren {q : Nat} (hq : InFile f q) (hh : (rest f (sk f q)).head? ≠ some 40) :
    ∀ lp e rp, RuneAtQ P f 40 q lp → T P f 0 lp.rpos e → RuneAtQ P f 41 e.rpos rp → False := by
  intro lp e rp h1 _ _
  exact hh (h1.form hoff hq (by omega)).1

theorem T_only_lit {q : Nat} {x0 : Node} (hq : InFile f q) (h0 : LitAt P f q x0)
    (hop : ∀ j op r, OpAt P f j x0.rpos op → T P f (j + 1) op.rpos r → False) :
    ∀ k x, T P f k q x → x = x0 := by
  intro k x h
  revert hq h0 hop
  induction h with
  | lit h => intro _ h0 _; exact h.det h0
  | paren h1 _ _ _ => intro hq h0 _; exact (h0.not_rune hoff h1 hq (.inl rfl)).elim
  | bin _ _ _ h2 h3 ih1 _ =>
    intro hq h0 hop
    have := ih1 hq h0 hop
    subst this
    exact (hop _ _ _ h2 h3).elim

theorem OpAt.concrete {j q : Nat} {op : Node} (h : OpAt P f j q op) (hq : InFile f q) :
    ∃ c o, Op.ofRune c = some o ∧ (rest f (sk f q)).head? = some c ∧ op.rpos = sk f (sk f q + 1) := by
  obtain ⟨c, o, hco, _, hr⟩ := h
  obtain ⟨hh, rfl⟩ := hr.form hoff hq (ofRune_ascii hco)
  exact ⟨c, o, hco, hh, rfl⟩

theorem RuneAtQ.concrete {c q : Nat} {x : Node} (h : RuneAtQ P f c q x) (hq : InFile f q) (hc : c < 0x80) :
    (rest f (sk f q)).head? = some c ∧ x.rpos = sk f (sk f q + 1) := by
  obtain ⟨hh, rfl⟩ := h.form hoff hq hc
  exact ⟨hh, rfl⟩

/-- no operator follows the literal -/
theorem T_only_lit_noop {q : Nat} {x0 : Node} (hq : InFile f q) (h0 : LitAt P f q x0) (hq1 : InFile f x0.rpos)
    (hno : (rest f (sk f x0.rpos)).head?.bind Op.ofRune = none) : ∀ k x, T P f k q x → x = x0 :=
  T_only_lit hoff hq h0 (fun j op r hop _ => by
    obtain ⟨c, o, hco, hh, _⟩ := OpAt.concrete hoff hop hq1
    rw [hh, Option.bind_some, hco] at hno
    cases hno)

/-- an operator may follow, but no operand after it -/
theorem T_only_lit_op {q q2 : Nat} {x0 : Node} (hq : InFile f q) (h0 : LitAt P f q x0) (hq1 : InFile f x0.rpos)
    (e2 : sk f (sk f x0.rpos + 1) = q2) (hq2 : InFile f q2)
    (hint : ∀ n, Terminal.parse P f .integer (sk f q2) ≠ .node n) (hpar : (rest f (sk f q2)).head? ≠ some 40) :
    ∀ k x, T P f k q x → x = x0 :=
  T_only_lit hoff hq h0 (fun j op r hop hr => by
    obtain ⟨c, o, _, _, hr'⟩ := OpAt.concrete hoff hop hq1
    rw [hr', e2] at hr
    exact T_none hq2 hint (no_paren hoff hq2 hpar) _ _ hr)

end

end PV.A05Acc
