import ParsleyVerif.Spec.ReaderSpec
import ParsleyVerif.Proofs.Utf8
namespace PV.Text

/-! Every primitive computes the cursor `pos - f.offset` and guards on it.  What the cursor and those
    guards are in terms of `rest f pos` is said here once; each primitive's proof rewrites with it
    and is left with a case analysis on the specification's own condition. -/

/-- the shape every match-or-stay answer takes: the model decides by `c`, the specification by `c'` -/
theorem ite_some_congr {α : Type} {c c' : Prop} [Decidable c] [Decidable c'] (h : c ↔ c') (a b : α) :
    (if c then some a else some b) = some (if c' then a else b) := by
  rw [apply_ite some]
  exact ite_congr (propext h) (fun _ => rfl) (fun _ => rfl)

theorem drop_cursor (f : File) (pos : Nat) : f.data.drop (pos - f.offset) = rest f pos := rfl

theorem rest_getElem? (f : File) (pos k : Nat) : (rest f pos)[k]? = f.data[pos - f.offset + k]? :=
  List.getElem?_drop

theorem rest_head (f : File) (pos : Nat) : (rest f pos).head? = f.data[pos - f.offset]? :=
  List.head?_drop

theorem length_rest (f : File) (pos : Nat) : f.data.length - (pos - f.offset) = (rest f pos).length :=
  List.length_drop.symm

theorem eof_iff (f : File) (pos : Nat) : pos - f.offset ≥ f.len ↔ rest f pos = [] :=
  List.drop_eq_nil_iff.symm

theorem cursor_not_lt {f : File} {pos : Nat} (h : InFile f pos) : ¬ pos < f.offset := Nat.not_lt.2 h.1

theorem cursor_pos {f : File} {pos : Nat} (h : InFile f pos) (k : Nat) : f.pos (pos - f.offset + k) = pos + k := by
  rw [File.pos, ← Nat.add_assoc, Nat.add_sub_cancel' h.1]

theorem cursor_len {f : File} {pos : Nat} (h : InFile f pos) :
    f.data.length = pos - f.offset + (rest f pos).length := by
  rw [← length_rest]
  exact (Nat.add_sub_cancel' (Nat.sub_le_iff_le_add'.2 h.2)).symm

theorem cursor_overrun {f : File} {pos : Nat} (h : InFile f pos) (n : Nat) :
    pos - f.offset + n > f.data.length ↔ n > (rest f pos).length := by
  rw [cursor_len h]
  exact Nat.add_lt_add_iff_left

theorem cursor_overrun' {f : File} {pos : Nat} (h : InFile f pos) (n : Nat) :
    n + (pos - f.offset) > f.data.length ↔ n > (rest f pos).length := by
  rw [Nat.add_comm]
  exact cursor_overrun h n

theorem pos0_inFile (f : File) : InFile f (f.pos 0) := by
  unfold InFile File.pos; omega

theorem inFile_advance {f : File} {pos n : Nat} (h : InFile f pos) (hn : n ≤ (rest f pos).length) :
    InFile f (pos + n) := by
  refine ⟨Nat.le_trans h.1 (Nat.le_add_right _ _), ?_⟩
  rw [← cursor_pos h, File.pos, File.len, cursor_len h]
  exact Nat.add_le_add_left (Nat.add_le_add_left hn _) _

theorem rest_advance {f : File} {pos : Nat} (h : InFile f pos) (k : Nat) : rest f (pos + k) = (rest f pos).drop k := by
  rw [rest, rest, List.drop_drop, Nat.add_comm pos k, Nat.add_sub_assoc h.1, Nat.add_comm]

theorem rest_length (f : File) (pos : Nat) (h : InFile f pos) : (rest f pos).length = f.offset + f.len - pos := by
  obtain ⟨c, rfl⟩ := Nat.exists_eq_add_of_le h.1
  rw [← length_rest, Nat.add_sub_cancel_left, Nat.add_sub_add_left]
  rfl

theorem cursor_fits {f : File} {pos k : Nat} (h : ¬ pos < f.offset) (hk : pos - f.offset + k ≤ f.data.length) :
    f.pos (pos - f.offset + k) = pos + k ∧ pos + k ≤ f.offset + f.len := by
  unfold File.pos File.len
  omega

/-! The shapes an answer can have, for every file, position and argument: a panic, "no" at the position asked about, or
    "yes" further on and inside the file (positions, not cursors into the data).  Which of them it is on the domain is said by the `_spec` lemmas below. -/

theorem readRune_cases (f : File) (p ch : Nat) :
    readRune f p ch = none ∨ readRune f p ch = some (p, false) ∨
      ∃ w, readRune f p ch = some (p + w, true) ∧ 0 < w ∧ p + w ≤ f.offset + f.len := by
  unfold readRune
  by_cases hp : p < f.offset
  · exact Or.inl (if_pos hp)
  rw [if_neg hp]
  dsimp only
  by_cases hl : p - f.offset ≥ f.len
  · exact Or.inr (Or.inl (if_pos hl))
  rw [if_neg hl]
  have hlt : p - f.offset < f.data.length := Nat.not_le.1 hl
  split
  · rw [List.getElem?_eq_getElem hlt]
    dsimp only
    split
    · exact Or.inr (Or.inr ⟨1, by rw [(cursor_fits hp hlt).1], Nat.one_pos, (cursor_fits hp hlt).2⟩)
    · exact Or.inr (Or.inl rfl)
  · have hw := Utf8.decodeRune_width _ (mt List.drop_eq_nil_iff.1 (Nat.not_le.2 hlt))
    rw [List.length_drop] at hw
    split
    · have c := cursor_fits hp (k := (Utf8.decodeRune (f.data.drop (p - f.offset))).2) (by omega)
      exact Or.inr (Or.inr ⟨_, by rw [c.1], hw.1, c.2⟩)
    · exact Or.inr (Or.inl rfl)

/-- the operator of a "yes" is not empty: the empty one is the documented panic -/
theorem matchString_cases (f : File) (p : Nat) (s : Bytes) :
    matchString f p s = none ∨ matchString f p s = some (p, false) ∨
      (matchString f p s = some (p + s.length, true) ∧ s ≠ [] ∧ p + s.length ≤ f.offset + f.len) := by
  unfold matchString
  by_cases hs : s = []
  · exact Or.inl (if_pos hs)
  by_cases hp : p < f.offset
  · exact Or.inl (by rw [if_neg hs, if_pos hp])
  rw [if_neg hs, if_neg hp]
  dsimp only
  by_cases hl : s.length + (p - f.offset) > f.data.length
  · exact Or.inr (Or.inl (if_pos hl))
  rw [if_neg hl]
  split
  · have c := cursor_fits hp (k := s.length) (by omega)
    exact Or.inr (Or.inr ⟨by rw [c.1], hs, c.2⟩)
  · exact Or.inr (Or.inl rfl)

/-- no hypothesis on the word: on a non-ASCII byte the comparison loop panics, and "yes" is only ever answered with the
    position after the word -/
theorem matchWord_cases (f : File) (p : Nat) (w : Bytes) :
    matchWord f p w = none ∨ matchWord f p w = some (p, false) ∨
      (matchWord f p w = some (p + w.length, true) ∧ w ≠ [] ∧ p + w.length ≤ f.offset + f.len) := by
  unfold matchWord
  by_cases hs : w = []
  · exact Or.inl (if_pos hs)
  by_cases hp : p < f.offset
  · exact Or.inl (by rw [if_neg hs, if_pos hp])
  rw [if_neg hs, if_neg hp]
  dsimp only
  by_cases hl : w.length + (p - f.offset) > f.data.length
  · exact Or.inr (Or.inl (if_pos hl))
  rw [if_neg hl]
  have c := cursor_fits hp (k := w.length) (by omega)
  rcases matchWordLoop f.data (p - f.offset) w 0 with _ | _ | _
  · exact Or.inl rfl
  · exact Or.inr (Or.inl rfl)
  · dsimp only
    split
    · exact Or.inr (Or.inr ⟨by rw [c.1], hs, c.2⟩)
    · split
      · exact Or.inl rfl
      · split
        · exact Or.inr (Or.inr ⟨by rw [c.1], hs, c.2⟩)
        · exact Or.inr (Or.inl rfl)

/-- a match is reported for what the engine answered on a non-empty rest; an engine that reports a length beyond the
    input is the slice-bounds panic -/
theorem readRegexp_cases (e : Bytes → Option Nat) (f : File) (p : Nat) :
    readRegexp e f p = none ∨ readRegexp e f p = some (p, none) ∨
      ∃ m, e (rest f p) = some m ∧ rest f p ≠ [] ∧ readRegexp e f p = some (p + m, some ((rest f p).take m)) ∧
        p + m ≤ f.offset + f.len := by
  unfold readRegexp
  by_cases hp : p < f.offset
  · exact Or.inl (if_pos hp)
  rw [if_neg hp]
  dsimp only
  by_cases hl : p - f.offset ≥ f.len
  · exact Or.inr (Or.inl (if_pos hl))
  rw [if_neg hl, drop_cursor]
  cases he : e (rest f p) with
  | none => exact Or.inr (Or.inl rfl)
  | some m =>
    dsimp only
    split
    · exact Or.inl rfl
    · have c := cursor_fits hp (k := m) (by omega)
      exact Or.inr (Or.inr ⟨m, rfl, mt (eof_iff f p).2 hl, by rw [c.1], c.2⟩)

theorem readf_cases (fn : Bytes → Option Bytes × Nat) (f : File) (p : Nat) :
    readf fn f p = none ∨ readf fn f p = some (p, none) ∨
      ∃ n v, readf fn f p = some (p + n, v) ∧ p + n ≤ f.offset + f.len := by
  unfold readf
  by_cases hp : p < f.offset
  · exact Or.inl (if_pos hp)
  rw [if_neg hp]
  dsimp only
  by_cases hl : p - f.offset ≥ f.len
  · exact Or.inr (Or.inl (if_pos hl))
  rw [if_neg hl]
  split
  · split
    · exact Or.inl rfl
    · exact Or.inr (Or.inl rfl)
  · split
    · exact Or.inl rfl
    · rename_i hn
      have c := cursor_fits hp (Nat.not_lt.1 (not_or.1 hn).2)
      exact Or.inr (Or.inr ⟨_, _, by rw [c.1], c.2⟩)

theorem readRune_stay {f : File} {p ch q : Nat} (h : readRune f p ch = some (q, false)) : q = p := by
  rcases readRune_cases f p ch with e | e | ⟨w, e, _⟩ <;> rw [e] at h <;> cases h
  rfl

theorem matchWord_stay {f : File} {p q : Nat} {w : Bytes} (h : matchWord f p w = some (q, false)) : q = p := by
  rcases matchWord_cases f p w with e | e | ⟨e, _⟩ <;> rw [e] at h <;> cases h
  rfl

theorem readRune_ascii (f : File) (pos ch : Nat) (h : InFile f pos) (hc : ch < 0x80) :
    readRune f pos ch = some (if (rest f pos).head? = some ch then (pos + 1, true) else (pos, false)) := by
  rw [readRune, if_neg (cursor_not_lt h)]
  dsimp only
  rw [if_pos hc, ← rest_head, cursor_pos h]
  by_cases hnil : rest f pos = []
  · rw [if_pos ((eof_iff f pos).2 hnil), hnil]
    rfl
  · rw [if_neg (mt (eof_iff f pos).1 hnil)]
    obtain ⟨b, l, hl⟩ := List.exists_cons_of_ne_nil hnil
    rw [hl, List.head?_cons]
    exact ite_some_congr ⟨fun he => congrArg some he.symm, fun hb => (Option.some.inj hb).symm⟩ _ _

theorem readRune_multibyte (f : File) (pos ch : Nat) (h : InFile f pos) (hc : ¬ ch < 0x80) :
    readRune f pos ch = some (if rest f pos ≠ [] ∧ (Utf8.decodeRune (rest f pos)).1 = ch
      then (pos + (Utf8.decodeRune (rest f pos)).2, true) else (pos, false)) := by
  rw [readRune, if_neg (cursor_not_lt h)]
  dsimp only
  rw [if_neg hc, drop_cursor, cursor_pos h]
  by_cases hnil : rest f pos = []
  · rw [if_pos ((eof_iff f pos).2 hnil), if_neg (fun hh => hh.1 hnil)]
  · rw [if_neg (mt (eof_iff f pos).1 hnil)]
    exact ite_some_congr ⟨fun he => ⟨hnil, he⟩, fun hh => hh.2⟩ _ _

theorem matchString_spec (f : File) (pos : Nat) (s : Bytes) (h : InFile f pos) (hs : s ≠ []) :
    matchString f pos s = some (if s <+: rest f pos then (pos + s.length, true) else (pos, false)) := by
  rw [matchString, if_neg hs, if_neg (cursor_not_lt h)]
  dsimp only
  rw [drop_cursor, cursor_pos h]
  by_cases hp : s <+: rest f pos
  · rw [if_pos hp, if_neg (mt (cursor_overrun' h _).1 (Nat.not_lt.2 hp.length_le)), if_pos (List.isPrefixOf_iff_prefix.2 hp)]
  · rw [if_neg hp, if_neg (mt List.isPrefixOf_iff_prefix.1 hp)]
    exact ite_self _

theorem matchWordLoop_spec (data : Bytes) (cur : Nat) : ∀ (w : Bytes) (i : Nat),
    (∀ b ∈ w, b < 0x80) → w.length ≤ (data.drop (cur + i)).length →
    matchWordLoop data cur w i = some (w.isPrefixOf (data.drop (cur + i))) := by
  intro w
  induction w with
  | nil => intro i _ _; rfl
  | cons b r ih =>
    intro i ha hl
    have hlt : cur + i < data.length :=
      Nat.lt_of_sub_pos (List.length_drop ▸ Nat.lt_of_lt_of_le (Nat.succ_pos _) hl)
    rw [List.drop_eq_getElem_cons hlt] at hl ⊢
    rw [matchWordLoop, if_neg (Nat.not_le.2 (ha b List.mem_cons_self)), List.getElem?_eq_getElem hlt,
      List.isPrefixOf_cons₂]
    dsimp only
    by_cases he : b = data[cur + i]
    · rw [if_neg (fun hne => hne he), ih (i + 1) (fun x hx => ha x (List.mem_cons_of_mem _ hx)) (Nat.le_of_succ_le_succ hl),
        beq_iff_eq.2 he]
      rfl
    · rw [if_pos he, beq_eq_false_iff_ne.2 he]
      rfl

theorem matchWord_spec (f : File) (pos : Nat) (w : Bytes) (h : InFile f pos) (hw : w ≠ [])
    (ha : ∀ b ∈ w, b < 0x80) :
    matchWord f pos w = some (if w <+: rest f pos ∧ ((rest f pos).drop w.length).head?.all (fun d => !isWordByte d)
      then (pos + w.length, true) else (pos, false)) := by
  rw [matchWord, if_neg hw, if_neg (cursor_not_lt h)]
  dsimp only
  by_cases hfit : w.length ≤ (rest f pos).length
  · rw [if_neg (mt (cursor_overrun' h _).1 (Nat.not_lt.2 hfit)), matchWordLoop_spec f.data (pos - f.offset) w 0 ha hfit, Nat.add_zero,
      drop_cursor]
    by_cases hp : w <+: rest f pos
    · rw [List.isPrefixOf_iff_prefix.2 hp, List.head?_drop, ← rest_getElem?, cursor_pos h, length_rest]
      dsimp only
      cases ho : (rest f pos)[w.length]? with
      | none => rw [if_pos (Nat.sub_eq_zero_of_le (List.getElem?_eq_none_iff.1 ho)), if_pos ⟨hp, rfl⟩]
      | some d =>
        rw [if_neg (Nat.sub_ne_zero_of_lt (List.getElem?_eq_some_iff.1 ho).1)]
        exact ite_some_congr ⟨fun hd => ⟨hp, hd⟩, fun hh => hh.2⟩ _ _
    · rw [Bool.eq_false_iff.2 (mt List.isPrefixOf_iff_prefix.1 hp)]
      dsimp only
      rw [if_neg (fun hh => hp hh.1)]
  · rw [if_pos ((cursor_overrun' h _).2 (Nat.not_le.1 hfit)), if_neg (fun hh => hfit hh.1.length_le)]

theorem readRegexp_spec (engine : Bytes → Option Nat) (f : File) (pos : Nat) (h : InFile f pos)
    (hc : ∀ r m, engine r = some m → m ≤ r.length) :
    readRegexp engine f pos = some (
      if rest f pos = [] then (pos, none) else
      match engine (rest f pos) with
      | none => (pos, none)
      | some m => (pos + m, some ((rest f pos).take m))) := by
  rw [readRegexp, if_neg (cursor_not_lt h)]
  dsimp only
  rw [drop_cursor, apply_ite some]
  refine ite_congr (propext (eof_iff f pos)) (fun _ => rfl) (fun _ => ?_)
  cases he : engine (rest f pos) with
  | none => rfl
  | some m =>
    dsimp only
    rw [if_neg (mt (cursor_overrun h m).1 (Nat.not_lt.2 (hc _ m he))), cursor_pos h]

theorem readf_spec (fn : Bytes → Option Bytes × Nat) (f : File) (pos : Nat) (h : InFile f pos) :
    readf fn f pos =
      if rest f pos = [] then some (pos, none) else
      if (fn (rest f pos)).2 = 0 then (if (fn (rest f pos)).1.isSome then none else some (pos, none))
      else if (fn (rest f pos)).2 < ((fn (rest f pos)).1.getD []).length ∨ (fn (rest f pos)).2 > (rest f pos).length then none
      else some (pos + (fn (rest f pos)).2, (fn (rest f pos)).1) := by
  rw [readf, if_neg (cursor_not_lt h)]
  dsimp only
  rw [drop_cursor, cursor_pos h]
  refine ite_congr (propext (eof_iff f pos)) (fun _ => rfl) (fun _ => ?_)
  refine ite_congr rfl (fun _ => rfl) (fun _ => ?_)
  exact ite_congr (propext (or_congr Iff.rfl (cursor_overrun h _))) (fun _ => rfl) (fun _ => rfl)

theorem remaining_spec (f : File) (pos : Nat) (h : InFile f pos) : remaining f pos = (rest f pos).length :=
  length_rest f pos

theorem isEOF_spec (f : File) (pos : Nat) (h : InFile f pos) : isEOF f pos = true ↔ rest f pos = [] :=
  decide_eq_true_iff.trans (eof_iff f pos)

theorem isWs_iff (b : Nat) : isWs b = true ↔ b = 32 ∨ b = 9 ∨ b = 10 ∨ b = 12 := by
  simp [isWs, Facts.wsBytes]

theorem isWs_eq_false_iff (b : Nat) : isWs b = false ↔ b ≠ 32 ∧ b ≠ 9 ∧ b ≠ 10 ∧ b ≠ 12 := by
  rw [← Bool.not_eq_true, isWs_iff]; omega

theorem isBreak_iff (b : Nat) : isBreak b = true ↔ b = 10 ∨ b = 12 := by
  simp [isBreak, Facts.wsBreakBytes]

theorem wsRun_cons (b : Nat) (r : Bytes) : wsRun (b :: r) = if isWs b then wsRun r + 1 else 0 := by
  rw [wsRun, List.takeWhile_cons]
  cases isWs b <;> rfl

theorem wsRun_le (l : Bytes) : wsRun l ≤ l.length :=
  (List.takeWhile_sublist isWs).length_le

theorem skipLoop_fst (f : File) : ∀ (l : Bytes) (cur nl : Nat), (skipLoop f l cur nl).1 = cur + wsRun l
  | [], cur, nl => by simp [skipLoop, wsRun]
  | b :: r, cur, nl => by
    unfold skipLoop
    by_cases hw : isWs b = true
    · rw [if_pos hw, skipLoop_fst f r]
      rw [wsRun_cons, if_pos hw]
      omega
    · rw [if_neg hw, wsRun_cons, if_neg hw]; rfl

theorem skipWs_fst (f : File) (pos : Nat) (m : WsMode) :
    (skipWhitespaces f pos m).1 = f.pos ((pos - f.offset) + wsRun (rest f pos)) := by
  have h := skipLoop_fst f (f.data.drop (pos - f.offset)) (pos - f.offset) 0
  have hr : List.drop (pos - f.offset) f.data = rest f pos := rfl
  rw [hr] at h
  unfold skipWhitespaces
  simp only [hr]
  split
  · simp only [h]
  · split
    · simp only [h]
    · split <;> simp only [h]

theorem skipWs_bounds (f : File) (pos : Nat) (m : WsMode) (h : InFile f pos) :
    pos ≤ (skipWhitespaces f pos m).1 ∧ (skipWhitespaces f pos m).1 ≤ f.offset + f.len := by
  rw [skipWs_fst]
  have h1 := wsRun_le (rest f pos)
  have h2 := rest_length f pos h
  obtain ⟨h3, h4⟩ := h
  unfold File.pos
  omega

/-- the loop skips the run; its sentinel keeps a break recorded before, else takes the first break of the run (the
    position of a break is not 0, the "none yet" value, because the base offset is at least 1) -/
theorem skipLoop_eq (f : File) (hoff : 1 ≤ f.offset) : ∀ (l : Bytes) (cur nl : Nat),
    skipLoop f l cur nl = (cur + wsRun l,
      if nl = 0 then (match firstBreak l with | some i => f.pos (cur + i) | none => 0) else nl) := by
  intro l
  induction l with
  | nil => intro cur nl; by_cases h : nl = 0 <;> simp [skipLoop, wsRun, firstBreak, h]
  | cons b r ih =>
    intro cur nl
    rw [skipLoop, wsRun_cons, firstBreak]
    by_cases hw : isWs b = true
    · rw [if_pos hw, if_pos hw, if_pos hw]
      by_cases hnl : nl = 0
      · subst hnl
        by_cases hb : isBreak b = true
        · have hp : f.pos cur ≠ 0 := Nat.ne_of_gt (Nat.lt_of_lt_of_le hoff (Nat.le_add_right _ _))
          rw [if_pos ⟨hb, rfl⟩, ih, if_neg hp, if_pos rfl, if_pos hb, Nat.add_right_comm]
          rfl
        · rw [if_neg (fun hh => hb hh.1), ih, if_pos rfl, if_pos rfl, if_neg hb, Nat.add_right_comm]
          cases firstBreak r with
          | none => rfl
          | some i => exact congrArg _ (congrArg f.pos (Nat.add_right_comm cur 1 i))
      · rw [if_neg (fun hh => hnl hh.2), ih, if_neg hnl, if_neg hnl, Nat.add_right_comm]; rfl
    · rw [if_neg hw, if_neg hw, if_neg hw]
      by_cases h : nl = 0 <;> simp [h]

theorem skipWhitespaces_spec (f : File) (pos : Nat) (m : WsMode) (h : InFile f pos) (hoff : 1 ≤ f.offset) :
    skipWhitespaces f pos m = (pos + wsRun (rest f pos), wsVerdict m pos (rest f pos)) := by
  rw [skipWhitespaces]
  dsimp only
  rw [drop_cursor, skipLoop_eq f hoff, if_pos rfl]
  have hp (i : Nat) : 0 < pos + i := Nat.lt_of_lt_of_le hoff (Nat.le_trans h.1 (Nat.le_add_right _ _))
  cases m <;> simp only [wsVerdict, reduceCtorEq, false_and, true_and, if_false, cursor_pos h]
  · rw [apply_ite (Prod.mk _)]
    exact ite_congr (propext Nat.lt_add_right_iff_pos) (fun _ => rfl) (fun _ => rfl)
  · cases firstBreak (rest f pos) with
    | none => rfl
    | some i => exact if_pos (hp i)
  · cases firstBreak (rest f pos) with
    | none => rfl
    | some i => exact if_neg (Nat.ne_of_gt (hp i))

theorem firstBreak_eq_none_iff {w : Bytes} (hw : ∀ b ∈ w, isWs b = true) :
    firstBreak w = none ↔ ∀ b ∈ w, isBreak b = false := by
  induction w with
  | nil => exact ⟨fun _ _ h => (nomatch h), fun _ => rfl⟩
  | cons c r ih =>
    have ih := ih fun x hx => hw x (List.mem_cons_of_mem _ hx)
    rw [firstBreak, if_pos (hw c List.mem_cons_self), List.forall_mem_cons]
    cases isBreak c
    · rw [if_neg Bool.false_ne_true, Option.map_eq_none_iff, ih]
      exact ⟨fun h => ⟨rfl, h⟩, fun h => h.2⟩
    · rw [if_pos rfl]
      exact ⟨nofun, fun h => (nomatch h.1)⟩

theorem drop_length_takeWhile {α : Type} (p : α → Bool) (l : List α) :
    l.drop (l.takeWhile p).length = l.dropWhile p := by
  conv => lhs; arg 2; rw [← List.takeWhile_append_dropWhile (p := p) (l := l)]
  exact List.drop_left

theorem length_takeWhile_append {α : Type} (p : α → Bool) (a l : List α) (ha : ∀ b ∈ a, p b = true)
    (hl : ∀ b, l.head? = some b → p b = false) : ((a ++ l).takeWhile p).length = a.length := by
  rw [List.takeWhile_append_of_pos ha]
  cases l with
  | nil => simp
  | cons b r => rw [List.takeWhile_cons_of_neg (by simp [hl b rfl]), List.append_nil]

theorem wsRun_append (ws l : Bytes) (hws : ∀ b ∈ ws, isWs b = true)
    (hl : ∀ b, l.head? = some b → isWs b = false) : wsRun (ws ++ l) = ws.length :=
  length_takeWhile_append isWs ws l hws hl

end PV.Text
