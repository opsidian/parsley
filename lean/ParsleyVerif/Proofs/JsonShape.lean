/-
  C16, tree shape: every derivation of the JSON grammar's `value` rule is a JSON tree.  One finite check of the
  rule body on abstract derivations (Proofs/ArithAbs.lean).
-/
import ParsleyVerif.Proofs.ArithShape
import ParsleyVerif.Spec.JsonSem
namespace PV
open PV.Text

theorem string_parse_leaf {P : Params} {f : File} {bq : Bool} {pos : Nat} {x : Node}
    (h : Terminal.parse P f (.string bq) pos = .node x) : ∃ tok s p r, x = .term tok (.str s) p r := by
  simp only [Terminal.parse] at h
  split at h
  · cases h
  · simp [nf] at h
  · split at h
    · cases h
    · cases h; exact ⟨_, _, _, _, rfl⟩
    · split at h
      · cases h
      · split at h
        · cases h
        · cases h
        · cases h; exact ⟨_, _, _, _, rfl⟩

theorem float_parse_leaf {P : Params} {f : File} {pos : Nat} {x : Node}
    (h : Terminal.parse P f .float pos = .node x) : ∃ tok l p r, x = .term tok (.float l) p r := by
  simp only [Terminal.parse] at h
  split at h
  · cases h
  · split at h
    · cases h; exact ⟨_, _, _, _, rfl⟩
    · simp [other] at h
  · simp [nf] at h

theorem bool_parse_leaf {P : Params} {f : File} {t e : Bytes} {pos : Nat} {x : Node}
    (h : Terminal.parse P f (.bool t e) pos = .node x) : ∃ tok b p r, x = .term tok (.bool b) p r := by
  simp only [Terminal.parse] at h
  split at h
  · cases h
  · cases h; exact ⟨_, _, _, _, rfl⟩
  · split at h
    · cases h
    · cases h; exact ⟨_, _, _, _, rfl⟩
    · simp [nf] at h

theorem nil_parse_leaf {P : Params} {f : File} {s : Bytes} {pos : Nat} {x : Node}
    (h : Terminal.parse P f (.nil s) pos = .node x) : ∃ tok p r, x = .term tok .nil p r := by
  simp only [Terminal.parse] at h
  split at h
  · cases h
  · cases h; exact ⟨_, _, _, rfl⟩
  · simp [nf] at h

variable {cfg : Cfg} {R : Nat → Nat → Node → Prop}

def jsonR (f : File) : Nat → Nat → Node → Prop
  | 0, _, x => IsJsonTree f x
  | _, _, _ => True

theorem rune_leaf_of_term {c pos x} (h : DerivesR cfg R (Gjson.rn c) pos x) : IsRuneLeaf cfg.file c x :=
  rune_parse_leaf h.term_inv

theorem comma_leaf {pos x} (h : DerivesR cfg R Gjson.comma pos x) : IsRuneLeaf cfg.file 44 x :=
  rune_leaf_of_term h.ltrim_inv

theorem json_closed (cfg : Cfg) (henv : cfg.env = Gjson.env) : ClosedR cfg (jsonR cfg.file) := by
  intro k g pos x hk h
  rw [henv] at hk
  match k, hk with
  | 0, hk =>
    simp only [Gjson.env, List.getElem?_cons_zero, Option.some.injEq] at hk
    subst hk
    obtain ⟨g, hm, dg⟩ := h.name_inv.choice_inv
    simp only [Gjson.alts, List.mem_cons, List.not_mem_nil, or_false] at hm
    rcases hm with rfl | rfl | rfl | rfl | rfl | rfl | rfl
    · obtain ⟨tok, s, p, r, rfl⟩ := string_parse_leaf dg.term_inv
      exact .str
    · obtain ⟨tok, s, p, r, rfl⟩ := float_parse_leaf dg.term_inv
      exact .float
    · obtain ⟨tok, s, p, r, rfl⟩ := integer_parse_leaf dg.term_inv
      exact .int
    · -- array
      obtain ⟨x1, x2, x3, d1, d2, d3, rfl⟩ := dg.seqOf3_inv
      obtain ⟨nodes, p, q, rfl, hlen, hev, hodd⟩ := DerivesR.sepBy_inv rfl d2
      refine .arr (rune_leaf_of_term d1) (rune_leaf_of_term d3.ltrim_inv) hlen ?_ ?_
      · intro i n hn hi
        obtain ⟨p', dn⟩ := hodd i n hn hi
        exact comma_leaf dn
      · intro i n hn hi
        obtain ⟨p', dn⟩ := hev i n hn hi
        exact dn.ltrim_inv.ref_inv
    · -- object
      obtain ⟨x1, x2, x3, d1, d2, d3, rfl⟩ := dg.seqOf3_inv
      obtain ⟨nodes, p, q, rfl, hlen, hev, hodd⟩ := DerivesR.sepBy_inv rfl d2
      have hkv : ∀ i n, nodes[i]? = some n → i % 2 = 0 →
          ∃ tok k kp kr colon v, n = .nt seqTok [.term tok (.str k) kp kr, colon, v] kp v.rpos .none ∧
            IsRuneLeaf cfg.file 58 colon ∧ IsJsonTree cfg.file v := by
        intro i n hn hi
        obtain ⟨p', dn⟩ := hev i n hn hi
        obtain ⟨y1, y2, y3, e1, e2, e3, rfl⟩ := dn.ltrim_inv.seqOf3_inv
        obtain ⟨tok, s, kp, kr, rfl⟩ := string_parse_leaf e1.term_inv
        exact ⟨tok, s, kp, kr, y2, y3, rfl, rune_leaf_of_term e2.ltrim_inv, e3.ltrim_inv.ref_inv⟩
      refine .obj (rune_leaf_of_term d1) (rune_leaf_of_term d3.ltrim_inv) hlen ?_ ?_ ?_
      · intro i n hn hi
        obtain ⟨p', dn⟩ := hodd i n hn hi
        exact comma_leaf dn
      · intro i n hn hi
        obtain ⟨tok, k, kp, kr, colon, v, rfl, hc, _⟩ := hkv i n hn hi
        exact ⟨_, _, _, _, _, _, _, _, _, rfl, hc⟩
      · intro i tk3 k0 colon v p3 q3 i3 hn hi
        obtain ⟨tok, k, kp, kr, colon', v', heq, _, hv⟩ := hkv i _ hn hi
        simp only [Node.nt.injEq, List.cons.injEq, and_true] at heq
        obtain ⟨_, ⟨_, _, rfl⟩, _⟩ := heq
        exact hv
    · obtain ⟨tok, s, p, r, rfl⟩ := bool_parse_leaf dg.term_inv
      exact .bool
    · obtain ⟨tok, p, r, rfl⟩ := nil_parse_leaf dg.term_inv
      exact .null
  | k + 1, hk => trivial

theorem IsJsonTree.setRpos {f : File} {m : WsMode} {x : Node} (h : IsJsonTree f x) :
    IsJsonTree f (setRposNode f m x none).1 := by
  cases h with
  | str => exact .str
  | float => exact .float
  | int => exact .int
  | bool => exact .bool
  | null => exact .null
  | arr h1 h2 h3 h4 h5 => exact .arr h1 h2 h3 h4 h5
  | obj h1 h2 h3 h4 h5 h6 => exact .obj h1 h2 h3 h4 h5 h6

theorem json_derives_trim (cfg : Cfg) (henv : cfg.env = Gjson.env) (pos : Nat) (x : Node)
    (h : Derives cfg (.rtrim (.ltrim (.ref 0) .spacesNl) .spacesNl) pos x) : IsJsonTree cfg.file x := by
  obtain ⟨y, hy, hx⟩ := (derives_abs cfg (jsonR cfg.file) (json_closed cfg henv) h).rtrim_inv
  have hj : IsJsonTree cfg.file y := hy.ltrim_inv.ref_inv
  rcases hx with rfl | rfl
  · exact hj
  · exact hj.setRpos

end PV
