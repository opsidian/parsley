/-
  THE JOINT REUSE INVARIANT of a stratified grammar (property C01, completeness, half A — the reuse invariant of
  Proofs/Cover.lean for stratum 1 OVER stratum 0).

  `run_strat`: if `run cfg fuel g ctx pos st = some (o, st')` for a stratum-1 parser `g`, from a context that
  counts no stratum-0 index (`CtxUp`), at a position of the file, from a cache that satisfies `CacheS` —

      stratum-1 entries: `EntryS` — the promise of `EntryC`, for CURTAILED derivations of the stratified
                         grammar (`DerivesSC`, Spec/Strat.lean): every tree curtailed-derivable under any counters
                         that pass the test of `ResultCache.Get` against the STORED context is in the entry;
      stratum-0 entries: `LowEntry` (Proofs/StratLow.lean) — exact (`Big`), stored with empty context and empty
                         curtailing set —

  then for EVERY counter function `c'` that dominates `ctx` on the returned curtailing set `o.cp` every tree `x`
  with `DerivesSC cfg s c' g pos x` is among `o.res`, and `CacheS` holds of `st'`.  The same induction carries
  SOUNDNESS with respect to the stratified meaning: every returned tree `x` has `DerivesS cfg s g pos x` (for a low
  leaf: it is an alternative of the exact result, which is the rule `low`).

  The induction is `Cover.run_cover` of Proofs/Cover.lean (instance `coverS`: the promise about a returned tree is
  `OKN` together with soundness for `DerivesS`; the scope of a call is a position of the file and a context of
  stratum 1).  The operator the family proves itself is the LOW LEAF: there `runStep_low` applies (the sub-run never
  curtails: `o.cp = []`, and returns THE big-step result), the only rule of `DerivesSC` for a low leaf quotes a
  big-step result, and `Big` is deterministic (`big_fun`).

  At the end, completeness THROUGH the `Sentence` wrapper: `sentence_complete_of_operand` of
  Proofs/Sentence.lean, with `run_strat` for the one fact about the operand it needs.
-/
import ParsleyVerif.Proofs.StratLow
import ParsleyVerif.Proofs.BigStepFun
import ParsleyVerif.Proofs.RunComplete
namespace PV.Strat
open PV PV.Text PV.Big

/-- what a result computed under `ctx` with curtailing set `cp` promises -/
def OutS (cfg : Cfg) (s : Cert) (g : G) (ctx : Ctx) (pos : Nat) (o : Out) : Prop :=
  ∀ (c' : Nat → Nat) (x : Node), (∀ k ∈ o.cp, ctx.get k ≤ c' k) → DerivesSC cfg s c' g pos x → x ∈ o.res.alts

def OKN (cfg : Cfg) (pos : Nat) (x : Node) : Prop := x.token ≠ eofTok ∧ pos ≤ x.rpos ∧ x.rpos ≤ cfg.hi

def ResQ (Q : Node → Prop) (r : Res) : Prop := ∀ x ∈ r.alts, Q x

def ResOK (cfg : Cfg) (pos : Nat) (r : Res) : Prop := ResQ (OKN cfg pos) r

structure EntryS (cfg : Cfg) (s : Cert) (bodyOf : Nat → G) (e : CacheEntry) : Prop where
  /-- `Filter(cp)`: only counters of curtailed parsers are stored -/
  keys : ∀ kv ∈ e.ctx, kv.1 ∈ e.cp
  /-- the premise is the test of `ResultCache.Get` -/
  complete : ∀ (c' : Nat → Nat) (x : Node), (∀ kv ∈ e.ctx, kv.2 ≤ c' kv.1) →
      DerivesSC cfg s c' (.memo e.idx (bodyOf e.idx)) e.pos x → x ∈ e.res.alts
  ok : ResOK cfg e.pos e.res
  sound : ∀ x ∈ e.res.alts, DerivesS cfg s (.memo e.idx (bodyOf e.idx)) e.pos x

def CacheS (cfg : Cfg) (s : Cert) (bodyOf : Nat → G) (st : St) : Prop :=
  MixCache cfg s bodyOf (EntryS cfg s bodyOf) st

def CtxUp (s : Cert) (ctx : Ctx) : Prop := ∀ i, s.lowIdx i = true → ctx.get i = 0

theorem CtxUp.nil (s : Cert) : CtxUp s [] := fun _ _ => rfl

theorem DerivesSeqS.snoc {cfg : Cfg} {s : Cert} {sh : SeqShape} {g : G} {n : Node} :
    ∀ {nodes : List Node} {d p : Nat}, DerivesSeqS cfg s sh d p nodes →
      sh.lookup (d + nodes.length) = some g → DerivesS cfg s g (endOf p nodes) n →
      DerivesSeqS cfg s sh d p (nodes ++ [n])
  | [], d, p, _, hl, hd => by
    simp only [List.length_nil, Nat.add_zero] at hl
    exact .cons hl (by simpa [endOf] using hd) .nil
  | m :: rest, d, p, h, hl, hd => by
    cases h with
    | cons hl' hm hrest =>
      refine .cons hl' hm (DerivesSeqS.snoc (g := g) hrest ?_ ?_)
      · simpa [Nat.add_assoc, Nat.add_comm 1] using hl
      · rw [endOf_cons] at hd; exact hd

theorem OKN_empty {cfg : Cfg} {pos : Nat} (hin : InFile cfg.file pos) : OKN cfg pos (.empty pos) :=
  ⟨by simp [Node.token, eofTok], Nat.le_refl _, hin.2⟩

theorem UpS.leaf_of_not_mono {cfg : Cfg} {s : Cert} {bodyOf : Nat → G} {g : G} (h : UpS cfg s bodyOf g)
    (hm : g.isMono = false) : isLowLeaf s g = true := by
  have hok := h.ok
  cases g with
  | seq k gs o => cases k <;> first | rfl | cases hm
  | eof | ltrim | rtrim => simp [upOK] at hok
  | term | empty | ref | memo | any | optional => cases hm
  | _ => rfl

theorem lowIdx_of_not_leaf {s : Cert} {i : Nat} {b : G} (h : ¬ isLowLeaf s (.memo i b) = true) : s.lowIdx i = false := by
  simpa [isLowLeaf] using h

theorem lowRule_of_not_leaf {s : Cert} {k : Nat} (h : ¬ isLowLeaf s (.ref k) = true) : s.lowRule k = false := by
  simpa [isLowLeaf] using h

def coverS {cfg : Cfg} {s : Cert} {bodyOf : Nat → G} (henv : EnvS cfg s bodyOf) : Cover cfg where
  D := DerivesSC cfg s
  DS := DerivesSeqSC cfg s
  leaf := fun g => isLowLeaf s g = true
  Sg := UpS cfg s bodyOf
  Sc := fun ctx pos => InFile cfg.file pos ∧ CtxUp s ctx
  Q := fun g pos x => OKN cfg pos x ∧ DerivesS cfg s g pos x
  QS := fun sh pos nodes =>
    InFile cfg.file (endOf pos nodes) ∧ pos ≤ endOf pos nodes ∧ DerivesSeqS cfg s sh 0 pos nodes
  X := fun _ _ => True
  Inv := CacheS cfg s bodyOf
  x_term := trivial
  x_one := trivial
  x_nil := trivial
  x_ref := fun _ _ => trivial
  x_memo := fun _ => trivial
  x_any := trivial
  x_opt := trivial
  x_seq := trivial
  d_inv := fun hlf _ h => by
    cases h with
    | low hl _ _ => exact absurd hl hlf
    | term a => exact .term a
    | empty => exact .empty
    | ref _ a b => exact .ref a b
    | memo _ a b => exact .memo a b
    | any a b => exact .any a b
    | optSome a => exact .optSome a
    | optNone => exact .optNone
    | seqOf a b c => exact .seqOf a b c
  ds_inv := fun h => by cases h with | cons hl hn hrest => exact ⟨_, hl, hn, hrest⟩
  sg_kids := fun {g} hg hlf hm k hk => by
    cases g with
    | memo i b => cases List.mem_singleton.mp hk; exact (hg.memo (lowIdx_of_not_leaf hlf)).2
    | any gs => exact hg.any k hk
    | optional g' => cases List.mem_singleton.mp hk; exact hg.optional
    | seq kd gs o =>
      cases kd with
      | seqOf =>
        obtain ⟨d, hd⟩ := List.getElem?_of_mem hk
        exact (hg.seqOf rfl).1 d k hd
      | _ => cases hm
    | term | empty | ref => cases hk
    | _ => cases hm
  sg_ref := fun hg hlf hk => henv.up _ _ hk (lowRule_of_not_leaf hlf)
  sg_tok := fun hg _ => (hg.seqOf rfl).2
  sc_inc := fun {ctx pos i b} hc _ hlf => by
    have hi0 : s.lowIdx i = false := lowIdx_of_not_leaf hlf
    refine ⟨hc.1, fun j hj => ?_⟩
    have hne : j ≠ i := fun e => by rw [e, hi0] at hj; cases hj
    rw [Ctx.get_inc_other _ _ _ hne]
    exact hc.2 j hj
  sc_next := fun hc hq => ⟨⟨InFile_of_le hc.1 hq.1.2.1 hq.1.2.2, hc.2⟩, InFile_of_le hc.1 hq.1.2.1 hq.1.2.2, CtxUp.nil s⟩
  q_tok := fun hq => hq.1.1
  q_step := fun {g ctx pos x} hg hlf hc hx => by
    cases hx with
    | term hp =>
      obtain ⟨t1, t3⟩ := hg.term
      obtain ⟨a1, a2⟩ := (t1 pos hc.1).1 _ hp
      have hb := Node.WF_bounds cfg.hi _ a2
      rw [a1] at hb
      exact ⟨⟨noEofDeep_token (t3 _ _ hp), hb.1, hb.2⟩, .term hp⟩
    | empty => exact ⟨OKN_empty hc.1, .empty⟩
    | ref hk h => exact ⟨h.1, .ref (lowRule_of_not_leaf hlf) hk h.2⟩
    | memo h => exact ⟨h.1, .memo (lowIdx_of_not_leaf hlf) h.2⟩
    | any hm h => exact ⟨h.1, .any hm h.2⟩
    | optSome h => exact ⟨h.1, .optSome h.2⟩
    | optNone => exact ⟨OKN_empty hc.1, .optNone⟩
    | seqOf hs hqs hn hlen =>
      refine ⟨⟨handleResult_token _ _ _ (hg.seqOf hs).2 hn, ?_, ?_⟩, .seqOf hs hqs.2.2 hlen⟩
      · rw [handleResult_rpos]; exact hqs.2.1
      · rw [handleResult_rpos]; exact hqs.1.2
  qs_nil := fun hc => ⟨hc.1, Nat.le_refl _, .nil⟩
  qs_snoc := fun {sh pos nodes g n} hqs hl hq => by
    rw [endOf_snoc]
    exact ⟨InFile_of_le hqs.1 hq.1.2.1 hq.1.2.2, Nat.le_trans hqs.2.1 hq.1.2.1,
      DerivesSeqS.snoc hqs.2.2 (by rw [Nat.zero_add]; exact hl) hq.2⟩
  inv_frame := cacheAll_of_eq
  inv_hit := fun {st i b pos ctx e} hI hg hlf hc => by
    have hi0 : s.lowIdx i = false := lowIdx_of_not_leaf hlf
    obtain ⟨hm, rfl, rfl⟩ := cacheGet_some hc
    have hE := (hI e hm).2 hi0
    have hb := (hg.memo hi0).1
    exact ⟨hE.keys, hb ▸ hE.complete, fun x hx => ⟨hE.ok x hx, hb ▸ hE.sound x hx⟩, trivial⟩
  inv_save := fun {st st2 i b pos ctx o} hI hg hlf _ hcov hq _ e he => by
    have hi0 : s.lowIdx i = false := lowIdx_of_not_leaf hlf
    have hb := (hg.memo hi0).1
    cases mem_cacheSave he with
    | inl h =>
      subst h
      exact ⟨fun hf => absurd (hi0.symm.trans hf) (by simp), fun _ =>
        ⟨fun kv hkv => (mem_ctx_filter.mp hkv).2, hb ▸ hcov, fun x hx => (hq x hx).1, fun x hx => hb ▸ (hq x hx).2⟩⟩
    | inr h => exact hI e h

theorem run_strat (cfg : Cfg) (s : Cert) (bodyOf : Nat → G) (henv : EnvS cfg s bodyOf) :
    ∀ fuel g ctx pos st o st', UpS cfg s bodyOf g → InFile cfg.file pos → CtxUp s ctx → CacheS cfg s bodyOf st →
      run cfg fuel g ctx pos st = some (o, st') →
      OutS cfg s g ctx pos o ∧ ResOK cfg pos o.res ∧ (∀ x ∈ o.res.alts, DerivesS cfg s g pos x) ∧ CacheS cfg s bodyOf st' := fun fuel g ctx pos st o st' hg hin hup hcs h => by
  have := (coverS henv).run_cover
    (fun fuel _ g ctx pos st o st' hg hc hcs hl h => by
      -- a low leaf: the sub-run never curtails and returns THE big-step result
      have hleaf : isLowLeaf s g = true := hl.elim id hg.leaf_of_not_mono
      obtain ⟨hlw, hmem⟩ := hg.leaf hleaf
      obtain ⟨hcp, hbig, hC1⟩ := runStep_low henv (run_grow cfg fuel) (run_low cfg s bodyOf _ henv fuel) fuel g ctx pos st o st' hlw hc.1
        (fun i hi => hc.2 i (hmem i hi)) hcs h
      have hdo := low_big henv hbig hlw hc.1
      refine ⟨?_, fun x hx => ⟨?_, .low hleaf hbig hx⟩, trivial, hC1⟩
      · intro c' x _ hd
        cases hd with
        | low _ hb hx => rw [← (big_fun hb hbig).1]; exact hx
        | term _ => exact nomatch hleaf
        | empty => exact nomatch hleaf
        | ref hk _ _ => exact absurd (hk.symm.trans hleaf) (by simp)
        | memo hi _ _ => exact absurd (hi.symm.trans hleaf) (by simp)
        | any _ _ => exact nomatch hleaf
        | optSome _ => exact nomatch hleaf
        | optNone => exact nomatch hleaf
        | seqOf _ _ _ => exact nomatch hleaf
      · have hd := hdo x hx
        obtain ⟨p1, p2, _⟩ := hd.inFile hc.1
        exact ⟨noEofDeep_token hd.tok, p1, p2⟩)
    fuel g ctx pos st o st' hg ⟨hin, hup⟩ hcs h
  exact ⟨this.1, fun x hx => (this.2.1 x hx).1, fun x hx => (this.2.1 x hx).2, this.2.2.2⟩

end PV.Strat

namespace PV.Strat
open PV PV.Text

theorem sentence_complete_strat (cfg : Cfg) (s : Cert) (bodyOf : Nat → G) (henv : EnvS cfg s bodyOf)
    (g : G) (hg : UpS cfg s bodyOf g) (fuel : Nat) (pos : Nat) (hin : InFile cfg.file pos) (st : St)
    (hst : CacheS cfg s bodyOf st) (o : Out) (st' : St)
    (h : run cfg fuel (G.sentence g) [] pos st = some (o, st'))
    (y : Node) (hy : DerivesSC cfg s zeroC g pos y) (hend : isEOF cfg.file y.rpos = true) :
    o.res.alts ≠ [] ∧ o.err = none := by
  refine sentence_complete_of_operand cfg g fuel pos st o st' h y ?_ hend
  intro fuel' o1 st2 hr
  obtain ⟨hO, _, _, _⟩ := run_strat cfg s bodyOf henv fuel' g [] pos st.regCall o1 st2 hg hin (CtxUp.nil s)
    (cacheAll_of_eq hst rfl) hr
  exact hO zeroC y (by intro k _; exact Nat.zero_le _) hy

end PV.Strat
