/-
  C17: exact call counts, for EVERY input length, of two families of the harness (harness/cmd/corr/c17.go):
    family 6 — separated list  L → a (, a)*  (SepBy, no Memoize), input `a (,a)^k`:      2k + 4 calls
    family 5 — nested brackets S → ( S ) | a (memoized),          input `(^k a )^k`:      5k + 5 calls
  Neither is left-recursive: each count is one derivation (`sep_loop`, `br_level`) by induction over what is left of the input.
-/
import ParsleyVerif.Proofs.CallsSentence
namespace PV.C17
open PV.Text PV.C17b

variable {cfg : Cfg}

def sepA : G := .term (.rune 97 [34, 97, 34])
def sepC : G := .term (.rune 44 [34, 44, 34])
def sepL : G := .sepBy sepA sepC false {}
def sepEnv : List G := [sepL]
def sepData : Nat → Bytes
  | 0 => [97]
  | k + 1 => 97 :: 44 :: sepData k
def sepFile (k : Nat) : File := { name := "f", data := sepData k, offset := 1 }

/-- the harness's input `"a" + strings.Repeat(",a", k)` -/
theorem sepData_eq (k : Nat) : sepData k = 97 :: (List.replicate k [44, 97]).flatten := by
  induction k with
  | zero => rfl
  | succ k ih => rw [sepData, ih]; simp [List.replicate_succ]

theorem sepData_length (k : Nat) : (sepData k).length = 2 * k + 1 := by
  induction k with
  | zero => rfl
  | succ k ih => simp only [sepData, List.length_cons, ih]; omega

theorem sepData_get : ∀ k i, i < 2 * k + 1 → (sepData k)[i]? = some (if i % 2 = 0 then 97 else 44) := by
  intro k
  induction k with
  | zero => intro i hi; have : i = 0 := by omega
            subst this; rfl
  | succ k ih =>
    intro i hi
    match i with
    | 0 => rfl
    | 1 => rfl
    | i + 2 =>
      simp only [sepData, List.getElem?_cons_succ]
      rw [ih i (by omega)]
      have : (i + 2) % 2 = i % 2 := by omega
      rw [this]

structure IsSep (k : Nat) (cfg : Cfg) : Prop where
  env : cfg.env = sepEnv
  file : cfg.file = sepFile k
  max : cfg.maxCalls = 0

def sepSh : SeqShape :=
  { lookup := fun i => if i % 2 == 0 then some sepA else some sepC,
    lenCheck := fun len => (len == 0 && false) || len % 2 == 1,
    token := sepByTok, interp := .none, single := false, name := none }


theorem sepSh_lookup (d : Nat) : sepSh.lookup d = some (runeT (if d % 2 = 0 then 97 else 44)) := by
  by_cases h : d % 2 = 0 <;> simp [sepSh, h, sepA, sepC, runeT]

/-- the input `a (,a)^k`: a value at the even, a separator at the odd offsets, and no separator behind the last value -/
theorem sep_fol {k : Nat} (hc : IsSep k cfg) :
    (∀ d, d < 2 * k + 1 → fol cfg.file.data (if d % 2 = 0 then 97 else 44) (d + 1) = true) ∧
      fol cfg.file.data 44 (2 * k + 2) = false := by
  rw [hc.file]
  refine ⟨fun d hd => ?_, ?_⟩
  · simp [fol, sepFile, sepData_get k d hd]
  · simp [fol, sepFile, List.getElem?_eq_none_iff.mpr (Nat.le_of_eq (sepData_length k))]

/-- the node of a sequence that does not hand on a single node as it is -/
theorem handleResult_notEmpty (sh : SeqShape) (hs : sh.single = false) (pos : Nat) (nodes : List Node) :
    notEmptyNode (handleResult sh pos nodes) := by
  rw [handleResult_nt sh hs]; trivial

/-- **the loop of SepBy** from element `d` at position `d+1`, `j` tokens to go: every remaining token matches (one call each),
    the separator after the last value fails (one call), the list node is emitted there -/
theorem sep_loop {k : Nat} (hc : IsSep k cfg) (fr : Nat) {P : Cache → Prop} : ∀ j d, d + j = 2 * k + 1 →
    ∀ (nodes : List Node) (ctx : Ctx) (merge : Bool) (cpa : List Nat),
      (d > 0 → ∃ l, nodes.getLast? = some l ∧ l.rpos = d + 1) →
      ∃ b x, x.rpos = 2 * k + 2 ∧ notEmptyNode x ∧
        SeqR cfg Z sepSh (fr + 1) (j + 1) d nodes ctx (d + 1) merge cpa P b [x] cpa (j + 1) P
  | 0, d, hd, nodes, ctx, merge, cpa, hlast => by
    have hodd : d % 2 = 1 := by omega
    obtain ⟨l, e1, e2⟩ := hlast (by omega)
    have hne := handleResult_notEmpty sepSh rfl (d + 1) nodes
    exact ⟨_, _, by rw [handleResult_last sepSh _ nodes l e1, e2]; omega, hne,
      SeqR.of_eq rfl rfl (cpStep_nil _ _) rfl
        (SeqR.stop (g := runeT 44) (by rw [sepSh_lookup, if_neg (by omega)])
          (Runs.rune_no hc.max (by rw [hc.file]; rfl) (by decide) (Nat.le_add_left 1 d)
            (by rw [show d + 1 = 2 * k + 2 by omega]; exact (sep_fol hc).2))
          (by simp [sepSh, hodd]) (by omega) hne)⟩
  | j + 1, d, hd, nodes, ctx, merge, cpa, hlast => by
    obtain ⟨b, x, hx, hne, ih⟩ := sep_loop hc fr (P := P) j (d + 1) (by omega)
      (nodes ++ [runeNode (if d % 2 = 0 then 97 else 44) (d + 1)]) [] false (cpStep merge cpa [])
      (fun _ => ⟨runeNode (if d % 2 = 0 then 97 else 44) (d + 1), by simp, rfl⟩)
    exact ⟨b, x, hx, hne, SeqR.of_eq rfl rfl (cpStep_nil _ _) (by omega)
      (SeqR.adv (sepSh_lookup d) (Runs.rune_ok hc.max (by rw [hc.file]; rfl) (by split <;> decide) (Nat.le_add_left 1 d)
        ((sep_fol hc).1 d (by omega))) (Nat.lt_succ_self _) ih)⟩

def sepCalls (k : Nat) : Nat := 2 * k + 4

/-- **family 6, every k**: `Sentence(L)` on `a (,a)^k` (length n = 2k+1) succeeds with exactly 2k+4 = n+3 calls -/
theorem sep_parse {k : Nat} (hc : IsSep k cfg) :
    ∃ p, parse cfg (2 * k + 8) (G.sentence (.ref 0)) = some p ∧ p.err = none ∧ p.res.isNil = false ∧
      p.st.calls = sepCalls k := by
  obtain ⟨b, x, hx, _, loop⟩ := sep_loop hc (2 * k + 1) (P := (· = [])) (2 * k + 1) 0 (by omega) [] [] true []
    (fun h => absurd h (by omega))
  have hlen : cfg.file.data.length = 2 * k + 1 := by rw [hc.file]; exact sepData_length k
  exact Runs.sentence_ends (F := 2 * k + 4) hc.max (by rw [hc.file]; rfl) (by omega) (show cfg.env[0]? = some sepL by rw [hc.env]; rfl)
    (pre := []) (tl := []) ((Runs.seq hc.max (g := sepL) (sh := sepSh) rfl loop).mono (by omega))
    (by rw [hlen]; exact congrArg (· :: []) hx) (fun _ h => nomatch h)

def sepCfg (k : Nat) : Cfg :=
  { env := sepEnv, file := sepFile k, fileSet := {},
    params := { floatOk := fun _ => true, durErr := fun _ => none, regexp := fun _ _ => none } }

theorem sepCfg_is (k : Nat) : IsSep k (sepCfg k) := ⟨rfl, rfl, rfl⟩

def brO : G := .term (.rune 40 [34, 40, 34])
def brC : G := .term (.rune 41 [34, 41, 34])
def brA : G := .term (.rune 97 [34, 97, 34])
def brS : G := .seq .seqOf [brO, .ref 0, brC] {}
def brBody : G := .any [brS, brA]
def brP : G := .memo 0 brBody
def brEnv : List G := [brP]
def brData (k : Nat) : Bytes := List.replicate k 40 ++ 97 :: List.replicate k 41
def brFile (k : Nat) : File := { name := "f", data := brData k, offset := 1 }

theorem brData_length (k : Nat) : (brData k).length = 2 * k + 1 := by
  simp [brData]; omega

theorem brData_open (k i : Nat) (h : i < k) : (brData k)[i]? = some 40 := by
  rw [brData, List.getElem?_append_left (by simpa using h), List.getElem?_replicate]
  simp [h]

theorem brData_mid (k : Nat) : (brData k)[k]? = some 97 := by
  rw [brData, List.getElem?_append_right (by simp)]
  simp

theorem brData_close (k i : Nat) (h1 : k < i) (h2 : i ≤ 2 * k) : (brData k)[i]? = some 41 := by
  rw [brData, List.getElem?_append_right (by simp; omega)]
  simp only [List.length_replicate]
  obtain ⟨m, hm⟩ : ∃ m, i - k = m + 1 := ⟨i - k - 1, by omega⟩
  rw [hm, List.getElem?_cons_succ, List.getElem?_replicate]
  simp; omega

structure IsBr (k : Nat) (cfg : Cfg) : Prop where
  env : cfg.env = brEnv
  file : cfg.file = brFile k
  max : cfg.maxCalls = 0

def brSh : SeqShape :=
  { lookup := fun i => [brO, G.ref 0, brC][i]?, lenCheck := fun len => len == 3, token := seqTok,
    interp := .none, single := false, name := none }


theorem br_not_curtailed (cfg : Cfg) (pos : Nat) :
    ¬ Ctx.get [] 0 > remaining cfg.file pos + Facts.curtailSlack := by
  simp [Ctx.get]

/-- the input `(^k a )^k` -/
theorem br_fol {k : Nat} (hc : IsBr k cfg) :
    (∀ d, d < k → fol cfg.file.data 40 (d + 1) = true) ∧ fol cfg.file.data 40 (k + 1) = false ∧
    fol cfg.file.data 97 (k + 1) = true ∧ (∀ d, d < k → fol cfg.file.data 97 (d + 1) = false) ∧
    ∀ p, k + 2 ≤ p → p ≤ 2 * k + 1 → fol cfg.file.data 41 p = true := by
  rw [hc.file]
  refine ⟨fun d hd => ?_, ?_, ?_, fun d hd => ?_, fun p h1 h2 => ?_⟩
  · simp [fol, brFile, brData_open k d hd]
  · simp [fol, brFile, brData_mid k]
  · simp [fol, brFile, brData_mid k]
  · simp [fol, brFile, brData_open k d hd]
  · simp [fol, brFile, brData_close k (p - 1) (by omega) (by omega)]

/-- **the nest**: `S` at position `d+1` (behind `d` opening brackets), `j = k - d` brackets to go: one node ending
    behind the matching closing bracket, 5 calls per bracket pair (`( S )`, `a`; `(`, `S`, `)`) and 3 for the
    innermost `a` (`( S )`, `a`; `(`).  Every activation of Memoize is at a position of its own: the cache is never read. -/
theorem br_level {k : Nat} (hc : IsBr k cfg) : ∀ j d, d + j = k →
    ∃ x, x.rpos + d = 2 * k + 2 ∧ notEmptyNode x ∧
      Runs cfg Z (4 * j + 4) brP [] (d + 1) (· = []) [x] [] (5 * j + 3) (fun _ => True)
  | 0, d, hd => by
    obtain rfl : d = k := by omega
    obtain ⟨_, hO, hA, _, _⟩ := br_fol hc
    have hoff : cfg.file.offset = 1 := by rw [hc.file]; rfl
    refine ⟨runeNode 97 (d + 1), by show d + 1 + 1 + d = _; omega, trivial, ?_⟩
    -- `( S )` fails on its first element, `a` matches
    exact Runs.of_eq rfl (by simp only [cpStep_nil, cpUnion_nil_right]) rfl
      (Runs.post (Runs.memo (Φ := Z) (P := (· = [])) hc.max (fun K hK => by rw [hK]; rfl) (br_not_curtailed cfg _)
        (hΦ := fun _ _ _ _ => rfl) (Runs.any hc.max
          (AnyR.cons (Runs.seq hc.max (g := brS) (sh := brSh) rfl
              (SeqR.fail (f := 0) rfl (Runs.rune_no (F := 0) hc.max hoff (by decide) (Nat.succ_pos _) hO) rfl))
            (fun _ h => nomatch h)
            (AnyR.cons (Runs.rune_ok hc.max hoff (by decide) (Nat.succ_pos _) hA) (fun _ h => List.mem_singleton.mp h ▸ trivial)
              AnyR.nil)))) fun _ _ => trivial)
  | j + 1, d, hd => by
    obtain ⟨hO, _, _, hA, hC⟩ := br_fol hc
    have hoff : cfg.file.offset = 1 := by rw [hc.file]; rfl
    obtain ⟨x, hx, hne, inner⟩ := br_level hc j (d + 1) (by omega)
    have hy := handleResult_two brSh (x.rpos + 1) ([] ++ [runeNode 40 (d + 1)] ++ [x] ++ [runeNode 41 x.rpos]) (by simp)
    refine ⟨handleResult brSh (x.rpos + 1) ([] ++ [runeNode 40 (d + 1)] ++ [x] ++ [runeNode 41 x.rpos]),
      by rw [handleResult_last brSh _ _ (runeNode 41 x.rpos) rfl]; show x.rpos + 1 + d = _; omega, hy, ?_⟩
    -- `(`, the inner `S`, `)` behind it; then `a` does not match
    exact Runs.of_eq rfl (by simp only [cpStep_nil, cpUnion_nil_right]) (by omega)
      (Runs.post (Runs.memo (Φ := Z) (P := (· = [])) hc.max (fun K hK => by rw [hK]; rfl) (br_not_curtailed cfg _)
        (hΦ := fun _ _ _ _ => rfl) (Runs.any hc.max
          (AnyR.cons (Runs.seq hc.max (g := brS) (sh := brSh) rfl
              (SeqR.adv rfl (Runs.rune_ok hc.max hoff (by decide) (Nat.succ_pos _) (hO d (by omega))) (Nat.lt_succ_self _)
                (SeqR.adv rfl (Runs.ref hc.max (by rw [hc.env]; rfl) (inner.post fun _ _ => trivial))
                  (by show d + 1 + 1 < x.rpos; omega)
                  (SeqR.adv rfl (Runs.rune_ok hc.max hoff (by decide) (by omega) (hC x.rpos (by omega) (by omega)))
                    (Nat.lt_succ_self _) (SeqR.done (d := 3) rfl rfl (by decide) hy)))))
            (fun _ h => List.mem_singleton.mp h ▸ hy)
            (AnyR.cons (Runs.rune_no hc.max hoff (by decide) (Nat.succ_pos _) (hA d (by omega))) (fun _ h => nomatch h)
              AnyR.nil)))) fun _ _ => trivial)

def brCalls (k : Nat) : Nat := 5 * k + 5

/-- **family 5, every k**: `Sentence(S)` on `(^k a )^k` (length n = 2k+1) succeeds with exactly 5k+5 calls -/
theorem br_parse {k : Nat} (hc : IsBr k cfg) :
    ∃ p, parse cfg (4 * k + 8) (G.sentence (.ref 0)) = some p ∧ p.err = none ∧ p.res.isNil = false ∧
      p.st.calls = brCalls k := by
  obtain ⟨x, hx, _, lvl⟩ := br_level hc k 0 (by omega)
  have hlen : cfg.file.data.length = 2 * k + 1 := by rw [hc.file]; exact brData_length k
  exact Runs.sentence_ends (F := 4 * k + 4) hc.max (by rw [hc.file]; rfl) (by omega) (show cfg.env[0]? = some brP by rw [hc.env]; rfl)
    (pre := []) (tl := []) (lvl.mono (by omega)) (by rw [hlen]; exact congrArg (· :: []) hx) (fun _ h => nomatch h)

def brCfg (k : Nat) : Cfg :=
  { env := brEnv, file := brFile k, fileSet := {},
    params := { floatOk := fun _ => true, durErr := fun _ => none, regexp := fun _ _ => none } }

theorem brCfg_is (k : Nat) : IsBr k (brCfg k) := ⟨rfl, rfl, rfl⟩

end PV.C17
