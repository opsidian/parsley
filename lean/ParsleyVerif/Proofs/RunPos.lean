/-
  The positional invariant of the parser core, an instance of `RunInv` (used by C01 spans, C02 re-entry bound,
  C04 Sentence soundness):

  * every returned / cached tree starts at the call position, is contiguous and lies within the file;
  * every returned / cached / recorded error is positioned between the call position and the end of file;
  * the ghost activation stack is restored by every call, and a memoized body is never active more than
    `remaining + curtailSlack + 1` times at one position.
-/
import ParsleyVerif.Proofs.RunBasics
import ParsleyVerif.Proofs.RunEqns
import ParsleyVerif.Proofs.GInduct
import ParsleyVerif.Proofs.RunInv
namespace PV
open PV.Text

theorem Node.WF_nt {hi : Nat} {t : Bytes} {cs : List Node} {p r : Nat} {i : Interp} :
    (Node.nt t cs p r i).WF hi ↔ Chain hi cs p r := by simp only [Node.WF]

theorem Chain_nil {hi p r : Nat} : Chain hi [] p r ↔ p = r ∧ r ≤ hi := by simp only [Chain]

theorem Chain_cons {hi : Nat} {c : Node} {cs : List Node} {p r : Nat} :
    Chain hi (c :: cs) p r ↔ c.pos = p ∧ c.WF hi ∧ Chain hi cs c.rpos r := by simp only [Chain]

mutual
theorem Node.WF_bounds (hi : Nat) : ∀ n : Node, n.WF hi → n.pos ≤ n.rpos ∧ n.rpos ≤ hi
  | .term _ _ p r, h => by simpa [Node.WF, Node.pos, Node.rpos] using h
  | .empty p, h => by simpa [Node.WF, Node.pos, Node.rpos] using h
  | .eof p, h => by simpa [Node.WF, Node.pos, Node.rpos] using h
  | .nt _ cs p r _, h => by
    simp only [Node.WF] at h
    simpa [Node.pos, Node.rpos] using Chain_bounds hi cs p r h
theorem Chain_bounds (hi : Nat) : ∀ (cs : List Node) (p r : Nat), Chain hi cs p r → p ≤ r ∧ r ≤ hi
  | [], p, r, h => by simp only [Chain] at h; omega
  | c :: cs, p, r, h => by
    simp only [Chain] at h
    have h1 := Node.WF_bounds hi c h.2.1
    have h2 := Chain_bounds hi cs c.rpos r h.2.2
    omega
end

theorem Chain_append (hi : Nat) (n : Node) : ∀ (cs : List Node) (p r : Nat),
    Chain hi cs p r → n.pos = r → n.WF hi → Chain hi (cs ++ [n]) p n.rpos
  | [], p, r, h, hp, hw => by
    have h' := Chain_nil.mp h
    show Chain hi [n] p n.rpos
    unfold Chain
    refine ⟨by omega, hw, ?_⟩
    unfold Chain
    exact ⟨rfl, (Node.WF_bounds hi n hw).2⟩
  | c :: cs, p, r, h, hp, hw => by
    have h' := Chain_cons.mp h
    show Chain hi (c :: (cs ++ [n])) p n.rpos
    unfold Chain
    exact ⟨h'.1, h'.2.1, Chain_append hi n cs c.rpos r h'.2.2 hp hw⟩

theorem Chain_last (hi : Nat) : ∀ (rest : List Node) (n : Node) (p r : Nat),
    Chain hi (n :: rest) p r → ((rest.getLast?).getD n).rpos = r
  | [], n, p, r, h => by
    have h' := Chain_cons.mp h
    have h'' := Chain_nil.mp h'.2.2
    simp [h''.1]
  | m :: rest, n, p, r, h => by
    have h' := Chain_cons.mp h
    rw [List.getLast?_cons]
    exact Chain_last hi rest m n.rpos r h'.2.2

theorem handleResult_chain (hi : Nat) (sh : SeqShape) {pos0 p : Nat} {nodes : List Node} (h : Chain hi nodes pos0 p) :
    (∃ n, nodes = [n] ∧ handleResult sh p nodes = n) ∨ handleResult sh p nodes = .nt sh.token nodes pos0 p sh.interp := by
  cases nodes with
  | nil =>
    have h' := Chain_nil.mp h
    exact .inr (h'.1 ▸ rfl)
  | cons n rest =>
    have h' := Chain_cons.mp h
    have hl := Chain_last hi rest n pos0 p h
    cases rest with
    | nil =>
      by_cases hs : sh.single = true
      · exact .inl ⟨n, rfl, by simp [handleResult, hs]⟩
      · exact .inr (by simpa [handleResult, hs, h'.1] using hl)
    | cons m rest => exact .inr (by rw [← h'.1, ← hl]; rfl)

theorem handleResult_ok (hi : Nat) (sh : SeqShape) (pos0 p : Nat) (nodes : List Node)
    (h : Chain hi nodes pos0 p) :
    (handleResult sh p nodes).pos = pos0 ∧ (handleResult sh p nodes).WF hi := by
  rcases handleResult_chain hi sh h with ⟨n, rfl, e⟩ | e <;> rw [e]
  · have h' := Chain_cons.mp h
    exact ⟨h'.1, h'.2.1⟩
  · exact ⟨rfl, by unfold Node.WF; exact h⟩

theorem handleResult_rpos_chain (hi : Nat) (sh : SeqShape) (pos0 p : Nat) (nodes : List Node) (h : Chain hi nodes pos0 p) :
    (handleResult sh p nodes).rpos = p := by
  rcases handleResult_chain hi sh h with ⟨n, rfl, e⟩ | e <;> rw [e]
  · exact Chain_last hi [] n pos0 p h
  · rfl

def LogOK (cfg : Cfg) (log : List Ev) : Prop :=
  ∀ idx p d, Ev.body idx p d ∈ log → d ≤ remaining cfg.file p + Facts.curtailSlack + 1

structure EntryOK (cfg : Cfg) (e : CacheEntry) : Prop where
  inFile : InFile cfg.file e.pos
  nodes : ∀ x ∈ e.res.alts, x.pos = e.pos ∧ x.WF cfg.hi
  err : ∀ er, e.err = some er → e.pos ≤ er.pos ∧ er.pos ≤ cfg.hi

structure StOK (cfg : Cfg) (st : St) : Prop where
  cache : ∀ e ∈ st.cache, EntryOK cfg e
  ctxErr : ∀ er, st.ctxErr = some er → cfg.file.offset ≤ er.pos ∧ er.pos ≤ cfg.hi
  log : LogOK cfg st.log

def actCount (act : List (Nat × Nat)) (k pos : Nat) : Nat :=
  (act.filter (fun a => a.1 == k && a.2 == pos)).length

/-- the activation stack only holds frames at or before the current position, and the left-recursion
    context counts at least the frames of each parser at the current position -/
def ActOK (ctx : Ctx) (pos : Nat) (act : List (Nat × Nat)) : Prop :=
  (∀ a ∈ act, a.2 ≤ pos) ∧ ∀ k, actCount act k pos ≤ ctx.get k

def Pre (cfg : Cfg) (ctx : Ctx) (pos : Nat) (st : St) : Prop :=
  InFile cfg.file pos ∧ StOK cfg st ∧ ActOK ctx pos st.active

/-- a fresh context at a position of the file: nothing cached, recorded or active -/
theorem Pre.fresh {cfg : Cfg} {pos : Nat} (hin : InFile cfg.file pos) : Pre cfg [] pos {} :=
  ⟨hin, ⟨fun _ he => (nomatch he), nofun, fun _ _ _ hm => (nomatch hm)⟩,
    fun _ ha => (nomatch ha), fun k => by simp [actCount, Ctx.get]⟩

/-- where every parse starts -/
theorem Pre.initial (cfg : Cfg) : Pre cfg [] (cfg.file.pos 0) {} :=
  .fresh ⟨by simp [File.pos], by simp [File.pos]⟩

structure Post (cfg : Cfg) (pos : Nat) (st0 : St) (o : Out) (st' : St) : Prop where
  nodes : ∀ x ∈ o.res.alts, x.pos = pos ∧ x.WF cfg.hi
  err : ∀ er, o.err = some er → pos ≤ er.pos ∧ er.pos ≤ cfg.hi
  stOK : StOK cfg st'
  active : st'.active = st0.active
  calls : st0.calls ≤ st'.calls

theorem StOK_regCall {cfg : Cfg} {st : St} (h : StOK cfg st) : StOK cfg st.regCall := ⟨h.cache, h.ctxErr, h.log⟩

theorem StOK_setError {cfg : Cfg} {st : St} (h : StOK cfg st) (e : Option Err)
    (he : ∀ er, e = some er → cfg.file.offset ≤ er.pos ∧ er.pos ≤ cfg.hi) : StOK cfg (st.setError e) :=
  ⟨by rw [setError_cache]; exact h.cache, setError_ctxErr_of h.ctxErr he, by rw [setError_log]; exact h.log⟩

theorem LogOK_logEv_notBody {cfg : Cfg} {st : St} (h : LogOK cfg st.log) (ev : Ev)
    (hev : ∀ idx p d, ev ≠ Ev.body idx p d) : LogOK cfg (st.logEv cfg ev).log := by
  cases (logEv_fields st cfg ev).2.2.2.2 with
  | inl h5 => rw [h5]; exact h
  | inr h5 =>
    rw [h5]
    intro idx p d hm
    cases hm with
    | head => exact absurd rfl (hev idx p d)
    | tail _ hm => exact h idx p d hm

theorem StOK_logEv_notBody {cfg : Cfg} {st : St} (h : StOK cfg st) (ev : Ev)
    (hev : ∀ idx p d, ev ≠ Ev.body idx p d) : StOK cfg (st.logEv cfg ev) :=
  ⟨by rw [(logEv_fields st cfg ev).1]; exact h.cache, by rw [(logEv_fields st cfg ev).2.1]; exact h.ctxErr,
    LogOK_logEv_notBody h.log ev hev⟩

theorem ActOK_same {ctx : Ctx} {pos : Nat} {a b : List (Nat × Nat)} (h : ActOK ctx pos a) (e : b = a) :
    ActOK ctx pos b := e ▸ h

theorem shape_lookup_core {T : Terminal → Prop} {g : G} {sh : SeqShape} (hg : g.Core T)
    (hs : g.shape = some sh) (i : Nat) (g' : G) (hl : sh.lookup i = some g') : g'.Core T :=
  hg.kid (G.shape_kids hs hl)

def RunPosOK (cfg : Cfg) (r : RunFn) : Prop :=
  ∀ g ctx pos st o st', g.Core (TermGood cfg) → Pre cfg ctx pos st → r g ctx pos st = some (o, st') →
    Post cfg pos st o st'

theorem actCount_zero {act : List (Nat × Nat)} {k pos : Nat} (h : ∀ a ∈ act, ¬ (a.1 = k ∧ a.2 = pos)) :
    actCount act k pos = 0 := by
  unfold actCount
  rw [List.length_eq_zero_iff, List.filter_eq_nil_iff]
  intro a ha
  have := h a ha
  simpa only [Bool.and_eq_true, beq_iff_eq] using this

/-- no frame is at a position that has not been reached yet -/
theorem actCount_eq_zero {act : List (Nat × Nat)} {pos q : Nat} (hle : ∀ a ∈ act, a.2 ≤ pos) (hq : pos < q) (k : Nat) :
    actCount act k q = 0 :=
  actCount_zero fun a ha hc => by have := hle a ha; omega

theorem ActOK_next {ctx : Ctx} {pos : Nat} {act : List (Nat × Nat)} (h : ActOK ctx pos act) (q : Nat) (hq : pos ≤ q) :
    ActOK (if q > pos then [] else ctx) q act := by
  split
  · exact ⟨fun a ha => Nat.le_trans (h.1 a ha) hq, fun k => by rw [actCount_eq_zero h.1 ‹_›]; exact Nat.zero_le _⟩
  · cases Nat.le_antisymm hq (Nat.le_of_not_lt ‹_›); exact h

structure AltOK (cfg : Cfg) (pos : Nat) (a : AltSt) : Prop where
  nodes : ∀ x ∈ a.res.alts, x.pos = pos ∧ x.WF cfg.hi
  err : ∀ er, a.err = some er → pos ≤ er.pos ∧ er.pos ≤ cfg.hi
  nf : ∀ er, a.nf = some er → pos ≤ er.pos ∧ er.pos ≤ cfg.hi

theorem AltOK_altErr {cfg : Cfg} {pos : Nat} {a : AltSt} (h : AltOK cfg pos a) (e : Option Err)
    (he : ∀ er, e = some er → pos ≤ er.pos ∧ er.pos ≤ cfg.hi) : AltOK cfg pos (altErr pos a e) := by
  obtain ⟨_, h2, h3, h4⟩ := altErr_fields pos a e
  refine ⟨by rw [h2]; exact h.nodes, ?_, ?_⟩
  · intro er her
    cases h3 with
    | inl h3 => exact h.err er (h3 ▸ her)
    | inr h3 => exact he er (h3 ▸ her)
  · intro er her
    cases h4 with
    | inl h4 => exact h.nf er (h4 ▸ her)
    | inr h4 => exact he er (h4 ▸ her)

theorem actCount_cons (a : Nat × Nat) (act : List (Nat × Nat)) (k pos : Nat) :
    actCount (a :: act) k pos = (if a.1 == k && a.2 == pos then 1 else 0) + actCount act k pos := by
  unfold actCount
  rw [List.filter_cons]
  split <;> simp [Nat.add_comm]

theorem ActOK_enter {ctx : Ctx} {pos : Nat} {act : List (Nat × Nat)} (h : ActOK ctx pos act) (idx : Nat) :
    ActOK (ctx.inc idx) pos ((idx, pos) :: act) := by
  refine ⟨fun a ha => ?_, fun k => ?_⟩
  · cases ha with
    | head => exact Nat.le_refl _
    | tail _ ha => exact h.1 a ha
  · have hk := h.2 k
    rw [actCount_cons]
    by_cases hki : k = idx
    · subst hki
      rw [Ctx.get_inc_self, if_pos (by simp)]
      omega
    · rw [Ctx.get_inc_other _ _ _ hki, if_neg (by simp [Ne.symm hki])]
      omega

theorem ctxExact_enter {ctx : Ctx} {pos : Nat} {act : List (Nat × Nat)} (h : ∀ k, ctx.get k = actCount act k pos)
    (idx : Nat) : ∀ k, Ctx.get (ctx.inc idx) k = actCount ((idx, pos) :: act) k pos := by
  intro k
  rw [actCount_cons, ← h k]
  by_cases hk : k = idx
  · subst hk; rw [Ctx.get_inc_self, if_pos (by simp), Nat.add_comm]
  · rw [Ctx.get_inc_other _ _ _ hk, if_neg (by simp [Ne.symm hk]), Nat.zero_add]

theorem ctxExact_next {ctx : Ctx} {pos p0 : Nat} {act : List (Nat × Nat)} (h : ∀ k, ctx.get k = actCount act k pos)
    (hle : ∀ a ∈ act, a.2 ≤ p0) (hp : p0 ≤ pos) (q : Nat) (hq : pos ≤ q) :
    ∀ k, Ctx.get (if q > pos then [] else ctx) k = actCount act k q := by
  split
  · exact fun k => (actCount_eq_zero (fun a ha => Nat.le_trans (hle a ha) hp) ‹_› k).symm ▸ rfl
  · cases Nat.le_antisymm hq (Nat.le_of_not_lt ‹_›); exact h

/-- the body is entered below the curtailing threshold: the logged depth is within the re-entry bound -/
theorem LogOK_enter {cfg : Cfg} {ctx : Ctx} {pos : Nat} {st : St} (idx : Nat) (hl : LogOK cfg st.log)
    (hact : ActOK ctx pos st.active) (hcur : ¬ ctx.get idx > remaining cfg.file pos + Facts.curtailSlack) :
    LogOK cfg (memoEnter cfg idx pos st).log := by
  cases (memoEnter_frame cfg idx pos st).2.2.2.2 with
  | inl h => rw [h]; exact hl
  | inr h =>
    rw [h]
    intro i p d hm
    cases hm with
    | head => have := hact.2 idx; unfold actCount at this; omega
    | tail _ hm => exact hl i p d hm

theorem Pre_memoEnter {cfg : Cfg} {ctx : Ctx} {pos idx : Nat} {st : St} (hpre : Pre cfg ctx pos st)
    (hcur : ¬ ctx.get idx > remaining cfg.file pos + Facts.curtailSlack) :
    Pre cfg (ctx.inc idx) pos (memoEnter cfg idx pos st) := by
  obtain ⟨hin, hst, hact⟩ := hpre
  obtain ⟨f1, f2, _, f4, _⟩ := memoEnter_frame cfg idx pos st
  exact ⟨hin, ⟨by rw [f1]; exact hst.cache, by rw [f2]; exact hst.ctxErr, LogOK_enter idx hst.log hact hcur⟩,
    by rw [f4]; exact ActOK_enter hact idx⟩

def posInv (cfg : Cfg) (henv : ∀ g' ∈ cfg.env, g'.Core (TermGood cfg)) : RunInv cfg where
  Sc g := g.Core (TermGood cfg)
  In := InFile cfg.file
  A := ActOK
  S := StOK cfg
  N _ pos x := x.pos = pos ∧ x.WF cfg.hi
  E pos _ e := pos ≤ e.pos ∧ e.pos ≤ cfg.hi
  Ch _ p0 ns p := Chain cfg.hi ns p0 p
  scope := ⟨fun hg hk => hg.kid hk, henv⟩
  positions :=
    { adv := fun _ hin h => ⟨Nat.le_trans hin.1 (h.1 ▸ (Node.WF_bounds cfg.hi _ h.2).1), (Node.WF_bounds cfg.hi _ h.2).2⟩
      ws := fun _ hg => hg.elim
      actAdv := fun _ _ h hA => ActOK_next hA _ (h.1 ▸ (Node.WF_bounds cfg.hi _ h.2).1)
      actWs := fun _ hg => hg.elim
      actEnter := fun _ h => ActOK_enter h _ }
  trees :=
    { term := fun hg hin h => ((show TermGood cfg _ from hg) _ hin).1 _ h
      empty := fun _ hin => ⟨rfl, hin.2⟩
      eof := fun _ hin _ => ⟨rfl, hin.2⟩
      ref := fun _ _ h => h
      memo := fun _ h => h
      any := fun _ _ h => h
      choice := fun _ _ h => h
      pass := fun hg hw _ _ _ _ h => (G.Core.wrap hg hw).2 ▸ h
      optNone := fun _ hin => ⟨rfl, hin.2⟩
      single := fun {_ pos tk c p r i} _ h => by
        have hw' := Chain_cons.mp (Node.WF_nt.mp h.2)
        exact ⟨hw'.1.trans h.1, hw'.2.1⟩
      rkeep := fun hg => hg.elim
      rtrim := fun hg => hg.elim
      chNil := fun _ _ hin => ⟨rfl, hin.2⟩
      chSnoc := fun _ _ _ h hn => Chain_append cfg.hi _ _ _ _ h hn.1 hn.2
      chEmit := fun _ _ _ h => handleResult_ok cfg.hi _ _ _ _ h }
  errors :=
    { mono := fun _ h => h
      term := fun _ hg hin h => ((show TermGood cfg _ from hg) _ hin).2 _ h
      eof := fun _ _ hin => ⟨Nat.le_refl _, hin.2⟩
      panic := fun _ hin _ => ⟨Nat.le_refl _, hin.2⟩
      nilRef := fun _ hin _ => ⟨Nat.le_refl _, hin.2⟩
      rename := fun _ _ hin _ _ _ => ⟨Nat.le_refl _, hin.2⟩
      create := fun _ hin _ _ _ => ⟨Nat.le_refl _, hin.2⟩
      back := fun _ _ hc h => ⟨Nat.le_trans (Chain_bounds cfg.hi _ _ _ hc).1 h.1, h.2⟩
      ltrim := fun hg => hg.elim
      reloc := fun hg => hg.elim
      ws := fun hg => hg.elim
      rmove := fun hg => hg.elim
      rws := fun hg => hg.elim }
  states :=
    { regCall := StOK_regCall
      logEv := fun ev h hev => StOK_logEv_notBody h ev hev
      setError := fun hin hst he =>
        StOK_setError hst _ (fun er her => ⟨Nat.le_trans hin.1 (he er her).1, (he er her).2⟩)
      enter := fun _ hin hst hact hcur => (Pre_memoEnter ⟨hin, hst, hact⟩ hcur).2.1
      leave := fun _ hin hst hn he _ =>
        ⟨fun e hm => (mem_cacheSave hm).elim (fun h1 => h1 ▸ ⟨hin, hn, he⟩) (hst.cache e), hst.ctxErr, hst.log⟩
      hit := fun _ hst hc => by
        obtain ⟨hm, _, hp⟩ := cacheGet_some hc
        exact ⟨hp ▸ (hst.cache _ hm).nodes, hp ▸ (hst.cache _ hm).err, trivial⟩ }

theorem RunPosOK.of_inv {cfg : Cfg} {henv : ∀ g' ∈ cfg.env, g'.Core (TermGood cfg)} {r : RunFn}
    (h : (posInv cfg henv).OK r) : RunPosOK cfg r :=
  fun g ctx pos st o st' hg hpre hr =>
    have hp := h g ctx pos st o st' hg hpre hr
    ⟨hp.nodes, hp.err, hp.st, hp.active, hp.calls⟩

theorem run_pos (cfg : Cfg) (henv : ∀ g' ∈ cfg.env, g'.Core (TermGood cfg)) :
    ∀ fuel, RunPosOK cfg (run cfg fuel) :=
  fun fuel => .of_inv (henv := henv) (RunInv.run fuel)

end PV
