/-
  `run` computes the big-step semantics `Big` (Spec/BigStep.lean) — once, for a variable reason why Memoize is faithful.

  Every operator but Memoize computes its `Big` rule from the `Big` results of the calls it makes, whatever the
  left-recursion context, the cache and the log are.  Memoize alone needs a reason: a hit must return an exact entry and
  the curtailment branch must be impossible.  `Big.Walk` is what such a reason has to provide: which calls are in scope
  (`Sc`, handed DOWN to the sub-calls; `Fr` inside a Sequence), what the cache holds (`I`, handed FORWARD from call to
  call), what is known of the state the whole run ends in (`N`, handed BACK to earlier calls along `Grow`), whether empty
  curtailing sets are promised as well (`K`), and the Memoize step itself (`memo`).  `Walk.step` is one level of `run`,
  `Walk.run_ok` the lift over the fuel.

  Instances: `Big.logWalk` here (`run_big`: nothing was curtailed because the ghost log of the whole run says so; the cache
  invariant is "every entry (idx, pos) holds the exact result of the body of Memoize `idx` at `pos`", `Big.CacheBig`),
  `Strat.lowWalk` (Proofs/StratLow.lean: the certificate of stratum 0 says so), `Big.plainWalk` (Props/C01B.lean: there is
  no Memoize).
-/
import ParsleyVerif.Spec.BigStep
import ParsleyVerif.Proofs.MemoBasics
namespace PV
open PV.Text

namespace Big

/-- the scope of the theorem, locally: one parser per Memoize index; LeftTrim in the mode in which
    whitespace is always acceptable (`text.WsSpacesNl`) -/
def OKLocal (bodyOf : Nat → G) : G → Prop
  | .memo i g => g = bodyOf i
  | .ltrim _ m => m = .spacesNl
  | _ => True

def InScope (bodyOf : Nat → G) (g : G) : Prop := g.All (OKLocal bodyOf)

/-- every cache entry holds the exact result (and the error bit) of its parser at its position -/
def CacheBig (cfg : Cfg) (bodyOf : Nat → G) (st : St) : Prop :=
  ∀ e ∈ st.cache, Big cfg (bodyOf e.idx) e.pos e.res e.err.isSome

def altFlag (a : AltSt) : Bool := a.err.isSome || a.nf.isSome

theorem altFlag_altErr (pos : Nat) (a : AltSt) (e : Option Err) :
    altFlag (altErr pos a e) = (altFlag a || e.isSome) := by
  cases e with
  | none => simp [altErr_none]
  | some e2 =>
    rcases altErr_some_cases pos a e2 with ⟨h, _⟩ | ⟨h, _⟩ | ⟨h, c, hc, _⟩ <;> rw [h] <;> simp [altFlag]
    exact .inl (by rw [hc]; rfl)

theorem altFlag_final (a : AltSt) :
    (match a.err with | some e => some e | none => a.nf).isSome = altFlag a := by
  unfold altFlag
  cases a.err <;> simp

theorem altFlag_cp (a : AltSt) (cp : List Nat) : altFlag { a with cp := cp } = altFlag a := rfl

theorem foldEmit_append (acc : Res) (a b : List Node) : foldEmit acc (a ++ b) = foldEmit (foldEmit acc a) b := by
  unfold foldEmit
  rw [List.foldl_append]

theorem seqAfter_fields (merge : Bool) (ss : SeqSt) (o : Out) :
    (seqAfter merge ss o).result = ss.result ∧ (seqAfter merge ss o).err.isSome = (ss.err.isSome || o.err.isSome) := by
  unfold seqAfter
  cases merge <;> simp [pickErr_isSome]

theorem seqExit_eq {fr : Frame} (hd : fr.depth = fr.nodes.length) : seqExit fr = lastIsEOF fr.nodes := by
  unfold seqExit lastIsEOF
  split
  · rfl
  · rw [List.length_eq_zero_iff.mp (by omega : fr.nodes.length = 0)]; rfl

theorem seqEmit_result (sh : SeqShape) {fr : Frame} (hd : fr.depth = fr.nodes.length) (ss : SeqSt) :
    (seqEmit sh fr ss).result = foldEmit ss.result [handleResult sh fr.pos fr.nodes] := by
  unfold seqEmit
  rw [emitNodes_eq fr hd]; rfl

theorem seqFinish_big (sh : SeqShape) (pos : Nat) (ss : SeqSt) (st : St) :
    (seqFinish sh pos ss st).1.res = ss.result ∧
    (seqFinish sh pos ss st).1.err.isSome = (ss.result.isNil && ss.err.isSome) := by
  rcases seqFinish_cases sh pos ss st with ⟨hn, err, ho, he⟩ | ⟨hn, ho⟩ <;> rw [ho, hn]
  · refine ⟨((isNil_iff _).mp hn).symm, ?_⟩
    rcases he with rfl | ⟨e, nm, hse, _, _, _, rfl⟩
    · rw [Bool.true_and]
    · rw [hse]; rfl
  · exact ⟨rfl, rfl⟩

theorem nameOut_big (pos : Nat) (nm : Bytes) (o : Out) :
    (nameOut pos nm o).err.isSome = (o.err.isSome || o.res.isNil) ∧
    (nameOut pos nm o).res = (if (o.err.isSome || o.res.isNil) = true then Res.nil else o.res) := by
  rcases nameOut_cases pos nm o with ⟨e, he, h⟩ | ⟨he, hn, h⟩ | ⟨he, hn, h⟩ <;> rw [h, he] <;> simp [*]

theorem singleOut_big (o : Out) :
    (singleOut o).err.isSome = o.err.isSome ∧
    (singleOut o).res = (if o.err.isSome = true then Res.nil else unwrapSingle o.res) := by
  obtain ⟨res, cp, err⟩ := o
  cases err with
  | some e => simp [singleOut]
  | none =>
    simp only [singleOut]
    split
    · simp [unwrapSingle]
    · rename_i hx
      simp only [Option.isSome_none, Bool.false_eq_true, ↓reduceIte, true_and]
      unfold unwrapSingle
      split
      · rename_i tk c p r i
        exact absurd rfl (hx tk c p r i)
      · rfl

theorem rtrimOut_big (f : File) (m : WsMode) (o : Out) :
    (rtrimOut f m o).res = (rtrimRes f m o.res o.err.isSome).1 ∧
    (rtrimOut f m o).err.isSome = (rtrimRes f m o.res o.err.isSome).2 := by
  unfold rtrimRes
  rcases rtrimOut_cases f m o with ⟨_, he, ho⟩ | ⟨he, _, hw, ho⟩ | ⟨he, hw, ho⟩ <;> rw [ho, he]
  · exact ⟨rfl, rfl⟩
  · rw [hw]; exact ⟨rfl, rfl⟩
  · rw [hw]; exact ⟨rfl, rfl⟩

theorem anyFinish_big (a : AltSt) (st : St) :
    (anyFinish a st).1.res = a.res ∧ (anyFinish a st).1.err.isSome = (a.res.isNil && altFlag a) := by
  rcases anyFinish_cases a st with ⟨hn, h⟩ | ⟨hn, h⟩ <;> rw [h, hn]
  · rw [Bool.true_and]
    exact ⟨((isNil_iff _).mp hn).symm, altFlag_final a⟩
  · exact ⟨rfl, rfl⟩

structure Walk (cfg : Cfg) where
  Sc : G → Ctx → Nat → Prop
  /-- inside the Sequence-family parser `g` called under `ctx0` -/
  Fr : G → Ctx → Frame → Prop
  I : St → Prop
  N : St → Prop
  K : Prop
  i_frame : ∀ {st st' : St}, I st → st'.cache = st.cache → I st'
  n_grow : ∀ {st st' : St}, Grow st st' → N st' → N st
  ref : ∀ {k g' ctx pos}, Sc (.ref k) ctx pos → cfg.env[k]? = some g' → Sc g' ctx pos
  any : ∀ {gs g' ctx pos}, Sc (.any gs) ctx pos → g' ∈ gs → Sc g' ctx pos
  choice : ∀ {gs g' ctx pos}, Sc (.choice gs) ctx pos → g' ∈ gs → Sc g' ctx pos
  wrap : ∀ {g w ctx pos}, Sc g ctx pos → g.wrap cfg.file pos = some w → Sc w.child ctx w.cpos
  ltrim : ∀ {g m ctx pos}, Sc (.ltrim g m) ctx pos → m = .spacesNl
  fr_init : ∀ {g sh ctx pos}, Sc g ctx pos → g.shape = some sh → Fr g ctx ⟨0, [], ctx, pos, true⟩
  fr_call : ∀ {g sh ctx0 fr g'}, Fr g ctx0 fr → g.shape = some sh → sh.lookup fr.depth = some g' → Sc g' fr.ctx fr.pos
  /-- the exact result of element `fr.depth` is known when the enumeration goes on below one of its alternatives -/
  fr_next : ∀ {g sh ctx0 fr g' R e n}, Fr g ctx0 fr → g.shape = some sh → sh.lookup fr.depth = some g' →
    Big cfg g' fr.pos R e → n ∈ R.alts → Fr g ctx0 (fr.next n)
  memo : ∀ {r : RunFn}, RunGrow r →
    (∀ g ctx pos st o st', Sc g ctx pos → r g ctx pos st = some (o, st') → N st' → I st →
      Big cfg g pos o.res o.err.isSome ∧ I st' ∧ (K → o.cp = [])) →
    ∀ {i b ctx pos st o st'}, Sc (.memo i b) ctx pos → memoStep cfg r i b ctx pos st = some (o, st') → N st' → I st →
      Big cfg (.memo i b) pos o.res o.err.isSome ∧ I st' ∧ (K → o.cp = [])

namespace Walk
variable {cfg : Cfg} (W : Walk cfg)

def Run (r : RunFn) : Prop :=
  ∀ g ctx pos st o st', W.Sc g ctx pos → r g ctx pos st = some (o, st') → W.N st' → W.I st →
    Big cfg g pos o.res o.err.isSome ∧ W.I st' ∧ (W.K → o.cp = [])

variable {W}

theorem anyLoop_ok {r : RunFn} (hr : W.Run r) (hg : RunGrow r) (ctx : Ctx) (pos : Nat) :
    ∀ (gs : List G) a st a' st', anyLoop r ctx pos gs a st = some (a', st') → (∀ g ∈ gs, W.Sc g ctx pos) →
      W.N st' → W.I st → (W.K → a.cp = []) →
      W.I st' ∧ (W.K → a'.cp = []) ∧ ∃ e, BigAny cfg gs pos a.res a'.res e ∧ altFlag a' = (altFlag a || e) := by
  refine anyLoop_elim r ctx pos ?_ ?_
  · exact fun a st _ _ hc hcp => ⟨hc, hcp, false, .nil, by simp⟩
  · intro g gs a st o st1 a' st' hrun h ih hall hn hc hcp
    obtain ⟨hb, hc1, ho⟩ := hr g ctx pos _ o st1 (hall g (List.mem_cons_self ..)) hrun
      (W.n_grow (anyLoop_grow hg _ _ _ _ _ _ _ h) hn) (W.i_frame hc rfl)
    obtain ⟨f1, f2, _, _⟩ := altErr_fields pos { a with cp := cpUnion a.cp o.cp, res := appendNode a.res o.res } o.err
    obtain ⟨hc2, hcp2, e2, hb2, hf2⟩ := ih (fun g' hg' => hall g' (List.mem_cons_of_mem _ hg')) hn hc1
      (fun k => by rw [f1]; simp only [hcp k, ho k]; exact cpUnion_nil_left [])
    rw [f2] at hb2
    refine ⟨hc2, hcp2, o.err.isSome || e2, .cons hb hb2, ?_⟩
    rw [hf2, altFlag_altErr]
    simp only [altFlag, Bool.or_assoc]

theorem choiceLoop_ok {r : RunFn} (hr : W.Run r) (hg : RunGrow r) (ctx : Ctx) (pos : Nat) :
    ∀ (gs : List G) a st out a' st', choiceLoop r ctx pos gs a st = some (out, a', st') → (∀ g ∈ gs, W.Sc g ctx pos) →
      W.N st' → W.I st → (W.K → a.cp = []) →
      W.I st' ∧ (W.K → a'.cp = []) ∧ ∃ R e, BigChoice cfg gs pos R e ∧
        (match out with
         | some o => o.res = R ∧ R.isNil = false ∧ o.err = none ∧ e = false ∧ (W.K → o.cp = [])
         | none => R = .nil ∧ altFlag a' = (altFlag a || e)) := by
  have hcp1 : ∀ {a : AltSt} {o : Out}, (W.K → a.cp = []) → (W.K → o.cp = []) → W.K →
      (altErr pos { a with cp := cpUnion a.cp o.cp } o.err).cp = [] := fun hcp ho k => by
    rw [(altErr_fields pos _ _).1]; simp only [hcp k, ho k]; exact cpUnion_nil_left []
  refine choiceLoop_elim r ctx pos ?_ ?_ ?_
  · exact fun a st _ _ hc hcp => ⟨hc, hcp, .nil, false, .nil, rfl, by simp⟩
  · intro g gs a st o st1 hrun hn' hall hn hc hcp
    obtain ⟨hb, hc1, ho⟩ := hr g ctx pos _ o st1 (hall g (List.mem_cons_self ..)) hrun
      (W.n_grow (Grow.setError _ _) hn) (W.i_frame hc rfl)
    exact ⟨W.i_frame hc1 (setError_cache _ _), hcp1 hcp ho, o.res, false, .hit hb hn', rfl, hn', rfl, rfl, hcp1 hcp ho⟩
  · intro g gs a st o st1 out a' st' hrun hnil h ih hall hn hc hcp
    obtain ⟨hb, hc1, ho⟩ := hr g ctx pos _ o st1 (hall g (List.mem_cons_self ..)) hrun
      (W.n_grow (choiceLoop_grow hg _ _ _ _ _ _ _ _ h) hn) (W.i_frame hc rfl)
    obtain ⟨hc2, hcp2, R, e2, hb2, hout⟩ := ih (fun g' hg' => hall g' (List.mem_cons_of_mem _ hg')) hn hc1 (hcp1 hcp ho)
    rw [(isNil_iff _).mp hnil] at hb
    refine ⟨hc2, hcp2, R, (R.isNil && o.err.isSome) || e2, .skip hb hb2, ?_⟩
    cases out with
    | some o2 =>
      obtain ⟨h1, h2, h3, h4, h5⟩ := hout
      exact ⟨h1, h2, h3, by simp [h2, h4], h5⟩
    | none =>
      obtain ⟨h1, h2⟩ := hout
      refine ⟨h1, ?_⟩
      rw [h2, altFlag_altErr, altFlag_cp, h1]
      simp [Res.isNil, Bool.or_assoc]

/-- what `BigSeq`, the accumulated result, the error bit, the curtailing set and the cache say after a call into the
    enumeration -/
def SeqOK (W : Walk cfg) (J : List Node → Bool → Bool → Prop) (ss : SeqSt) (b : Bool) (ss' : SeqSt) (st' : St) : Prop :=
  W.I st' ∧ (W.K → ss'.cp = []) ∧ ∃ em e, J em b e ∧ ss'.result = foldEmit ss.result em ∧
    ss'.err.isSome = (ss.err.isSome || e)

theorem seqAlts_ok (sh : SeqShape) (depth : Nat) (nodes : List Node)
    (k : Node → SeqSt → St → Option (Bool × SeqSt × St))
    (hgk : ∀ n ss st b ss' st', k n ss st = some (b, ss', st') → Grow st st') :
    ∀ (l : List Node) ss st b ss' st', seqAlts k l ss st = some (b, ss', st') →
      (∀ n ∈ l, ∀ ss st b ss' st', k n ss st = some (b, ss', st') → W.N st' → W.I st → (W.K → ss.cp = []) →
        W.SeqOK (BigSeq cfg sh (depth + 1) (nodes ++ [n]) n.rpos) ss b ss' st') →
      W.N st' → W.I st → (W.K → ss.cp = []) → W.SeqOK (BigAlts cfg sh depth nodes l) ss b ss' st' := by
  refine seqAlts_elim k ?_ ?_ ?_
  · exact fun ss st _ _ hc hcp => ⟨hc, hcp, [], false, .nil, rfl, by simp⟩
  · intro n rest ss st ss' st' hk1 hk hn hc hcp
    obtain ⟨hc1, hcp1, em, e, hb, hres, herr⟩ := hk n (List.mem_cons_self ..) _ _ _ _ _ hk1 hn hc hcp
    exact ⟨hc1, hcp1, em, e, .stop hb, hres, herr⟩
  · intro n rest ss st ss1 st1 b ss' st' hk1 h ih hk hn hc hcp
    obtain ⟨hc1, hcp1, em1, e1, hb1, hres1, herr1⟩ :=
      hk n (List.mem_cons_self ..) _ _ _ _ _ hk1 (W.n_grow (seqAlts_grow k hgk rest _ _ _ _ _ h) hn) hc hcp
    obtain ⟨hc2, hcp2, em2, e2, hb2, hres2, herr2⟩ := ih (fun n' hn' => hk n' (List.mem_cons_of_mem _ hn')) hn hc1 hcp1
    refine ⟨hc2, hcp2, em1 ++ em2, e1 || e2, .next hb1 hb2, ?_, ?_⟩
    · rw [foldEmit_append, ← hres1, hres2]
    · rw [herr2, herr1, Bool.or_assoc]

theorem seqParse_ok {r : RunFn} (hr : W.Run r) (hg : RunGrow r) (g : G) (sh : SeqShape) (hs : g.shape = some sh)
    (ctx0 : Ctx) :
    ∀ fuel (fr : Frame) ss st b ss' st', fr.depth = fr.nodes.length → W.Fr g ctx0 fr →
      seqParse r sh fuel fr.depth fr.nodes fr.ctx fr.pos fr.merge ss st = some (b, ss', st') → W.N st' → W.I st →
      (W.K → ss.cp = []) → W.SeqOK (BigSeq cfg sh fr.depth fr.nodes fr.pos) ss b ss' st' := by
  intro fuel
  induction fuel with
  | zero => intro fr ss st b ss' st' _ _ h; cases h
  | succ fuel ih =>
    intro fr ss st b ss' st' hd hfr h hn hc hcp
    rw [seqParse_deeper] at h
    split at h
    · cases h
    · rename_i o st1 hcall
      obtain ⟨haf1, haf2⟩ := seqAfter_fields fr.merge ss o
      -- the call of element `depth`: the exact result of the element, or nothing when the elements are used up
      have hp : Grow st1 st' → W.I st1 ∧ (W.K → o.cp = []) ∧
          ((∃ g', sh.lookup fr.depth = some g' ∧ Big cfg g' fr.pos o.res o.err.isSome) ∨
            (sh.lookup fr.depth = none ∧ o.res = .nil ∧ o.err = none)) := by
        intro htail
        unfold seqCall at hcall
        split at hcall
        · rename_i g' hl
          obtain ⟨hb, hc1, ho⟩ := hr g' fr.ctx fr.pos _ o st1 (W.fr_call hfr hs hl) hcall (W.n_grow htail hn)
            (W.i_frame hc rfl)
          exact ⟨hc1, ho, .inl ⟨g', hl, hb⟩⟩
        · cases hcall; exact ⟨hc, fun _ => rfl, .inr ⟨‹_›, rfl, rfl⟩⟩
      split at h
      · -- element `depth` is missing or yields nothing: the chain is emitted if its length is accepted
        rename_i hnil
        have hst : st' = st1 := by split at h <;> cases h <;> rfl
        obtain ⟨hc1, ho, hel⟩ := hp (hst ▸ Grow.refl _)
        have hcpA : W.K → (seqAfter fr.merge ss o).cp = [] := fun k => seqAfter_cp_nil fr.merge ss o (hcp k) (ho k)
        have hJ : BigSeq cfg sh fr.depth fr.nodes fr.pos
            (if sh.lenCheck fr.depth then [handleResult sh fr.pos fr.nodes] else [])
            (sh.lenCheck fr.depth && lastIsEOF fr.nodes) o.err.isSome := by
          rcases hel with ⟨g', hl, hb⟩ | ⟨hl, _, he⟩
          · rw [(isNil_iff _).mp hnil] at hb; exact .fail hl hb
          · rw [he]; exact .last hl
        split at h <;> cases h <;> rename_i hlc
        · rw [if_pos hlc, hlc, Bool.true_and, ← seqExit_eq hd] at hJ
          exact ⟨hc1, hcpA, _, _, hJ, by rw [seqEmit_result sh hd, haf1], haf2⟩
        · rw [if_neg hlc, Bool.eq_false_iff.mpr hlc, Bool.false_and] at hJ
          exact ⟨hc1, hcpA, _, _, hJ, haf1, haf2⟩
      · rename_i hnil
        have hgk : ∀ n ss2 st2 b2 ss3 st3, seqParse r sh fuel (fr.depth + 1) (fr.nodes ++ [n])
            (if n.rpos > fr.pos then [] else fr.ctx) n.rpos (fr.merge && !decide (n.rpos > fr.pos)) ss2 st2 =
              some (b2, ss3, st3) → Grow st2 st3 := fun n ss2 st2 b2 ss3 st3 hk =>
          seqParse_grow hg sh fuel (fr.next n) ss2 st2 b2 ss3 st3 (Frame.next_depth hd _) hk
        obtain ⟨hc1, ho, hel⟩ := hp (seqAlts_grow _ hgk _ _ _ _ _ _ h)
        have hcpA : W.K → (seqAfter fr.merge ss o).cp = [] := fun k => seqAfter_cp_nil fr.merge ss o (hcp k) (ho k)
        obtain ⟨g', hl, hb⟩ : ∃ g', sh.lookup fr.depth = some g' ∧ Big cfg g' fr.pos o.res o.err.isSome := by
          rcases hel with h1 | ⟨_, h1, _⟩
          · exact h1
          · rw [h1] at hnil; exact absurd rfl hnil
        obtain ⟨hc2, hcp2, em, e2, hb2, hres2, herr2⟩ := seqAlts_ok (W := W) sh fr.depth fr.nodes _ hgk o.res.alts
          _ _ _ _ _ h (fun n hnm ss2 st2 b2 ss3 st3 hk hn2 hc2 hcp2 =>
            ih (fr.next n) ss2 st2 b2 ss3 st3 (Frame.next_depth hd _) (W.fr_next hfr hs hl hb hnm) hk hn2 hc2 hcp2)
          hn hc1 hcpA
        refine ⟨hc2, hcp2, em, o.err.isSome || e2, .step hl hb (by simpa using hnil) hb2, by rw [hres2, haf1], ?_⟩
        rw [herr2, haf2, Bool.or_assoc]

theorem step {r : RunFn} (hr : W.Run r) (hgrow : RunGrow r) (fuel : Nat) : W.Run (runStep cfg r fuel) := by
  intro g ctx pos st o st' hg h hn hc
  cases g using G.shapes cfg.file pos with
  | term t =>
    obtain ⟨rfl, rfl⟩ := Prod.ext_iff.mp (Option.some.inj h).symm
    rcases termStep_cases cfg t pos st with ⟨n, hp, e⟩ | ⟨_, hp, e⟩ | ⟨_, hp, e⟩ <;> rw [e]
    · exact ⟨.termOk hp, hc, fun _ => rfl⟩
    · exact ⟨.termFail (by intro n hn; rw [hp] at hn; cases hn), W.i_frame hc (logEv_fields st cfg _).1, fun _ => rfl⟩
    · exact ⟨.termFail (by intro n hn; rw [hp] at hn; cases hn), hc, fun _ => rfl⟩
  | empty => cases h; exact ⟨.empty, hc, fun _ => rfl⟩
  | eof =>
    obtain ⟨rfl, rfl⟩ := Prod.ext_iff.mp (Option.some.inj h).symm
    rcases eofStep_cases cfg pos st with ⟨he, e⟩ | ⟨he, e⟩ <;> rw [e]
    · exact ⟨.eofOk he, hc, fun _ => rfl⟩
    · exact ⟨.eofFail he, W.i_frame hc (logEv_fields st cfg _).1, fun _ => rfl⟩
  | ref k =>
    rcases runStep_ref_some h with ⟨g', hk, h1⟩ | ⟨hk, h1⟩
    · obtain ⟨hb, hc1, ho⟩ := hr g' ctx pos st o st' (W.ref hg hk) h1 hn hc
      exact ⟨.ref hk hb, hc1, ho⟩
    · cases h1; exact ⟨.refNone hk, hc, fun _ => rfl⟩
  | memo idx body => exact W.memo hgrow hr hg h hn hc
  | any gs =>
    obtain ⟨a, st1, hl, hx⟩ := runStep_any_some h
    obtain ⟨rfl, rfl⟩ := Prod.ext_iff.mp hx
    have hfin := anyFinish_st a st1
    obtain ⟨hcache, _, _, _⟩ := St.frame_of_or hfin
    obtain ⟨hc1, hcp1, e, hb, hf⟩ := anyLoop_ok hr hgrow ctx pos gs {} st a st1 hl (fun g' hg' => W.any hg hg')
      (W.n_grow (.of_or hfin) hn) hc (fun _ => rfl)
    have hf' : altFlag a = e := hf
    obtain ⟨r1, r2⟩ := anyFinish_big a st1
    rw [r1, r2, hf']
    refine ⟨.any hb rfl, W.i_frame hc1 hcache, ?_⟩
    rcases anyFinish_cases a st1 with ⟨_, e⟩ | ⟨_, e⟩ <;> rw [e] <;> exact hcp1
  | choice gs =>
    obtain ⟨⟨out, a, st1⟩, hl, hx⟩ := runStep_choice_some h
    obtain ⟨rfl, rfl⟩ := Prod.ext_iff.mp hx
    rw [choiceFinish_st] at hn ⊢
    obtain ⟨hc1, hcp1, R, e, hb, hout⟩ := choiceLoop_ok hr hgrow ctx pos gs {} st out a st1 hl
      (fun g' hg' => W.choice hg hg') hn hc (fun _ => rfl)
    cases out with
    | some o2 =>
      obtain ⟨h1, _, h3, h4, h5⟩ := hout
      refine ⟨?_, hc1, h5⟩
      show Big cfg _ pos o2.res o2.err.isSome
      rw [h1, h3]
      subst h4
      exact .choice hb
    | none =>
      obtain ⟨h1, h2⟩ := hout
      have h2' : altFlag a = e := h2
      refine ⟨?_, hc1, hcp1⟩
      show Big cfg _ pos .nil a.finalErr.isSome
      rw [← h1, show a.finalErr.isSome = e from (altFlag_final a).trans h2']
      exact .choice hb
  | wrap g w hw =>
    obtain ⟨o1, st1, hrun, hx⟩ := runStep_wrap_some hw h
    cases hx
    obtain ⟨hb, hc1, ho⟩ := hr _ _ _ _ _ _ (W.wrap hg hw) hrun hn hc
    refine ⟨?_, hc1, fun k => wrap_out_cp hw o1 (ho k)⟩
    cases g with
    | optional g' => cases hw; exact .optional hb
    | name g' nm =>
      cases hw
      obtain ⟨n1, n2⟩ := nameOut_big pos nm o1
      exact .name hb n1 (by rw [n2, n1])
    | single g' =>
      cases hw
      obtain ⟨n1, n2⟩ := singleOut_big o1
      show Big cfg _ pos (singleOut o1).res (singleOut o1).err.isSome
      rw [n1]
      exact .single hb n2
    | suppress g' => cases hw; exact .suppress hb
    | ltrim g' m =>
      have hm : m = .spacesNl := W.ltrim hg
      subst hm
      cases hw
      have hws := skipWhitespaces_spacesNl cfg.file pos
      show Big cfg _ pos
        (ltrimOut pos (skipWhitespaces cfg.file pos .spacesNl).1 (wsToErr (skipWhitespaces cfg.file pos .spacesNl).2) o1).res
        (ltrimOut pos (skipWhitespaces cfg.file pos .spacesNl).1 (wsToErr (skipWhitespaces cfg.file pos .spacesNl).2) o1).err.isSome
      rw [hws, wsToErr, ltrimOut_none]
      exact .ltrimOk hws hb
    | rtrim g' m =>
      cases hw
      obtain ⟨n1, n2⟩ := rtrimOut_big cfg.file m o1
      exact .rtrim hb n1 n2
    | _ => cases hw
  | seq g sh hsh =>
    obtain ⟨b, ss, st1, hsp, hx⟩ := runStep_seq_some hsh h
    obtain ⟨rfl, rfl⟩ := Prod.ext_iff.mp hx
    obtain ⟨hcp, hfin⟩ := seqFinish_fields sh pos ss st1
    obtain ⟨hcache, _, _, _⟩ := St.frame_of_or hfin
    obtain ⟨hf1, hf2⟩ := seqFinish_big sh pos ss st1
    obtain ⟨hc1, hcp1, em, e, hb, hres, herr⟩ := seqParse_ok hr hgrow g sh hsh ctx fuel ⟨0, [], ctx, pos, true⟩ {} st b ss st1
      rfl (W.fr_init hg hsh) hsp (W.n_grow (.of_or hfin) hn) hc (fun _ => rfl)
    refine ⟨.seqfam hsh hb (by rw [hf1, hres]) ?_, W.i_frame hc1 hcache, fun k => hcp ▸ hcp1 k⟩
    rw [hf2, hf1, herr]
    rfl

theorem run_ok : ∀ fuel, W.Run (run cfg fuel) := by
  intro fuel
  induction fuel with
  | zero => intro g ctx pos st o st' _ h; cases h
  | succ fuel ih =>
    intro g ctx pos st o st' hg h
    exact step ih (run_grow cfg _) _ g ctx pos st o st' hg (run_some_step h)

end Walk

/-- nothing is curtailed because the log of the whole run says so (`cfg.ghost = true`); every entry is exact -/
def logWalk (cfg : Cfg) (hgh : cfg.ghost = true) (bodyOf : Nat → G) (henv : ∀ g' ∈ cfg.env, InScope bodyOf g') :
    Walk cfg where
  Sc g _ _ := InScope bodyOf g
  Fr g _ _ := InScope bodyOf g
  I := CacheBig cfg bodyOf
  N st := NoCurtail st.log
  K := False
  i_frame h hc := cacheAll_of_eq h hc
  n_grow h hn := hn.of_suffix h.log
  ref _ hk := henv _ (List.mem_of_getElem? hk)
  any hg hm := AllList_mem hg.2 _ hm
  choice hg hm := AllList_mem hg.2 _ hm
  wrap hg hw := hg.wrap hw
  ltrim hg := G.All_self hg
  fr_init hg _ := hg
  fr_call hg hs hl := shape_lookup_all hg hs _ _ hl
  fr_next hg _ _ _ _ := hg
  memo := by
    intro r _ hr idx body ctx pos st o st' hg h hnc hc
    obtain ⟨hbody, hgb⟩ : body = bodyOf idx ∧ InScope bodyOf body := hg
    rcases memoStep_some h with ⟨e, hcg, h1⟩ | ⟨_, _, h1⟩ | ⟨_, _, o2, st2, hrun, h1⟩
    · cases h1
      obtain ⟨hm, hi, hp⟩ := cacheGet_some hcg
      have := hc e hm
      rw [hi, hp, ← hbody] at this
      exact ⟨.memo this, cacheAll_of_eq hc (logEv_fields st cfg _).1, nofun⟩
    · cases h1
      rw [logEv_ghost hgh] at hnc
      exact absurd (List.mem_cons_self ..) (hnc idx pos)
    · cases h1
      obtain ⟨hb, hc1, _⟩ := hr _ _ _ _ _ _ hgb hrun hnc (cacheAll_of_eq hc (memoEnter_frame cfg idx pos st).1)
      refine ⟨.memo hb, ?_, nofun⟩
      intro e he
      cases mem_cacheSave he with
      | inl h3 => subst h3; rw [← hbody]; exact hb
      | inr h3 => exact hc1 e h3

theorem run_big (cfg : Cfg) (hgh : cfg.ghost = true) (bodyOf : Nat → G) (henv : ∀ g' ∈ cfg.env, InScope bodyOf g') :
    ∀ fuel g ctx pos st o st', InScope bodyOf g → run cfg fuel g ctx pos st = some (o, st') → NoCurtail st'.log →
      CacheBig cfg bodyOf st → Big cfg g pos o.res o.err.isSome ∧ CacheBig cfg bodyOf st' := fun fuel g ctx pos st o st' hg h hnc hc =>
  let ⟨hb, hc1, _⟩ := (logWalk cfg hgh bodyOf henv).run_ok fuel g ctx pos st o st' hg h hnc hc
  ⟨hb, hc1⟩


end Big

end PV
