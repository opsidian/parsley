/-
  C17: Sentence over the answer of rule 0, said in the terms in which a family knows that answer — the end positions of the
  alternatives and the length of the input (a file at base offset 1): `End` is tried behind every alternative up to the first
  that ends where the input ends.
-/
import ParsleyVerif.Proofs.CallsRuns
namespace PV.C17b
open PV.Text PV.C17

variable {cfg : Cfg}

theorem remaining_one {f : File} (hoff : f.offset = 1) : remaining f 1 + Facts.curtailSlack = f.data.length + 1 := by
  rw [remaining, hoff, Nat.sub_self, Nat.sub_zero]; rfl

theorem isEOF_len {f : File} (hoff : f.offset = 1) (p : Nat) : isEOF f (p + 1) = decide (f.data.length ≤ p) := by
  rw [isEOF, hoff, Nat.add_sub_cancel]; rfl

/-- **Parse of Sentence(rule 0)** when the outermost activation of rule 0 answers with alternatives that end at `pre`, none of
    them behind the last byte, and then one that spans the input: `|pre| + 2` calls around it -/
theorem Runs.sentence_ends (h0 : cfg.maxCalls = 0) (hoff : cfg.file.offset = 1) (hlen : 0 < cfg.file.data.length) {R : G}
    (henv : cfg.env[0]? = some R) {F k : Nat} {L : List Node} {cp : List Nat} {Q : Cache → Prop} {pre tl : List Nat}
    (h : Runs cfg Z (F + 2) R [] 1 (· = []) L cp k Q) (hE : L.map Node.rpos = pre ++ (cfg.file.data.length + 1) :: tl)
    (hpre : ∀ p ∈ pre, 1 < p ∧ p ≤ cfg.file.data.length) :
    ∃ p, parse cfg (F + 4) (G.sentence (.ref 0)) = some p ∧ p.err = none ∧ p.res.isNil = false ∧
      p.st.calls = k + pre.length + 2 := by
  obtain ⟨pre', l2, rfl, m1, m2⟩ := List.map_eq_append_iff.mp hE
  obtain ⟨x, rest, rfl, hx, _⟩ := List.map_eq_cons_iff.mp m2
  obtain ⟨p, h1, h2, h3, h4⟩ := Runs.sentence_parse h0 (by rw [File.pos, hoff]) henv h
    (fun y hy => by
      obtain ⟨q, hq⟩ : ∃ q, y.rpos = q + 1 := ⟨y.rpos - 1, by have := hpre _ (m1 ▸ List.mem_map_of_mem hy); omega⟩
      have := hpre _ (m1 ▸ List.mem_map_of_mem hy)
      exact ⟨this.1, by rw [hq, isEOF_len hoff, decide_eq_false (by omega)]⟩)
    (by omega) (by rw [hx, isEOF_len hoff, decide_eq_true (Nat.le_refl _)])
  exact ⟨p, h1, h2, h3, by rw [h4, ← m1, List.length_map]⟩

end PV.C17b
