/-
  C02 TERMINATION: for every grammar accepted by the certificate — `wfT` (`EnvT`, `GWFT`: the whole combinator
  set, trims included, every built-in terminal) or `wf` (`EnvOK`, `GWF`), both through `EnvG` / `InScopeT` — and
  every state a parse can reach (`GoodT`), SOME fuel makes `run` answer.

  Well-founded descent on the lexicographic measure (`mu`; `halts` is recursion on it, `halts_step` one level of `run` with
  the calls at a smaller measure as its one hypothesis, each call naming the way it is smaller, `Smaller.*`)
     (hi − pos,  budget of the left-recursion context,  rank bound of the left references,  size of the parser):
  a call at a later position decreases the first component whatever its context; entering the body of a
  Memoize increments its counter, which is below the curtailing threshold, so the budget decreases;
  following an un-memoized left reference decreases the rank; everything else at the same position
  descends into a sub-parser at a left position.  Later elements of a sequence run at a later position
  unless every earlier element returned a zero-width node, in which case (soundness of `mayBeEmptyT`,
  `run_I`) they are left positions too; Many / SepBy iterations consume.
  The one-child combinators call their operand with the same context, at the same position — a sub-parser at a
  left position, whose left references are the combinator's — except `LeftTrim(p)` after it skipped whitespace:
  then the position increased and the first component decreases WHATEVER the context is — the counters that
  LeftTrim carries across the whitespace (Model/Run.lean) can only make curtailment come earlier.
-/
import ParsleyVerif.Proofs.WFCons
import ParsleyVerif.Proofs.RunMono
namespace PV
open PV.Text

/-- the budget of a left-recursion context: how often the bodies of the Memoize indexes in use may still be entered before
    curtailment, at a position whose threshold is below `cap` -/
def budget (M : List Nat) (ctx : Ctx) (cap : Nat) : Nat := (M.map (fun k => cap - ctx.get k)).sum

theorem sum_map_le (M : List Nat) (f f' : Nat → Nat) (hle : ∀ k, f' k ≤ f k) : (M.map f').sum ≤ (M.map f).sum := by
  induction M with
  | nil => simp
  | cons k M ih => simp only [List.map_cons, List.sum_cons]; have := hle k; omega

theorem sum_map_lt (M : List Nat) (f f' : Nat → Nat) (hle : ∀ k, f' k ≤ f k) (idx : Nat) (hm : idx ∈ M)
    (hlt : f' idx < f idx) : (M.map f').sum < (M.map f).sum := by
  induction M with
  | nil => cases hm
  | cons k M ih =>
    simp only [List.map_cons, List.sum_cons]
    cases hm with
    | head => have := sum_map_le M f f' hle; omega
    | tail _ hm' => have := ih hm'; have := hle k; omega

theorem budget_inc (M : List Nat) (ctx : Ctx) (cap idx : Nat) (hm : idx ∈ M) (hlt : ctx.get idx < cap) :
    budget M (ctx.inc idx) cap < budget M ctx cap := by
  unfold budget
  refine sum_map_lt M _ _ ?_ idx hm ?_
  · intro k
    by_cases hk : k = idx
    · subst hk; rw [Ctx.get_inc_self]; omega
    · rw [Ctx.get_inc_other _ _ _ hk]; exact Nat.le_refl _
  · show cap - (ctx.inc idx).get idx < cap - ctx.get idx
    rw [Ctx.get_inc_self]; omega

/-- one above the curtailing threshold at `pos`, so that "not curtailed" reads `ctx.get idx < capAt` and the budget
    strictly decreases when the body is entered (`budget_inc`) -/
def capAt (cfg : Cfg) (pos : Nat) : Nat := remaining cfg.file pos + Facts.curtailSlack + 1

end PV

namespace PV.WFT
open PV PV.Text

def LeftBound (rx : Nat → Bool) (c : WFCert) (r : Nat) (g : G) : Prop := ∀ k ∈ leftRefsT rx c g, c.rank k < r

theorem LeftBound_exists (rx : Nat → Bool) (c : WFCert) (g : G) : ∃ r, LeftBound rx c r g := by
  unfold LeftBound
  generalize leftRefsT rx c g = l
  induction l with
  | nil => exact ⟨0, fun k hk => by cases hk⟩
  | cons a l ih =>
    obtain ⟨r, hr⟩ := ih
    refine ⟨max r (c.rank a + 1), fun k hk => ?_⟩
    cases hk with
    | head => omega
    | tail _ hk' => have := hr k hk'; omega

theorem leftRefsAll_mem {rx : Nat → Bool} {c : WFCert} {gs : List G} {g : G} :
    g ∈ gs → ∀ k ∈ leftRefsT rx c g, k ∈ leftRefsAllT rx c gs :=
  mem_appendAll fun _ _ => rfl

theorem leftRefs_lookup {rx : Nat → Bool} {c : WFCert} {g : G} {sh : SeqShape} (hs : g.shape = some sh) (d : Nat) (gd : G)
    (hprev : ∀ i, i < d → ∀ gi, sh.lookup i = some gi → mayBeEmptyT rx c gi = true)
    (hl : sh.lookup d = some gd) : ∀ k ∈ leftRefsT rx c gd, k ∈ leftRefsT rx c g :=
  G.shape_left (fun _ _ _ _ => rfl) (fun _ _ _ => rfl) (fun _ _ _ _ => rfl) hs hprev hl

theorem wrap_leftRefs {rx : Nat → Bool} {c : WFCert} {f : File} {pos : Nat} {g : G} {w : Wrap}
    (hw : g.wrap f pos = some w) : leftRefsT rx c g = leftRefsT rx c w.child := by
  refine G.wrap_cases ?_ ?_ ?_ ?_ ?_ ?_ hw <;> intros <;> simp only [leftRefsT]

/-
  The measure of the element loop of a Sequence-family parser, on its frames.  A sequence of fixed length: the
  elements still to run.  Many / SepBy: twice the input left, plus 1 when the element about to run may be empty —
  an element that cannot be empty consumes, so the first summand drops by 2; one that may be empty can return where
  it started, but then the next element cannot be empty (Many's operand never is, value and separator of SepBy not
  both: `LocalT`), and the parity bit drops from 1 to 0 (`mu_dec`).
-/

def seqMu (rx : Nat → Bool) (c : WFCert) (hi : Nat) (g : G) (sh : SeqShape) (fr : Frame) : Nat :=
  match g with
  | .seq _ gs _ => gs.length - fr.depth
  | _ => 2 * (hi - fr.pos) +
      (match sh.lookup fr.depth with | some gd => if mayBeEmptyT rx c gd then 1 else 0 | none => 0)

/-- `a`, `b`: whether this element and the next may be empty -/
theorem mu_dec {a b : Bool} {pos rpos hi : Nat} (h1 : pos ≤ rpos) (h2 : rpos ≤ hi) (h3 : a = false → rpos > pos)
    (hab : ¬ (a = true ∧ b = true)) :
    2 * (hi - rpos) + (if b then 1 else 0) < 2 * (hi - pos) + (if a then 1 else 0) := by
  cases a <;> cases b <;> simp only [Bool.false_eq_true, ↓reduceIte, not_and, not_true_eq_false, imp_false,
    forall_const] at h3 hab ⊢ <;> omega

theorem seqMu_dec {rx : Nat → Bool} {c : WFCert} {g : G} {sh : SeqShape} (hs : g.shape = some sh)
    (hloc : LocalT rx c g) (hi : Nat) (fr : Frame) (gd : G) (hl : sh.lookup fr.depth = some gd) (n : Node)
    (h1 : fr.pos ≤ n.rpos) (h2 : n.rpos ≤ hi) (h3 : mayBeEmptyT rx c gd = false → n.rpos > fr.pos) :
    seqMu rx c hi g sh (fr.next n) < seqMu rx c hi g sh fr := by
  cases g with
  | seq k gs o =>
    cases hs
    have hlt : fr.depth < gs.length := (List.getElem?_eq_some_iff.mp hl).1
    simp only [seqMu, Frame.next]
    omega
  | many g1 ae o =>
    cases hs
    cases hl
    exact mu_dec h1 h2 h3 (fun h => by rw [show mayBeEmptyT rx c gd = false from hloc] at h; cases h.1)
  | sepBy v s ae o =>
    cases hs
    have hvs : ¬ (mayBeEmptyT rx c v = true ∧ mayBeEmptyT rx c s = true) := hloc
    simp only [seqMu, Frame.next]
    simp only at hl
    rcases Nat.mod_two_eq_zero_or_one fr.depth with hp | hp
    · have hp' : (fr.depth + 1) % 2 = 1 := by omega
      simp only [hp, hp', beq_self_eq_true, ↓reduceIte, Nat.reduceBEq, Bool.false_eq_true] at hl ⊢
      cases hl
      exact mu_dec h1 h2 h3 hvs
    · have hp' : (fr.depth + 1) % 2 = 0 := by omega
      simp only [hp, hp', beq_self_eq_true, ↓reduceIte, Nat.reduceBEq, Bool.false_eq_true] at hl ⊢
      cases hl
      exact mu_dec h1 h2 h3 (fun h => hvs ⟨h.2, h.1⟩)
  | _ => cases hs

/-- the hypotheses of the descent: the certificate's conditions on every rule, terminals that behave -/
structure EnvG (rx : Nat → Bool) (c : WFCert) (cfg : Cfg) : Prop where
  maxCalls : cfg.maxCalls = 0
  rules : ∀ g ∈ cfg.env, InScopeT rx c cfg g
  nullable : ∀ k g, cfg.env[k]? = some g → mayBeEmptyT rx c g = true → c.nullable k = true
  rank : ∀ k g, cfg.env[k]? = some g → ∀ k' ∈ leftRefsT rx c g, c.rank k' < c.rank k

theorem EnvG.toI {rx : Nat → Bool} {c : WFCert} {cfg : Cfg} (h : EnvG rx c cfg) : EnvI rx c cfg :=
  ⟨fun g hg => (h.rules g hg).weak, h.nullable⟩

theorem EnvT.toG {rx : Nat → Bool} {c : WFCert} {cfg : Cfg} (h : EnvT rx c cfg) : EnvG rx c cfg :=
  ⟨h.maxCalls, fun g hg => (h.rules g hg).termNode h.rxs, h.nullable, h.rank⟩

theorem _root_.PV.EnvOK.toG {c : WFCert} {cfg : Cfg} (h : EnvOK c cfg) : EnvG rxNone c cfg :=
  ⟨h.maxCalls, fun g hg => (h.rules g hg).inScopeT, h.toI.nullable,
    fun k g hk k' hk' => h.rank k g hk k' (by rw [← leftRefsT_false]; exact hk')⟩

def Halts (c : WFCert) (cfg : Cfg) (g : G) (ctx : Ctx) (pos : Nat) : Prop :=
  ∀ st, GoodT c cfg ctx pos st → ∃ f x, run cfg f g ctx pos st = some x

theorem GWFT_sub {rx : Nat → Bool} {c : WFCert} {g g' : G} (hg : GWFT rx c g)
    (h : g.All (LocalT rx c) → LocalT rx c g ∧ g'.All (LocalT rx c)) : GWFT rx c g' := (h hg).2

noncomputable abbrev mu (c : WFCert) (cfg : Cfg) (g : G) (ctx : Ctx) (pos r : Nat) : Nat × Nat × Nat × Nat :=
  (cfg.hi - pos, budget c.memos ctx (capAt cfg pos), r, sizeOf g)

/-- the four ways for a call to be smaller: at a later position (whatever else); with a smaller budget; at a smaller rank
    bound; a smaller parser -/
theorem Smaller.later {hi pos pos' b b' r r' n n' : Nat} (h1 : pos < pos') (h2 : pos' ≤ hi) :
    WellFoundedRelation.rel (hi - pos', b', r', n') (hi - pos, b, r, n) :=
  Prod.Lex.left _ _ (Nat.sub_lt_sub_left (Nat.lt_of_lt_of_le h1 h2) h1)
theorem Smaller.budget {a b b' r r' n n' : Nat} (h : b' < b) : WellFoundedRelation.rel (a, b', r', n') (a, b, r, n) :=
  Prod.Lex.right _ (Prod.Lex.left _ _ h)
theorem Smaller.rank {a b r r' n n' : Nat} (h : r' < r) : WellFoundedRelation.rel (a, b, r', n') (a, b, r, n) :=
  Prod.Lex.right _ (Prod.Lex.right _ (Prod.Lex.left _ _ h))
theorem Smaller.size {a b r n n' : Nat} (h : n' < n) : WellFoundedRelation.rel (a, b, r, n') (a, b, r, n) :=
  Prod.Lex.right _ (Prod.Lex.right _ (Prod.Lex.right _ h))

/-- one level of `run` answers when every call at a smaller measure does -/
theorem halts_step (rx : Nat → Bool) (c : WFCert) (cfg : Cfg) (henv : EnvG rx c cfg) (g : G) (ctx : Ctx) (pos r : Nat)
    (IH : ∀ g' ctx' pos' r', WellFoundedRelation.rel (mu c cfg g' ctx' pos' r') (mu c cfg g ctx pos r) →
      InScopeT rx c cfg g' → LeftBound rx c r' g' → Halts c cfg g' ctx' pos')
    (hg : InScopeT rx c cfg g) (hlb : LeftBound rx c r g) : Halts c cfg g ctx pos := by
  intro st hgood
  have h0 := henv.maxCalls
  have hT : ∀ f, RunTOK rx c cfg (run cfg f) := run_I rx c cfg henv.toI
  -- one level of `run` answers (the work budget is off)
  suffices ∃ f x, runStep cfg (run cfg f) f g ctx pos st = some x from
    let ⟨f, x, h⟩ := this; ⟨f + 1, x, (run_succ0 h0 ..).trans h⟩
  -- a member of Any / Choice: a smaller parser at the same, left, position; it answers in a state the next one may start in
  have alt : ∀ g' ∈ g.kids, (∀ k ∈ leftRefsT rx c g', k ∈ leftRefsT rx c g) → ∀ st', GoodT c cfg ctx pos st' →
      ∃ f o st'', run cfg f g' ctx pos st'.regCall = some (o, st'') ∧ GoodT c cfg ctx pos st'' := by
    intro g' hg' hl st' hI
    obtain ⟨f, ⟨o, st''⟩, hx⟩ := IH g' ctx pos r (Smaller.size (G.kids_sizeOf hg')) (hg.kid hg') (fun k hk => hlb k (hl k hk))
      st'.regCall (GoodT_regCall hI)
    exact ⟨f, o, st'', hx, GoodT_after (GoodT_regCall hI) (hT f g' ctx pos _ o st'' (InScopeT.weak (hg.kid hg')) (GoodT_regCall hI) hx)⟩
  cases g using G.shapes cfg.file pos with
  | term t => exact ⟨0, _, rfl⟩
  | empty => exact ⟨0, _, rfl⟩
  | eof => exact ⟨0, _, rfl⟩
  | ref k =>
    cases hk : cfg.env[k]? with
    | none => exact ⟨0, by simp only [runStep, hk]; exact ⟨_, rfl⟩⟩
    | some g' =>
      have hrk : c.rank k < r := hlb k (by simp [leftRefsT])
      obtain ⟨f, x, hx⟩ := IH g' ctx pos (c.rank k) (Smaller.rank hrk) (henv.rules g' (List.mem_of_getElem? hk))
        (henv.rank k g' hk) st hgood
      exact ⟨f, x, by simp only [runStep, hk, hx]⟩
  | memo idx body =>
    have hloc : idx ∈ c.memos ∧ (mayBeEmptyT rx c body = true → c.nullM idx = true) := (G.All_self hg).1
    show ∃ f x, memoStep cfg (run cfg f) idx body ctx pos st = some x
    cases hc : cacheGet st.cache idx pos ctx with
    | some e => exact ⟨0, _, memoStep_hit cfg _ body hc⟩
    | none =>
      by_cases hcur : ctx.get idx > remaining cfg.file pos + Facts.curtailSlack
      · exact ⟨0, _, memoStep_curtail cfg _ body hc hcur⟩
      · have hlt : budget c.memos (ctx.inc idx) (capAt cfg pos) < budget c.memos ctx (capAt cfg pos) :=
          budget_inc c.memos ctx (capAt cfg pos) idx hloc.1 (by unfold capAt; omega)
        obtain ⟨f, x, hx⟩ := IH body (ctx.inc idx) pos (LeftBound_exists rx c body).choose (Smaller.budget hlt)
          (hg.kid (.head _)) (LeftBound_exists rx c body).choose_spec _ (GoodT_memo_body idx hgood hcur)
        exact ⟨f, _, by rw [memoStep_body cfg _ body hc hcur, hx]⟩
  | any gs =>
    obtain ⟨f, x, hx⟩ := anyLoop_total (run_mono cfg) ctx pos (GoodT c cfg ctx pos) gs
      (fun g' hg' => alt g' hg' (by simp only [leftRefsT]; exact leftRefsAll_mem hg')) {} st hgood
    exact ⟨f, by simp only [runStep, hx]; exact ⟨_, rfl⟩⟩
  | choice gs =>
    obtain ⟨f, x, hx⟩ := choiceLoop_total (run_mono cfg) ctx pos (GoodT c cfg ctx pos) gs
      (fun g' hg' => alt g' hg' (by simp only [leftRefsT]; exact leftRefsAll_mem hg')) {} st hgood
    exact ⟨f, by simp only [runStep, hx]; exact ⟨_, rfl⟩⟩
  | wrap g w hw =>
    have hg' : InScopeT rx c cfg w.child := hg.kid (G.wrap_kid hw)
    obtain ⟨hc1, hc2⟩ := wrap_cpos hw hgood.1
    have hsz := G.kids_sizeOf (G.wrap_kid hw)
    -- the operand runs with the same context: at the same position it is a smaller parser with the same left references;
    -- after the whitespace LeftTrim skipped the position is a later one
    obtain ⟨f, x, hx⟩ : ∃ f x, run cfg f w.child ctx w.cpos st = some x := by
      by_cases he : w.cpos = pos
      · rw [he]
        exact IH w.child ctx pos r (Smaller.size hsz) hg' (fun k hk => hlb k (by rw [wrap_leftRefs hw]; exact hk)) st hgood
      · exact IH w.child ctx w.cpos (LeftBound_exists rx c w.child).choose
          (Smaller.later (Nat.lt_of_le_of_ne hc1 (Ne.symm he)) hc2) hg'
          (LeftBound_exists rx c w.child).choose_spec st
          ⟨⟨Nat.le_trans hgood.1.1 hc1, hc2⟩, ActOK_later hgood.2.1 _ hc1, hgood.2.2⟩
    exact ⟨f, by rw [runStep_wrap cfg _ _ ctx st hw, hx]; exact ⟨_, rfl⟩⟩
  | seq g sh hsh =>
    have hloc : LocalT rx c g := (G.All_self hg).1
    -- the loop invariant of `consInv`, and that the context is the one of the call while the loop stands where it began
    let I := consInv rx c cfg henv.toI
    obtain ⟨f, x, hx⟩ := seqParse_total (run_mono cfg) sh
      (fun fr ss st => RunInv.SeqJ I g sh pos fr ss st ∧ (fr.pos = pos → fr.ctx = ctx)) (RunInv.SeqE I g pos)
      (fun fr ss st ss' st' hJ hE => ⟨RunInv.SeqJ.stable fr ss st ss' st' hJ.1 hE, hJ.2⟩)
      (fun f fr ss st b ss' st' hJ hd h => RunInv.seqParse_inv (I.run f) hg.weak hsh f fr ss st b ss' st' hJ.1 hd h)
      (seqMu rx c cfg.hi g sh)
      (by
        intro fr ss st gd hJ hd hl
        have hgd : InScopeT rx c cfg gd := hg.kid (G.shape_kids hsh hl)
        have hsz := G.kids_sizeOf (G.shape_kids hsh hl)
        have hle := hJ.1.2.1.le
        have hhi : fr.pos ≤ cfg.hi := hJ.1.1.1.2
        have hgood' : GoodT c cfg fr.ctx fr.pos st.regCall := ⟨hJ.1.1.1, hJ.1.1.2.2, StT_of_eq hJ.1.1.2.1 rfl rfl⟩
        -- at the position of the call every earlier element may be empty: a left position; else a later position
        obtain ⟨f, ⟨o, st1⟩, hrun⟩ : ∃ f x, run cfg f gd fr.ctx fr.pos st.regCall = some x := by
          by_cases he : fr.pos = pos
          · have hlb' : LeftBound rx c r gd := fun k hk =>
              hlb k (leftRefs_lookup hsh fr.depth gd (fun i hi => hJ.1.2.1.prev he i (hd ▸ hi)) hl k hk)
            rw [hJ.2 he, he] at hgood' ⊢
            exact IH gd ctx pos r (Smaller.size hsz) hgd hlb' _ hgood'
          · exact IH gd fr.ctx fr.pos (LeftBound_exists rx c gd).choose
              (Smaller.later (Nat.lt_of_le_of_ne hle (Ne.symm he)) hhi) hgd
              (LeftBound_exists rx c gd).choose_spec _ hgood'
        obtain ⟨hp, _, hnext, _⟩ := RunInv.SeqJ.call (I.run f) hg.weak hsh hJ.1 hd hl hrun
        refine ⟨f, o, st1, hrun, fun n hn => ?_⟩
        have hb := (hp.nodes n hn).bounds
        have hge := loOf_ge (mayBeEmptyT rx c gd) fr.pos
        refine ⟨⟨hnext n hn, fun he => ?_⟩, seqMu_dec hsh hloc cfg.hi fr gd hl n (by omega) hb.2
          (fun hm => by rw [hm] at hb; have : fr.pos + 1 ≤ n.rpos := hb.1; omega)⟩
        have he' : n.rpos = pos := he
        have hnr : ¬ n.rpos > fr.pos := by omega
        simp only [Frame.next, hnr, ↓reduceIte]
        exact hJ.2 (by omega))
      _ ⟨0, [], ctx, pos, true⟩ (Nat.lt_succ_self _) {} st ⟨RunInv.SeqJ.init hg.weak hsh hgood.pre, fun _ => rfl⟩ rfl
    exact ⟨f, by rw [runStep_shape cfg _ _ ctx pos st hsh]; simp only [runSeq, hx]; exact ⟨_, rfl⟩⟩

theorem halts (rx : Nat → Bool) (c : WFCert) (cfg : Cfg) (henv : EnvG rx c cfg) (g : G) (ctx : Ctx) (pos r : Nat)
    (hg : InScopeT rx c cfg g) (hlb : LeftBound rx c r g) : Halts c cfg g ctx pos :=
  halts_step rx c cfg henv g ctx pos r
    (fun g' ctx' pos' r' _ hg' hlb' => halts rx c cfg henv g' ctx' pos' r' hg' hlb') hg hlb
termination_by mu c cfg g ctx pos r
decreasing_by assumption

theorem halts_all (rx : Nat → Bool) (c : WFCert) (cfg : Cfg) (henv : EnvT rx c cfg) :
    ∀ g, GWFT rx c g → ∀ ctx pos, Halts c cfg g ctx pos :=
  fun g hg ctx pos => halts rx c cfg henv.toG g ctx pos _ (hg.termNode henv.rxs) (LeftBound_exists rx c g).choose_spec

/-- the certificate of Spec/WF.lean, over terminals assumed to consume -/
theorem _root_.PV.halts_all (c : WFCert) (cfg : Cfg) (henv : EnvOK c cfg) :
    ∀ g, GWF c cfg g → ∀ ctx pos st, Good c cfg ctx pos st → ∃ f x, run cfg f g ctx pos st = some x :=
  fun g hg ctx pos st hgood =>
    halts rxNone c cfg henv.toG g ctx pos _ hg.inScopeT (LeftBound_exists rxNone c g).choose_spec st hgood.toT

end PV.WFT

/-
  From the decidable check `wfT rx cert env root = true` to the hypotheses of the descent (`EnvT`, `GWFT`).
  No scope condition on the grammar is left: every combinator, every terminal.
-/
namespace PV.WFT
open PV PV.Text

theorem wfLocalListT_iff (rx : Nat → Bool) (c : WFCert) :
    ∀ {gs : List G}, wfLocalListT rx c gs = true ↔ ∀ g ∈ gs, wfLocalT rx c g = true
  | [] => by simp [wfLocalListT]
  | g :: gs => by simp only [wfLocalListT, Bool.and_eq_true, List.forall_mem_cons, wfLocalListT_iff]

theorem wfLocalT_kids {rx : Nat → Bool} {c : WFCert} {g : G} (h : wfLocalT rx c g = true) :
    LocalT rx c g ∧ ∀ k ∈ g.kids, wfLocalT rx c k = true := by
  cases g <;> simp only [wfLocalT, wfLocalListT_iff, Bool.and_eq_true, Bool.or_eq_true, Bool.not_eq_true',
    List.contains_eq_mem, decide_eq_true_eq, Bool.and_eq_false_iff] at h <;>
    simp only [LocalT, G.kids, List.forall_mem_cons, List.not_mem_nil, false_imp_iff, implies_true, and_true,
      true_and]
  case memo i g => exact ⟨⟨h.1.1, fun hm => h.1.2.resolve_left (by rw [hm]; nofun)⟩, h.2⟩
  case sepBy v s _ _ =>
    exact ⟨fun hvs => by rcases h.1.1 with e | e <;> simp [hvs.1, hvs.2] at e, h.1.2, h.2⟩
  all_goals exact h

theorem wfLocalT_all (rx : Nat → Bool) (c : WFCert) : ∀ g : G, wfLocalT rx c g = true → g.All (LocalT rx c) :=
  G.induct fun _ ih hw => G.All_kids.mpr ⟨(wfLocalT_kids hw).1, fun k hk => ih k hk ((wfLocalT_kids hw).2 k hk)⟩

theorem wfLocalListT_all (rx : Nat → Bool) (c : WFCert) : ∀ gs : List G, wfLocalListT rx c gs = true →
    AllList (LocalT rx c) gs :=
  fun _ hw => AllList_iff.mpr fun g hg => wfLocalT_all rx c g ((wfLocalListT_iff rx c).mp hw g hg)

theorem wfT_reads {rx : Nat → Bool} {c : WFCert} {env : List G} {root : G} (h : wfT rx c env root = true) :
    GWFT rx c root ∧ ∀ k g, env[k]? = some g → GWFT rx c g ∧ (mayBeEmptyT rx c g = true → c.nullable k = true) ∧
      ∀ k' ∈ leftRefsT rx c g, c.rank k' < c.rank k := by
  simp only [wfT, Bool.and_eq_true, List.all_eq_true, List.mem_range] at h
  refine ⟨wfLocalT_all rx c root h.1, fun k g hk => ?_⟩
  have hr := h.2 k (List.getElem?_eq_some_iff.mp hk).1
  simp only [hk, wfRuleT, Bool.and_eq_true, Bool.or_eq_true, Bool.not_eq_true', List.all_eq_true, decide_eq_true_eq] at hr
  exact ⟨wfLocalT_all rx c g hr.1.1, fun hm => hr.1.2.resolve_left (by rw [hm]; nofun), hr.2⟩

theorem EnvT_of_wfT (rx : Nat → Bool) (c : WFCert) (cfg : Cfg) (g : G) (hwf : wfT rx c cfg.env g = true)
    (hb : cfg.maxCalls = 0) (hrx : RxSound rx cfg.params) : EnvT rx c cfg ∧ GWFT rx c g :=
  have h := wfT_reads hwf
  ⟨⟨hb, hrx, fun g' hg' => let ⟨k, hk⟩ := List.getElem?_of_mem hg'; (h.2 k g' hk).1,
    fun k g' hk => (h.2 k g' hk).2.1, fun k g' hk => (h.2 k g' hk).2.2⟩, h.1⟩

theorem GoodT_initial (c : WFCert) (cfg : Cfg) : GoodT c cfg [] (cfg.file.pos 0) {} :=
  ⟨(Pre.initial cfg).1, (Pre.initial cfg).2.2, fun _ _ _ hm => (nomatch hm), fun _ he => (nomatch he)⟩

end PV.WFT
