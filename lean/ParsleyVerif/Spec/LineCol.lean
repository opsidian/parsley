/-
  Specification for property C11, written independently of the model's line table, binary searches
  and recursive CRLF replacement.

  * `lineCol data off` — the 1-based line and byte column of offset `off` in `data`: count the line
    feeds in the first `off` bytes; the column is the number of bytes after the last of them, plus one.
    No recursion over a table: `List.take`, `List.count`, `List.takeWhile` only.
  * `dropCRbeforeLF raw` — CRLF normalisation by index: byte `i` of `raw` is deleted exactly when it is
    a CR whose next byte is an LF; every other byte (a lone CR included) is kept, in order.
-/
import ParsleyVerif.Model.Text
namespace PV.Text

/-! ### line and column -/

/-- number of bytes after the last line feed of `d` (all of `d` when there is none) -/
def tailRun (d : Bytes) : Nat := (d.reverse.takeWhile (· ≠ 10)).length

/-- index just after the last line feed before `off`, or 0 -/
def lineStart (data : Bytes) (off : Nat) : Nat := (data.take off).length - tailRun (data.take off)

/-- 1-based (line, column) of byte offset `off` -/
def lineCol (data : Bytes) (off : Nat) : Nat × Nat :=
  (1 + (data.take off).count 10, off - lineStart data off + 1)

theorem tailRun_le (d : Bytes) : tailRun d ≤ d.length :=
  Nat.le_trans (List.takeWhile_sublist _).length_le (Nat.le_of_eq d.length_reverse)

theorem tailRun_append_lf (d : Bytes) : tailRun (d ++ [10]) = 0 := by
  simp [tailRun]

theorem tailRun_append_other (d : Bytes) (b : Nat) (hb : b ≠ 10) : tailRun (d ++ [b]) = tailRun d + 1 := by
  simp [tailRun, hb]

theorem tailRun_nil : tailRun [] = 0 := rfl

theorem lineStart_le (data : Bytes) (off : Nat) : lineStart data off ≤ off :=
  Nat.le_trans (Nat.sub_le _ _) (List.length_take_le off data)

theorem take_succ_of_lt (data : Bytes) (off : Nat) (h : off < data.length) :
    data.take (off + 1) = data.take off ++ [data[off]] := by
  rw [List.take_add_one, List.getElem?_eq_getElem h]; rfl

/-- one byte further: a line feed starts a new line just after itself, any other byte leaves the line start
    where it was -/
theorem lineStart_succ (data : Bytes) (off : Nat) (h : off < data.length) :
    lineStart data (off + 1) = if data[off] = 10 then off + 1 else lineStart data off := by
  have hlen : (data.take off).length = off := List.length_take_of_le (Nat.le_of_lt h)
  unfold lineStart
  rw [take_succ_of_lt data off h, List.length_append, hlen]
  by_cases hb : data[off] = 10
  · rw [if_pos hb, hb, tailRun_append_lf]; rfl
  · rw [if_neg hb, tailRun_append_other _ _ hb]; exact Nat.add_sub_add_right _ 1 _

/-! Sanity of the specification itself: it is the unique function that starts at (1, 1), moves one
    column right on every byte other than LF (CR included), and to column 1 of the next line on LF. -/

theorem lineCol_zero (data : Bytes) : lineCol data 0 = (1, 1) := rfl

theorem lineCol_succ (data : Bytes) (off : Nat) (h : off < data.length) :
    lineCol data (off + 1) =
      if data[off] = 10 then ((lineCol data off).1 + 1, 1)
      else ((lineCol data off).1, (lineCol data off).2 + 1) := by
  unfold lineCol
  rw [lineStart_succ data off h, take_succ_of_lt data off h, List.count_append]
  by_cases hb : data[off] = 10
  · rw [if_pos hb, if_pos hb, hb, Nat.sub_self]; rfl
  · rw [if_neg hb, if_neg hb, List.count_singleton, if_neg (mt eq_of_beq hb),
      Nat.sub_add_comm (lineStart_le data off)]; rfl

/-- the line start really is one: it is 0 or sits just after a line feed, and no line feed lies between
    it and `off` -/
theorem lineStart_spec (data : Bytes) (off : Nat) (h : off ≤ data.length) :
    (lineStart data off = 0 ∨ data[lineStart data off - 1]? = some 10) ∧
    (∀ k, lineStart data off ≤ k → k < off → data[k]? ≠ some 10) := by
  induction off with
  | zero => exact ⟨Or.inl rfl, fun k _ hk => absurd hk (Nat.not_lt_zero k)⟩
  | succ off ih =>
    obtain ⟨ih1, ih2⟩ := ih (Nat.le_of_succ_le h)
    have hoff : data[off]? = some data[off] := List.getElem?_eq_getElem h
    rw [lineStart_succ data off h]
    by_cases hb : data[off] = 10
    · rw [if_pos hb]
      exact ⟨Or.inr (by rw [Nat.add_sub_cancel, hoff, hb]), fun k h1 h2 => absurd h2 (Nat.not_lt.mpr h1)⟩
    · rw [if_neg hb]
      refine ⟨ih1, fun k h1 h2 => ?_⟩
      rcases Nat.lt_succ_iff_lt_or_eq.mp h2 with hk | rfl
      · exact ih2 k h1 hk
      · rw [hoff]; exact fun e => hb (Option.some.inj e)

/-! ### CRLF normalisation -/

/-- byte `i` of `raw` is a CR immediately followed by an LF -/
def isCRofCRLF (raw : Bytes) (i : Nat) : Bool := raw[i]? == some 13 && raw[i + 1]? == some 10

/-- delete exactly the CRs that are immediately followed by an LF; keep everything else in order -/
def dropCRbeforeLF (raw : Bytes) : Bytes :=
  (List.range raw.length).filterMap (fun i => if isCRofCRLF raw i then none else raw[i]?)

end PV.Text
