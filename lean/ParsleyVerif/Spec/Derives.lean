/-
  What a grammar DERIVES (property C01): the declarative meaning of the combinators, written as an
  inductive relation `Derives cfg g pos x` — "parser `g` can produce tree `x` at position `pos`" —
  independently of caches, left-recursion contexts, curtailment, fuel and evaluation order.
  This is the monotone reading (trims included since the extension for C05/C16): `Choice` may take any alternative and the repetition operators may stop
  anywhere their `lenCheck` allows (the first-match / longest-path restrictions only remove derivations).
  The tree of a Sequence-family parser is built by the library's own result handler.
-/
import ParsleyVerif.Model.Run
import ParsleyVerif.Spec.Core
namespace PV
open PV.Text

mutual
/-- a predicate holds at every sub-parser of `g` -/
def G.All (P : G → Prop) : G → Prop
  | .term t => P (.term t)
  | .empty => P .empty
  | .eof => P .eof
  | .ref k => P (.ref k)
  | .memo i g => P (.memo i g) ∧ g.All P
  | .any gs => P (.any gs) ∧ AllList P gs
  | .choice gs => P (.choice gs) ∧ AllList P gs
  | .seq k gs o => P (.seq k gs o) ∧ AllList P gs
  | .many g ae o => P (.many g ae o) ∧ g.All P
  | .sepBy v s ae o => P (.sepBy v s ae o) ∧ v.All P ∧ s.All P
  | .optional g => P (.optional g) ∧ g.All P
  | .name g nm => P (.name g nm) ∧ g.All P
  | .ltrim g m => P (.ltrim g m) ∧ g.All P
  | .rtrim g m => P (.rtrim g m) ∧ g.All P
  | .single g => P (.single g) ∧ g.All P
  | .suppress g => P (.suppress g) ∧ g.All P
def AllList (P : G → Prop) : List G → Prop
  | [] => True
  | g :: gs => g.All P ∧ AllList P gs
end

theorem AllList_mem {P : G → Prop} {gs : List G} : AllList P gs → ∀ g ∈ gs, g.All P :=
  forall_mem_of_cons fun _ _ h => h

theorem G.All_self {P : G → Prop} {g : G} (h : g.All P) : P g := by
  cases g <;> simp only [G.All] at h <;> first | exact h | exact h.1

mutual
/-- what two predicates give together at every sub-parser -/
theorem G.All.map₂ {P Q R : G → Prop} (h : ∀ g, P g → Q g → R g) : ∀ {g : G}, g.All P → g.All Q → g.All R
  | .term _, hp, hq => h _ hp hq
  | .empty, hp, hq => h _ hp hq
  | .eof, hp, hq => h _ hp hq
  | .ref _, hp, hq => h _ hp hq
  | .memo _ _, hp, hq => ⟨h _ hp.1 hq.1, G.All.map₂ h hp.2 hq.2⟩
  | .any _, hp, hq => ⟨h _ hp.1 hq.1, AllList.map₂ h hp.2 hq.2⟩
  | .choice _, hp, hq => ⟨h _ hp.1 hq.1, AllList.map₂ h hp.2 hq.2⟩
  | .seq _ _ _, hp, hq => ⟨h _ hp.1 hq.1, AllList.map₂ h hp.2 hq.2⟩
  | .many _ _ _, hp, hq => ⟨h _ hp.1 hq.1, G.All.map₂ h hp.2 hq.2⟩
  | .sepBy _ _ _ _, hp, hq => ⟨h _ hp.1 hq.1, G.All.map₂ h hp.2.1 hq.2.1, G.All.map₂ h hp.2.2 hq.2.2⟩
  | .optional _, hp, hq => ⟨h _ hp.1 hq.1, G.All.map₂ h hp.2 hq.2⟩
  | .name _ _, hp, hq => ⟨h _ hp.1 hq.1, G.All.map₂ h hp.2 hq.2⟩
  | .ltrim _ _, hp, hq => ⟨h _ hp.1 hq.1, G.All.map₂ h hp.2 hq.2⟩
  | .rtrim _ _, hp, hq => ⟨h _ hp.1 hq.1, G.All.map₂ h hp.2 hq.2⟩
  | .single _, hp, hq => ⟨h _ hp.1 hq.1, G.All.map₂ h hp.2 hq.2⟩
  | .suppress _, hp, hq => ⟨h _ hp.1 hq.1, G.All.map₂ h hp.2 hq.2⟩
theorem AllList.map₂ {P Q R : G → Prop} (h : ∀ g, P g → Q g → R g) :
    ∀ {gs : List G}, AllList P gs → AllList Q gs → AllList R gs
  | [], _, _ => trivial
  | _ :: _, hp, hq => ⟨G.All.map₂ h hp.1 hq.1, AllList.map₂ h hp.2 hq.2⟩
end

theorem shape_lookup_all {P : G → Prop} {g : G} {sh : SeqShape} (hg : g.All P)
    (hs : g.shape = some sh) (i : Nat) (g' : G) (hl : sh.lookup i = some g') : g'.All P := by
  cases g with
  | seq k gs o =>
    simp only [G.shape, Option.some.injEq] at hs
    subst hs
    simp only at hl
    simp only [G.All] at hg
    exact AllList_mem hg.2 g' (List.mem_of_getElem? hl)
  | many g1 ae o =>
    simp only [G.shape, Option.some.injEq] at hs
    subst hs
    simp only [Option.some.injEq] at hl
    subst hl
    simp only [G.All] at hg
    exact hg.2
  | sepBy v s ae o =>
    simp only [G.shape, Option.some.injEq] at hs
    subst hs
    simp only [G.All] at hg
    simp only at hl
    split at hl
    · cases hl; exact hg.2.1
    · cases hl; exact hg.2.2
  | _ => simp [G.shape] at hs

/-- the local condition under which the derivation relation speaks about a parser: every `Memoize`
    index wraps one fixed parser (each `Memoize` call draws a fresh index) -/
def LocalOK (bodyOf : Nat → G) : G → Prop
  | .memo i g => g = bodyOf i
  | _ => True

mutual
inductive Derives (cfg : Cfg) : G → Nat → Node → Prop
  | term {t pos n} : t.parse cfg.params cfg.file pos = .node n → Derives cfg (.term t) pos n
  | empty {pos} : Derives cfg .empty pos (.empty pos)
  | eof {pos} : isEOF cfg.file pos = true → Derives cfg .eof pos (.eof pos)
  | ref {k g pos x} : cfg.env[k]? = some g → Derives cfg g pos x → Derives cfg (.ref k) pos x
  | memo {i g pos x} : Derives cfg g pos x → Derives cfg (.memo i g) pos x
  | any {gs g pos x} : g ∈ gs → Derives cfg g pos x → Derives cfg (.any gs) pos x
  | choice {gs g pos x} : g ∈ gs → Derives cfg g pos x → Derives cfg (.choice gs) pos x
  | optSome {g pos x} : Derives cfg g pos x → Derives cfg (.optional g) pos x
  | optNone {g pos} : Derives cfg (.optional g) pos (.empty pos)
  | name {g nm pos x} : Derives cfg g pos x → Derives cfg (.name g nm) pos x
  | suppress {g pos x} : Derives cfg g pos x → Derives cfg (.suppress g) pos x
  | singleUnwrap {g pos tk c p r i} : Derives cfg g pos (.nt tk [c] p r i) → Derives cfg (.single g) pos c
  | singleKeep {g pos x} : Derives cfg g pos x → Derives cfg (.single g) pos x
  /-- LeftTrim: the operand runs after the whitespace (whether the run satisfies the mode is not part of
      this monotone reading; C10 is about that) -/
  | ltrim {g m pos x} : Derives cfg g (skipWhitespaces cfg.file pos m).1 x → Derives cfg (.ltrim g m) pos x
  /-- RightTrim: the operand's tree with its end moved past the whitespace -/
  | rtrimMove {g m pos x} : Derives cfg g pos x → Derives cfg (.rtrim g m) pos (setRposNode cfg.file m x none).1
  /-- RightTrim hands a result that comes together with an error through unchanged -/
  | rtrimKeep {g m pos x} : Derives cfg g pos x → Derives cfg (.rtrim g m) pos x
  | seqfam {g sh pos nodes} : g.shape = some sh → DerivesSeq cfg sh 0 pos nodes →
      sh.lenCheck nodes.length = true → Derives cfg g pos (handleResult sh pos nodes)
/-- elements `d, d+1, …` of a Sequence-family parser derive `nodes` one after the other from `pos` -/
inductive DerivesSeq (cfg : Cfg) : SeqShape → Nat → Nat → List Node → Prop
  | nil {sh d pos} : DerivesSeq cfg sh d pos []
  | cons {sh d pos g n rest} : sh.lookup d = some g → Derives cfg g pos n →
      DerivesSeq cfg sh (d + 1) n.rpos rest → DerivesSeq cfg sh d pos (n :: rest)
end

/-- where a chain of nodes that started at `p` ends -/
def endOf (p : Nat) (nodes : List Node) : Nat := ((nodes.getLast?).map Node.rpos).getD p

theorem endOf_nil (p : Nat) : endOf p [] = p := rfl
theorem endOf_snoc (p : Nat) (nodes : List Node) (n : Node) : endOf p (nodes ++ [n]) = n.rpos := by
  simp [endOf]
theorem endOf_cons (p : Nat) (n : Node) (rest : List Node) : endOf p (n :: rest) = endOf n.rpos rest := by
  cases rest with
  | nil => simp [endOf]
  | cons m r =>
    simp only [endOf]
    rw [List.getLast?_cons_cons, List.getLast?_cons]
    simp

theorem DerivesSeq.snoc {cfg : Cfg} {sh : SeqShape} {g : G} {n : Node} :
    ∀ {nodes : List Node} {d p : Nat}, DerivesSeq cfg sh d p nodes →
      sh.lookup (d + nodes.length) = some g → Derives cfg g (endOf p nodes) n →
      DerivesSeq cfg sh d p (nodes ++ [n])
  | [], d, p, _, hl, hd => by
    simp only [List.length_nil, Nat.add_zero] at hl
    exact .cons hl (by simpa [endOf] using hd) .nil
  | m :: rest, d, p, h, hl, hd => by
    cases h with
    | cons hl' hm hrest =>
      refine .cons hl' hm (DerivesSeq.snoc (g := g) hrest ?_ ?_)
      · simpa [Nat.add_assoc, Nat.add_comm 1] using hl
      · rw [endOf_cons] at hd; exact hd

end PV
