/-
  A generic account of leftmost-first ("Perl-like", backtracking-priority) regular-expression matching,
  independent of the hand-written matchers of Model/Terminal.lean.

  * `Rx.Re`      : the core expressions (one byte of a class, one UTF-8 sequence of a class, ε, sequence,
                   ordered alternative, greedy star).
  * `Rx.Re.run`  : ALL lengths of prefixes of the input that the expression matches, in the order in which a
                   backtracking matcher tries them (earlier alternative first, more iterations first).
  * `Rx.Re.first`: the first of them = what Go's regexp (leftmost-first, the expression anchored at the start
                   `^(?:expr)`, not anchored at the end) reports as the length of the match.
  * `Rx.Re.Matches`: the same language without any order (declarative clauses); `run` lists exactly its members
                   (Proofs/RegexBasic.lean).
  * `Rx.Sx`      : the surface syntax (classes `[...]`, literals, `\c`, `(?:...)`, `*`, `+`, `?`, `{n,n}`, `|`),
                   its printer `Sx.src` and its translation `Sx.re` to the core.
  * the five expressions of text/terminal as surface terms; their printed text IS the regenerated source
    text (`Facts.*Regexp`), checked by `decide` at the end of this file.

  Nothing here mentions the matchers `integerMatch` … `backquoteMatch`; the import of Model/Terminal is used
  for nothing but `Bytes` and `Utf8.decodeRune`/`Utf8.encodeRune` (through Model/Utf8).
-/
import ParsleyVerif.Model.Terminal
import ParsleyVerif.Generated.Facts
namespace PV
open PV.Text
namespace Rx

/-! ### core expressions and the backtracking semantics -/

inductive Re
  /-- exactly one byte `b` with `p b` -/
  | byte (p : Nat → Bool)
  /-- exactly one UTF-8 sequence as utf8.DecodeRune reads it (an invalid byte is U+FFFD of width 1) whose rune satisfies `p` -/
  | rune (p : Nat → Bool)
  | eps
  | seq (a b : Re)
  /-- ordered alternative: everything `a` can do is tried before anything `b` can do -/
  | alt (a b : Re)
  /-- greedy repetition: one more iteration is tried before stopping -/
  | star (a : Re)

/-- Greedy iteration of a body whose candidate lengths on `l` are `ra l`.  An iteration that consumes nothing is
    not repeated (it could not change the position; no starred body of the five expressions below can match the
    empty string, so this clause is never exercised by them).  Every counted iteration consumes at least one byte, so
    `fuel = l.length` is enough; with less fuel the list is cut short. -/
def starRun (ra : Bytes → List Nat) : Nat → Bytes → List Nat
  | 0, _ => [0]
  | fuel + 1, l =>
    ((ra l).filter (0 < ·)).flatMap (fun i => (starRun ra fuel (l.drop i)).map (i + ·)) ++ [0]

/-- All `k` such that the expression matches `l.take k`, in priority order.  `fuel` bounds the number of
    iterations of each `star` (handed unchanged to sub-expressions; any `fuel ≥ l.length` is enough). -/
def Re.run : Re → Nat → Bytes → List Nat
  | .byte p, _, l => match l with
    | b :: _ => if p b then [1] else []
    | [] => []
  | .rune p, _, l => match l with
    | [] => []
    | _ :: _ => if p (Utf8.decodeRune l).1 then [(Utf8.decodeRune l).2] else []
  | .eps, _, _ => [0]
  | .seq a b, fuel, l => (a.run fuel l).flatMap fun i => (b.run fuel (l.drop i)).map (i + ·)
  | .alt a b, fuel, l => a.run fuel l ++ b.run fuel l
  | .star a, fuel, l => starRun (a.run fuel) fuel l

/-- the leftmost-first match of the expression anchored at the start of `l`: its length -/
def Re.first (r : Re) (l : Bytes) : Option Nat := (r.run l.length l).head?

/-! ### the language, declaratively

`Re.Matches r l k`: the expression matches the first `k` bytes of `l` — no order, no fuel, the textbook clauses
(`star` = zero or more iterations).  Proofs/RegexBasic.lean: for `fuel ≥ l.length`, `k ∈ r.run fuel l ↔ Re.Matches r l k`. -/
inductive Re.Matches : Re → Bytes → Nat → Prop
  | byte {p : Nat → Bool} {b : Nat} {t : Bytes} : p b = true → Matches (.byte p) (b :: t) 1
  | rune {p : Nat → Bool} {l : Bytes} : l ≠ [] → p (Utf8.decodeRune l).1 = true → Matches (.rune p) l (Utf8.decodeRune l).2
  | eps {l : Bytes} : Matches .eps l 0
  | seq {a b : Re} {l : Bytes} {i j : Nat} : Matches a l i → Matches b (l.drop i) j → Matches (.seq a b) l (i + j)
  | altL {a b : Re} {l : Bytes} {k : Nat} : Matches a l k → Matches (.alt a b) l k
  | altR {a b : Re} {l : Bytes} {k : Nat} : Matches b l k → Matches (.alt a b) l k
  | star0 {a : Re} {l : Bytes} : Matches (.star a) l 0
  | starS {a : Re} {l : Bytes} {i j : Nat} : Matches a l i → Matches (.star a) (l.drop i) j → Matches (.star a) l (i + j)

/-! derived forms -/
def Re.plus (a : Re) : Re := .seq a (.star a)
/-- greedy `?` -/
def Re.opt (a : Re) : Re := .alt a .eps
def Re.lit : Bytes → Re
  | [] => .eps
  | b :: bs => .seq (.byte (· == b)) (Re.lit bs)
def Re.rep : Nat → Re → Re
  | 0, _ => .eps
  | n + 1, a => .seq a (Re.rep n a)

/-! ### surface syntax, printed exactly as the Go source writes it -/

inductive Item
  | ch (c : Char)
  | range (lo hi : Char)

/-- a bracket expression `[...]` or `[^...]` -/
structure Class where
  neg : Bool
  items : List Item

def Item.has : Item → Nat → Bool
  | .ch c, b => b == c.toNat
  | .range lo hi, b => lo.toNat ≤ b && b ≤ hi.toNat

def Class.has (c : Class) (b : Nat) : Bool := c.neg != c.items.any (·.has b)

def Item.src : Item → List Char
  | .ch c => [c]
  | .range lo hi => [lo, '-', hi]

def Class.src (c : Class) : List Char :=
  '[' :: ((if c.neg then ['^'] else []) ++ c.items.flatMap Item.src ++ [']'])

inductive Sx
  /-- a class read byte-wise.  Faithful for the not negated ASCII classes (Go reads a rune; a rune of an ASCII class
      is one byte < 0x80, and no byte of a longer or invalid sequence is in the class).  Also used for `[^`]` in
      `[^`]+`: Go consumes a whole UTF-8 sequence per iteration, but no byte of a sequence that does not start
      with 0x60 is 0x60 and nothing follows the `+`, so byte-wise and rune-wise iteration stop at the same place
      (the first 0x60 or the end); only the FIRST candidate is compared. -/
  | cls (c : Class)
  /-- a class read rune-wise (used for `[^']`) -/
  | rcls (c : Class)
  /-- literal characters: their UTF-8 bytes in sequence -/
  | lit (cs : List Char)
  /-- `\c` for a punctuation character: the literal `c` -/
  | esc (c : Char)
  | seq (a b : Sx)
  | alt (a b : Sx)
  | star (a : Sx)
  | plus (a : Sx)
  | opt (a : Sx)
  /-- `a{n,n}` -/
  | rep (n : Nat) (a : Sx)
  /-- `(?:a)` -/
  | group (a : Sx)

def digitChar (n : Nat) : Char := Char.ofNat (48 + n)

def Sx.src : Sx → List Char
  | .cls c => c.src
  | .rcls c => c.src
  | .lit cs => cs
  | .esc c => ['\\', c]
  | .seq a b => a.src ++ b.src
  | .alt a b => a.src ++ '|' :: b.src
  | .star a => a.src ++ ['*']
  | .plus a => a.src ++ ['+']
  | .opt a => a.src ++ ['?']
  | .rep n a => a.src ++ ['{', digitChar n, ',', digitChar n, '}']     -- n < 10 in all uses
  | .group a => '(' :: '?' :: ':' :: a.src ++ [')']

def litBytes (cs : List Char) : Bytes := cs.flatMap fun c => Utf8.encodeRune c.toNat

def Sx.re : Sx → Re
  | .cls c => .byte c.has
  | .rcls c => .rune c.has
  | .lit cs => Re.lit (litBytes cs)
  | .esc c => .byte (· == c.toNat)
  | .seq a b => .seq a.re b.re
  | .alt a b => .alt a.re b.re
  | .star a => .star a.re
  | .plus a => a.re.plus
  | .opt a => a.re.opt
  | .rep n a => Re.rep n a.re
  | .group a => a.re

/-! ### the five expressions, symbol by symbol -/

def cSign : Class := ⟨false, [.ch '-', .ch '+']⟩
def cDigit : Class := ⟨false, [.range '0' '9']⟩
def cHex : Class := ⟨false, [.range '0' '9', .range 'a' 'f', .range 'A' 'F']⟩

/-- `[-+]?(?:[1-9][0-9]*|0[xX][0-9a-fA-F]+|0[0-7]*)` -/
def integerSx : Sx :=
  .seq (.opt (.cls cSign))
    (.group
      (.alt (.seq (.cls ⟨false, [.range '1' '9']⟩) (.star (.cls cDigit)))
      (.alt (.seq (.lit ['0']) (.seq (.cls ⟨false, [.ch 'x', .ch 'X']⟩) (.plus (.cls cHex))))
            (.seq (.lit ['0']) (.star (.cls ⟨false, [.range '0' '7']⟩))))))

/-- `[-+]?[0-9]*\.[0-9]+(?:[eE][-+]?[0-9]+)?` -/
def floatSx : Sx :=
  .seq (.opt (.cls cSign))
    (.seq (.star (.cls cDigit))
      (.seq (.esc '.')
        (.seq (.plus (.cls cDigit))
          (.opt (.group (.seq (.cls ⟨false, [.ch 'e', .ch 'E']⟩) (.seq (.opt (.cls cSign)) (.plus (.cls cDigit)))))))))

/-- `\\[abfnrtv']|\\x[0-9a-fA-F]{2,2}|\\u[0-9a-fA-F]{4,4}|\\U[0-9a-fA-F]{8,8}|[^']` -/
def charSx : Sx :=
  .alt (.seq (.esc '\\') (.cls ⟨false, [.ch 'a', .ch 'b', .ch 'f', .ch 'n', .ch 'r', .ch 't', .ch 'v', .ch '\'']⟩))
  (.alt (.seq (.esc '\\') (.seq (.lit ['x']) (.rep 2 (.cls cHex))))
  (.alt (.seq (.esc '\\') (.seq (.lit ['u']) (.rep 4 (.cls cHex))))
  (.alt (.seq (.esc '\\') (.seq (.lit ['U']) (.rep 8 (.cls cHex))))
        (.rcls ⟨true, [.ch '\'']⟩))))

/-- `ns|us|µs|μs|ms|s|m|h` (µ = U+00B5, μ = U+03BC) -/
def unitSx : Sx :=
  .alt (.lit ['n', 's']) (.alt (.lit ['u', 's']) (.alt (.lit ['µ', 's']) (.alt (.lit ['μ', 's'])
  (.alt (.lit ['m', 's']) (.alt (.lit ['s']) (.alt (.lit ['m']) (.lit ['h'])))))))

/-- `[-+]?(?:[0-9]+(?:\.[0-9]+)?(?:ns|us|µs|μs|ms|s|m|h))+` -/
def durationSx : Sx :=
  .seq (.opt (.cls cSign))
    (.plus (.group
      (.seq (.plus (.cls cDigit))
        (.seq (.opt (.group (.seq (.esc '.') (.plus (.cls cDigit)))))
          (.group unitSx)))))

/-- `[^`]+` -/
def backquoteSx : Sx := .plus (.cls ⟨true, [.ch '`']⟩)

def integerRe : Re := integerSx.re
def floatRe : Re := floatSx.re
def charRe : Re := charSx.re
def durationRe : Re := durationSx.re
def backquoteRe : Re := backquoteSx.re

/-! ### the terms above print as the source text of the repository -/

theorem integerSx_src : String.ofList integerSx.src = Facts.integerRegexp := by decide +kernel
theorem floatSx_src : String.ofList floatSx.src = Facts.floatRegexp := by decide +kernel
theorem charSx_src : String.ofList charSx.src = Facts.charRegexp := by decide +kernel
theorem durationSx_src : String.ofList durationSx.src = Facts.durationRegexp := by decide +kernel
theorem backquoteSx_src : String.ofList backquoteSx.src = Facts.backquoteRegexp := by decide +kernel

/-- the literal units are the byte strings the model's `unitLen` spells out -/
example : litBytes ['µ', 's'] = [0xC2, 0xB5, 115] ∧ litBytes ['μ', 's'] = [0xCE, 0xBC, 115] ∧
    litBytes ['n', 's'] = [110, 115] := by decide +kernel

/-! ### the semantics is not vacuous -/
example : integerRe.first [45, 48, 120, 49, 70, 103] = some 5 := by decide +kernel     -- "-0x1Fg"
example : integerRe.first [48, 120] = some 1 := by decide +kernel                      -- "0x": the octal alternative, "0"
example : integerRe.first [48, 56] = some 1 := by decide +kernel                       -- "08"
example : integerRe.first [43] = none := by decide +kernel
example : (integerRe.run 3 [49, 50, 51]) = [3, 2, 1] := by decide +kernel              -- all candidates, greedy first
example : floatRe.first [49, 46, 53, 101, 43] = some 3 := by decide +kernel            -- "1.5e+": exponent given back
example : floatRe.first [46, 53, 69, 45, 49, 48] = some 6 := by decide +kernel         -- ".5E-10"
example : floatRe.first [49, 50] = none := by decide +kernel
example : durationRe.first [49, 109, 115] = some 3 := by decide +kernel                -- "1ms": `ms` before `m`
example : durationRe.first [49, 109, 49, 46, 53, 115, 50] = some 6 := by decide +kernel -- "1m1.5s2"
example : durationRe.first [49, 46, 115] = none := by decide +kernel                   -- "1.s"
example : durationRe.first [49, 0xCE, 0xBC, 115] = some 4 := by decide +kernel         -- "1μs"
example : charRe.first [92, 120, 52, 49, 39] = some 4 := by decide +kernel             -- `\x41'`
example : charRe.first [92, 120, 52, 39] = some 1 := by decide +kernel                 -- `\x4'`: only the backslash
example : charRe.first [39] = none := by decide +kernel
example : charRe.first [0xE2, 0x82, 0xAC, 39] = some 3 := by decide +kernel            -- "€'"
example : charRe.first [0xE2, 0x82] = some 1 := by decide +kernel                      -- invalid: U+FFFD, one byte
example : backquoteRe.first [97, 0xC3, 0xA9, 96, 97] = some 3 := by decide +kernel
example : backquoteRe.first [96] = none := by decide +kernel

end Rx
end PV
