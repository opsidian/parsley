/-
  Vocabulary shared by the theorems about the parser core (C01, C02, C03, C04, C06):
  which grammars are in scope, what a well-formed (contiguous) tree is.
-/
import ParsleyVerif.Model.Run
import ParsleyVerif.Spec.ReaderSpec
namespace PV
open PV.Text

/-- one past the last byte of the parsed file, as a global position -/
def Cfg.hi (cfg : Cfg) : Nat := cfg.file.offset + cfg.file.len

mutual
/-- grammars over the combinator set of C01–C06: everything except the whitespace trims, every terminal
    satisfying `T` -/
def G.Core (T : Terminal → Prop) : G → Prop
  | .term t => T t
  | .empty => True
  | .eof => True
  | .ref _ => True
  | .memo _ g => g.Core T
  | .any gs => CoreList T gs
  | .choice gs => CoreList T gs
  | .seq _ gs _ => CoreList T gs
  | .many g _ _ => g.Core T
  | .sepBy v s _ _ => v.Core T ∧ s.Core T
  | .optional g => g.Core T
  | .name g _ => g.Core T
  | .single g => g.Core T
  | .suppress g => g.Core T
  | .ltrim _ _ => False
  | .rtrim _ _ => False
def CoreList (T : Terminal → Prop) : List G → Prop
  | [] => True
  | g :: gs => g.Core T ∧ CoreList T gs
end

/-- a predicate on lists that asks `P` of every member, when it is defined by mutual recursion with `P` (`CoreList`,
    `AllList`, the list functions of the certificates): through its equation on `x :: xs` -/
theorem forall_mem_of_cons {α : Type} {P : α → Prop} {L : List α → Prop} (hcons : ∀ x xs, L (x :: xs) → P x ∧ L xs) :
    ∀ {xs : List α}, L xs → ∀ x ∈ xs, P x
  | y :: xs, h, x, hx => by
    cases hx with
    | head => exact (hcons y xs h).1
    | tail _ hm => exact forall_mem_of_cons hcons (hcons y xs h).2 x hm

theorem CoreList_mem {T : Terminal → Prop} {gs : List G} : CoreList T gs → ∀ g ∈ gs, g.Core T :=
  forall_mem_of_cons fun _ _ h => h

mutual
/-- a well-formed tree: spans nested and contiguous, nothing beyond `hi` -/
def Node.WF (hi : Nat) : Node → Prop
  | .term _ _ p r => p ≤ r ∧ r ≤ hi
  | .empty p => p ≤ hi
  | .eof p => p ≤ hi
  | .nt _ cs p r _ => Chain hi cs p r
/-- `cs` is a contiguous chain of well-formed trees from `p` to `r`: each child starts where its
    predecessor ended -/
def Chain (hi : Nat) : List Node → Nat → Nat → Prop
  | [], p, r => p = r ∧ r ≤ hi
  | c :: cs, p, r => c.pos = p ∧ c.WF hi ∧ Chain hi cs c.rpos r
end

/-- a terminal behaves at every position of the file: a node starts at the call position and lies within
    the file, an error is positioned between the call position and the end of the file (this is what C08
    proves of the built-in terminals) -/
def TermGood (cfg : Cfg) (t : Terminal) : Prop :=
  ∀ pos, InFile cfg.file pos →
    (∀ n, t.parse cfg.params cfg.file pos = .node n → n.pos = pos ∧ n.WF cfg.hi) ∧
    (∀ e, t.parse cfg.params cfg.file pos = .err e → pos ≤ e.pos ∧ e.pos ≤ cfg.hi)

/-- the grammar and every rule of the environment are in scope -/
structure Scope (cfg : Cfg) (g : G) : Prop where
  root : g.Core (TermGood cfg)
  env : ∀ g' ∈ cfg.env, g'.Core (TermGood cfg)

end PV
