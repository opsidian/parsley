import ParsleyVerif.Props.C01S
#print axioms PV.c01_strat_low_exact
#print axioms PV.c01_strat_low_agree
#print axioms PV.c01_strat_reuse_complete
#print axioms PV.c01_strat_cache
#print axioms PV.c01_strat_cache_entry
#print axioms PV.c01_strat_curtailed_covers
#print axioms PV.c01_strat_curtailed_covers_trees
#print axioms PV.c01_complete_strat_ends
#print axioms PV.c01_complete_strat_ends_from
#print axioms PV.c01_complete_strat_trees
#print axioms PV.c01_sound_strat
#print axioms PV.c01_strat_ends_exact
#print axioms PV.c01_strat_trees_exact
#print axioms PV.c01_strat_refines
#print axioms PV.Strat.scope_of_stratOK
#print axioms PV.Strat.low_derives
#print axioms PV.Strat.run_low
#print axioms PV.Strat.run_strat
#print axioms PV.Strat.termS_rune
#print axioms PV.Strat.consT_rune
#print axioms PV.Strat.leafCons_of_cons
#print axioms PV.Strat.sx_cert
#print axioms PV.Strat.sx_scope
#print axioms PV.Strat.sx_run
#print axioms PV.Strat.sx_ends
#print axioms PV.Strat.sx_T1
#print axioms PV.Strat.sx_T4
#print axioms PV.Strat.sx_derives_T
#print axioms PV.Strat.sx_derives_sum
#print axioms PV.Strat.sx_acyclic
#print axioms PV.Strat.sx_trees
#print axioms PV.Strat.sx_not_prefix
#print axioms PV.Strat.sx_prefix_monotone
#print axioms PV.Strat.sx_p_cert
#print axioms PV.Strat.sx_p_scope
#print axioms PV.Strat.sx_p_ends
#print axioms PV.Strat.sx_bad_fails
#print axioms PV.c01_strat_sentence_complete
#print axioms PV.c01_strat_sentence_complete_parse
#print axioms PV.Strat.sentence_complete_strat
#print axioms PV.Strat.sx_sentence
#print axioms PV.Cut.covers_ends
#print axioms PV.Cut.covers_trees
