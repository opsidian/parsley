import ParsleyVerif.Props.C05V
#print axioms PV.c05_derivation
#print axioms PV.c05_derivation_curtailed
#print axioms PV.c05_unambiguous
#print axioms PV.c05_cut
#print axioms PV.c05_returned_exact
#print axioms PV.c05_parse_full_partial
#print axioms PV.c05_terminates
#print axioms PV.c05_parse_full
#print axioms PV.c05_evaluate_of_parse
#print axioms PV.c05_value_full_partial
#print axioms PV.c05_value_full
#print axioms PV.c05_div_zero_at
#print axioms PV.c05_derives_not_unique
#print axioms PV.c05_input_of_text
#print axioms PV.c05_value_text
#print axioms PV.c05_parse_text
#print axioms PV.c05_nv_value1
#print axioms PV.c05_nv_value2
#print axioms PV.A05.T_unique
#print axioms PV.A05.T.cut
#print axioms PV.A05.run_completeT
#print axioms PV.A05.run_soundT
#print axioms PV.A05.sentence_completeT
#print axioms PV.A05.sentence_res_one
#print axioms PV.A05.T.dc
#print axioms PV.A05.T_of_cst
