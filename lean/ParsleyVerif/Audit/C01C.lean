import ParsleyVerif.Props.C01C
#print axioms PV.c01_reuse_complete
#print axioms PV.c01_cache_complete
#print axioms PV.c01_cache_entry
#print axioms PV.c01_curtailed_covers
#print axioms PV.c01_curtailed_covers_trees
#print axioms PV.c01_curtailed_sound
#print axioms PV.c01_complete_ends
#print axioms PV.c01_complete_trees
#print axioms PV.c01_ends_exact
#print axioms PV.c01_trees_exact
#print axioms PV.termGood_rune
#print axioms PV.fragLocal_rune
#print axioms PV.nv_scope
#print axioms PV.nv_ends
#print axioms PV.nv_acyclic
#print axioms PV.nv_trees
#print axioms PV.hid_scope
#print axioms PV.hid_ends
#print axioms PV.cyc_scope
#print axioms PV.cyc_eval
#print axioms PV.cyc_ends
#print axioms PV.run_complete
#print axioms PV.seqParse_complete
#print axioms PV.cut
#print axioms PV.c01_sentence_complete
#print axioms PV.c01_sentence_complete_parse
#print axioms PV.hid_acyclic
#print axioms PV.hid_trees
#print axioms PV.nv_sentence
#print axioms PV.sentence_complete
