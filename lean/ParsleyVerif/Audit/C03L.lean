import ParsleyVerif.Props.C03L
#print axioms PV.c03l_lrf_wf
#print axioms PV.c03l_lrf_decidable
#print axioms PV.c03_lrf_no_reentry
#print axioms PV.c03_lrf_no_reentry_from
#print axioms PV.c03l_inFile_start
#print axioms PV.c03_lrf_no_reentry_parse
#print axioms PV.c03_transparent_lrf
#print axioms PV.c03_transparent_parse_lrf
#print axioms PV.c03_once_lrf
#print axioms PV.c03_completed_is_cached_lrf
#print axioms PV.c03_no_curtail_lrf
#print axioms PV.c03_lrf_auto
#print axioms PV.LRF.run_lrf
#print axioms PV.LRF.seqParse_lrf
#print axioms PV.LRF.run_noBudget
#print axioms PV.LRF.envLRF_of_lrf
#print axioms PV.LRF.lrfLocal_all
#print axioms PV.LRF.lpre_initial
#print axioms PV.C03LNV.lrf_json
#print axioms PV.C03LNV.lrf_expr
#print axioms PV.C03LNV.lrf_sentence
#print axioms PV.C03LNV.lrf_shared
#print axioms PV.C03LNV.lrfAuto_ok
#print axioms PV.C03LNV.lrf_direct_fails
#print axioms PV.C03LNV.lrfAuto_bad
#print axioms PV.C03LNV.c03l_rank_alone_insufficient
#print axioms PV.C03LNV.expr_clean
#print axioms PV.C03LNV.lrf_rootXY
#print axioms PV.C03LNV.json_run
#print axioms PV.C03LNV.shared_transparent
