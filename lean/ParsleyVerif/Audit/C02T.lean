import ParsleyVerif.Props.C02T
#print axioms PV.c02_terminates
#print axioms PV.c02_terminates_parse
#print axioms PV.c02_terminates_auto
#print axioms PV.c02t_initial
#print axioms PV.c02t_preserved
#print axioms PV.c02_mayBeEmpty_sound
#print axioms PV.c02_wf_decidable
#print axioms PV.c02_wf_facts
#print axioms PV.EnvOK_of_wf
#print axioms PV.halts_all
#print axioms PV.run_cons
#print axioms PV.anyLoop_total
#print axioms PV.choiceLoop_total
#print axioms PV.seqParse_total
#print axioms PV.termOK_rune
#print axioms PV.termOK_op
#print axioms PV.C02NV.wf_direct
#print axioms PV.C02NV.wf_hidden
#print axioms PV.C02NV.wf_mutual
#print axioms PV.C02NV.wf_json
#print axioms PV.C02NV.wf_sentence
#print axioms PV.C02NV.wfAuto_ok
#print axioms PV.C02NV.wf_bad_fails
#print axioms PV.C02NV.wf_manyOpt_fails
#print axioms PV.C02NV.wfAuto_bad
#print axioms PV.C02NV.bad_no_answer
#print axioms PV.C02NV.hidden_answers
#print axioms PV.C02NV.hidden_terminates
#print axioms PV.C02NV.json_terminates
