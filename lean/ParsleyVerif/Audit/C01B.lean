import ParsleyVerif.Props.C01B
#print axioms PV.c01_bigstep
#print axioms PV.c01_bigstep_from
#print axioms PV.c01_bigstep_memofree
#print axioms PV.big_functional
#print axioms PV.c01_bigstep_exact
#print axioms PV.c01_bigstep_agree
#print axioms PV.c01_big_derives
#print axioms PV.c01_any_two
#print axioms PV.c01_choice_first_match
#print axioms PV.c01_choice_first_match_intro
#print axioms PV.c01_choice_none
#print axioms PV.c01_seq_longest
#print axioms PV.c01_many_longest
#print axioms PV.c01_seqtry_rule
#print axioms PV.c01_seqfirstorall_rule
#print axioms PV.c01_seqof_full
#print axioms PV.c01_sepby_odd
#print axioms PV.c01_name_drops_optional
#print axioms PV.big_fun
#print axioms PV.big_any_fun
#print axioms PV.big_choice_fun
#print axioms PV.big_seq_fun
#print axioms PV.big_alts_fun
#print axioms PV.Big.run_big
#print axioms PV.Big.big_derives
#print axioms PV.Big.seq_emitted
#print axioms PV.Big.seqfam_maximal
#print axioms PV.Big.choice_inv
#print axioms PV.Big.choice_intro
#print axioms PV.Big.of_eval
#print axioms PV.Big.ex_choice_first
#print axioms PV.Big.ex_choice_first_by_rules
#print axioms PV.Big.ex_any_both
#print axioms PV.Big.ex_choice_order
#print axioms PV.Big.ex_many_longest
#print axioms PV.Big.ex_many_only
#print axioms PV.Big.ex_sepBy
#print axioms PV.Big.ex_sepBy_dangling
#print axioms PV.Big.ex_firstOrAll_all
#print axioms PV.Big.ex_firstOrAll_first
#print axioms PV.Big.ex_firstOrAll_neither
#print axioms PV.Big.ex_seqTry
#print axioms PV.Big.ex_memo_hit
#print axioms PV.Big.ex_leftrec_no_meaning
