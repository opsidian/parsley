import ParsleyVerif.Props.C01W
#print axioms PV.c01w_ltrim_meaning
#print axioms PV.c01w_rtrim_meaning
#print axioms PV.c01w_moved_spec
#print axioms PV.c01w_refines
#print axioms PV.c01w_sound
#print axioms PV.c01w_cache_sound
#print axioms PV.c01w_reuse_complete
#print axioms PV.c01w_cache_complete
#print axioms PV.c01w_curtailed_covers
#print axioms PV.c01w_curtailed_covers_trees
#print axioms PV.c01w_complete_ends
#print axioms PV.c01w_complete_trees
#print axioms PV.c01w_ends_exact
#print axioms PV.c01w_trees_exact
#print axioms PV.c01w_sentence_complete
#print axioms PV.c01w_sentence_complete_parse
#print axioms PV.c01w_F1_loses
#print axioms PV.c01w_F1_accepts
#print axioms PV.c01w_F2_accepts
#print axioms PV.c01w_rtrim_optional_unmoved
#print axioms PV.C1T.run_completeW
#print axioms PV.C1T.run_soundW
#print axioms PV.C1T.skip_idem
#print axioms PV.C1T.sentence_completeW
#print axioms PV.C1TNV.c1t_termGood_integer
#print axioms PV.C1TNV.c1t_fragLocalW_integer
#print axioms PV.C1TNV.c1t_scope_trim_term
#print axioms PV.C1TNV.f1Accepts_ends
#print axioms PV.C1TNV.lt_scope
#print axioms PV.C1TNV.lt_ends
#print axioms PV.C1TNV.lt_derives
#print axioms PV.C1TNV.lt_acyclic
#print axioms PV.C1TNV.lt_trees
#print axioms PV.C1TNV.lt_sentence
#print axioms PV.C1TNV.arith_scopeW
#print axioms PV.C1TNV.ar_derives
#print axioms PV.C1TNV.ar_ends
#print axioms PV.C1TNV.ar_sentence
#print axioms PV.C1T.derives_of_derivesW
#print axioms PV.Covers.complete_ends
#print axioms PV.Cut.dn_pos

/-! ### TESTS (evaluations of the model, not proofs): what the model answers on the non-vacuity inputs -/
open PV PV.Text PV.C1T PV.C1TNV

-- TEST lt: `P → LeftTrim(P) 'b' | 'a'` on "  abb": the two trees ((a b) b) and (a b), ends 6 and 5
#guard (run ltCfg 60 (.ref 0) [] 1 {}).map (fun r => r.1.res.alts.map Node.rpos) == some [6, 5]
#guard (parse ltCfg 60 (G.sentence (.ref 0))).map (fun p => (p.err.isNone, p.res.alts.map Node.rpos)) == some (true, [6])
-- TEST arith: "1 + 2 " — the tree `1 + 2` (end 7, past the trailing blank) and the prefix `1` (end 3)
#guard (run arCfg 200 (.ref 0) [] 1 {}).map (fun r => r.1.res.alts.map Node.rpos) == some [7, 3]
#guard (parse arCfg 200 Garith.root).map (fun p => (p.err.isNone, p.res.alts.map Node.rpos)) == some (true, [7])
#eval (run arCfg 200 (.ref 0) [] 1 {}).map (fun r => r.1.res.alts.head?)
-- TEST arith, more blanks and both operator levels: " 1 +  2 * ( 3 - 4 ) "
def arCfg2 : Cfg := c1tCfg Garith.env (" 1 +  2 * ( 3 - 4 ) ".toUTF8.toList.map (·.toNat))
#guard (parse arCfg2 400 Garith.root).map (fun p => (p.err.isNone, p.res.alts.map Node.rpos)) == some (true, [21])
-- TEST slack: `P → P 'b' | LeftTrim(P) | ε` on " b": all three ends are found (the derivation of end 3 enters `P` at 2
-- with counter 2 = remaining(2) + 1; with the `+ 1` removed from combinator/memoize.go the Go library loses it)
def slackBody : G := .any [.seq .seqOf [.ref 0, c1tB] {}, .ltrim (.ref 0) .spacesNl, .empty]
def slackCfg : Cfg := c1tCfg [.memo 0 slackBody] [32, 98]
#guard (run slackCfg 80 (.ref 0) [] 1 {}).map (fun r => (r.1.res.alts.map Node.rpos).eraseDups) == some [3, 2, 1]
-- TEST findings F1 / F2 (the model agrees with the Go replay)
#guard (run f1Cfg 20 f1Loses [] 1 {}).map (fun r => r.1.res.alts.length) == some 0
#guard (run f1Cfg 20 f1Accepts [] 1 {}).map (fun r => r.1.res.alts.map Node.rpos) == some [4, 2]
#guard (run f2Cfg 20 f2G [] 1 {}).map (fun r => r.1.res.alts.map Node.rpos) == some [2]
