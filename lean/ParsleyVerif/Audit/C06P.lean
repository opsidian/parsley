import ParsleyVerif.Props.C06P
#print axioms PV.Prod.run_prod
#print axioms PV.Prod.run_blame
#print axioms PV.Prod.run_low
#print axioms PV.Prod.seqParse_prod
#print axioms PV.Prod.seqFirst_prod
#print axioms PV.Prod.seqParse_blame
#print axioms PV.Prod.okShape
#print axioms PV.Prod.prShape
#print axioms PV.Prod.ok_memoPr
#print axioms PV.Prod.seqParse_est
#print axioms PV.c06_upper_productive_run
#print axioms PV.c06_upper_productive
#print axioms PV.c06_upper_productive_auto
#print axioms PV.c06_lower_productive_run
#print axioms PV.c06_lower_productive
#print axioms PV.c06_exact_productive
#print axioms PV.c06_exact_productive_auto
#print axioms PV.c06_d8_not_productive
#print axioms PV.c06_d8_not_productive_auto
#print axioms PV.c06_d12_cfg_productive_not_enough
#print axioms PV.c06_d12_not_productive
#print axioms PV.c06_d12_not_productive_auto
#print axioms PV.Prod.nv6n_productive
#print axioms PV.Prod.arithN_productive
#print axioms PV.Prod.pf_productive
-- what the model reports for the named arithmetic grammar on "1+*1" (not kernel-evaluable, see Props/C06P.lean):
-- the error, the furthest failing terminal, the positions at which a memoized parser was curtailed
#eval (PV.parse PV.Prod.arithNCfg 200 (PV.G.sentence (.ref 0))).map
  (fun r => (r.err, PV.maxTermFail r.st.log, PV.curtailPositions r.st.log))
